import Proofs.C15Paging
import Proofs.C15Hist
import Proofs.C15Cancel
import Proofs.C15Retry
import Proofs.C15Walk
import Model.PagingFirst
/-!
# C15 — paged iteration yields every row exactly once, in order, and then stops

Model: `Model/Paging.lean` — conn.go executeQuery (request built from the Query, the rows / error /
UNPREPARED answers, the next-page query = copy with the received paging state), session.go
Scan/Scanner/MapScan/SliceMap page switching, the PageState manual-paging loop; the server is a script
(the k-th QUERY/EXECUTE is answered with the k-th reply; what each request carries is recorded).
Every theorem holds for every prefetch-position function `pp` (the float expression only decides WHEN
the one fetch of a page happens), for a cached or uncached prepared statement, prepared or unprepared,
skip-metadata or not, every page size.

Full property, request side:  ∀ script, the requests are `Spec.reqs` — each follow-up request carries
EXACTLY the paging state of the page before.  This does NOT hold on the unchanged code for a page
whose paging state is present but empty (`has_more_pages` set, `[bytes]` of length 0): conn.go sends a
paging state only `if len(qry.pageState) > 0`, so the follow-up request carries none (a server that
identifies pages by state would serve page 0 again: rows repeat for ever). Hence `C15_requests_partial`
with the hypothesis `NoEmptyState`, and the counterexample `C15_cex_empty_state` (KF-C15-1).
The row side (`C15_session_rows`) needs no exclusion.
-/
namespace C15
open Paging

/-- **Model = specification, rows and error, for every script** (any number of pages, EMPTY pages in
    any position, empty paging states, a failure or UNPREPARED anywhere): the application receives the
    pages' rows in order, each once, up to the first failure or the first page without has_more_pages;
    the final error is that failure (not a normal end). -/
theorem C15_session_rows (pp : Nat → Nat) (script : List Reply) (cached : Bool) (q : Qry)
    (hq : q.disableAutoPage = false) :
    (run pp script cached q).rows = Spec.rows script ∧ (run pp script cached q).err = Spec.err script :=
  ⟨(run_spec pp script cached q hq).1, (run_spec pp script cached q hq).2.1⟩

/-- **Model = specification, requests** (partial: no present-but-empty paging state in the script):
    the server receives exactly `Spec.reqs`: an optional PREPARE, the first request with the caller's
    state, then per page with has_more_pages ONE request that differs from the first only in carrying
    exactly that page's paging state (same statement/values/options `ident`, same opcode, same
    skip-metadata flag, same page size); the same request again after UNPREPARED; nothing after a
    failure or after the page that says it is last. -/
theorem C15_requests_partial (pp : Nat → Nat) (script : List Reply) (cached : Bool) (q : Qry)
    (hq : q.disableAutoPage = false) (hne : NoEmptyState script) :
    (run pp script cached q).reqs = Spec.reqs (template q) q.prepared script (!cached) (firstState q) :=
  (run_spec pp script cached q hq).2.2 hne

/-- counterexample to the unrestricted request statement (KF-C15-1): page 0 = rows [1] with
    has_more_pages and an EMPTY paging state, page 1 = rows [2], last. The second request carries NO
    paging state although page 0 carried one (the empty string). Replay: `sessx v4 scan 0.25 10 q . 1:-;2:.` -/
theorem C15_cex_empty_state :
    let q : Qry := { ident := 0, prepared := false, skipMeta := false, pageSize := 10, pageState := [], disableAutoPage := false }
    let script := [Reply.page [1] (some []), Reply.page [2] none]
    (run (fun _ => 0) script false q).reqs = [template q none, template q none] ∧
    Spec.reqs (template q) q.prepared script true (firstState q) = [template q none, template q (some [])] ∧
    (run (fun _ => 0) script false q).reqs ≠ Spec.reqs (template q) q.prepared script true (firstState q) := by
  decide

/-- **Rows and requests, complete result.** For every list of pages with has_more_pages (any number,
    any of them EMPTY — first, middle — any paging states) followed by a last page (possibly empty):
    the rows delivered are the concatenation of all pages in order, each once, no error; and if no
    state is empty, request i+1 carries exactly the paging state of page i, there is exactly one
    request per page and none after the last page. -/
theorem C15_rows_requests (pp : Nat → Nat) (pages : List (List Int × Bytes)) (last : List Int) (tail : List Reply)
    (cached : Bool) (q : Qry) (hq : q.disableAutoPage = false) :
    let o := run pp (morePages pages ++ .page last none :: tail) cached q
    o.rows = (pages.map (·.1)).flatten ++ last ∧
    o.err = none ∧
    ((∀ p ∈ pages, p.2 ≠ []) → NoEmptyState tail →
      o.reqs = prep cached q ++ (firstState q :: pages.map (fun p => some p.2)).map (template q) ∧
      (o.reqs.filter Req.isExec).length = pages.length + 1) := by
  have h := run_more pp pages (.page last none) tail cached q hq (Or.inl ⟨last, rfl⟩)
  refine ⟨h.1, h.2.1, fun hp ht => ?_⟩
  have hreq := h.2.2 hp ht
  refine ⟨hreq, ?_⟩
  -- every request but the PREPARE is a QUERY/EXECUTE
  rw [hreq, Hist.filter_prep, List.filter_eq_self.2, List.length_map, List.length_cons, List.length_map]
  intro r hr
  obtain ⟨a, _, rfl⟩ := List.mem_map.1 hr
  rfl

/-- non-vacuity, with an EMPTY FIRST and an EMPTY MIDDLE page and an empty last page -/
example :
    let q : Qry := { ident := 7, prepared := true, skipMeta := true, pageSize := 2, pageState := [], disableAutoPage := false }
    let o := run (fun n => n / 2) [.page [] (some [9]), .page [1, 2] (some [0xaa]), .page [] (some [0xbb, 0]), .page [3] (some [0xcc]), .page [] none] false q
    o.rows = [1, 2, 3] ∧ o.err = none ∧
    o.reqs = [.prepare, template q none, template q (some [9]), template q (some [0xaa]), template q (some [0xbb, 0]), template q (some [0xcc])] := by
  decide

/-- **A failed fetch surfaces.** If the request for page j (after j pages with has_more_pages, any of
    them empty) fails — server error, connection closed, timeout, cancelled context — the consumer gets
    the rows of the pages before it, in order, and then THAT error (not a normal end); nothing is
    requested after the failure. -/
theorem C15_error_surfaces (pp : Nat → Nat) (pages : List (List Int × Bytes)) (f : Fail) (tail : List Reply)
    (cached : Bool) (q : Qry) (hq : q.disableAutoPage = false) :
    let o := run pp (morePages pages ++ .fail f :: tail) cached q
    o.rows = (pages.map (·.1)).flatten ∧
    o.err = some f ∧
    ((∀ p ∈ pages, p.2 ≠ []) → NoEmptyState tail →
      o.reqs = prep cached q ++ (firstState q :: pages.map (fun p => some p.2)).map (template q)) := by
  have h := run_more pp pages (.fail f) tail cached q hq (Or.inr ⟨f, rfl⟩)
  exact ⟨h.1.trans (List.append_nil _), h.2.1, h.2.2⟩

example :
    let q : Qry := { ident := 7, prepared := false, skipMeta := false, pageSize := 0, pageState := [], disableAutoPage := false }
    let o := run (fun n => n) [.page [1] (some [1]), .page [] (some [2]), .fail .timeout, .page [3] none] false q
    o.rows = [1] ∧ o.err = some .timeout ∧ o.reqs = [template q none, template q (some [1]), template q (some [2])] := by
  decide

/-- **Manual paging, one page.** With auto paging disabled (caller-supplied page state), whatever
    follows in the script: exactly one request, carrying the caller's state; the rows of that one
    page; no nextIter; the page's own state is exposed (`Iter.PageState`). A failure is the error. -/
theorem C15_manual (pp : Nat → Nat) (rest : List Reply) (cached : Bool) (q : Qry) (hq : q.disableAutoPage = true) :
    (∀ rows st,
      run pp (.page rows st :: rest) cached q = { rows := rows, reqs := prep cached q ++ [request q], err := none } ∧
      (pageIter pp q rows st).next = none ∧ (pageIter pp q rows st).pagingState = st.getD []) ∧
    (∀ f, run pp (.fail f :: rest) cached q = { rows := [], reqs := prep cached q ++ [request q], err := some f }) ∧
    request q = template q (firstState q) := by
  refine ⟨?_, ?_, request_eq q⟩
  · intro rows st
    cases st <;> simp [run, pageIter, hq]
  · intro f; simp [run, errIter]

/-- **Manual paging loop** (one Iter per page, `PageState(iter.PageState())` until empty): for every
    script without a present-but-empty state it delivers exactly what automatic paging delivers —
    all rows once in order, the failure as error — with exactly the specified requests. -/
theorem C15_manual_loop (pp : Nat → Nat) (script : List Reply) (cached : Bool) (q : Qry) (hne : NoEmptyState script) :
    (manual pp script cached q).rows = Spec.rows script ∧ (manual pp script cached q).err = Spec.err script ∧
    (manual pp script cached q).reqs = Spec.reqs (template q) q.prepared script (!cached) (firstState q) := by
  rw [manual_eq_run pp script cached q hne]
  have h := run_spec pp script cached { q with disableAutoPage := false } rfl
  exact ⟨h.1, h.2.1, h.2.2 hne⟩

example :
    let q : Qry := { ident := 1, prepared := true, skipMeta := false, pageSize := 5, pageState := [0xcc, 0xdd], disableAutoPage := true }
    let o := manual (fun _ => 0) [.page [1, 2] (some [0xaa]), .page [] (some [0xbb]), .page [3] none] true q
    o.rows = [1, 2, 3] ∧ o.err = none ∧ o.reqs = [template q (some [0xcc, 0xdd]), template q (some [0xaa]), template q (some [0xbb])] := by
  decide

/-- the prefetch threshold is at least 1 for every value of the float expression, so the
    asynchronous fetch never starts before the first row of a page was consumed -/
theorem C15_prefetch_pos (pp : Nat → Nat) (n : Nat) : 1 ≤ clampPos pp n := by
  unfold clampPos; split <;> omega

/-- within a page, Scan delivers the row at `pos` and advances by one; it never skips or repeats -/
theorem C15_scan_row (it it' : Iter) (r : Int) (h : scanRow it = some (r, it')) :
    it.rows[it.pos]? = some r ∧ it'.pos = it.pos + 1 ∧ it'.rows = it.rows ∧ it.err = none := by
  obtain ⟨he, hr, rfl⟩ := scanRow_some h
  exact ⟨hr, rfl, rfl, he⟩

/-! ## Histories on one Query object (`Model/PagingHist.lean`): object reuse, decorations of the query and
    of its context, interleaved iterators, the asynchronous prefetch as a scheduler step

Full property: ∀ history of setter calls (Bind, PageSize, Prefetch, PageState, NoSkipMetadata, WithContext,
Idempotent, SetSpeculativeExecutionPolicy, every verbatim option, Release + new Query), Iter() calls, Scan
calls on any iterator in any interleaving, prefetch completions at any moment: every iterator delivers
exactly the rows of ITS snapshot's result, requests its pages with ITS values/options and states, and ends
with the failure of its own fetch — whatever happened to the Query object after its Iter() call. This holds
on the unchanged code (no `_partial` needed): every setter replaces a field of the object, the next-page
query is a copy taken when the page arrived. (A caller that mutates IN PLACE the slice it passed as
`values...` or the map it passed to CustomPayload changes what later pages send: the copy is shallow. That
is outside the model: values and options are immutable numbers here.) -/
open Paging.Hist in
/-- **An iterator depends only on its snapshot.** For every history without cancellation, from a world
    with no iterators: an iterator that has ended (Scan returned false) has delivered exactly the rows, has
    sent exactly the QUERY/EXECUTE requests and has exactly the final error of `run` on the Query as it was
    at ITS Iter() call (`snap`) against the node's answers to that snapshot (`script`) — none of which
    mentions the rest of the history: later Bind / PageSize / PageState / Consistency / Prefetch /
    WithContext / Release, other iterators started from the same object and consumed in any interleaving,
    and the moments at which prefetches complete are all irrelevant. -/
theorem C15_iter_independent_of_rebind (srv : Nat → Bytes → List Reply) (ppOf : Int → Nat → Nat)
    (w0 : World) (h : List Step) (h0 : w0.its = []) (hc : w0.env.cancelled = []) (hnc : ∀ s ∈ h, noCancel s) :
    ∀ it ∈ (exec srv ppOf w0 h).its, finished it →
      it.out = (run (ppOf it.snap.pf) it.script false it.snap).rows ∧
      it.cur.err = (run (ppOf it.snap.pf) it.script false it.snap).err ∧
      it.reqs.filter Req.isExec = (run (ppOf it.snap.pf) it.script false it.snap).reqs.filter Req.isExec := by
  intro it hit hfin
  exact finished_result ppOf it _ (exec_tot srv ppOf h w0 hc (by intro y hy; rw [h0] at hy; cases hy) hnc it hit) hfin

open Paging.Hist in
/-- the same against the independent specification: with automatic paging the rows are the pages of the
    snapshot's script in order, each once, up to its first failure, the error is that failure, and (no
    present-but-empty state, KF-C15-1) the requests are the first one plus one per page carrying exactly
    that page's state and otherwise the snapshot's statement, values, options and page size -/
theorem C15_history_rows_spec (srv : Nat → Bytes → List Reply) (ppOf : Int → Nat → Nat)
    (w0 : World) (h : List Step) (h0 : w0.its = []) (hc : w0.env.cancelled = []) (hnc : ∀ s ∈ h, noCancel s) :
    ∀ it ∈ (exec srv ppOf w0 h).its, finished it → it.snap.disableAutoPage = false →
      it.out = Spec.rows it.script ∧ it.cur.err = Spec.err it.script ∧
      (NoEmptyState it.script → it.reqs.filter Req.isExec =
        (Spec.reqs (template it.snap) it.snap.prepared it.script true (firstState it.snap)).filter Req.isExec) := by
  intro it hit hfin hq
  have h1 := C15_iter_independent_of_rebind srv ppOf w0 h h0 hc hnc it hit hfin
  have h2 := run_spec (ppOf it.snap.pf) it.script false it.snap hq
  refine ⟨h1.1.trans h2.1, h1.2.1.trans h2.2.1, fun hne => ?_⟩
  rw [h1.2.2, h2.2.2 hne]
  rfl

open Paging.Hist in
/-- **Where the snapshot comes from, and that nothing touches it.** Iter() appends an iterator whose
    snapshot is the object as it is at that moment (with the context of `q.WithContext(c).Iter()`) and whose
    script is the node's answer list for exactly that snapshot; every other step leaves the number of
    iterators unchanged; no step ever changes the snapshot or the script of an existing iterator. -/
theorem C15_snapshot (srv : Nat → Bytes → List Reply) (ppOf : Int → Nat → Nat) (w : World) (s : Step) :
    (∀ c, s = .iter c → ∃ it : It, (step srv ppOf w s).its = w.its ++ [it] ∧ it.snap = iterQry w.obj c ∧
        it.script = srv it.snap.ident it.snap.pageState ∧ it.out = []) ∧
    ((∀ c, s ≠ .iter c) → (step srv ppOf w s).its.length = w.its.length) ∧
    (∀ (i : Nat) (it : It), w.its[i]? = some it →
      ∃ it' : It, (step srv ppOf w s).its[i]? = some it' ∧ it'.snap = it.snap ∧ it'.script = it.script) := by
  refine ⟨?_, ?_, ?_⟩
  · intro c hs; subst hs
    exact ⟨_, rfl, rfl, rfl, rfl⟩
  · intro hs
    rcases step_cases srv ppOf w s with ⟨c, hc⟩ | ⟨_, _, _, _, _, h, _⟩ | ⟨h, _⟩
    · exact absurd hc (hs c)
    · rw [h, List.length_set]
    · rw [h]
  · intro i it hi
    rcases step_cases srv ppOf w s with ⟨c, rfl⟩ | ⟨j, itj, r, hr, hj, h, _⟩ | ⟨h, _⟩
    · exact ⟨it, getElem?_append_of _ hi, rfl, rfl⟩
    · rw [h]
      by_cases hij : j = i
      · subst hij
        rw [hi] at hj; cases hj
        refine ⟨r.1, getElem?_set_of _ hi, ?_⟩
        rcases hr with ⟨n, _, rfl⟩ | ⟨_, rfl⟩
        · exact (scanN_pres (pres_snap ppOf it.snap it.script) n w.env it trivial ⟨rfl, rfl⟩).1
        · exact (force_frame ppOf w.env it).2.2
      · exact ⟨it, by rw [List.getElem?_set_ne hij]; exact hi, rfl, rfl⟩
    · rw [h]; exact ⟨it, hi, rfl, rfl⟩

open Paging.Hist in
/-- **Frame.** A step that is neither a Scan on iterator `i` nor the completion of ITS prefetch — every
    setter, Bind, Release, Iter(), Scan calls and prefetches of OTHER iterators, even a cancellation —
    leaves iterator `i` exactly as it was (current page, position, pending next-page query, rows delivered,
    requests sent). -/
theorem C15_history_frame (srv : Nat → Bytes → List Reply) (ppOf : Int → Nat → Nat) (w : World) (s : Step) (i : Nat)
    (hi : i < w.its.length) (hs : (∀ n, s ≠ .scan i n) ∧ s ≠ .prefetched i) :
    (step srv ppOf w s).its[i]? = w.its[i]? := by
  rcases step_cases srv ppOf w s with ⟨c, rfl⟩ | ⟨j, _, _, hj, _, h, _⟩ | ⟨h, _⟩
  · exact List.getElem?_append_left hi
  · have hij : j ≠ i := by
      rintro rfl
      rcases hj with ⟨n, hn, _⟩ | ⟨hp, _⟩
      · exact hs.1 n hn
      · exact hs.2 hp
    rw [h, List.getElem?_set_ne hij]
  · rw [h]

open Paging.Hist in
/-- **Both executor paths fetch the same.** Whether queryExecutor.executeQuery takes the plain path or the
    speculative one (idempotent query, Attempts() > 0: executions run with a cancellable CHILD of the
    query's context that is dead once executeQuery has returned), the fetch is: nothing sent and
    `context canceled` if the caller's context is done, otherwise conn.executeQuery of the unchanged query.
    And the next-page query of the page it returns is the executed query with ONLY the paging state
    replaced — in particular its context is the caller's, not the executor's child. -/
theorem C15_executor_paths_agree (ppOf : Int → Nat → Nat) (e : Env) (script : List Reply) (q : Qry) :
    (sessExec ppOf e script q).1 =
      (if callerDead e q.ctx then ⟨errIter .ctx, script, []⟩ else connExec (ppOf q.pf) script e.cached q) ∧
    (∀ n, (sessExec ppOf e script q).1.iter.next = some n → n.qry = { q with pageState := n.qry.pageState }) := by
  have hfetch := sessExec_fst ppOf e script q
  refine ⟨hfetch, ?_⟩
  rw [hfetch]
  cases hd : callerDead e q.ctx with
  | true => intro n hn; simp [errIter] at hn
  | false =>
    simp only [Bool.false_eq_true, if_false]
    exact connExec_next_copy (ppOf q.pf) script e.cached q

open Paging.Hist in
/-- **A cancellation between pages surfaces.** If the caller's context of the pending next-page query is
    cancelled before that page was fetched (no prefetch has happened), the one fetch of the next page sends
    nothing and yields `context canceled`; from there the iterator delivers the remaining rows of the
    current page and then ends with THAT error, not normally (`fut`), and no further request is sent; in
    particular when the current page is exhausted the next Scan returns false with the error set. -/
theorem C15_cancel_surfaces (ppOf : Int → Nat → Nat) (e : Env) (it : It) (n : NextIter)
    (he : it.cur.err = none) (hp : it.pre = none) (hn : it.cur.next = some n) (hd : callerDead e n.qry.ctx = true) :
    (force ppOf e it).1.pre = some (errIter .ctx) ∧ (force ppOf e it).1.reqs = it.reqs ∧
    (force ppOf e it).1.rest = it.rest ∧
    fut ppOf (force ppOf e it).1 = ⟨it.cur.rows.drop it.cur.pos, [], some .ctx⟩ ∧
    (it.cur.rows[it.cur.pos]? = none → ∀ k,
      (scanF ppOf (k + 2) e it).2.2 = false ∧ (scanF ppOf (k + 2) e it).1.cur.err = some .ctx ∧
      (scanF ppOf (k + 2) e it).1.out = it.out ∧ (scanF ppOf (k + 2) e it).1.reqs = it.reqs) := by
  have hx := (C15_executor_paths_agree ppOf e it.rest n.qry).1
  rw [hd] at hx
  simp only [if_true] at hx
  rw [force_eq ppOf e it n he hp hn, hx]
  refine ⟨rfl, by simp [fetched], rfl, ?_, ?_⟩
  · simp [fut, fetched, he, hn, futPage, errIter]
  · intro hrow k
    -- two rounds of Scan: the first finds no row, makes the one fetch (dead context: `hx`) and switches to the
    -- Iter holding `context canceled`; the second stops on that error
    simp [scanF, scanRow, fetched, he, hrow, hn, force_eq ppOf e it n he hp hn, hx, errIter]

open Paging.Hist in
/-- **A Scan that returns false has ended the iterator** (the recursion of Scan through page switches —
    empty pages, a prefetched page, failed fetches — always terminates within the model's fuel): after it,
    the iterator carries its error or has neither a row nor a next page left. This is the `finished` of
    `C15_iter_independent_of_rebind`: every drained iterator satisfies it. -/
theorem C15_scan_false_is_finished (ppOf : Int → Nat → Nat) (e : Env) (it : It)
    (h : (scanF ppOf (scanFuel it) e it).2.2 = false) : finished (scanF ppOf (scanFuel it) e it).1 :=
  scanF_fuel ppOf e it h

/-- non-vacuity: Bind(1).Iter(), one row consumed, Bind(2) + Idempotent + speculative policy on the SAME
    object, a second Iter() drained first, a prefetch of the first iterator, then the first drained: each
    iterator delivers the rows of its own key and asks for its page 2 with its own values and state -/
example :
    let srv : Nat → Bytes → List Reply := fun k st =>
      let sc : List Reply := [.page [(k : Int) * 100 + 1, (k : Int) * 100 + 2] (some [UInt8.ofNat k, 1]), .page [(k : Int) * 100 + 3] none]
      if st = [] then sc else sc.drop 1
    let q0 : Qry := { ident := 1, prepared := true, skipMeta := true, pageSize := 2, pageState := [], disableAutoPage := false }
    let w0 : Hist.World := { obj := q0, its := [], env := { cancelled := [], execs := 0, cached := false } }
    let w := Hist.exec srv (fun _ n => n) w0
      [.iter none, .scan 0 1, .bind 2, .idem true, .spec 1, .iter none, .scan 1 9, .prefetched 0, .scan 0 9]
    w.its.map (·.out) = [[101, 102, 103], [201, 202, 203]] ∧ w.its.map (·.cur.err) = [none, none] ∧
    w.its.map (·.reqs) = [[.prepare, .exec 1 true true none (some 2), .exec 1 true true (some [1, 1]) (some 2)],
                          [.exec 2 true true none (some 2), .exec 2 true true (some [2, 1]) (some 2)]] ∧
    w.env.execs = 2 := by
  decide

/-- non-vacuity of the cancellation statement: context 7 is cancelled after the first page arrived -/
example :
    let srv : Nat → Bytes → List Reply := fun _ _ => [.page [1, 2] (some [9]), .page [3] none]
    let q0 : Qry := { ident := 1, prepared := false, skipMeta := false, pageSize := 0, pageState := [], disableAutoPage := false, ctx := some 7 }
    let w0 : Hist.World := { obj := q0, its := [], env := { cancelled := [], execs := 0, cached := false } }
    let w := Hist.exec srv (fun _ n => n) w0 [.iter none, .scan 0 1, .cancel 7, .scan 0 9]
    w.its.map (·.out) = [[1, 2]] ∧ w.its.map (·.cur.err) = [some .ctx] ∧
    w.its.map (·.reqs) = [[.exec 1 false false none none]] := by
  decide

/-! ## Retry tier: faults at page fetches × the executor's retry decisions (Model/PagingRetry.lean)

Full property: ∀ script (every fault at every fetch, every decision about every failed attempt, every
policy, 1..n hosts, every consumer incl. the manual loop): the rows delivered are a PREFIX of the full
result and EITHER all of it was delivered OR the consumer is told an error. On the unchanged code this
does NOT hold when a fetch is answered with a RESULT that is not rows (conn.go `case *resultVoidFrame`:
an Iter without rows, error and next page — the iteration ends normally): hypothesis `NoVoid`,
counterexample `C15_cex_wrong_kind` (proposed finding KF-C15-3); and, for the manual loop only, with a
present-but-empty paging state (KF-C15-1, the application's loop stops at an empty `PageState()`).
What `Ignore` means for a page fetch: policies.go documents it as "ignore error and return result"; a
failed page fetch has no result, and queryExecutor.do hands the Iter back WITH its error for Ignore exactly
as for Rethrow (`C15_ignore_is_rethrow`), so the unchanged code never ends silently under Ignore. -/
open PagingRetry in
/-- **No silent truncation, for all fault / decision sequences.** Whatever the script (failures of any
    kind before any page, UNPREPARED anywhere), whatever the policy does (any function of Attempts(), the
    failure and the scripted decision; or no policy), any number of hosts, automatic or manual paging: the
    rows the consumer receives are a prefix of the full result, and if it is told no error they ARE the
    full result. -/
theorem C15_no_silent_truncation (pol : Option Policy) (nodes : Nat) (q0 : Qry) (manualC : Bool)
    (script : List RReply) (cached : Bool) (att hosts : Nat) (q : Qry)
    (hv : NoVoid script) (he : manualC = false ∨ NoEmptyStateR script) :
    let o := runR pol nodes q0 manualC script cached att hosts q
    o.rows <+: full script ∧ (o.err = none → o.rows = full script) := by
  induction script generalizing cached att hosts q with
  | nil => exact ⟨List.prefix_refl _, fun _ => rfl⟩
  | cons r rest ih =>
    cases r with
    | void => exact False.elim hv
    | unprepared => exact ih false att hosts q hv he
    | page rows st =>
      cases st with
      | none => exact ⟨List.prefix_refl _, fun _ => rfl⟩
      | some s =>
        have hs : (manualC && s.isEmpty) = false := by
          rcases he with he | he
          · rw [he]; rfl
          · rw [List.isEmpty_eq_false_iff.2 he.1, Bool.and_false]
        have := ih true 0 (nodes - 1) { (if manualC then q0 else q) with pageState := s } hv (he.imp id (·.2))
        simp only [runR, full, hs]
        exact ⟨(List.prefix_append_right_inj rows).2 this.1, fun h => congrArg (rows ++ ·) (this.2 h)⟩
    | fail f d =>
      rcases C15Retry.runR_fail pol nodes q0 manualC f d rest cached att hosts q with
        ⟨f', a, heq⟩ | ⟨h', id, o, rfl, heq⟩ <;> rw [heq]
      · exact ⟨List.nil_prefix, fun h => nomatch h⟩
      · exact ih true (att + 1) h' _ hv he

open PagingRetry in
/-- **A retried fetch asks for the same page.** Every QUERY/EXECUTE the cluster receives carries the paging
    state of the last page served before it (none before the first page): a retry — same host or next host,
    with or without a changed consistency — repeats the state of the failed attempt, the fetch after a page
    carries that page's state (script without present-but-empty states, KF-C15-1). -/
theorem C15_retry_same_state (pol : Option Policy) (nodes : Nat) (q0 : Qry) (manualC : Bool)
    (script : List RReply) (cached : Bool) (att hosts : Nat) (q : Qry) (he : NoEmptyStateR script) :
    (runR pol nodes q0 manualC script cached att hosts q).reqs.filterMap reqState <+: stateSeq script (firstState q) := by
  induction script generalizing cached att hosts q with
  | nil => simp only [runR, stateSeq, C15Retry.states_here]; exact ⟨_, rfl⟩
  | cons r rest ih =>
    cases r with
    | void => simp only [runR, stateSeq, C15Retry.states_here]; exact ⟨_, rfl⟩
    | unprepared =>
      simp only [runR, stateSeq, C15Retry.states_here, List.cons_prefix_cons, true_and]
      exact ih false att hosts q he
    | page rows st =>
      cases st with
      | none => simp only [runR, stateSeq, C15Retry.states_here]; exact ⟨_, rfl⟩
      | some s =>
        have hne : s ≠ [] := he.1
        have hs : (manualC && s.isEmpty) = false := by rw [List.isEmpty_eq_false_iff.2 hne, Bool.and_false]
        have := ih true 0 (nodes - 1) { (if manualC then q0 else q) with pageState := s } he.2
        rw [firstState_next _ s hne] at this
        simp only [runR, stateSeq, hs, Bool.false_eq_true, ↓reduceIte, List.append_assoc, List.cons_append, List.nil_append,
          C15Retry.states_here, List.cons_prefix_cons, true_and]
        exact this
    | fail f d =>
      rcases C15Retry.runR_fail pol nodes q0 manualC f d rest cached att hosts q with ⟨f', a, heq⟩ | ⟨h', id, o, rfl, heq⟩ <;>
        simp only [heq, stateSeq, List.append_assoc, List.cons_append, List.nil_append, C15Retry.states_here]
      · exact ⟨_, rfl⟩
      · rw [List.cons_prefix_cons, ← C15Retry.firstState_setIdent q id]
        exact ⟨rfl, ih true (att + 1) h' _ he⟩

open PagingRetry in
/-- **Without a retry policy the retry model IS the base model** (so every theorem about `run` above speaks
    about it), and the policy is never asked. -/
theorem C15_retry_none_is_base (pp : Nat → Nat) (nodes : Nat) (q0 : Qry) (script : List Reply) (cached : Bool)
    (att hosts : Nat) (q : Qry) (hq : q.disableAutoPage = false) :
    let o := runR none nodes q0 false (script.map emb) cached att hosts q
    (⟨o.rows, o.reqs, o.err⟩ : Out) = run pp script cached q ∧ o.atts = [] := by
  induction script generalizing cached att hosts q with
  | nil => exact ⟨rfl, rfl⟩
  | cons r rest ih =>
    cases r with
    | unprepared =>
      have := ih false att hosts q hq
      exact ⟨by rw [run, ← this.1]; rfl, this.2⟩
    | fail f =>
      simp only [List.map_cons, emb, runR]
      split <;> exact ⟨rfl, rfl⟩
    | page rows st =>
      cases st with
      | none => exact ⟨rfl, rfl⟩
      | some s =>
        obtain ⟨h1, h2⟩ := ih true 0 (nodes - 1) { q with pageState := s } hq
        rw [hq] at h1
        refine ⟨?_, h2⟩
        simp only [run, pageIter, hq, ← h1, List.map_cons, emb, runR, Bool.false_and, Bool.false_eq_true, if_false,
          List.append_assoc, List.cons_append, List.nil_append, List.drop_zero]

open PagingRetry in
/-- **Ignore = Rethrow for a fetch.** Replacing every scripted Ignore by Rethrow changes nothing the
    application or the cluster can observe (any budget). -/
theorem C15_ignore_is_rethrow (budget : Option Nat) (nodes : Nat) (q0 : Qry) (manualC : Bool)
    (script : List RReply) (cached : Bool) (att hosts : Nat) (q : Qry) :
    runR (some (scripted budget)) nodes q0 manualC (script.map C15Retry.ignoreToRethrow) cached att hosts q =
    runR (some (scripted budget)) nodes q0 manualC script cached att hosts q := by
  induction script generalizing cached att hosts q with
  | nil => rfl
  | cons r rest ih =>
    refine Eq.trans ?_ (C15Retry.runR_congr _ nodes q0 manualC r _ _ ih cached att hosts q)
    show runR _ _ _ _ (C15Retry.ignoreToRethrow r :: rest.map C15Retry.ignoreToRethrow) cached att hosts q = _
    by_cases hr : ∃ f, r = .fail f .ignore
    · -- both decisions hand the Iter back with its error
      obtain ⟨f, rfl⟩ := hr
      simp only [C15Retry.ignoreToRethrow, runR]
      cases budget with
      | none => simp [scripted]
      | some k => by_cases hk : att + 1 ≤ k <;> simp [scripted, hk]
    · have : C15Retry.ignoreToRethrow r = r := by
        cases r with
        | fail f d => cases d <;> first | rfl | exact absurd ⟨f, rfl⟩ hr
        | _ => rfl
      rw [this]

open PagingRetry in
/-- **Counterexample (unchanged code), wrong kind**: page 1 has rows 1,2 and has_more_pages; the fetch of
    page 2 is answered with a RESULT of kind void; the consumer gets 1,2 and NO error although the result
    is 1,2,3. -/
theorem C15_cex_wrong_kind :
    let q : Qry := { ident := 1, prepared := false, skipMeta := false, pageSize := 0, pageState := [], disableAutoPage := false }
    let script : List RReply := [.page [1, 2] (some [1]), .void, .page [3] none]
    let o := runR none 1 q false script false 0 0 q
    o.rows = [1, 2] ∧ o.err = none ∧ full script = [1, 2, 3] ∧ ¬ (o.err = none → o.rows = full script) := by
  decide

/-- non-vacuity: 2 hosts; the fetch of page 2 fails with a read timeout (Retry), an overloaded error
    (RetryNextHost), then succeeds; the fetch of page 3 fails with a write timeout and the policy says
    Ignore: rows 1,2,3 and THAT error; the policy saw Attempts() = 1, 2 and then 1 again (fresh metrics per page) -/
example :
    let q : Qry := { ident := 1, prepared := false, skipMeta := false, pageSize := 0, pageState := [], disableAutoPage := false }
    let script : List PagingRetry.RReply := [.page [1, 2] (some [1]), .fail (.srv 0x1200) .retry, .fail (.srv 0x1001) .nextHost,
      .page [3] (some [2]), .fail (.srv 0x1100) .ignore, .page [4] none]
    let o := PagingRetry.runR (some (PagingRetry.scripted none)) 2 q false script false 0 1 q
    o.rows = [1, 2, 3] ∧ o.err = some (.srv 0x1100) ∧ o.atts = [1, 2, 1] ∧ PagingRetry.full script = [1, 2, 3, 4] ∧
    o.reqs.filterMap PagingRetry.reqState = [none, some [1], some [1], some [1], some [2]] := by
  decide

/-! ## Walking one iterator (`Model/PagingWalk.lean`): single Scan / MapScan / Scanner.Next calls, observers,
    abandonment, the asynchronous prefetch launched by Iter.Scan's trigger and running at any moment

Full property for an application that does NOT drain: at every moment of every walk the rows handed over so
far are an initial piece of the result, in order, each once; the requests sent so far — including the one a
prefetch may have sent ahead — are an initial piece of the requests of the full iteration (nothing is ever
requested that the full iteration would not request, in particular nothing after the last page); and
continuing to the end from there yields exactly the rest. Holds on the unchanged code (no `_partial`). -/

open Paging.Hist Paging.Walk in
/-- **Wherever the application stands, delivered ++ still to come = the result.** For every script, every
    query, every prefetch-position function and EVERY walk (strides of single calls through Iter.Scan/MapScan or
    Scanner.Next stopping at a false, observers, probes of the prefetch, the launched prefetch getting to run
    at any moment): the rows delivered so far followed by what a drain would still deliver, the QUERY/EXECUTE
    requests sent so far followed by those a drain would still send, and the error a drain would end with are
    those of the query run alone in one go (`run`, which is the specification by `C15_session_rows` /
    `C15_requests_partial`). -/
theorem C15_walk_total (ppOf : Int → Nat → Nat) (script : List Reply) (q : Qry) (steps : List Walk.Step) :
    tot ppOf (Walk.exec ppOf (Walk.start ppOf script q) steps).it = obs3 (run (ppOf q.pf) script false q) :=
  (exec_winv ppOf _ steps _ (start_winv ppOf script q)).1

open Paging.Hist Paging.Walk in
/-- **An abandoned iteration has received a prefix, and has asked for nothing the full iteration would not
    ask for.** With automatic paging, at every moment of every walk: the rows handed over are an initial
    segment of the specification's rows (in order, each once, nothing skipped), and the QUERY/EXECUTE requests
    the node has received or will receive from a prefetch already running are an initial segment of the
    requests of the complete iteration — so no page after the last one, and no page twice, is ever requested
    by an early stop, a Close, or the prefetch. -/
theorem C15_walk_abandon_prefix (ppOf : Int → Nat → Nat) (script : List Reply) (q : Qry) (steps : List Walk.Step)
    (hq : q.disableAutoPage = false) :
    (Walk.exec ppOf (Walk.start ppOf script q) steps).it.out <+: Spec.rows script ∧
    (Walk.exec ppOf (Walk.start ppOf script q) steps).it.reqs.filter Req.isExec <+:
      (run (ppOf q.pf) script false q).reqs.filter Req.isExec := by
  have hw := exec_winv ppOf _ steps _ (start_winv ppOf script q)
  refine ⟨(C15_session_rows (ppOf q.pf) script false q hq).1 ▸ hw.prefix,
    (fut ppOf (Walk.exec ppOf (Walk.start ppOf script q) steps).it).reqs.filter Req.isExec, ?_⟩
  rw [← List.filter_append]
  exact congrArg (·.2.1) hw.1

open Paging.Hist Paging.Walk in
/-- **The prefetch never runs ahead of its threshold, and never more than one page.** At every moment of every
    walk: if the page after the current one has been fetched before the consumer asked for it (`pre`), then
    Iter.Scan had launched the prefetch, and it did so only after the consumer had taken MORE than `next.pos`
    rows of the current page (`next.pos` = the clamped `int((1 - prefetch) * numRows)` ≥ 1, `C15_prefetch_pos`):
    in particular never before a row of the current page was taken. (The model
    state has room for one page ahead only; that the real code sends no second one is the tie's matter: op
    `walk` compares the node's request log at the moment of abandonment.) -/
theorem C15_walk_prefetch_threshold (ppOf : Int → Nat → Nat) (script : List Reply) (q : Qry) (steps : List Walk.Step) :
    let w := Walk.exec ppOf (Walk.start ppOf script q) steps
    w.it.pre.isSome → (w.async = .launched ∨ w.async = .awaited) ∧ ∃ n, w.it.cur.next = some n ∧ n.pos < w.it.cur.pos := by
  intro w h
  have hi := exec_ainv ppOf steps _ (fun hf : False => hf.elim) (start_ainv ppOf False script q)
  exact ⟨hi.pre h, hi.past (hi.pre h)⟩

open Paging.Hist Paging.Walk in
/-- **Iter.Scan launches the prefetch as soon as the threshold is passed** (the converse of
    `C15_walk_prefetch_threshold`; Query.Prefetch's documentation: "the next page will be requested
    automatically"). For every walk through Iter.Scan / MapScan with observers and any scheduling (no Scanner
    strides — a Scanner never prefetches —, no probe disarming it): whenever the consumer has taken more than
    `next.pos` rows of a page that has a next page, the asynchronous prefetch of that next page HAS been
    launched. Together with the threshold theorem: launched if and only if past the threshold. -/
theorem C15_walk_prefetch_launched (ppOf : Int → Nat → Nat) (script : List Reply) (q : Qry) (steps : List Walk.Step)
    (hs : ∀ s ∈ steps, scanOnly s) :
    let w := Walk.exec ppOf (Walk.start ppOf script q) steps
    ∀ n, w.it.cur.err = none → w.it.cur.next = some n → n.pos < w.it.cur.pos → w.async = .launched := by
  intro w
  exact ((exec_ainv ppOf steps _ (fun _ => hs) (start_ainv ppOf True script q)).armed trivial).2

/-- non-vacuity of both directions (prefetch 0.5 of a 4-row page: threshold 2): after 2 rows not launched, after 3 launched -/
example :
    let q : Qry := { ident := 1, prepared := false, skipMeta := false, pageSize := 0, pageState := [], disableAutoPage := false }
    let script : List Reply := [.page [1, 2, 3, 4] (some [7]), .page [5] none]
    let ppOf : Int → Nat → Nat := fun _ n => n / 2
    (Walk.exec ppOf (Walk.start ppOf script q) [.scan .scan 2]).async = .idle ∧
    (Walk.exec ppOf (Walk.start ppOf script q) [.scan .scan 2, .observe, .scan .scan 1]).async = .launched ∧
    (Walk.exec ppOf (Walk.start ppOf script q) [.scan .scanner 4]).async = .idle := by
  decide

open Paging.Hist Paging.Walk in
/-- **A stride that ends with `false` has ended the iteration, with everything delivered**: if the last call
    of a stride returned false, the rows handed over since Iter() are the whole specification result, the
    error is the specification's, and every request of the full iteration has been sent (no more, no fewer). -/
theorem C15_walk_false_is_complete (ppOf : Int → Nat → Nat) (script : List Reply) (q : Qry) (steps : List Walk.Step)
    (api : Walk.Api) (hq : q.disableAutoPage = false)
    (hf : (scan1 ppOf api (Walk.exec ppOf (Walk.start ppOf script q) steps)).2 = false) :
    let w := (scan1 ppOf api (Walk.exec ppOf (Walk.start ppOf script q) steps)).1
    w.it.out = Spec.rows script ∧ w.it.cur.err = Spec.err script ∧
    w.it.reqs.filter Req.isExec = (run (ppOf q.pf) script false q).reqs.filter Req.isExec := by
  intro w
  have hw := exec_winv ppOf _ steps _ (start_winv ppOf script q)
  obtain ⟨h1, h2, h3⟩ := finished_result ppOf w.it _ (scanF_pres (pres_tot ppOf _) _ _ _ hw.2 hw.1).1 (scanF_fuel ppOf _ _ hf)
  have hs := C15_session_rows (ppOf q.pf) script false q hq
  exact ⟨h1.trans hs.1, h2.trans hs.2, h3⟩

open Paging.Hist Paging.Walk in
/-- **Every stride hands over exactly the next rows of the result.** For every script, query, prefetch
    position and every walk (strides of any lengths through either API, with observers, probes and the prefetch
    running at any moment in between): the rows each stride hands over and the result of its last call are
    what the SPECIFICATION says for an application that takes the result `Spec.rows script` in pieces of those
    lengths — the next `k` rows (fewer only where the result ends), `true` iff there were `k`. Nothing is
    skipped or repeated at a page boundary, whether the next page was prefetched, is being fetched, or is
    fetched by the switch; an empty page never ends a stride early. This is what makes op `walk` spec-backed. -/
theorem C15_walk_rows_spec (ppOf : Int → Nat → Nat) (script : List Reply) (q : Qry) (steps : List Walk.Step)
    (hq : q.disableAutoPage = false) :
    strideLog ppOf (Walk.start ppOf script q) steps = Walk.Spec.strides (Spec.rows script) 0 (strideKs steps) := by
  rw [strideLog_spec ppOf _ steps _ (start_winv ppOf script q)]
  show Walk.Spec.strides (run (ppOf q.pf) script false q).rows 0 _ = _
  rw [(C15_session_rows (ppOf q.pf) script false q hq).1]

/-- non-vacuity: pages [1,2] / [] / [3] / last []: strides 1, 0, 3 (crossing the empty page and reaching the
    empty last page: false), 1 -/
example :
    let q : Qry := { ident := 1, prepared := false, skipMeta := false, pageSize := 0, pageState := [], disableAutoPage := false }
    let script : List Reply := [.page [1, 2] (some [7]), .page [] (some [8]), .page [3] (some [9]), .page [] none]
    Walk.strideLog (fun _ n => n / 2) (Walk.start (fun _ n => n / 2) script q)
      [.scan .scan 1, .observe, .scan .scanner 0, .await, .scan .scan 3, .scan .scan 1] =
      [([1], true), ([], true), ([2, 3], false), ([], false)] := by
  decide

open Paging.Walk in
/-- **WillSwitchPage() = false at the end of a page means the iteration is over**: no row left on the current
    page and no next page — the next call returns false and sends nothing (`finished`); and WillSwitchPage() =
    true means exactly that the current page is used up and carries has_more_pages (auto paging on). -/
theorem C15_willswitch (w : W) (hrow : w.it.cur.rows.length ≤ w.it.cur.pos) :
    (willSwitch w = false → Hist.finished w.it) ∧ (willSwitch w = true ↔ w.it.cur.next.isSome) := by
  unfold willSwitch Hist.finished
  have hr : w.it.cur.rows[w.it.cur.pos]? = none := List.getElem?_eq_none_iff.2 hrow
  constructor
  · intro h
    right
    refine ⟨hr, ?_⟩
    cases hn : w.it.cur.next with
    | none => rfl
    | some n => simp [hn, hrow] at h
  · simp [hrow]

/-- non-vacuity (prefetch 0.25 of a 4-row page: threshold 3): after 3 rows nothing has been asked for ahead,
    the 4th Scan launches the prefetch, it runs, and the node has then received exactly the two first requests;
    WillSwitchPage is true, NumRows is 4, PageState is the state of page 1; draining from there gives the rest -/
example :
    let q : Qry := { ident := 1, prepared := false, skipMeta := false, pageSize := 0, pageState := [], disableAutoPage := false }
    let script : List Reply := [.page [1, 2, 3, 4] (some [7]), .page [5] (some [8]), .page [6] none]
    let ppOf : Int → Nat → Nat := fun _ n => 3 * n / 4
    let w3 := Walk.exec ppOf (Walk.start ppOf script q) [.scan .scan 3, .arrive]
    let w4 := Walk.exec ppOf (Walk.start ppOf script q) [.scan .scan 3, .arrive, .scan .scan 1, .arrive]
    let w9 := Walk.exec ppOf (Walk.start ppOf script q) [.scan .scan 3, .arrive, .scan .scan 1, .arrive, .scan .scan 9]
    w3.async = .idle ∧ w3.it.pre.isSome = false ∧ w3.it.reqs.length = 1 ∧
    w4.async = .launched ∧ w4.it.pre.isSome = true ∧ w4.it.reqs.length = 2 ∧ w4.it.out = [1, 2, 3, 4] ∧
    Walk.willSwitch w4 = true ∧ Walk.numRows w4 = 4 ∧ Walk.pageState w4 = [7] ∧
    w9.it.out = [1, 2, 3, 4, 5, 6] ∧ w9.it.reqs.length = 3 ∧
    (Walk.scan1 ppOf .scan w9).2 = false := by
  decide

/-! ## The single-row helpers Query.Scan / Query.MapScan / Query.Exec on a paged statement (`Model/PagingFirst.lean`)

Full property:  ∀ script q,  Query.Scan / MapScan hand over the FIRST ROW OF THE RESULT (`Spec.rows script`) with
a nil error, and report ErrNotFound only if the result has no row at all (a failure that ends an empty
result is reported as that failure).  On the code as repaired for KF-C15-4 (props/C15.fix-4.diff:
Iter.checkErrAndNotFound walks over empty pages that say has_more_pages before it tests the row count) this
holds for EVERY script: `C15_query_scan`. (Before the repair it failed for an empty first page with
has_more_pages — ErrNotFound although rows followed.) -/

open Paging.First in
/-- **Query.Scan / Query.MapScan = first row of the result**, for every script (UNPREPARED answers, a failure,
    any pages — EMPTY pages with has_more_pages in front included), every query with automatic paging: the row
    handed over is the head of the specification's rows and the error is nil; no row in the whole result: the
    failure that ended it, else ErrNotFound. -/
theorem C15_query_scan (pp : Nat → Nat) (script : List Reply) (cached : Bool) (q : Qry) (hq : q.disableAutoPage = false) :
    ((queryScan pp script cached q).row, (queryScan pp script cached q).err) = First.Spec.first script := by
  induction script generalizing cached q with
  | nil => rfl
  | cons r rest ih =>
    cases r with
    | unprepared => exact ih false q hq
    | fail f => rfl
    | page rows st =>
      cases rows with
      | cons a as => cases st <;> rfl
      | nil =>
        cases st with
        | none => rfl
        | some s =>
          have := ih true { q with pageState := s } hq
          simpa [queryScan, pageIter, hq, First.Spec.first, Paging.Spec.rows, Paging.Spec.err] using this

/-- non-vacuity, and the former counterexample of KF-C15-4 as a regression: page 1 empty with has_more_pages,
    page 2 holds row 5 — row 5 with a nil error, two requests; an all-empty result: ErrNotFound -/
example :
    let q : Qry := { ident := 1, prepared := false, skipMeta := false, pageSize := 0, pageState := [], disableAutoPage := false }
    First.queryScan (fun _ => 0) [.page [] (some [1]), .page [5] none] false q =
      ⟨some 5, none, [.exec 1 false false none none, .exec 1 false false (some [1]) none]⟩ ∧
    (First.queryScan (fun _ => 0) [.page [] (some [1]), .page [] none] false q).err = some .notFound := by
  decide

open Paging.First in
/-- **Query.Exec reports the outcome of the first fetch** (after any UNPREPARED round trips), for every script -/
theorem C15_exec_first_fetch (pp : Nat → Nat) (script : List Reply) (q : Qry) :
    (queryExec pp script q).err = (First.Spec.execErr script).map .fail ∧ (queryExec pp script q).row = none := by
  refine ⟨?_, rfl⟩
  unfold queryExec
  simp only []
  rw [Hist.connExec_err pp script false q]

/-- non-vacuity: UNPREPARED first, then a page with rows 7,8 and has_more_pages: row 7, no error, and the
    requests are PREPARE, EXECUTE, PREPARE, EXECUTE — nothing is asked for page 2 -/
example :
    let q : Qry := { ident := 1, prepared := true, skipMeta := true, pageSize := 10, pageState := [], disableAutoPage := false }
    let script : List Reply := [.unprepared, .page [7, 8] (some [1]), .page [9] none]
    First.queryScan (fun n => n / 2) script false q =
      ⟨some 7, none, [.prepare, .exec 1 true true none (some 10), .prepare, .exec 1 true true none (some 10)]⟩ := by
  decide

/-! ## Cancellation at ANY moment (`Proofs/C15Cancel.lean`): with a prefetch pending, running or done, before an
    Iter(), between pages — the invariant `Hist.K` survives every step of every history -/

open Paging.Hist in
/-- **Cancelling a context never truncates a result silently, whenever it happens.** For EVERY history on one
    Query object — the steps of `C15_iter_independent_of_rebind` AND cancellations of caller contexts at any
    moment, in any order with prefetch completions, Scans and further Iter() calls — every iterator with automatic
    paging has, at every moment, handed over an initial segment of its snapshot's result (in order, each row
    once: a cancellation loses no row of a page already fetched and duplicates none), and an iterator that has
    ended WITHOUT an error has handed over the whole result and sent every request of the full iteration. So a
    cancelled fetch always surfaces as the iteration's error, never as an early normal end. -/
theorem C15_history_cancel_no_truncation (srv : Nat → Bytes → List Reply) (ppOf : Int → Nat → Nat)
    (w0 : World) (h : List Step) (h0 : w0.its = []) :
    ∀ it ∈ (exec srv ppOf w0 h).its, it.snap.disableAutoPage = false →
      it.out <+: Spec.rows it.script ∧
      (finished it → it.cur.err = none →
        it.out = Spec.rows it.script ∧ Spec.err it.script = none ∧
        it.reqs.filter Req.isExec = (run (ppOf it.snap.pf) it.script false it.snap).reqs.filter Req.isExec) := by
  intro it hit hq
  have hr := K_rows ppOf _ it (exec_K srv ppOf h w0 (by intro y hy; rw [h0] at hy; cases hy) it hit)
  have hs := C15_session_rows (ppOf it.snap.pf) it.script false it.snap hq
  refine ⟨by rw [← hs.1]; exact hr.1, fun hfin he => ?_⟩
  obtain ⟨h1, h2, h3⟩ := hr.2 hfin he
  exact ⟨h1.trans hs.1, hs.2.symm.trans h2, h3⟩

open Paging.Hist Paging.Walk in
/-- the same for a walk of one iterator with the query's context cancelled anywhere in between (the walk tier's
    `x` steps: after the prefetch was awaited, or with none started) -/
theorem C15_walk_cancel_no_truncation (ppOf : Int → Nat → Nat) (script : List Reply) (q : Qry) (steps : List Walk.StepX)
    (hq : q.disableAutoPage = false) :
    let w := Walk.execX ppOf (Walk.start ppOf script q) steps
    w.it.out <+: Spec.rows script ∧ (finished w.it → w.it.cur.err = none → w.it.out = Spec.rows script) := by
  intro w
  have hk : K ppOf (obs3 (run (ppOf q.pf) script false q)) w.it :=
    (execX_pres (pres_K ppOf _) (fun _ _ _ => trivial) steps (Walk.start ppOf script q)
      ⟨startIter_K (fun _ _ => script) ppOf env0 q, trivial⟩).1
  have hr := K_rows ppOf _ w.it hk
  rw [(C15_session_rows (ppOf q.pf) script false q hq).1] at hr
  exact ⟨hr.1, fun hf he => (hr.2 hf he).1⟩

/-- non-vacuity: three pages; two rows of page 1 taken, its prefetch completes (page 2 is in hand), THEN the
    context is cancelled: the drain hands over the rest of page 1 and all of page 2 and ends with `context
    canceled` — rows 1..5 of 1..6, a prefix, not a normal end; two requests were sent, none for page 3 -/
example :
    let q : Qry := { ident := 1, prepared := false, skipMeta := false, pageSize := 0, pageState := [], disableAutoPage := false, ctx := some 1 }
    let script : List Reply := [.page [1, 2, 3] (some [7]), .page [4, 5] (some [8]), .page [6] none]
    let ppOf : Int → Nat → Nat := fun _ n => n / 2
    let w := Walk.execX ppOf (Walk.start ppOf script q)
      [.base (.scan .scan 2), .base .arrive, .cancel 1, .base (.scan .scan 9)]
    w.it.out = [1, 2, 3, 4, 5] ∧ w.it.cur.err = some .ctx ∧ w.it.reqs.length = 2 := by
  decide

/-! ## A failing PREPARE at a page fetch (`Model/PagingPrep.lean`): the first fetch of an uncached statement, or
    any page after an UNPREPARED answer -/

open Paging.Prep in
/-- **A failed PREPARE surfaces like a failed fetch, and nothing is sent after it.** For every script over
    fetch attempts in which the PREPARE of any attempt may fail (`prepFail`), every query with automatic paging:
    rows and final error are the specification's for the script read with "failed PREPARE = failed fetch" —
    the rows of the pages before, then THAT error, never a normal end; and (no present-but-empty state) the
    requests are exactly `Prep.Spec.reqs`: as without the failure up to and including the PREPARE that failed,
    and then neither the EXECUTE of that attempt nor any later request. -/
theorem C15_prepare_failure_surfaces (pp : Nat → Nat) (script : List PReply) (cached : Bool) (q : Qry)
    (hq : q.disableAutoPage = false) :
    (runP pp script cached q).rows = Spec.rows (script.map toBase) ∧
    (runP pp script cached q).err = Spec.err (script.map toBase) ∧
    (NoEmptyStateP script →
      (runP pp script cached q).reqs = Prep.Spec.reqs (template q) q.prepared script (!cached) (firstState q)) :=
  runP_spec pp script cached q hq

open Paging.Prep in
/-- without a failing PREPARE this model IS the base model (every theorem about `run` speaks about it) -/
theorem C15_prepare_none_is_base (pp : Nat → Nat) (script : List Reply) (cached : Bool) (q : Qry) :
    runP pp (script.map PReply.base) cached q = run pp script cached q :=
  runP_base pp script cached q

/-- non-vacuity: page 1 (rows 1,2), the fetch of page 2 is answered UNPREPARED, the re-PREPARE fails with
    0x2000: rows 1,2 and THAT error; sent: PREPARE, EXECUTE, EXECUTE(state 07), PREPARE — and no third EXECUTE -/
example :
    let q : Qry := { ident := 1, prepared := true, skipMeta := false, pageSize := 0, pageState := [], disableAutoPage := false }
    let script : List Prep.PReply := [.base (.page [1, 2] (some [7])), .base .unprepared, .prepFail (.srv 0x2000), .base (.page [3] none)]
    Prep.valid true script true = true ∧
    Prep.runP (fun _ => 0) script false q =
      ⟨[1, 2], [.prepare, .exec 1 true false none none, .exec 1 true false (some [7]) none, .prepare], some (.srv 0x2000)⟩ := by
  decide

end C15
