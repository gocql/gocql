import Proofs.C05ValueBase
/-!
  C05 / value decoders: scalars, goType, collections, readBytes: each is `Safe`, given that the element decoders are.
-/
namespace C05Value
open CrashValue

/-- `binary.BigEndian.Uint32(data)` behind `if len(data) < 4 { return error }` -/
theorem date_safe (d : Bytes) :
    Safe (do errIf (d.length < 4)
             if 3 < d.length then (.ok () : Outcome) else .crash ⟨.unmarshalDate, .index⟩) := by
  simp only [errIf, decide_eq_true_eq]
  split
  · simp
  · have h : 3 < d.length := by omega
    simp [h]

theorem scalar_safe (n : Native) (g : GT) (data : Option Bytes) : Safe (scalar n g data) := by
  fun_cases scalar n g data
  -- every way through the switch ends in `ok`, an error, or a leaf decoder followed by a check, except five
  all_goals first
    | exact safe_ok _
    | exact safe_err
    | (simp only [safe_bind_iff, decInt_safe, decBigInt_safe, decShort_safe, decTiny_safe, decBool_safe,
        decVints_safe, intlike_safe, unmarshalUUID_safe, safe_ok, implies_true, and_self]; done)
    | skip
  · -- varint: `data[0]` and `data[1:]` behind `len(data) == 9`, `data[0]` behind `0 < len(data) < 8`
    rename_i d _
    refine safe_bind ?_ fun special _ => ?_
    · split
      · split
        · refine safe_idx (by omega) ?_
          split
          · simp [sliceFrom_ok (show 1 ≤ d.length by omega)]
          · exact safe_ok _
        · exact safe_ok _
      · exact safe_ok _
    · split
      · exact safe_ok _
      · split
        · exact safe_err
        · refine safe_bind ?_ fun v _ => intlike_safe _ _ _
          split
          · exact safe_idx (by omega) (safe_ok _)
          · exact safe_ok _
  · -- decimal: `data[:4]`, `data[4:]` behind `len(data) < 4`
    rename_i d _
    have h4 : 4 ≤ d.length := by omega
    simp only [sliceTo_ok h4, sliceFrom_ok h4, ok_bind]
    exact safe_bind (decInt_safe _) (fun _ _ => safe_ok _)
  -- date, into either of its two destinations
  · exact date_safe _
  · exact date_safe _
  · -- timeuuid: `u[6]` of 16 bytes
    exact safe_idx (by omega) (by split <;> simp)

theorem goType_safe (t : CT) : Safe (goType t) := by
  fun_induction goType t
  all_goals first | exact safe_ok _ | exact safe_err | skip
  · rename_i ih; exact safe_bind ih fun _ _ => safe_ok _
  · rename_i ihk ihv
    exact safe_bind ihk fun gk _ => safe_bind ihv fun gv _ => by split <;> first | exact safe_ok _ | exact safe_err

/-- size of a count / length header: 4 bytes from protocol 3 on, 2 before -/
def hdr (proto : Nat) : Nat := if proto > 2 then 4 else 2

theorem hdr_pos (proto : Nat) : 0 < hdr proto := by unfold hdr; split <;> omega

theorem readCollectionSize_cases (proto : Nat) (d : Bytes) :
    readCollectionSize proto d = .err ∨
    ∃ m p, readCollectionSize proto d = .ok (m, p) ∧ p ≤ d.length ∧ p = hdr proto := by
  fun_cases readCollectionSize proto d
  -- too short for the header: an error; otherwise the 4 (2) index reads are inside the guard
  · exact .inl rfl
  · simp only [idx_ok (show 0 < d.length by omega), idx_ok (show 1 < d.length by omega),
      idx_ok (show 2 < d.length by omega), idx_ok (show 3 < d.length by omega), ok_bind]
    exact .inr ⟨_, _, rfl, by omega, by simp [hdr, *]⟩
  · exact .inl rfl
  · simp only [idx_ok (show 0 < d.length by omega), idx_ok (show 1 < d.length by omega), ok_bind]
    exact .inr ⟨_, _, rfl, by omega, by simp [hdr, *]⟩

/-- an element read never crashes: `data[p:]`, `data[:m]`, `data[m:]` are all inside their guards;
    it consumes at least 2 bytes -/
theorem readElem_cases (fn : Fn) (proto : Nat) (d : Bytes) :
    readElem fn proto d = .err ∨
      ∃ ed rest, readElem fn proto d = .ok (ed, rest) ∧ rest.length + hdr proto ≤ d.length := by
  unfold readElem
  rcases readCollectionSize_cases proto d with h | ⟨m, p, h, hp, hp2⟩
  · left; simp [h]
  · simp only [h, ok_bind, sliceFrom_ok hp]
    split
    · split
      · left; rfl
      · rename_i hm hlen
        have hle : m.toNat ≤ (List.drop p d).length := by omega
        right
        simp only [sliceTo_ok hle, sliceFrom_ok hle, ok_bind]
        refine ⟨_, _, rfl, ?_⟩
        simp only [List.length_drop]
        omega
    · right
      refine ⟨_, _, rfl, ?_⟩
      simp only [List.length_drop]
      omega

/-- a header read, then the rest: the rest only has to be fine for a header that was there -/
theorem safe_readCS {β : Type} {proto : Nat} {d : Bytes} {k : Int × Nat → Res β}
    (hk : ∀ n, hdr proto ≤ d.length → Safe (k (n, hdr proto))) : Safe (readCollectionSize proto d >>= k) := by
  rcases readCollectionSize_cases proto d with h | ⟨n, p, h, hp, rfl⟩ <;> rw [h]
  · exact safe_err
  · exact hk n hp

theorem safe_readElem {β : Type} {fn : Fn} {proto : Nat} {d : Bytes} {k : Option Bytes × Bytes → Res β}
    (hk : ∀ ed rest, Safe (k (ed, rest))) : Safe (readElem fn proto d >>= k) := by
  rcases readElem_cases fn proto d with h | ⟨ed, rest, h, _⟩ <;> rw [h]
  · exact safe_err
  · exact hk ed rest

theorem listLoop_safe (proto : Nat) (f : Option Bytes → Outcome) (len : Nat) (hf : ∀ ed, Safe (f ed))
    (cnt i : Nat) (d : Bytes) (h : i + cnt ≤ len) : Safe (listLoop proto f len cnt i d) := by
  fun_induction listLoop proto f len cnt i d
  case case1 => exact safe_ok _
  case case2 cnt i d ih =>
    refine safe_readElem fun ed rest => ?_
    simp only [show i < len by omega, if_true]
    exact safe_bind (hf ed) fun _ _ => ih rest (by omega)

/-- the count guard: a count is accepted iff it is not negative and the bytes left can hold that many headers -/
theorem makeCount_eq (n : Int) (avail p : Nat) :
    makeCount n avail p = if 0 ≤ n ∧ n.toNat ≤ avail / p then .ok n.toNat else .err := by
  fun_cases makeCount n avail p <;> (split <;> first | rfl | omega)

/-- every map entry needs two headers -/
theorem makeMapCount_eq (n : Int) (avail p : Nat) : makeMapCount n avail p = makeCount n avail (2 * p) := rfl

theorem makeCount_safe (n : Int) (avail p : Nat) : Safe (makeCount n avail p) := by
  rw [makeCount_eq]; split <;> simp

theorem unmarshalList_safe (proto : Nat) (elem : GT → Option Bytes → Outcome)
    (he : ∀ g d, Safe (elem g d)) (g : GT) (data : Option Bytes) :
    Safe (unmarshalList proto elem g data) := by
  fun_cases unmarshalList proto elem g data
  -- not a slice or array, or NULL: done at once
  all_goals first | exact safe_err | exact safe_ok _ | skip
  case case4 isArr alen e _ d =>
    refine safe_readCS fun n hp => ?_
    simp only [sliceFrom_ok hp, ok_bind]
    split
    · -- an array: the loop runs over exactly its length
      split
      · exact safe_err
      · exact listLoop_safe proto (elem e) alen (he e) n.toNat 0 _ (by omega)
    · exact safe_bind (makeCount_safe n _ _) fun cnt _ => listLoop_safe proto (elem e) cnt (he e) cnt 0 _ (by omega)

theorem mapLoop_safe (proto : Nat) (fk fv : Option Bytes → Outcome)
    (hk : ∀ ed, Safe (fk ed)) (hv : ∀ ed, Safe (fv ed)) (cnt : Nat) (d : Bytes) : Safe (mapLoop proto fk fv cnt d) := by
  fun_induction mapLoop proto fk fv cnt d
  case case1 => exact safe_ok _
  case case2 cnt d ih =>
    refine safe_readElem fun kd rest => safe_bind (hk kd) fun _ _ => ?_
    exact safe_readElem fun vd rest2 => safe_bind (hv vd) fun _ _ => ih rest2

theorem unmarshalMap_safe (proto : Nat) (key val : GT → Option Bytes → Outcome)
    (hk : ∀ g d, Safe (key g d)) (hv : ∀ g d, Safe (val g d)) (g : GT) (data : Option Bytes) :
    Safe (unmarshalMap proto key val g data) := by
  fun_cases unmarshalMap proto key val g data
  all_goals first | exact safe_err | exact safe_ok _ | skip
  case case2 gk gv d =>
    refine safe_readCS fun n hp => safe_bind (makeCount_safe n _ (2 * _)) fun cnt _ => ?_
    simp only [sliceFrom_ok hp, ok_bind]
    exact mapLoop_safe proto _ _ (hk gk) (hv gv) _ _

theorem readInt4 (a b c x : UInt8) (rest : Bytes) : readInt (a :: b :: c :: x :: rest) = .ok (i32 a b c x) := by
  simp [readInt, idx]

theorem readInt_ok {d : Bytes} (h : 4 ≤ d.length) : ∃ v, readInt d = .ok v := by
  rcases d with _ | ⟨a, _ | ⟨b, _ | ⟨c, _ | ⟨x, r⟩⟩⟩⟩ <;> first | exact ⟨_, readInt4 a b c x r⟩ | simp at h

/-- readBytes behind its `len(data) >= 4` guard: the header read and `p[4:]` are in bounds; the
    slices `p[:size]` / `p[size:]` are behind `if int(size) > len(p) { return error }` -/
theorem readBytes_safe {d : Bytes} (h : 4 ≤ d.length) : Safe (readBytes d) := by
  obtain ⟨v, hv⟩ := readInt_ok h
  simp only [readBytes, hv, ok_bind, sliceFrom_ok h]
  split
  · simp
  · simp only [errIf, decide_eq_true_eq]
    split
    · simp
    · have hfit : v.toNat ≤ (List.drop 4 d).length := by omega
      simp [sliceTo_ok hfit, sliceFrom_ok hfit]

theorem unmG_safe {core : GT → Option Bytes → Outcome} (h : ∀ g d, Safe (core g d))
    (g : GT) (d : Option Bytes) : Safe (unmG core g d) := by
  fun_cases unmG core g d <;> first | exact safe_ok _ | exact h _ _

theorem tupleField_safe (d : Bytes) : Safe (tupleField d) := by
  fun_cases tupleField d
  · exact readBytes_safe ‹_›
  · exact safe_ok _

end C05Value
