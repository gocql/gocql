import Model.UuidDecode
import Proofs.C19Parse
import Proofs.Bytes
/-! `ParseUUID` as written (every digit OR-ed into an array) computes `parse`; the text of `String()` survives
    `[]byte` / `string` conversion and `strings.Trim`; what one decode step does to its destination. -/
namespace Uuid

def orNibs (u : List UInt8) (j : Nat) : List Nat → List UInt8
  | [] => u
  | d :: ds => orNibs (orNibble u j d) (j + 1) ds

theorem nib_pack : ∀ hi lo : Fin 16,
    (UInt8.ofNat hi.val <<< UInt8.ofNat 4) ||| (UInt8.ofNat lo.val <<< UInt8.ofNat 0) = UInt8.ofNat (hi.val * 16 + lo.val) := by
  decide +kernel

theorem or_nibbles (b : UInt8) (hi lo : Nat) (h1 : hi < 16) (h2 : lo < 16) :
    (b ||| (UInt8.ofNat hi <<< UInt8.ofNat 4)) ||| (UInt8.ofNat lo <<< UInt8.ofNat 0) = b ||| UInt8.ofNat (hi * 16 + lo) := by
  rw [UInt8.or_assoc]
  have := nib_pack ⟨hi, h1⟩ ⟨lo, h2⟩
  simp only at this
  rw [this]

theorem orNibble_even (pre suf : List UInt8) (b : UInt8) (d : Nat) :
    orNibble (pre ++ b :: suf) (2 * pre.length) d = pre ++ (b ||| (UInt8.ofNat d <<< UInt8.ofNat 4)) :: suf := by
  have e : 2 * pre.length / 2 = pre.length := by omega
  have e2 : 2 * pre.length % 2 = 0 := by omega
  simp [orNibble, byteAt, e, e2]

theorem orNibble_odd (pre suf : List UInt8) (b : UInt8) (d : Nat) :
    orNibble (pre ++ b :: suf) (2 * pre.length + 1) d = pre ++ (b ||| (UInt8.ofNat d <<< UInt8.ofNat 0)) :: suf := by
  have e : (2 * pre.length + 1) / 2 = pre.length := by omega
  have e2 : (2 * pre.length + 1) % 2 = 1 := by omega
  simp [orNibble, byteAt, e, e2]

theorem orNibs_pack (suf : List UInt8) : ∀ (pre : List UInt8) (ds : List Nat),
    ds.length = 2 * suf.length → (∀ d ∈ ds, d < 16) →
    orNibs (pre ++ suf) (2 * pre.length) ds = pre ++ orBytes suf (pack ds) := by
  induction suf with
  | nil =>
    intro pre ds hl _
    have : ds = [] := by cases ds <;> simp_all
    subst this; simp [orNibs, orBytes]
  | cons b suf ih =>
    intro pre ds hl hd
    match ds, hl, hd with
    | hi :: lo :: ds', hl, hd =>
      have h1 : hi < 16 := hd hi (by simp)
      have h2 : lo < 16 := hd lo (by simp)
      simp only [orNibs]
      rw [orNibble_even, orNibble_odd, or_nibbles b hi lo h1 h2]
      have := ih (pre ++ [b ||| UInt8.ofNat (hi * 16 + lo)]) ds' (by simp at hl; omega)
        (fun d hd' => hd d (by simp [hd']))
      simp only [List.length_append, List.length_cons, List.length_nil, List.append_assoc,
        List.cons_append, List.nil_append] at this
      have e : 2 * (pre.length + 1) = 2 * pre.length + 1 + 1 := by omega
      rw [e] at this
      rw [this]
      simp [orBytes, pack]
    | [], hl, _ => simp at hl
    | [_], hl, _ => simp at hl; omega

theorem parseLoop_prefix (s : List Char) (acc r : List Nat) (h : parseLoop s acc = some r) :
    r = acc ++ digitVals s := ((parseLoop_iff s acc r).mp h).2.2.2

theorem hexVal_lt (c : Char) (d : Nat) (h : hexVal c = some d) : d < 16 := by
  revert h; fun_cases hexVal c <;> simp_all <;> omega

theorem parseLoop_length (s : List Char) (acc r : List Nat) (h : parseLoop s acc = some r) : r.length = 32 := by
  fun_induction parseLoop s acc <;> simp_all

theorem digitVals_lt (s : List Char) : ∀ d ∈ digitVals s, d < 16 := by
  intro d hd
  obtain ⟨c, _, hc⟩ := List.mem_filterMap.mp hd
  exact hexVal_lt c d hc

theorem pack_length : ∀ r : List Nat, (pack r).length = r.length / 2
  | [] => rfl
  | [_] => by simp [pack]
  | _ :: _ :: r => by simp [pack, pack_length r]; omega

theorem orBytes_zero (x : List UInt8) : orBytes (List.replicate x.length 0) x = x := by
  induction x with
  | nil => rfl
  | cons b x ih => simpa [orBytes, List.replicate_succ] using ih

theorem parseLoopArr_eq (s : List Char) (u : List UInt8) (acc : List Nat) :
    parseLoopArr s u acc.length = (parseLoop s acc).map (fun r => orNibs u acc.length (r.drop acc.length)) := by
  fun_induction parseLoop s acc generalizing u
  case case3 c cs acc h ih => simp only [parseLoopArr, if_pos h, ih]  -- a hyphen at a byte boundary
  case case4 c cs acc h d hv hlt ih =>  -- a digit: it is OR-ed in, and `parseLoop` only ever appends to `acc`
    have := ih (orNibble u acc.length d)
    simp only [List.length_append, List.length_cons, List.length_nil, Nat.zero_add] at this
    simp only [parseLoopArr, if_neg h, hv, if_pos hlt, this]
    apply Option.map_congr
    intro r hr
    obtain rfl := parseLoop_prefix _ _ _ hr
    simp [orNibs]
  case case1 acc h => simp only [parseLoopArr, if_pos h, Option.map_some, List.drop_length, orNibs]
  all_goals simp [parseLoopArr, *]  -- the three ways to fail

/-- the loop invariant of `ParseUUID`'s OR-accumulation, for an arbitrary initial array -/
theorem parseLoopArr_or (dst : List UInt8) (hd : dst.length = 16) (s : List Char) :
    parseLoopArr s dst 0 = (parse s).map (orBytes dst) := by
  have := parseLoopArr_eq s dst []
  simp only [List.length_nil, List.drop_zero] at this
  rw [this, parse, Option.map_map]
  apply Option.map_congr
  intro r hr
  have hl := parseLoop_length _ _ _ hr
  have := orNibs_pack dst [] r (by omega) (by rw [parseLoop_prefix _ _ _ hr]; exact digitVals_lt s)
  simpa using this

theorem parseUUID_eq_parse (s : List Char) : parseUUID s = parse s := by
  rw [parseUUID, parseLoopArr_or zero16 (by simp [zero16]) s, parse, Option.map_map]
  apply Option.map_congr
  intro r hr
  have hp : (pack r).length = 16 := by rw [pack_length, parseLoop_length _ _ _ hr]
  have := orBytes_zero (pack r)
  rwa [hp] at this

theorem hexDigit_ascii : ∀ n : Fin 16, (hexDigit n.val).toNat < 128 ∧ UInt8.ofNat (hexDigit n.val).toNat ≠ 34 := by decide

theorem runes_asciiBytes (s : List Char) (h : ∀ c ∈ s, c.toNat < 128) : runes (asciiBytes s) = s := by
  induction s with
  | nil => rfl
  | cons c cs ih =>
    simp only [runes, asciiBytes, List.map_cons, List.map_map] at ih ⊢
    have hc := h c (by simp)
    rw [BE.toNat_ofNat_lt (by omega), if_pos hc, Char.ofNat_toNat]
    congr 1
    exact ih (fun c hc => h c (by simp [hc]))

theorem print_bytes (u : List UInt8) : ∀ c ∈ print u, c.toNat < 128 ∧ UInt8.ofNat c.toNat ≠ 34 := by
  intro c hc
  rcases print_chars u c hc with rfl | ⟨n, rfl⟩
  · decide
  · exact hexDigit_ascii n

theorem runes_print (u : List UInt8) : runes (asciiBytes (print u)) = print u :=
  runes_asciiBytes _ (fun c hc => (print_bytes u c hc).1)

theorem trimRightQ_snoc (xs : List UInt8) (z : UInt8) (hz : z ≠ 34) : trimRightQ (xs ++ [z]) = xs ++ [z] := by
  induction xs with
  | nil => simp [trimRightQ, hz]
  | cons x xs ih =>
    simp only [List.cons_append, trimRightQ, ih]
    cases h : xs ++ [z] with
    | nil => simp at h
    | cons a b => rfl

theorem trimRightQ_snoc_q (xs : List UInt8) : trimRightQ (xs ++ [34]) = trimRightQ xs := by
  induction xs with
  | nil => simp [trimRightQ]
  | cons x xs ih => simp only [List.cons_append, trimRightQ, ih]

theorem trimQuotes_quoted (l : List UInt8) (hne : l ≠ []) (hq : ∀ b ∈ l, b ≠ 34) :
    trimQuotes (34 :: l ++ [34]) = l ∧ trimQuotes l = l := by
  have e : l = l.dropLast ++ [l.getLast hne] := (List.dropLast_concat_getLast hne).symm
  have tr : trimRightQ l = l := by rw [e]; exact trimRightQ_snoc _ _ (hq _ (List.getLast_mem hne))
  cases l with
  | nil => exact absurd rfl hne
  | cons a t =>
    have hh : a ≠ 34 := hq a (List.mem_cons_self ..)
    constructor
    · simp only [trimQuotes, List.cons_append, trimLeftQ, if_neg hh, if_true]
      rw [← List.cons_append, trimRightQ_snoc_q, tr]
    · simp only [trimQuotes, trimLeftQ, if_neg hh, tr]

/-- what a decode step stores when it succeeds (`none`: it fails) — a function of the input alone -/
def stepVal : Step → Option (List UInt8)
  | .text t => parse (runes t)
  | .json d => if (trimQuotes d).length > 36 then none else parse (runes (trimQuotes d))
  | .cql d => if d.length = 0 then some zero16 else if d.length ≠ 16 then none else some d

/-- every step either stores its value or fails, and a failure leaves the destination alone — except a failed
    `UnmarshalText`, which zeroes it -/
theorem applyStep_eq (dst : List UInt8) (s : Step) :
    applyStep dst s = match stepVal s with
      | some u => (true, u)
      | none => (false, match s with | .text _ => zero16 | _ => dst) := by
  cases s with
  | text t => simp only [applyStep, unmarshalText, parseUUID_eq_parse, stepVal]; rfl
  | json d =>
    simp only [applyStep, unmarshalJSON, parseUUID_eq_parse, stepVal]
    split
    · rfl
    · cases parse (runes (trimQuotes d)) <;> rfl
  | cql d =>
    by_cases h0 : d.length = 0
    · simp [applyStep, unmarshalCQL, stepVal, h0]
    · by_cases h16 : d.length = 16 <;> simp [applyStep, unmarshalCQL, stepVal, h0, h16]

end Uuid
