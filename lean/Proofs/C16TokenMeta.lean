import Model.TokenMeta
import Proofs.C16ViewAgree
/-! the token-aware policy's metadata (Model/TokenMeta.lean): after `updateAllReplicas` EVERY
replica table is computed from the current token ring; invariant of all sequences of policy operations; the schema
cache holds a keyspace iff a fill is the latest thing that happened to it (`schema_cache_spec`) -/
namespace C16TokenMeta
open Ring ClusterView TokenMeta

/-- what `updateReplicas` writes for keyspace `ks`: its table on the current token ring, when the keyspace is known and
there is a ring -/
def entryOf (te : TEnv) (tring : Option (List RHost)) (ks : Nat) : List (Nat × List RHost) :=
  match te.known ks, tring with
  | true, some l => [(ks, replicaHosts te l)]
  | _, _ => []

theorem updateReplicas_eq (te : TEnv) (tm : TMeta) (ks : Nat) :
    tm.updateReplicas te ks = { tm with repl := entryOf te tm.tring ks ++ tm.repl.filter (fun e => e.1 != ks) } := by
  unfold TMeta.updateReplicas entryOf
  cases te.known ks <;> cases tm.tring <;> rfl

theorem fold_updateReplicas (te : TEnv) (K : List Nat) : ∀ tm : TMeta, K.foldl (TMeta.updateReplicas te) tm =
    { tm with repl := K.foldl (fun r k => entryOf te tm.tring k ++ r.filter (fun e => e.1 != k)) tm.repl } := by
  induction K with
  | nil => intro tm; rfl
  | cons k t ih => intro tm; rw [List.foldl_cons, ih, updateReplicas_eq]; rfl

/-- after the keyspaces `K` were updated, the entry of a keyspace in `K` is its table on the current ring; any other entry is old -/
theorem mem_foldRepl (te : TEnv) (tr : Option (List RHost)) (K : List Nat) : ∀ (r0 : List (Nat × List RHost)) (e : Nat × List RHost),
    e ∈ K.foldl (fun r k => entryOf te tr k ++ r.filter (fun e => e.1 != k)) r0 →
    (e.1 ∈ K → ∃ l, tr = some l ∧ e.2 = replicaHosts te l) ∧ (e.1 ∉ K → e ∈ r0) := by
  induction K with
  | nil => exact fun r0 e he => ⟨fun h => absurd h List.not_mem_nil, fun _ => he⟩
  | cons k t ih =>
    intro r0 e he
    obtain ⟨h1, h2⟩ := ih _ e he
    -- what the update of `k` itself leaves of `e`, if no later update touched it
    have hk : e.1 ∉ t → (e.1 = k → ∃ l, tr = some l ∧ e.2 = replicaHosts te l) ∧ (e.1 ≠ k → e ∈ r0) := by
      intro ht
      rcases List.mem_append.mp (h2 ht) with hm | hm
      · unfold entryOf at hm
        split at hm
        · cases List.mem_singleton.mp hm
          exact ⟨fun _ => ⟨_, rfl, rfl⟩, fun hne => absurd rfl hne⟩
        · cases hm
      · have := List.mem_filter.mp hm
        exact ⟨fun e' => absurd e' (by simpa using this.2), fun _ => this.1⟩
    constructor
    · intro hm
      by_cases ht : e.1 ∈ t
      · exact h1 ht
      · exact (hk ht).1 ((List.mem_cons.mp hm).resolve_right ht)
    · intro hm
      exact (hk fun h => hm (List.mem_cons_of_mem _ h)).2 fun h => hm (h ▸ List.mem_cons_self)

/-- the metadata follows the host list `ta` of the token-aware policy -/
structure TInv (te : TEnv) (tm : TMeta) (ta : List RHost) : Prop where
  ring : ∀ l, tm.tring = some l → l = ta
  nopart : tm.part = false → tm.tring = none
  haspart : tm.part = true → tm.tring = some ta
  repl : ∀ e ∈ tm.repl, tm.tring = some ta ∧ e.2 = replicaHosts te ta

theorem tinv_init (te : TEnv) : TInv te {} [] :=
  ⟨fun l h => (by cases h), fun _ => rfl, fun h => (by cases h), fun e he => (by cases he)⟩

theorem tinv_updateReplicas (te : TEnv) (tm : TMeta) (ta : List RHost) (ks : Nat) (h : TInv te tm ta) :
    TInv te (tm.updateReplicas te ks) ta := by
  rw [updateReplicas_eq]
  refine ⟨h.ring, h.nopart, h.haspart, fun e he => ?_⟩
  obtain ⟨h1, h2⟩ := mem_foldRepl te tm.tring [ks] tm.repl e he
  by_cases hm : e.1 ∈ [ks]
  · obtain ⟨l, hl, hr⟩ := h1 hm
    cases h.ring l hl
    exact ⟨hl, hr⟩
  · exact h.repl e (h2 hm)

/-- `updateAllReplicas` recomputes EVERY table from the token ring: the invariant holds after it as soon as
partitioner flag and token ring fit the list — whatever the tables were -/
theorem tinv_updateAll (te : TEnv) (tm : TMeta) (ta : List RHost)
    (hno : tm.part = false → tm.tring = none) (hhas : tm.part = true → tm.tring = some ta) :
    TInv te (tm.updateAll te) ta := by
  have hring : ∀ l, tm.tring = some l → l = ta := fun l hl => by
    cases hp : tm.part with
    | false => exact nomatch (hno hp).symm.trans hl
    | true => exact Option.some.inj ((hl.symm.trans (hhas hp)))
  unfold TMeta.updateAll
  rw [fold_updateReplicas]
  refine ⟨hring, hno, hhas, fun e he => ?_⟩
  obtain ⟨h1, h2⟩ := mem_foldRepl te tm.tring _ tm.repl e he
  -- every keyspace that had a table is among those recomputed
  have hk : e.1 ∈ te.sessionKs :: (tm.repl.map (·.1)).filter (· != te.sessionKs) := by
    apply Classical.byContradiction
    intro hk
    apply hk
    by_cases hs : e.1 = te.sessionKs
    · rw [hs]; exact List.mem_cons_self
    · exact List.mem_cons_of_mem _ (List.mem_filter.mpr ⟨List.mem_map.mpr ⟨e, h2 hk, rfl⟩, by simpa using hs⟩)
  obtain ⟨l, hl, hr⟩ := h1 hk
  cases hring l hl
  exact ⟨hl, hr⟩

/-- the ring-changing part of AddHost / RemoveHost in the code that exists (token ring first, then the tables)
re-establishes the invariant for the NEW list -/
theorem tinv_ringChanged (te : TEnv) (tm : TMeta) (ta ta' : List RHost) (h : TInv te tm ta) :
    TInv te (tm.ringChanged false te ta') ta' := by
  show TInv te ((tm.reset ta').updateAll te) ta'
  unfold TMeta.reset
  cases hp : tm.part with
  | false =>
    have hnone := h.nopart hp
    exact tinv_updateAll te tm ta' (fun _ => hnone)
      (fun hq => by rw [hp] at hq; cases hq)
  | true =>
    exact tinv_updateAll te _ ta' (fun hq => nomatch (hq : true = false)) (fun _ => rfl)

theorem tinv_setPartitioner (te : TEnv) (tm : TMeta) (ta : List RHost) :
    TInv te ((({ tm with part := true } : TMeta).reset ta).updateAll te) ta :=
  tinv_updateAll te _ ta (fun hq => nomatch (hq : true = false)) (fun _ => rfl)

theorem add_ta' (env : Env) (p : Policy) (h : RHost) : (p.add env h).ta = if env.tokenAware then cowAdd p.ta h else p.ta :=
  C16.add_ta env p h

theorem cowAdd_of_inList (l : List RHost) (h : RHost) (hi : inList l h = true) : cowAdd l h = l := by
  unfold cowAdd; unfold inList at hi; simp [hi]

theorem cowRemove_of_not_inList (l : List RHost) (h : RHost) (hi : inList l h = false) : cowRemove l (cAddr h) = l := by
  unfold cowRemove
  apply List.filter_eq_self.mpr
  intro e he
  unfold inList at hi
  have := List.any_eq_false.mp hi e he
  simpa using this

/-- the invariant of all sequences of policy operations: the metadata follows the policy's token-aware list -/
theorem pinv_step (env : Env) (te : TEnv) (s : PS) (o : PolOp) (h : TInv te s.tm s.p.ta) :
    TInv te (pstep env te s o).tm (pstep env te s o).p.ta := by
  cases o with
  | add x =>
    show TInv te _ (s.p.add env x).ta
    rw [C16.add_ta]
    simp only [pstep, pstepWith]
    cases hta : env.tokenAware with
    | false => simpa using h
    | true =>
      cases hi : inList s.p.ta x with
      | true => simp only [Bool.true_and, Bool.not_true, if_true]; rw [cowAdd_of_inList _ _ hi]; simpa using h
      | false => simpa using tinv_ringChanged te s.tm s.p.ta _ h
  | remove x =>
    show TInv te _ (s.p.remove env x).ta
    rw [C16.remove_ta]
    simp only [pstep, pstepWith]
    cases hta : env.tokenAware with
    | false => simpa using h
    | true =>
      cases hi : inList s.p.ta x with
      | false => simp only [Bool.true_and, if_true]; rw [cowRemove_of_not_inList _ _ hi]; simpa using h
      | true => simpa using tinv_ringChanged te s.tm s.p.ta _ h
  | up x =>
    show TInv te s.tm (s.p.up env x).ta
    have : (s.p.up env x).ta = s.p.ta := C16.fbAdd_ta env s.p x
    rw [this]; exact h
  | down x =>
    show TInv te s.tm (s.p.dn env x).ta
    have : (s.p.dn env x).ta = s.p.ta := C16.fbRemove_ta env s.p x
    rw [this]; exact h
  | setPartitioner =>
    simp only [pstep, pstepWith]
    cases hta : env.tokenAware with
    | false => simpa using h
    | true =>
      cases hp : s.tm.part with
      | true => simpa using h
      | false => simpa using tinv_setPartitioner te s.tm s.p.ta
  | keyspaceChanged ks =>
    simp only [pstep, pstepWith]
    cases hta : env.tokenAware with
    | false => simpa using h
    | true => simpa using tinv_updateReplicas te s.tm s.p.ta ks h

theorem pinv_run (env : Env) (te : TEnv) (ops : List PolOp) : ∀ s, TInv te s.tm s.p.ta →
    TInv te (prun env te s ops).tm (prun env te s ops).p.ta :=
  foldl_inv (fun s : PS => TInv te s.tm s.p.ta) _ (pinv_step env te) ops

theorem refs_subset (te : TEnv) (tm : TMeta) (ta : List RHost) (h : TInv te tm ta) : ∀ x ∈ tm.refs, x ∈ ta := by
  intro x hx
  unfold TMeta.refs at hx
  rcases List.mem_append.mp hx with hx | hx
  · cases ht : tm.tring with
    | none => rw [ht] at hx; simp at hx
    | some l =>
      rw [ht] at hx
      have := h.ring l ht
      subst this
      simpa using hx
  · rcases List.mem_flatten.mp hx with ⟨l, hl, hxl⟩
    rcases List.mem_map.mp hl with ⟨e, he, rfl⟩
    have := (h.repl e he).2
    rw [this] at hxl
    exact (List.mem_filter.mp hxl).1

theorem schemaFold_cache (env : Env) (te : TEnv) (p : Policy) (b : List SchemaEv) : ∀ (s : SchemaSt) (ks : Nat),
    (handleSchemaEvent env te p s b).cache.contains ks = (!(b.any (fun e => e.ks == ks)) && s.cache.contains ks) := by
  induction b with
  | nil => intro s ks; simp [handleSchemaEvent]
  | cons e t ih =>
    intro s ks
    have hstep : (schemaStep env te p s e).cache = s.cache.filter (· != e.ks) := by cases e <;> rfl
    show (handleSchemaEvent env te p (schemaStep env te p s e) t).cache.contains ks = _
    rw [ih, hstep]
    by_cases hk : e.ks = ks
    · subst hk; simp
    · have : (e.ks == ks) = false := by simpa using hk
      have hne : ks ≠ e.ks := fun h => hk h.symm
      simp [this, List.contains_eq_mem, List.mem_filter, hne]

theorem schema_cache_spec (env : Env) (te : TEnv) (p : Policy) (ks : Nat) : ∀ (rev : List SchemaOp),
    (rev.reverse.foldl (schemaOp env te p) {}).cache.contains ks = cachedSpecRev ks rev := by
  intro rev
  induction rev with
  | nil => rfl
  | cons o t ih =>
    rw [List.reverse_cons, List.foldl_append]
    simp only [List.foldl_cons, List.foldl_nil]
    cases o with
    | fill k =>
      simp only [schemaOp, cachedSpecRev]
      rw [← ih]
      generalize (List.foldl (schemaOp env te p) {} t.reverse).cache = c
      by_cases hc : c.contains k = true
      · rw [if_pos hc]
        by_cases hk : k = ks
        · subst hk; rw [hc, Bool.or_true]
        · rw [beq_false_of_ne hk, Bool.false_or]
      · rw [if_neg hc, List.contains_cons, BEq.comm]
    | events b =>
      simp only [schemaOp, cachedSpecRev]
      rw [schemaFold_cache, ih]

end C16TokenMeta
