import Model.ValueSpec
/-!
# Big-endian byte strings and two's complement, for any number of bytes

`beNat` / `beBytes` (unsigned) of the value specification are the shared notions: every model's own "read / write an
n-byte unsigned integer" is one of them at n = 2, 4 (`beBytes_two/four`, `beNat_two/four` give the unrolled shapes the
models are written in, `two_roundtrip/four_roundtrip` both directions at once).  Two's complement is `Int.bmod` of core:
`tcDec b = (beNat b).bmod (256 ^ |b|)`, so wrap-around facts are `Int.emod_bmod`, `Int.bmod_emod`, `Int.bmod_eq_of_le`.
The signed notions `tcDec` / `tcEnc` / `fitsS`, with the sign byte and the least number of bytes a value needs, are the
marshal families' (C02, C12); the frame and wire models only reinterpret a residue: `wrap_emod`.
"bits and powers" holds what is about `Nat` / `BitVec` alone: OR onto cleared bits, the test of one bit, `2 ^ (8k) = 256 ^ k`.
-/
namespace BE
open ValueSpec

/-! ## one byte -/

theorem toNat_ofNat (n : Nat) : (UInt8.ofNat n).toNat = n % 256 := UInt8.toNat_ofNat'

theorem toNat_ofNat_lt {n : Nat} (h : n < 256) : (UInt8.ofNat n).toNat = n := UInt8.toNat_ofNat_of_lt' h

theorem ofNat_mod (n : Nat) : UInt8.ofNat (n % 256) = UInt8.ofNat n := UInt8.ofNat_mod_size

theorem ofNat_congr {a b : Nat} (h : a % 256 = b % 256) : UInt8.ofNat a = UInt8.ofNat b := by
  rw [← ofNat_mod a, h, ofNat_mod]

theorem byteOfNat_toNat (n : Nat) : (byteOfNat n).toNat = n % 256 := by
  rw [byteOfNat, toNat_ofNat, Nat.mod_mod]

/-! ## bits and powers -/

/-- OR onto cleared low bits is addition: the step of every shift-and-or assembly of bytes -/
theorem or_shl (a i y : Nat) (hy : y < 2 ^ i) : a <<< i ||| y = a * 2 ^ i + y := by
  rw [← Nat.shiftLeft_add_eq_or_of_lt hy, Nat.shiftLeft_eq]

theorem twoPow_ne_zero {w k : Nat} (hk : k < w) : BitVec.twoPow w k ≠ 0#w := fun h => by
  simpa [hk] using congrArg (·.getLsbD k) h

/-- the test of one bit as Go writes it, `x & (1 << k) == 0` and `== 1 << k` (`0x80#8` … and `1#w` are such masks) -/
theorem bit_clear {w : Nat} (x : BitVec w) (k : Nat) (hk : k < w) : (x &&& BitVec.twoPow w k == 0#w) = !x.getLsbD k := by
  rw [BitVec.and_twoPow]; cases x.getLsbD k <;> simp [twoPow_ne_zero hk]

theorem bit_set {w : Nat} (x : BitVec w) (k : Nat) (hk : k < w) :
    (x &&& BitVec.twoPow w k == BitVec.twoPow w k) = x.getLsbD k := by
  rw [BitVec.and_twoPow]; cases x.getLsbD k <;> simp [(twoPow_ne_zero hk).symm]

theorem pow256_pos (k : Nat) : 0 < 256 ^ k := Nat.pow_pos (by decide)

theorem pow256_even (k : Nat) (h : 1 ≤ k) : ∃ q, 256 ^ k = 2 * q := by
  obtain ⟨j, rfl⟩ : ∃ j, k = j + 1 := ⟨k - 1, by omega⟩
  exact ⟨128 * 256 ^ j, by rw [Nat.pow_succ]; omega⟩

theorem cast_pow256 (k : Nat) : ((256 ^ k : Nat) : Int) = (256:Int) ^ k := by
  rw [Int.natCast_pow]; rfl

theorem pow2_mul8 (k : Nat) : 2 ^ (k * 8) = 256 ^ k := by
  rw [Nat.mul_comm, Nat.pow_mul]

theorem two_pow_mul8 (k : Nat) : (2:Int) ^ (k * 8) = (256:Int) ^ k := by
  rw [Nat.mul_comm, Int.pow_mul]; rfl

theorem pow2_le {a b : Nat} (h : a ≤ b) : (2:Int) ^ a ≤ (2:Int) ^ b := by
  have e : ∀ c, ((2 ^ c : Nat) : Int) = (2:Int) ^ c := fun c => by rw [Int.natCast_pow]; rfl
  rw [← e, ← e]; exact Int.ofNat_le.mpr (Nat.pow_le_pow_right (by decide) h)

/-! ## unsigned: `beNat`, `beBytes` -/

theorem beNat_snoc (l : Bytes) (x : UInt8) : beNat (l ++ [x]) = beNat l * 256 + x.toNat := by
  simp [beNat, List.foldl_append]

theorem foldl_shift (l : Bytes) (a : Nat) :
    l.foldl (fun a x => a * 256 + x.toNat) a = a * 256 ^ l.length + beNat l := by
  induction l generalizing a with
  | nil => simp [beNat]
  | cons x r ih =>
    rw [beNat, List.foldl_cons, List.foldl_cons, ih, ih (0 * 256 + x.toNat), List.length_cons, Nat.pow_succ]
    simp [Nat.add_mul, Nat.mul_assoc, Nat.add_assoc, Nat.mul_comm 256]

theorem beNat_cons (x : UInt8) (r : Bytes) : beNat (x :: r) = x.toNat * 256 ^ r.length + beNat r := by
  rw [beNat, List.foldl_cons, foldl_shift, Nat.zero_mul, Nat.zero_add]

theorem beNat_append (a b : Bytes) : beNat (a ++ b) = beNat a * 256 ^ b.length + beNat b := by
  rw [beNat, List.foldl_append, foldl_shift]; rfl

theorem beNat_lt (b : Bytes) : beNat b < 256 ^ b.length := by
  induction b with
  | nil => simp [beNat]
  | cons x r ih =>
    rw [beNat_cons, List.length_cons, Nat.pow_succ]
    have h1 : x.toNat * 256 ^ r.length ≤ 255 * 256 ^ r.length := Nat.mul_le_mul_right _ (by have := x.toNat_lt; omega)
    omega

/-- the models that define the value by recursion from the front define the same function -/
theorem beNat_unique (f : Bytes → Nat) (h0 : f [] = 0) (hc : ∀ b bs, f (b :: bs) = b.toNat * 256 ^ bs.length + f bs) :
    ∀ l, f l = beNat l
  | [] => h0
  | b :: bs => by rw [hc, beNat_cons, beNat_unique f h0 hc bs]

theorem beBytes_length (k n : Nat) : (beBytes k n).length = k := by
  induction k generalizing n with
  | zero => rfl
  | succ k ih => simp [beBytes, ih]

theorem beNat_beBytes (k n : Nat) : beNat (beBytes k n) = n % 256 ^ k := by
  induction k generalizing n with
  | zero => simp [beBytes, beNat, Nat.mod_one]
  | succ k ih =>
    rw [beBytes, beNat_snoc, ih, byteOfNat_toNat, Nat.pow_succ, Nat.mul_comm (256 ^ k) 256, Nat.mod_mul]
    omega

theorem beNat_beBytes_lt {k n : Nat} (h : n < 256 ^ k) : beNat (beBytes k n) = n := by
  rw [beNat_beBytes, Nat.mod_eq_of_lt h]

theorem beNat_inj : ∀ {a b : Bytes}, a.length = b.length → beNat a = beNat b → a = b
  | [], [], _, _ => rfl
  | x :: r, y :: s, hl, h => by
    have hl : r.length = s.length := by simpa using hl
    have hP := pow256_pos s.length
    have hr := beNat_lt r
    have hs := beNat_lt s
    rw [beNat_cons, beNat_cons, hl, Nat.mul_comm, Nat.mul_comm y.toNat] at h
    rw [hl] at hr
    have hd := congrArg (· / 256 ^ s.length) h
    have hm := congrArg (· % 256 ^ s.length) h
    simp only [Nat.mul_add_div hP, Nat.div_eq_of_lt hr, Nat.div_eq_of_lt hs, Nat.add_zero] at hd
    simp only [Nat.mul_add_mod, Nat.mod_eq_of_lt hr, Nat.mod_eq_of_lt hs] at hm
    rw [UInt8.toNat_inj.mp hd, beNat_inj hl hm]

theorem beBytes_beNat (b : Bytes) : beBytes b.length (beNat b) = b :=
  beNat_inj (beBytes_length _ _) (beNat_beBytes_lt (beNat_lt b))

/-- only the low `k` bytes of `n` are written -/
theorem beBytes_congr {k a b : Nat} (h : a % 256 ^ k = b % 256 ^ k) : beBytes k a = beBytes k b :=
  beNat_inj (by rw [beBytes_length, beBytes_length]) (by rw [beNat_beBytes, beNat_beBytes, h])

theorem beBytes_add_mul (k n M : Nat) : beBytes k (n + M * 256 ^ k) = beBytes k n :=
  beBytes_congr (Nat.add_mul_mod_self_right _ _ _)

/-- the bytes from the front -/
theorem beBytes_head (k n : Nat) : beBytes (k + 1) n = byteOfNat (n / 256 ^ k) :: beBytes k n := by
  induction k generalizing n with
  | zero => simp [beBytes]
  | succ k ih =>
    rw [beBytes, ih, beBytes, Nat.div_div_eq_div_mul, Nat.pow_succ, Nat.mul_comm 256]
    rfl

/-! the shapes the models' encoders and decoders are written in -/

theorem beBytes_two (n : Nat) : beBytes 2 n = [UInt8.ofNat (n / 256), UInt8.ofNat n] := by
  simp only [beBytes, byteOfNat, ofNat_mod, List.nil_append, List.cons_append]

theorem beBytes_four (n : Nat) :
    beBytes 4 n = [UInt8.ofNat (n / 16777216), UInt8.ofNat (n / 65536), UInt8.ofNat (n / 256), UInt8.ofNat n] := by
  simp only [beBytes, byteOfNat, ofNat_mod, Nat.div_div_eq_div_mul, Nat.reduceMul, List.nil_append, List.cons_append]

theorem beNat_two (a b : UInt8) : beNat [a, b] = a.toNat * 256 + b.toNat := by simp [beNat]

theorem beNat_four (a b c d : UInt8) :
    beNat [a, b, c, d] = ((a.toNat * 256 + b.toNat) * 256 + c.toNat) * 256 + d.toNat := by simp [beNat]

/-- two / four bytes written and read back, as the models spell both directions out -/
theorem two_roundtrip (n : Nat) : (UInt8.ofNat (n / 256)).toNat * 256 + (UInt8.ofNat n).toNat = n % 65536 :=
  (beNat_two _ _).symm.trans (beBytes_two n ▸ beNat_beBytes 2 n)

theorem four_roundtrip (n : Nat) :
    (((UInt8.ofNat (n / 16777216)).toNat * 256 + (UInt8.ofNat (n / 65536)).toNat) * 256
      + (UInt8.ofNat (n / 256)).toNat) * 256 + (UInt8.ofNat n).toNat = n % 4294967296 :=
  (beNat_four _ _ _ _).symm.trans (beBytes_four n ▸ beNat_beBytes 4 n)

/-- … and the two bytes of a little-endian 16-bit field (offsets and lengths of the block formats) -/
theorem le16_roundtrip {n : Nat} (h : n < 65536) :
    (UInt8.ofNat (n % 256)).toNat + 256 * (UInt8.ofNat (n / 256)).toNat = n := by
  rw [toNat_ofNat, toNat_ofNat]; omega

/-! ## two's complement: `tcDec`, `tcEnc`, and the ranges `fitsS` / `fitsU` -/

theorem fitsS_iff {k : Nat} {n : Int} : fitsS k n = true ↔ -((256:Int) ^ k) ≤ 2 * n ∧ 2 * n < (256:Int) ^ k := by
  simp only [fitsS, Bool.and_eq_true, leB_iff, ltB_iff]

theorem fitsS_false_iff {k : Nat} {n : Int} : fitsS k n = false ↔ 2 * n < -((256:Int) ^ k) ∨ (256:Int) ^ k ≤ 2 * n := by
  rw [← Bool.not_eq_true, fitsS_iff]; omega

theorem fitsU_iff {k : Nat} {n : Int} : fitsU k n = true ↔ 0 ≤ n ∧ n < (256:Int) ^ k := by
  simp only [fitsU, Bool.and_eq_true, leB_iff, ltB_iff]

/-- two's complement is the balanced residue -/
theorem tcDec_eq_bmod (b : Bytes) : tcDec b = (beNat b : Int).bmod (256 ^ b.length) := by
  have hl := beNat_lt b
  have hm : ((beNat b : Nat) : Int) % ((256 ^ b.length : Nat) : Int) = beNat b := by
    rw [← Int.natCast_emod, Nat.mod_eq_of_lt hl]
  rw [tcDec, Int.bmod_def, hm, ← cast_pow256]
  cases b with
  | nil => simp [beNat]
  | cons x r =>
    obtain ⟨q, hq⟩ := pow256_even (x :: r).length (by simp)
    split <;> split <;> omega

theorem tcEnc_length (k : Nat) (n : Int) : (tcEnc k n).length = k := beBytes_length _ _

theorem beNat_tcEnc (k : Nat) (n : Int) : (beNat (tcEnc k n) : Int) = n % (256:Int) ^ k := by
  have hp : (0:Int) < (256:Int) ^ k := Int.pow_pos (by decide)
  rw [tcEnc, beNat_beBytes, Int.natCast_emod, cast_pow256, Int.toNat_of_nonneg (Int.emod_nonneg _ (Int.ne_of_gt hp)),
    Int.emod_emod_of_dvd _ (Int.dvd_refl _)]

theorem tcDec_tcEnc_bmod (k : Nat) (n : Int) : tcDec (tcEnc k n) = n.bmod (256 ^ k) := by
  rw [tcDec_eq_bmod, beNat_tcEnc, tcEnc_length, ← cast_pow256, Int.emod_bmod]

/-- the bytes written depend on the number modulo `256^k` only -/
theorem tcEnc_congr {k : Nat} {x y : Int} (h : x % (256:Int) ^ k = y % (256:Int) ^ k) : tcEnc k x = tcEnc k y := by
  rw [tcEnc, tcEnc, h]

theorem tcEnc_bmod (k : Nat) (x : Int) : tcEnc k (x.bmod (256 ^ k)) = tcEnc k x :=
  tcEnc_congr (by rw [← cast_pow256, Int.bmod_emod])

theorem tcEnc_tcDec (b : Bytes) : tcEnc b.length (tcDec b) = b := by
  rw [tcDec_eq_bmod, tcEnc_bmod, tcEnc, ← cast_pow256, ← Int.natCast_emod, Int.toNat_natCast,
    Nat.mod_eq_of_lt (beNat_lt b), beBytes_beNat]

/-- `tcDec ∘ tcEnc k` is the identity on the `k`-byte signed range (and nowhere else: `fitsS_tcDec`) -/
theorem tcDec_tcEnc (k : Nat) (n : Int) (hk : 1 ≤ k) (h : fitsS k n = true) : tcDec (tcEnc k n) = n := by
  rw [fitsS_iff, ← cast_pow256] at h
  obtain ⟨q, hq⟩ := pow256_even k hk
  rw [tcDec_tcEnc_bmod]
  exact Int.bmod_eq_of_le (by omega) (by omega)

theorem tcDec_range (b : Bytes) : -((256:Int) ^ b.length) ≤ 2 * tcDec b ∧ 2 * tcDec b < (256:Int) ^ b.length := by
  have hp := pow256_pos b.length
  have h1 := @Int.le_bmod (beNat b) (256 ^ b.length) hp
  have h2 := @Int.bmod_lt (beNat b) (256 ^ b.length) hp
  rw [tcDec_eq_bmod, ← cast_pow256]
  omega

theorem fitsS_tcDec (b : Bytes) : fitsS b.length (tcDec b) = true := fitsS_iff.mpr (tcDec_range b)

/-- the sign is in the front part; what follows only shifts it -/
theorem tcDec_append (a b : Bytes) (ha : 0 < a.length) :
    tcDec (a ++ b) = tcDec a * (256:Int) ^ b.length + beNat b := by
  obtain ⟨q, hq⟩ := pow256_even a.length ha
  have hA := beNat_lt a
  have hB := beNat_lt b
  unfold tcDec
  rw [beNat_append, List.length_append, ← cast_pow256, ← cast_pow256, ← cast_pow256, Nat.pow_add]
  generalize 256 ^ a.length = P at *
  generalize 256 ^ b.length = Q at *
  generalize beNat a = A at *
  generalize beNat b = B at *
  subst hq
  have h1 : 2 * (A * Q + B) ≥ 2 * q * Q ↔ 2 * A ≥ 2 * q := by
    constructor
    · intro h
      apply Classical.byContradiction; intro hc
      have : (A + 1) * Q ≤ q * Q := Nat.mul_le_mul_right _ (by omega)
      rw [Nat.add_mul, Nat.one_mul] at this
      rw [Nat.mul_assoc] at h
      omega
    · intro h
      have : q * Q ≤ A * Q := Nat.mul_le_mul_right _ (by omega)
      rw [Nat.mul_assoc]
      omega
  by_cases h : 2 * A ≥ 2 * q
  · rw [if_pos (h1.mpr h), if_pos h]; push_cast; rw [Int.sub_mul]; omega
  · rw [if_neg (fun hh => h (h1.mp hh)), if_neg h]; push_cast; rfl

/-! ## sign, and the number of bytes a value needs -/

theorem sign_iff_head (x : UInt8) (r : Bytes) :
    2 * beNat (x :: r) ≥ 256 ^ (x :: r).length ↔ x.toNat ≥ 128 := by
  have hx : x.toNat < 256 := x.toNat_lt
  have hr := beNat_lt r
  have hpos := pow256_pos r.length
  rw [beNat_cons, List.length_cons, Nat.pow_succ]
  generalize 256 ^ r.length = Q at *
  generalize beNat r = s at *
  constructor
  · intro h
    by_cases hc : x.toNat ≥ 128
    · exact hc
    · exfalso
      have : x.toNat * Q ≤ 127 * Q := Nat.mul_le_mul_right _ (by omega)
      omega
  · intro h
    have : 128 * Q ≤ x.toNat * Q := Nat.mul_le_mul_right _ h
    omega

theorem tcDec_neg_head (x : UInt8) (r : Bytes) (h : tcDec (x :: r) < 0) : x.toNat ≥ 128 := by
  rw [tcDec] at h
  split at h
  · exact (sign_iff_head x r).mp ‹_›
  · omega

theorem tcDec_cons (x : UInt8) (r : Bytes) :
    tcDec (x :: r) = (if x.toNat ≥ 128 then (x.toNat : Int) - 256 else x.toNat) * (256:Int) ^ r.length + beNat r := by
  have e : tcDec [x] = if x.toNat ≥ 128 then (x.toNat : Int) - 256 else x.toNat := by
    simp only [tcDec, beNat, List.foldl, List.length_singleton, Nat.zero_mul, Nat.zero_add]
    split <;> split <;> omega
  rw [← e]; exact tcDec_append [x] r (Nat.zero_lt_succ _)

/-- the two's complement of a negative number: the unsigned value is the number plus `256^L` -/
theorem tcEnc_neg (L : Nat) (n : Int) (h1 : -((256:Int) ^ L) ≤ n) (h2 : n < 0) :
    tcEnc L n = beBytes L (n + (256:Int) ^ L).toNat := by
  rw [tcEnc, ← Int.add_mul_emod_self_left n ((256:Int) ^ L) 1, Int.mul_one, Int.emod_eq_of_lt (by omega) (by omega)]

theorem fitsS_mono {j k : Nat} (h : j ≤ k) {n : Int} (hf : fitsS j n = true) : fitsS k n = true := by
  simp only [fitsS_iff] at hf ⊢
  have : (256:Int) ^ j ≤ (256:Int) ^ k := by
    rw [← cast_pow256, ← cast_pow256]; exact Int.ofNat_le.mpr (Nat.pow_le_pow_right (by decide) h)
  omega

theorem tcEnc_natCast (k n : Nat) (h : n < 256 ^ k) : tcEnc k (n : Int) = beBytes k n := by
  rw [tcEnc, ← cast_pow256, ← Int.natCast_emod, Int.toNat_natCast, Nat.mod_eq_of_lt h]

theorem tcDec_zero_cons (b : Bytes) : tcDec (0 :: b) = beNat b := by
  rw [tcDec_cons]; simp

theorem tcDec_beBytes (k m : Nat) (hk : 1 ≤ k) (h : 2 * m < 256 ^ k) : tcDec (beBytes k m) = m := by
  rw [← tcEnc_natCast k m (by omega), tcDec_tcEnc k _ hk (fitsS_iff.mpr (by rw [← cast_pow256]; omega))]

/-! ## the same in the shapes Go conversions are modelled in -/

/-- the reinterpretation of an unsigned `M`-residue each model writes out for its width -/
private theorem bmod_natCast {M u : Nat} (hM : M % 2 = 0) (hu : u < M) :
    (u : Int).bmod M = if u < M / 2 then (u : Int) else (u : Int) - M := by
  rw [Int.bmod_def, ← Int.natCast_emod, Nat.mod_eq_of_lt hu]
  split <;> split <;> omega

/-- reading back the low `M`-residue of a number of the signed range -/
theorem wrap_emod (M : Nat) (hM : M % 2 = 0) (z : Int) (h1 : -(M : Int) ≤ 2 * z) (h2 : 2 * z < M) :
    (if (z % M).toNat < M / 2 then ((z % M).toNat : Int) else ((z % M).toNat : Int) - M) = z := by
  have h0 : (0:Int) < M := by omega
  have hn := Int.emod_nonneg z (Int.ne_of_gt h0)
  have hu : (z % M).toNat < M := by have := Int.emod_lt_of_pos z h0; omega
  rw [← bmod_natCast hM hu, Int.toNat_of_nonneg hn, Int.emod_bmod]
  exact Int.bmod_eq_of_le (by omega) (by omega)

/-- `intN(x)` written as shift, reduce, shift back -/
theorem bmod_two_pow (w : Nat) (hw : 1 ≤ w) (x : Int) :
    (x + (2:Int) ^ (w - 1)) % (2:Int) ^ w - (2:Int) ^ (w - 1) = x.bmod (2 ^ w) := by
  obtain ⟨j, rfl⟩ : ∃ j, w = j + 1 := ⟨w - 1, by omega⟩
  have hp : 0 < 2 ^ j := Nat.pow_pos (by decide)
  have e1 : (2:Int) ^ j = ((2 ^ j : Nat) : Int) := by rw [Int.natCast_pow]; rfl
  have e2 : (2:Int) ^ (j + 1) = ((2 ^ (j + 1) : Nat) : Int) := by rw [Int.natCast_pow]; rfl
  have e3 : 2 ^ (j + 1) = 2 * 2 ^ j := by rw [Nat.pow_succ, Nat.mul_comm]
  rw [Nat.add_sub_cancel, e1, e2, e3]
  generalize 2 ^ j = P at hp
  have hn := Int.emod_nonneg (x + P) (show ((2 * P : Nat) : Int) ≠ 0 by omega)
  have hl := Int.emod_lt_of_pos (x + P) (show (0:Int) < ((2 * P : Nat) : Int) by omega)
  rw [← Int.bmod_eq_of_le (n := (x + P) % ((2 * P : Nat) : Int) - P) (m := 2 * P) (by omega) (by omega),
    ← Int.emod_bmod, Int.sub_emod, Int.emod_emod, ← Int.sub_emod, Int.add_sub_cancel, Int.emod_bmod]

end BE
