import Model.Pool
import Proofs.Common
/-!
  refreshDebouncer with its broadcaster and the refreshNow() waiters (`WDeb` of `Model/Pool.lean`). `WInv`: every waiter ever
  handed a channel is served, shut, or on one of the two broadcasters the flusher still holds, and a flusher that has returned
  holds none. So after stop() the flusher's last steps release everybody (`drain`). In the two variants that leave a
  broadcaster behind a returned flusher, a waiter on it stays there (`Strand`).
-/
namespace C17Deb
open Pool

/-- invariant of the debouncer machine (`fixed` = the variant whose refreshNow looks at `stopped`) -/
structure WInv (fixed : Bool) (d : WDeb) : Prop where
  cover : ∀ w, w < d.nextW → w ∈ d.served ∨ w ∈ d.shut ∨ w ∈ ls d.pend ∨ w ∈ ls d.cur
  curRef : d.f ≠ .refreshing → d.cur = none
  exitedStopped : d.f = .exited → d.stopped = true
  stopQuit : d.stopped = true → d.quitClosed = true
  noPend : d.f = .exited → (fixed = true ∨ d.late = false) → d.pend = none

theorem winv_init (fixed : Bool) : WInv fixed WDeb.init := by
  constructor <;> simp [WDeb.init]

theorem winv_refreshNow (fixed : Bool) (d : WDeb) (h : WInv fixed d) : WInv fixed (wRefreshNow fixed d) := by
  -- the new waiter is `d.nextW`; every branch puts it on a list and drops nobody
  have cov : ∀ w, w < d.nextW + 1 → w = d.nextW ∨ w ∈ d.served ∨ w ∈ d.shut ∨ w ∈ ls d.pend ∨ w ∈ ls d.cur :=
    fun w hw => if hx : w = d.nextW then .inl hx else .inr (h.cover w (by omega))
  -- a refreshNow that still registers on a debouncer whose flusher has returned is the old variant's, and sets `late`
  have late : ¬ (fixed && d.stopped) = true → ∀ x : Option (List Nat), d.f = .exited →
      (fixed = true ∨ (d.late || d.f == .exited) = false) → x = none := fun hc x he hl => by
    have := h.exitedStopped he
    cases fixed <;> simp_all
  fun_cases wRefreshNow fixed d
  -- stopped: a closed channel
  case case1 => exact { h with cover := fun w hw => by rcases cov w hw with a | a | a | a | a <;> simp [a] }
  -- a new broadcaster / one more listener on the pending one
  case case2 hc hp | case3 hc _ hp =>
    exact { h with
            cover := fun w hw => by rcases cov w hw with a | a | a | a | a <;> simp [hp, ls] at a ⊢ <;> simp [a]
            noPend := late hc _ }

theorem winv_step (fixed : Bool) (d d' : WDeb) (a : WAct) (h : WInv fixed d) (hs : wstepG fixed d a = some d') :
    WInv fixed d' := by
  -- in front of the mutex nothing is being refreshed, so the waiters not yet served or shut are the pending ones
  have woken : d.f = .woken → d.cur = none ∧ ∀ w, w < d.nextW → w ∈ d.served ∨ w ∈ d.shut ∨ w ∈ ls d.pend := fun hc =>
    have hcur := h.curRef (by rw [hc]; decide)
    ⟨hcur, fun w hw => by simpa [hcur, ls] using h.cover w hw⟩
  revert hs; fun_cases wstepG fixed d a <;> intro hs <;> cases hs
  case case1 => exact winv_refreshNow fixed d h                    -- refreshNow
  case case2 | case3 => exact { h with }                             -- debounce
  -- wake: the select takes a ready case
  case case4 b hc =>
    have hcur := h.curRef (by rw [hc.1]; decide)
    cases b <;> exact { h with curRef := fun _ => hcur, exitedStopped := nofun, noPend := nofun }
  -- lock, stopped: the pending broadcaster is shut, the flusher returns
  case case6 hc hst =>
    obtain ⟨hcur, cov⟩ := woken hc
    exact { h with
            cover := fun w hw => by rcases cov w hw with a | a | a <;> simp [a]
            curRef := fun _ => hcur
            exitedStopped := fun _ => hst
            noPend := fun _ _ => rfl }
  -- lock, not stopped: a refresh starts with the pending broadcaster
  case case7 hc _ =>
    obtain ⟨_, cov⟩ := woken hc
    exact { h with
            cover := fun w hw => by simpa [ls] using cov w hw
            curRef := fun e => absurd rfl e
            exitedStopped := nofun
            noPend := nofun }
  -- refreshDone: its waiters are served
  case case9 =>
    exact { h with
            cover := fun w hw => by rcases h.cover w hw with a | a | a | a <;> simp [a]
            curRef := fun _ => rfl
            exitedStopped := nofun
            noPend := nofun }
  case case11 => exact { h with exitedStopped := fun _ => rfl, stopQuit := fun _ => rfl }   -- stop

theorem isRun (fixed : Bool) : IsRun (wstepG fixed) (wrunG fixed) :=
  ⟨fun _ => rfl, fun d a as => by rw [wrunG]; cases wstepG fixed d a <;> rfl⟩

theorem winv_run (fixed : Bool) : ∀ (as : List WAct) (d d' : WDeb), WInv fixed d → wrunG fixed d as = some d' → WInv fixed d' :=
  fun _ _ _ => (isRun fixed).inv (winv_step fixed)

theorem wConsume_lists (d : WDeb) (b : WakeBy) : (wConsume d b).served = d.served ∧ (wConsume d b).shut = d.shut := by
  cases b <;> exact ⟨rfl, rfl⟩

theorem released_mono (fixed : Bool) (d d' : WDeb) (a : WAct) (hs : wstepG fixed d a = some d') :
    (∀ w, w ∈ d.served → w ∈ d'.served) ∧ (∀ w, w ∈ d.shut → w ∈ d'.shut) := by
  -- every enabled branch leaves `served` and `shut` as they are or appends to one of them
  revert hs; fun_cases wstepG fixed d a <;> intro hs <;> cases hs
  case case1 => fun_cases wRefreshNow fixed d <;> exact ⟨fun w h => by simp [h], fun w h => by simp [h]⟩
  all_goals exact ⟨fun w h => by simp [h, wConsume_lists], fun w h => by simp [h, wConsume_lists]⟩

/-- after stop the flusher reaches its exit by at most three steps of its own, and with it every waiter that is
    registered in `d` is released — given that the pending broadcaster is still reachable by the flusher
    (`d.f = exited → d.pend = none`) -/
theorem drain (fixed : Bool) (d : WDeb) (h : WInv fixed d) (hs : d.stopped = true)
    (hp : d.f = .exited → d.pend = none) :
    ∃ bs d', bs.length ≤ 3 ∧ (∀ b ∈ bs, b = .wake .quit ∨ b = .lock ∨ b = .refreshDone) ∧
      wrunG fixed d bs = some d' ∧ d'.f = .exited ∧ ∀ w, w < d.nextW → d'.released w := by
  obtain ⟨h1, h2, h3, h4, h5⟩ := h
  have hq := h4 hs
  -- what the flusher's remaining steps move: the running refresh's waiters to `served`, the pending ones to `shut`
  have rel : ∀ w, w < d.nextW → w ∈ d.served ++ ls d.cur ∨ w ∈ d.shut ++ ls d.pend := fun w hw => by
    rcases h1 w hw with a | a | a | a <;> simp [a]
  cases hf : d.f with
  | exited =>
    exact ⟨[], d, by simp, by simp, rfl, hf, fun w hw => by
      simpa [WDeb.released, hp hf, h2 (by simp [hf]), ls] using rel w hw⟩
  | woken =>
    exact ⟨[.lock], { d with f := .exited, timerArmed := false, shut := d.shut ++ ls d.pend, pend := none },
      by simp, by simp, by simp [wrunG, wstepG, hf, hs], rfl, fun w hw => by
      simpa [WDeb.released, h2 (by simp [hf]), ls] using rel w hw⟩
  | select =>
    exact ⟨[.wake .quit, .lock], { d with f := .exited, timerArmed := false, shut := d.shut ++ ls d.pend, pend := none },
      by simp, by simp, by simp [wrunG, wstepG, hf, hs, hq, wReady, wConsume], rfl, fun w hw => by
      simpa [WDeb.released, h2 (by simp [hf]), ls] using rel w hw⟩
  | refreshing =>
    exact ⟨[.refreshDone, .wake .quit, .lock],
      { d with f := .exited, timerArmed := false, served := d.served ++ ls d.cur, cur := none,
               shut := d.shut ++ ls d.pend, pend := none },
      by simp, by simp, by simp [wrunG, wstepG, hf, hs, hq, wReady, wConsume], rfl, rel⟩

/-- waiter `w` sits on the pending broadcaster of a debouncer whose flusher has returned: nobody is left to serve it or to
    close its channel -/
structure Strand (w : Nat) (t : WDeb) : Prop where
  exited : t.f = .exited
  pend : w ∈ ls t.pend
  served : w ∉ t.served
  shut : w ∉ t.shut
  lt : w < t.nextW

theorem Strand.not_released {w : Nat} {t : WDeb} (h : Strand w t) : ¬ t.released w :=
  fun hr => Or.elim hr h.served h.shut

/-- with the flusher gone only refreshNow / debounce / stop are enabled, and they add waiters behind `w` at most -/
theorem strand_step (fixed : Bool) (w : Nat) (t t' : WDeb) (b : WAct) (h : Strand w t) (hs : wstepG fixed t b = some t') :
    Strand w t' := by
  obtain ⟨h1, h2, h3, h4, h5⟩ := h
  revert hs; fun_cases wstepG fixed t b <;> intro hs <;> cases hs
  -- refreshNow: a later waiter, shut at once or queued behind `w`
  case case1 =>
    fun_cases wRefreshNow fixed t
    case case1 => exact ⟨h1, h2, h3, by simp [h4]; omega, by simp; omega⟩
    case case2 _ hp => simp [hp, ls] at h2
    case case3 _ l hp =>
      simp only [hp, ls, Option.getD_some] at h2
      exact ⟨h1, by simp [ls, h2], h3, h4, by simp; omega⟩
  -- the flusher has returned: `wake`, `lock`, `refreshDone` are not enabled
  case case4 _ hc | case6 hc _ | case7 hc _ | case9 hc => simp [h1] at hc
  -- debounce, stop
  all_goals exact ⟨h1, h2, h3, h4, h5⟩

theorem strand_stepQuitReturn (w : Nat) (t t' : WDeb) (b : WAct) (h : Strand w t) (hs : wstepQuitReturn t b = some t') :
    Strand w t' := by
  cases b with
  | wake x => cases x <;> simp [wstepQuitReturn, wstep, wstepG, h.exited] at hs
  | _ => simp only [wstepQuitReturn, wstep] at hs; exact strand_step true w t t' _ h hs

theorem isRunQuitReturn : IsRun wstepQuitReturn wrunQuitReturn :=
  ⟨fun _ => rfl, fun t b bs => by rw [wrunQuitReturn]; cases wstepQuitReturn t b <;> rfl⟩

end C17Deb
