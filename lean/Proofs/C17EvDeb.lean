import Model.PoolCtl
import Proofs.Common
/-! eventDebouncer.stop() against the flusher (`EvStop` of `Model/PoolCtl.lean`): `Inv` of the code that exists, `progress` (while
    stop() waits, somebody it waits for can step), and the trap of stop() called holding e.mu (`Dead`, `dead_step`). -/

namespace C17EvDeb
open EvStop

/-- invariant of the code that exists: stop() never holds (or waits for) e.mu; the flusher holds it exactly while
    flushing; a stop() in its send has a live flusher -/
structure Inv (x : St) : Prop where
  noS : x.mu ≠ .S
  sNoLock : x.s ≠ .wantLock
  fHolds : x.mu = .F ↔ x.f = .flushing
  alive : x.s = .sending → x.f ≠ .exited
  gone : (x.s = .closing ∨ x.s = .done) → x.f = .exited
  early : x.s = .idle → x.f ≠ .exited

theorem inv_init : Inv init := by constructor <;> simp [init]

theorem inv_step (x x' : St) (a : Act) (h : Inv x) (hs : step x a = some x') : Inv x' := by
  unfold step at hs
  revert hs; fun_cases stepG false x a <;> intro hs <;> cases hs
  case case1 | case3 => exact { h with }                            -- deb, fire
  -- hlock, hunlock: somebody else takes or leaves e.mu
  case case5 hg | case7 hg => exact { h with noS := nofun, fHolds := by simpa [hg] using h.fHolds }
  -- fTimer: select → wantLock
  case case9 hg =>
    exact { h with
            fHolds := by simpa [hg.1] using h.fHolds
            alive := fun _ => nofun
            gone := fun a => nomatch hg.1.symm.trans (h.gone a)
            early := fun _ => nofun }
  -- fLock: wantLock → flushing, with e.mu
  case case11 hg =>
    exact { h with
            noS := nofun
            fHolds := ⟨fun _ => rfl, fun _ => rfl⟩
            alive := fun _ => nofun
            gone := fun a => nomatch hg.1.symm.trans (h.gone a)
            early := fun _ => nofun }
  -- fFlush: flushing → select, e.mu released
  case case13 hg =>
    exact { h with
            noS := nofun
            fHolds := ⟨nofun, nofun⟩
            alive := fun _ => nofun
            gone := fun a => nomatch hg.symm.trans (h.gone a)
            early := fun _ => nofun }
  -- fQuit: the rendezvous
  case case15 hg =>
    exact { h with
            sNoLock := nofun
            fHolds := by simpa [hg.1] using h.fHolds
            alive := nofun
            gone := fun _ => rfl
            early := nofun }
  case case17 _ hf => cases hf                                         -- stop of the variant that takes e.mu first
  -- stop: straight to the send
  case case18 hg _ => exact { h with sNoLock := nofun, alive := fun _ => h.early hg, gone := nofun, early := nofun }
  case case20 hg => exact absurd hg.1 h.sNoLock                        -- sLock: never enabled
  -- stopDone: close(quit); stop() holds no lock to release
  case case22 hg =>
    simp only [if_neg h.noS]
    exact { h with sNoLock := nofun, alive := nofun, gone := fun _ => h.gone (.inl hg), early := nofun }

theorem isRun (b : Bool) : IsRun (stepG b) (runG b) :=
  ⟨fun _ => rfl, fun x a as => by rw [runG]; cases stepG b x a <;> rfl⟩

theorem inv_run : ∀ (as : List Act) (x x' : St), Inv x → run x as = some x' → Inv x' :=
  fun _ _ _ => (isRun false).inv inv_step

/-- a blocked stop(): some step of the flusher is enabled, unless somebody else is inside e.mu — who can leave -/
theorem progress (x : St) (h : Inv x) (hs : x.s = .sending) :
    (∃ a, fAct a = true ∧ (step x a).isSome = true) ∨ (x.mu = .H ∧ (step x .hunlock).isSome = true) := by
  have hnoS := h.noS; have hholds := h.fHolds; have halive := h.alive
  obtain ⟨m, ar, fi, ev, f, s, cb⟩ := x
  simp only at hs; subst hs
  cases f with
  | select => cases fi with
    | true => exact Or.inl ⟨.fTimer, rfl, by simp [step, stepG]⟩
    | false => exact Or.inl ⟨.fQuit, rfl, by simp [step, stepG]⟩
  | wantLock =>
    cases m with
    | none => exact Or.inl ⟨.fLock, rfl, by simp [step, stepG]⟩
    | H => exact Or.inr ⟨rfl, by simp [step, stepG]⟩
    | F => simp at hholds
    | S => simp at hnoS
  | flushing => exact Or.inl ⟨.fFlush, rfl, by simp [step, stepG]⟩
  | exited => simp at halive

/-- seeded variant: stop() holds e.mu in its send while the flusher wants it -/
structure Dead (x : St) : Prop where
  mu : x.mu = .S
  f : x.f = .wantLock
  s : x.s = .sending

/-- with stop() inside e.mu and the flusher in front of it nothing but the timer can move -/
theorem dead_step (x x' : St) (a : Act) (h : Dead x) (hs : stepG true x a = some x') : Dead x' := by
  obtain ⟨m, ar, fi, ev, f, s, cb⟩ := x
  obtain ⟨rfl, rfl, rfl⟩ := h
  cases a <;> simp [stepG] at hs
  obtain ⟨_, rfl⟩ := hs; exact ⟨rfl, rfl, rfl⟩

end C17EvDeb
