import Model.ClusterView
import Proofs.C16Ring
/-! the REFRESH debouncer (`refreshDebouncer`, host_source.go; the event debouncer is `Proofs/C16Queue.lean`), all interleavings
of requests, timer and flusher. One sweep over the ways in which `rstepWith` computes its result (its own case principle: the
guards arrive as hypotheses) says what a step does to the quantities the invariants speak of (`rstep_facts`). Then four
arguments: (1) any number of requests within one interval become at most two refreshes (a potential, `phi`); (2) no request
is lost: a request not yet followed by a refresh start keeps the debouncer `armed` (`Served`); (3) the fair continuation
`drain` = release, fire, release passes through calm states (`Calm`: channels empty, flusher in its select or inside a
refresh) to a quiet one; (4) a caller of `refreshNow()` is answered by a refresh that started after its call (`Heard`). -/
namespace C16
open ClusterView

theorem armed_of_nowPending (d : RDeb) (h : d.nowPending = true) : d.armed = true := by
  unfold RDeb.armed; rw [h, Bool.or_true, Bool.true_or]

theorem armed_of_fired (d : RDeb) (h : d.fired = true) : d.armed = true := by
  unfold RDeb.armed; rw [h, Bool.or_true, Bool.true_or, Bool.true_or]

theorem armed_of_woken (d : RDeb) (h : d.phase = .woken) : d.armed = true := by
  unfold RDeb.armed; rw [h]; rfl

/-- a broadcaster with listeners is backed by a token in refreshNowCh or by a flusher on its way to the refresh -/
def Backed (d : RDeb) : Prop := d.bc = true → d.nowPending = true ∨ d.phase = .woken

/-- what a step does to the quantities the invariants speak of. `armed`: what made the debouncer armed is still there or has
been exchanged (timer → timer.C, channel value → flusher on its way) unless an effective `start` used it up -/
structure StepFacts (d : RDeb) (a : RAct) (d' : RDeb) : Prop where
  refreshes : d'.refreshes = if a = .start ∧ d.phase = .woken then d.refreshes + 1 else d.refreshes
  now : d.now ≤ d'.now
  armed : d.armed = true → (a = .start ∧ d.phase = .woken) ∨ d'.armed = true
  backed : Backed d → Backed d'
  plain : a ≠ .start → a ≠ .done → (d.bc = true → d'.bc = true) ∧ (d.phase = .running → d'.phase = .running)

theorem rstep_facts (I : Nat) (d : RDeb) (a : RAct) : StepFacts d a (rstep I d a) := by
  -- an action whose guard fails leaves the state as it is
  have same : ∀ a : RAct, ¬ (a = .start ∧ d.phase = .woken) → StepFacts d a d :=
    fun a h => ⟨(if_neg h).symm, Nat.le_refl _, .inr, id, fun _ _ => ⟨id, id⟩⟩
  show StepFacts d a (rstepWith id I d a)
  fun_cases rstepWith id I d a with
  | case1 => exact ⟨rfl, Nat.le_succ _, fun _ => .inr (armed_of_fired _ rfl), id, fun _ _ => ⟨id, id⟩⟩   -- tick, the timer fires
  | case2 | case3 => exact ⟨rfl, Nat.le_succ _, .inr, id, fun _ _ => ⟨id, id⟩⟩                          -- tick, it does not
  | case4 => exact ⟨rfl, Nat.le_refl _, fun _ => .inr (Bool.or_true _), id, fun _ _ => ⟨id, id⟩⟩       -- debounce
  | case6 =>  -- refreshNow creates the broadcaster and puts a token into refreshNowCh
    exact ⟨rfl, Nat.le_refl _, fun _ => .inr (armed_of_nowPending _ rfl), fun _ _ => .inl rfl, fun _ _ => ⟨fun _ => rfl, id⟩⟩
  | case7 h | case9 h =>  -- wakeT / wakeN: the channel value is exchanged for the flusher being on its way
    exact ⟨rfl, Nat.le_refl _, fun _ => .inr (armed_of_woken _ rfl), fun _ _ => .inr rfl,
      fun _ _ => ⟨id, fun hr => nomatch h.1.symm.trans hr⟩⟩
  | case11 hw =>  -- start: the refresh that starts takes the broadcaster
    exact ⟨(if_pos ⟨rfl, hw⟩).symm, Nat.le_refl _, fun _ => .inl ⟨rfl, hw⟩, fun _ hb => Bool.noConfusion hb,
      fun h' => absurd rfl h'⟩
  | case12 hw => exact same _ fun h => hw h.2
  | case13 hr =>  -- done: `running` and `idle` contribute nothing to `armed`, and neither is `woken`
    refine ⟨(if_neg fun h => nomatch h.1).symm, Nat.le_refl _, fun ha => .inr ?_,
      fun hb h' => (hb h').imp id (fun hw => nomatch (hr.symm.trans hw : RPhase.running = .woken)), fun _ h' => absurd rfl h'⟩
    unfold RDeb.armed at ha ⊢
    rw [hr] at ha
    exact ha
  | case5 | case8 | case10 | case14 => exact same _ fun h => nomatch h.1

theorem rstep_armed (I : Nat) (d : RDeb) (a : RAct) (h : d.armed = true) :
    d.refreshes < (rstep I d a).refreshes ∨ ((rstep I d a).refreshes = d.refreshes ∧ (rstep I d a).armed = true) := by
  rw [(rstep_facts I d a).refreshes]
  by_cases hs : a = .start ∧ d.phase = .woken
  · rw [if_pos hs]; exact .inl (Nat.lt_succ_self _)
  · rw [if_neg hs]; exact .inr ⟨rfl, ((rstep_facts I d a).armed h).resolve_left hs⟩

/-- a refresh is certain to start without any further request: the flusher has left its select, a channel it
selects on holds a value, or the timer is armed — while `T` is ahead only a timer that fires before `T` counts (a
later expiry is the one the requests still to come, all before `T`, are merged into) -/
def due (T : Nat) (d : RDeb) : Bool :=
  d.phase == .woken || d.fired || d.nowPending ||
    match d.deadline with
    | some dl => decide (dl < T ∨ T ≤ d.now)
    | none => false

/-- an upper bound on the refreshes still to come when no request is made at or after time `T`: one for the
requests still to come while `T` is ahead, one for what is due already (the refresh the flusher starts clears
everything pending) -/
def phi (T : Nat) (d : RDeb) : Nat := (if d.now < T then 1 else 0) + (if due T d then 1 else 0)

theorem phi_le_two (T : Nat) (d : RDeb) : phi T d ≤ 2 := by
  unfold phi; split <;> split <;> decide

theorem due_of_busy (T : Nat) (d : RDeb) (h : (d.phase == .woken || d.fired || d.nowPending) = true) : due T d = true := by
  unfold due; rw [h]; rfl

theorem due_of_timer (T : Nat) (d : RDeb) (dl : Nat) (hd : d.deadline = some dl) (h : dl < T ∨ T ≤ d.now) :
    due T d = true := by
  unfold due; rw [hd]; exact (Bool.or_eq_true _ _).mpr (Or.inr (decide_eq_true h))

theorem phi_quiet (T : Nat) (d : RDeb) (hf : d.fired = false) (hp : d.nowPending = false) (hd : d.deadline = none)
    (hw : d.phase ≠ .woken) : phi T d ≤ 1 := by
  have : due T d = false := by
    unfold due; rw [hf, hp, hd, beq_false_of_ne hw]; rfl
  unfold phi; rw [this]; split <;> decide

/-- the potential does not grow while time goes on and nothing new becomes due — except for a timer that becomes
due at the moment `T` is reached, which is paid for by the requests that can no longer come -/
theorem phi_mono (T : Nat) (d d' : RDeb) (hn : d.now ≤ d'.now)
    (hd : due T d' = true → due T d = true ∨ (d.now < T ∧ T ≤ d'.now)) : phi T d' ≤ phi T d := by
  unfold phi
  cases h' : due T d' with
  | false =>
    have : (if d'.now < T then 1 else 0) ≤ (if d.now < T then 1 else 0) := by
      split
      · rw [if_pos (by omega)]; exact Nat.le_refl _
      · exact Nat.zero_le _
    exact Nat.le_trans (Nat.add_le_add_right this _) (Nat.add_le_add_left (Nat.zero_le _) _)
  | true =>
    rcases hd h' with h | ⟨h0, h1⟩
    · rw [h]
      apply Nat.add_le_add_right
      split
      · rw [if_pos (by omega)]; exact Nat.le_refl _
      · exact Nat.zero_le _
    · rw [if_pos h0, if_neg (by omega)]
      exact Nat.add_le_add_left (Nat.zero_le _) 1

theorem due_cases {T : Nat} {d : RDeb} (h : due T d = true) :
    (d.phase == .woken || d.fired || d.nowPending) = true ∨ ∃ dl, d.deadline = some dl ∧ (dl < T ∨ T ≤ d.now) := by
  unfold due at h
  rcases (Bool.or_eq_true _ _).mp h with h | h
  · exact .inl h
  · cases hdl : d.deadline with
    | none => rw [hdl] at h; cases h
    | some dl => rw [hdl] at h; exact .inr ⟨dl, rfl, of_decide_eq_true h⟩

theorem rstep_phi (I T : Nat) (d : RDeb) (a : RAct) (hT : T ≤ d.now + I) (ha : a ≠ .refreshNow)
    (hd : a = .debounce → d.now < T) :
    (rstep I d a).refreshes + phi T (rstep I d a) ≤ d.refreshes + phi T d := by
  -- every action but `start` leaves `refreshes` alone
  have mono := fun d' hn hdue => Nat.add_le_add_left (phi_mono T d d' hn hdue) d.refreshes
  -- a timer that becomes due at `T` itself is paid for by `now < T` turning false
  have late : ∀ dl, d.deadline = some dl → T ≤ d.now + 1 → due T d = true ∨ (d.now < T ∧ T ≤ d.now + 1) :=
    fun dl hdl h1 => (Nat.lt_or_ge d.now T).elim (fun h0 => .inr ⟨h0, h1⟩) fun h0 => .inl (due_of_timer T d dl hdl (.inr h0))
  show (rstepWith id I d a).refreshes + phi T (rstepWith id I d a) ≤ _
  fun_cases rstepWith id I d a with
  | case1 _ dl hdl hle =>  -- tick, the timer fires
    refine mono _ (Nat.le_succ _) fun _ => (Nat.lt_or_ge (d.now + 1) T).elim (fun h1 => ?_) (late dl hdl)
    exact .inl (due_of_timer T d dl hdl (.inl (Nat.lt_of_le_of_lt hle h1)))
  | case2 _ dl hdl _ =>  -- tick, the timer runs on
    refine mono _ (Nat.le_succ _) fun h => ?_
    rcases due_cases h with h | ⟨dl', hdl', h⟩
    · exact .inl (due_of_busy T d h)
    · cases hdl.symm.trans hdl'
      exact h.elim (fun h => .inl (due_of_timer T d dl hdl (.inl h))) (late dl hdl)
  | case3 _ hdl =>  -- tick, no timer
    refine mono _ (Nat.le_succ _) fun h => ?_
    rcases due_cases h with h | ⟨dl', hdl', _⟩
    · exact .inl (due_of_busy T d h)
    · cases hdl.symm.trans hdl'
  | case4 =>  -- debounce: the new deadline `now + I` is not before `T`
    have hlt : d.now < T := hd rfl
    refine mono _ (Nat.le_refl _) fun h => .inl ?_
    rcases due_cases h with h | ⟨dl', hdl', h⟩
    · exact due_of_busy T d h
    · cases hdl'
      have : d.now + I < T ∨ T ≤ d.now := h
      omega
  | case5 | case6 => exact absurd rfl ha
  | case7 h =>  -- the value in timer.C is exchanged for the flusher being on its way
    exact mono _ (Nat.le_refl _) fun _ => .inl (due_of_busy T d (by rw [h.2, Bool.or_true, Bool.true_or]))
  | case9 h => exact mono _ (Nat.le_refl _) fun _ => .inl (due_of_busy T d (by rw [h.2, Bool.or_true]))
  | case11 hw =>  -- the refresh that starts was due, and nothing is due after it
    have h1 : due T d = true := due_of_busy T d (by rw [hw]; rfl)
    unfold phi
    rw [h1]
    show d.refreshes + 1 + ((if d.now < T then 1 else 0) + 0) ≤ d.refreshes + ((if d.now < T then 1 else 0) + 1)
    omega
  | case13 hr =>  -- `running` becomes `idle`: neither is `woken`, nothing else changes
    refine mono _ (Nat.le_refl _) fun h => .inl ?_
    unfold due at h ⊢
    rw [hr]
    exact h
  | case8 | case10 | case12 | case14 => exact Nat.le_refl _

/-- along the run: every `debounce()` happens before time `T`, nobody calls `refreshNow()` -/
def ReqsBefore (I T : Nat) : RDeb → List RAct → Prop
  | _, [] => True
  | d, a :: as => (a = .debounce → d.now < T) ∧ a ≠ .refreshNow ∧ ReqsBefore I T (rstep I d a) as

instance decReqsBefore (I T : Nat) : (d : RDeb) → (as : List RAct) → Decidable (ReqsBefore I T d as)
  | _, [] => isTrue trivial
  | d, a :: as =>
    have := decReqsBefore I T (rstep I d a) as
    inferInstanceAs (Decidable ((a = .debounce → d.now < T) ∧ a ≠ .refreshNow ∧ ReqsBefore I T (rstep I d a) as))

theorem rrun_phi (I T : Nat) (as : List RAct) (d : RDeb) (hT : T ≤ d.now + I) (hr : ReqsBefore I T d as) :
    (rrun I d as).refreshes + phi T (rrun I d as) ≤ d.refreshes + phi T d :=
  (foldl_guarded (rstep I) (ReqsBefore I T) (fun s => T ≤ s.now + I ∧ s.refreshes + phi T s ≤ d.refreshes + phi T d)
    (fun s a _ hr hs => ⟨⟨Nat.le_trans hs.1 (Nat.add_le_add_right (rstep_facts I s a).now I),
      Nat.le_trans (rstep_phi I T s a hs.1 hr.2.1 hr.1) hs.2⟩, hr.2.2⟩) as d hr ⟨hT, Nat.le_refl _⟩).2

/-- invariant of every schedule: each request made so far has been followed by a refresh start, or a refresh is
certainly still to come (`armed`); and a broadcaster with waiting `refreshNow()` callers is backed by a token
in `refreshNowCh` or by a flusher on its way to the refresh -/
def Served (g : RGhost) : Prop :=
  (∀ r ∈ g.reqs, r < g.d.refreshes ∨ (r = g.d.refreshes ∧ g.d.armed = true)) ∧
  (g.d.bc = true → g.d.nowPending = true ∨ g.d.phase = .woken)

theorem served_init : Served {} := by
  refine ⟨?_, ?_⟩
  · intro r hr; simp at hr
  · intro h; simp at h

theorem rstep_refreshes_mono (I : Nat) (d : RDeb) (a : RAct) : d.refreshes ≤ (rstep I d a).refreshes := by
  rw [(rstep_facts I d a).refreshes]; split
  · exact Nat.le_succ _
  · exact Nat.le_refl _

theorem rstep_same_refreshes (I : Nat) (d : RDeb) (a : RAct) (ha : a ≠ .start) : (rstep I d a).refreshes = d.refreshes := by
  rw [(rstep_facts I d a).refreshes, if_neg (fun h => ha h.1)]

theorem rstep_request_armed (I : Nat) (d : RDeb) (a : RAct) (ha : a = .debounce ∨ a = .refreshNow)
    (hb : Backed d) : (rstep I d a).refreshes = d.refreshes ∧ (rstep I d a).armed = true := by
  refine ⟨rstep_same_refreshes I d a (by rcases ha with rfl | rfl <;> decide), ?_⟩
  rcases ha with rfl | rfl
  · exact Bool.or_true _
  · simp only [rstep, rstepWith]
    split
    · rename_i h
      exact (hb h).elim (armed_of_nowPending d) (armed_of_woken d)
    · exact armed_of_nowPending _ rfl

theorem rrun_armed (I : Nat) (as : List RAct) : ∀ d : RDeb, d.armed = true →
    d.refreshes < (rrun I d as).refreshes ∨ (rrun I d as).armed = true := by
  induction as with
  | nil => exact fun d h => Or.inr h
  | cons a t ih =>
    intro d h
    rcases rstep_armed I d a h with hlt | ⟨heq, harm⟩
    · have hmono : (rstep I d a).refreshes ≤ (rrun I (rstep I d a) t).refreshes :=
        foldl_inv (fun d' : RDeb => (rstep I d a).refreshes ≤ d'.refreshes) _
          (fun d' x h' => Nat.le_trans h' (rstep_refreshes_mono I d' x)) t _ (Nat.le_refl _)
      exact Or.inl (Nat.lt_of_lt_of_le hlt hmono)
    · exact (ih _ harm).imp (fun h' => heq ▸ h') id

theorem gstep_d (I : Nat) (g : RGhost) (a : RAct) : (gstep I g a).d = rstep I g.d a := by
  cases a <;> simp only [gstep, gstepWith, rstep] <;> split <;> rfl

theorem gstep_reqs (I : Nat) (g : RGhost) (a : RAct) :
    (gstep I g a).reqs = if a = .debounce ∨ a = .refreshNow then g.reqs ++ [g.d.refreshes] else g.reqs := by
  cases a <;> simp [gstep, gstepWith] <;> split <;> rfl

theorem gstep_served (I : Nat) (g : RGhost) (a : RAct) (hs : Served g) : Served (gstep I g a) := by
  obtain ⟨h1, h2⟩ := hs
  refine ⟨?_, ?_⟩
  · intro r hr
    rw [gstep_d]
    have hold : ∀ r ∈ g.reqs, r < (rstep I g.d a).refreshes ∨ (r = (rstep I g.d a).refreshes ∧ (rstep I g.d a).armed = true) := by
      intro r hr
      rcases h1 r hr with h | ⟨h, ha⟩
      · left; exact Nat.lt_of_lt_of_le h (rstep_refreshes_mono I g.d a)
      · rcases rstep_armed I g.d a ha with h' | ⟨h', ha'⟩
        · left; omega
        · right; exact ⟨by omega, ha'⟩
    by_cases hreq : a = .debounce ∨ a = .refreshNow
    · have hr' : r ∈ g.reqs ∨ r = g.d.refreshes := by
        rw [gstep_reqs, if_pos hreq] at hr
        simpa using hr
      rcases hr' with hr' | rfl
      · exact hold r hr'
      · have := rstep_request_armed I g.d a hreq h2
        right; exact ⟨this.1.symm, this.2⟩
    · have hr' : r ∈ g.reqs := by
        rw [gstep_reqs, if_neg hreq] at hr
        exact hr
      exact hold r hr'
  · rw [gstep_d]; exact (rstep_facts I g.d a).backed h2

theorem grun_served (I : Nat) (as : List RAct) : ∀ (g : RGhost), Served g → Served (grun I g as) :=
  foldl_inv Served _ (gstep_served I) as

theorem grun_d (I : Nat) (as : List RAct) (g : RGhost) : (grun I g as).d = rrun I g.d as :=
  (List.foldl_hom RGhost.d fun g a => (gstep_d I g a).symm).symm

theorem rrun_append (I : Nat) (d : RDeb) (as bs : List RAct) : rrun I d (as ++ bs) = rrun I (rrun I d as) bs := by
  simp [rrun, List.foldl_append]

theorem served_lost_nil (g : RGhost) (hs : Served g) (hq : g.d.armed = false) : g.lost = [] := by
  unfold RGhost.lost
  rw [List.filter_eq_nil_iff]
  intro i hi
  have hi' : i < g.reqs.length := by simpa using hi
  have hm : g.reqs.getD i 0 ∈ g.reqs := by
    rw [List.getD_eq_getElem?_getD, List.getElem?_eq_getElem hi']
    exact List.getElem_mem hi'
  rcases hs.1 _ hm with h | ⟨_, ha⟩
  · simp only [decide_eq_true_eq]; omega
  · rw [hq] at ha; exact absurd ha (by decide)

theorem ticks_none (I : Nat) (n : Nat) : ∀ (d : RDeb), d.deadline = none →
    rrun I d (List.replicate n .tick) = { d with now := d.now + n } := by
  induction n with
  | zero => intro d _; rfl
  | succ n ih =>
    intro d h
    obtain ⟨now, deadline, fired, nowPending, bc, phase, refreshes⟩ := d
    simp only at h
    subst h
    simp only [List.replicate_succ, rrun, List.foldl_cons]
    have := ih ⟨now + 1, none, fired, nowPending, bc, phase, refreshes⟩ rfl
    simp only [rrun] at this
    simp only [rstep, rstepWith]
    rw [this]
    simp only [RDeb.mk.injEq, and_true]
    omega

theorem ticks_fire (I : Nat) (n : Nat) : ∀ (d : RDeb) (dl : Nat), d.deadline = some dl → dl ≤ d.now + n → 1 ≤ n →
    rrun I d (List.replicate n .tick) = { d with now := d.now + n, deadline := none, fired := true } := by
  induction n with
  | zero => intro d dl _ _ h; omega
  | succ n ih =>
    intro d dl h hle _
    obtain ⟨now, deadline, fired, nowPending, bc, phase, refreshes⟩ := d
    simp only at h hle
    subst h
    simp only [List.replicate_succ, rrun, List.foldl_cons]
    simp only [rstep, rstepWith]
    by_cases hf : dl ≤ now + 1
    · simp only [hf, ↓reduceIte]
      have := ticks_none I n ⟨now + 1, none, true, nowPending, bc, phase, refreshes⟩ rfl
      simp only [rrun] at this
      rw [this]
      simp only [RDeb.mk.injEq, and_true]
      omega
    · simp only [hf, ↓reduceIte]
      have := ih ⟨now + 1, some dl, fired, nowPending, bc, phase, refreshes⟩ dl rfl
        (by simp only; omega) (by omega)
      simp only [rrun] at this
      rw [this]
      simp only [RDeb.mk.injEq, and_true]
      omega

theorem ticksToFire_spec (I : Nat) (d : RDeb) :
    rrun I d (ticksToFire d) =
      match d.deadline with
      | some dl => { d with now := d.now + max 1 (dl - d.now), deadline := none, fired := true }
      | none => d := by
  unfold ticksToFire
  cases h : d.deadline with
  | none => rfl
  | some dl =>
    simp only
    exact ticks_fire I _ d dl h (by omega) (by omega)

/-- both channels are empty and the flusher is in its select or inside a refresh, which has cleared the timer -/
def Calm (d : RDeb) : Prop :=
  d.fired = false ∧ d.nowPending = false ∧ (d.phase = .idle ∨ (d.phase = .running ∧ d.deadline = none))

theorem flusher_calm (I : Nat) (d : RDeb) (hp : d.phase ≠ .running) :
    Calm (rrun I d (flusherSched d)) ∧ (d.deadline = none → (rrun I d (flusherSched d)).deadline = none) := by
  obtain ⟨now, deadline, fired, nowPending, bc, phase, refreshes⟩ := d
  -- it starts a refresh (which clears channels and timer) when it has left its select or a channel holds a value
  cases phase
  · cases fired
    · cases nowPending
      · exact ⟨⟨rfl, rfl, .inl rfl⟩, id⟩
      · exact ⟨⟨rfl, rfl, .inr ⟨rfl, rfl⟩⟩, fun _ => rfl⟩
    · exact ⟨⟨rfl, rfl, .inr ⟨rfl, rfl⟩⟩, fun _ => rfl⟩
  · exact ⟨⟨rfl, rfl, .inr ⟨rfl, rfl⟩⟩, fun _ => rfl⟩
  · exact absurd rfl hp

theorem flusher_of_calm (I : Nat) (d : RDeb) (h : Calm d) : rrun I d (flusherSched d) = d := by
  obtain ⟨now, deadline, fired, nowPending, bc, phase, refreshes⟩ := d
  obtain ⟨rfl, rfl, (rfl | ⟨rfl, _⟩)⟩ := h <;> rfl

theorem release_calm (I : Nat) (d : RDeb) : Calm (rrun I d (dschedOne I d .release)) := by
  have hp : (rstep I d .done).phase ≠ .running := by
    obtain ⟨now, deadline, fired, nowPending, bc, phase, refreshes⟩ := d
    cases phase <;> simp [rstep, rstepWith]
  exact (flusher_calm I _ hp).1

theorem fire_calm (I : Nat) (d : RDeb) (h : Calm d) :
    Calm (rrun I d (dschedOne I d .fire)) ∧ (rrun I d (dschedOne I d .fire)).deadline = none := by
  have e : rrun I d (dschedOne I d .fire) =
      rrun I (rrun I d (ticksToFire d)) (flusherSched (rrun I d (ticksToFire d))) := rrun_append I d _ _
  rw [e, ticksToFire_spec]
  cases hdl : d.deadline with
  | none => rw [flusher_of_calm I d h]; exact ⟨h, hdl⟩
  | some dl =>
    -- an armed timer: no refresh is running, the expiry wakes the flusher
    have hp : d.phase = .idle := h.2.2.elim id fun h' => nomatch hdl.symm.trans h'.2
    have := flusher_calm I { d with now := d.now + max 1 (dl - d.now), deadline := none, fired := true }
      (fun hr => nomatch hp.symm.trans hr)
    exact ⟨this.1, this.2 rfl⟩

theorem release_quiet (I : Nat) (d : RDeb) (h : Calm d) (hd : d.deadline = none) :
    (rrun I d (dschedOne I d .release)).quiet = true := by
  obtain ⟨now, deadline, fired, nowPending, bc, phase, refreshes⟩ := d
  cases hd
  obtain ⟨rfl, rfl, (rfl | ⟨rfl, _⟩)⟩ := h <;> rfl

theorem quiet_not_armed (d : RDeb) (h : d.quiet = true) : d.armed = false := by
  unfold RDeb.quiet at h
  cases ha : d.armed <;> simp [ha] at h ⊢

theorem drun_served (I : Nat) (ops : List DOp) : ∀ (g : RGhost), Served g → Served (drun I g ops) := by
  exact foldl_inv Served _ (fun g _ hs => grun_served I _ g hs) ops

/-- the request at position `i` was made before the refresh with ordinal `b` started -/
def Before (reqs : List Nat) (i b : Nat) : Prop := ∃ r, reqs[i]? = some r ∧ r < b

theorem Before.append {reqs : List Nat} {i b : Nat} (h : Before reqs i b) (x : Nat) : Before (reqs ++ [x]) i b :=
  let ⟨r, e, l⟩ := h
  ⟨r, getElem?_append_of _ e, l⟩

theorem Before.getD {reqs : List Nat} {i b : Nat} (h : Before reqs i b) : reqs.getD i 0 < b := by
  obtain ⟨r, e, l⟩ := h
  rw [List.getD_eq_getElem?_getD, e]; exact l

/-- invariant of every schedule: each listener made its call before the start of the refresh that answers it (a waiting
one: before the NEXT start) -/
structure Heard (g : RGhost) : Prop where
  waiting : ∀ i ∈ g.waiting, Before g.reqs i (g.d.refreshes + 1)
  cur : ∀ i ∈ g.cur, Before g.reqs i g.d.refreshes
  answers : ∀ e ∈ g.answers, Before g.reqs e.1 e.2
  bc : g.waiting ≠ [] → g.d.bc = true
  running : g.cur ≠ [] → g.d.phase = .running

theorem heard_init : Heard {} := by
  refine ⟨?_, ?_, ?_, ?_, ?_⟩ <;> simp

/-- a step that starts and ends no refresh, with the requests `reqs'` it leaves (the old ones, or one more) -/
theorem heard_frame (I : Nat) (g : RGhost) (a : RAct) (reqs' : List Nat) (hh : Heard g) (ha : a ≠ .start) (hd : a ≠ .done)
    (hq : ∀ i b, Before g.reqs i b → Before reqs' i b) : Heard { g with d := rstep I g.d a, reqs := reqs' } := by
  obtain ⟨h1, h2, h3, h4, h5⟩ := hh
  refine ⟨fun i hi => ?_, fun i hi => ?_, fun e he => hq _ _ (h3 e he), fun hw => ((rstep_facts I g.d a).plain ha hd).1 (h4 hw),
    fun hc => ((rstep_facts I g.d a).plain ha hd).2 (h5 hc)⟩
  · show Before reqs' i ((rstep I g.d a).refreshes + 1)
    rw [rstep_same_refreshes I g.d a ha]; exact hq _ _ (h1 i hi)
  · show Before reqs' i (rstep I g.d a).refreshes
    rw [rstep_same_refreshes I g.d a ha]; exact hq _ _ (h2 i hi)

theorem gstep_heard (I : Nat) (g : RGhost) (a : RAct) (hh : Heard g) : Heard (gstep I g a) := by
  cases a with
  | tick => exact heard_frame I g .tick _ hh (by decide) (by decide) fun _ _ h => h
  | wakeT => exact heard_frame I g .wakeT _ hh (by decide) (by decide) fun _ _ h => h
  | wakeN => exact heard_frame I g .wakeN _ hh (by decide) (by decide) fun _ _ h => h
  | debounce => exact heard_frame I g .debounce _ hh (by decide) (by decide) fun _ _ h => h.append _
  | refreshNow =>
    -- the new listener waits for the next refresh start, on a broadcaster that exists now
    obtain ⟨h1, h2, h3, _, h5⟩ :=
      heard_frame I g .refreshNow (g.reqs ++ [g.d.refreshes]) hh (by decide) (by decide) fun _ _ h => h.append _
    refine ⟨fun i hi => ?_, h2, h3, fun _ => ?_, h5⟩
    · rcases List.mem_append.1 hi with hi | hi
      · exact h1 i hi
      · rw [List.mem_singleton.mp hi]
        refine ⟨g.d.refreshes, ?_, ?_⟩
        · show (g.reqs ++ [g.d.refreshes])[g.reqs.length]? = some g.d.refreshes
          simp
        · show g.d.refreshes < (rstep I g.d .refreshNow).refreshes + 1
          rw [rstep_same_refreshes I g.d .refreshNow (by decide)]; exact Nat.lt_succ_self _
    · show (rstepWith id I g.d .refreshNow).bc = true
      simp only [rstepWith]
      split
      · assumption
      · rfl
  | start =>
    obtain ⟨h1, h2, h3, h4, h5⟩ := hh
    simp only [gstep, gstepWith]
    by_cases hw : g.d.phase = .woken
    · -- the refresh that starts takes the waiting listeners: their calls came before this start
      rw [if_pos hw]
      refine ⟨fun _ hi => absurd hi List.not_mem_nil, fun i hi => ?_, h3, fun h => absurd rfl h, fun _ => ?_⟩
      · show Before g.reqs i (rstepWith id I g.d .start).refreshes
        simp only [rstepWith, hw, ↓reduceIte]; exact h1 i hi
      · simp [rstepWith, hw]
    · rw [if_neg hw, show rstepWith id I g.d .start = g.d from if_neg hw]
      exact ⟨h1, h2, h3, h4, h5⟩
  | done =>
    obtain ⟨h1, h2, h3, h4, h5⟩ := hh
    simp only [gstep, gstepWith]
    by_cases hr : g.d.phase = .running
    · -- the listeners of the refresh that ends are answered with its ordinal
      rw [if_pos hr]
      refine ⟨?_, fun _ hi => absurd hi List.not_mem_nil, fun e he => ?_, fun hw => ?_, fun h => absurd rfl h⟩
      · simpa [rstepWith, hr] using h1
      · rcases List.mem_append.1 he with he | he
        · exact h3 e he
        · obtain ⟨i, hi, rfl⟩ := List.mem_map.1 he
          exact h2 i hi
      · show (rstepWith id I g.d .done).bc = true
        simp only [rstepWith, hr, ↓reduceIte, id]; exact h4 hw
    · rw [if_neg hr, show rstepWith id I g.d .done = g.d from if_neg hr]
      exact ⟨h1, h2, h3, h4, h5⟩

theorem grun_heard (I : Nat) (as : List RAct) : ∀ (g : RGhost), Heard g → Heard (grun I g as) :=
  foldl_inv Heard _ (gstep_heard I) as

theorem heard_early_nil (g : RGhost) (hh : Heard g) : g.early = [] := by
  unfold RGhost.early
  rw [List.map_eq_nil_iff, List.filter_eq_nil_iff]
  intro e he
  have := (hh.answers e he).getD
  simp only [decide_eq_true_eq]; omega

theorem heard_unanswered_nil (g : RGhost) (hs : Served g) (hh : Heard g) (hq : g.d.quiet = true) : g.unanswered = [] := by
  have harm := quiet_not_armed _ hq
  have hidle : g.d.phase = .idle := by
    unfold RDeb.quiet at hq
    simp only [Bool.and_eq_true, beq_iff_eq] at hq
    exact hq.2
  have hbc : g.d.bc = false := by
    cases hb : g.d.bc with
    | false => rfl
    | true =>
      rcases hs.2 hb with h | h
      · simp [RDeb.armed, h] at harm
      · rw [hidle] at h; exact absurd h (by decide)
  have hw : g.waiting = [] := by
    by_cases h : g.waiting = []
    · exact h
    · have := hh.bc h; rw [hbc] at this; exact absurd this (by decide)
  have hc : g.cur = [] := by
    by_cases h : g.cur = []
    · exact h
    · have := hh.running h; rw [hidle] at this; exact absurd this (by decide)
  simp [RGhost.unanswered, hw, hc]

theorem drun_heard (I : Nat) (ops : List DOp) : ∀ (g : RGhost), Heard g → Heard (drun I g ops) :=
  foldl_inv Heard _ (fun g _ h => grun_heard I _ g h) ops

end C16
