import Gen.Uuid
import Model.Uuid
import Proofs.GenTieBits
/-!
  Tie theorems between the functions of /repo/uuid.go REGENERATED by tools/go2lean (`Gen.Uuid`) and the
  hand-written model the C19 theorems are about (`Uuid`).
-/
namespace GenTie.C19

theorem getD_map (l : List UInt8) (i : Nat) :
    (l.map (·.toBitVec)).getD i 0#8 = (Uuid.byteAt l i).toBitVec := GenTie.C12.getD_map l i

theorem version (u : List UInt8) : (Gen.Uuid.UUID_Version (u.map (·.toBitVec))).toNat = Uuid.version u := by
  simp only [Gen.Uuid.UUID_Version, Uuid.version, getD_map]
  generalize Uuid.byteAt u 6 = b
  rw [BitVec.toNat_setWidth, ← UInt8.toNat_toBitVec]
  have : ((b &&& 240) >>> 4).toBitVec = (b.toBitVec &&& 240#8) >>> 4 := by
    simp [UInt8.toBitVec_shiftRight, UInt8.toBitVec_and]
  rw [this]
  exact Nat.mod_eq_of_lt (by omega)

theorem and_eq_zero (b m : UInt8) : ((b.toBitVec &&& m.toBitVec) == 0#8) = decide (b &&& m = 0) := by
  rw [← UInt8.toBitVec_and]
  by_cases h : b &&& m = 0
  · simp [h]
  · simp [h]
    intro h'
    exact h (UInt8.toBitVec_inj.mp (by simpa using h'))

theorem variant (u : List UInt8) : (Gen.Uuid.UUID_Variant (u.map (·.toBitVec))).toNat = Uuid.variant u := by
  simp only [Gen.Uuid.UUID_Variant, Uuid.variant, getD_map]
  generalize Uuid.byteAt u 8 = b
  have h80 := and_eq_zero b 0x80
  have h40 := and_eq_zero b 0x40
  have h20 := and_eq_zero b 0x20
  simp only [show (0x80 : UInt8).toBitVec = 0x80#8 from rfl, show (0x40 : UInt8).toBitVec = 0x40#8 from rfl,
    show (0x20 : UInt8).toBitVec = 0x20#8 from rfl] at h80 h40 h20
  rw [h80, h40, h20]
  by_cases a : b &&& 0x80 = 0 <;> by_cases c : b &&& 0x40 = 0 <;> by_cases d : b &&& 0x20 = 0 <;> simp [a, c, d]

theorem version_ne (u : List UInt8) :
    (Gen.Uuid.UUID_Version (u.map (·.toBitVec)) != 0x1#64) = decide (Uuid.version u ≠ 1) := by
  rw [← version u, Gen.Uuid.UUID_Version]
  generalize ((u.map (·.toBitVec)).getD 6 0#8 &&& 0xf0#8) >>> 4 = x
  have := x.isLt
  rw [← BitVec.ofNat_toNat, GenTie.C12.len_ne _ _ (by omega) (by decide), GenTie.Bits.toNat_int (by omega)]

theorem clock (u : List UInt8) : (Gen.Uuid.UUID_Clock (u.map (·.toBitVec))).toNat = Uuid.clock u := by
  simp only [Gen.Uuid.UUID_Clock, Uuid.clock, version_ne, getD_map]
  by_cases h : Uuid.version u ≠ 1
  · simp [h]
  · simp only [h, decide_false, Bool.false_eq_true, if_false]
    rw [show (Uuid.byteAt u 8).toBitVec &&& 0x3f#8 = (Uuid.byteAt u 8 &&& 0x3F).toBitVec from rfl,
      GenTie.C12.be2_bv (w := 32) (by decide), GenTie.C12.or_shl _ _ (UInt8.toNat_lt _)]

/-- `Node()` (nil and empty are not distinguished by the translation) -/
theorem node (u : List UInt8) :
    Gen.Uuid.UUID_Node (u.map (·.toBitVec)) = ((Uuid.node u).getD []).map (·.toBitVec) := by
  simp only [Gen.Uuid.UUID_Node, Uuid.node, version_ne]
  by_cases h : Uuid.version u ≠ 1 <;> simp [h, List.map_drop]

theorem timestamp (u : List UInt8) :
    (Gen.Uuid.UUID_Timestamp (u.map (·.toBitVec))).toNat = Uuid.timestamp u := by
  simp only [Gen.Uuid.UUID_Timestamp, Uuid.timestamp, version_ne, getD_map]
  by_cases h : Uuid.version u ≠ 1
  · simp [h]
  · simp only [h, decide_false, Bool.false_eq_true, if_false]
    rw [show (Uuid.byteAt u 6).toBitVec &&& 0xf#8 = (Uuid.byteAt u 6 &&& 0x0F).toBitVec from rfl]
    have hc : (Uuid.byteAt u 6 &&& 0x0F).toNat ≤ 15 := by rw [UInt8.toNat_and]; exact Nat.and_le_right
    generalize (Uuid.byteAt u 6 &&& 0x0F) = c6 at hc ⊢
    simp (disch := decide) only [BitVec.toNat_add, BitVec.toNat_or, GenTie.C12.byte_shl_toNat, GenTie.C12.byte_zext_toNat]
    -- the three groups stay below 2^32, 2^48, 2^60: nothing is lost in the 64-bit sums
    have l (x : UInt8) (k : Nat) : x.toNat <<< k < 2 ^ (k + 8) := (GenTie.C12.byte_shl x k (k + 8) (Nat.le_refl _)).2
    have hA := Nat.or_lt_two_pow (Nat.or_lt_two_pow (Nat.or_lt_two_pow (l (Uuid.byteAt u 0) 24)
      (Nat.lt_trans (l (Uuid.byteAt u 1) 16) (by decide)))
      (Nat.lt_trans (l (Uuid.byteAt u 2) 8) (by decide))) (Nat.lt_trans (Uuid.byteAt u 3).toNat_lt (by decide))
    have hB := Nat.or_lt_two_pow (l (Uuid.byteAt u 4) 40) (Nat.lt_trans (l (Uuid.byteAt u 5) 32) (by decide))
    have hC : c6.toNat <<< 56 ||| (Uuid.byteAt u 7).toNat <<< 48 < 2^60 :=
      Nat.or_lt_two_pow (by rw [Nat.shiftLeft_eq]; omega) (Nat.lt_trans (l (Uuid.byteAt u 7) 48) (by decide))
    omega

theorem sshr_low (t : BitVec 64) (k : Nat) (hk : k ≤ 56) :
    UInt8.ofBitVec ((BitVec.sshiftRight t k).setWidth 8) = Uuid.tbyte t.toNat k := by
  rw [GenTie.Bits.byte_sshift t k (by omega), GenTie.Bits.byte_ushift]; rfl

theorem low_byte (t : BitVec 64) : UInt8.ofBitVec (t.setWidth 8) = Uuid.tbyte t.toNat 0 :=
  GenTie.Bits.byte_ushift t 0

theorem clk_hi (c : BitVec 32) : UInt8.ofBitVec ((c >>> 8).setWidth 8) = UInt8.ofNat (c.toNat >>> 8) :=
  GenTie.Bits.byte_ushift c 8

theorem clk_lo (c : BitVec 32) : UInt8.ofBitVec (c.setWidth 8) = UInt8.ofNat c.toNat :=
  GenTie.Bits.byte_ushift c 0

/-- `copy(dst[a:], src)` into a zero tail of `m` bytes: at most `m` bytes of `src`, the rest stays 0 -/
theorem goCopy_zeros (dst : List (BitVec 8)) (a m : Nat) (src : List (BitVec 8)) (hd : dst.drop a = List.replicate m 0#8) :
    Gen.Uuid.goCopyAt dst a src = dst.take a ++ (src.take m ++ List.replicate (m - (src.take m).length) 0#8) := by
  have hm : dst.length - a = m := by simpa using congrArg List.length hd
  simp only [Gen.Uuid.goCopyAt, hm]
  rw [Nat.min_comm, ← List.take_eq_take_min, List.append_assoc, ← List.drop_drop, hd, List.drop_replicate, List.length_take]

/-- `TimeUUIDWith(t, clock, node)` as re-translated from uuid.go (the sixteen stores, `copy(u[10:], node)`, version and
    variant bits) is the model's `timeUUIDWith` on the bit patterns, for every t, clock and node slice -/
theorem timeUUIDWith (t : BitVec 64) (c : BitVec 32) (nd : List UInt8) :
    (Gen.Uuid.TimeUUIDWith t c (nd.map (·.toBitVec))).map UInt8.ofBitVec = Uuid.timeUUIDWith t.toNat c.toNat nd := by
  have e24 := sshr_low t 24 (by omega)
  have e16 := sshr_low t 16 (by omega)
  have e8 := sshr_low t 8 (by omega)
  have e0 := low_byte t
  have e40 := sshr_low t 40 (by omega)
  have e32 := sshr_low t 32 (by omega)
  have e56 := sshr_low t 56 (by omega)
  have e48 := sshr_low t 48 (by omega)
  have c8 := clk_hi c
  have c0 := clk_lo c
  unfold Gen.Uuid.TimeUUIDWith Uuid.timeUUIDWith Uuid.nodeBytes
  simp [List.replicate, goCopy_zeros _ 10 6, GenTie.Bits.ofBitVec_toBitVec, *]

/-! ### `UUIDFromBytes` (the length test of the model's `unmarshalCQL` / `unmarshalCQLTime`: `data.length ≠ 16` is an error) -/

theorem len_ne' (n k : Nat) (h : n < 2^63) (hk : k < 2^63) : (BitVec.ofNat 64 n != BitVec.ofNat 64 k) = decide (n ≠ k) :=
  GenTie.C12.len_ne n k h hk

/-- `UUIDFromBytes(input)`: an error unless exactly 16 bytes, else those bytes (`copy(u[:], input)` into the zero UUID) -/
theorem uuidFromBytes (b : List UInt8) (h : b.length < 2^63) :
    (let r := Gen.Uuid.UUIDFromBytes (b.map (·.toBitVec))
     if r.2 then none else some (r.1.map UInt8.ofBitVec)) = (if b.length = 16 then some b else none) := by
  unfold Gen.Uuid.UUIDFromBytes
  rw [List.length_map, len_ne' _ _ h (by decide)]
  by_cases e : b.length = 16
  · have hm : (b.map (·.toBitVec)).length = 16 := by simpa using e
    simp [e, Gen.Uuid.goCopyAt, hm, GenTie.Bits.ofBitVec_toBitVec]
    exact List.take_of_length_le (by omega)
  · simp [e]

theorem hex_nib : ∀ n : Fin 16, Char.ofNat (([48#8, 49#8, 50#8, 51#8, 52#8, 53#8, 54#8, 55#8, 56#8, 57#8, 97#8, 98#8, 99#8, 100#8, 101#8,
    102#8] : List (BitVec 8))[n.val]?.getD 0#8).toNat = Uuid.hexDigit n.val := by decide

theorem hex_hi : ∀ b : BitVec 8, Char.ofNat (([48#8, 49#8, 50#8, 51#8, 52#8, 53#8, 54#8, 55#8, 56#8, 57#8, 97#8, 98#8, 99#8, 100#8, 101#8,
    102#8] : List (BitVec 8))[b.toNat >>> 4]?.getD 0#8).toNat = Uuid.hexDigit (b.toNat / 16) := by
  intro b
  have := hex_nib ⟨b.toNat >>> 4, by rw [Nat.shiftRight_eq_div_pow]; have := b.isLt; omega⟩
  rwa [show b.toNat / 16 = b.toNat >>> 4 from (Nat.shiftRight_eq_div_pow _ 4).symm]

theorem hex_lo : ∀ b : BitVec 8, Char.ofNat (([48#8, 49#8, 50#8, 51#8, 52#8, 53#8, 54#8, 55#8, 56#8, 57#8, 97#8, 98#8, 99#8, 100#8, 101#8,
    102#8] : List (BitVec 8))[b.toNat &&& 15]?.getD 0#8).toNat = Uuid.hexDigit (b.toNat % 16) := by
  intro b
  rw [show b.toNat &&& 15 = b.toNat % 16 from Nat.and_two_pow_sub_one_eq_mod _ 4]
  exact hex_nib ⟨b.toNat % 16, Nat.mod_lt _ (by decide)⟩

/-- `UUID.String()` (the offsets table, the hex digits, the four hyphens) is the model's `Uuid.print`, every 16-byte UUID -/
theorem string (b0 b1 b2 b3 b4 b5 b6 b7 b8 b9 b10 b11 b12 b13 b14 b15 : BitVec 8) :
    (Gen.Uuid.UUID_String [b0, b1, b2, b3, b4, b5, b6, b7, b8, b9, b10, b11, b12, b13, b14, b15]).map (fun c => Char.ofNat c.toNat)
      = Uuid.print ([b0, b1, b2, b3, b4, b5, b6, b7, b8, b9, b10, b11, b12, b13, b14, b15].map UInt8.ofBitVec) := by
  simp [Gen.Uuid.UUID_String, Gen.Uuid.UUID_String_loop1, Uuid.print, Uuid.hexBytes, Uuid.hexByte, hex_hi, hex_lo]

end GenTie.C19
