import Proofs.C12Conf
import Proofs.C12Scalar
import Proofs.C12Coll
import Proofs.C12Vint
import Proofs.C12BigInt
/-!
# C12: every scalar column conforms (helpers; the property theorems are in Proofs/C12.lean)

One lemma per function of marshal.go that serves a column (integer kinds, strings of digits, big.Int, varint, date,
nanosecond counts, …), then `scalar_conf`: every scalar column × every documented Go scalar.
-/
namespace C12ScalarConf
open ValueSpec Marshal C12Bytes C12Int C12Varint C12Scalar C12Nest

theorem holds_int64 (v : Int) : IntKind.int64.holds v = true ↔ fitsS 8 v = true := by
  simp [IntKind.holds, IntKind.signed, IntKind.bits, fitsS, leB_iff, ltB_iff]; omega

theorem pairUp_length : ∀ (ns : List Nat), (pairUp ns).length = ns.length / 2
  | [] => rfl
  | [_] => by simp [pairUp]
  | a :: b :: r => by
    rw [pairUp, List.length_cons, pairUp_length r]
    simp only [List.length_cons]; omega

theorem parseUUID_length (s b : Bytes) (h : parseUUID s = some b) : b.length = 16 := by
  revert h
  fun_cases parseUUID s <;> intro h <;> cases h
  rw [pairUp_length, ‹List.length _ = 32›]

theorem specEnc_intcol (p : Nat) (t : CqlTy) (col : IntCol) (ht : intColOf t = some col) (v : Int) :
    specEnc p t (.int v) = if fitsS col.bytes v = true then some (tcEnc col.bytes v) else none := by
  cases t <;> simp [intColOf] at ht <;> subst ht <;> rfl

theorem intkind_conf (p : Nat) (t : CqlTy) (col : IntCol) (ht : intColOf t = some col) (k : IntKind) (named : Bool)
    (v : Int) (hv : k.holds v = true)
    (hx : (!k.signed && decide (v ≥ (2:Int)^(8*col.bytes-1))) = false) :
    Conf p t (optM (marshalIntKind col k named v)) (some (.int v)) := by
  rw [marshalIntKind_char col k named v hv]
  have hw : wrapsAccepted col k named v = true → fitsS col.bytes v = true := by
    intro hw
    exfalso
    cases col <;> cases hs : k.signed <;>
      simp [wrapsAccepted, hs, IntCol.bytes, leB_iff, ltB_iff] at hw hx <;> omega
  by_cases hf : fitsS col.bytes v = true
  · rw [if_pos (.inl hf)]
    exact conf_some rfl (by rw [specEnc_intcol p t col ht, if_pos hf])
  · rw [if_neg (fun h => hf (h.elim id hw))]
    trivial

/-- a Go string bound to an integer column: the decimal number it spells, in the column's width -/
theorem marshalIntString_spec (p : Nat) (t : CqlTy) (col : IntCol) (ht : intColOf t = some col) (s b : Bytes)
    (h : marshalIntString col s = some b) : ∃ n, parseDec s = some n ∧ specEnc p t (.int n) = some b := by
  obtain ⟨n, hn, hf, rfl⟩ := marshalIntString_tc col s b h
  exact ⟨n, hn, by rw [specEnc_intcol p t col ht, if_pos hf]⟩

theorem intstring_conf (p : Nat) (t : CqlTy) (col : IntCol) (ht : intColOf t = some col) (s : Bytes) :
    Conf p t (optM (marshalIntString col s)) ((parseDec s).map CqlVal.int) := by
  cases h : marshalIntString col s with
  | none => trivial
  | some b =>
    obtain ⟨n, hn, hb⟩ := marshalIntString_spec p t col ht s b h
    rw [hn]
    exact conf_some (c := .int n) rfl hb

/-- big.Int → bigint / counter: `v.IsInt64()` or an error, then the 8 bytes of `v.Int64()` -/
theorem marshalBig_eq (v : Int) :
    marshalIntColumn .big (.big v) = optM (if fitsS 8 v = true then some (tcEnc 8 v) else none) := by
  by_cases h : (-9223372036854775808 ≤ v ∧ v < 9223372036854775808)
  · have hf : fitsS 8 v = true := by simp [fitsS_iff]; omega
    simp [marshalIntColumn, leB, ltB, h.1, h.2, hf, optM, encBigInt_eq]
  · have hf : fitsS 8 v = false := by simp [fitsS_false_iff]; omega
    have : (leB (-9223372036854775808) v && ltB v 9223372036854775808) = false := by
      simp only [leB, ltB, Bool.and_eq_false_iff, decide_eq_false_iff_not]
      omega
    simp [marshalIntColumn, this, hf, optM]

theorem bigcol_conf (p : Nat) (t : CqlTy) (ht : intColOf t = some .big) (v : Int) :
    Conf p t (marshalIntColumn .big (.big v)) (some (.int v)) := by
  rw [marshalBig_eq, show (if fitsS 8 v = true then some (tcEnc 8 v) else none) = specEnc p t (.int v) from
    (specEnc_intcol p t .big ht v).symm]
  exact conf_optM p t _ rfl

theorem varintkind_conf (p : Nat) (k : IntKind) (named : Bool) (v : Int) (hv : k.holds v = true) :
    Conf p .varint (optM (marshalVarintKind k named v)) (some (.int v)) := by
  cases h : marshalVarintKind k named v with
  | none => trivial
  | some b => exact conf_some rfl (by simp [specEnc, marshalVarintKind_spec k named v hv b h])

theorem varintstring_conf (p : Nat) (s : Bytes) :
    Conf p .varint (optM (marshalVarintString s)) ((parseDec s).map CqlVal.int) := by
  cases h : marshalVarintString s with
  | none => trivial
  | some b =>
    obtain ⟨n, hn, hb⟩ := marshalVarintString_spec s b h
    rw [hn]
    exact conf_some (c := .int n) rfl (by simp [specEnc, hb])

/-! ## every scalar column (by the function of marshal.go that serves it) × every documented Go scalar -/

theorem ipTo4_length (b v4 : Bytes) (h : ipTo4 b = some v4) : v4.length = 4 := by
  revert h
  fun_cases ipTo4 b <;> intro h <;> cases h
  · assumption
  · rw [List.length_drop, ‹b.length = 16 ∧ _›.1]

theorem _root_.C12Nest.ipTo4_none_16 (b : Bytes) (h : ipTo4 b = none) (hl : b.length = 4 ∨ b.length = 16) :
    ipTo16 b = some b ∧ b.length = 16 := by
  revert h
  fun_cases ipTo4 b <;> intro h <;> cases h
  have h16 : b.length = 16 := by omega
  simp [ipTo16, h16]

/-- date from a millisecond count (repair of KF-C12-5): the specification's day (FLOOR) + 2^31 when the day is in the
    range of a date, an error otherwise — for every int64 -/
theorem marshalDateMillis_spec (p : Nat) (ts : Int) :
    marshalDateMillis ts = optM (specEnc p .date (.int (ts / 86400000))) := by
  unfold marshalDateMillis
  rw [daysSinceEpoch_floor]
  by_cases hr : fitsU 4 (ts / 86400000 + 2147483648) = true
  · simp [specEnc, hr, optM, encDateMillis_spec ts hr]
  · simp [specEnc, hr, optM]

theorem date_conf (p : Nat) (ts : Int) : Conf p .date (marshalDateMillis ts) (some (.int (ts / 86400000))) := by
  rw [marshalDateMillis_spec p]
  exact conf_optM p .date _ rfl

/-- a time.Time (not the zero time, milliseconds representable in int64) bound to a date column: the day that
    contains the instant, or an error when it is outside the range of a date -/
theorem date_time_eq (p : Nat) (sec nsec : Int) (hn : 0 ≤ nsec ∧ nsec < 1000000000) (hz : timeIsZero sec nsec = false)
    (h1 : fitsS 8 (sec * 1000) = true) (h2 : fitsS 8 (exactMillis sec nsec) = true) :
    marshalScalar .date (.time sec nsec) = optM (specEnc p .date (.int (sec / 86400))) := by
  rw [← day_of_millis sec nsec hn, ← marshalDateMillis_spec]
  simp [marshalScalar, hz, timeMillis_exact sec nsec h1 h2]

theorem timestamp_time_eq (p : Nat) (sec nsec : Int) (hz : timeIsZero sec nsec = false)
    (h1 : fitsS 8 (sec * 1000) = true) (h2 : fitsS 8 (exactMillis sec nsec) = true) :
    marshalScalar .timestamp (.time sec nsec) = .ok (specEnc p .timestamp (.int (exactMillis sec nsec))) := by
  simp [marshalScalar, specEnc, hz, h2, timeMillis_exact sec nsec h1 h2, encBigInt_eq]

/-- decimal: 4-byte scale, then the unscaled value as varint -/
theorem decimal_eq (p : Nat) (u s : Int) (hs : fitsS 4 s = true) :
    marshalScalar .decimal (.dec u s) = .ok (specEnc p .decimal (.decimal u s)) := by
  simp [marshalScalar, specEnc, hs, encInt_eq, tcEnc_toS32, C12BigInt.encBigInt2C_spec]

/-- months, days, nanoseconds as three vints -/
theorem encVints_spec (m d n : Int) (hm : fitsS 4 m = true) (hd : fitsS 4 d = true) (hn : fitsS 8 n = true) :
    encVints m d n = specVint m ++ specVint d ++ specVint n := by
  rw [encVints, C12Vint.encVint_spec m (fitsS_mono (by decide) hm), C12Vint.encVint_spec d (fitsS_mono (by decide) hd),
    C12Vint.encVint_spec n hn]

/-- the same 8 bytes / three vints for a count of nanoseconds, whatever int64 type carries it -/
theorem nanos_conf (p : Nat) (v : Int) (h8 : fitsS 8 v = true) :
    Conf p .time (.ok (some (encBigInt v))) (some (.int v)) ∧
    Conf p .timestamp (.ok (some (encBigInt v))) (some (.int v)) ∧
    Conf p .duration (.ok (some (encVints 0 0 v))) (some (.duration 0 0 v)) := by
  have h0 : fitsS 4 0 = true := by decide
  refine ⟨?_, ?_, ?_⟩ <;>
    simp [Conf, CqlVal.isNull, specEnc, encBigInt_eq, h8, h0, encVints_spec 0 0 v h0 h0 h8]

theorem scalar_conf (p : Nat) : ScalarConf p := by
  intro t g ht hwf hd hx
  cases t with
  | ascii | text | varchar | blob =>
    cases g with
    | nil => exact rfl
    | str named s => cases named <;> exact conf_some rfl rfl
    | bytes named isNil b => cases isNil <;> first | exact rfl | exact conf_some rfl rfl
    | _ => cases hd
  | boolean =>
    cases g with
    | nil => exact rfl
    | bool named b => cases b <;> exact conf_some rfl rfl
    | str named s => cases named <;> cases hd
    | _ => cases hd
  | tinyint | smallint | int | bigint | counter =>
    cases g with
    | nil => exact rfl
    | int k named v => exact intkind_conf p _ _ (by rfl) k named v hwf hx
    | dur ns =>
      have hh := (holds_int64 ns).mpr hwf
      -- for bigint / counter the width is not read off the goal: the second form gives it
      first
        | exact intkind_conf p _ _ (by rfl) .int64 true ns hh rfl
        | exact intkind_conf p _ .big (by rfl) .int64 true ns hh rfl
    | str named s => cases named <;> first | exact intstring_conf p _ _ (by rfl) s | cases hd
    | big v => first | exact bigcol_conf p _ (by rfl) v | cases hd
    | _ => cases hd
  | varint =>
    cases g with
    | nil => exact rfl
    | int k named v => exact varintkind_conf p k named v hwf
    | dur ns => exact varintkind_conf p .int64 true ns ((holds_int64 ns).mpr hwf)
    | str named s => cases named <;> first | exact varintstring_conf p s | cases hd
    | big v => exact conf_some rfl (by rw [C12BigInt.marshalVarintBig_spec]; rfl)
    | _ => cases hd
  | float =>
    cases g with
    | nil => exact rfl
    | f32 named x =>
      have hx32 : x < 2^32 := hwf
      cases named
      · simp [Conf, marshalScalar, interpScalar, specEnc, CqlVal.isNull, hx32, encInt_nat x hx32]
      · -- a named float32 goes through float64: only a bit pattern that survives is conformant
        have hq : quiet32 x = x := by simpa [excludedScalar, intColOf] using hx
        simp [Conf, marshalScalar, interpScalar, specEnc, CqlVal.isNull, hx32, hq, encInt_nat x hx32]
    | str named s => cases named <;> cases hd
    | _ => cases hd
  | double =>
    cases g with
    | nil => exact rfl
    | f64 named x =>
      have hx64 : x < 2^64 := hwf
      simp [Conf, marshalScalar, interpScalar, specEnc, CqlVal.isNull, hx64, encBigInt_u64 x hx64]
    | str named s => cases named <;> cases hd
    | _ => cases hd
  | decimal =>
    cases g with
    | nil => exact rfl
    | dec u sc =>
      have hs : fitsS 4 sc = true := hwf
      exact conf_ok_spec (decimal_eq p u sc hs) rfl (by simp [specEnc, hs])
    | str named s => cases named <;> cases hd
    | _ => cases hd
  | time =>
    cases g with
    | nil => exact rfl
    | int k named v =>
      obtain rfl : k = .int64 := by simpa [documentedScalar, CqlTy.isIntCol] using hd
      exact (nanos_conf p v ((holds_int64 v).mp hwf)).1
    | dur ns => exact (nanos_conf p ns hwf).1
    | str named s => cases named <;> cases hd
    | _ => cases hd
  | timestamp =>
    cases g with
    | nil => exact rfl
    | int k named v =>
      obtain rfl : k = .int64 := by simpa [documentedScalar, CqlTy.isIntCol] using hd
      exact (nanos_conf p v ((holds_int64 v).mp hwf)).2.1
    | time sec nsec =>
      simp [excludedScalar] at hx
      obtain ⟨⟨hz, h1⟩, h2⟩ := hx
      exact conf_ok_spec (timestamp_time_eq p sec nsec hz h1 h2) rfl (by simp [specEnc, h2])
    | str named s => cases named <;> cases hd
    | _ => cases hd
  | date =>
    cases g with
    | nil => exact rfl
    | int k named v =>
      obtain ⟨rfl, rfl⟩ : k = .int64 ∧ named = false := by simpa [documentedScalar, CqlTy.isIntCol] using hd
      exact date_conf p v
    | time sec nsec =>
      have hn : 0 ≤ nsec ∧ nsec < 1000000000 := hwf
      simp [excludedScalar] at hx
      obtain ⟨⟨hz, h1⟩, h2⟩ := hx
      rw [date_time_eq p sec nsec hn hz h1 h2]
      exact conf_optM p .date _ rfl
    | str named s =>
      cases named
      · simp [excludedScalar] at hx
      · cases hd
    | _ => cases hd
  | duration =>
    cases g with
    | nil => exact rfl
    | int k named v =>
      obtain rfl : k = .int64 := by simpa [documentedScalar, CqlTy.isIntCol] using hd
      cases named <;> exact (nanos_conf p v ((holds_int64 v).mp hwf)).2.2
    | dur ns => exact (nanos_conf p ns hwf).2.2
    | cqldur m d n =>
      obtain ⟨hm, hd', hn⟩ : fitsS 4 m = true ∧ fitsS 4 d = true ∧ fitsS 8 n = true := hwf
      simp [Conf, marshalScalar, interpScalar, CqlVal.isNull, specEnc, hm, hd', hn, encVints_spec m d n hm hd' hn]
    | str named s =>
      cases named
      · simp [excludedScalar] at hx
      · cases hd
    | _ => cases hd
  | uuid | timeuuid =>
    cases g with
    | nil => exact rfl
    | uuid b | arr16 b =>
      have hl : b.length = 16 := hwf
      simp [Conf, marshalScalar, interpScalar, CqlVal.isNull, specEnc, hl]
    | bytes named isNil b =>
      cases named
      · by_cases hl : b.length = 16 <;>
          simp [Conf, marshalScalar, interpScalar, CqlTy.isText, CqlVal.isNull, specEnc, hl]
      · cases hd
    | str named s =>
      cases named
      · cases h : parseUUID s with
        | none => simp [Conf, marshalScalar, optM, h]
        | some b =>
          have hl := parseUUID_length s b h
          simp [Conf, marshalScalar, interpScalar, CqlTy.isIntCol, CqlTy.isText, CqlVal.isNull, specEnc, optM, h, hl]
      · cases hd
    | _ => cases hd
  | inet =>
    cases g with
    | nil => exact rfl
    | ip b =>
      cases h4 : ipTo4 b with
      | some v4 =>
        have := ipTo4_length b v4 h4
        simp [Conf, marshalScalar, interpScalar, CqlVal.isNull, specEnc, h4, this]
      | none =>
        have hn4 : b.length ≠ 4 := by intro h; simp [ipTo4, h] at h4
        by_cases hb : b = []
        · subst hb; simp [Conf, marshalScalar, interpScalar, h4]
        · by_cases h16 : b.length = 16
          · simp [Conf, marshalScalar, interpScalar, CqlVal.isNull, specEnc, h4, hb, h16, ipTo16, optM]
          · simp [Conf, marshalScalar, h4, hb, ipTo16, hn4, h16, optM]
    | str named s =>
      cases named
      · simp [excludedScalar] at hx
      · cases hd
    | _ => cases hd
  | _ => cases ht
end C12ScalarConf
