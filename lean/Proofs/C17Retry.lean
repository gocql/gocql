import Model.PoolCtl
/-! The retry loop of hostConnPool.connect() (`Retry` of `Model/PoolCtl.lean`): what `go` returns, from any attempt on. -/

namespace C17Retry
open Retry

theorem go_spec (f : Nat → Dial) : ∀ (n i : Nat) (failed : Bool),
    (go f n i failed).2 ≤ i + n ∧ i + min n 1 ≤ (go f n i failed).2 ∧
    (∀ k, (go f n i failed).1 = .conn k →
      i ≤ k ∧ k < i + n ∧ f k = .ok ∧ (go f n i failed).2 = k + 1 ∧ ∀ j, i ≤ j → j < k → f j = .temp) ∧
    ((go f n i failed).1 = .nilNoErr → n = 0 ∧ failed = false)
  | 0, i, failed => by cases failed <;> simp [go]
  | n + 1, i, failed => by
    have ih := go_spec f n (i + 1) true
    unfold go
    cases h : f i with
    | ok =>
      simp only
      refine ⟨by omega, by omega, ?_, by simp⟩
      intro k hk
      injection hk with hk; subst hk
      exact ⟨Nat.le_refl _, by omega, h, rfl, fun j h1 h2 => by omega⟩
    | perm => simp only; exact ⟨by omega, by omega, by simp, by simp⟩
    | temp =>
      simp only
      obtain ⟨hle, hge, hconn, hnil⟩ := ih
      refine ⟨by omega, by omega, ?_, ?_⟩
      · intro k hk
        obtain ⟨hlo, hhi, hok, hcnt, htemp⟩ := hconn k hk
        refine ⟨by omega, by omega, hok, hcnt, ?_⟩
        intro j h1 h2
        by_cases hj : j = i
        · subst hj; exact h
        · exact htemp j (by omega) h2
      · intro hn; have := (hnil hn).2; simp at this

end C17Retry
