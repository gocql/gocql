import Proofs.C12Int
import Proofs.C12VintDec
/-!
# C02 — duration vints, decode direction

The specification's vint reader reads back what the specification's vint writer wrote; the model's decVint / encVint are
the specification's reader / writer (C12), so the three vints of a duration come back.
-/
namespace C02Vint
open ValueSpec Marshal C12Bytes C12Vint

/-- a first byte `y + marker` for `e` extra bytes: its leading one bits say `e`, the bits below the marker are `y` -/
theorem leadingOnes_marker (e : Nat) (he : e ≤ 8) (y : Nat) (hy : y < 2 ^ (7 - e)) :
    leadingOnes (y + (256 - 2 ^ (8 - e))) = e ∧ (y + (256 - 2 ^ (8 - e))) % 2 ^ (8 - e) = y := by
  -- a finite table: nine values of `e`, at most 128 values of `y` each
  revert y; revert e; decide

/-- the specification's reader on a vint of `e` extra bytes: first byte = marker + high bits, then `e` bytes -/
theorem specReadUVint_marked (e : Nat) (he : e ≤ 8) (u : Nat) (hx : u / 256 ^ e < 2 ^ (7 - e)) (rest : Bytes) :
    specReadUVint (beBytes (e + 1) (u + (256 - 2 ^ (8 - e)) * 256 ^ e) ++ rest) = some (u, rest) := by
  rw [beBytes_head, beBytes_add_mul, Nat.add_mul_div_right _ _ (Nat.pow_pos (by decide))]
  obtain ⟨hl, hm⟩ := leadingOnes_marker e he _ hx
  have h256 : 2 ^ (8 - e) ≤ 2 ^ 8 := Nat.pow_le_pow_right (by decide) (by omega)
  have h78 : 2 ^ (7 - e) ≤ 2 ^ (8 - e) := Nat.pow_le_pow_right (by decide) (by omega)
  have hft : (byteOfNat (u / 256 ^ e + (256 - 2 ^ (8 - e)))).toNat = u / 256 ^ e + (256 - 2 ^ (8 - e)) := by
    rw [byteOfNat_toNat]; exact Nat.mod_eq_of_lt (by omega)
  have hlen : (beBytes e u).length = e := beBytes_length e u
  simp only [List.cons_append, specReadUVint, hft, hl, hm, List.length_append, hlen]
  rw [if_neg (by omega), List.take_append_of_le_length (by omega), List.take_of_length_le (by omega),
    List.drop_append_of_le_length (by omega), List.drop_of_length_le (by omega), beNat_beBytes, List.nil_append,
    Nat.div_add_mod']

theorem specReadUVint_specUVint (u : Nat) (hu : u < 2 ^ 64) (rest : Bytes) :
    specReadUVint (specUVint u ++ rest) = some (u, rest) := by
  unfold specUVint
  obtain ⟨e, hs, he, hx⟩ := uvintSize_bound u hu
  simp only [hs, Nat.add_sub_cancel, show 9 - (e + 1) = 8 - e by omega]
  exact specReadUVint_marked e he u hx rest

theorem decVint_specVint (n : Int) (h : fitsS 8 n = true) (rest : Bytes) :
    decVint (specVint n ++ rest) = some (n, rest) := by
  rw [C12VintDec.decVint_spec]
  simp only [specReadVint, specVint, specReadUVint_specUVint _ (zigzag_lt n h), unzigzag_zigzag]

/-- the three vints of a duration: months and days of int32, nanoseconds of int64 -/
theorem decVints_encVints (m d n : Int) (hm : fitsS 4 m = true) (hd : fitsS 4 d = true) (hn : fitsS 8 n = true) :
    decVints (encVints m d n) = some (m, d, n) := by
  have hm8 : fitsS 8 m = true := fitsS_mono (by decide) hm
  have hd8 : fitsS 8 d = true := fitsS_mono (by decide) hd
  unfold encVints decVints
  rw [encVint_spec m hm8, encVint_spec d hd8, encVint_spec n hn, List.append_assoc, decVint_specVint m hm8]
  simp only
  rw [decVint_specVint d hd8]
  simp only
  have := decVint_specVint n hn []
  rw [List.append_nil] at this
  rw [this]
  simp only [C12.toS32_id m hm, C12.toS32_id d hd]

/-- not empty, since the empty string does not decode (a vint has at least its first byte) -/
theorem encVints_ne_nil (m d n : Int) (hm : fitsS 4 m = true) (hd : fitsS 4 d = true) (hn : fitsS 8 n = true) :
    encVints m d n ≠ [] := by
  intro h
  have h1 := decVints_encVints m d n hm hd hn
  rw [h] at h1
  simp [decVints, decVint] at h1

end C02Vint
