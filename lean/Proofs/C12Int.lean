import Proofs.C12Bytes
/-!
# C12: integer columns (tinyint / smallint / int / bigint / counter) — every Go integer kind, named or not

Encode: `marshalIntKind_char` — the bytes are always `tcEnc w v`; what is accepted is one interval per signedness
(`accept_iff`).  Decode: `unmarshalIntKind_char` — a target gets the number it sees in the column value (`seenBy`: an
unsigned kind reads the bytes as an unsigned number) when it can hold it, an error otherwise — proved over the widths
only (`decodeKind`: bytes of the column, bits of the kind), without looking at the kinds one by one; `C12.decode_tcEnc` is the
same on the conformant bytes of a number.  `C02.marshalIntKind_some`: what an accepting Marshal wrote.
-/
namespace C12Int
open ValueSpec Marshal C12Bytes

/-- the values that marshal.go accepts although they do not fit the column: an unsigned Go integer whose value
    lies in the upper half of the column's unsigned range (it is written as the two's complement bit pattern, D9).
    Not accepted (correctly refused): named unsigned kinds into `int`, named unsigned kinds and `uint` into `bigint`. -/
def wrapsAccepted (col : IntCol) (k : IntKind) (named : Bool) (v : Int) : Bool :=
  !k.signed && leB ((256:Int)^col.bytes) (2 * v) && ltB v ((256:Int)^col.bytes)
  && !((col == .int && named) || (col == .big && (named || k == .uint)))

theorem wrapsAccepted_iff {col : IntCol} {k : IntKind} {named : Bool} {v : Int} :
    wrapsAccepted col k named v = true ↔
      (k.signed = false ∧ (256:Int) ^ col.bytes ≤ 2 * v ∧ v < (256:Int) ^ col.bytes) ∧
      ((col == .int && named) || (col == .big && (named || k == .uint))) = false := by
  simp only [wrapsAccepted, Bool.and_eq_true, Bool.not_eq_true', leB_iff, ltB_iff, and_assoc]

/-- a range check written as "refuse when out of range" against one written as "accept when in range" -/
theorem refuse_eq_accept {α : Type} {c d : Prop} [Decidable c] [Decidable d] {e x : α} (h : ¬ c ↔ d) (he : d → e = x) :
    (if c then none else some e) = if d then some x else none := by
  by_cases hc : c
  · rw [if_pos hc, if_neg (fun hd => (h.mpr hd) hc)]
  · rw [if_neg hc, if_pos (h.mp hc), he (h.mp hc)]

theorem some_eq_accept {α : Type} {d : Prop} [Decidable d] {e x : α} (hd : d) (he : e = x) :
    some e = if d then some x else none := by
  rw [if_pos hd, he]

theorem holds_iff {k : IntKind} {v : Int} : k.holds v = true ↔
    if k.signed = true then -((2:Int) ^ (k.bits - 1)) ≤ v ∧ v < (2:Int) ^ (k.bits - 1) else 0 ≤ v ∧ v < (2:Int) ^ k.bits := by
  unfold IntKind.holds; split <;> simp only [Bool.and_eq_true, leB_iff, ltB_iff]

/-- every Go integer is an int64 or a uint64 -/
theorem holds_64 {k : IntKind} {v : Int} (hv : k.holds v = true) :
    (-9223372036854775808 ≤ v ∧ v < 18446744073709551616) ∧ (k.signed = true → v < 9223372036854775808) ∧
    (k.signed = false → 0 ≤ v) := by
  cases k <;> simp only [holds_iff, IntKind.signed, IntKind.bits, if_true,
    Bool.false_eq_true, Bool.true_eq_false, false_imp_iff, forall_const, and_true, true_and, if_false, Int.reducePow, Int.reduceNeg,
    Nat.reduceSub] at hv ⊢ <;> omega

theorem holds_nonneg {k : IntKind} {v : Int} (hv : k.holds v = true) (hs : k.signed = false) : 0 ≤ v := (holds_64 hv).2.2 hs

/-- an unsigned kind other than the two 64-bit ones holds numbers far below 2^63 -/
theorem holds_narrow {k : IntKind} {v : Int} (hv : k.holds v = true) (hs : k.signed = false) (h1 : k ≠ .uint64) (h2 : k ≠ .uint) :
    v < 9223372036854775808 := by
  cases k <;> simp_all [holds_iff, IntKind.signed, IntKind.bits] <;> omega

theorem signed_or_nonneg {k : IntKind} {v : Int} (hv : k.holds v = true) : k.signed = true ∨ 0 ≤ v := by
  cases hk : k.signed
  · exact Or.inr (holds_nonneg hv hk)
  · exact Or.inl rfl

/-- what is accepted, as one interval with the column's width a variable: a signed kind must fit the column; an unsigned
    kind may use the column's whole unsigned range, except on the three paths that compare with the signed maximum -/
theorem accept_iff (col : IntCol) (k : IntKind) (named : Bool) (v : Int) (h0 : k.signed = false → 0 ≤ v) :
    (fitsS col.bytes v = true ∨ wrapsAccepted col k named v = true) ↔
      if k.signed = true then -((256:Int)^col.bytes) ≤ 2 * v ∧ 2 * v < (256:Int)^col.bytes
      else if (col = .int ∧ named = true) ∨ (col = .big ∧ (named = true ∨ k = .uint)) then 2 * v < (256:Int)^col.bytes
      else v < (256:Int)^col.bytes := by
  have hp : (0:Int) < (256:Int)^col.bytes := Int.pow_pos (by decide)
  simp only [fitsS_iff, wrapsAccepted_iff]
  generalize (256:Int)^col.bytes = P at *
  cases hs : k.signed
  · have := h0 hs
    by_cases hx : (col = .int ∧ named = true) ∨ (col = .big ∧ (named = true ∨ k = .uint))
    · have : ((col == .int && named) || (col == .big && (named || k == .uint))) = true := by simpa using hx
      simp only [this, hx, if_true]; simp; omega
    · have : ((col == .int && named) || (col == .big && (named || k == .uint))) = false := by simpa using hx
      simp only [this, hx, if_false]; simp; omega
  · simp

/-- complete characterisation of marshalTinyInt/SmallInt/Int/BigInt on integer kinds: the bytes are always the
    column-width two's complement bytes of the value; the call succeeds iff the value fits or is wrapped -/
theorem marshalIntKind_char (col : IntCol) (k : IntKind) (named : Bool) (v : Int) (hv : k.holds v = true) :
    marshalIntKind col k named v =
      if fitsS col.bytes v = true ∨ wrapsAccepted col k named v = true then some (tcEnc col.bytes v) else none := by
  -- marshal.go's switch arm by arm: an unguarded or a guarded `some (tcEnc …)` whose guard, in literals, is the
  -- complement of the interval of `accept_iff`.  The named arms look at `k.signed` only.
  simp only [accept_iff col k named v (holds_nonneg hv)]
  cases named
  · -- unnamed: one arm per kind and column, the range of the kind in literals
    cases k <;> simp only [holds_iff, IntKind.signed, IntKind.bits, if_true,
      Bool.false_eq_true, if_false, Int.reducePow, Int.reduceNeg, Nat.reduceSub] at hv <;> cases col
    all_goals
      simp only [marshalIntKind, IntKind.signed, if_true, Bool.false_eq_true, if_false, IntCol.bytes,
        encTiny_eq, encShort_eq, encInt_eq, encBigInt_eq, tcEnc_toS16, tcEnc_toS32, tcEnc_toS64,
        Int.reducePow, Int.reduceNeg, reduceCtorEq, and_true, and_false, or_true, and_self, or_self]
      -- an unguarded arm accepts outright; a guarded one refuses on the complement of the interval
      first
        | exact some_eq_accept (by omega) rfl
        | exact refuse_eq_accept (by omega) (fun _ => rfl)
  · -- named: one arm per signedness and column, the range of the kind as far as `holds_64` says
    obtain ⟨h64, hsg, hun⟩ := holds_64 hv
    cases hs : k.signed <;> (first | have := hsg hs | have := hun hs) <;> cases col
    all_goals
      simp only [marshalIntKind, hs, if_true, Bool.false_eq_true, if_false, IntCol.bytes,
        encTiny_eq, encShort_eq, encInt_eq, encBigInt_eq, tcEnc_toS16, tcEnc_toS32, tcEnc_toS64,
        Int.reducePow, Int.reduceNeg, reduceCtorEq, and_true, or_false, or_true, true_or, and_self, or_self]
      first
        | exact some_eq_accept (by omega) rfl
        | exact refuse_eq_accept (by omega) (fun _ => rfl)

/-- the width a source reads, in the type's own namespace beside the model's `IntCol.bytes` (for `src.bytes`) -/
def _root_.Marshal.IntSrc.bytes : IntSrc → Nat
  | .tiny => 1 | .small => 2 | .int => 4 | _ => 8

/-- the number a target of kind `k` sees in the column value `n`: a signed kind the number itself, an unsigned kind the
    column's bytes read as an unsigned number -/
def seenBy (src : IntSrc) (k : IntKind) (n : Int) : Int :=
  if k.signed = true then n else n % (256:Int) ^ src.bytes

/-- a signed kind, and every kind on a non-negative number, sees the number itself -/
theorem seenBy_of {src : IntSrc} {k : IntKind} {n : Int} (hn : fitsS src.bytes n = true) (hs : k.signed = true ∨ 0 ≤ n) :
    seenBy src k n = n := by
  unfold seenBy
  split
  · rfl
  · rw [fitsS_iff] at hn
    exact Int.emod_eq_of_lt (hs.resolve_left ‹_›) (by have := hs.resolve_left ‹_›; omega)

/-- unmarshalIntlike into an integer kind, written over the WIDTHS only: `w` bytes of the column, `B` bits of the kind -/
def decodeKind (w : Nat) (n : Int) (signed : Bool) (B : Nat) : Option Int :=
  if signed then (if B = 64 then some n else if n < -(2:Int)^(B-1) ∨ n > (2:Int)^(B-1) - 1 then none else some n)
  else if w * 8 ≤ B then some (toU B n % (256:Int)^w)
  else if n < 0 ∨ n > (2:Int)^B - 1 then none else some (toU B n)

/-- the model's fifty arms (kind × column) are this one function of the two widths -/
theorem unmarshalIntKind_eq (src : IntSrc) (n : Int) (k : IntKind) :
    unmarshalIntKind src n k = decodeKind src.bytes n k.signed k.bits := by
  cases k <;> cases src <;> first | rfl | simp [unmarshalIntKind, decodeKind, IntKind.signed, IntKind.bits, IntSrc.bytes, toU]

/-- unmarshalIntlike into an integer kind, for a column value `n` (int64 for varint), EVERY kind: the target gets the
    number it sees when it can hold it, and an error otherwise -/
theorem unmarshalIntKind_char (src : IntSrc) (n : Int) (k : IntKind) (hn : fitsS src.bytes n = true) :
    unmarshalIntKind src n k = if k.holds (seenBy src k n) = true then some (seenBy src k n) else none := by
  have hB : 1 ≤ k.bits ∧ k.bits ≤ 64 := by cases k <;> decide
  have hw : src.bytes * 8 ≤ 64 := by cases src <;> decide
  rw [unmarshalIntKind_eq]
  simp only [seenBy, holds_iff, decodeKind, fitsS_iff, toU, ← BE.two_pow_mul8] at hn ⊢
  generalize k.bits = B at *
  generalize src.bytes * 8 = W at *
  have hP : (0:Int) < 2 ^ W := Int.pow_pos (by decide)
  have h64 := BE.pow2_le hw
  cases k.signed
  · -- an unsigned kind: the bytes read as an unsigned number
    simp only [Bool.false_eq_true, if_false]
    have hm0 := Int.emod_nonneg n (Int.ne_of_gt hP)
    have hm1 := Int.emod_lt_of_pos n hP
    by_cases hl : W ≤ B
    · -- a kind at least as wide: masking to its width first changes nothing
      obtain ⟨d, rfl⟩ : ∃ d, B = W + d := ⟨B - W, by omega⟩
      rw [if_pos hl, Int.emod_emod_of_dvd n (by rw [Int.pow_add]; exact Int.dvd_mul_right _ _)]
      exact some_eq_accept ⟨hm0, Int.lt_of_lt_of_le hm1 (BE.pow2_le hl)⟩ rfl
    · -- a narrower kind: range check on the signed number; a negative number reads as at least half the column's range
      have h2 := BE.pow2_le (show B + 1 ≤ W by omega)
      rw [Int.pow_succ] at h2
      have hm : 0 ≤ n ∧ n % 2 ^ W = n ∨ n < 0 ∧ n % 2 ^ W = n + 2 ^ W := by
        by_cases h0 : 0 ≤ n
        · exact Or.inl ⟨h0, Int.emod_eq_of_lt h0 (by omega)⟩
        · exact Or.inr ⟨by omega, by rw [← Int.add_emod_right]; exact Int.emod_eq_of_lt (by omega) (by omega)⟩
      rw [if_neg hl]
      generalize n % 2 ^ W = m at *
      exact refuse_eq_accept (by omega) (fun h => by rw [Int.emod_eq_of_lt (by omega) (by omega)]; omega)
  · -- a signed kind: its own range check, none at 64 bits, where every column value fits
    simp only [if_true]
    by_cases h6 : B = 64
    · subst h6
      rw [if_pos rfl]
      exact some_eq_accept (by omega) rfl
    · rw [if_neg h6]
      generalize (2:Int) ^ (B - 1) = K
      exact refuse_eq_accept (by omega) (fun _ => rfl)

end C12Int

namespace C12
open ValueSpec Marshal C12Bytes C12Int

def srcOf : IntCol → IntSrc
  | .tiny => .tiny | .small => .small | .int => .int | .big => .big

theorem srcOf_bytes (col : IntCol) : (srcOf col).bytes = col.bytes := by cases col <;> rfl

theorem decodeFixed_eq_tcDec (col : IntCol) (b : Bytes) (h : b.length = col.bytes) : decodeFixed (srcOf col) b = tcDec b := by
  cases col
  · exact decTiny_eq_tcDec b h
  · exact decShort_eq_tcDec b h
  · exact decInt_eq_tcDec b h
  · exact decBigInt_eq_tcDec b h

theorem decodeFixed_tcEnc (col : IntCol) (n : Int) (h : fitsS col.bytes n = true) :
    decodeFixed (srcOf col) (tcEnc col.bytes n) = n := by
  rw [decodeFixed_eq_tcDec col _ (tcEnc_length ..), tcDec_tcEnc col.bytes n (by cases col <;> decide) h]

theorem decode_tcEnc (col : IntCol) (n : Int) (k : IntKind) (hn : fitsS col.bytes n = true) :
    unmarshalIntKind (srcOf col) (decodeFixed (srcOf col) (tcEnc col.bytes n)) k =
      if k.holds (seenBy (srcOf col) k n) = true then some (seenBy (srcOf col) k n) else none := by
  rw [decodeFixed_tcEnc col n hn]
  exact unmarshalIntKind_char _ n k (srcOf_bytes col ▸ hn)

theorem toS32_id (x : Int) (h : fitsS 4 x = true) : toS 32 x = x := toS_id 4 (by decide) x h

end C12

namespace C02
open ValueSpec Marshal C12Bytes C12Int

theorem marshalIntKind_some {col : IntCol} {k : IntKind} {named : Bool} {v : Int} {b : Bytes} (hv : k.holds v = true)
    (h : marshalIntKind col k named v = some b) :
    b = tcEnc col.bytes v ∧ (fitsS col.bytes v = true ∨ wrapsAccepted col k named v = true) := by
  rw [marshalIntKind_char col k named v hv] at h
  split at h
  · cases h; exact ⟨rfl, ‹_›⟩
  · cases h

end C02
