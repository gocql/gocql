import Proofs.C19Parse
import Proofs.C19Bits
import Proofs.C19Time
import Proofs.C19Decode
import Proofs.C19Gen
import Proofs.C19Order
import Proofs.C19Java
import Proofs.C19Conc
import Model.UuidErr
/-!
# C19 — UUIDs parse, print and carry time faithfully; generated time-UUIDs are unique (property theorems)

Models: `Model/Uuid*.lean` (hand-written from /repo/uuid.go and the UUID arms of /repo/marshal.go; tied to the source by
the differential run of `harness/cmd/c19` and, for the accessors, `TimeUUIDWith`, `UUIDFromBytes` and `String`, by
`Proofs/GenTieC19`).  Spec: `Uuid.Spec` (RFC 4122 field layout, Cassandra `TimeUUIDType` order, the hyphenated
hex language).  A UUID is a `List UInt8` of length 16.
-/
namespace C19
open Uuid

/-- Printing then parsing gives the UUID back, for every 128-bit value. -/
theorem C19_parse_print (u : List UInt8) (h : u.length = 16) : parse (print u) = some u := by
  obtain ⟨b0, b1, b2, b3, b4, b5, b6, b7, b8, b9, b10, b11, b12, b13, b14, b15, rfl⟩ := list16 u h
  have e : print [b0, b1, b2, b3, b4, b5, b6, b7, b8, b9, b10, b11, b12, b13, b14, b15] =
      hexBytes [b0, b1, b2, b3] ++ ('-' :: (hexBytes [b4, b5] ++ ('-' :: (hexBytes [b6, b7] ++
        ('-' :: (hexBytes [b8, b9] ++ ('-' :: (hexBytes [b10, b11, b12, b13, b14, b15] ++ [])))))))) := by
    simp [print]
  rw [parse, e]
  rw [parseLoop_hexBytes _ _ _ (by simp), parseLoop_hyphen _ _ (by simp [nibbles_length])]
  rw [parseLoop_hexBytes _ _ _ (by simp [nibbles_length]), parseLoop_hyphen _ _ (by simp [nibbles_length])]
  rw [parseLoop_hexBytes _ _ _ (by simp [nibbles_length]), parseLoop_hyphen _ _ (by simp [nibbles_length])]
  rw [parseLoop_hexBytes _ _ _ (by simp [nibbles_length]), parseLoop_hyphen _ _ (by simp [nibbles_length])]
  rw [parseLoop_hexBytes _ _ _ (by simp [nibbles_length])]
  simp only [List.nil_append, ← nibbles_append, List.cons_append]
  simp [parseLoop, nibbles_length, pack_nibbles]

/-- `String()` is 36 characters with hyphens at 8, 13, 18, 23. -/
theorem C19_print_shape (u : List UInt8) (h : u.length = 16) :
    (print u).length = 36 ∧ (print u)[8]? = some '-' ∧ (print u)[13]? = some '-' ∧
    (print u)[18]? = some '-' ∧ (print u)[23]? = some '-' :=
  ⟨by simp [print, hexBytes_length, h], by simp [print, hexBytes_length, h]⟩

/-- The language `ParseUUID` accepts, exactly: every rune is a hex digit or '-', there are exactly 32 hex
    digits, and every '-' is preceded by an EVEN number of digits (so a hyphen never splits a byte); the value
    is the digits' value.  NOTE this is wider than the canonical 8-4-4-4-12 form: any number of hyphens,
    also leading, trailing and repeated ones, at any byte boundary (see the examples below).  The property text
    only demands rejection of strings that are not "32 hex digits plus optional separating hyphens", which this
    gives (`C19_parse_rejects`). -/
theorem C19_parse_exact (s : List Char) (u : List UInt8) :
    parse s = some u ↔
      ((∀ c ∈ s, c = '-' ∨ Spec.isHex c = true) ∧ (Spec.digitsOf s).length = 32 ∧
       (∀ pre post, s = pre ++ '-' :: post → (Spec.digitsOf pre).length % 2 = 0) ∧
       u = pack (digitVals s)) := by
  simp only [parse, Option.map_eq_some_iff, parseLoop_iff, HyphensOk, List.length_nil, Nat.zero_add, List.nil_append]
  constructor
  · rintro ⟨_, ⟨h1, h2, h3, rfl⟩, rfl⟩
    exact ⟨h1, h2, h3, rfl⟩
  · rintro ⟨h1, h2, h3, rfl⟩
    exact ⟨_, ⟨h1, h2, h3, rfl⟩, rfl⟩

/-- Everything that is not 32 hex digits plus hyphens is rejected: a rune that is neither (non-ASCII runes,
    U+FFFD from invalid UTF-8, 'g', braces, blanks, …), or a digit count other than 32. -/
theorem C19_parse_rejects (s : List Char)
    (h : (∃ c ∈ s, c ≠ '-' ∧ Spec.isHex c = false) ∨ (Spec.digitsOf s).length ≠ 32) : parse s = none := by
  refine Option.eq_none_iff_forall_ne_some.mpr fun u hp => ?_
  obtain ⟨h1, h2, _, _⟩ := (C19_parse_exact s u).mp hp
  rcases h with ⟨c, hc, hne, hx⟩ | h
  · rcases h1 c hc with e | e
    · exact absurd e hne
    · rw [hx] at e; cases e
  · exact absurd h2 h

/-- a hyphen inside a byte is rejected -/
theorem C19_parse_rejects_split_byte (pre post : List Char) (h : (Spec.digitsOf pre).length % 2 = 1) :
    parse (pre ++ '-' :: post) = none := by
  refine Option.eq_none_iff_forall_ne_some.mpr fun u hp => ?_
  have := ((C19_parse_exact _ u).mp hp).2.2.1 pre post rfl
  omega

/-- non-vacuity / what "optional separating hyphens" means for this parser -/
example : parse "00112233-4455-6677-8899-aabbccddeeff".toList =
    some [0x00,0x11,0x22,0x33,0x44,0x55,0x66,0x77,0x88,0x99,0xaa,0xbb,0xcc,0xdd,0xee,0xff] := by decide +kernel
example : (parse "--00-11-22-33445566778899AABBCCDDEEFF----".toList).isSome = true := by decide +kernel
example : parse "0-0112233445566778899aabbccddeeff".toList = none := by decide +kernel
example : parse "00112233-4455-6677-8899-aabbccddeef".toList = none := by decide +kernel
example : parse "00112233-4455-6677-8899-aabbccddeeff0".toList = none := by decide +kernel
example : parse "0011223g-4455-6677-8899-aabbccddeeff".toList = none := by decide +kernel

/-- A time-based UUID built from a 60-bit timestamp returns it, has version 1 and the RFC 4122 variant,
    keeps the clock sequence modulo 2^14 and the (zero-padded, 6-byte) node; and its fields are the RFC 4122
    fields (time_low / time_mid / time_hi_and_version, big-endian). -/
theorem C19_time_roundtrip (ts clk : Nat) (nd : List UInt8) (h : ts < 2 ^ 60) :
    timestamp (timeUUIDWith ts clk nd) = ts ∧ version (timeUUIDWith ts clk nd) = 1 ∧
    variant (timeUUIDWith ts clk nd) = 2 ∧ clock (timeUUIDWith ts clk nd) = clk % 2 ^ 14 ∧
    node (timeUUIDWith ts clk nd) = some (nodeBytes nd) ∧
    Spec.rfcTimestamp (timeUUIDWith ts clk nd) = ts ∧ Spec.rfcVersion (timeUUIDWith ts clk nd) = 1 ∧
    Spec.rfcVariantIETF (timeUUIDWith ts clk nd) :=
  ⟨timestamp_with ts clk nd h, version_with .., variant_with .., clock_with .., node_with ..,
   by rw [rfcTimestamp_with_mod, Nat.mod_eq_of_lt h], by rw [← version_eq_rfc _ (with_length ..)]; exact version_with ..,
   (variant_ietf_iff_rfc _ (with_length ..)).mp (variant_with ..)⟩

example : timestamp (timeUUIDWith 0x0FEDCBA987654321 0x1234 [1, 2, 3, 4, 5, 6]) = 0x0FEDCBA987654321 := by decide +kernel

/-- The accessors agree with the RFC 4122 layout on EVERY 16-byte value (not only on generated ones). -/
theorem C19_fields_rfc (u : List UInt8) (h : u.length = 16) :
    version u = Spec.rfcVersion u ∧ (variant u = 2 ↔ Spec.rfcVariantIETF u) ∧
    (version u = 1 → timestamp u = Spec.rfcTimestamp u) :=
  ⟨version_eq_rfc u h, variant_ietf_iff_rfc u h, timestamp_eq_rfc u h⟩

/-- time → UUID → time is exact to 100 ns over the whole representable range (1582-10-15 … 5236-03-31):
    no overflow in `getTimestamp`'s int64 arithmetic, and `Time()` returns the instant truncated to 100 ns. -/
theorem C19_time_exact (sec : Int) (nsec clk : Nat) (nd : List UInt8) (h : Representable sec nsec) :
    getTimestamp sec nsec = (sec - timeBase) * 10000000 + (nsec / 100 : Nat) ∧
    time (timeUUIDWith (bits64 (getTimestamp sec nsec)) clk nd) = some (sec, nsec / 100 * 100) := by
  refine ⟨getTimestamp_exact sec nsec h, ?_⟩
  obtain ⟨hb, hlt⟩ := bits64_getTimestamp sec nsec h
  unfold time
  rw [if_neg (by simp [version_with]), timestamp_with _ _ _ hlt]
  obtain ⟨h1, h2, h3⟩ := h
  simp only [timeBase] at *
  simp only [Option.some.injEq, Prod.mk.injEq]
  omega

/-- 2023-11-14T22:13:20.123456789Z is representable (non-vacuity), and so are both ends of the range -/
example : Representable 1700000000 123456789 := by decide +kernel
example : Representable timeBase 0 ∧ Representable 103072857660 684697599 ∧ ¬ Representable 103072857660 684697600 := by
  decide +kernel

/-- Random UUIDs: whatever the 16 random bytes, the result has version 4 and the RFC 4122 variant, and only
    the 6 version/variant bits were touched. -/
theorem C19_random_v4 (u : List UInt8) (h : u.length = 16) :
    version (stampV4 u) = 4 ∧ variant (stampV4 u) = 2 ∧ (stampV4 u).length = 16 ∧
    (∀ i, i ≠ 6 → i ≠ 8 → byteAt (stampV4 u) i = byteAt u i) ∧
    byteAt (stampV4 u) 6 &&& 0x0F = byteAt u 6 &&& 0x0F ∧
    (byteAt (stampV4 u) 8 &&& 0x3F).toNat = (byteAt u 8).toNat % 64 := by
  -- `stampV4` writes bytes 6 and 8 and nothing else
  have e6 : byteAt (stampV4 u) 6 = (byteAt u 6 &&& 0x0F) ||| 0x40 := by simp [stampV4, byteAt, h]
  have e8 : byteAt (stampV4 u) 8 = (byteAt u 8 &&& 0x3F) ||| 0x80 := by simp [stampV4, byteAt, h]
  refine ⟨?_, ?_, by simp [stampV4, h], fun i h6 h8 => by simp [stampV4, byteAt, Ne.symm h6, Ne.symm h8], ?_, ?_⟩
  · rw [version, e6]; exact v4_version _
  · rw [variant_eq_two_iff, e8, var_toNat]; omega
  · rw [e6]; exact v4_low _
  · rw [e8]; exact var_low _

/-- `RandomUUID` for every state of the random source: it reports success exactly when 16 bytes were delivered, a
    successful result always has version 4 and the RFC 4122 variant (so no unstamped value is ever returned as a
    UUID), and a failure is reported as an error (`MustRandomUUID`: a panic) with 16 bytes that start with what
    was read. -/
theorem C19_random_total (avail : List UInt8) :
    ((randomUUID avail).1 = true ↔ 16 ≤ avail.length) ∧
    ((randomUUID avail).1 = true → (randomUUID avail).2.length = 16 ∧ version (randomUUID avail).2 = 4 ∧
      variant (randomUUID avail).2 = 2) ∧
    ((randomUUID avail).1 = false → (randomUUID avail).2.length = 16 ∧ (randomUUID avail).2.take avail.length = avail) := by
  unfold randomUUID
  by_cases h : 16 ≤ avail.length
  · simp only [h, if_true, forall_const]
    have := C19_random_v4 (avail.take 16) (by simp; omega)
    exact ⟨trivial, ⟨this.2.2.1, this.1, this.2.1⟩, by simp⟩
  · simp only [h, if_false]
    refine ⟨by simp, by simp, fun _ => ⟨by simp; omega, by simp⟩⟩

example : randomUUID (List.replicate 15 0xff) = (false, List.replicate 15 0xff ++ [0]) := by decide +kernel

/-- Min/MaxTimeUUID bound every RFC 4122 version-1 UUID of the same instant under Cassandra's order
    (timestamp first, then the low 8 bytes compared as SIGNED bytes). -/
theorem C19_min_max_bound (ts : Nat) (hts : ts < 2 ^ 60) (u : List UInt8) (hl : u.length = 16)
    (hv : version u = 1) (hvar : variant u = 2) (ht : timestamp u = ts) :
    Spec.cassLe (timeUUIDWith ts minClock minNode) u = true ∧
    Spec.cassLe u (timeUUIDWith ts maxClock maxNode) = true := by
  have := bounds_iff ts u hl hv hvar
  rw [Nat.mod_eq_of_lt hts] at this
  exact ⟨this.1.mpr (Nat.le_of_eq ht.symm), this.2.mpr (Nat.le_of_eq ht)⟩

/-- the same for the API taking a time: every v1 UUID whose `Timestamp()` is that of the instant -/
theorem C19_min_max_bound_time (sec : Int) (nsec : Nat) (hr : Representable sec nsec) (u : List UInt8)
    (hl : u.length = 16) (hv : version u = 1) (hvar : variant u = 2)
    (ht : (timestamp u : Int) = getTimestamp sec nsec) :
    Spec.cassLe (minTimeUUID sec nsec) u = true ∧ Spec.cassLe u (maxTimeUUID sec nsec) = true := by
  rw [min_le_iff (sec, nsec) u hl hv hvar, le_max_iff (sec, nsec) u hl hv hvar]
  have := getTimestamp_exact sec nsec hr
  have := bits64_getTimestamp sec nsec hr
  simp only [tick] at *; omega

/-- a signed-byte order is needed: 0x80 sorts below 0x7f here (non-vacuity of the "signed" part) -/
example : Spec.sLexLe [0x80] [0x7f] = true ∧ Spec.sLexLe [0x7f] [0x80] = false := by decide +kernel

/-! ### Cassandra's order at full strength: the bounds are EXACT, and they delimit time ranges

`MinTimeUUID` / `MaxTimeUUID` exist "to select a time range of a Cassandra's TimeUUID column" (uuid.go). What such a
query selects is decided by Cassandra's comparison alone; the theorems below say which version-1 RFC 4122 UUIDs
that is, for every pair of representable instants and every UUID. -/

/-- Cassandra's comparison (`Spec.cassLe`: timestamp, then the low 8 bytes as signed bytes) is a total preorder on
    all byte strings, and antisymmetric on what it compares: two 16-byte values each ≤ the other have the same
    timestamp field and the same clock-sequence and node bytes. -/
theorem C19_cass_order (u v w : List UInt8) :
    Spec.cassLe u u = true ∧
    (Spec.cassLe u v = true ∨ Spec.cassLe v u = true) ∧
    (Spec.cassLe u v = true → Spec.cassLe v w = true → Spec.cassLe u w = true) ∧
    (u.length = 16 → v.length = 16 → Spec.cassLe u v = true → Spec.cassLe v u = true →
      Spec.rfcTimestamp u = Spec.rfcTimestamp v ∧ u.drop 8 = v.drop 8) := by
  simp only [cassLe_iff_key]
  refine ⟨List.le_refl _, List.le_total _ _, List.le_trans, fun _ _ h1 h2 => ?_⟩
  have := List.le_antisymm h1 h2
  rwa [cassKey, cassKey, List.cons.injEq, Int.natCast_inj, List.map_inj_right signed_inj] at this

/-- Two formulations of Cassandra's `TimeUUIDType` comparison agree, for all pairs of version-1 16-byte values:
    the byte formulation `Spec.cassLe` (timestamp, then the low 8 bytes as signed bytes — Cassandra ≤ 2.x and the
    comment in uuid.go) and the long-arithmetic formulation `Spec.javaLe` (Cassandra 3.x / 4.x `compareCustom`:
    `Long.compare` of `reorderTimestampBytes(msb)`, then of `lsb ^ 0x0080808080808080`), both transliterated as
    recalled.  So every theorem here about `cassLe` is a theorem about either. -/
theorem C19_cass_java_agree (u v : List UInt8) (hu : u.length = 16) (hv : v.length = 16)
    (vu : version u = 1) (vv : version v = 1) : Spec.javaLe u v = Spec.cassLe u v := by
  rw [Bool.eq_iff_iff, cassLe_iff_sVal u v hu hv]
  unfold Spec.javaLe
  simp only [msb_eq u hu vu, msb_eq v hv vv, lsb_eq u hu, lsb_eq v hv]
  split
  · simp; omega
  · split <;> simp <;> omega

example : Spec.javaLe (timeUUIDWith 5 0x8080 [0x80, 0x80, 0x80, 0x80, 0x80, 0x80])
      (timeUUIDWith 5 0x7f7f [0x7f, 0x7f, 0x7f, 0x7f, 0x7f, 0x7f]) = true ∧
    Spec.javaLe (timeUUIDWith 5 0x7f7f [0x7f, 0x7f, 0x7f, 0x7f, 0x7f, 0x7f])
      (timeUUIDWith 5 0x8080 [0x80, 0x80, 0x80, 0x80, 0x80, 0x80]) = false := by
  decide +kernel

/-- The bounds of an instant are EXACT: a version-1 RFC 4122 UUID lies between `MinTimeUUID(t)` and
    `MaxTimeUUID(t)` under Cassandra's order IF AND ONLY IF its timestamp is `t`'s 100 ns tick
    (`C19_min_max_bound_time` is the direction ⇐). -/
theorem C19_min_max_exact (sec : Int) (nsec : Nat) (hr : Representable sec nsec) (u : List UInt8)
    (hl : u.length = 16) (hv : version u = 1) (hvar : variant u = 2) :
    (Spec.cassLe (minTimeUUID sec nsec) u = true ∧ Spec.cassLe u (maxTimeUUID sec nsec) = true) ↔
    timestamp u = tick (sec, nsec) := by
  rw [min_le_iff (sec, nsec) u hl hv hvar, le_max_iff (sec, nsec) u hl hv hvar]
  omega

/-- Inclusive range `id >= minTimeuuid(a) AND id <= maxTimeuuid(b)`: selects exactly the version-1 RFC 4122 UUIDs
    whose timestamp lies in `[tick a, tick b]` — none of instant `a` or `b` is lost, none outside is included. -/
theorem C19_range_inclusive (a b : Int × Nat) (ha : Representable a.1 a.2) (hb : Representable b.1 b.2)
    (u : List UInt8) (hl : u.length = 16) (hv : version u = 1) (hvar : variant u = 2) :
    (Spec.cassLe (minTimeUUID a.1 a.2) u = true ∧ Spec.cassLe u (maxTimeUUID b.1 b.2) = true) ↔
    (tick a ≤ timestamp u ∧ timestamp u ≤ tick b) := by
  rw [min_le_iff a u hl hv hvar, le_max_iff b u hl hv hvar]

/-- Exclusive range `id > maxTimeuuid(a) AND id < minTimeuuid(b)` (strictly above / below = not ≤ / not ≥):
    selects exactly the UUIDs whose timestamp lies strictly between the two ticks — every UUID of instant `a` and
    of instant `b` is excluded, whatever its clock sequence and node. -/
theorem C19_range_exclusive (a b : Int × Nat) (ha : Representable a.1 a.2) (hb : Representable b.1 b.2)
    (u : List UInt8) (hl : u.length = 16) (hv : version u = 1) (hvar : variant u = 2) :
    (Spec.cassLe u (maxTimeUUID a.1 a.2) = false ∧ Spec.cassLe (minTimeUUID b.1 b.2) u = false) ↔
    (tick a < timestamp u ∧ timestamp u < tick b) := by
  rw [max_lt_iff a u hl hv hvar, lt_min_iff b u hl hv hvar]

/-- The bounds of different ticks never overlap: if `a`'s tick is before `b`'s, everything of instant `a`
    (up to and including `MaxTimeUUID(a)`) is strictly below everything of instant `b` (from `MinTimeUUID(b)` on);
    and instants are mapped to ticks monotonically (`(sec - base)·10^7 + nsec/100`, exactly). -/
theorem C19_bounds_monotone (a b : Int × Nat) (ha : Representable a.1 a.2) (hb : Representable b.1 b.2) :
    (readingLe a b → tick a ≤ tick b) ∧
    (tick a < tick b →
      Spec.cassLe (maxTimeUUID a.1 a.2) (minTimeUUID b.1 b.2) = true ∧
      Spec.cassLe (minTimeUUID b.1 b.2) (maxTimeUUID a.1 a.2) = false) ∧
    Spec.cassLe (minTimeUUID a.1 a.2) (maxTimeUUID a.1 a.2) = true := by
  refine ⟨tick_mono a b ha hb, fun h => ?_, ?_⟩
  · exact cassLe_of_ts_lt _ _ (by rw [rfcTs_max a, rfcTs_min b]; exact h)
  · apply (min_le_iff a _ (with_length ..) (version_with ..) (variant_with ..)).mpr
    rw [timestamp_eq_rfc _ (with_length ..) (version_with ..)]
    exact Nat.le_of_eq (rfcTs_max a).symm

/-- GENERATED time-UUIDs under Cassandra's order: whatever the counter values and nodes (also of different
    processes), a UUID generated from an instant of an earlier tick sorts strictly below one generated from an
    instant of a later tick, and every generated UUID lies within the Min/Max bounds of its own instant — so a
    time-range query finds exactly the generated UUIDs of the instants it names. (Within one tick the order is by
    clock sequence and node as signed bytes, i.e. NOT by generation order.) -/
theorem C19_generated_cass_order (c c' : Nat) (hw hw' : List UInt8) (a b : Int × Nat)
    (ha : Representable a.1 a.2) (hb : Representable b.1 b.2) :
    (tick a < tick b →
      Spec.cassLe (timeUUID c hw a).1 (timeUUID c' hw' b).1 = true ∧
      Spec.cassLe (timeUUID c' hw' b).1 (timeUUID c hw a).1 = false) ∧
    Spec.cassLe (minTimeUUID a.1 a.2) (timeUUID c hw a).1 = true ∧
    Spec.cassLe (timeUUID c hw a).1 (maxTimeUUID a.1 a.2) = true := by
  refine ⟨fun h => cassLe_of_ts_lt _ _ (by rw [rfcTs_timeUUID, rfcTs_timeUUID]; exact h), ?_⟩
  exact (C19_min_max_exact a.1 a.2 ha _ (with_length ..) (version_with ..) (variant_with ..)).mpr
    (timestamp_timeUUID ..)

/-- within one tick Cassandra's order is not generation order: the counter crossing 0x3fff → 0x4000 (clock field
    wraps to 0) or 0x..7f → 0x..80 in the low clock byte (signed bytes) sorts the LATER UUID first -/
example : Spec.cassLe (timeUUID 0x7f [1, 2, 3, 4, 5, 6] (1700000000, 0)).1 (timeUUID 0x7e [1, 2, 3, 4, 5, 6] (1700000000, 0)).1 = true ∧
    Spec.cassLe (timeUUID 0x7e [1, 2, 3, 4, 5, 6] (1700000000, 0)).1 (timeUUID 0x7f [1, 2, 3, 4, 5, 6] (1700000000, 0)).1 = false := by
  decide +kernel

/-- "RFC 4122" in the property text is needed: a version-1 value of the same timestamp whose variant bits are
    not `10` (byte 8 = 0x7f, a legal NCS-variant value) sorts ABOVE `MaxTimeUUID` — the maximum's own byte 8 is
    0xbf (= -65 signed) because `TimeUUIDWith` stamps the variant over the clock constant 0x7f7f. -/
theorem C19_cex_bound_needs_variant :
    version [0, 0, 0, 0, 0, 0, 0x10, 0, 0x7f, 0, 0, 0, 0, 0, 0, 0] = 1 ∧
    timestamp [0, 0, 0, 0, 0, 0, 0x10, 0, 0x7f, 0, 0, 0, 0, 0, 0, 0] = tick (timeBase, 0) ∧
    Spec.cassLe [0, 0, 0, 0, 0, 0, 0x10, 0, 0x7f, 0, 0, 0, 0, 0, 0, 0] (maxTimeUUID timeBase 0) = false := by
  decide +kernel

/-- non-vacuity: an instant, a UUID of the next tick, and the ranges that do / do not contain it -/
example : tick (1700000000, 123456789) = 139192928000000000 + 1234567 := by decide +kernel
example : Spec.cassLe (timeUUIDWith (139192928000000000 + 1234568) 0x8080 [0x80, 0x80, 0x80, 0x80, 0x80, 0x80])
    (maxTimeUUID 1700000000 123456789) = false := by decide +kernel

/-! ## The decoding entry points and the DESTINATION they are called on
Model: `Model/UuidDecode.lean` — `ParseUUID` as written (every digit OR-ed into an array), `UnmarshalText`,
`UnmarshalJSON`, the CQL `unmarshalUUID`, each as a function (destination before, input) ↦ (err == nil, destination
after).  The harness ops `utext`, `ujson`, `jsonu`, `ucql`, `useq`, `rtdirty` run the real functions on destinations
that already hold a value; the model's answers are fixed by the theorems below. -/

/-- `ParseUUID` as the code has it — `var u UUID` (zero) and `u[j/2] |= byte(nib) << uint(4-j&1*4)` per digit —
    computes exactly `parse`, whose language and value `C19_parse_exact` characterises. -/
theorem C19_parseUUID_eq_parse (s : List Char) : parseUUID s = parse s := parseUUID_eq_parse s

/-- The loop's invariant for an ARBITRARY initial content of the array: the digits are merged (bitwise OR) into
    what is already there.  The result is the parsed value only because `ParseUUID` starts from a fresh zero
    array; running the same loop directly on a destination that holds a value yields old|new
    (`C19_cex_parse_into_dirty`). -/
theorem C19_parse_into_or (dst : List UInt8) (h : dst.length = 16) (s : List Char) :
    parseLoopArr s dst 0 = (parse s).map (orBytes dst) := parseLoopArr_or dst h s

theorem C19_cex_parse_into_dirty :
    parseLoopArr "00000000-0000-0000-0000-000000000001".toList (List.replicate 16 0x80) 0 ≠
      parse "00000000-0000-0000-0000-000000000001".toList := by decide +kernel

/-- `UnmarshalText`, for every destination content and every byte string: success exactly on the accepted
    language, the destination then IS the parsed value; on an error the destination is the zero UUID
    (`*u, err = ParseUUID(..)` assigns the `UUID{}` that `ParseUUID` returns with an error). -/
theorem C19_unmarshal_text_spec (dst text : List UInt8) :
    unmarshalText dst text = match parse (runes text) with
      | some u => (true, u)
      | none => (false, zero16) :=
  applyStep_eq dst (.text text)

/-- `UnmarshalJSON`, for every destination content and every byte string: all leading/trailing `"` trimmed, more
    than 36 remaining bytes → error, then the text parser; the destination is written only on success and then
    IS the parsed value; on an error it is untouched. -/
theorem C19_unmarshal_json_spec (dst data : List UInt8) :
    unmarshalJSON dst data =
      if (trimQuotes data).length > 36 then (false, dst)
      else match parse (runes (trimQuotes data)) with
        | some u => (true, u)
        | none => (false, dst) := by
  simp only [unmarshalJSON, parseUUID_eq_parse]
  rfl

/-- The CQL decoder: a 16-byte column value overwrites the destination (`*UUID`, `*[16]byte`, `*[]byte`: the
    bytes; `*string`: the canonical text), a null/empty value sets the zero value (`*[16]byte`: error), any other
    length is an error that leaves the destination untouched — whatever the destination held. -/
theorem C19_cql_unmarshal_spec (data : List UInt8) :
    (data.length = 16 → ∀ p, unmarshalCQL data (.uuid p) = (true, .uuid data) ∧
        unmarshalCQL data (.arr p) = (true, .arr data) ∧
        (∀ q, unmarshalCQL data (.bytes q) = (true, .bytes (some data))) ∧
        unmarshalCQL data (.str p) = (true, .str (asciiBytes (print data)))) ∧
    (data.length = 0 → ∀ p, unmarshalCQL data (.uuid p) = (true, .uuid zero16) ∧
        unmarshalCQL data (.arr p) = (false, .arr p) ∧
        (∀ q, unmarshalCQL data (.bytes q) = (true, .bytes none)) ∧
        unmarshalCQL data (.str p) = (true, .str [])) ∧
    (data.length ≠ 0 → data.length ≠ 16 → ∀ d, unmarshalCQL data d = (false, d)) := by
  refine ⟨fun h p => ?_, fun h p => ?_, fun h0 h16 d => ?_⟩
  · simp [unmarshalCQL, h]
  · simp [unmarshalCQL, h]
  · simp [unmarshalCQL, h0, h16]

/-- What a decode does never depends on what the destination held:
    the status is the same for any two destination contents, and after a SUCCESSFUL decode the destination is
    the same value (by the `_spec` theorems: the parsed value / the column bytes) — for `UnmarshalText`,
    `UnmarshalJSON` and the CQL decode into `*UUID`. -/
theorem C19_decode_independent_of_destination (d1 d2 : List UInt8) (s : Step) :
    (applyStep d1 s).1 = (applyStep d2 s).1 ∧
    ((applyStep d1 s).1 = true → (applyStep d1 s).2 = (applyStep d2 s).2) := by
  rw [applyStep_eq, applyStep_eq]
  cases stepVal s <;> simp

/-- what a FAILED decode leaves: `UnmarshalText` the zero UUID, `UnmarshalJSON` and the CQL decode the old value -/
theorem C19_decode_failed_destination (dst : List UInt8) (s : Step) (h : (applyStep dst s).1 = false) :
    (applyStep dst s).2 = match s with
      | .text _ => zero16
      | .json _ => dst
      | .cql _ => dst := by
  rw [applyStep_eq] at h ⊢
  cases hv : stepVal s with
  | some u => rw [hv] at h; cases h
  | none => cases s <;> rfl

/-- a successful text / JSON decode stores the parsed value of the (trimmed) text -/
theorem C19_decode_success_is_parse (dst : List UInt8) :
    (∀ t, (unmarshalText dst t).1 = true → parse (runes t) = some (unmarshalText dst t).2) ∧
    (∀ d, (unmarshalJSON dst d).1 = true → parse (runes (trimQuotes d)) = some (unmarshalJSON dst d).2) := by
  have ok : ∀ s, (applyStep dst s).1 = true → stepVal s = some (applyStep dst s).2 := fun s h => by
    rw [applyStep_eq] at h ⊢
    cases hv : stepVal s with
    | none => rw [hv] at h; cases h
    | some u => rfl
  refine ⟨fun t h => ok (.text t) h, fun d h => ?_⟩
  have := ok (.json d) h
  simp only [stepVal] at this
  split at this
  · cases this
  · exact this

/-- Sequences on ONE destination (decode a, then b, then an invalid text, then c, …): whenever the last step
    succeeds, the destination afterwards is what that step alone gives on ANY destination — nothing of the
    history (earlier values, failed decodes) survives. -/
theorem C19_decode_seq_last_wins (dst d' : List UInt8) (ss : List Step) (s : Step)
    (h : (applyStep d' s).1 = true) : finalDst dst (ss ++ [s]) = (applyStep d' s).2 := by
  simp only [finalDst, List.foldl_append, List.foldl_cons, List.foldl_nil]
  have := C19_decode_independent_of_destination d' (List.foldl (fun d s => (applyStep d s).2) dst ss) s
  exact (this.2 h).symm

/-- `runSeq` (what the `useq` op prints) ends in the destination `finalDst` -/
theorem C19_runSeq_final (ss : List Step) : ∀ (dst : List UInt8),
    ((runSeq dst ss).getLast?.map (·.2)).getD dst = finalDst dst ss := by
  induction ss with
  | nil => intro dst; rfl
  | cons s ss ih =>
    intro dst
    have := ih (applyStep dst s).2
    simp only [runSeq, finalDst, List.foldl_cons] at this ⊢
    rw [← this]
    cases h : runSeq (applyStep dst s).2 ss with
    | nil => simp
    | cons a b =>
      obtain ⟨x, hx⟩ : ∃ x, (a :: b).getLast? = some x := ⟨_, List.getLast?_eq_some_getLast (by simp)⟩
      simp [List.getLast?_cons_cons, hx]

/-- The print/parse round trip through every pair of printer and decoder holds on a DIRTY destination:
    `String()` = `MarshalText()` → `UnmarshalText` / `UnmarshalJSON` (bare), `MarshalJSON()` (quoted) →
    `UnmarshalJSON`, the CQL `*string` → `ParseUUID`/`marshalUUID(string)`, whatever the destination held. -/
theorem C19_roundtrip_dirty (dst u : List UInt8) (h : u.length = 16) :
    unmarshalText dst (asciiBytes (print u)) = (true, u) ∧
    unmarshalJSON dst (34 :: asciiBytes (print u) ++ [34]) = (true, u) ∧
    unmarshalJSON dst (asciiBytes (print u)) = (true, u) ∧
    (∀ p, unmarshalCQL u (.str p) = (true, .str (asciiBytes (print u)))) ∧
    marshalCQL (.str (asciiBytes (print u))) = some u := by
  have hlen : (asciiBytes (print u)).length = 36 := by rw [asciiBytes, List.length_map, (C19_print_shape u h).1]
  obtain ⟨t1, t2⟩ := trimQuotes_quoted (asciiBytes (print u)) (List.ne_nil_of_length_pos (by omega))
    (fun b hb => by
      obtain ⟨c, hc, rfl⟩ := List.mem_map.mp hb
      exact (print_bytes u c hc).2)
  refine ⟨?_, ?_, ?_, ?_, ?_⟩
  · rw [C19_unmarshal_text_spec, runes_print, C19_parse_print u h]
  · rw [C19_unmarshal_json_spec, t1, runes_print, C19_parse_print u h, hlen]; simp
  · rw [C19_unmarshal_json_spec, t2, runes_print, C19_parse_print u h, hlen]; simp
  · intro p; simp [unmarshalCQL, h]
  · simp only [marshalCQL, parseUUID_eq_parse, runes_print, C19_parse_print u h]

theorem jsonCalls_last (l : List UInt8) : ∀ (ls : List (List UInt8)) (dst : List UInt8),
    (jsonCalls dst (ls ++ [l])).1 = true → ∃ d', jsonCalls dst (ls ++ [l]) = unmarshalJSON d' l
  | [], dst, _ => ⟨dst, by simp only [List.nil_append, jsonCalls]; split <;> simp_all [Prod.ext_iff]⟩
  | a :: ls, dst, h => by
    simp only [List.cons_append, jsonCalls] at h ⊢
    split at h
    · rename_i h1; rw [if_pos h1]; exact jsonCalls_last l ls _ h
    · rename_i h1; exact absurd h h1

/-- The same JSON key twice (`{"id":A,"id":B}`): encoding/json decodes both into the SAME field; if all
    occurrences decode, the field holds the parsed value of the LAST one, whatever it held before and whatever
    the earlier occurrences were. -/
theorem C19_json_dup_keys_last_wins (ls : List (List UInt8)) : ∀ (dst : List UInt8) (l : List UInt8),
    (jsonCalls dst (ls ++ [l])).1 = true →
    parse (runes (trimQuotes l)) = some (jsonCalls dst (ls ++ [l])).2 := by
  intro dst l h
  obtain ⟨d', e⟩ := jsonCalls_last l ls dst h
  rw [e] at h ⊢
  exact (C19_decode_success_is_parse d').2 l h

/-- CQL marshal → unmarshal through every pair of value kind and destination kind, on a dirty destination:
    `marshalUUID` of a UUID / [16]byte / 16-byte []byte / canonical string is the 16 bytes, and `unmarshalUUID`
    of those stores them (as the canonical text for `*string`) whatever the destination held. -/
theorem C19_cql_marshal_unmarshal (u : List UInt8) (h : u.length = 16) :
    marshalCQL (.uuid u) = some u ∧ marshalCQL (.arr u) = some u ∧ marshalCQL (.bytes (some u)) = some u ∧
    marshalCQL (.str (asciiBytes (print u))) = some u ∧
    (∀ b, b.length ≠ 16 → marshalCQL (.bytes (some b)) = none) ∧
    (∀ p, unmarshalCQL u (.uuid p) = (true, .uuid u) ∧ unmarshalCQL u (.arr p) = (true, .arr u) ∧
          unmarshalCQL u (.str p) = (true, .str (asciiBytes (print u)))) ∧
    (∀ q, unmarshalCQL u (.bytes q) = (true, .bytes (some u))) := by
  refine ⟨rfl, rfl, by simp [marshalCQL, h], (C19_roundtrip_dirty [] u h).2.2.2.2, ?_, ?_, ?_⟩
  · intro b hb; simp [marshalCQL, hb]
  · intro p; simp [unmarshalCQL, h]
  · intro q; simp [unmarshalCQL, h]

/-- A timeuuid column read into a `*time.Time`: for every representable instant, the time-UUID built from it
    (any clock, any node) decodes to that instant truncated to 100 ns, whatever the destination held; anything
    that is not a 16-byte version-1 value (also a null) is an error that leaves the destination untouched. -/
theorem C19_cql_time_destination (sec : Int) (nsec clk : Nat) (nd : List UInt8) (h : Representable sec nsec)
    (prev : Int × Nat) :
    unmarshalCQLTime true (timeUUIDWith (bits64 (getTimestamp sec nsec)) clk nd) prev = (true, (sec, nsec / 100 * 100)) ∧
    (∀ data, data.length ≠ 16 → unmarshalCQLTime true data prev = (false, prev)) ∧
    (∀ data, version data ≠ 1 → unmarshalCQLTime true data prev = (false, prev)) ∧
    (∀ data, unmarshalCQLTime false data prev = (false, prev)) := by
  refine ⟨?_, ?_, ?_, ?_⟩
  · simp only [unmarshalCQLTime, with_length, (C19_time_exact sec nsec clk nd h).2]
    simp
  · intro data hd; simp [unmarshalCQLTime, hd]
  · intro data hv
    simp only [unmarshalCQLTime, time]
    split <;> simp
  · intro data; simp [unmarshalCQLTime]

/-- Nullable destinations (`**UUID`, `**[16]byte`, `**[]byte`, `**string`) of `gocql.Unmarshal`, for every column
    value and whatever the pointer pointed to before: a null column gives a nil pointer; a 16-byte value gives a
    pointer to exactly that value (canonical text for `**string`); every other value gives a pointer to a FRESH
    value — the zero value with an error for a wrong length, the empty value for an empty column (`**[16]byte`:
    error) — never a half-written or stale one. -/
theorem C19_cql_nullable_spec (data : List UInt8) (k : Dst) :
    unmarshalNullable none k = (true, none) ∧
    (data.length = 16 → ∀ p, unmarshalNullable (some data) (.uuid p) = (true, some (.uuid data)) ∧
        unmarshalNullable (some data) (.arr p) = (true, some (.arr data)) ∧
        (∀ q, unmarshalNullable (some data) (.bytes q) = (true, some (.bytes (some data)))) ∧
        unmarshalNullable (some data) (.str p) = (true, some (.str (asciiBytes (print data))))) ∧
    (data.length = 0 → ∀ p, unmarshalNullable (some data) (.uuid p) = (true, some (.uuid zero16)) ∧
        unmarshalNullable (some data) (.arr p) = (false, some (.arr zero16)) ∧
        (∀ q, unmarshalNullable (some data) (.bytes q) = (true, some (.bytes none))) ∧
        unmarshalNullable (some data) (.str p) = (true, some (.str []))) ∧
    (data.length ≠ 0 → data.length ≠ 16 → unmarshalNullable (some data) k = (false, some k.zero)) := by
  refine ⟨rfl, fun h p => ?_, fun h p => ?_, fun h0 h16 => ?_⟩
  · simp [unmarshalNullable, Dst.zero, unmarshalCQL, h]
  · simp [unmarshalNullable, Dst.zero, unmarshalCQL, h]
  · simp [unmarshalNullable, unmarshalCQL, h0, h16]

/-- `*UUID` values round-trip through a nullable column: nil pointer ↦ null ↦ nil pointer, a pointer to `u` ↦ the
    16 bytes ↦ a (fresh) pointer to `u`. -/
theorem C19_cql_nullable_roundtrip (u : Option (List UInt8)) (h : ∀ v, u = some v → v.length = 16) (p : List UInt8) :
    ∃ col, marshalPtr u = some col ∧ unmarshalNullable col (.uuid p) = (true, u.map .uuid) := by
  cases u with
  | none => exact ⟨none, rfl, rfl⟩
  | some v =>
    refine ⟨some v, rfl, ?_⟩
    have := h v rfl
    simp [unmarshalNullable, Dst.zero, unmarshalCQL, this]

/-- a `**time.Time` reading a timeuuid column of a representable instant gets a pointer to that instant (to 100 ns),
    a null gives a nil pointer, anything else an error and a pointer to the zero time. -/
theorem C19_cql_nullable_time (sec : Int) (nsec clk : Nat) (nd : List UInt8) (h : Representable sec nsec) :
    unmarshalNullableTime true (some (timeUUIDWith (bits64 (getTimestamp sec nsec)) clk nd)) =
      (true, some (sec, nsec / 100 * 100)) ∧
    (∀ tu, unmarshalNullableTime tu none = (true, none)) ∧
    (∀ d, d.length ≠ 16 → unmarshalNullableTime true (some d) = (false, some zeroTime)) ∧
    (∀ d, unmarshalNullableTime false (some d) = (false, some zeroTime)) := by
  refine ⟨?_, fun _ => rfl, fun d hd => ?_, fun d => ?_⟩
  · have := (C19_cql_time_destination sec nsec clk nd h zeroTime)
    simp only [unmarshalNullableTime]
    rw [this.1]
  · simp [unmarshalNullableTime, unmarshalCQLTime, hd]
  · simp [unmarshalNullableTime, unmarshalCQLTime]

/-- non-vacuity, and two things worth knowing about `UnmarshalJSON`: (1) it is STRICTER than `ParseUUID` on long
    texts (more than 4 extra hyphens → error); (2) it never looks at the JSON token kind: a 32-digit JSON NUMBER
    (also negative, also with an exponent letter, `e` being a hex digit) decodes as a UUID. -/
example : unmarshalText (List.replicate 16 0xff) (asciiBytes "00112233-4455-6677-8899-aabbccddeeff".toList) =
    (true, [0x00,0x11,0x22,0x33,0x44,0x55,0x66,0x77,0x88,0x99,0xaa,0xbb,0xcc,0xdd,0xee,0xff]) := by decide +kernel
example : unmarshalText (List.replicate 16 0xff) (asciiBytes "00112233-4455-6677-8899-aabbccddeefg".toList) =
    (false, zero16) := by decide +kernel
example : unmarshalJSON (List.replicate 16 0xff) (asciiBytes "\"\"00112233-4455-6677-8899-aabbccddeefg\"".toList) =
    (false, List.replicate 16 0xff) := by decide +kernel
example : (unmarshalJSON zero16 (asciiBytes "-12345678901234567890123456789e12".toList)).1 = true := by decide +kernel
example : (parse "--00-11-22-33445566778899AABBCCDDEEFF----".toList).isSome = true ∧
    (unmarshalJSON zero16 (asciiBytes "--00-11-22-33445566778899AABBCCDDEEFF----".toList)).1 = false := by decide +kernel

/-! ### the generator over a stream of clock readings (`Model/UuidGen.lean`): uniqueness under bursts

`TimeUUID()` is `UUIDFromTime(time.Now())`: a reading of the wall clock, then ONE atomic increment of the
process-wide counter, then pure code.  Any schedule of any number of concurrent callers is therefore a run
`genRun hw c readings` — the readings listed in the order of the increments (they need not be monotone in that
order: a caller may be descheduled between its reading and its increment). -/

/-- EXACTLY when two steps of a run return the same UUID: they stored the same 100 ns tick and are a multiple of
    16384 increments apart.  (The uniqueness theorems below are corollaries.) -/
theorem C19_timeuuid_dup_iff (hw : List UInt8) (c : Nat) (readings : List (Int × Nat)) (i j : Nat)
    (hi : i < readings.length) (hj : j < readings.length) :
    (genRun hw c readings)[i]'(by rw [genRun_length]; exact hi) =
      (genRun hw c readings)[j]'(by rw [genRun_length]; exact hj) ↔
    tick readings[i] = tick readings[j] ∧ i % 16384 = j % 16384 := by
  rw [genRun_get hw readings c i hi, genRun_get hw readings c j hj, with_eq_iff,
    Nat.mod_mod_of_dvd _ (Nat.pow_dvd_pow 2 (by decide : 14 ≤ 32)), Nat.mod_mod_of_dvd _ (Nat.pow_dvd_pow 2 (by decide : 14 ≤ 32))]
  exact and_congr Iff.rfl (by omega)

/-- FULL STATEMENT of the property's last sentence for `TimeUUID()`: "pairwise distinct for any number of calls" —
    false for a 14-bit clock sequence (KF-C19-1, `C19_cex_unique`, `C19_timeuuid_dup_same_reading`).
    Proved, for runs of ANY length and any schedule: if no two steps that stored the same tick are 16384 or more
    increments apart — the clock moves on at least every 16384 calls, at the 100 ns granularity the code stores —
    the UUIDs are pairwise distinct.  The hypothesis is about the TICKS THE CODE STORES: a generator that stores
    a coarser value than its reading (a truncated `time.Now()`) fails it at the burst rate where 16384 calls share
    one stored value; that the stored tick IS the reading's 100 ns tick is `C19_timeuuid_sandwich`. -/
theorem C19_timeuuid_unique_if_clock_advances (hw : List UInt8) (c : Nat) (readings : List (Int × Nat))
    (h : ∀ i j (hi : i < readings.length) (hj : j < readings.length), i < j →
      tick readings[i] = tick readings[j] → j - i < 16384) :
    (genRun hw c readings).Pairwise (· ≠ ·) := by
  rw [List.pairwise_iff_getElem]
  intro i j hi hj hij heq
  rw [genRun_length] at hi hj
  obtain ⟨ht, hm⟩ := (C19_timeuuid_dup_iff hw c readings i j hi hj).mp heq
  have := h i j hi hj hij ht
  omega

/-- the same for a clock read in increment order (no caller overtaken between reading and increment): the ticks
    never decrease and the tick 16384 steps later is always a new one -/
theorem C19_timeuuid_unique_monotone_clock (hw : List UInt8) (c : Nat) (readings : List (Int × Nat))
    (hmono : ∀ i j (hi : i < readings.length) (hj : j < readings.length), i ≤ j → tick readings[i] ≤ tick readings[j])
    (hadv : ∀ i (hi : i + 16384 < readings.length), tick readings[i] < tick readings[i + 16384]) :
    (genRun hw c readings).Pairwise (· ≠ ·) := by
  apply C19_timeuuid_unique_if_clock_advances
  intro i j hi hj hij ht
  apply Classical.byContradiction
  intro hge
  have h1 := hadv i (by omega)
  have h2 := hmono (i + 16384) j (by omega) hj (by omega)
  omega

/-- the converse direction made concrete: whatever the state, two steps 16384 increments apart that got the same
    reading (a clock that stood still, or a time source coarser than the burst) return the SAME UUID -/
theorem C19_timeuuid_dup_same_reading (hw : List UInt8) (c : Nat) (readings : List (Int × Nat)) (i : Nat)
    (hi : i + 16384 < readings.length) (h : readings[i] = readings[i + 16384]) :
    (genRun hw c readings)[i]'(by rw [genRun_length]; omega) =
      (genRun hw c readings)[i + 16384]'(by rw [genRun_length]; exact hi) := by
  apply (C19_timeuuid_dup_iff hw c readings i (i + 16384) (by omega) hi).mpr
  exact ⟨by rw [h], by omega⟩

/-- FULL STATEMENT (not provable, and false for the unchanged code and for any RFC 4122 v1 generator with a
    14-bit clock sequence): "time-UUIDs generated concurrently from the current time in one process are pairwise
    distinct, for any number of generators".
    Proved part: each call of `UUIDFromTime` is one atomic `AddUint32` followed by pure code, so any schedule of
    any number of concurrent callers is a sequence `tms` of such steps (with whatever clock readings, not even
    monotone); up to 16384 UUIDs handed out this way are pairwise distinct — whatever the times. -/
theorem C19_unique_partial (hw : List UInt8) (clockSeq : Nat) (tms : List (Int × Nat))
    (h : tms.length ≤ 16384) : (gens hw clockSeq tms).Pairwise (· ≠ ·) := by
  rw [← genRun_eq_gens]
  exact C19_timeuuid_unique_if_clock_advances hw clockSeq tms (fun i j _ hj _ _ => by omega)

/-- two time-UUIDs are equal only if the timestamps agree mod 2^60 and the clock sequences mod 2^14 -/
theorem C19_unique_fields (t1 t2 c1 c2 : Nat) (n1 n2 : List UInt8)
    (h : t1 % 2 ^ 60 ≠ t2 % 2 ^ 60 ∨ c1 % 2 ^ 14 ≠ c2 % 2 ^ 14) :
    timeUUIDWith t1 c1 n1 ≠ timeUUIDWith t2 c2 n2 := by
  intro e
  have := with_inj _ _ _ _ _ _ e
  omega

/-- counterexample to the full statement: the 1st and the 16385th UUID of one 100 ns clock reading coincide -/
theorem C19_cex_unique :
    (uuidFromTime 0 [1, 2, 3, 4, 5, 6] 1700000000 0).1 = (uuidFromTime 16384 [1, 2, 3, 4, 5, 6] 1700000000 0).1 :=
  with_congr _ _ _ _ _ rfl (by decide)

/-- what one `TimeUUID()` call returns, for a representable reading `now` taken between two other readings
    `before ≤ now ≤ after` of the same clock: version 1, RFC 4122 variant, the node, the new counter value's low
    14 bits, and a timestamp that is EXACTLY the reading's 100 ns tick — hence between the ticks of `before` and
    `after` (the burst monitor's interval check). -/
theorem C19_timeuuid_sandwich (hw : List UInt8) (c : Nat) (before now after : Int × Nat)
    (hb : Representable before.1 before.2) (hn : Representable now.1 now.2) (ha : Representable after.1 after.2)
    (h0 : readingLe before now) (h1 : readingLe now after) :
    let u := (timeUUID c hw now).1
    version u = 1 ∧ variant u = 2 ∧ node u = some (nodeBytes hw) ∧ clock u = (c + 1) % 2 ^ 14 ∧
    (timestamp u : Int) = (now.1 - timeBase) * 10000000 + (now.2 / 100 : Nat) ∧
    tick before ≤ timestamp u ∧ timestamp u ≤ tick after := by
  have hts := timestamp_timeUUID c hw now
  refine ⟨version_with _ _ _, variant_with _ _ _, node_with _ _ _, ?_, ?_, ?_, ?_⟩
  · simp only [timeUUID, uuidFromTime, clock_with, Nat.reducePow]; omega
  · rw [hts]; exact tick_exact now hn
  · rw [hts]; exact tick_mono _ _ hb hn h0
  · rw [hts]; exact tick_mono _ _ hn ha h1

/-- the counter after a run of `n` steps is `c + n` (uint32) -/
theorem C19_genrun_counter (hw : List UInt8) (c : Nat) (hc : c < 2 ^ 32) (readings : List (Int × Nat)) :
    readings.foldl (fun s now => (timeUUID s hw now).2) c = genCtr c readings.length := by
  induction readings generalizing c with
  | nil => simp only [List.foldl_nil, genCtr, List.length_nil, Nat.add_zero]; exact (Nat.mod_eq_of_lt hc).symm
  | cons tm tms ih =>
    simp only [List.foldl_cons, List.length_cons]
    rw [ih _ (by simp only [timeUUID, uuidFromTime]; exact Nat.mod_lt _ (by decide))]
    simp only [genCtr, timeUUID, uuidFromTime, Nat.reducePow]
    omega

/-- step `i` of a run carries the clock field of `c + 1 + i` -/
theorem C19_genrun_clock_fields (hw : List UInt8) (c : Nat) (readings : List (Int × Nat)) (i : Nat)
    (hi : i < readings.length) :
    clock ((genRun hw c readings)[i]'(by rw [genRun_length]; exact hi)) = (c + 1 + i) % 2 ^ 14 := by
  rw [genRun_get hw readings c i hi, clock_with]
  simp only [Nat.reducePow]; omega

/-- the controlled clock of the `genrun` op: a reading inside the representable range that moves on by at least
    100 ns at least every 16384 calls gives pairwise distinct UUIDs, for every run length, start counter (also
    across the 2^32 wrap) and node -/
theorem C19_genrun_distinct (hw : List UInt8) (c : Nat) (sec : Int) (nsec every stepns n : Nat)
    (he : 0 < every) (he' : every ≤ 16384) (hs : 100 ≤ stepns) (hsec : timeBase ≤ sec)
    (hlt : (sec - timeBase) * 10000000 + ((nsec + n / every * stepns) / 100 : Nat) < 2 ^ 60) :
    (genRun hw c (steppedReadings sec nsec every stepns n)).Pairwise (· ≠ ·) := by
  have hlen : (steppedReadings sec nsec every stepns n).length = n := by simp [steppedReadings]
  have hget : ∀ k (hk : k < (steppedReadings sec nsec every stepns n).length),
      (steppedReadings sec nsec every stepns n)[k] = steppedClock sec nsec every stepns k := by
    intro k hk; simp [steppedReadings]
  have htick : ∀ k, k ≤ n → (tick (steppedClock sec nsec every stepns k) : Int) =
      (sec - timeBase) * 10000000 + ((nsec + k / every * stepns) / 100 : Nat) := fun k hk =>
    (stepped_repr sec nsec every stepns k hsec (by have := stepped_mono nsec every stepns hk; omega)).2
  apply C19_timeuuid_unique_monotone_clock
  · intro i j hi hj hij
    rw [hget i hi, hget j hj]
    have := htick i (by omega); have := htick j (by omega); have := stepped_mono nsec every stepns hij
    omega
  · intro i hi
    rw [hget i (by omega), hget (i + 16384) hi]
    have := htick i (by omega); have := htick (i + 16384) (by omega)
    have := stepped_advance nsec every stepns i he hs
    have := stepped_mono nsec every stepns (Nat.add_le_add_left he' i)
    omega

/-- the duplicate search the driver runs on a model run is correct: `none` only for pairwise distinct runs, and
    `some (i, j)` names two positions `i < j` holding the same UUID -/
theorem C19_genrun_verdict (us : List (List UInt8)) :
    (firstDup us = none → us.Pairwise (· ≠ ·)) ∧
    (∀ i j, firstDup us = some (i, j) → i < j ∧ ∃ u, us[i]? = some u ∧ us[j]? = some u) := by
  have inv : BInv [] (Array.replicate 16384 ([] : List (List UInt8 × Nat))) := by
    refine ⟨by simp, ?_, by intro m h; cases h⟩
    intro b e he
    simp [Array.getD_eq_getD_getElem?, Array.getElem?_replicate] at he
    split at he <;> simp at he
  have := firstDupAux_spec us [] _ inv List.Pairwise.nil
  simp only [List.length_nil, List.nil_append] at this
  exact ⟨this.2, this.1⟩

theorem firstDup_none (us : List (List UInt8)) (hp : us.Pairwise (· ≠ ·)) : firstDup us = none := by
  cases hf : firstDup us with
  | none => rfl
  | some ij =>
    obtain ⟨hij, u, hi, hj⟩ := (C19_genrun_verdict us).2 ij.1 ij.2 hf
    obtain ⟨hi', hiu⟩ := List.getElem?_eq_some_iff.mp hi
    obtain ⟨hj', hju⟩ := List.getElem?_eq_some_iff.mp hj
    exact absurd (hiu.trans hju.symm) (List.pairwise_iff_getElem.mp hp _ _ hi' hj' hij)

/-- so the model's answer to a `genrun` op inside the hypothesis of `C19_genrun_distinct` is `distinct` -/
theorem C19_genrun_answer_distinct (hw : List UInt8) (c : Nat) (sec : Int) (nsec every stepns n : Nat)
    (he : 0 < every) (he' : every ≤ 16384) (hs : 100 ≤ stepns) (hsec : timeBase ≤ sec)
    (hlt : (sec - timeBase) * 10000000 + ((nsec + n / every * stepns) / 100 : Nat) < 2 ^ 60) :
    firstDup (genRun hw c (steppedReadings sec nsec every stepns n)) = none :=
  firstDup_none _ (C19_genrun_distinct hw c sec nsec every stepns n he he' hs hsec hlt)

/-- non-vacuity: a run of 3 steps under a clock that stands still is distinct (the hypothesis is about steps
    16384 apart), and the readings of the stepped clock carry across a second -/
example : (genRun [1, 2, 3, 4, 5, 6] 0xffffffff [(1700000000, 5), (1700000000, 5), (1700000000, 5)]).Pairwise (· ≠ ·) :=
  C19_timeuuid_unique_if_clock_advances _ _ _ (by intro i j hi hj hij _; simp at hj; omega)
example : steppedClock 1700000000 999999950 2 100 5 = (1700000001, 150) := by decide +kernel

/-! ### error values (`Model/UuidErr.lean`) -/

/-- The error values are consistent with the decoders, for every input and destination: an entry point returns
    an error EXACTLY when the modelled decode fails (so no failure is silent and no success carries an error), and
    a rejected text is named in the error — `invalid UUID "<the input, quoted>"` — for every ASCII input. -/
theorem C19_error_iff_failure (dst bs : List UInt8) (d : Dst) (tu : Bool) (prev : Int × Nat) :
    ((textErr bs).isNone = (unmarshalText dst bs).1) ∧
    ((jsonErr bs).isNone = (unmarshalJSON dst bs).1) ∧
    ((marshalErr tu d).isNone = (marshalCQL d).isSome) ∧
    ((unmarshalErr tu bs d).isNone = (unmarshalCQL bs d).1) ∧
    ((unmarshalTimeErr tu bs).isNone = (unmarshalCQLTime tu bs prev).1) ∧
    (isASCII bs = true → (unmarshalText dst bs).1 = false →
      textErr bs = some ⟨.plain, some (lit "invalid UUID " ++ quoteASCII bs)⟩) := by
  -- each error function branches as its decoder does: along the decoder's own cases
  refine ⟨?_, ?_, ?_, ?_, ?_, ?_⟩
  · fun_cases unmarshalText dst bs <;> simp_all [textErr]
  · fun_cases unmarshalJSON dst bs <;> simp_all +zetaDelta [jsonErr, textErr]
    -- left: a failed decode: the error is one of two texts
    all_goals split <;> rfl
  · fun_cases marshalCQL d <;> simp_all [marshalErr, textErr]
    -- left: a string value, by the parser's answer
    all_goals split <;> simp_all
  · fun_cases unmarshalCQL bs d <;> simp_all [unmarshalErr]
  · fun_cases unmarshalCQLTime tu bs prev <;> simp_all [unmarshalTimeErr, time]
    -- left: a uuid column: the error is one of two texts
    all_goals split <;> rfl
  · intro ha; fun_cases unmarshalText dst bs <;> simp_all [textErr, parseErr]

/-- non-vacuity: what `%q` does to a quote, a backslash, a tab, a NUL and DEL inside a rejected text -/
example : textErr [34, 92, 9, 0, 127, 103] =
    some ⟨.plain, some (lit "invalid UUID \"\\\"\\\\\\t\\x00\\x7fg\"")⟩ := by decide +kernel

/-! ### concurrent callers as a small-step machine (`Model/UuidConc.lean`): ALL interleavings

That any schedule of any number of concurrent callers is a run `genRun hw c readings` (the section on the generator
over a stream of clock readings, above) is a theorem about a machine whose actions are the two steps of
`TimeUUID()` per goroutine — `now g` (the reading) and `inc g` (the atomic increment; everything after it is
goroutine-local and pure) — plus the environment setting the wall clock to anything.  A schedule is an arbitrary `List Act`. -/

/-- LINEARIZATION, every schedule: the UUIDs returned, in the order of the increments, are the generator run
    over the readings the callers held, in that order; the counter has moved by exactly the number of returns.
    Hence every theorem about `genRun` (`C19_timeuuid_dup_iff`, `…_unique_if_clock_advances`, `C19_genrun_*`)
    speaks about every interleaving of any number of goroutines. -/
theorem C19_conc_linearizes (hw : List UInt8) (c : Nat) (t : Int × Nat) (acts : List Act) :
    (concRun hw (concInit c t) acts).out.map (·.uuid) =
      genRun hw c ((concRun hw (concInit c t) acts).out.map (·.reading)) ∧
    (c < 2 ^ 32 → (concRun hw (concInit c t) acts).clockSeq = genCtr c (concRun hw (concInit c t) acts).out.length) := by
  refine ⟨?_, fun hc => ?_⟩
  · obtain ⟨new, ho, hu, _⟩ := linInv_run hw (concInit c t) acts _ (linInv_refl hw _)
    rw [ho]; exact hu
  obtain ⟨_, h, hlt⟩ := conc_counter hw (concInit c t) acts
  rw [Nat.mod_eq_of_lt (hlt hc)] at h
  simpa [concInit, genCtr] using h

/-- every schedule in which at most 16384 calls return — whatever the number of goroutines, the interleaving of
    readings and increments, and the behaviour of the wall clock — returns pairwise distinct UUIDs -/
theorem C19_conc_unique_upto_16384 (hw : List UInt8) (c : Nat) (t : Int × Nat) (acts : List Act)
    (h : (concRun hw (concInit c t) acts).out.length ≤ 16384) :
    ((concRun hw (concInit c t) acts).out.map (·.uuid)).Pairwise (· ≠ ·) := by
  rw [(C19_conc_linearizes hw c t acts).1, genRun_eq_gens]
  exact C19_unique_partial hw c _ (by simpa using h)

/-- every schedule of ANY length: two returned calls got the same UUID exactly when the readings they HELD have
    the same 100 ns tick and they are a multiple of 16384 increments apart; in particular the results are
    pairwise distinct whenever no two calls holding the same tick are 16384 or more increments apart -/
theorem C19_conc_dup_iff (hw : List UInt8) (c : Nat) (t : Int × Nat) (acts : List Act) (i j : Nat)
    (hi : i < ((concRun hw (concInit c t) acts).out.map (·.reading)).length)
    (hj : j < ((concRun hw (concInit c t) acts).out.map (·.reading)).length) :
    ((concRun hw (concInit c t) acts).out.map (·.uuid))[i]? = ((concRun hw (concInit c t) acts).out.map (·.uuid))[j]? ↔
    tick ((concRun hw (concInit c t) acts).out.map (·.reading))[i] =
      tick ((concRun hw (concInit c t) acts).out.map (·.reading))[j] ∧ i % 16384 = j % 16384 := by
  rw [(C19_conc_linearizes hw c t acts).1]
  generalize (concRun hw (concInit c t) acts).out.map (·.reading) = rs at hi hj
  rw [List.getElem?_eq_getElem (by rw [genRun_length]; exact hi),
    List.getElem?_eq_getElem (by rw [genRun_length]; exact hj), Option.some.injEq]
  exact C19_timeuuid_dup_iff hw c rs i j hi hj

theorem C19_conc_unique_if_clock_advances (hw : List UInt8) (c : Nat) (t : Int × Nat) (acts : List Act)
    (h : ∀ i j (hi : i < ((concRun hw (concInit c t) acts).out.map (·.reading)).length)
      (hj : j < ((concRun hw (concInit c t) acts).out.map (·.reading)).length), i < j →
      tick ((concRun hw (concInit c t) acts).out.map (·.reading))[i] =
        tick ((concRun hw (concInit c t) acts).out.map (·.reading))[j] → j - i < 16384) :
    ((concRun hw (concInit c t) acts).out.map (·.uuid)).Pairwise (· ≠ ·) := by
  rw [(C19_conc_linearizes hw c t acts).1]
  exact C19_timeuuid_unique_if_clock_advances hw c _ h

/-- so the verdict field of the model's answer to a `sched` op (at most 16384 returns) is `distinct` -/
theorem C19_sched_answer_distinct (hw : List UInt8) (c : Nat) (t : Int × Nat) (acts : List Act)
    (h : (concRun hw (concInit c t) acts).out.length ≤ 16384) :
    firstDup ((concRun hw (concInit c t) acts).out.map (·.uuid)) = none :=
  firstDup_none _ (C19_conc_unique_upto_16384 hw c t acts h)

/-- KF-C19-1 (b) as a theorem about schedules, from ANY state: goroutines `g` and `g'` are both between their
    reading and their increment and hold readings of the same tick; `g'` increments; then the others do anything
    (`mid`: no step of `g`; the wall clock may advance as it likes; exactly 16383 further calls return); then `g`
    increments — and is handed the very UUID `g'` got. -/
theorem C19_conc_dup_descheduled (hw : List UInt8) (s : Conc) (g g' : Nat) (r r' : Int × Nat) (mid : List Act)
    (hne : g' ≠ g) (hg : heldOf s.held g = some r) (hg' : heldOf s.held g' = some r')
    (ht : tick r = tick r') (hmid : ∀ a ∈ mid, actOf a ≠ some g)
    (hn : (concRun hw (concStep hw s (.inc g')) mid).out.length = s.out.length + 1 + 16383) :
    ∃ u, (concRun hw s (.inc g' :: mid ++ [.inc g])).out[s.out.length]? = some ⟨g', r', u⟩ ∧
         (concRun hw s (.inc g' :: mid ++ [.inc g])).out[s.out.length + 16384]? = some ⟨g, r, u⟩ := by
  have hrun : concRun hw s (.inc g' :: mid ++ [.inc g]) =
      concStep hw (concRun hw (concStep hw s (.inc g')) mid) (.inc g) := concRun_append hw _ mid [.inc g]
  have hh2 : heldOf (concRun hw (concStep hw s (.inc g')) mid).held g = some r :=
    (held_frame_run hw g mid hmid _).trans ((held_frame_step hw s g (.inc g') (by simp [actOf, hne])).trans hg)
  obtain ⟨new, ho, _, _⟩ := linInv_run hw (concStep hw s (.inc g')) mid _ (linInv_refl hw _)
  have hctr := (conc_counter hw (concStep hw s (.inc g')) mid).2.1
  rw [hrun, concStep_inc hh2]
  generalize concRun hw (concStep hw s (.inc g')) mid = s2 at hn ho hctr
  rw [concStep_inc hg'] at ho hctr
  simp only [List.length_append, List.length_singleton] at hctr
  refine ⟨(timeUUID s.clockSeq hw r').1, ?_, ?_⟩
  · show (s2.out ++ _)[s.out.length]? = _
    rw [List.getElem?_append_left (by omega), ho, List.getElem?_append_left (by simp)]
    simp
  · show (s2.out ++ _)[s.out.length + 16384]? = _
    rw [List.getElem?_append_right (by omega), show s.out.length + 16384 - s2.out.length = 0 by omega,
      List.getElem?_cons_zero, timeUUID_congr hctr, hn]
    -- the two counters are 16384 apart: the same clock field
    refine congrArg some (congrArg _ ((with_eq_iff _ _ _ _ _).mpr ⟨by simpa [tick] using ht, ?_⟩))
    simp only [timeUUID, uuidFromTime, Nat.reducePow]
    omega

/-- counterexample to "pairwise distinct for any number of concurrent generators" in which the wall clock moves
    on by a full tick before EVERY call that starts after the first two readings (no clock standing still, no
    fixed time argument): goroutines 0 and 1 read the clock; 1 increments; 1 makes 16383 further calls, each at a
    later tick; 0 increments — results 0 and 16384 are the same UUID, for every node and counter value. -/
theorem C19_cex_conc_advancing_clock (hw : List UInt8) (c : Nat) :
    ∃ u, (concRun hw (concInit c (1700000000, 0))
            ([.now 0, .now 1, .inc 1] ++ callsOf 1 (fun i => unixNorm 1700000000 ((i + 1) * 100)) 16383 ++ [.inc 0])).out[0]?
          = some ⟨1, (1700000000, 0), u⟩ ∧
         (concRun hw (concInit c (1700000000, 0))
            ([.now 0, .now 1, .inc 1] ++ callsOf 1 (fun i => unixNorm 1700000000 ((i + 1) * 100)) 16383 ++ [.inc 0])).out[16384]?
          = some ⟨0, (1700000000, 0), u⟩ := by
  let s : Conc := ⟨c, (1700000000, 0), [(1, (1700000000, 0)), (0, (1700000000, 0))], []⟩
  -- bracketed as in `C19_conc_dup_descheduled`: were the two schedules equal only up to `List.append_assoc`, the kernel
  -- would evaluate the 16383 calls to compare them
  have hs : ∀ mid, concRun hw (concInit c (1700000000, 0)) ([.now 0, .now 1, .inc 1] ++ mid ++ [.inc 0]) =
      concRun hw s (.inc 1 :: mid ++ [.inc 0]) := fun mid => rfl
  rw [hs]
  have h1 : heldOf (concStep hw s (.inc 1)).held 1 = none := heldOf_filter_self 1 _
  have := C19_conc_dup_descheduled hw s 0 1 (1700000000, 0) (1700000000, 0)
    (callsOf 1 (fun i => unixNorm 1700000000 ((i + 1) * 100)) 16383) (by decide) rfl rfl rfl
    (callsOf_frame 0 1 (by decide) _ _)
    (by
      obtain ⟨new, ho, hm⟩ := (conc_calls hw 1 _ 16383 _ h1).2
      rw [ho, List.length_append, ← List.length_map (as := new), hm, List.length_map, List.length_range]
      rfl)
  have hl : s.out.length = 0 := rfl
  rw [hl, Nat.zero_add] at this
  exact this

/-- What each goroutine SEES, every schedule whose wall clock never steps back (`WallOk`: every `wall t` action is
    at or after the previous reading, inside the representable range) — however the readings and increments of
    any number of goroutines interleave: every returned UUID carries EXACTLY the 100 ns tick of the reading its
    caller held, that tick lies between the tick of the start reading and the tick of the wall clock at the end,
    and the timestamps of ONE goroutine's results never decrease in return order.  (These are the burst op's
    interval and per-goroutine monitors, here for all interleavings; across goroutines the timestamps need NOT be
    monotone in increment order — the example below.) -/
theorem C19_conc_goroutine_timestamps_monotone (hw : List UInt8) (c : Nat) (t0 : Int × Nat) (acts : List Act)
    (h0 : Representable t0.1 t0.2) (hok : WallOk t0 acts) :
    (∀ r ∈ (concRun hw (concInit c t0) acts).out,
      timestamp r.uuid = tick r.reading ∧ tick t0 ≤ timestamp r.uuid ∧
      timestamp r.uuid ≤ tick (concRun hw (concInit c t0) acts).wall) ∧
    (concRun hw (concInit c t0) acts).out.Pairwise (fun a b => a.g = b.g → timestamp a.uuid ≤ timestamp b.uuid) := by
  have hinit : MonoInv t0 (concInit c t0) :=
    ⟨⟨readingLe_refl _, readingLe_refl _, h0⟩, fun p hp => (by cases hp), fun r hr => (by cases hr),
      fun p hp => (by cases hp), List.Pairwise.nil⟩
  have inv := monoInv_run hw t0 acts (concInit c t0) hinit hok
  have ht := out_tick hw acts (concInit c t0) (fun r hr => by cases hr)
  refine ⟨fun r hr => ?_, inv.pw.imp_of_mem fun ha hb hab hg => ?_⟩
  · have hs := inv.outSeen r hr
    rw [ht r hr]
    exact ⟨rfl, tick_mono _ _ h0 hs.repr hs.after, tick_mono _ _ hs.repr inv.wallSeen.repr hs.before⟩
  · rw [ht _ ha, ht _ hb]
    exact tick_mono _ _ (inv.outSeen _ ha).repr (inv.outSeen _ hb).repr (hab hg)

/-- so the `mon=` field of the model's answer to a `sched` op whose wall clock never steps back is `ok` -/
theorem C19_sched_monitors_ok (hw : List UInt8) (c : Nat) (t0 : Int × Nat) (acts : List Act)
    (h0 : Representable t0.1 t0.2) (hok : WallOk t0 acts) :
    monitorsOk t0 (concRun hw (concInit c t0) acts).wall (concRun hw (concInit c t0) acts).out = true := by
  obtain ⟨h1, h2⟩ := C19_conc_goroutine_timestamps_monotone hw c t0 acts h0 hok
  exact monFold_true _ _ _ [] (fun r hr => (h1 r hr).2) h2 (fun p hp => by cases hp)

/-- non-vacuity: the schedule of the example below satisfies `WallOk`, and ACROSS goroutines the timestamps do
    decrease in increment order (goroutine 0 was overtaken) -/
example : WallOk (1700000000, 0) [.now 0, .wall (1700000000, 100), .now 1, .inc 1, .inc 0] := by
  refine ⟨Or.inr ⟨rfl, by decide⟩, by decide, trivial⟩
example : ((concRun [1, 2, 3, 4, 5, 6] (concInit 7 (1700000000, 0))
    [.now 0, .wall (1700000000, 100), .now 1, .inc 1, .inc 0]).out.map (fun r => timestamp r.uuid)) =
    [139192928000000001, 139192928000000000] := by decide +kernel

/-- the run the native driver executes on long schedules (results accumulated newest-first, reversed at the end)
    is the machine's run -/
theorem C19_conc_fast_eq (hw : List UInt8) (s : Conc) (acts : List Act) : concRunFast hw s acts = concRun hw s acts := by
  unfold concRunFast
  rw [← revOut_run, revOut_revOut]

/-- non-vacuity: a small schedule run through the machine — goroutine 0 is overtaken by goroutine 1 between its
    reading and its increment, so the readings are NOT in increment order -/
example : ((concRun [1, 2, 3, 4, 5, 6] (concInit 7 (1700000000, 0))
    [.now 0, .wall (1700000000, 100), .now 1, .inc 1, .inc 0]).out.map (fun r => (r.g, r.reading))) =
    [(1, (1700000000, 100)), (0, (1700000000, 0))] := by decide +kernel

end C19
