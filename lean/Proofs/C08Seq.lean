import Proofs.C08Step
/-! C08: the sequential big-step semantics (`getStream`, `clear` = one thread running alone).

The word scan of `GetStream`: `i ↦ (i + off) % n` visits every word once (`rot_inj`, `rot_surj`), and the uint32
computation of the code is that `Nat` expression for every value of the offset word (`scanPos32_toNat`). The scan visits
the ids in the order `scanId`; `Seen n off G p` says that `G` holds of the first `p` of them. A load moves the position over
set bits only (`Seen.load`), and a scan that has passed all the words has passed every id (`Seen.all`): so a scan running
alone acquires a free id or finds every id in use (`scan_spec`); Proofs/C08Exhaust has the same for a scan against an
arbitrary environment. Last: sequential use without release (`getMany`), with its
invariant `SeqInv` (the held ids are distinct, in range, their bits set, and counted by bitset and counter). -/
namespace C08
open Streams

theorem runThread_ret {f : Nat} {sh sh' : Shared} {pc pc' : PC} {r : Ret}
    (h : tstep sh pc = (sh', pc', some r)) : runThread (f + 1) sh pc = (sh', some r) := by
  simp only [runThread, h]

theorem runThread_cont {f : Nat} {sh sh' : Shared} {pc pc' : PC}
    (h : tstep sh pc = (sh', pc', none)) : runThread (f + 1) sh pc = runThread f sh' pc' := by
  simp only [runThread, h]

theorem clear_miss (sh : Shared) (id : Nat) (hb : bitAt sh.words id = false) :
    clear sh id = (sh, some (.cleared false)) :=
  runThread_ret (clearLoad_miss (.inl rfl) hb).1

theorem clear_inuse (sh : Shared) (id : Nat) (hb : bitAt sh.words id = true) :
    clear sh id = ({ sh with words := clrBit sh.words id, inuse := sh.inuse - 1 },
                   some (if sh.inuse - 1 < 0 then .crashNegative else .cleared true)) := by
  have e2 : tstep sh (.c9 id (sh.words.getD (bucketOffset id) 0)) =
      ({ sh with words := clrBit sh.words id }, .c11 id, none) := by
    simp only [tstep, ↓reduceIte]; rfl
  exact (runThread_cont (clearLoad_hit (.inl rfl) hb).1).trans ((runThread_cont e2).trans (runThread_ret (pc' := .idle) rfl))

theorem rot_mod {n i off : Nat} (hi : i < n) (ho : off < n) :
    (i + off) % n = if i + off < n then i + off else i + off - n := by
  split
  · rename_i h; exact Nat.mod_eq_of_lt h
  · rename_i h
    rw [Nat.mod_eq_sub_mod (by omega), Nat.mod_eq_of_lt (by omega)]

theorem rot_inj {n i i' off : Nat} (hi : i < n) (hi' : i' < n) (ho : off < n)
    (h : (i + off) % n = (i' + off) % n) : i = i' := by
  rw [rot_mod hi ho, rot_mod hi' ho] at h
  split at h <;> split at h <;> omega

theorem rot_surj {n off pos : Nat} (ho : off < n) (hpos : pos < n) : ∃ i, i < n ∧ (i + off) % n = pos := by
  by_cases hge : off ≤ pos
  · refine ⟨pos - off, by omega, ?_⟩
    rw [rot_mod (by omega) ho]; split <;> omega
  · refine ⟨pos + n - off, by omega, ?_⟩
    rw [rot_mod (by omega) ho]; split <;> omega

theorem nextOffset_lt {n : Nat} (hn : 0 < n) (o : Nat) : nextOffset n o < n := Nat.mod_lt _ hn

/-- the uint32 computation of the code is the `Nat` computation of the model: nothing wraps except the
    increment of the offset word itself (which `nextOffset` has) -/
theorem scanPos32_toNat (nb o : UInt32) (h0 : 0 < nb.toNat) (hmax : nb.toNat ≤ 2147483648) (i : Nat) (hi : i < nb.toNat) :
    (scanPos32 nb o (UInt32.ofNat i)).toNat = (i + nextOffset nb.toNat o.toNat) % nb.toNat := by
  have hoff : (o.toNat + 1) % 4294967296 % nb.toNat < nb.toNat := Nat.mod_lt _ h0
  simp only [scanPos32, UInt32.toNat_mod, UInt32.toNat_add, UInt32.toNat_ofNat', UInt32.toNat_one, nextOffset,
    show (2 : Nat) ^ 32 = 4294967296 from by decide]
  rw [Nat.mod_eq_of_lt (show i < 4294967296 by omega),
      Nat.mod_eq_of_lt (show i + (o.toNat + 1) % 4294967296 % nb.toNat < 4294967296 by omega)]

/-- the id at position `k` of a scan that starts at word `off`: bit `k % 64` of word `(k / 64 + off) % n` -/
def scanId (n off k : Nat) : Nat := ((k / 64 + off) % n) * 64 + k % 64

def Seen (n off : Nat) (G : Nat → Prop) (p : Nat) : Prop := ∀ k, k < p → G (scanId n off k)

theorem Seen.load {n off i j j2 : Nat} {G : Nat → Prop} {sh : Shared} (h : Seen n off G (64 * i + j))
    (hG : ∀ id, bitAt sh.words id = true → G id) (hj2 : j2 ≤ 64)
    (hbits : ∀ j', j ≤ j' → j' < j2 → (sh.words.getD ((i + off) % n) 0).getLsbD (streamOffset j') = true) :
    Seen n off G (64 * i + j2) := by
  intro k hk
  by_cases hlt : k < 64 * i + j
  · exact h k hlt
  · obtain ⟨e, h1, h2⟩ : k / 64 = i ∧ j ≤ k % 64 ∧ k % 64 < j2 := by omega
    apply hG
    rw [scanId, e, bitAt_word _ _ _ (Nat.mod_lt _ (by decide))]
    exact hbits _ h1 h2

theorem Seen.all {n off : Nat} {G : Nat → Prop} (h : Seen n off G (64 * n)) (hoff : off < n) :
    ∀ id, id < 64 * n → G id := by
  intro id hid
  obtain ⟨i, hi, e⟩ := rot_surj hoff (show id / 64 < n by omega)
  -- word `id / 64` is the `i`-th of the scan, so position `64 * i + id % 64` of the scan is the id `id`
  have := h (64 * i + id % 64) (by omega)
  rwa [scanId, Nat.mul_add_div (by decide), Nat.mul_add_mod, Nat.div_eq_of_lt (Nat.mod_lt _ (by decide)),
    Nat.mod_mod, Nat.add_zero, e, Nat.div_add_mod' id 64] at this

/-- the scan of `GetStream` from word index `i` on, running alone: it acquires a free id, or passes all the words -/
theorem scan_spec (sh : Shared) (off : Nat) (hn : 0 < sh.words.length) :
    ∀ (d i fuel : Nat), i + d = sh.words.length → 1 ≤ d → d + 2 ≤ fuel →
      Seen sh.words.length off (bitAt sh.words · = true) (64 * i) →
      (∃ id, id < 64 * sh.words.length ∧ bitAt sh.words id = false ∧
         runThread fuel sh (.g4 off i) =
           ({ sh with words := setBit sh.words id, inuse := sh.inuse + 1 }, some (.stream id true)))
      ∨ (Seen sh.words.length off (bitAt sh.words · = true) (64 * sh.words.length) ∧
         runThread fuel sh (.g4 off i) = (sh, some (.stream 0 false))) := by
  intro d
  induction d with
  | zero => intro i fuel _ h; omega
  | succ d ih =>
    intro i fuel hid _ hfuel hpre
    obtain ⟨f, rfl⟩ : ∃ f, fuel = f + 1 := ⟨fuel - 1, by omega⟩
    have hpos : (i + off) % sh.words.length < sh.words.length := Nat.mod_lt _ hn
    obtain ⟨j, hpass, ⟨hj, hbit, e⟩ | ⟨rfl, e⟩⟩ :=
      afterLoad_cases sh.words.length off i 0 (sh.words.getD ((i + off) % sh.words.length) 0)
    · -- a free bit: CAS, add, return
      obtain ⟨f', rfl⟩ : ∃ f', f = f' + 2 := ⟨f - 2, by omega⟩
      have e1 : tstep sh (.g5 off i j (sh.words.getD ((i + off) % sh.words.length) 0)) =
          ({ sh with words := setBit sh.words (streamFromBucket ((i + off) % sh.words.length) j) },
           .g7 (streamFromBucket ((i + off) % sh.words.length) j), none) := by
        simp only [tstep, ↓reduceIte, streamFromBucket]
        rw [setBit_word _ _ _ hj]
      rw [runThread_cont ((tstep_g4 sh off i).trans (congrArg (Prod.mk sh) e)), runThread_cont e1,
        runThread_ret (pc' := .idle) rfl]
      exact .inl ⟨_, by omega, (bitAt_word _ _ _ hj).trans hbit, rfl⟩
    · -- the word is full: on to the next one, or the scan is over
      have hpre' : Seen sh.words.length off (bitAt sh.words · = true) (64 * i + 64) :=
        Seen.load (j := 0) hpre (fun _ h => h) (Nat.le_refl _) hpass
      have e' := (tstep_g4 sh off i).trans (congrArg (Prod.mk sh) e)
      unfold nextWord at e'
      by_cases hlast : i + 1 < sh.words.length
      · rw [if_pos hlast] at e'
        rw [runThread_cont e']
        exact ih (i + 1) f (by omega) (by omega) (by omega) (Nat.mul_succ 64 i ▸ hpre')
      · rw [if_neg hlast] at e'
        rw [runThread_ret e']
        exact .inr ⟨(show 64 * i + 64 = 64 * sh.words.length by omega) ▸ hpre', rfl⟩

/-- sequential `GetStream`: either it acquires an id that was free, or every id is in use -/
theorem getStream_spec (sh : Shared) (hn : 0 < sh.words.length) :
    (∃ id, id < 64 * sh.words.length ∧ bitAt sh.words id = false ∧
       getStream sh = ({ words := setBit sh.words id, inuse := sh.inuse + 1,
                         offset := nextOffset sh.words.length sh.offset }, some (.stream id true)))
    ∨ ((∀ id, id < 64 * sh.words.length → bitAt sh.words id = true) ∧
       getStream sh = ({ sh with offset := nextOffset sh.words.length sh.offset }, some (.stream 0 false))) := by
  have hoff := nextOffset_lt hn sh.offset
  have key := scan_spec { sh with offset := nextOffset sh.words.length sh.offset } (nextOffset sh.words.length sh.offset)
    hn sh.words.length 0 (sh.words.length + 2) (by simp) hn (by simp) (fun k hk => by omega)
  have hrun : getStream sh = runThread (sh.words.length + 2)
      { sh with offset := nextOffset sh.words.length sh.offset } (.g4 (nextOffset sh.words.length sh.offset) 0) := by
    have e1 : tstep sh .g1 = (sh, .g2 sh.offset, none) := by simp only [tstep]
    have e2 : tstep sh (.g2 sh.offset) = ({ sh with offset := nextOffset sh.words.length sh.offset },
        .g4 (nextOffset sh.words.length sh.offset) 0, none) := by simp only [tstep, ↓reduceIte]
    simp only [getStream, seqOp, startPC]
    rw [runThread_cont e1, runThread_cont e2]
  rw [hrun]
  rcases key with ⟨id, h1, h2, h3⟩ | ⟨h1, h2⟩
  · left; exact ⟨id, h1, h2, h3⟩
  · exact .inr ⟨h1.all hoff, h2⟩

/-- `k` sequential calls of `GetStream` -/
def getMany : Nat → Shared → List (Option Ret) × Shared
  | 0, sh => ([], sh)
  | k + 1, sh => (((getStream sh).2) :: (getMany k (getStream sh).1).1, (getMany k (getStream sh).1).2)

structure SeqInv (n : Nat) (sh : Shared) (held : List Nat) : Prop where
  len : sh.words.length = n
  nodup : held.Nodup
  heldOk : ∀ id, id ∈ held → 1 ≤ id ∧ id < 64 * n ∧ bitAt sh.words id = true
  reserved : bitAt sh.words 0 = true
  count : countBelow (bitAt sh.words) (64 * n) = 1 + held.length
  inuse : sh.inuse = held.length

theorem seqInv_get {n : Nat} (hn : 0 < n) {sh : Shared} {held : List Nat} (hI : SeqInv n sh held) :
    (held.length < 64 * n - 1 → ∃ id, (getStream sh).2 = some (.stream id true) ∧ 1 ≤ id ∧ id < 64 * n ∧
        id ∉ held ∧ SeqInv n (getStream sh).1 (id :: held)) ∧
    (held.length = 64 * n - 1 → (getStream sh).2 = some (.stream 0 false) ∧
        SeqInv n (getStream sh).1 held) := by
  have hlen := hI.len
  have hc := hI.count
  rcases getStream_spec sh (by omega) with ⟨id, h1, h2, h3⟩ | ⟨h1, h2⟩
  · rw [hlen] at h1
    have hlt := countBelow_lt h1 h2
    -- a free id is neither the reserved one nor held
    have hset : ∀ {x}, bitAt sh.words x = true → x ≠ id := fun h => ne_of_bitAt h h2
    have hnm : id ∉ held := fun hm => hset (hI.heldOk id hm).2.2 rfl
    have hid0 : 1 ≤ id := Nat.pos_of_ne_zero (Ne.symm (hset hI.reserved))
    obtain ⟨hbits, hcnt⟩ := setBit_view (by omega) h1 h2
    have hi := hI.inuse
    rw [h3]
    refine ⟨fun _ => ⟨id, rfl, hid0, h1, hnm, by simpa [length_setBit] using hlen,
      List.nodup_cons.mpr ⟨hnm, hI.nodup⟩, fun x hx => ?_, by simp [hbits, hI.reserved],
      by simp only [List.length_cons]; omega, by simp only [List.length_cons]; omega⟩, fun hf => by omega⟩
    rcases List.mem_cons.mp hx with rfl | hx
    · exact ⟨hid0, h1, by simp [hbits]⟩
    · have := hI.heldOk x hx; simp [hbits, this]
  · rw [hlen] at h1
    have := countBelow_all _ h1
    rw [h2]
    exact ⟨fun hlt => by omega, fun _ => ⟨rfl, hlen, hI.nodup, hI.heldOk, hI.reserved, hI.count, hI.inuse⟩⟩

theorem seqInv_getMany {n : Nat} (hn : 0 < n) (k : Nat) :
    ∀ (sh : Shared) (held : List Nat), SeqInv n sh held → held.length + k ≤ 64 * n - 1 →
      ∃ ids : List Nat, ids.length = k ∧
        (getMany k sh).1 = ids.map (fun id => some (.stream id true)) ∧
        SeqInv n (getMany k sh).2 (ids.reverse ++ held) := by
  induction k with
  | zero => intro sh held hI _; exact ⟨[], rfl, rfl, by simpa [getMany] using hI⟩
  | succ k ih =>
    intro sh held hI hk
    obtain ⟨id, h1, _, _, _, h5⟩ := (seqInv_get hn hI).1 (by omega)
    obtain ⟨ids, h6, h7, h8⟩ := ih (getStream sh).1 (id :: held) h5 (by simp only [List.length_cons]; omega)
    refine ⟨id :: ids, by simp [h6], ?_, ?_⟩
    · simp only [getMany, h1, h7, List.map_cons]
    · simp only [getMany, List.reverse_cons, List.append_assoc, List.singleton_append]
      exact h8

theorem seqInv_init (n : Nat) (hn : 0 < n) : SeqInv n (init n) [] :=
  ⟨length_init n, List.nodup_nil, by simp, by simp [bitAt_init n hn], count_init n hn, rfl⟩

end C08
