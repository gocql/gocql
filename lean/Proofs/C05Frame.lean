import Model.FrameCrash
/-! The frame parser never crashes (C05, response frames): every parser of Model/FrameCrash.lean satisfies `Inv 0`,
by one structural pass over its definition (`inv0`); only the type-description parser needs an argument
(its fuel is never exhausted, `typeInfo_spec`). -/
namespace C05Frame
open FrameCrash

/-- pointwise invariant of a parser run: a successful run consumed at least `k` bytes (and never
grows the buffer), and it never crashes -/
def InvAt (k : Nat) {α : Type} (p : P α) (st : St) : Prop :=
  match p st with
  | .ok _ st' => st'.buf.length + k ≤ st.buf.length
  | .err _ => True
  | .crash _ _ => False

def Inv (k : Nat) {α : Type} (p : P α) : Prop := ∀ st, InvAt k p st

theorem invAt_of_inv {k : Nat} {α : Type} {p : P α} (h : Inv k p) (st : St) : InvAt k p st := h st

/-- a successful run of `p` from `st` ends in a value and a state that satisfy `Q`; a crash is allowed iff `C`.
`InvAt k p st` is `Tri False p st (fun _ st' => |st'.buf| + k ≤ |st.buf|)`; `C05Rows.Post` is the case `C = True`. -/
def Tri (C : Prop) {α : Type} (p : P α) (st : St) (Q : α → St → Prop) : Prop :=
  match p st with
  | .ok a st' => Q a st'
  | .err _ => True
  | .crash _ _ => C

theorem tri_bind {C : Prop} {α β : Type} {p : P α} {f : α → P β} {st : St} {R : α → St → Prop}
    {Q : β → St → Prop} (hp : Tri C p st R) (hf : ∀ a st', R a st' → Tri C (f a) st' Q) :
    Tri C (p >>= f) st Q := by
  unfold Tri at hp ⊢
  show match P.bind p f st with | .ok a st' => _ | .err _ => _ | .crash _ _ => _
  unfold P.bind
  cases h : p st with
  | ok a st' => rw [h] at hp; exact hf a st' hp
  | err al => trivial
  | crash s al => rw [h] at hp; exact hp

theorem tri_mono {C : Prop} {α : Type} {p : P α} {st : St} {R Q : α → St → Prop}
    (hp : Tri C p st R) (h : ∀ a st', R a st' → Q a st') : Tri C p st Q := by
  unfold Tri at hp ⊢
  split <;> simp_all

theorem tri_ok {C : Prop} {α : Type} {p : P α} {st st' : St} {a : α} {Q : α → St → Prop}
    (hp : Tri C p st Q) (h : p st = .ok a st') : Q a st' := by
  unfold Tri at hp; rw [h] at hp; exact hp

theorem crashSite_of_invAt {k : Nat} {α : Type} {p : P α} {st : St} (h : InvAt k p st) :
    (p st).crashSite = none := by
  unfold InvAt at h
  cases hp : p st with
  | crash s a => rw [hp] at h; exact h.elim
  | _ => rfl

theorem inv_mono {k k' : Nat} {α : Type} {p : P α} (h : Inv k p) (hk : k' ≤ k) : Inv k' p :=
  fun st => tri_mono (C := False) (h st) fun _ _ h => by omega

theorem inv_bind {k1 k2 : Nat} {α β : Type} {p : P α} {f : α → P β}
    (hp : Inv k1 p) (hf : ∀ a, Inv k2 (f a)) : Inv (k1 + k2) (p >>= f) :=
  fun st => tri_bind (C := False) (hp st) fun a st' h => tri_mono (C := False) (hf a st') fun _ _ h' => by omega

theorem inv_pure {α : Type} (a : α) : Inv 0 (pure a : P α) := fun _ => Nat.le_refl _

/-- A primitive whose length check is at least as large as what it slices
cannot crash, for any buffer; it consumes exactly `need` bytes -/
theorem inv_take (site : Site) (guard need : Nat) (h : need ≤ guard) :
    Inv need (take site guard need) := by
  intro st
  by_cases h1 : st.buf.length < guard
  · simp [InvAt, take, h1]
  · have h2 : ¬ st.buf.length < need := by omega
    simp [InvAt, take, h1, h2]; omega

theorem take_noCrash (site : Site) (guard need : Nat) (h : need ≤ guard) (st : St) :
    (take site guard need st).crashSite = none :=
  crashSite_of_invAt (inv_take site guard need h st)

/-- `Inv 0`, as the structural pass `inv0` sees it: a predicate closed under the rules below. Irreducible once the leaves
are entered, so that a rule which does not fit a node is refused without unfolding anything. -/
def Total {α : Type} (p : P α) : Prop := Inv 0 p

theorem Total.inv {α : Type} {p : P α} (h : Total p) : Inv 0 p := h

theorem Total.of_inv {α : Type} {p : P α} (h : Inv 0 p) : Total p := h

theorem total_bind {α β : Type} {p : P α} {f : α → P β}
    (hp : Total p) (hf : ∀ a, Total (f a)) : Total (p >>= f) := inv_bind (k1 := 0) (k2 := 0) hp hf

theorem total_ite {α : Type} {c : Prop} [Decidable c] {p q : P α}
    (hp : Total p) (hq : Total q) : Total (if c then p else q) := by
  split <;> assumption

theorem total_loopN (n : Nat) (body : P Unit) (h : Total body) : Total (loopN n body) := by
  induction n with
  | zero => exact inv_pure _
  | succ n ih => exact total_bind h (fun _ => ih)

/-- bind after a reader that does not crash, keeping the budget `|buf| + k ≤ B`: the step `typeInfo_spec` goes by -/
theorem tri_read {α β : Type} {p : P α} {f : α → P β} {st : St} {Q : β → St → Prop} {k B : Nat}
    (hp : Total p) (hB : st.buf.length + k ≤ B)
    (hf : ∀ a st', st'.buf.length + k ≤ B → Tri False (f a) st' Q) : Tri False (p >>= f) st Q :=
  tri_bind (C := False) (hp st) fun a st' h => hf a st' (by omega)

/-- Facts about single parsers, entered as they are proved: the structural tactics (`inv0` here,
`post_frame` in C05Rows) look up here what holds of the parsers a definition is built from.
A class, so that a fact is found by the head symbol of its parser; the bind and `if` rules stay `refine`
steps of the tactic, because as instances they exceed the size limit of instance resolution. -/
class Known (p : Prop) : Prop where
  out : p

instance {α : Type} (a : α) : Known (Total (pure a : P α)) := ⟨inv_pure a⟩
instance {α : Type} : Known (Total (fail : P α)) := ⟨fun _ => trivial⟩
instance (n : Nat) : Known (Total (alloc n)) := ⟨fun _ => Nat.le_refl _⟩
instance (site : Site) (n : Nat) : Known (Total (take site n n)) :=
  ⟨inv_mono (inv_take site n n (Nat.le_refl n)) (Nat.zero_le n)⟩
instance : Known (Total (fun st => Res.ok st st : P St)) := ⟨fun _ => Nat.le_refl _⟩
instance (need : Nat) : Known (Total (guardCount need)) :=
  ⟨fun st => by by_cases h : need > st.buf.length <;> simp [InvAt, guardCount, h]⟩

attribute [irreducible] Total

/-- `Total (do …)`, by recursion over binds, ifs and loops down to parsers that are `Known` to satisfy it -/
macro "inv0" : tactic => `(tactic| repeat (first
  | exact Known.out
  | refine total_bind ?_ (fun _ => ?_)
  | refine total_ite ?_ ?_
  | refine total_loopN _ _ ?_))

theorem inv_readShort : Inv 2 readShort :=
  inv_bind (k2 := 0) (inv_take _ 2 2 (Nat.le_refl 2)) (fun _ => inv_pure _)

instance : Known (Total readByte) := ⟨by unfold readByte; inv0⟩
instance : Known (Total readIntU) := ⟨by unfold readIntU; inv0⟩
instance : Known (Total readInt) := ⟨by unfold readInt; inv0⟩
instance : Known (Total readShort) := ⟨by unfold readShort; inv0⟩
instance : Known (Total readString) := ⟨by unfold readString; inv0⟩
instance : Known (Total readUUID) := ⟨by unfold readUUID; inv0⟩
instance : Known (Total readBytes) := ⟨by unfold readBytes; inv0⟩
instance : Known (Total readShortBytes) := ⟨by unfold readShortBytes; inv0⟩
instance : Known (Total readStringList) := ⟨by unfold readStringList; inv0⟩
instance : Known (Total readBytesMap) := ⟨by unfold readBytesMap; inv0⟩
instance : Known (Total readStringMultiMap) := ⟨by unfold readStringMultiMap; inv0⟩
instance : Known (Total readInetAdressOnly) := ⟨by unfold readInetAdressOnly; inv0⟩
instance : Known (Total readInet) := ⟨by unfold readInet; inv0⟩
instance : Known (Total readErrorMap) := ⟨by unfold readErrorMap; inv0⟩

theorem tiDepth_pos (t : TI) : 1 ≤ tiDepth t := by
  cases t <;> simp [tiDepth]

/-! The arithmetic of `typeInfo_spec`: one level more below a list, the deeper of two below a map. -/

theorem depth_succ {B a c x : Nat} (h : a + 2 ≤ B) (hx : c + 2 * x ≤ a) : c + 2 * (x + 1) ≤ B := by omega

theorem depth_max {B a b c x y : Nat} (h : a ≤ B) (hx : b + 2 * x ≤ a) (hy : c + 2 * y ≤ b) :
    c + 2 * max x y ≤ B := by omega

/-- The specification of the type-description parser, by induction on the fuel: with fuel above the unread
bytes it does not crash (the fuel is never exhausted), and every nesting level of the description it
returns has cost two bytes of the body -/
theorem typeInfo_spec : ∀ f : Nat,
    (∀ st : St, st.buf.length + 1 ≤ f →
      Tri False (readTypeInfo f) st (fun t st' => st'.buf.length + 2 * tiDepth t ≤ st.buf.length)) ∧
    (∀ (named : Bool) (n : Nat) (st : St), st.buf.length + 2 ≤ f →
      Tri False (typeLoop f named n) st (fun ts st' => st'.buf.length + 2 * tiDepthL ts ≤ st.buf.length)) := by
  intro f
  induction f with
  | zero => exact ⟨fun st h => by omega, fun _ _ st h => by omega⟩
  | succ f ih =>
    obtain ⟨ihT, ihL⟩ := ih
    constructor
    · intro st hf
      unfold readTypeInfo
      -- `H`: the id has been read, so two bytes of `st.buf` are gone whatever follows
      refine tri_bind (inv_readShort st) (fun id st1 H => ?_)
      refine tri_read (total_ite (by inv0) Known.out) H (fun typ st2 H => ?_)
      split
      · iterate 3 refine tri_read Known.out (by assumption) (fun _ _ _ => ?_)
        refine tri_bind (ihL false _ _ (by omega)) (fun es _ h => ?_)
        exact depth_succ (by assumption) h
      · split
        · iterate 5 refine tri_read Known.out (by assumption) (fun _ _ _ => ?_)
          refine tri_bind (ihL true _ _ (by omega)) (fun fs _ h => ?_)
          exact depth_succ (by assumption) h
        · split
          · refine tri_bind (ihT st2 (by omega)) (fun k st3 hk => ?_)
            refine tri_bind (ihT st3 (by omega)) (fun v st4 hv => ?_)
            exact depth_succ H (depth_max (Nat.le_refl _) hk hv)
          · split
            · refine tri_bind (ihT st2 (by omega)) (fun e st3 he => ?_)
              exact depth_succ H he
            · exact H
    · intro named n st hf
      unfold typeLoop
      cases n with
      | zero => exact Nat.le_refl _
      | succ n =>
        refine tri_read (k := 0) (total_ite (by inv0) Known.out) (Nat.le_refl _) (fun _ st1 H => ?_)
        refine tri_bind (ihT st1 (by omega)) (fun t st2 ht => ?_)
        have := tiDepth_pos t
        refine tri_bind (ihL named n st2 (by omega)) (fun ts st3 hts => ?_)
        exact depth_max H ht hts

theorem readTypeInfoTop_spec (st : St) :
    Tri False readTypeInfoTop st (fun t st' => st'.buf.length + 2 * tiDepth t ≤ st.buf.length) := by
  unfold Tri readTypeInfoTop
  exact (typeInfo_spec (st.buf.length + 1)).1 st (Nat.le_refl _)

instance : Known (Total readTypeInfoTop) :=
  ⟨.of_inv fun st => tri_mono (C := False) (readTypeInfoTop_spec st) fun _ _ h => by omega⟩

instance (g : Bool) : Known (Total (readCol g)) := ⟨by unfold readCol; inv0⟩

instance (g : Bool) (n : Nat) (acc : List TI) : Known (Total (colLoop g n acc)) := by
  induction n generalizing acc with
  | zero => exact ⟨.of_inv (inv_pure _)⟩
  | succ n ih => exact ⟨total_bind Known.out (fun c => (ih (c :: acc)).out)⟩

instance (flags colCount : Nat) : Known (Total (metaTail flags colCount)) := ⟨by unfold metaTail; inv0⟩
instance : Known (Total parseResultMetadata) := ⟨by unfold parseResultMetadata; inv0⟩
instance (proto : Nat) : Known (Total (parsePreparedMetadata proto)) := ⟨by unfold parsePreparedMetadata; inv0⟩
instance (proto : Nat) : Known (Total (parseResultSchemaChange proto)) :=
  ⟨by unfold parseResultSchemaChange; inv0⟩
instance (proto : Nat) : Known (Total (parseResultFrame proto)) := ⟨by unfold parseResultFrame; inv0⟩
instance (proto : Nat) : Known (Total (readFailureTail proto)) := ⟨by unfold readFailureTail; inv0⟩
instance (proto : Nat) : Known (Total (parseErrorFrame proto)) := ⟨by unfold parseErrorFrame; inv0⟩
instance (proto : Nat) : Known (Total (parseEventFrame proto)) := ⟨by unfold parseEventFrame; inv0⟩

theorem inv_parseFrameP (proto : Nat) (resp : Bool) (flags op : Nat) :
    Inv 0 (parseFrameP proto resp flags op) :=
  Total.inv (by unfold parseFrameP; inv0)

end C05Frame
