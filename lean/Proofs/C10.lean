import Model.Placement
import Proofs.C10Lookup
import Proofs.C10Simple
import Proofs.C10Nts
import Proofs.C10NtsNodup
import Proofs.C10NtsSpec
import Proofs.C10NtsSim
import Proofs.C10NtsLookup
import Proofs.C10Ring
import Proofs.C10Strategy
import Proofs.C10Ordered
/-!
# C10 — replica sets for a token equal Cassandra's placement  (property theorems)

Model: `Model/Placement.lean` (namespace `Placement`, mirrors token.go / topology.go),
specification: `Placement.Spec` (Cassandra's firstTokenIndex / SimpleStrategy / NetworkTopologyStrategy 3.0).
All theorems quantify over every ring / replication setting / token; the only standing hypothesis on rings is
`Sorted` (strictly ascending tokens: what `sort.Sort` produces from pairwise distinct tokens).

`networkTopology.replicaMap` is the code AFTER the repairs of KF-C10-1 (seen-host check), KF-C10-2 (sanity check counts
the ring's datacenters) and KF-C10-3 (`dcRacks` from token owners); for that code the NetworkTopologyStrategy theorems
hold for ALL rings — any number of tokens per node, datacenters, racks, replication factors incl. 0 / larger than the
DC / DCs unknown to the ring.  The inputs on which the code failed before the repairs are kept as regression `example`s
at the end.
-/
namespace C10
open Placement C10Lookup C10Simple C10Nts C10NtsNodup C10NtsSpec C10NtsSim C10NtsLookup C10Ring C10Strategy C10Ordered

/-- `GetHostForToken` / `replicasFor`: Go's binary search with wrap-around computes Cassandra's
`firstTokenIndex` (first ring token ≥ t, else index 0) — for every sorted ring and every token. -/
theorem C10_lookup {β : Type} (ring : List (Int × β)) (t : Int) (hs : Sorted ring) :
    lookupIdx ring t = Spec.ownerIdx ring t :=
  lookupIdx_eq_ownerIdx ring t hs

/-- the entry returned is the owner of the range (previous token, token], wrapping around: either its
token is ≥ t and every earlier token is < t (equal / between / below the smallest), or every ring token
is < t and it is entry 0 (above the largest). -/
theorem C10_lookup_owner (ring : List Entry) (t : Int) (hs : Sorted ring) (hne : ring ≠ []) :
    lookupIdx ring t < ring.length ∧
    getHostForToken ring t = ring[lookupIdx ring t]? ∧
    ((t ≤ tokAt ring (lookupIdx ring t) ∧ ∀ k, k < lookupIdx ring t → tokAt ring k < t) ∨
     (lookupIdx ring t = 0 ∧ ∀ k, k < ring.length → tokAt ring k < t)) := by
  rw [C10_lookup ring t hs]
  refine ⟨ownerIdx_lt ring t hne, ?_, ownerIdx_range ring t⟩
  unfold getHostForToken
  have : ring.length ≠ 0 := by
    have := List.length_pos_iff.mpr hne; omega
  rw [if_neg this, C10_lookup ring t hs]

example : getHostForToken [(0, ⟨1, 1, 1⟩), (10, ⟨2, 1, 1⟩)] 11 = some (0, ⟨1, 1, 1⟩) := by decide
example : getHostForToken [(0, ⟨1, 1, 1⟩), (10, ⟨2, 1, 1⟩)] 10 = some (10, ⟨2, 1, 1⟩) := by decide

/-- the literal Go index arithmetic of both placement loops is the rotation the model walks -/
theorem C10_walk_order (tokens : List Entry) (i : Nat) (hi : i < tokens.length) :
    walkIdx tokens i = rot tokens i :=
  walkIdx_eq_rot tokens i hi

def distinctNodes (ring : List Entry) : Nat := (Spec.firsts (ring.map (·.2))).length

/-- for every sorted ring (any number of vnodes), every rf and every lookup token: the replicas the driver
associates with the token (`replicasFor` on `simpleStrategy.replicaMap`) are Cassandra's:
the first `rf` distinct nodes clockwise from the owner of the token. -/
theorem C10_simple (ring : List Entry) (rf : Nat) (t : Int) (hs : Sorted ring) (hne : ring ≠ []) :
    (replicasFor (simpleReplicaMap rf ring) t).map (·.2) = some (Spec.simple ring rf t) := by
  rw [replicasFor_simple ring rf t hs hne]
  simp only [Option.map_some, Option.some.injEq]
  unfold simpleReplicasAt Spec.simple
  rw [simpleWalk_init, rot_owner_eq_clockwise ring t hs]

/-- empty ring: no entry (Pick then falls back), Cassandra has no replica either -/
theorem C10_simple_empty (rf : Nat) (t : Int) :
    replicasFor (simpleReplicaMap rf []) t = none ∧ Spec.simple [] rf t = [] := by
  constructor
  · rfl
  · simp [Spec.simple, Spec.clockwise, Spec.firsts]

/-- a simple replica list never contains a node twice -/
theorem C10_simple_nodup (ring : List Entry) (rf : Nat) (t : Int) : (Spec.simple ring rf t).Nodup :=
  (take_firsts _ _ rf fun _ => Iff.rfl).1

/-- its length is min(rf, number of distinct nodes of the ring) -/
theorem C10_simple_length (ring : List Entry) (rf : Nat) (t : Int) :
    (Spec.simple ring rf t).length = min rf (distinctNodes ring) :=
  (take_firsts _ _ rf fun x => by simp only [List.mem_map, mem_clockwise]).2

/-- the owner of the token's range comes first (whenever rf > 0) -/
theorem C10_simple_primary (ring : List Entry) (rf : Nat) (t : Int) (hs : Sorted ring) (hne : ring ≠ [])
    (hrf : 0 < rf) :
    (Spec.simple ring rf t).head? = (getHostForToken ring t).map (·.2) := by
  obtain ⟨hlt, hget, _⟩ := C10_lookup_owner ring t hs hne
  rw [hget, C10_lookup ring t hs]
  rw [C10_lookup ring t hs] at hlt
  obtain ⟨k, rfl⟩ : ∃ k, rf = k + 1 := ⟨rf - 1, by omega⟩
  unfold Spec.simple
  rw [← rot_owner_eq_clockwise ring t hs, rot_head ring _ hlt, List.getElem?_eq_getElem hlt]
  simp only [List.map_cons, Spec.firsts, List.take_succ_cons, List.head?_cons, Option.map_some]

example : (replicasFor (simpleReplicaMap 2 [(0, ⟨1, 1, 1⟩), (5, ⟨1, 1, 1⟩), (10, ⟨2, 1, 1⟩)]) 3).map (·.2)
    = some [⟨1, 1, 1⟩, ⟨2, 1, 1⟩] := by decide

/-! ## NetworkTopologyStrategy — for EVERY ring and EVERY rf map (vnodes, unknown DCs, rf 0, rf > DC size) -/

/-- for every ring (any vnodes, racks, DCs) and every rf map — rf 0, larger than the DC, datacenters
unknown to the ring, ring datacenters unknown to the keyspace — `networkTopology.replicaMap` returns the described
map; none of its four panics ("replica overflow", "no replicas for token", "first replica is not the primary",
"token map different size to token ring") can fire. -/
theorem C10_no_panic (rfs : List (Nat × Nat)) (tokens : List Entry) :
    ntsReplicaMap rfs tokens = .ok (ntsDesc rfs tokens) := by
  unfold ntsReplicaMap
  simp only [ntsLoop_desc rfs tokens]
  rw [if_neg]
  rintro ⟨hcnt, hlen⟩
  refine hlen (ntsDesc_length rfs tokens fun d hd => ?_)
  simpa [cfgOf, mkCfg] using (List.length_filter_eq_length_iff.mp hcnt : ∀ d ∈ (cfgOf rfs tokens).dcs, _) d hd

theorem C10_no_panic_crash (rfs : List (Nat × Nat)) (tokens : List Entry) :
    crashOf (ntsReplicaMap rfs tokens) = none := by
  rw [C10_no_panic]; rfl

/-- every entry of the map: per-DC replica count ≤ rf of that DC -/
theorem C10_nts_bound_rf (rfs : List (Nat × Nat)) (tokens : List Entry)
    (e : Int × List Host) (he : e ∈ ntsDesc rfs tokens) (d : Nat) :
    (e.2.filter (fun x => decide (x.dc = d))).length ≤ rfOf rfs d := by
  obtain ⟨i, _, sh, rfl, w, _⟩ := ntsDesc_entry he
  rw [w.good.cnt d]
  exact w.good.le d

/-- the first replica of every entry is the primary of the entry's token (the owner of its range) -/
theorem C10_nts_primary_first (rfs : List (Nat × Nat)) (tokens : List Entry)
    (e : Int × List Host) (he : e ∈ ntsDesc rfs tokens) :
    ∃ th ∈ tokens, th.1 = e.1 ∧ e.2.head? = some th.2 := by
  obtain ⟨i, hi, _, rfl, _, hd⟩ := ntsDesc_entry he
  exact ⟨tokens[i], List.getElem_mem hi, rfl, hd⟩

/-- for every ring — any number of tokens per node — no replica list contains a node twice. -/
theorem C10_nts_nodup (rfs : List (Nat × Nat)) (tokens : List Entry)
    (e : Int × List Host) (he : e ∈ ntsDesc rfs tokens) : e.2.Nodup := by
  obtain ⟨i, _, sh, rfl, w, _⟩ := ntsDesc_entry he
  exact w.j.rnd

/-- the distinct nodes of datacenter `d` that own tokens of the ring -/
def nodesOfDC (tokens : List Entry) (d : Nat) : List Host :=
  (Spec.firsts (tokens.map (·.2))).filter (fun x => decide (x.dc = d))

/-- for every ring, per datacenter a replica list holds at most min(rf, distinct nodes of the DC)
nodes — it never exceeds the available distinct nodes. -/
theorem C10_nts_bound (rfs : List (Nat × Nat)) (tokens : List Entry)
    (e : Int × List Host) (he : e ∈ ntsDesc rfs tokens) (d : Nat) :
    (e.2.filter (fun x => decide (x.dc = d))).length ≤ min (rfOf rfs d) (nodesOfDC tokens d).length := by
  have hb := C10_nts_bound_rf rfs tokens e he d
  have hnd := C10_nts_nodup rfs tokens e he
  refine Nat.le_min.mpr ⟨hb, (List.Sublist.nodup List.filter_sublist hnd).length_le_of_subset ?_⟩
  intro x hx
  unfold nodesOfDC
  rw [List.mem_filter] at hx ⊢
  exact ⟨(mem_firsts _ x).mpr (ntsDesc_hosts he x hx.1), hx.2⟩

/-- … and in total it never exceeds the distinct nodes of the ring -/
theorem C10_nts_bound_total (rfs : List (Nat × Nat)) (tokens : List Entry)
    (e : Int × List Host) (he : e ∈ ntsDesc rfs tokens) : e.2.length ≤ distinctNodes tokens := by
  exact (C10_nts_nodup rfs tokens e he).length_le_of_subset (fun x hx => (mem_firsts _ x).mpr (ntsDesc_hosts he x hx))

/-- for every sorted ring — any number of tokens per node, DCs, racks unevenly populated — and every
rf map (rf 0, rf larger than the DC, DCs unknown to the ring; keys distinct as in a Go map), every entry of
`networkTopology.replicaMap`'s result holds exactly Cassandra's replicas of the entry's token, in Cassandra's order. -/
theorem C10_nts_equal (rfs : List (Nat × Nat)) (ring : List Entry) (hs : Sorted ring)
    (hkeys : (rfs.map (·.1)).Nodup)
    (e : Int × List Host) (he : e ∈ ntsDesc rfs ring) : e.2 = Spec.nts ring rfs e.1 := by
  obtain ⟨i, hi, _, rfl, _, _⟩ := ntsDesc_entry he
  simp only
  unfold Spec.nts ntsReplicasAt
  rw [← rot_owner_eq_clockwise ring _ hs, ownerIdx_self ring hs i hi]
  exact nts_sim (cfgOf rfs ring) (Spec.topoOf ring) _ (univ_of rfs ring hkeys) _ [] ntsInit Spec.init
    (fun x hx => by rw [map_rot, mem_rot] at hx; exact hx) (walked_init _ _) (sim_init _)

example : Spec.nts [(0, ⟨1, 1, 1⟩), (10, ⟨2, 1, 1⟩), (20, ⟨3, 1, 2⟩)] [(1, 2)] 0 = [⟨1, 1, 1⟩, ⟨3, 1, 2⟩] := by decide

/-- for every sorted ring and rf map, `networkTopology.replicaMap` returns — without panic — exactly
the map that has, for every ring token whose primary's datacenter is replicated, Cassandra's replicas of that token. -/
theorem C10_nts_map (rfs : List (Nat × Nat)) (ring : List Entry) (hs : Sorted ring) (hkeys : (rfs.map (·.1)).Nodup) :
    ntsReplicaMap rfs ring =
      .ok ((ring.filter (fun e => repl rfs e.2)).map (fun e => (e.1, Spec.nts ring rfs e.1))) := by
  rw [C10_no_panic]
  congr 1
  have hcongr : ntsDesc rfs ring =
      ((indexed ring).filter (fun p => repl rfs p.2.2)).map (fun p => (p.2.1, Spec.nts ring rfs p.2.1)) := by
    unfold ntsDesc
    apply List.map_congr_left
    intro p hp
    have hmem : (p.2.1, (ntsReplicasAt (cfgOf rfs ring) ring p.1).replicas) ∈ ntsDesc rfs ring := by
      unfold ntsDesc
      exact List.mem_map.mpr ⟨p, hp, rfl⟩
    have := C10_nts_equal rfs ring hs hkeys _ hmem
    simp only at this
    rw [this]
  rw [hcongr]
  have h1 : (fun p : Nat × Entry => (p.2.1, Spec.nts ring rfs p.2.1))
      = (fun e : Entry => (e.1, Spec.nts ring rfs e.1)) ∘ (·.2) := rfl
  have h2 : (fun p : Nat × Entry => repl rfs p.2.2) = (fun e : Entry => repl rfs e.2) ∘ (·.2) := rfl
  rw [h1, h2, ← List.map_map, ← List.filter_map, indexed_map_snd]

/-- for every sorted ring, rf map and lookup token `t` (equal to, between, below the smallest, above
the largest ring token): the replicas the driver associates with `t` — `replicasFor` on the replica map, no replicas when
it returns nil — are exactly Cassandra's replicas of `t`. -/
theorem C10_nts_lookup (rfs : List (Nat × Nat)) (ring : List Entry) (t : Int) (hs : Sorted ring)
    (hkeys : (rfs.map (·.1)).Nodup) :
    (match ntsReplicaMap rfs ring with
     | .ok rr => (match replicasFor rr t with
        | some e => some e.2
        | none => some [])
     | .error _ => none) = some (Spec.nts ring rfs t) := by
  rw [C10_nts_map rfs ring hs hkeys]
  simp only
  by_cases hne : ring.filter (fun e => repl rfs e.2) = []
  · rw [hne, nts_none_retained ring rfs t hne]
    rfl
  · rw [replicasFor_map _ (fun e => Spec.nts ring rfs e.1) t (sorted_filter ring _ hs) hne]
    simp only
    rw [← nts_at_retained ring rfs t hs hne]

example : (match ntsReplicaMap [(1, 1)] [(0, ⟨1, 1, 1⟩), (10, ⟨2, 3, 1⟩)] with
     | .ok rr => (replicasFor rr 5).map (·.2)
     | .error _ => none) = some [⟨1, 1, 1⟩] := by decide

/-! ## ring construction (`newTokenRing`) and the theorems above stated from the CLUSTER LAYOUT

All theorems above carry the hypothesis `Sorted ring`.  It is discharged here: for every list of hosts with their
tokens — any number of hosts, any number of tokens per host (vnodes, none), given in any order — in which no token is
claimed twice, the ring `newTokenRing` builds is strictly ascending and holds exactly the (token, host) pairs of the
layout; and that arrangement is unique, so ANY correct sorting algorithm (Go's `sort.Sort` is not stable and is free to
change) returns the list the model computes.  Cassandra's `TokenMetadata.sortedTokens` with `tokenToEndpointMap` is
characterised the same way (`cring` below): the ascending arrangement of the layout's pairs. -/

/-- the ring built from any layout with pairwise distinct tokens is strictly ascending and is a
rearrangement of exactly the layout's (token, host) pairs (nothing lost, nothing invented, multiplicities kept). -/
theorem C10_ring_sorted (hosts : List (Host × List Int)) (hd : DistinctTokens hosts) :
    Sorted (buildRing hosts) ∧ (buildRing hosts).Perm (allPairs hosts) :=
  ⟨buildRing_sorted hosts hd, buildRing_perm hosts⟩

/-- whatever a sorting algorithm does, if its result is ascending and a rearrangement of the
layout's pairs it IS the model's ring — the instability of `sort.Sort` cannot be observed on distinct tokens. -/
theorem C10_ring_unique (hosts : List (Host × List Int)) (hd : DistinctTokens hosts) (ring : List Entry)
    (hs : Sorted ring) (hp : ring.Perm (allPairs hosts)) : ring = buildRing hosts :=
  List.Perm.eq_of_pairwise (fun _ _ _ _ h h' => absurd h' (Int.lt_asymm h)) hs (buildRing_sorted hosts hd)
    (hp.trans (buildRing_perm hosts).symm)

/-- the ring does not depend on the order in which the hosts are reported (nor on the order of a host's tokens) -/
theorem C10_ring_order_irrelevant (h₁ h₂ : List (Host × List Int)) (hd : DistinctTokens h₁)
    (hp : (allPairs h₁).Perm (allPairs h₂)) : buildRing h₁ = buildRing h₂ := by
  have hd₂ : DistinctTokens h₂ := by
    unfold DistinctTokens at hd ⊢
    exact (hp.map (fun e : Entry => e.1)).nodup_iff.mp hd
  exact C10_ring_unique h₂ hd₂ (buildRing h₁) (buildRing_sorted h₁ hd) ((buildRing_perm h₁).trans hp)

example : buildRing [(⟨2, 1, 1⟩, [10, -5]), (⟨1, 1, 2⟩, [3])] = [(-5, ⟨2, 1, 1⟩), (3, ⟨1, 1, 2⟩), (10, ⟨2, 1, 1⟩)] := by
  decide
example : DistinctTokens [(⟨2, 1, 1⟩, [10, -5]), (⟨1, 1, 2⟩, [3])] := by unfold DistinctTokens; decide

/-- from the layout — the host `GetHostForToken` returns on the ring the driver builds is the owner
of the token on Cassandra's ring `cring` (first token ≥ t, else the smallest: the range (previous token, token] with
wrap-around). -/
theorem C10_cluster_owner (hosts : List (Host × List Int)) (hd : DistinctTokens hosts) (cring : List Entry)
    (hcs : Sorted cring) (hcp : cring.Perm (allPairs hosts)) (t : Int) :
    getHostForToken (buildRing hosts) t = cring[Spec.ownerIdx cring t]? := by
  rw [C10_ring_unique hosts hd cring hcs hcp]
  by_cases hne : buildRing hosts = []
  · rw [hne]; rfl
  · obtain ⟨_, hget, _⟩ := C10_lookup_owner (buildRing hosts) t (buildRing_sorted hosts hd) hne
    rw [hget, C10_lookup _ t (buildRing_sorted hosts hd)]

/-- from the layout, SimpleStrategy — replicas of every token = Cassandra's on Cassandra's ring. -/
theorem C10_cluster_simple (hosts : List (Host × List Int)) (hd : DistinctTokens hosts) (cring : List Entry)
    (hcs : Sorted cring) (hcp : cring.Perm (allPairs hosts)) (hne : cring ≠ []) (rf : Nat) (t : Int) :
    (replicasFor (simpleReplicaMap rf (buildRing hosts)) t).map (·.2) = some (Spec.simple cring rf t) := by
  have he := C10_ring_unique hosts hd cring hcs hcp
  rw [← he]
  exact C10_simple cring rf t hcs hne

/-- from the layout, NetworkTopologyStrategy — `replicaMap` does not panic and the replicas of every
token are Cassandra's on Cassandra's ring (vnodes, uneven racks, rf 0 / above the DC size, unknown DCs). -/
theorem C10_cluster_nts (hosts : List (Host × List Int)) (hd : DistinctTokens hosts) (cring : List Entry)
    (hcs : Sorted cring) (hcp : cring.Perm (allPairs hosts)) (rfs : List (Nat × Nat)) (hkeys : (rfs.map (·.1)).Nodup)
    (t : Int) :
    (match ntsReplicaMap rfs (buildRing hosts) with
     | .ok rr => (match replicasFor rr t with
        | some e => some e.2
        | none => some [])
     | .error _ => none) = some (Spec.nts cring rfs t) := by
  have he := C10_ring_unique hosts hd cring hcs hcp
  rw [← he]
  exact C10_nts_lookup rfs cring t hcs hkeys

example : (replicasFor (simpleReplicaMap 2 (buildRing [(⟨2, 1, 1⟩, [10, -5]), (⟨1, 1, 2⟩, [3])])) 4).map (·.2)
    = some [⟨2, 1, 1⟩, ⟨1, 1, 2⟩] := by decide

/-! ## keyspace replication options: `getStrategy` / `getReplicationFactorFromOpts` for EVERY option map -/

/-- (op `sstrategy`) for every strategy class Cassandra ships (with or without the package prefix) and
EVERY option map — any keys, values of any dynamic type, any text — `getStrategy` returns what the replication setting
means (`Spec.strategy`): SimpleStrategy with the number `replication_factor` denotes (positional decimal value, optional
sign, int64 range; no strategy when it denotes none), NetworkTopologyStrategy with exactly the datacenters whose value
denotes a number (the `class` key and unreadable values left out), no strategy for LocalStrategy. -/
theorem C10_strategy (cls : List Char) (opts : List (List Char × OptVal)) (s : Strategy)
    (h : Spec.strategy cls opts = some s) : getStrategy cls opts = s := by
  unfold Spec.strategy at h
  cases hk : Spec.classKind cls with
  | none => rw [hk] at h; cases h
  | some k =>
    obtain ⟨c1, c2⟩ := contains_of_kind cls k hk
    rw [hk] at h
    unfold getStrategy
    rw [c1, c2]
    cases k <;> cases h
    · rw [if_pos (by decide), lookup_getD_other]
    · rw [if_neg (by decide), if_pos (by decide)]
      exact congrArg Strategy.nts (filterMap_skip_key _ opts)
    · rw [if_neg (by decide), if_neg (by decide)]

/-- the replication factor as Cassandra renders it (`Integer.toString`, here `Nat.repr`) — for EVERY number up to the
largest 64-bit int — and as an int value is read back as that number -/
theorem C10_rf_rendering (n : Nat) (h : n < 2 ^ 63) :
    rfFromOpt (.str (Nat.repr n).toList) = some n ∧ rfFromOpt (.int n) = some n := by
  constructor
  · rw [rfFromOpt_eq]; exact rfOfOpt_repr n h
  · simp [rfFromOpt]

example : rfFromOpt (.str "3".toList) = some 3 ∧ rfFromOpt (.str "3/1".toList) = none ∧
    rfFromOpt (.str "-0".toList) = some 0 ∧ rfFromOpt (.str "9223372036854775808".toList) = none := by decide

/-- the NetworkTopologyStrategy a keyspace's options give, as a FUNCTION datacenter ↦ rf —
independent of the order in which Go iterates over the option map: for every option map (keys distinct), the
datacenter map has distinct keys (the hypothesis `hkeys` of the placement theorems) and maps `dc` to the number the
option `dc` denotes; `class`, absent options and options denoting no number are not in it. -/
theorem C10_strategy_nts_map (cls : List Char) (opts : List (List Char × OptVal))
    (hc : Spec.classKind cls = some .nts) (hnd : (opts.map (·.1)).Nodup) :
    ∃ dcs, getStrategy cls opts = .nts dcs ∧ (dcs.map (·.1)).Nodup ∧
      ∀ dc, dcs.lookup dc = if dc = "class".toList then none else (opts.lookup dc).bind Spec.rfOfOpt := by
  refine ⟨_, C10_strategy cls opts _ (by unfold Spec.strategy; rw [hc]), ?_, ?_⟩
  · exact List.Sublist.nodup ((keys_filterMap_sublist Spec.rfOfOpt _).trans (List.filter_sublist.map _)) hnd
  · intro dc
    have hnd' : ((opts.filter (fun kv => kv.1 ≠ "class".toList)).map (·.1)).Nodup :=
      List.Sublist.nodup (List.filter_sublist.map _) hnd
    rw [lookup_filterMap_keys Spec.rfOfOpt _ hnd' dc, lookup_filter_key]
    split <;> rfl

example : getStrategy "org.apache.cassandra.locator.NetworkTopologyStrategy".toList
    [("class".toList, .str "x".toList), ("dc1".toList, .str "3".toList), ("dc2".toList, .int 2),
     ("dc3".toList, .str "3/1".toList)] matches .nts [(_, 3), (_, 2)] := by decide

/-! ## the ordered partitioner (ByteOrderedPartitioner): ring tokens are reported as hexadecimal TEXT  (KF-C10-5)

Cassandra reports a ByteOrderedPartitioner token in `system.local` / `system.peers` as the lowercase hexadecimal
rendering of its bytes.  `orderedPartitioner.ParseString` keeps that text as the token; `Hash` takes the raw key bytes.
The ORDER of the ring is nevertheless right for every ring (`C10_ordered_ring_order`, `C10_ordered_ring`: the rendering
is strictly monotone), hence so is every replica map, which only depends on that order.  What fails is the lookup of a
partition key: its raw bytes are compared with the TEXT of the ring tokens.

FULL property — does NOT hold for the unchanged code (`C10_cex_ordered_lookup`):

  theorem C10_ordered_lookup (cring : List OEntry) (hs : SortedO cring) (hb : ∀ e ∈ cring, IsBytes e.1) (key : List Nat) :
      (getHostForTokenO (buildRingO (Spec.reported cring)) (orderedHash key)).map (·.2)
        = (Spec.ownerO cring key).map (·.2)
-/

/-- the driver orders ring tokens (the reported text, through `ParseString` and `orderedToken.Less`) exactly as
Cassandra orders the tokens (byte strings) — for ALL byte strings -/
theorem C10_ordered_ring_order (a b : List Nat) (ha : IsBytes a) (hb : IsBytes b) :
    lexLt (orderedParse (Spec.hexOf a)) (orderedParse (Spec.hexOf b)) = lexLt a b := by
  have := hex_lexLt a b ha hb
  unfold orderedParse
  cases h1 : lexLt (Spec.hexOf a) (Spec.hexOf b) <;> cases h2 : lexLt a b <;> simp_all

/-- for every ring (ascending by token, any number of tokens per node): the ring `newTokenRing` builds from the reported
tokens lists the same hosts in the same order as Cassandra's ring, entry by entry the rendering of Cassandra's token -/
theorem C10_ordered_ring (cring : List OEntry) (hs : SortedO cring) (hb : ∀ e ∈ cring, IsBytes e.1) :
    buildRingO (Spec.reported cring) = cring.map (fun e => (Spec.hexOf e.1, e.2)) := by
  have : (Spec.reported cring).flatMap (fun ht => ht.2.map (fun t => (orderedParse t, ht.1))) = rendered cring := by
    clear hs hb
    unfold Spec.reported rendered orderedParse
    induction cring with
    | nil => rfl
    | cons e r ih =>
      simp only [List.map_cons, List.flatMap_cons, List.map_nil, List.singleton_append]
      rw [ih]
  unfold buildRingO
  rw [this]
  exact sortO_of_sorted _ (sortedO_rendered cring hs hb)

/-- the owner `GetHostForToken` returns for the token of a partition key is the owner on
Cassandra's ring for every ring and every key for which comparing the key with the reported TEXT of each ring token
gives the same answer as comparing it with the token (`hag` — exactly the predicate by which the harness keeps lookups
out of the spec-backed diff). -/
theorem C10_ordered_lookup_partial (cring : List OEntry) (hs : SortedO cring) (hb : ∀ e ∈ cring, IsBytes e.1)
    (key : List Nat) (hag : ∀ e ∈ cring, lexLt (Spec.hexOf e.1) key = lexLt e.1 key) :
    (getHostForTokenO (buildRingO (Spec.reported cring)) (orderedHash key)).map (·.2)
      = (Spec.ownerO cring key).map (·.2) := by
  rw [show buildRingO (Spec.reported cring) = rendered cring from C10_ordered_ring cring hs hb]
  unfold getHostForTokenO Spec.ownerO orderedHash
  have hl : (rendered cring).length = cring.length := by simp [rendered]
  rw [hl, lookupIdxO_rendered cring key hag, lookupIdxO_eq cring key hs]
  by_cases h0 : cring.length = 0
  · have : cring = [] := List.length_eq_zero_iff.mp h0
    subst this; rfl
  · rw [if_neg h0]
    simp only [rendered, List.getElem?_map, Option.map_map]
    rfl

example : (Spec.ownerO [([0x40], (⟨1, 1, 1⟩ : Host)), ([0x80], ⟨2, 1, 1⟩)] [0x41]).map (·.2.id) = some 2 := by decide

/-- (kernel-checked counterexample to the full property) ring a = 0x40, b = 0x80 (reported as
the texts "40", "80"); the key with the single byte 0x50 lies in (0x40, 0x80] and belongs to b; the driver compares
0x50 = 'P' with the texts "40" and "80", finds it above both, wraps around and answers a. -/
theorem C10_cex_ordered_lookup :
    let cring : List OEntry := [([0x40], ⟨1, 1, 1⟩), ([0x80], ⟨2, 1, 1⟩)]
    SortedO cring ∧ (∀ e ∈ cring, IsBytes e.1) ∧
    (getHostForTokenO (buildRingO (Spec.reported cring)) (orderedHash [0x50])).map (·.2.id) = some 1 ∧
    (Spec.ownerO cring [0x50]).map (·.2.id) = some 2 := by
  refine ⟨by unfold SortedO; decide, by unfold IsBytes; decide, by decide, by decide⟩

/-! ## rings that are NOT strictly ascending (two claims of one token while a node is being replaced, any order)

`C10_no_panic`, `C10_nts_nodup`, `C10_nts_bound`, `C10_nts_bound_total`, `C10_nts_primary_first` above carry no
hypothesis on the token list at all: they hold for rings with equal tokens, in any order.  The same for SimpleStrategy: -/

/-- for EVERY token list — equal tokens, any order, any number of tokens per node — every entry
of `simpleStrategy.replicaMap`'s result names no node twice and at most min(rf, distinct nodes of the ring) nodes. -/
theorem C10_simple_any_ring (rf : Nat) (tokens : List Entry) (e : Int × List Host)
    (he : e ∈ simpleReplicaMap rf tokens) : e.2.Nodup ∧ e.2.length ≤ min rf (distinctNodes tokens) := by
  unfold simpleReplicaMap at he
  rw [(perm_sortReps _).mem_iff] at he
  obtain ⟨i, _, rfl⟩ := List.mem_map.mp he
  simp only
  unfold simpleReplicasAt
  rw [simpleWalk_init]
  have h := take_firsts ((rot tokens i).map (·.2)) (tokens.map (·.2)) rf fun x => by rw [map_rot, mem_rot]
  exact ⟨h.1, Nat.le_of_eq h.2⟩

example : simpleReplicaMap 2 [(5, ⟨1, 1, 1⟩), (5, ⟨2, 1, 1⟩), (5, ⟨1, 1, 1⟩)]
    = [(5, [⟨1, 1, 1⟩, ⟨2, 1, 1⟩]), (5, [⟨2, 1, 1⟩, ⟨1, 1, 1⟩]), (5, [⟨1, 1, 1⟩, ⟨2, 1, 1⟩])] := by decide

/-! ## a statement of topology.go no input can reach: `return true` in `networkTopology.haveRF` -/

/-- the loop condition `len(replicas) < totalRF && !n.haveRF(replicasInDC)` evaluates `haveRF`
only while `len(replicas) < totalRF`; in every state the loop can be in (invariant `Good`, kept by every step:
`good_walk`) `haveRF` is then false — its final `return true` is unreachable for every ring and every rf map, which is
why no campaign ever covers that statement. -/
theorem C10_haveRF_never_true (rfs : List (Nat × Nat)) (tokens : List Entry) (hkeys : (rfs.map (·.1)).Nodup)
    (st : NtsSt) (g : Good (cfgOf rfs tokens) st) (hlt : st.replicas.length < (cfgOf rfs tokens).totalRF) :
    haveRF (cfgOf rfs tokens) st = false :=
  haveRF_dead (cfgOf rfs tokens) st g hkeys rfl hlt

example : Good (cfgOf [(1, 2)] [(0, ⟨1, 1, 1⟩)]) (ntsReplicasAt (cfgOf [(1, 2)] [(0, ⟨1, 1, 1⟩)]) [(0, ⟨1, 1, 1⟩)] 0) ∧
    (ntsReplicasAt (cfgOf [(1, 2)] [(0, ⟨1, 1, 1⟩)]) [(0, ⟨1, 1, 1⟩)] 0).replicas.length < 2 := by
  exact ⟨good_walk _ _ _ _ (good_init _), by decide⟩

/-! ## regression: the inputs of the repaired findings -/

/-- KF-C10-1 input {A:0,5; B:10; C:20}, one rack, rf {dc1:2}: token 0 ↦ [A, B], as Cassandra -/
example :
    (ntsReplicaMap [(1, 2)] [(0, ⟨1, 1, 1⟩), (5, ⟨1, 1, 1⟩), (10, ⟨2, 1, 1⟩), (20, ⟨3, 1, 1⟩)]).toOption
      = some [(0, [⟨1, 1, 1⟩, ⟨2, 1, 1⟩]), (5, [⟨1, 1, 1⟩, ⟨2, 1, 1⟩]), (10, [⟨2, 1, 1⟩, ⟨3, 1, 1⟩]),
              (20, [⟨3, 1, 1⟩, ⟨1, 1, 1⟩])] := by decide

example :
    [0, 5, 10, 20].map (Spec.nts [(0, ⟨1, 1, 1⟩), (5, ⟨1, 1, 1⟩), (10, ⟨2, 1, 1⟩), (20, ⟨3, 1, 1⟩)] [(1, 2)])
      = [[⟨1, 1, 1⟩, ⟨2, 1, 1⟩], [⟨1, 1, 1⟩, ⟨2, 1, 1⟩], [⟨2, 1, 1⟩, ⟨3, 1, 1⟩], [⟨3, 1, 1⟩, ⟨1, 1, 1⟩]] := by decide

/-- … and the loop WITHOUT the seen-host check (the code before the repair) on the same walk lists A twice -/
example :
    (walk0 (cfgOf [(1, 2)] [(0, ⟨1, 1, 1⟩), (5, ⟨1, 1, 1⟩), (10, ⟨2, 1, 1⟩), (20, ⟨3, 1, 1⟩)]) ntsInit
        [⟨1, 1, 1⟩, ⟨1, 1, 1⟩, ⟨2, 1, 1⟩, ⟨3, 1, 1⟩]).replicas = [⟨1, 1, 1⟩, ⟨1, 1, 1⟩] := by decide

/-- KF-C10-2 input: keyspace {dc1:1, dc2:1}, ring with dc1 and dc3: no panic, the dc1 token is mapped, the dc3 token
has no entry -/
example :
    (ntsReplicaMap [(1, 1), (2, 1)] [(0, ⟨1, 1, 1⟩), (10, ⟨2, 3, 1⟩)]).toOption = some [(0, [⟨1, 1, 1⟩])] := by decide

/-- … whereas the guard before the repair (number of keyspace DCs with rf > 0 = number of ring DCs) was on -/
example : ([(1, 1), (2, 1)].filter (fun p : Nat × Nat => decide (p.2 > 0))).length
    = (cfgOf [(1, 1), (2, 1)] [(0, ⟨1, 1, 1⟩), (10, ⟨2, 3, 1⟩)]).nDcRacks := by decide

/-- KF-C10-3 input: A(r1):0, B(r1):10, C(r2) without tokens, rf {dc1:2}: the token-less host is not part of the
topology any more, both tokens get two replicas, as in Cassandra -/
example :
    (ntsReplicaMap [(1, 2)] [(0, ⟨1, 1, 1⟩), (10, ⟨2, 1, 1⟩)]).toOption
      = some [(0, [⟨1, 1, 1⟩, ⟨2, 1, 1⟩]), (10, [⟨2, 1, 1⟩, ⟨1, 1, 1⟩])] := by decide

/-- … whereas with rack 2 of the token-less host counted in `dcRacks` (the code before the repair) the skipped host
is never drained -/
example :
    (walk0 (mkCfg [(1, 2)] [⟨1, 1, 1⟩, ⟨2, 1, 1⟩, ⟨3, 1, 2⟩]) ntsInit [⟨1, 1, 1⟩, ⟨2, 1, 1⟩]).replicas
      = [⟨1, 1, 1⟩] := by decide

end C10
