import Proofs.C13Exec
import Proofs.C13Conc
import Proofs.C13Cancel
import Proofs.C13Metrics
import Proofs.C13Refine
/-!
# C13 — retries, idempotence and speculative execution (property theorems)

Model: `Model/Executor.lean` (`queryExecutor.do` as a function of the statement kind handed to it — `*Query`
or `*Batch` (logged / unlogged / counter), observed or not —, the host iterator's output, per-host
availability AS IT CHANGES during the execution (`us k h`: host `h` usable when `k` requests have been sent —
an arbitrary function, so every sequence of hosts going down, losing their pool and coming back between
attempts is covered), the per-request outcomes, the retry policy's decision functions and the statement's attempt
counter and consistency level, which are state of the model; `executeQuery`'s choice of how many executions
to start) and `Model/ExecutorConc.lean` (concurrent executions sharing the attempt counter and the host
iterator). All theorems: every statement kind, every host sequence, every usability function, every outcome
sequence, every starting value of the counter, every policy (arbitrary decision functions unless stated),
every schedule.
-/
namespace C13
open Executor

/-- **attempt accounting**: `Query.attempt` and `Batch.attempt` move the counter by exactly one, whatever the
    statement kind and whether or not an observer is attached -/
theorem C13_attempt_counted (req : Req) (cnt : Nat) : req.record cnt = cnt + 1 := Req.record_eq req cnt

/-- **budget, every statement kind, every environment**: with a retry policy of the form `Attempts() ≤ N` a
    statement whose counter stands at `cnt` reaches servers at most `1 + (N - cnt)` times — for `*Query` and every
    `*Batch` type, observed or not, whatever the outcomes, the hosts offered, their (changing) usability and the
    consistency -/
theorem C13_budget_any_kind (req : Req) (p : Policy) (N : Nat) (hp : ∀ m, p.attempt m = decide (m ≤ N))
    (outcome : Nat → Res) (us : Nat → Nat → Bool) (fuel : Nat) (ids : List Nat) (k cnt cons : Nat) :
    (doQuery req (some p) outcome us fuel ids k cnt cons).attempts.length ≤ 1 + (N - cnt) :=
  (doQuery_runs req (some p) outcome us fuel ids k cnt cons).budget (Upto.policy hp)

/-- SimpleRetryPolicy{N} (and ExponentialBackoff{N}, same decisions): a fresh statement reaches servers at most
    N+1 times -/
theorem C13_budget_simple (req : Req) (N : Nat) (outcome : Nat → Res) (us : Nat → Nat → Bool) (fuel : Nat) (ids : List Nat)
    (k cons : Nat) :
    (doQuery req (some (simplePolicy N)) outcome us fuel ids k 0 cons).attempts.length ≤ N + 1 := by
  have := C13_budget_any_kind req (simplePolicy N) N (fun _ => rfl) outcome us fuel ids k 0 cons
  omega

theorem C13_budget_exponential (req : Req) (N : Nat) (outcome : Nat → Res) (us : Nat → Nat → Bool) (fuel : Nat) (ids : List Nat)
    (k cons : Nat) :
    (doQuery req (some (exponentialPolicy N)) outcome us fuel ids k 0 cons).attempts.length ≤ N + 1 := by
  have := C13_budget_any_kind req (exponentialPolicy N) N (fun _ => rfl) outcome us fuel ids k 0 cons
  omega

/-- DowngradingConsistencyRetryPolicy with the levels `ls`: at most `1 + |ls|` requests -/
theorem C13_budget_downgrading (req : Req) (ls : List Nat) (outcome : Nat → Res) (us : Nat → Nat → Bool) (fuel : Nat)
    (ids : List Nat) (k cons : Nat) :
    (doQuery req (some (downgradingPolicyL ls)) outcome us fuel ids k 0 cons).attempts.length ≤ ls.length + 1 := by
  have := C13_budget_any_kind req (downgradingPolicyL ls) ls.length (fun _ => rfl) outcome us fuel ids k 0 cons
  omega

/-- no retry policy: at most one attempt -/
theorem C13_no_policy_once (req : Req) (outcome : Nat → Res) (us : Nat → Nat → Bool) (fuel : Nat) (ids : List Nat)
    (k cnt cons : Nat) :
    (doQuery req none outcome us fuel ids k cnt cons).attempts.length ≤ 1 := by
  -- no policy licenses nothing: the bound with `N = cnt`
  simpa using (doQuery_runs req none outcome us fuel ids k cnt cons).budget (Upto.noPolicy cnt)

/-- **attempts are accounted**: afterwards `Attempts()` = its previous value + the number of requests sent; the
    i-th of them was numbered `cnt + i` for the observer and got the i-th outcome -/
theorem C13_attempts_accounted (req : Req) (pol : Option Policy) (outcome : Nat → Res) (us : Nat → Nat → Bool) (fuel : Nat)
    (ids : List Nat) (k cnt cons : Nat) :
    let out := doQuery req pol outcome us fuel ids k cnt cons
    out.cnt = cnt + out.attempts.length ∧
    (∀ i a, out.attempts[i]? = some a → a.idx = cnt + i ∧ a.res = outcome (k + i)) := by
  have h := doQuery_runs req pol outcome us fuel ids k cnt cons
  exact ⟨h.count, fun i a ha => ⟨(h.each i a ha).1, (h.each i a ha).2.1⟩⟩

/-- **host choice in a changing environment**: the attempts walk along the hosts in the order the policy offered
    them: every attempt is on a host that is usable at that moment; after an attempt the executor stays on that
    host (Retry) — unless the host has become unusable meanwhile, then it is passed over like any unusable host —
    or moves on (RetryNextHost); a host is passed over only if it is unusable at that moment (down, no pool, no
    connection: this consumes no budget) or has just been attempted; never backwards. -/
theorem C13_host_choice (req : Req) (pol : Option Policy) (outcome : Nat → Res) (us : Nat → Nat → Bool) (fuel : Nat)
    (ids : List Nat) (k cnt cons : Nat) :
    let out := doQuery req pol outcome us fuel ids k cnt cons
    Walk us k ids (out.attempts.map (·.host)) ∧
    (∀ i a, out.attempts[i]? = some a → us (k + i) a.host = true) := by
  have h := doQuery_runs req pol outcome us fuel ids k cnt cons
  exact ⟨h.walk, fun i a ha => (h.each i a ha).2.2⟩

/-- **one result, the last attempt's — for every way the hosts' usability changes during the execution**: the
    returned iter is the last attempt's (`last`), or carries the error of the LAST attempt (kind and request
    number: `lastErr e j` with `j` the number of the last request sent, whose outcome was `err e`) when no usable
    host was left — also when the policy answered `Retry` and that very host had become unusable —, and
    ErrNoConnections exactly when nothing was attempted (given fuel) -/
theorem C13_one_result_last_error (req : Req) (pol : Option Policy) (outcome : Nat → Res) (us : Nat → Nat → Bool) (fuel : Nat)
    (ids : List Nat) (k cnt cons : Nat) :
    let out := doQuery req pol outcome us fuel ids k cnt cons
    (∀ r, out.final = .last r → ∃ a, out.attempts.getLast? = some a ∧ a.res = r) ∧
    (∀ e j, out.final = .lastErr e j →
        (∃ a, out.attempts.getLast? = some a ∧ a.res = .err e) ∧ j + 1 = k + out.attempts.length ∧ outcome j = .err e) ∧
    (out.final = .noConnections → out.attempts = []) ∧
    (out.attempts = [] → out.final = .noConnections ∨ out.final = .outOfFuel) := by
  intro out
  have h := (doQuery_runs req pol outcome us fuel ids k cnt cons).final
  refine ⟨h.last, ?_, fun hf => (h.noConn hf).1, ?_⟩
  · intro e j he
    rcases h.exhausted e j he with ⟨_, g⟩ | ⟨a, ha1, ha2, ha3, ha4⟩
    · simp at g
    · exact ⟨⟨a, ha1, ha2⟩, ha3, ha4⟩
  · intro he
    rcases h.empty he with g | ⟨_, g⟩ | ⟨e, j, g, _⟩
    · exact Or.inr g
    · exact Or.inl g
    · simp at g

/-- a logical error (context cancelled / deadline / not found) ends the statement at once, whatever the policy -/
theorem C13_context_stops (req : Req) (pol : Option Policy) (outcome : Nat → Res) (us : Nat → Nat → Bool) (fuel : Nat)
    (h : Nat) (rest : List Nat) (k cnt cons : Nat) (hu : us k h = true) (ho : outcome k = .logical) :
    doLoop req pol outcome us (fuel+1) (h :: rest) k cnt cons none
      = ⟨[⟨h, cnt, cons, .logical⟩], .last .logical, cnt + 1, cons⟩ := by
  simp [doLoop, nextUsable, hu, ho, Req.record_eq]

/-- a context that is already done when the execution starts: nothing reaches a server, the one attempt is still
    counted, no retry -/
theorem C13_context_done_before (req : Req) (pol : Option Policy) (outcome : Nat → Res) (us : Nat → Nat → Bool) (fuel : Nat)
    (ids : List Nat) (k cnt cons : Nat) :
    let r := execute req pol outcome us fuel ids k cnt cons true
    r.sent = [] ∧ r.out.attempts.length ≤ 1 ∧ r.out.cnt = cnt + r.out.attempts.length ∧ r.ctxDone = true := by
  simp only [execute, if_true]
  cases nextUsable (us k) ids with
  | none => simp
  | some p => simp [Req.record_eq]

/-- **cancellation between an attempt and its retry decision** (the context ends in `SelectedHost.Mark`, after the
    attempt of request `x`): no request numbered above `x` reaches a server — whatever the policy answers —, the
    execution makes at most ONE further attempt, which ends with the context's error, and every attempt is still
    counted; for every statement kind, policy, outcome sequence, host list and changing environment -/
theorem C13_cancel_before_decision (req : Req) (pol : Option Policy) (outcome : Nat → Res) (us : Nat → Nat → Bool)
    (fuel : Nat) (ids : List Nat) (k cnt cons x : Nat) :
    let r := executeX req pol outcome us fuel ids k cnt cons false (some x)
    r.sent.length ≤ x + 1 - k ∧ r.out.attempts.length ≤ r.sent.length + 1 ∧
    (∀ i a, r.out.attempts[i]? = some a → x + 1 - k ≤ i → a.res = .logical) ∧
    r.out.cnt = cnt + r.out.attempts.length := by
  intro r
  have hg := doQuery_runs req pol (fun n => if n > x then .logical else outcome n) us fuel ids k cnt cons
  have hdead : ∀ i a, r.out.attempts[i]? = some a → x + 1 - k ≤ i → a.res = .logical :=
    fun i a ha hi => (hg.each i a ha).2.1.trans (if_pos (by omega))
  have hlen : r.sent.length = min (x + 1 - k) r.out.attempts.length := List.length_take ..
  refine ⟨by omega, ?_, hdead, hg.count⟩
  rcases Nat.lt_or_ge (x + 1 - k) r.out.attempts.length with hlt | hge
  · -- the attempt after request `x` ends with the context's error, so it is the last
    have ha := List.getElem?_eq_getElem hlt
    have : (x + 1 - k) + 1 = r.out.attempts.length :=
      hg.stop_last _ _ ha (Or.inl (hdead _ _ ha (Nat.le_refl _)))
    omega
  · omega

/-- non-vacuity: the first attempt fails (read timeout: the downgrading policy answers Retry), the context ends
    before the decision: one more attempt is counted and observed, the server sees one request, the caller gets
    the context's error -/
example : executeX ⟨.query, true⟩ (some (downgradingPolicyL [2, 1])) (fun _ => .err kReadTO) (fun _ _ => true) 10 [1, 2] 0 0 4
    false (some 0) =
    ⟨⟨[⟨1, 0, 4, .err 7⟩, ⟨1, 1, 2, .logical⟩], .last .logical, 2, 2⟩, [⟨1, 0, 4, .err 7⟩], true⟩ := by decide

/-- what reaches servers in one execution (context done or not) stays within the budget -/
theorem C13_budget_execute (req : Req) (p : Policy) (N : Nat) (hp : ∀ m, p.attempt m = decide (m ≤ N))
    (outcome : Nat → Res) (us : Nat → Nat → Bool) (fuel : Nat) (ids : List Nat) (k cnt cons : Nat) (done : Bool) :
    (execute req (some p) outcome us fuel ids k cnt cons done).sent.length ≤ 1 + (N - cnt) := by
  cases done with
  | true =>
    have h : (execute req (some p) outcome us fuel ids k cnt cons true).sent = [] :=
      (C13_context_done_before req (some p) outcome us fuel ids k cnt cons).1
    rw [h]; simp
  | false =>
    simp only [execute, Bool.false_eq_true, if_false]
    exact C13_budget_any_kind req p N hp outcome us fuel ids k cnt cons

/-- Rethrow and Ignore stop retrying -/
theorem C13_rethrow_ignore_stop (req : Req) (p : Policy) (outcome : Nat → Res) (us : Nat → Nat → Bool) (fuel : Nat)
    (h : Nat) (rest : List Nat) (k cnt cons e : Nat) (hu : us k h = true) (ho : outcome k = .err e)
    (hrt : p.rtype e = .rethrow ∨ p.rtype e = .ignore) :
    let o := doLoop req (some p) outcome us (fuel+1) (h :: rest) k cnt cons none
    o.attempts = [⟨h, cnt, cons, .err e⟩] ∧ o.final = .last (.err e) := by
  simp only [doLoop, nextUsable, hu, if_true, ho, Req.record_eq]
  by_cases hat : p.attempt (cnt+1) = true
  · rcases hrt with hrt | hrt <;> simp [hat, hrt]
  · have : p.attempt (cnt+1) = false := by simpa using hat
    simp [this]

/-- an unknown retry type yields ErrUnknownRetryType -/
theorem C13_unknown_retry_type (req : Req) (p : Policy) (outcome : Nat → Res) (us : Nat → Nat → Bool) (fuel : Nat)
    (h : Nat) (rest : List Nat) (k cnt cons e : Nat) (hu : us k h = true) (ho : outcome k = .err e)
    (hat : p.attempt (cnt+1) = true) (hrt : p.rtype e = .unknown) :
    (doLoop req (some p) outcome us (fuel+1) (h :: rest) k cnt cons none).final = .unknownRetryType := by
  simp [doLoop, nextUsable, hu, ho, hat, hrt, Req.record_eq]

/-- **a same-host Retry whose host is gone**: the policy answers `Retry` for the failure of request `k` on host
    `h`, but when the loop comes round `h` is no longer usable and neither is any host the iterator still offers:
    the caller gets THAT failure (kind `e`, request `k`) — not an earlier one, not ErrNoConnections — whatever
    error had been recorded before -/
theorem C13_retry_host_gone (req : Req) (p : Policy) (outcome : Nat → Res) (us : Nat → Nat → Bool) (fuel : Nat)
    (h : Nat) (rest : List Nat) (k cnt cons e : Nat) (prev : Option (Nat × Nat))
    (hu : us k h = true) (ho : outcome k = .err e) (hat : p.attempt (cnt+1) = true) (hrt : p.rtype e = .retry)
    (hgone : ∀ x ∈ h :: rest, us (k+1) x = false) :
    let o := doLoop req (some p) outcome us (fuel+2) (h :: rest) k cnt cons prev
    o.attempts = [⟨h, cnt, cons, .err e⟩] ∧ o.final = .lastErr e k := by
  have hn : nextUsable (us (k+1)) (h :: rest) = none := nextUsable_none _ _ hgone
  have h1 : nextUsable (us k) (h :: rest) = some (h, rest) := by simp [nextUsable, hu]
  simp [doLoop, h1, ho, hat, hrt, Req.record_eq, hn, Out.push]

/-- **consistency under the downgrading policy**: the first request of a fresh statement carries the statement's
    own level, the (i+1)-th retry the i-th configured level -/
theorem C13_downgrading_consistency (req : Req) (ls : List Nat) (outcome : Nat → Res) (us : Nat → Nat → Bool) (fuel : Nat)
    (ids : List Nat) (k cons : Nat) :
    let out := doQuery req (some (downgradingPolicyL ls)) outcome us fuel ids k 0 cons
    (∀ a, out.attempts[0]? = some a → a.cons = cons) ∧
    (∀ i b, out.attempts[i+1]? = some b → ls[i]? = some b.cons) := by
  intro out
  have hb : out.attempts.length ≤ ls.length + 1 := C13_budget_downgrading req ls outcome us fuel ids k cons
  have h := (doQuery_runs req (some (downgradingPolicyL ls)) outcome us fuel ids k 0 cons).cons_chain
  refine ⟨h.1, fun i b hbi => ?_⟩
  obtain ⟨hlt, _⟩ := List.getElem?_eq_some_iff.mp hbi
  have := h.2 i _ b (List.getElem?_eq_getElem (Nat.lt_of_succ_lt hlt)) hbi
  have hl : i < ls.length := by omega
  simp only [downgradingPolicyL, Nat.zero_add, Nat.add_sub_cancel, Nat.add_one_ne_zero, if_false,
    List.getElem?_eq_getElem hl, Option.getD_some] at this
  rw [List.getElem?_eq_getElem hl, this]

/-- a statement not marked idempotent is never executed speculatively -/
theorem C13_nonidempotent_not_speculative (spAttempts : Nat) : maxExecutions false spAttempts = 1 := by
  simp [maxExecutions]

/-- a batch is idempotent only if every entry is -/
theorem C13_batch_idempotent_iff (entries : List Bool) : batchIdempotent entries = true ↔ ∀ e ∈ entries, e = true := by
  simp [batchIdempotent]

/-- **a batch with ANY non-idempotent entry — first, middle or last — runs as one execution** whatever the
    speculative policy says -/
theorem C13_batch_nonidempotent_entry_not_speculative (entries : List Bool) (spAttempts : Nat)
    (h : ∃ e ∈ entries, e = false) : maxExecutions (batchIdempotent entries) spAttempts = 1 := by
  have : batchIdempotent entries = false := by
    cases hb : batchIdempotent entries with
    | false => rfl
    | true =>
      obtain ⟨e, he, hf⟩ := h
      have := (C13_batch_idempotent_iff entries).mp hb e he
      rw [hf] at this; cases this
  rw [this]; exact C13_nonidempotent_not_speculative spAttempts

/-- … and a batch all of whose entries are idempotent (in particular one without entries) may be speculated as the
    policy says -/
theorem C13_batch_all_idempotent_speculated (entries : List Bool) (spAttempts : Nat) (h : ∀ e ∈ entries, e = true) :
    maxExecutions (batchIdempotent entries) spAttempts = 1 + spAttempts := by
  rw [(C13_batch_idempotent_iff entries).mpr h]
  unfold maxExecutions
  cases spAttempts <;> simp

theorem C13_executions_bound (idem : Bool) (spAttempts : Nat) : maxExecutions idem spAttempts ≤ 1 + spAttempts := by
  unfold maxExecutions; split <;> omega

/-- **shared attempt counter**: E executions of one statement run `do` concurrently, sharing the attempt counter
    (incremented after every attempt, read by `rt.Attempt` later, not atomically) and the host iterator. For EVERY
    schedule of their micro-steps and every outcome: with a policy `Attempts() ≤ N` the requests sent in total
    never exceed `N - c0` + the executions launched, hence `budget (N - c0) E`; and no more executions than E run -/
theorem C13_shared_counter_budget (p : Policy) (N : Nat) (hp : ∀ m, p.attempt m = decide (m ≤ N))
    (c0 hosts e : Nat) (sched : List ExecutorConc.Act) :
    let m := ExecutorConc.run (some p) (ExecutorConc.init c0 hosts e) sched
    m.sent ≤ (N - c0) + ExecutorConc.started m.exs ∧ ExecutorConc.started m.exs ≤ e ∧
    m.sent ≤ ExecutorConc.budget (N - c0) e := by
  have hi := ExecutorConc.run_inv (Upto.policy hp) c0 hosts e sched
  exact ⟨hi.started.1, hi.started.2, hi.budget⟩

/-- **every attempt of concurrent executions is counted and numbered once**: for EVERY retry policy (or none) and
    every schedule — completions of several executions in any order, also back to back —, the attempts are given the
    numbers c0, c0+1, c0+2, … (what observers see as `Attempt`, what `Attempts()` hands to the retry policies) without
    gap or repetition, and the counter stands at c0 + the number of attempts made -/
theorem C13_shared_attempts_numbered (pol : Option Policy) (c0 hosts e : Nat) (sched : List ExecutorConc.Act) :
    let m := ExecutorConc.run pol (ExecutorConc.init c0 hosts e) sched
    m.log.reverse = List.range' c0 m.log.length ∧ m.cnt = c0 + m.log.length := by
  intro m
  have h : ExecutorConc.Acc c0 e m := ExecutorConc.run_acc pol c0 hosts e sched
  have hlen : m.log.length = m.cnt - c0 := by rw [h.log, ExecutorConc.down_length]
  have := h.mono
  exact ⟨by rw [hlen, h.log, ExecutorConc.down_reverse], by omega⟩

/-- **at quiescence `Attempts()` accounts for every request**: for every policy and schedule, when no attempt is in
    flight the counter = its start value + the requests sent + the attempts that found the executions' context
    already cancelled (nothing written; at most one per execution, its last): `c0 + sent ≤ Attempts() ≤ c0 + sent + E` -/
theorem C13_shared_quiescent_accounted (pol : Option Policy) (c0 hosts e : Nat) (sched : List ExecutorConc.Act) :
    let m := ExecutorConc.run pol (ExecutorConc.init c0 hosts e) sched
    ExecutorConc.quiet m.exs = true →
      m.cnt = c0 + m.sent + m.unsent ∧ m.unsent ≤ e ∧ c0 + m.sent ≤ m.cnt ∧ m.cnt ≤ c0 + m.sent + e := by
  intro m hq
  have hi : ExecutorConc.Acc c0 e m := ExecutorConc.run_acc pol c0 hosts e sched
  have h1 := hi.quiescent hq
  have h2 := Nat.le_trans hi.dead (hi.wsum_le _ (by intro x; cases x <;> simp [ExecutorConc.wD]))
  exact ⟨h1, h2, by omega, by omega⟩

/-- the shared host iterator hands every usable host out once: a policy that never answers `Retry` (Simple,
    ExponentialBackoff) sends at most one request per usable host, over all executions and schedules -/
theorem C13_shared_iterator (pol : Option Policy) (hnr : ∀ p, pol = some p → ∀ e, p.rtype e ≠ .retry)
    (c0 hosts e : Nat) (sched : List ExecutorConc.Act) :
    (ExecutorConc.run pol (ExecutorConc.init c0 hosts e) sched).sent ≤ hosts :=
  -- `sent + left ≤ hosts` is kept by every move
  Nat.le_of_add_right_le (ExecutorConc.run_preserves (fun _ _ _ mv => mv.hosts hnr) sched (ExecutorConc.init c0 hosts e)
    (Nat.le_of_eq (Nat.zero_add _)))

/-- without a retry policy every execution sends at most once: total ≤ executions launched -/
theorem C13_shared_no_policy (c0 hosts e : Nat) (sched : List ExecutorConc.Act) :
    let m := ExecutorConc.run none (ExecutorConc.init c0 hosts e) sched
    m.sent ≤ ExecutorConc.started m.exs ∧ ExecutorConc.started m.exs ≤ e := by
  -- no policy licenses nothing: the bound with `N = c0`
  have h := (ExecutorConc.run_inv (Upto.noPolicy c0) c0 hosts e sched).started
  exact ⟨by omega, h.2⟩

/-- **where a query's idempotence comes from**: the statement-level setting wins, otherwise the session's
    `DefaultIdempotence`; so a query of a session with `DefaultIdempotence = true` is speculated unless the
    statement says `Idempotent(false)`, which makes it run as one execution whatever the policy -/
theorem C13_query_idempotence_source (d v : Bool) (k : Nat) :
    queryIdempotent d (some v) = v ∧ queryIdempotent d none = d ∧
    maxExecutions (queryIdempotent true none) (k+1) = k + 2 ∧ maxExecutions (queryIdempotent d (some false)) k = 1 := by
  refine ⟨rfl, rfl, ?_, ?_⟩
  · simp [maxExecutions, queryIdempotent]; omega
  · simp [maxExecutions, queryIdempotent]

/-! ### the built-in policies' decisions on error VALUES (`ReqErr`: what `GetRetryType(err)` switches on) -/

/-- **the decision table the executor theorems use is the policy's switch**: filing an error value under its
    abstract kind (`kindOf`) and looking the kind up (`downgradingRType`, used by `downgradingPolicyL` in every
    theorem above) gives exactly what `DowngradingConsistencyRetryPolicy.GetRetryType` answers on the value —
    for every write type string, every number of acknowledgements / live replicas, every other error — and the
    answer is never an undefined retry type -/
theorem C13_downgrading_decisions (e : ReqErr) :
    downgradingRType (kindOf e) = downgradingGetRetryType e ∧ downgradingGetRetryType e ≠ .unknown := by
  -- both functions branch on the same conditions; in each branch the table is looked up at a constant
  cases e <;> simp only [kindOf, downgradingGetRetryType] <;> (repeat' split) <;> decide

/-- FULL STATEMENT (fails on the unchanged code, proposed finding KF-C13-3): wherever the documentation of
    DowngradingConsistencyRetryPolicy says what happens, `GetRetryType` does it:
      ∀ e r, Spec.downgradingDoc e = some r → downgradingGetRetryType e = r.
    Proved part: every error value except a write timeout of an UNLOGGED_BATCH that NO replica acknowledged. -/
theorem C13_downgrading_follows_doc_partial (e : ReqErr) (r : RT) (h : Spec.downgradingDoc e = some r)
    (hx : ∀ bf, e ≠ .writeTimeout .unloggedBatch 0 bf) : downgradingGetRetryType e = r := by
  cases e with
  | unavailable rq a => simp [Spec.downgradingDoc] at h; simp [downgradingGetRetryType, h]
  | readTimeout rc bf dp => simp [Spec.downgradingDoc] at h; simp [downgradingGetRetryType, h]
  | other => simp [Spec.downgradingDoc] at h
  | writeTimeout wt rc bf =>
    -- for every write type but UNLOGGED_BATCH the documented answer is the switch's (or the text says nothing)
    cases wt <;> simp [Spec.downgradingDoc] at h <;> try (simp [downgradingGetRetryType, h])
    case unloggedBatch =>
      have hrc : rc ≠ 0 := by
        intro h0; subst h0; exact hx bf rfl
      have : rc > 0 := Nat.pos_of_ne_zero hrc
      simp [this] at h
      exact h

/-- the counterexample: documented "retried [only] if at least one replica acknowledged the write"; the code
    answers Retry for an UNLOGGED_BATCH write timeout with Received = 0 -/
theorem C13_cex_downgrading_unlogged_unacked :
    downgradingGetRetryType (.writeTimeout .unloggedBatch 0 1) = .retry ∧
    Spec.downgradingDoc (.writeTimeout .unloggedBatch 0 1) = some .rethrow := by
  decide

/-- **Attempt of the built-in policies**: `DowngradingConsistencyRetryPolicy.Attempt` (answer and the consistency
    it sets) and `SimpleRetryPolicy.Attempt` / `ExponentialBackoffRetryPolicy.Attempt` are the decision functions
    the executor theorems are stated for (`downgradingPolicyL`, `simplePolicy`, `exponentialPolicy`), for every
    value of `Attempts()` and every list of levels -/
theorem C13_builtin_attempt (ls : List Nat) (n N : Nat) :
    (downgradingAttempt ls n).1 = (downgradingPolicyL ls).attempt n ∧
    ((downgradingAttempt ls n).1 = true → (downgradingAttempt ls n).2 = (downgradingPolicyL ls).newCons n) ∧
    (simpleAttempt N n).1 = (simplePolicy N).attempt n ∧ (simpleAttempt N n).1 = (exponentialPolicy N).attempt n ∧
    (simpleAttempt N n).2 = (simplePolicy N).newCons n := by
  refine ⟨?_, ?_, rfl, rfl, rfl⟩
  · unfold downgradingAttempt downgradingPolicyL
    by_cases h : n > ls.length
    · simp [h]
    · by_cases h0 : n > 0 <;> simp [h, h0] <;> omega
  · unfold downgradingAttempt downgradingPolicyL
    by_cases h : n > ls.length
    · simp [h]
    · by_cases h0 : n > 0
      · simp [h, h0]; intro hz; omega
      · have : n = 0 := by omega
        simp [this]

/-- **what the caller sees under the downgrading policy, per error value**: an Unavailable with no live replica, a
    SIMPLE / BATCH / COUNTER write timeout (acknowledged or not) and a write timeout of any other write type except
    UNLOGGED_BATCH end the execution with THAT attempt — one request for it, its error the caller's — for every
    statement kind, host list, environment, counter value and list of levels -/
theorem C13_downgrading_stops (req : Req) (ls : List Nat) (outcome : Nat → Res) (us : Nat → Nat → Bool) (fuel : Nat)
    (h : Nat) (rest : List Nat) (k cnt cons : Nat) (e : ReqErr) (hu : us k h = true) (ho : outcome k = .err (kindOf e))
    (hd : downgradingGetRetryType e = .rethrow ∨ downgradingGetRetryType e = .ignore) :
    let o := doLoop req (some (downgradingPolicyL ls)) outcome us (fuel+1) (h :: rest) k cnt cons none
    o.attempts = [⟨h, cnt, cons, .err (kindOf e)⟩] ∧ o.final = .last (.err (kindOf e)) := by
  have hk : (downgradingPolicyL ls).rtype (kindOf e) = downgradingGetRetryType e := (C13_downgrading_decisions e).1
  exact C13_rethrow_ignore_stop req (downgradingPolicyL ls) outcome us fuel h rest k cnt cons (kindOf e) hu ho (by rw [hk]; exact hd)

example : downgradingGetRetryType (.writeTimeout .cas 2 3) = .rethrow ∧ downgradingGetRetryType (.writeTimeout .batch 1 2) = .ignore ∧
    downgradingGetRetryType (.unavailable 2 1) = .retry ∧ downgradingAttempt [4, 1] 2 = (true, some 1) ∧
    downgradingAttempt [4, 1] 3 = (false, none) := by decide

/-! ### the statement's metrics (`queryMetrics`: Attempts(), Latency(), the observers' per-host Metrics) -/

/-- **metrics are exact**: for EVERY history of attempts (host and latency of each, any number of hosts, also a
    statement object executed again: `pre` = the attempts of its earlier executions) the code's bookkeeping (a map
    of per-host counters updated under one lock) hands the observer of the j-th new attempt the number
    `|pre| + j`, the number of attempts made on that attempt's host so far and the sum of their latencies, and
    afterwards `Attempts()` is the number of all attempts and `Latency()` the integer average of all latencies -/
theorem C13_metrics_exact (pre rest : List (Nat × Nat)) :
    let q0 := (QM.run {} pre).1
    let r := QM.run q0 rest
    r.2 = (List.range rest.length).map (fun j => Spec.obsAt (pre ++ rest) (pre.length + j)) ∧
    r.1.totalAttempts = (pre ++ rest).length ∧ r.1.latency = Spec.avgLatency (pre ++ rest) := by
  intro q0 r
  have h0 : MInv [] ({} : QM) := ⟨rfl, fun _ => ⟨rfl, rfl⟩, rfl, rfl⟩
  have h1 := (run_spec pre [] {} h0).1
  simp only [List.nil_append] at h1
  have h2 := run_spec rest pre q0 h1
  exact ⟨h2.2, h2.1.total, latency_spec _ _ h2.1⟩

example : (QM.run {} [(1, 10), (2, 30), (1, 21)]) =
    (⟨3, [⟨1, 2, 31⟩, ⟨2, 1, 30⟩]⟩, [⟨0, 1, 10⟩, ⟨1, 1, 30⟩, ⟨2, 2, 31⟩]) ∧
    (QM.run {} [(1, 10), (2, 30), (1, 21)]).1.latency = 20 := by decide

/-- **the two models agree**: the interleaving machine of the concurrent theorems, run with ONE execution that is
    left alone (its attempt completes with the scripted outcome, it decides, …) over usable hosts, sends exactly as
    many requests as the sequential model of `queryExecutor.do` makes attempts, counts the same `Attempts()` and
    ends — for every statement kind, policy (arbitrary decision functions), outcome sequence, host list, counter
    value; so every bound proved for the machine is a bound on `do`, and the machine adds nothing to a single
    execution -/
theorem C13_machine_refines_loop (req : Req) (pol : Option Policy) (outcome : Nat → Res) (fuel : Nat) (ids : List Nat)
    (k cnt cons : Nat)
    (hf : (doQuery req pol outcome ExecutorConc.allUp fuel ids k cnt cons).final ≠ .outOfFuel) :
    let out := doQuery req pol outcome ExecutorConc.allUp fuel ids k cnt cons
    let m := ExecutorConc.run pol (ExecutorConc.init cnt ids.length 1) (.launch 0 :: ExecutorConc.seqSched outcome fuel k)
    m.sent = out.attempts.length ∧ m.cnt = out.cnt ∧ m.exs = [.done] := by
  intro out m
  cases ids with
  | nil =>
    -- the iterator offers nothing: the execution returns at once
    have hm : m = ExecutorConc.step pol (ExecutorConc.init cnt 0 1) (.launch 0) :=
      ExecutorConc.run_done pol outcome fuel k _ rfl
    cases fuel with
    | zero => exact absurd rfl hf
    | succ f => rw [hm]; exact ⟨rfl, rfl, rfl⟩
  | cons h rest =>
    have := ExecutorConc.refine_flight (doLoop_runs req pol outcome ExecutorConc.allUp fuel (h :: rest) k cnt cons none) h rest
      (ExecutorConc.step pol (ExecutorConc.init cnt (rest.length + 1) 1) (.launch 0)) rfl ⟨rfl, rfl, rfl⟩ hf
    exact ⟨Nat.add_right_cancel (this.1.trans (Nat.add_comm 1 _)), this.2.1, this.2.2⟩

example : (ExecutorConc.run (some (downgradingPolicyL [4, 1])) (ExecutorConc.init 0 3 1)
      (.launch 0 :: ExecutorConc.seqSched (fun n => if n = 0 then .err kReadTO else if n = 1 then .err 9 else .ok) 10 0)).sent = 3 ∧
    (doQuery ⟨.query, false⟩ (some (downgradingPolicyL [4, 1])) (fun n => if n = 0 then .err kReadTO else if n = 1 then .err 9 else .ok)
      ExecutorConc.allUp 10 [1, 2, 3] 0 0 6).attempts.length = 3 := by decide

/-! ### cancellation at every point of concurrent executions (`ExecutorConc.MC`, `stepC`)

Every statement kind runs its attempts under the executor's derived context: `Conn.executeQuery(ctx, qry)` and —
since the repair of KF-C13-2 — `Conn.executeBatch(ctx, b)` pass `ctx` on to `Conn.exec`. -/

/-- **cancellation stops further attempts; the losers stop with the result**: once `executeQuery` has returned the
    caller's one result — and with it cancelled the context of its executions — or the caller's own context is
    done, no request of the statement reaches a server any more: from EVERY state (executions not launched, with a
    request in flight, with an attempt counted and the retry decision pending), every statement kind, every policy,
    every further schedule, whatever answers still come in -/
theorem C13_cancel_stops_requests (pol : Option Policy) (c : ExecutorConc.MC)
    (sched : List ExecutorConc.ActC) (h : c.execDone = true ∨ c.callerDone = true) :
    (ExecutorConc.runC pol c sched).m.sent = c.m.sent ∧
    (ExecutorConc.runC pol c sched).attDone = true := by
  have h : c.attDone = true := by rcases h with h | h <;> simp [ExecutorConc.MC.attDone, h]
  -- a step of an execution on a context that is done is an `abort` or a `complete`: it sends nothing
  refine (ExecutorConc.runC_preserves (P := fun c' => c'.m.sent = c.m.sent ∧ c'.attDone = true) (fun c' _ mv ⟨h1, h2⟩ => ?_)
    sched c ⟨rfl, h⟩)
  cases mv with
  | callerCancel => exact ⟨h1, by simp [ExecutorConc.MC.attDone]⟩
  | execCancel => exact ⟨h1, by simp [ExecutorConc.MC.attDone]⟩
  | dead a => exact ⟨(ExecutorConc.step_deaden_sent pol c'.m a).trans h1, h2⟩
  | live a hd => exact absurd h2 (by simp [hd])

/-- **the caller's cancellation stops further attempts, every statement kind**: whatever has happened before
    (`pre`), after the caller's context is done no further request is sent, for every policy and every further
    schedule; (`C13_shared_quiescent_accounted`: each execution still counts at most one attempt that reaches no
    server) -/
theorem C13_caller_cancel_stops_requests (pol : Option Policy) (c0 hosts e : Nat)
    (pre post : List ExecutorConc.ActC) :
    (ExecutorConc.runC pol (ExecutorConc.initC c0 hosts e) (pre ++ .callerCancel :: post)).m.sent =
    (ExecutorConc.runC pol (ExecutorConc.initC c0 hosts e) pre).m.sent := by
  rw [ExecutorConc.runC, List.foldl_append]
  exact (C13_cancel_stops_requests pol (ExecutorConc.stepC pol _ .callerCancel) post (.inl rfl)).1

/-- **exactly one result, the first**: what the caller holds never changes, whatever the executions do afterwards -/
theorem C13_first_result_wins (pol : Option Policy) (c : ExecutorConc.MC) (r : ExecutorConc.CRes)
    (sched : List ExecutorConc.ActC) (h : c.result = some r) : (ExecutorConc.runC pol c sched).result = some r :=
  ExecutorConc.runC_preserves (P := fun c => c.result = some r) (fun c _ mv h => by
    cases mv with
    | callerCancel => simp [h]
    | live => simp [h]
    | _ => exact h) sched c h

/-- **the caller waits exactly as long as nothing has completed**: in every reachable state without a result no
    execution has returned and neither context is done — so the first execution to return (or the caller's own
    cancellation) is what produces the result, and the executor cancels nothing before it has one -/
theorem C13_result_iff_completed (pol : Option Policy) (c0 hosts e : Nat) (sched : List ExecutorConc.ActC) :
    let c := ExecutorConc.runC pol (ExecutorConc.initC c0 hosts e) sched
    c.result = none → c.callerDone = false ∧ c.execDone = false ∧ ExecutorConc.wsum ExecutorConc.wD c.m.exs = 0 := by
  intro c hr
  have w := ExecutorConc.runC_waiting pol sched (ExecutorConc.initC c0 hosts e)
    (fun _ => ExecutorConc.waiting_init c0 hosts e) hr
  exact ⟨w.caller, w.exec, w.none_done⟩

/-- **budget and accounting with cancellation**: the bounds of `C13_shared_counter_budget` and the numbering of
    `C13_shared_attempts_numbered` hold for every schedule that contains cancellations at any point -/
theorem C13_cancel_budget (p : Policy) (N : Nat) (hp : ∀ m, p.attempt m = decide (m ≤ N))
    (c0 hosts e : Nat) (sched : List ExecutorConc.ActC) :
    let m := (ExecutorConc.runC (some p) (ExecutorConc.initC c0 hosts e) sched).m
    m.sent ≤ ExecutorConc.budget (N - c0) e ∧ m.log = ExecutorConc.down c0 (m.cnt - c0) ∧
    (ExecutorConc.quiet m.exs = true → m.cnt = c0 + m.sent + m.unsent) := by
  intro m
  have hi : ExecutorConc.Inv N c0 e m :=
    ExecutorConc.runC_lift (fun _ _ _ mv => mv.inv (Upto.policy hp)) sched _ (ExecutorConc.inv_init N c0 hosts e)
  exact ⟨hi.budget, hi.toAcc.log, hi.toAcc.quiescent⟩

/-- **the consistency level under concurrent executions**: the statement's level is written by `rt.Attempt` from
    whichever execution decides and read by whichever execution sends next; for EVERY schedule (with cancellations
    at any point) every request carries the statement's own level or one of the levels configured in
    DowngradingConsistencyRetryPolicy, and so does the statement afterwards; under a policy that never sets a level
    (Simple, ExponentialBackoff, none) every request carries the statement's own. The machine underneath is the one
    of the theorems above (`runK … .c = runC …`). -/
theorem C13_shared_consistency (c0 hosts e cons0 : Nat) (sched : List ExecutorConc.ActC) :
    (∀ ls : List Nat,
      let k := ExecutorConc.runK (some (downgradingPolicyL ls)) (ExecutorConc.initK c0 hosts e cons0) sched
      (∀ x ∈ k.reqCons, x = cons0 ∨ x ∈ ls) ∧ (k.cons = cons0 ∨ k.cons ∈ ls)) ∧
    (∀ pol : Option Policy, (∀ p n, pol = some p → p.newCons n = none) →
      let k := ExecutorConc.runK pol (ExecutorConc.initK c0 hosts e cons0) sched
      (∀ x ∈ k.reqCons, x = cons0) ∧ k.cons = cons0) ∧
    (∀ pol : Option Policy, (ExecutorConc.runK pol (ExecutorConc.initK c0 hosts e cons0) sched).c =
      ExecutorConc.runC pol (ExecutorConc.initC c0 hosts e) sched) := by
  refine ⟨fun ls => ?_, fun pol hnone => ?_, fun pol => ExecutorConc.runK_c pol sched _⟩
  · refine ExecutorConc.runK_level _ (fun x => x = cons0 ∨ x ∈ ls) (fun p n x hp hn => ?_) sched _
      ⟨fun x hx => by simp [ExecutorConc.initK] at hx, .inl rfl⟩
    -- the levels the downgrading policy sets are the configured ones
    cases hp
    simp only [downgradingPolicyL] at hn
    split at hn
    · cases hn
    · exact .inr (List.mem_of_getElem? hn)
  · exact ExecutorConc.runK_level pol (· = cons0) (fun p n x hp hn => by rw [hnone p n hp] at hn; cases hn) sched _
      ⟨fun x hx => by simp [ExecutorConc.initK] at hx, rfl⟩

/-- non-vacuity: execution 0 fails and decides (level 6 → 4), THEN execution 1 is launched: its FIRST request
    already carries the downgraded level -/
example :
    let k := ExecutorConc.runK (some (downgradingPolicyL [4, 1])) (ExecutorConc.initK 0 3 2 6)
      [.ex (.launch 0), .ex (.complete 0 (.err kReadTO)), .ex (.decide 0), .ex (.launch 1)]
    (k.reqCons, k.cons) = ([4, 4, 6], 4) := by decide

/-- non-vacuity: a query with three executions — the winner's result cancels one execution in flight (it comes
    back with the context's error), one whose Retry decision is pending (its next attempt reaches no server) and
    one not launched (it takes a host, its attempt reaches no server): 3 requests, 3 + 2 attempts counted -/
example :
    let c := ExecutorConc.runC (some (downgradingPolicyL [1, 1, 1, 1])) (ExecutorConc.initC 0 5 4)
      [.ex (.launch 0), .ex (.launch 1), .ex (.launch 2), .ex (.complete 2 (.err kReadTO)), .ex (.complete 0 .ok),
       .ex (.decide 0), .execCancel, .ex (.complete 1 .logical), .ex (.decide 1), .ex (.decide 2), .ex (.launch 3)]
    (c.result, c.m.sent, c.m.cnt, c.m.unsent, ExecutorConc.quiet c.m.exs) = (some (.res .ok), 3, 5, 2, true) := by decide

/-- … and the caller's cancellation before any answer: the caller holds the context's error, nothing more is sent -/
example :
    let c := ExecutorConc.runC (some (simplePolicy 3)) (ExecutorConc.initC 0 4 2)
      [.ex (.launch 0), .callerCancel, .ex (.launch 1), .ex (.complete 0 (.err 9)), .ex (.decide 0)]
    (c.result, c.m.sent, c.m.cnt, c.m.unsent) = (some (.res .logical), 1, 3, 2) := by decide

/-- FULL STATEMENT (fails on the unchanged code; doc.go: "Non-idempotent queries are not eligible for
    retrying"): a statement not marked idempotent is attempted at most once. `do` never looks at
    `IsIdempotent()`: the attempts depend only on hosts, outcomes and the retry policy.
    Counterexample (known finding KF-C13-1, replayed on the real code): SimpleRetryPolicy{1}, first attempt
    fails → the second host receives the (non-idempotent) write as well. -/
theorem C13_cex_nonidempotent_retried :
    (doQuery ⟨.query, false⟩ (some (simplePolicy 1)) (fun _ => .err 9) (fun _ _ => true) 10 [1, 2] 0 0 1).attempts.map (·.host)
      = [1, 2] := by
  decide

/-- proved part: without a retry policy (the default) a non-idempotent statement — like any statement — is sent once -/
theorem C13_nonidempotent_not_retried_partial (req : Req) (outcome : Nat → Res) (us : Nat → Nat → Bool) (fuel : Nat)
    (ids : List Nat) (k cons : Nat) :
    (doQuery req none outcome us fuel ids k 0 cons).attempts.length ≤ 1 := C13_no_policy_once req outcome us fuel ids k 0 cons

/-- non-vacuity of the walk: Retry stays on host 1, RetryNextHost passes over host 2 (down) and host 3 (no pool) -/
example : (doQuery ⟨.batchUnlogged, false⟩ (some (downgradingPolicyL [4, 1]))
    (fun n => if n = 0 then .err kReadTO else if n = 1 then .err 9 else .ok)
    (usOf [⟨1, true, true⟩, ⟨2, false, true⟩, ⟨3, true, false⟩, ⟨4, true, true⟩] (fun _ => [])) 10 [1, 2, 3, 4] 0 0 6) =
    ⟨[⟨1, 0, 6, .err 7⟩, ⟨1, 1, 4, .err 9⟩, ⟨4, 2, 1, .ok⟩], .last .ok, 3, 1⟩ := by decide

/-- non-vacuity of the changing environment: overloaded on host 1 (next host), read timeout on host 2 (the
    downgrading policy answers Retry), host 2 is marked down before the loop comes round: the caller gets the
    read timeout of request 1, not the overloaded error of request 0 and not ErrNoConnections -/
example : (doQuery ⟨.query, false⟩ (some (downgradingPolicyL [2, 1])) (fun n => if n = 0 then .err 9 else .err kReadTO)
    (usOf [⟨1, true, true⟩, ⟨2, true, true⟩] (fun k => if k = 1 then [(.markDown, 2)] else [])) 10 [1, 2] 0 0 4) =
    ⟨[⟨1, 0, 4, .err 9⟩, ⟨2, 1, 2, .err 7⟩], .lastErr 7 1, 2, 1⟩ := by decide

/-- … and the walk never goes backwards: host 1 loses its pool after request 0 (Retry walks on to host 2) and is
    re-added after request 1 but is not visited again; host 3, marked up meanwhile, is the one used -/
example : (doQuery ⟨.query, false⟩ (some (downgradingPolicyL [2, 1])) (fun _ => .err kReadTO)
    (usOf [⟨1, true, true⟩, ⟨2, true, true⟩, ⟨3, false, true⟩]
      (fun k => if k = 0 then [(.poolGone, 1)] else if k = 1 then [(.poolBack, 1), (.poolGone, 2), (.markUp, 3)] else []))
      10 [1, 2, 3] 0 0 4) =
    ⟨[⟨1, 0, 4, .err 7⟩, ⟨2, 1, 2, .err 7⟩, ⟨3, 2, 1, .err 7⟩], .last (.err 7), 3, 1⟩ := by decide

/-- non-vacuity of the shared-counter bound: two executions, Simple{1}, three hosts — a schedule that reaches
    the bound 1 + 2 -/
example : (ExecutorConc.run (some (simplePolicy 1)) (ExecutorConc.init 0 3 2)
    [.launch 0, .launch 1, .complete 0 (.err 9), .decide 0, .complete 1 (.err 9), .decide 1]).sent = 3 := by decide

/-- non-vacuity of the accounting: three executions complete back to back, one more attempt finds the context
    cancelled — numbers 0,1,2,3, counter 4 = 3 answered requests + 1 unsent; 5 requests sent, two still in flight -/
example :
    let m := ExecutorConc.run (some (simplePolicy 5)) (ExecutorConc.init 0 6 3)
      [.launch 0, .launch 1, .launch 2, .complete 2 (.err 9), .complete 0 (.err 9), .complete 1 (.err 9), .decide 1, .abort 0,
       .decide 2]
    (m.log, m.cnt, m.sent, m.unsent) = ([3, 2, 1, 0], 4, 5, 1) := by decide

end C13
