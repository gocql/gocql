/- The frame around a message body, without and with a compressor: what a built frame consists of (`encodeReqC_ok`), stream id
   and header read back (`decodeReqC_frame`), the flags byte, the body under the header flags (`decodeBody_w`), and the round
   trip for any compressor (`roundtrip_C`). The builder and the decoder without compression are the instances "no compressor"
   (`encodeReqC_none`) and "an algorithm that never succeeds" (`decodeReq_eq_C`). -/
import Proofs.C03Body
namespace C03
open FrameSpec FrameWrite

/-- stream ids the allocator hands out for a protocol version (C08): 7 bits up to v2, 15 bits from v3 -/
def StreamInRange (v : Nat) (s : Int) : Prop := 0 ≤ s ∧ s < (if v ≤ 2 then 128 else 32768)

theorem rdStream_w (v : Nat) (s : Int) (r : Bytes) (h : StreamInRange v s) :
    rdStream v ((if v > 2 then [byteOf ((s / 256) % 256).toNat, byteOf (s % 256).toNat]
                 else [byteOf (s % 256).toNat]) ++ r) = some (s, r) := by
  -- in range, `s` is a natural number `n`, and the bytes written are those of `n`
  have e1 (n : Nat) : (((n : Int) / 256) % 256).toNat = n / 256 % 256 := by omega
  have e0 (n : Nat) : ((n : Int) % 256).toNat = n % 256 := by omega
  obtain ⟨n, rfl⟩ := Int.eq_ofNat_of_zero_le h.1
  have h := h.2
  rw [e1, e0, byteOf_congr (n / 256 % 256) (n / 256) (by omega), byteOf_congr (n % 256) n (by omega)]
  unfold rdStream
  by_cases hv : v ≤ 2
  · rw [if_pos hv] at h ⊢
    rw [if_neg (by omega)]
    simp only [List.cons_append, List.nil_append, rdByte_byteOf n r (by omega)]
    rw [if_pos (by omega)]
  · rw [if_neg hv] at h ⊢
    rw [if_pos (by omega), show [byteOf (n / 256), byteOf n] ++ r = wShort n ++ r from rfl,
      rdShort_wShort n r (by omega)]
    dsimp only
    rw [if_pos (by omega)]

/-- the header written by writeHeader/finish is read back, and exactly `length` bytes are the body -/
theorem decodeReqC_frame (dec : Bytes → Option Bytes) (v fl : Nat) (stream : Int) (op : Nat) (out rest : Bytes)
    (hv1 : 1 ≤ v) (hv5 : v ≤ 5) (hs : StreamInRange v stream) (hfl : fl < 256) (hop : op < 256)
    (hlen : out.length < 2147483648) :
    decodeReqC dec (wHeader v fl stream op out.length ++ out ++ rest) =
      if bit fl 0 then
        if op = 0x01 ∨ op = 0x05 then none else
        match dec out with
        | none => none
        | some plain => decodeBody v (fl - 1) stream op plain rest
      else decodeBody v fl stream op out rest := by
  have hvb : v < 256 := by omega
  have hnv : ¬ (v < 1 ∨ v > 5) := by omega
  simp only [decodeReqC, wHeader, List.append_assoc, List.cons_append, List.nil_append,
    rdByte_byteOf _ _ hvb, rdByte_byteOf _ _ hfl, hnv, if_false, rdStream_w _ _ _ hs,
    rdByte_byteOf _ _ hop, rdInt_wUInt _ _ hlen]
  have hn : ¬ ((out.length : Int) < 0) := by omega
  simp only [hn, if_false]
  simp only [takeN_append, Int.toNat_natCast]
  split
  · split
    · rfl
    · cases dec out <;> rfl
  · rfl

/-- the decoder without compression is the compression-aware one with an algorithm that never succeeds:
    the flag 0x01, which `decodeBody` refuses, is then refused before -/
theorem decodeReq_eq_C (bs : Bytes) : decodeReq bs = decodeReqC (fun _ => none) bs := by
  have key : ∀ v fl stream op body rest,
      (if bit fl 0 then
        if op = 0x01 ∨ op = 0x05 then none else
        match (none : Option Bytes) with
        | none => none
        | some plain => decodeBody v (fl - 1) stream op plain rest
      else decodeBody v fl stream op body rest) = decodeBody v fl stream op body rest := by
    intro v fl stream op body rest
    by_cases h0 : bit fl 0 = true
    · unfold decodeBody
      rw [if_pos h0, if_pos (Or.inr (Or.inl h0))]; split <;> rfl
    · rw [if_neg h0]
  simp only [decodeReq, decodeReqC, key]

theorem headerFlags_bits (v : Nat) (tracing : Bool) (g : GReq) :
    headerFlags v tracing g < 32 ∧ bit (headerFlags v tracing g) 0 = false ∧
    bit (headerFlags v tracing g) 1 = tracing ∧ bit (headerFlags v tracing g) 2 = decide ((payloadOf g).length > 0) ∧
    bit (headerFlags v tracing g) 3 = false ∧ bit (headerFlags v tracing g) 4 = decide (v = 5) := by
  have h := bits8 false tracing (decide ((payloadOf g).length > 0)) false (decide (v = 5)) false false false
  simp only [b2n_false, Nat.zero_add, Nat.add_zero] at h
  have := b2n_le tracing 0x02; have := b2n_le (decide ((payloadOf g).length > 0)) 0x04
  have := b2n_le (decide (v = 5)) 0x10
  obtain ⟨_, b0, b1, b2, b3, b4, _⟩ := h
  exact ⟨by unfold headerFlags; omega, b0, b1, b2, b3, b4⟩

theorem payloadOp_of_payload (g : GReq) (h : (payloadOf g).length > 0) : payloadOp (opcode g) = true := by
  cases g <;> simp [payloadOf] at h <;> simp [payloadOp, opcode]

theorem opcode_lt (g : GReq) : opcode g < 256 := by
  cases g <;> simp [opcode]

/-- the compression flag is bit 0, which the plain header flags leave clear -/
theorem headerFlags_even (v : Nat) (tracing : Bool) (g : GReq) :
    bit (headerFlags v tracing g) 0 = false ∧ bit (headerFlags v tracing g + 1) 0 = true ∧
    headerFlags v tracing g + 1 < 256 := by
  obtain ⟨h32, b0, -⟩ := headerFlags_bits v tracing g
  simp only [bit, Nat.pow_zero, Nat.div_one, decide_eq_false_iff_not, decide_eq_true_eq] at b0 ⊢
  omega

theorem opcode_compressible (g : GReq) (h : compressible g = true) : ¬ (opcode g = 0x01 ∨ opcode g = 0x05) := by
  cases g <;> simp [compressible] at h <;> simp [opcode]

theorem encodeReqC_none (v : Nat) (tracing : Bool) (stream now : Int) (g : GReq) :
    encodeReqC none v tracing stream now g = encodeReq v tracing stream now g := by
  unfold encodeReqC encodeReq
  split
  · rfl
  unfold encodeReqC0 encodeReq0
  split
  · rfl
  · cases wBody v now g with
    | error e => rfl
    | ok body => simp only

/-- flags byte and bytes after the header, as framer.finish leaves them -/
def wire (comp : Option (Bytes → Bytes)) (g : GReq) (fl : Nat) (full : Bytes) : Nat × Bytes :=
  match comp with
  | some enc => if compressible g then (fl + 1, enc full) else (fl, full)
  | none => (fl, full)

theorem wire_some (enc : Bytes → Bytes) (g : GReq) (fl : Nat) (full : Bytes) :
    wire (some enc) g fl full = if compressible g then (fl + 1, enc full) else (fl, full) := rfl

theorem encodeReqC_ok {comp : Option (Bytes → Bytes)} {v : Nat} {tracing : Bool} {stream now : Int} {g : GReq} {bs : Bytes}
    (he : encodeReqC comp v tracing stream now g = .ok bs) :
    tooManyG g = false ∧ ¬ ((payloadOf g).length > 0 ∧ v < 4) ∧ ∃ body, wBody v now g = .ok body ∧
      (if v > 2 then 9 else 8) + (wPayload (payloadOf g) ++ body).length ≤ maxFrameSize ∧
      bs = wHeader v (wire comp g (headerFlags v tracing g) (wPayload (payloadOf g) ++ body)).1 stream (opcode g)
          (wire comp g (headerFlags v tracing g) (wPayload (payloadOf g) ++ body)).2.length ++
        (wire comp g (headerFlags v tracing g) (wPayload (payloadOf g) ++ body)).2 := by
  unfold encodeReqC at he
  split at he; · cases he
  revert he
  -- three ways to a frame: compressed; a compressor, but STARTUP / OPTIONS; no compressor
  fun_cases encodeReqC0 comp v tracing stream now g <;> intro he <;> cases he
  all_goals
    refine ⟨by simpa using ‹¬ tooManyG g = true›, ‹¬ (_ ∧ v < 4)›, _, ‹wBody v now g = .ok _›,
      Nat.le_of_not_gt ‹_›, ?_⟩
  · rw [wire_some, if_pos ‹compressible g = true›]
  · rw [wire_some, if_neg ‹¬ compressible g = true›]
  · rfl

theorem encodeReq_ok {v : Nat} {tracing : Bool} {stream now : Int} {g : GReq} {bs : Bytes}
    (he : encodeReq v tracing stream now g = .ok bs) :
    tooManyG g = false ∧ ¬ ((payloadOf g).length > 0 ∧ v < 4) ∧ ∃ body, wBody v now g = .ok body ∧
      (if v > 2 then 9 else 8) + (wPayload (payloadOf g) ++ body).length ≤ maxFrameSize ∧
      bs = wHeader v (headerFlags v tracing g) stream (opcode g) (wPayload (payloadOf g) ++ body).length ++
        (wPayload (payloadOf g) ++ body) :=
  encodeReqC_ok (comp := none) (encodeReqC_none .. ▸ he)

theorem encodeReq_head {v : Nat} {tracing : Bool} {stream now : Int} {g : GReq} {bs : Bytes}
    (he : encodeReq v tracing stream now g = .ok bs) :
    ∃ r, bs = byteOf v :: byteOf (headerFlags v tracing g) :: r := by
  obtain ⟨_, _, body, _, _, rfl⟩ := encodeReq_ok he
  exact ⟨_, rfl⟩

theorem decodeBody_w (v : Nat) (tracing : Bool) (stream now : Int) (g : GReq) (body rest : Bytes)
    (hv1 : 1 ≤ v) (hx : Expressible v (ask now g) = true) (hb : wBody v now g = .ok body) :
    decodeBody v (headerFlags v tracing g) stream (opcode g) (wPayload (payloadOf g) ++ body) rest =
      some ⟨v, tracing, stream, ask now g, rest⟩ := by
  have hb2 := rdBody_w v now g body [] hv1 hx hb
  rw [List.append_nil] at hb2
  obtain ⟨hv4, hpl⟩ := payloadOk_iff.mp (show payloadOk v (payloadOf g) = true by
    rw [payloadOf_ask now g]; exact expressible_payload hx)
  obtain ⟨h32, b0, b1, b2, b3, b4⟩ := headerFlags_bits v tracing g
  unfold decodeBody
  have e1 : ¬ (headerFlags v tracing g ≥ 32 ∨ bit (headerFlags v tracing g) 0 = true ∨ bit (headerFlags v tracing g) 3 = true) := by
    simp only [b0, b3]; simp; omega
  have e2 : ¬ (bit (headerFlags v tracing g) 4 ≠ decide (v = 5)) := by simp [b4]
  have e3 : ¬ (bit (headerFlags v tracing g) 2 = true ∧ (v < 4 ∨ ¬ payloadOp (opcode g) = true)) := by
    rw [b2]
    intro ⟨hp, hq⟩
    have hp' : (payloadOf g).length > 0 := by simpa using hp
    have := hv4 hp'
    rw [payloadOp_of_payload g hp'] at hq
    simp at hq; omega
  rw [if_neg e1, if_neg e2, if_neg e3]
  have e7 : (if (payloadOf g).length > 0 then some (payloadOf g) else none).getD [] = payloadOf g := by
    cases hq : payloadOf g <;> simp
  simp only [b2, b1, wPayload, fBytesMap.opt_inv _ _ _ hpl, e7, hb2]

theorem decodeBody_post {v fl : Nat} {stream : Int} {op : Nat} {body rest : Bytes} {d : Decoded} (hv1 : 1 ≤ v) (hv5 : v ≤ 5)
    (h : decodeBody v fl stream op body rest = some d) : d.version = v ∧ Expressible v d.req = true := by
  revert h
  fun_cases decodeBody v fl stream op body rest <;> intro h <;> cases h
  refine ⟨rfl, rdBody_post hv1 hv5 ?_ ‹rdBody v op _ _ = some _›⟩
  -- a custom payload is read only from v4
  have hp := fBytesMap.opt_post ‹rdOpt _ rdBytesMap body = some _›
  cases ‹Option Payload› with
  | none => rfl
  | some m =>
    have hv4 : v ≥ 4 := by
      have : ¬ v < 4 := fun hlt => ‹¬ (bit fl 2 = true ∧ _)› ⟨hp.1.symm, Or.inl hlt⟩
      omega
    simp only [Option.getD_some, payloadOk, hv4, decide_true, Bool.true_and, Bool.or_eq_true]
    exact .inr hp.2

/-- whatever either decoder yields, with any decompression, is a request of a version 1..5 that the version can express -/
theorem decodeReqC_post (dec : Bytes → Option Bytes) {bs : Bytes} {d : Decoded} (h : decodeReqC dec bs = some d) :
    1 ≤ d.version ∧ d.version ≤ 5 ∧ Expressible d.version d.req = true := by
  revert h
  -- of the twelve ways through the header two yield something: a version 1..5, then `decodeBody` of the plain or the decompressed body
  fun_cases decodeReqC dec bs <;> intro h <;> try cases h
  all_goals
    obtain ⟨rfl, hx⟩ := decodeBody_post (by omega) (by omega) h
    exact ⟨by omega, by omega, hx⟩

/-- the round trip with or without a compressor: `dec` undoes whatever algorithm is configured -/
theorem roundtrip_C (comp : Option (Bytes → Bytes)) (dec : Bytes → Option Bytes)
    (hinv : ∀ enc ∈ comp, ∀ b, dec (enc b) = some b)
    (hsize : ∀ enc ∈ comp, ∀ b, b.length ≤ maxFrameSize → (enc b).length < 2147483648)
    (v : Nat) (tracing : Bool) (stream now : Int) (g : GReq) (bs rest : Bytes)
    (hv1 : 1 ≤ v) (hv5 : v ≤ 5) (hs : StreamInRange v stream)
    (hx : Expressible v (ask now g) = true)
    (he : encodeReqC comp v tracing stream now g = .ok bs) :
    decodeReqC dec (bs ++ rest) = some ⟨v, tracing, stream, ask now g, rest⟩ := by
  obtain ⟨_, _, body, hb, hsz, rfl⟩ := encodeReqC_ok he
  have hr := decodeBody_w v tracing stream now g body rest hv1 hx hb
  obtain ⟨b0, b1, hfl1⟩ := headerFlags_even v tracing g
  have hmax : (wPayload (payloadOf g) ++ body).length ≤ maxFrameSize := by split at hsz <;> omega
  have hlen : (wPayload (payloadOf g) ++ body).length < 2147483648 := by unfold maxFrameSize at hmax; omega
  -- uncompressed: flag 0x01 clear, the body as it is
  have plain : decodeReqC dec (wHeader v (headerFlags v tracing g) stream (opcode g) (wPayload (payloadOf g) ++ body).length ++
      (wPayload (payloadOf g) ++ body) ++ rest) = some ⟨v, tracing, stream, ask now g, rest⟩ := by
    rw [decodeReqC_frame dec v _ stream _ _ rest hv1 hv5 hs (by omega) (opcode_lt g) hlen, b0]
    exact hr
  cases comp with
  | none => exact plain
  | some enc =>
    rw [wire_some]
    by_cases hc : compressible g = true
    · simp only [hc, if_true]
      rw [decodeReqC_frame dec v _ stream _ _ rest hv1 hv5 hs hfl1 (opcode_lt g) (hsize enc rfl _ hmax),
        if_pos b1, if_neg (opcode_compressible g hc), hinv enc rfl]
      simpa using hr
    · simp only [hc]; exact plain

/-- without a compressor: the instance of `roundtrip_C` that the property states, and the handshake tier uses per frame -/
theorem roundtrip_plain (v : Nat) (tracing : Bool) (stream now : Int) (g : GReq) (bs rest : Bytes)
    (hv1 : 1 ≤ v) (hv5 : v ≤ 5) (hs : StreamInRange v stream) (hx : Expressible v (ask now g) = true)
    (he : encodeReq v tracing stream now g = .ok bs) :
    decodeReq (bs ++ rest) = some ⟨v, tracing, stream, ask now g, rest⟩ := by
  rw [decodeReq_eq_C]
  exact roundtrip_C none _ nofun nofun v tracing stream now g bs rest hv1 hv5 hs hx (encodeReqC_none .. ▸ he)

end C03
