import Model.Policies
import Proofs.C11Cow
/-! `cowHostList.add` / `remove` run by several threads — every schedule of the atomic steps under
the mutex discipline is a linearisation; calls on different addresses commute and none is lost -/
namespace C11
open Policies Policies.Cow

variable {σ : Type}

/-- what the holder `h` of the mutex has done so far (the calls `pre` are complete) -/
def holderOk (fs : Nat → σ → σ) (x : σ) (pre : List Nat) (h : Nat) (shared : σ) : Pc σ → Prop
  | .locked => shared = seq fs pre x
  | .loaded snap => shared = seq fs pre x ∧ snap = shared
  | .computed new => shared = seq fs pre x ∧ new = fs h (seq fs pre x)
  | .stored => shared = seq fs (pre ++ [h]) x
  | _ => False

/-- invariant of the locked discipline: `pre` = the calls that have returned, in the order in which they took the mutex;
every other thread is the holder of the mutex, somewhere in its critical section, or has not started -/
structure LInv (n : Nat) (fs : Nat → σ → σ) (x : σ) (s : Sys σ) (pre : List Nat) : Prop where
  nodup : pre.Nodup
  lt : ∀ i ∈ pre, i < n
  done : ∀ i ∈ pre, s.pcs i = .done
  hold : ∀ h, s.mu = some h → h ∉ pre ∧ h < n ∧ holderOk fs x pre h s.shared (s.pcs h)
  idle : ∀ i, i ∉ pre → s.mu ≠ some i → s.pcs i = .idle
  free : s.mu = none → s.shared = seq fs pre x

theorem seq_snoc (fs : Nat → σ → σ) (pre : List Nat) (h : Nat) (x : σ) : seq fs (pre ++ [h]) x = fs h (seq fs pre x) := by
  simp [seq, List.foldl_append]

theorem LInv.holder {n : Nat} {fs : Nat → σ → σ} {x : σ} {s : Sys σ} {pre : List Nat} (hI : LInv n fs x s pre) (i : Nat)
    (h1 : s.pcs i ≠ .idle) (h2 : s.pcs i ≠ .done) : s.mu = some i := by
  apply Classical.byContradiction
  intro hm
  by_cases hp : i ∈ pre
  · exact h2 (hI.done i hp)
  · exact h1 (hI.idle i hp hm)

/-- one step into or inside the critical section: thread `i` - the holder, or any thread that has not started while the
mutex is free - holds the mutex afterwards, its program counter is `v`, the list is `sh`; nobody else is touched
(`m` with `hm`: `step_inv` meets the mutex as `some i` or as `s.mu`) -/
theorem LInv.holding {n : Nat} {fs : Nat → σ → σ} {x : σ} {s : Sys σ} {pre : List Nat} (hI : LInv n fs x s pre)
    (i : Nat) (hlt : i < n) (hi : i ∉ pre) (hmu : ∀ j, s.mu = some j → j = i) (m : Option Nat) (hm : m = some i)
    (v : Pc σ) (sh : σ) (hk : holderOk fs x pre i sh v) :
    LInv n fs x { shared := sh, mu := m, pcs := fun j => if j = i then v else s.pcs j } pre := by
  subst hm
  refine ⟨hI.nodup, hI.lt, fun j hj => ?_, fun h hh => ?_, fun j hj hm => ?_, fun h => nomatch h⟩
  · show (if j = i then v else s.pcs j) = .done
    rw [if_neg (fun e : j = i => hi (e ▸ hj))]
    exact hI.done j hj
  · cases hh
    exact ⟨hi, hlt, by show holderOk fs x pre i sh (if i = i then v else s.pcs i); rw [if_pos rfl]; exact hk⟩
  · have hji : j ≠ i := fun e => hm (e ▸ rfl)
    show (if j = i then v else s.pcs j) = .idle
    rw [if_neg hji]
    exact hI.idle j hj (fun e => hji (hmu j e))

/-- the step out of the critical section: the holder, having published, releases the mutex and has returned -/
theorem LInv.release {n : Nat} {fs : Nat → σ → σ} {x : σ} {s : Sys σ} {pre : List Nat} (hI : LInv n fs x s pre)
    (i : Nat) (hm : s.mu = some i) (hk : s.shared = seq fs (pre ++ [i]) x) :
    LInv n fs x { s with mu := none, pcs := fun j => if j = i then .done else s.pcs j } (pre ++ [i]) := by
  obtain ⟨hi, hlt, _⟩ := hI.hold i hm
  refine ⟨List.nodup_append.mpr ⟨hI.nodup, by simp, fun a ha b hb e => hi (List.mem_singleton.mp hb ▸ e ▸ ha)⟩,
    fun j hj => ?_, fun j hj => ?_, fun h hh => (nomatch hh), fun j hj _ => ?_, fun _ => hk⟩
  · exact (List.mem_append.mp hj).elim (hI.lt j) (fun e => List.mem_singleton.mp e ▸ hlt)
  · show (if j = i then Pc.done else s.pcs j) = .done
    split
    · rfl
    · rename_i hji
      exact hI.done j ((List.mem_append.mp hj).resolve_right (fun e => hji (List.mem_singleton.mp e)))
  · rw [List.mem_append, List.mem_singleton, not_or] at hj
    show (if j = i then Pc.done else s.pcs j) = .idle
    rw [if_neg hj.2]
    exact hI.idle j hj.1 (fun e => hj.2 (Option.some.inj (hm.symm.trans e)).symm)

/-- every step keeps the invariant: a table over the program counter of the thread that moves -/
theorem step_inv (n : Nat) (fs : Nat → σ → σ) (x : σ) (s : Sys σ) (pre : List Nat) (hI : LInv n fs x s pre) (i : Nat) :
    ∃ pre', LInv n fs x (step true n fs s i) pre' := by
  by_cases hn : n ≤ i
  · exact ⟨pre, by simp only [step, if_pos hn]; exact hI⟩
  have hlt : i < n := Nat.lt_of_not_le hn
  -- inside the critical section: `i` holds the mutex and `holderOk` says where the list stands
  have hin : ∀ {v : Pc σ}, s.pcs i = v → v ≠ .idle → v ≠ .done →
      s.mu = some i ∧ i ∉ pre ∧ (∀ j, s.mu = some j → j = i) ∧ holderOk fs x pre i s.shared v := by
    intro v hp h1 h2
    have hm := hI.holder i (hp ▸ h1) (hp ▸ h2)
    exact ⟨hm, (hI.hold i hm).1, fun j e => Option.some.inj (e.symm.trans hm), hp ▸ (hI.hold i hm).2.2⟩
  cases hp : s.pcs i with
  | idle =>
    simp only [step, if_neg hn, hp, if_true]
    split
    · rename_i hm
      have hm : s.mu = none := Option.isNone_iff_eq_none.mp hm
      have hi : i ∉ pre := fun h => by have := hI.done i h; rw [hp] at this; cases this
      exact ⟨pre, hI.holding i hlt hi (fun j e => by rw [hm] at e; cases e) _ rfl _ _ (hI.free hm)⟩
    · exact ⟨pre, hI⟩
  | locked =>
    obtain ⟨hm, hi, hu, hk⟩ := hin hp nofun nofun
    simp only [step, if_neg hn, hp]
    exact ⟨pre, hI.holding i hlt hi hu _ hm _ _ ⟨hk, rfl⟩⟩
  | loaded snap =>
    obtain ⟨hm, hi, hu, hk⟩ := hin hp nofun nofun
    simp only [step, if_neg hn, hp, if_true]
    exact ⟨pre, hI.holding i hlt hi hu _ hm _ _ ⟨hk.1, by rw [hk.2, hk.1]⟩⟩
  | waiting new => exact (hin hp nofun nofun).2.2.2.elim
  | computed new =>
    obtain ⟨hm, hi, hu, hk⟩ := hin hp nofun nofun
    simp only [step, if_neg hn, hp]
    exact ⟨pre, hI.holding i hlt hi hu _ hm _ new (by show new = seq fs (pre ++ [i]) x; rw [seq_snoc, hk.2])⟩
  | stored =>
    obtain ⟨hm, _, _, hk⟩ := hin hp nofun nofun
    simp only [step, if_neg hn, hp]
    exact ⟨pre ++ [i], hI.release i hm hk⟩
  | done => exact ⟨pre, by simp only [step, if_neg hn, hp]; exact hI⟩

theorem run_inv (n : Nat) (fs : Nat → σ → σ) (x : σ) (sched : List Nat) (s : Sys σ) (pre : List Nat)
    (hI : LInv n fs x s pre) : ∃ pre', LInv n fs x (run true n fs s sched) pre' :=
  foldl_inv (fun s => ∃ pre, LInv n fs x s pre) (step true n fs) (fun s i ⟨o, h⟩ => step_inv n fs x s o h i) sched s
    ⟨pre, hI⟩

theorem init_inv (n : Nat) (fs : Nat → σ → σ) (x : σ) : LInv n fs x (init x) [] :=
  ⟨List.nodup_nil, fun _ hi => (nomatch hi), fun _ hi => (nomatch hi), fun _ hh => (nomatch hh), fun _ _ _ => rfl, fun _ => rfl⟩

/-- the order is the one in which the calls took the mutex (`pre` of `LInv`) -/
theorem cow_linearizable (n : Nat) (fs : Nat → σ → σ) (x : σ) (sched : List Nat)
    (hd : (run true n fs (init x) sched).allDone n = true) :
    ∃ order : List Nat, order.Perm (List.range n) ∧ (run true n fs (init x) sched).shared = seq fs order x := by
  obtain ⟨pre, hI⟩ := run_inv n fs x sched (init x) [] (init_inv n fs x)
  generalize run true n fs (init x) sched = s at hd hI
  have hall : ∀ i, i < n → s.pcs i = .done := by
    intro i hi
    unfold Sys.allDone at hd
    rw [List.all_eq_true] at hd
    have := hd i (List.mem_range.mpr hi)
    -- `isDone` is true of `.done` only
    cases h : s.pcs i <;> rw [h] at this <;> first | rfl | cases this
  -- nobody holds the mutex: the holder has not returned
  have hm : s.mu = none := by
    cases hm : s.mu with
    | none => rfl
    | some h =>
      obtain ⟨_, hlt, hk⟩ := hI.hold h hm
      rw [hall h hlt] at hk
      exact hk.elim
  refine ⟨pre, ?_, hI.free hm⟩
  rw [List.perm_ext_iff_of_nodup hI.nodup List.nodup_range]
  intro i
  rw [List.mem_range]
  refine ⟨hI.lt i, fun hi => Classical.byContradiction fun hn => ?_⟩
  have h1 := hI.idle i hn (by rw [hm]; nofun)
  rw [hall i hi] at h1
  cases h1

inductive CowOp
  | add (h : Host)
  | remove (ip : Nat)
deriving DecidableEq

def CowOp.apply : CowOp → List Host → List Host
  | .add h, l => (cowAdd l h).1
  | .remove ip, l => (cowRemove l ip).1

def CowOp.touch : CowOp → Nat
  | .add h => h.addr
  | .remove ip => ip

theorem mem_apply (o : CowOp) (l : List Host) (x : Host) :
    x ∈ o.apply l ↔ (x ∈ l ∧ o ≠ .remove x.addr) ∨ (o = .add x ∧ ∀ y ∈ l, y.addr ≠ x.addr) := by
  cases o with
  | add h =>
    show x ∈ (cowAdd l h).1 ↔ _
    rw [mem_cowAdd]
    constructor
    · rintro (h1 | ⟨rfl, h2⟩)
      · exact Or.inl ⟨h1, fun e => by cases e⟩
      · exact Or.inr ⟨rfl, h2⟩
    · rintro (⟨h1, _⟩ | ⟨h1, h2⟩)
      · exact Or.inl h1
      · cases h1; exact Or.inr ⟨rfl, h2⟩
  | remove ip =>
    show x ∈ (cowRemove l ip).1 ↔ _
    rw [mem_cowRemove]
    constructor
    · rintro ⟨h1, h2⟩
      exact Or.inl ⟨h1, fun e => by cases e; exact h2 rfl⟩
    · rintro (⟨h1, h2⟩ | ⟨h1, _⟩)
      · exact ⟨h1, fun e => h2 (by rw [e])⟩
      · cases h1

theorem free_apply (o : CowOp) (l : List Host) (a : Nat) (h : o.touch ≠ a) :
    (∀ y ∈ o.apply l, y.addr ≠ a) ↔ ∀ y ∈ l, y.addr ≠ a := by
  constructor
  · intro H y hy
    by_cases ho : o = .remove y.addr
    · rw [ho] at h; exact h
    · exact H y ((mem_apply o l y).mpr (Or.inl ⟨hy, ho⟩))
  · intro H y hy
    rcases (mem_apply o l y).mp hy with ⟨h1, _⟩ | ⟨h1, _⟩
    · exact H y h1
    · rw [h1] at h; exact h

theorem seq_mem_char (ops : Nat → CowOp) (ord : List Nat)
    (hd : ∀ a ∈ ord, ∀ b ∈ ord, (ops a).touch = (ops b).touch → a = b) (hn : ord.Nodup) :
    ∀ (l : List Host) (x : Host), x ∈ seq (fun i => (ops i).apply) ord l ↔
      (x ∈ l ∧ ∀ i ∈ ord, ops i ≠ .remove x.addr) ∨ (∃ i ∈ ord, ops i = .add x ∧ ∀ y ∈ l, y.addr ≠ x.addr) := by
  induction ord with
  | nil => intro l x; simp [seq]
  | cons i r ih =>
    intro l x
    have hd' : ∀ a ∈ r, ∀ b ∈ r, (ops a).touch = (ops b).touch → a = b :=
      fun a ha b hb => hd a (List.mem_cons_of_mem _ ha) b (List.mem_cons_of_mem _ hb)
    have hir : i ∉ r := (List.nodup_cons.mp hn).1
    have hne : ∀ j ∈ r, (ops j).touch ≠ (ops i).touch := fun j hj e =>
      hir (hd j (List.mem_cons_of_mem _ hj) i List.mem_cons_self e ▸ hj)
    -- a later call that adds `x` is about `x.addr`, which call `i` is not about
    have hfree : ∀ j ∈ r, ops j = .add x → (ops i).touch ≠ x.addr := fun j hj h1 e =>
      hne j hj (by rw [h1]; exact e.symm)
    have hs : seq (fun i => (ops i).apply) (i :: r) l = seq (fun i => (ops i).apply) r ((ops i).apply l) := rfl
    rw [hs, ih hd' (List.nodup_cons.mp hn).2, mem_apply]
    constructor
    · rintro (⟨⟨h1, h2⟩ | ⟨h1, h2⟩, h3⟩ | ⟨j, hj, h1, h2⟩)
      · exact Or.inl ⟨h1, fun k hk => (List.mem_cons.mp hk).elim (fun e => e ▸ h2) (h3 k)⟩
      · exact Or.inr ⟨i, List.mem_cons_self, h1, h2⟩
      · exact Or.inr ⟨j, List.mem_cons_of_mem _ hj, h1, (free_apply _ l _ (hfree j hj h1)).mp h2⟩
    · rintro (⟨h1, h2⟩ | ⟨j, hj, h1, h2⟩)
      · exact Or.inl ⟨Or.inl ⟨h1, h2 i List.mem_cons_self⟩, fun k hk => h2 k (List.mem_cons_of_mem _ hk)⟩
      · rcases List.mem_cons.mp hj with rfl | hj
        · exact Or.inl ⟨Or.inr ⟨h1, h2⟩, fun k hk e => hne k hk (by rw [e, h1]; rfl)⟩
        · exact Or.inr ⟨j, hj, h1, (free_apply _ l _ (hfree j hj h1)).mpr h2⟩

end C11
