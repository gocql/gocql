import Model.Policies
import Proofs.C11Cow
import Proofs.C11Pol
/-! What ONE notifier call does to the lists of the fallback policy (per key (tier, address) for any hosts, as facts about
a set that holds one host per key), and the status of a host according to a history of calls (`statusOf`). -/
namespace C11
open Policies


theorem known_bump (p : Pol) (x : Host) : known p.bump x ↔ known p x := Iff.rfl
theorem known_setCtr (p : Pol) (n : Nat) (x : Host) : known (p.setCtr n) x ↔ known p x := Iff.rfl

theorem getLayer_setLayer (p : Pol) (i j : Nat) (l : List Host) (hi : i = 0 ∨ i = 1 ∨ i = 2) (hj : j = 0 ∨ j = 1 ∨ j = 2) :
    (p.setLayer i l).getLayer j = if j = i then l else p.getLayer j := by
  rcases hi with rfl | rfl | rfl <;> rcases hj with rfl | rfl | rfl <;> rfl

theorem known_iff_layer (p : Pol) (hp : Inv p) (x : Host) : known p x ↔ x ∈ p.getLayer (p.tier x) := by
  unfold known
  constructor
  · rintro (h | h | h)
    · rw [hp.t0 x h]; exact h
    · rw [hp.t1 x h]; exact h
    · rw [hp.t2 x h]; exact h
  · intro h
    rcases tier_le_two p x with e | e | e <;> rw [e] at h
    · exact Or.inl h
    · exact Or.inr (Or.inl h)
    · exact Or.inr (Or.inr h)

/-! ### sets of hosts holding at most one host per key

`M` is what a list holds before a call about `h`, `M'` after it: the lists of the fallback policy with
`key = (tier, address)`, the token-aware policy's own list with `key = address`. -/
section Keyed
variable {κ : Type} [DecidableEq κ] (key : Host → κ) (M M' : Host → Prop) (h : Host) (O : κ → Option Host)

/-- adding `h` against an owner function (`O k` = the host of the set with key `k`): `h` becomes the owner of its
key if the key had none -/
theorem owner_add_keyed (hadd : ∀ x, M' x ↔ M x ∨ (x = h ∧ ∀ y, M y → key y ≠ key h))
    (hO : ∀ k z, O k = some z → key z = k) (hs : ∀ x, M x ↔ O (key x) = some x) (x : Host) :
    M' x ↔ (if key h = key x then (match O (key x) with | none => some h | some z => some z) else O (key x)) = some x := by
  have hfree : (∀ y, M y → key y ≠ key h) ↔ O (key h) = none := by
    rw [Option.eq_none_iff_forall_ne_some]
    exact ⟨fun hf z hz => hf z ((hs z).mpr ((hO _ z hz).symm ▸ hz)) (hO _ z hz),
      fun hn y hy e => hn y (e ▸ (hs y).mp hy)⟩
  rw [hadd, hfree, hs x]
  by_cases hk : key h = key x
  · rw [if_pos hk, hk]
    cases O (key x) <;> simp [eq_comm]
  · rw [if_neg hk]
    exact ⟨fun h1 => h1.elim id fun h2 => absurd (h2.1 ▸ rfl) hk, Or.inl⟩

theorem owner_remove_keyed (hrem : ∀ x, M' x ↔ M x ∧ key x ≠ key h) (hs : ∀ x, M x ↔ O (key x) = some x) (x : Host) :
    M' x ↔ (if key h = key x then none else O (key x)) = some x := by
  rw [hrem]
  by_cases hk : key h = key x
  · rw [if_pos hk]
    exact ⟨fun h1 => absurd hk.symm h1.2, fun h1 => nomatch h1⟩
  · rw [if_neg hk, hs x]
    exact ⟨fun h1 => h1.1, fun h1 => ⟨h1, fun e' => hk e'.symm⟩⟩

end Keyed

theorem key_eq_iff (p : Pol) (a b : Host) : p.key a = p.key b ↔ p.tier a = p.tier b ∧ a.addr = b.addr := by
  unfold Pol.key
  exact Prod.mk.injEq _ _ _ _ ▸ Iff.rfl

/-- `AddHost` / `HostUp`, for any hosts (shared addresses included) -/
theorem known_add_key (p : Pol) (hp : Inv p) (h x : Host) :
    known (p.add h) x ↔ known p x ∨ (x = h ∧ ∀ y, known p y → p.key y ≠ p.key h) := by
  have hp' := Inv_add p hp h
  have hall : (∀ y ∈ p.getLayer (p.tier h), y.addr ≠ h.addr) ↔ ∀ y, known p y → p.key y ≠ p.key h := by
    constructor
    · intro h2 y hy hk
      obtain ⟨k1, k2⟩ := (key_eq_iff p y h).mp hk
      rw [known_iff_layer p hp, k1] at hy
      exact h2 y hy k2
    · intro h2 y hy ha
      have hty := (getLayer_tier p hp (p.tier h) (tier_le_two p h)).2 y hy
      exact h2 y ((known_iff_layer p hp y).mpr (by rw [hty]; exact hy)) ((key_eq_iff p y h).mpr ⟨hty, ha⟩)
  rw [known_iff_layer _ hp', known_iff_layer p hp, ← hall]
  unfold Pol.add
  rw [tier_setLayer, getLayer_setLayer p _ _ _ (tier_le_two p h) (tier_le_two p x)]
  split
  · rename_i e
    rw [mem_cowAdd, e]
  · rename_i e
    constructor
    · exact Or.inl
    · rintro (h1 | ⟨h1, _⟩)
      · exact h1
      · subst h1; exact absurd rfl e

/-- `RemoveHost` / `HostDown`, for any hosts -/
theorem known_remove_key (p : Pol) (hp : Inv p) (h x : Host) :
    known (p.remove h) x ↔ known p x ∧ p.key x ≠ p.key h := by
  have hp' := Inv_remove p hp h
  rw [known_iff_layer _ hp', known_iff_layer p hp]
  unfold Pol.remove
  rw [tier_setLayer, getLayer_setLayer p _ _ _ (tier_le_two p h) (tier_le_two p x)]
  split
  · rename_i e
    rw [mem_cowRemove, e]
    constructor
    · rintro ⟨h1, h2⟩
      exact ⟨h1, fun hk => h2 ((key_eq_iff p x h).mp hk).2⟩
    · rintro ⟨h1, h2⟩
      exact ⟨h1, fun ha => h2 ((key_eq_iff p x h).mpr ⟨e, ha⟩)⟩
  · rename_i e
    constructor
    · intro h1; exact ⟨h1, fun hk => e ((key_eq_iff p x h).mp hk).1⟩
    · exact fun h1 => h1.1

def _root_.Policies.Status.inList (s : Status) : Bool := s.last == some .add || s.last == some .hup

def _root_.Policies.Status.wf (s : Status) : Prop :=
  (s.last = none → s.known = false) ∧ (s.last = some .add → s.known = true) ∧ (s.last = some .remove → s.known = false)

theorem wf_init : Status.init.wf := by simp [Status.wf, Status.init]

theorem wf_step (s : Status) (e : Ev) : (s.step e).wf := by
  cases e <;> simp [Status.wf, Status.step]

theorem wf_foldl_step (c : Ev × Host → Prop) [DecidablePred c] (evs : List (Ev × Host)) (s0 : Status) (hs : s0.wf) :
    (evs.foldl (fun s e => if c e then s.step e.1 else s) s0).wf :=
  foldl_inv Status.wf _ (fun s e hs => by split; exact wf_step s e.1; exact hs) evs s0 hs

theorem wf_statusOf (evs : List (Ev × Host)) (h : Host) : (statusOf evs h).wf :=
  wf_foldl_step (fun e => e.2 = h) evs _ wf_init

theorem statusOf_not_mem (evs : List (Ev × Host)) (h : Host) (hm : h ∉ evs.map (·.2)) : statusOf evs h = Status.init :=
  evs.foldlRecOn (motive := (· = Status.init)) _ rfl fun s hs e he => by
    rw [if_neg (fun e' : e.2 = h => hm (e' ▸ List.mem_map_of_mem he))]; exact hs

theorem mem_of_known (evs : List (Ev × Host)) (h : Host) (hk : (statusOf evs h).known = true) : h ∈ evs.map (·.2) := by
  apply Classical.byContradiction
  intro hm
  rw [statusOf_not_mem evs h hm] at hk
  exact Bool.noConfusion hk

theorem expected_iff (s : Status) (u : Bool) :
    s.expected u = true ↔ s.known = true ∧ s.last ≠ some .hdown ∧ u = true := by
  simp only [Status.expected, Bool.and_eq_true, bne_iff_ne, ne_eq, and_assoc]

/-- what the property expects follows from `inList`, and conversely unless the host is a ghost
(`HostUp` of a host that is not known) -/
theorem expected_inList (s : Status) (hs : s.wf) (u : Bool) (he : s.expected u = true) : s.inList = true ∧ u = true := by
  obtain ⟨k, l⟩ := s
  obtain ⟨w1, w2, w3⟩ := hs
  obtain ⟨hk, hl, hu⟩ := (expected_iff _ u).mp he
  refine ⟨?_, hu⟩
  simp only at hk hl w1 w2 w3
  subst hk
  simp only [Status.inList]
  rcases l with _ | e
  · simp at w1
  · cases e
    · simp
    · simp at w3
    · simp
    · simp at hl

theorem inList_expected (s : Status) (hs : s.wf) (hg : s.ghost = false) (hi : s.inList = true) : s.expected true = true := by
  obtain ⟨k, l⟩ := s
  obtain ⟨w1, w2, w3⟩ := hs
  simp only [Status.inList, Bool.or_eq_true, beq_iff_eq] at hi
  simp only [Status.ghost, Bool.and_eq_false_imp, Bool.not_eq_true', beq_eq_false_iff_ne, ne_eq] at hg
  simp only at w1 w2 w3 hi hg
  refine (expected_iff _ true).mpr ?_
  rcases hi with rfl | rfl
  · exact ⟨w2 rfl, by simp, rfl⟩
  · refine ⟨?_, by simp, rfl⟩
    cases k
    · exact absurd rfl (hg rfl)
    · rfl

end C11
