import Proofs.C12Scalar
import Proofs.C12Decode
/-!
# C02 — byte-level facts for the cross-kind round trip of a varint column

What `*big.Int` gets is the two's complement value (`C12Decode.decBigInt2C_tc`); unmarshalVarint's sign extension of at most
8 bytes gives the same value (`front_val`); the varint of a number in the upper half of uint64 is 0 followed by its 8
bytes (`specVarint_upper`); so a number of int64 reaches unmarshalIntlike unchanged (`C02.unmarshalVarint_fits`).
`C02Big.exists_class` below is a fixed statement that nothing uses.
-/
namespace C02Cross
open ValueSpec Marshal C12Bytes C12Int C12Varint C12Scalar C12Decode

theorem decBigInt2C_specVarint (v : Int) : decBigInt2C (specVarint v) = v := by
  rw [decBigInt2C_tc, tcDec_specVarint]

/-- unmarshalVarint's front part on at most 8 bytes: sign extension gives the two's complement value -/
theorem front_val (b : Bytes) (hne : b ≠ []) (hlen : b.length ≤ 8) (k : IntKind) (named : Bool) :
    unmarshalVarintFront b k named = .val (tcDec b) := by
  cases b with
  | nil => exact absurd rfl hne
  | cons x r =>
    have hs := sign_iff_head x r
    have hlt := beNat_lt (x :: r)
    -- all that matters of the length L is P = 256^L: at most 2^56 below 8 bytes, 2^64 at 8 bytes
    have hP7 : (x :: r).length < 8 → 256 ^ (x :: r).length ≤ 256 ^ 7 :=
      fun h => Nat.pow_le_pow_right (by decide) (by omega)
    have hP8 : ¬ (x :: r).length < 8 → 256 ^ (x :: r).length = 256 ^ 8 :=
      fun h => by rw [show (x :: r).length = 8 by omega]
    unfold unmarshalVarintFront
    have h9 : ¬ (x :: r).length = 9 := by omega
    have h8 : ¬ (x :: r).length > 8 := by omega
    simp only [h9, false_and, and_false, if_false, h8]
    unfold tcDec bytesToInt64
    rw [BE.two_pow_mul8, ← cast_pow256]
    simp only [hs, toS]
    generalize beNat (x :: r) = N at *
    generalize (x :: r).length = L at *
    generalize 256 ^ L = P at *
    by_cases hL : L < 8 <;> by_cases hx : x.toNat ≥ 128
    all_goals
      simp only [hL, hx, false_and, and_false, and_self, if_true, if_false, VarintFront.val.injEq]
      omega

theorem specVarint_upper (m : Nat) (h1 : 2^63 ≤ m) (h2 : m < 2^64) : specVarint (m:Int) = 0 :: beBytes 8 m := by
  have ht := tcDec_zero_beBytes8 m h2
  have hmin : minimalTC (0 :: beBytes 8 m) = true := by
    simp [beBytes, minimalTC, byteOfNat]
    omega
  have := specVarint_tcDec _ hmin
  rw [ht] at this
  exact this

theorem bytesToUint64_beBytes8 (m : Nat) (h2 : m < 2^64) : bytesToUint64 (beBytes 8 m) = (m:Int) := by
  simp [bytesToUint64, beNat_beBytes, toU]
  omega

end C02Cross

namespace C02
open ValueSpec Marshal C12Varint C02Cross

/-- a number of int64 written as varint (at most 8 bytes) reaches unmarshalIntlike unchanged, whatever the destination
    other than *big.Int -/
theorem unmarshalVarint_fits (v : Int) (hfit : fitsS 8 v = true) (ty : GoTy) (hty : ty ≠ .big) :
    unmarshalVarint (specVarint v) ty = unmarshalIntlike .varint v (specVarint v) ty := by
  have hf : ∀ k named, unmarshalVarintFront (specVarint v) k named = .val v := fun k named => by
    rw [front_val _ (specVarint_ne_nil v) (specVarint_length_le 8 v (by omega) hfit), tcDec_specVarint]
  cases ty <;> simp only [unmarshalVarint, hf] <;> exact absurd rfl hty

end C02

namespace C02Big

theorem exists_class (n : Nat) (h : n ≠ 0) : ∃ k, 256 ^ k ≤ n ∧ n < 256 ^ (k + 1) := by
  induction n using Nat.strongRecOn with
  | _ n ih =>
    by_cases hs : n < 256
    · exact ⟨0, by omega, by omega⟩
    · obtain ⟨k, h1, h2⟩ := ih (n / 256) (by omega) (by omega)
      refine ⟨k + 1, ?_, ?_⟩
      · rw [Nat.pow_succ]; omega
      · rw [Nat.pow_succ] at h2 ⊢; omega

end C02Big
