import Model.MarshalInterp
/-!
# C12: what it means that a marshalled value conforms

`Conf p t r oc`: the result `r` of the model of gocql.Marshal is what the specification prescribes for the
documented meaning `oc` of the Go value: a nil slice exactly for null, otherwise the specification's bytes; an error
produces no bytes; a panic or an unmodelled combination never occurs.
(The names are `C12Nest.…`: they are shared by Proofs/C12Nest.lean and Proofs/C12ScalarConf.lean.)
-/
namespace C12Nest
open ValueSpec Marshal

/-- the scalar `g` is a value of its Go type (the harness can only build such values) -/
def wfScalar : GoVal → Prop
  | .int k _ v => k.holds v = true
  | .f32 _ x => x < 2^32
  | .f64 _ x => x < 2^64
  | .dec _ s => fitsS 4 s = true                      -- inf.Scale is an int32
  | .time _ nsec => 0 ≤ nsec ∧ nsec < 1000000000
  | .dur ns => fitsS 8 ns = true
  | .cqldur m d n => fitsS 4 m = true ∧ fitsS 4 d = true ∧ fitsS 8 n = true
  | .uuid b => b.length = 16
  | .arr16 b => b.length = 16
  | _ => True

def Conf (p : Nat) (t : CqlTy) (r : MRes) (oc : Option CqlVal) : Prop :=
  match r with
  | .ok none => oc = some .null
  | .ok (some b) => b.length < 2^31 → ∃ c, oc = some c ∧ c.isNull = false ∧ specEnc p t c = some b
  | .err => True
  | .crash => False
  | .unmodelled => False

theorem conf_some {p : Nat} {t : CqlTy} {b : Bytes} {c : CqlVal} (hn : c.isNull = false) (hs : specEnc p t c = some b) :
    Conf p t (.ok (some b)) (some c) := fun _ => ⟨c, rfl, hn, hs⟩

theorem conf_optM (p : Nat) (t : CqlTy) (c : CqlVal) (hn : c.isNull = false) : Conf p t (optM (specEnc p t c)) (some c) := by
  cases h : specEnc p t c with
  | none => trivial
  | some b => exact conf_some hn h

theorem conf_ok_spec {p : Nat} {t : CqlTy} {c : CqlVal} {r : MRes} (h : r = .ok (specEnc p t c)) (hn : c.isNull = false)
    (hs : specEnc p t c ≠ none) : Conf p t r (some c) := by
  subst h
  cases h' : specEnc p t c with
  | none => exact absurd h' hs
  | some b => exact conf_some hn h'

/-- the scalar columns conform: all that the induction over nestings (Proofs/C12Nest.lean) needs to know of them -/
def ScalarConf (p : Nat) : Prop :=
  ∀ (t : CqlTy) (g : GoVal), Marshal.CqlTy.isScalar t = true → wfScalar g → documentedScalar t g = true →
    excludedScalar t g = false → Conf p t (marshalScalar t g) (interpScalar t g)
end C12Nest
