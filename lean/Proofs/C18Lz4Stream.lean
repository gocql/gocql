import Model.CompressLz4Block
import Proofs.C18Frame
/-! LZ4. The wrapper of lz4/lz4.go around a block codec (length prefix, then one block). The block format: the length
    extension read back and the size of the literal-only block against CompressBlockBound; then: the block decoder
    computes the LZ77 meaning of EVERY well-formed sequence list — whatever encoder chose the sequences (pierrec's
    CompressBlock among them). -/
namespace Compress

theorem lz4Prefix_be32 (n : Nat) (hn : n < 4294967296) (z : Bytes) : lz4Prefix (be32 n ++ z) = n := by
  simp [lz4Prefix, be32, readBE32_be32 n hn]

/-- Decode of `prefix ‖ block` when the block decoder, given the declared length, returns the body
    (it is not called for the empty body) -/
theorem lz4Decode_be32 (b : BlockCodec) (x z : Bytes) (hx : x.length < 4294967296)
    (hd : x ≠ [] → b.decB z x.length = .ok x) : lz4Decode b (be32 x.length ++ z) = .ok x := by
  have hl : ¬ (be32 x.length ++ z).length < 4 := by simp [be32_length]
  unfold lz4Decode
  rw [if_neg hl, lz4Prefix_be32 _ hx]
  split
  · rename_i h0; rw [List.eq_nil_of_length_eq_zero h0]
  · rename_i h0
    have : b.decB ((be32 x.length ++ z).drop 4) x.length = .ok x := hd (by rintro rfl; exact h0 rfl)
    simp only [this, if_true]

theorem lz4Encode_ok (b : BlockCodec) (x y : Bytes) (he : lz4Encode b x = .ok y) :
    ∃ z, b.encB x (lz4DstLen x.length) = .ok z ∧ y = be32 x.length ++ z := by
  revert he
  fun_cases lz4Encode b x <;> intro he <;> cases he
  exact ⟨_, ‹_›, rfl⟩

theorem lz4LenExt_put (k : Nat) : ∀ (acc : Nat) (b : UInt8) (rest : Bytes), b ≠ 255 →
    lz4LenExt acc (List.replicate k 255 ++ b :: rest) = some (acc + 255 * k + b.toNat, rest) := by
  induction k with
  | zero => intro acc b rest hb; simp [lz4LenExt, hb]
  | succ k ih =>
    intro acc b rest hb
    simp only [List.replicate_succ, List.cons_append, lz4LenExt, if_true]
    rw [ih (acc + 255) b rest hb]; congr 2; omega

theorem lz4PutLenExt_dec (m : Nat) (acc : Nat) (rest : Bytes) :
    lz4LenExt acc (lz4PutLenExt m ++ rest) = some (acc + m, rest) := by
  have hn : (UInt8.ofNat (m % 255)).toNat = m % 255 := BE.toNat_ofNat_lt (by omega)
  have hb : UInt8.ofNat (m % 255) ≠ 255 := fun h => by rw [h] at hn; simp at hn; omega
  unfold lz4PutLenExt
  rw [List.append_assoc, List.singleton_append, lz4LenExt_put _ _ _ _ hb, hn]
  congr 2
  have := Nat.div_add_mod m 255
  omega

theorem lz4LitBlock_length (x : Bytes) : (lz4LitBlock x).length ≤ blockBound x.length := by
  unfold lz4LitBlock blockBound
  split
  · simp; omega
  · simp [lz4PutLenExt]; omega

/-- a sequence as an encoder means it: literals, then a match of `mlen` bytes from `offset` back -/
structure Lz4Sq where
  lits   : Bytes
  offset : Nat
  mlen   : Nat

def Lz4Sq.apply (out : Array UInt8) (q : Lz4Sq) : Array UInt8 :=
  lz4CopyFwd q.offset q.mlen (out ++ q.lits.toArray)

/-- the meaning of a block: the sequences in order, then the literals of the last sequence -/
def lz4Interp (qs : List Lz4Sq) (last : Bytes) (out : Array UInt8) : Array UInt8 :=
  (qs.foldl Lz4Sq.apply out) ++ last.toArray

/-- well-formed at output position `d`: a match of at least 4 bytes from 1..65535 back, not from
    before the start of the output -/
def Lz4Sq.wf (d : Nat) (q : Lz4Sq) : Prop :=
  1 ≤ q.offset ∧ q.offset ≤ d + q.lits.length ∧ q.offset < 65536 ∧ 4 ≤ q.mlen

def Lz4Sq.size (q : Lz4Sq) : Nat := q.lits.length + q.mlen

def lz4WF : Nat → List Lz4Sq → Prop
  | _, [] => True
  | d, q :: qs => q.wf d ∧ lz4WF (d + q.size) qs

/-- a length as token nibble + extension bytes -/
def lz4Nib (m : Nat) : Nat := min m 15
def lz4Ext (m : Nat) : Bytes := if 15 ≤ m then lz4PutLenExt (m - 15) else []

def Lz4Sq.ser (q : Lz4Sq) : Bytes :=
  UInt8.ofNat (lz4Nib q.lits.length * 16 + lz4Nib (q.mlen - 4)) ::
    (lz4Ext q.lits.length ++ q.lits ++
      UInt8.ofNat (q.offset % 256) :: UInt8.ofNat (q.offset / 256) :: lz4Ext (q.mlen - 4))

def lz4SerLast (last : Bytes) : Bytes :=
  UInt8.ofNat (lz4Nib last.length * 16) :: (lz4Ext last.length ++ last)

def lz4Ser (qs : List Lz4Sq) (last : Bytes) : Bytes := qs.flatMap Lz4Sq.ser ++ lz4SerLast last

/-- `lz4CopyFwd` is the model's second definition of snappy's `copyFwd`; `copyFwd_size` is this lemma for that one -/
theorem lz4CopyFwd_size (off : Nat) : ∀ (k : Nat) (out : Array UInt8), (lz4CopyFwd off k out).size = out.size + k := by
  intro k
  induction k with
  | zero => intro out; rfl
  | succ k ih => intro out; simp [lz4CopyFwd, ih]; omega

theorem Lz4Sq.apply_size (out : Array UInt8) (q : Lz4Sq) : (q.apply out).size = out.size + q.size := by
  simp [Lz4Sq.apply, Lz4Sq.size, lz4CopyFwd_size]; omega

theorem lz4Fold_size_ge (qs : List Lz4Sq) (out : Array UInt8) : out.size ≤ (qs.foldl Lz4Sq.apply out).size :=
  qs.foldlRecOn (motive := fun o : Array UInt8 => out.size ≤ o.size) _ (Nat.le_refl _) fun o h q _ => by rw [Lz4Sq.apply_size]; omega

theorem tok_nibbles : ∀ (a b : Fin 16),
    ((UInt8.ofNat (a.val * 16 + b.val)) >>> 4).toNat = a.val ∧ ((UInt8.ofNat (a.val * 16 + b.val)) &&& 15).toNat = b.val := by
  decide +kernel

theorem lz4Hdr_dec (m : Nat) (X : Bytes) :
    (if lz4Nib m = 15 then lz4LenExt 15 (lz4Ext m ++ X) else some (lz4Nib m, lz4Ext m ++ X)) = some (m, X) := by
  unfold lz4Nib lz4Ext
  by_cases h : 15 ≤ m
  · have : min m 15 = 15 := by omega
    simp only [this, if_true, h, lz4PutLenExt_dec]
    congr 2; omega
  · have h1 : min m 15 = m := by omega
    have h2 : ¬ m = 15 := by omega
    simp [h1, h2, h]

theorem lz4Seq_more (tok : UInt8) (r : Bytes) (lits : Bytes) (o0 o1 : UInt8) (r3 r4 : Bytes) (ml off n : Nat)
    (out : Array UInt8)
    (hL : (if (tok >>> 4).toNat = 15 then lz4LenExt 15 r else some ((tok >>> 4).toNat, r))
            = some (lits.length, lits ++ o0 :: o1 :: r3))
    (hM : (if (tok &&& 15).toNat = 15 then lz4LenExt 15 r3 else some ((tok &&& 15).toNat, r3)) = some (ml, r4))
    (ho : o0.toNat + 256 * o1.toNat = off) (h1 : 1 ≤ off) (h2 : off ≤ out.size + lits.length)
    (hfit : out.size + lits.length + (ml + 4) ≤ n) :
    lz4Seq tok r n out = .more r4 (lz4CopyFwd off (ml + 4) (out ++ lits.toArray)) := by
  unfold lz4Seq
  simp only [hL]
  have hA : ¬ ((lits ++ o0 :: o1 :: r3).length < lits.length ∨ out.size + lits.length > n) := by
    simp; omega
  rw [if_neg hA, List.take_left' rfl, List.drop_left' rfl]
  have hB : ¬ (off = 0 ∨ (out ++ lits.toArray).size < off ∨ (out ++ lits.toArray).size + (ml + 4) > n) := by
    simp; omega
  rw [if_neg (List.cons_ne_nil _ _), if_neg (by simp)]
  simp only [List.getD_cons_zero, List.getD_cons_succ, List.drop_succ_cons, List.drop_zero, ho, hM, if_neg hB]

theorem lz4Seq_done (tok : UInt8) (r : Bytes) (last : Bytes) (n : Nat) (out : Array UInt8)
    (hL : (if (tok >>> 4).toNat = 15 then lz4LenExt 15 r else some ((tok >>> 4).toNat, r)) = some (last.length, last))
    (hfit : out.size + last.length ≤ n) :
    lz4Seq tok r n out = .done (out ++ last.toArray) := by
  unfold lz4Seq
  simp only [hL]
  have hA : ¬ (last.length < last.length ∨ out.size + last.length > n) := by omega
  rw [if_neg hA]
  simp

theorem lz4Ser_cons (q : Lz4Sq) (qs : List Lz4Sq) (last : Bytes) :
    lz4Ser (q :: qs) last = q.ser ++ lz4Ser qs last := by
  simp [lz4Ser]

/-- every sequence, and the last literals, take at least their token byte -/
theorem lz4Ser_length (qs : List Lz4Sq) (last : Bytes) : qs.length < (lz4Ser qs last).length := by
  induction qs with
  | nil => simp [lz4Ser, lz4SerLast]
  | cons q qs ih => rw [lz4Ser_cons]; simp [Lz4Sq.ser]; omega

theorem lz4Loop_ser (q : Lz4Sq) (rest : Bytes) (n g : Nat) (out : Array UInt8)
    (hwf : q.wf out.size) (hfit : out.size + q.size ≤ n) :
    lz4Loop (g + 1) (q.ser ++ rest) n out = lz4Loop g rest n (q.apply out) := by
  obtain ⟨h1, h2, h3, h4⟩ := hwf
  obtain ⟨hhi, hlo⟩ := tok_nibbles ⟨lz4Nib q.lits.length, by unfold lz4Nib; omega⟩
    ⟨lz4Nib (q.mlen - 4), by unfold lz4Nib; omega⟩
  simp only at hhi hlo
  simp only [Lz4Sq.ser, List.cons_append, List.append_assoc, lz4Loop]
  rw [lz4Seq_more _ _ q.lits _ _ (lz4Ext (q.mlen - 4) ++ rest) rest (q.mlen - 4) q.offset n out
    (by rw [hhi]; exact lz4Hdr_dec _ _) (by rw [hlo]; exact lz4Hdr_dec _ _)
    (BE.le16_roundtrip h3) h1 h2 (by simp only [Lz4Sq.size] at hfit; omega)]
  simp only [Lz4Sq.apply, show q.mlen - 4 + 4 = q.mlen by omega]

theorem lz4Loop_stream (qs : List Lz4Sq) (last : Bytes) : ∀ (out : Array UInt8) (n g : Nat), lz4WF out.size qs →
    (lz4Interp qs last out).size ≤ n → qs.length ≤ g →
    lz4Loop (g + 1) (lz4Ser qs last) n out = .ok (lz4Interp qs last out) := by
  induction qs with
  | nil =>
    intro out n g _ hn _
    obtain ⟨hhi, _⟩ := tok_nibbles ⟨lz4Nib last.length, by unfold lz4Nib; omega⟩ ⟨0, by omega⟩
    simp only [Nat.add_zero] at hhi
    have hd := lz4Seq_done (UInt8.ofNat (lz4Nib last.length * 16)) (lz4Ext last.length ++ last) last n out
      (by rw [hhi]; exact lz4Hdr_dec _ _) (by simpa [lz4Interp] using hn)
    simp only [lz4Ser, List.flatMap_nil, List.nil_append, lz4SerLast, lz4Loop, hd, lz4Interp, List.foldl]
  | cons q qs ih =>
    intro out n g ⟨hwq, hwr⟩ hn hg
    obtain ⟨g, rfl⟩ : ∃ g', g = g' + 1 := ⟨g - 1, by simp only [List.length_cons] at hg; omega⟩
    have hsz := q.apply_size out
    have hge := lz4Fold_size_ge qs (q.apply out)
    have hfit : out.size + q.size ≤ n := by
      simp only [lz4Interp, List.foldl, Array.size_append] at hn; omega
    rw [lz4Ser_cons, lz4Loop_ser q _ n (g + 1) out hwq hfit]
    exact ih (q.apply out) n g (hsz ▸ hwr) hn (by simpa using hg)

theorem lz4BlockDecode_stream (qs : List Lz4Sq) (last : Bytes) (n : Nat) (hwf : lz4WF 0 qs)
    (hn : (lz4Interp qs last #[]).size ≤ n) :
    lz4BlockDecode (lz4Ser qs last) n = .ok (lz4Interp qs last #[]).toList := by
  have hlen := lz4Ser_length qs last
  have hl := lz4Loop_stream qs last #[] n _ (by simpa using hwf) hn (Nat.le_of_lt hlen)
  unfold lz4BlockDecode
  rw [if_neg (by intro h; simp [h] at hlen), hl]

theorem lz4LitBlock_eq_ser (x : Bytes) : lz4LitBlock x = lz4Ser [] x := by
  unfold lz4LitBlock lz4Ser lz4SerLast lz4Nib lz4Ext
  by_cases h : x.length < 15
  · simp [h, Nat.min_eq_left (Nat.le_of_lt h), Nat.not_le_of_lt h]
  · simp [h, Nat.min_eq_right (Nat.le_of_not_lt h), Nat.le_of_not_lt h]

theorem lz4LitBlock_decodes (x : Bytes) : lz4BlockDecode (lz4LitBlock x) x.length = .ok x := by
  have := lz4BlockDecode_stream [] x x.length trivial (by simp [lz4Interp])
  simpa [lz4LitBlock_eq_ser, lz4Interp] using this

end Compress
