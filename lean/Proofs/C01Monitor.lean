import Proofs.C01Mux
/-!
# The observation monitor accepts every behaviour of the multiplexing machine

`Mux.Mon` (Model/Mux.lean) is what `vdrv C01` / `vdrv C06` run over the observation stream of a REAL
connection (scripted server: `req s t` / `resp s t k w` / `stray s` / `event`; caller: `got t k u`). Here: the projection of every
run of the abstract machine to that alphabet never makes the monitor reject. So a `reject:` verdict on a
real run exhibits a behaviour the machine does not have — either the property is violated
(`misrouted`, `stream-reused-while-outstanding`, `stream-out-of-range` are the property's own words) or
the model does not describe the code; it is never an artefact of the monitor.

The token a call sends is its own number (`req s c`), the server answers with the token of the request
it holds together with the kind `k` and the content `w` of its answer, the caller `d` that takes a response logs
`got d k w` (kind and content of what it decoded).
-/
namespace Mux

/-- what is observable of one action, in the state in which it is taken -/
def obsOf (st : St) : Act → List Obs
  | .wrote c => match st.pc c with
      | .acquired s => [.req s c]
      | _ => []
  | .answer s k w => match st.wire s with
      | .pending c => [.resp s c k w]
      | _ => []
  | .deliver s => match st.wire s with
      | .answered _ k w => match st.owner s with
          | some d => if st.pc d = .waiting s then [.got d k w] else []
          | none => []
      | _ => []
  | .stray s => [.stray s]
  | .event => [.event]
  | _ => []

/-- the observation stream of a run (empty from the point where the run gets stuck) -/
def trace : St → List Act → List Obs
  | _, [] => []
  | st, a :: as => match step st a with
    | some st' => obsOf st a ++ trace st' as
    | none => []

def Mon.run (m : Mon) (os : List Obs) : Mon := os.foldl Mon.step m

theorem Mon.lookup_set_self (m : Mon) (s t : Nat) (a : Bool) : (m.set s t a).lookup s = some (t, a) := by
  simp [Mon.lookup, Mon.set]

theorem Mon.lookup_set_ne (m : Mon) (s s' t : Nat) (a : Bool) (h : s' ≠ s) : (m.set s t a).lookup s' = m.lookup s' := by
  have h' : ¬ s = s' := fun e => h e.symm
  unfold Mon.lookup Mon.set
  dsimp only
  rw [List.find?_cons_of_neg (by simp [h']), List.find?_filter]
  congr 2; funext e; by_cases he : e.1 = s' <;> simp [he, h]

@[simp] theorem Mon.set_bad (m : Mon) (s t : Nat) (a : Bool) : (m.set s t a).bad = m.bad := rfl
@[simp] theorem Mon.set_cap (m : Mon) (s t : Nat) (a : Bool) : (m.set s t a).cap = m.cap := rfl

structure Sim (st : St) (m : Mon) : Prop where
  ok : m.bad = none
  cap : m.cap = st.cap
  pend : ∀ s t, m.lookup s = some (t, false) ↔ st.wire s = .pending t
  ans : ∀ t p, m.answer t = some p ↔ st.sent t = some p
  gots : ∀ t, t ∈ m.gots → ∃ o, st.pc t = .done o

theorem sim_init (cap : Nat) : Sim (init cap) (Mon.init cap) :=
  ⟨rfl, rfl, by intro s t; simp [Mon.lookup, Mon.init, init], by intro t p; simp [Mon.answer, Mon.init, init],
   by intro t; simp [Mon.init]⟩

theorem Sim.free {st : St} {m : Mon} (h : Sim st m) {s : Nat} (hw : st.wire s = .none) :
    m.lookup s = none ∨ ∃ t0, m.lookup s = some (t0, true) := by
  rcases hl : m.lookup s with _ | ⟨t0, _ | _⟩
  · exact .inl rfl
  · have := (h.pend s t0).mp hl; rw [hw] at this; cases this
  · exact .inr ⟨t0, rfl⟩

/-- the wire of `s` goes from answered to none: no `pending` fact changes -/
theorem Sim.pend_drop {st : St} {m : Mon} (h : Sim st m) {s c k w : Nat} (hw : st.wire s = .answered c k w) :
    ∀ s' t, m.lookup s' = some (t, false) ↔ upd st.wire s .none s' = .pending t := by
  intro s' t
  by_cases e : s' = s
  · subst e; simp [upd, h.pend, hw]
  · simp only [upd, if_neg e]; exact h.pend s' t

theorem sim_step (st st' : St) (m : Mon) (a : Act) (hi : Inv st) (h : Sim st m) (hs : step st a = some st') :
    Sim st' (Mon.run m (obsOf st a)) := by
  have hs := step_iff.1 hs
  have hgots : ∀ t, t ∈ m.gots → ∃ o, st'.pc t = .done o := fun t ht => (h.gots t ht).imp fun o ho => hs.done ho
  cases hs with
  | event =>
    have hm : Mon.run m (obsOf st .event) = m := by simp [obsOf, Mon.run, Mon.step]
    rw [hm]; exact h
  | stray s hw ho =>
    have hm : Mon.run m (obsOf st (.stray s)) = m := by
      rcases h.free hw with hl | ⟨t0, hl⟩ <;> simp [obsOf, Mon.run, Mon.step, h.ok, hl]
    rw [hm]; exact h
  | wrote c s hc =>
    have hr := hi.own_pc s c (hi.acq_ok c s hc).1
    have hrange : 1 ≤ s ∧ s < m.cap := by rw [h.cap]; exact ⟨hr.2.1, hr.2.2.1⟩
    have hm : Mon.run m (obsOf st (.wrote c)) = m.set s c false := by
      rcases h.free (hi.acq_ok c s hc).2 with hl | ⟨t0, hl⟩ <;>
        simp [obsOf, hc, Mon.run, Mon.step, h.ok, hrange, hl]
    rw [hm]
    refine ⟨h.ok, h.cap, fun s' t => ?_, h.ans, hgots⟩
    by_cases e : s' = s
    · subst e; simp [Mon.lookup_set_self, upd]
    · rw [Mon.lookup_set_ne _ _ _ _ _ e]
      simp only [upd, if_neg e]
      exact h.pend s' t
  | answer s k w c hw =>
    have hl := (h.pend s c).mpr hw
    have hm : Mon.run m (obsOf st (.answer s k w)) = { m.set s c true with sent := (c, k, w) :: m.sent } := by
      simp [obsOf, hw, Mon.run, Mon.step, h.ok, hl]
    rw [hm]
    refine ⟨h.ok, h.cap, fun s' t => ?_, fun t p => ?_, hgots⟩
    · show (m.set s c true).lookup s' = some (t, false) ↔ _
      by_cases e : s' = s
      · subst e; simp [Mon.lookup_set_self, upd]
      · rw [Mon.lookup_set_ne _ _ _ _ _ e]
        simp only [upd, if_neg e]
        exact h.pend s' t
    · by_cases e : t = c
      · subst e; simp [Mon.answer, upd]
      · have e' : ¬ c = t := fun x => e x.symm
        unfold Mon.answer; dsimp only
        rw [List.find?_cons_of_neg (by simp [e'])]
        simp only [upd, if_neg e]; exact h.ans t p
  | handOver s c k w d hw _ hd hp =>
    -- the call registered for an answered id is the one whose request the answer is for
    have hdc : d = c := by
      obtain ⟨c', hc', ho', _⟩ := (hi.wire_own s).resolve_left (by simp [hw])
      simp [hw, hd] at hc' ho'
      exact ho'.trans hc'.symm
    subst hdc
    have hsent : m.answer d = some (k, w) := (h.ans d (k, w)).mpr (hi.ans_sent s d k w hw)
    have hnotin : d ∉ m.gots := by
      intro hin
      obtain ⟨o, ho⟩ := h.gots d hin
      rw [hp] at ho; cases ho
    have hm : Mon.run m (obsOf st (.deliver s)) = { m with gots := d :: m.gots } := by
      simp [obsOf, hw, hd, hp, Mon.run, Mon.step, h.ok, hnotin, hsent]
    rw [hm]
    refine ⟨h.ok, h.cap, h.pend_drop hw, h.ans, fun t ht => ?_⟩
    rcases List.mem_cons.mp ht with e | e
    · subst e; exact ⟨.resp t k w, by simp [upd]⟩
    · exact hgots t e
  | handGone s c k w d hw _ hd hp =>
    have hm : Mon.run m (obsOf st (.deliver s)) = m := by simp [obsOf, hw, hd, hp, Mon.run]
    rw [hm]; exact ⟨h.ok, h.cap, h.pend_drop hw, h.ans, hgots⟩
  | discard s c k w hw _ hd =>
    have hm : Mon.run m (obsOf st (.deliver s)) = m := by simp [obsOf, hw, hd, Mon.run]
    rw [hm]; exact ⟨h.ok, h.cap, h.pend_drop hw, h.ans, hgots⟩
  | _ =>
    -- every other step: an update of fields the relation does not mention, and nothing to observe
    exact ⟨h.ok, h.cap, h.pend, h.ans, hgots⟩

theorem trace_append : ∀ (as bs : List Act) (m m1 : St), run m as = some m1 →
    trace m (as ++ bs) = trace m as ++ trace m1 bs
  | [], bs, m, m1, h1 => by simp [run] at h1; subst h1; simp [trace]
  | a :: as, bs, m, m1, h1 => by
    obtain ⟨m', hm', h1⟩ := isRun.cons_iff.mp h1
    simp only [trace, List.cons_append, hm']
    rw [trace_append as bs m' m1 h1, List.append_assoc]

theorem sim_run : ∀ (as : List Act) (st st' : St) (m : Mon), Inv st → Sim st m → run st as = some st' →
    Sim st' (Mon.run m (trace st as))
  | [], st, st', m, _, h, hr => by
    simp [run] at hr; subst hr; simpa [trace, Mon.run] using h
  | a :: as, st, st', m, hi, h, hr => by
    obtain ⟨s1, hs1, hr⟩ := isRun.cons_iff.mp hr
    simp only [trace, hs1, Mon.run, List.foldl_append]
    exact sim_run as s1 st' _ (inv_step st s1 a hi hs1) (sim_step st s1 m a hi h hs1) hr

theorem sim_reach {cap : Nat} {as : List Act} {st : St} (h : run (init cap) as = some st) :
    Sim st (Mon.run (Mon.init cap) (trace (init cap) as)) :=
  sim_run as _ st _ (inv_init cap) (sim_init cap) h

end Mux
