import Model.Compress
import Proofs.Bytes
/-! The finished frame as `header ‖ be32 |payload| ‖ payload`: `build` as a function of the body and of what the
    compressor answers (`build_eq`, `Built`); the reader's side for frames of any writer (`readFrame_eq`,
    `decode_of_header`). -/
namespace Compress

theorem readBE32_eq (a b c d : UInt8) : readBE32 a b c d = ValueSpec.beNat [a, b, c, d] := by
  rw [BE.beNat_four, readBE32]; omega

theorem readBE32_be32 (n : Nat) (h : n < 4294967296) :
    readBE32 (UInt8.ofNat (n / 16777216)) (UInt8.ofNat (n / 65536)) (UInt8.ofNat (n / 256)) (UInt8.ofNat n) = n := by
  rw [readBE32_eq, BE.beNat_four, BE.four_roundtrip, Nat.mod_eq_of_lt h]

theorem be32_length (n : Nat) : (be32 n).length = 4 := rfl

/-- header without the four length bytes -/
def Framer.hdr5 (f : Framer) (flags op : UInt8) (stream : Int) : Bytes :=
  [f.proto, flags] ++
  (if f.proto > 2 then [byteOfInt (stream / 256), byteOfInt stream] else [byteOfInt stream]) ++ [op]

theorem Framer.hdr5_length (f : Framer) (fl op : UInt8) (s : Int) : (f.hdr5 fl op s).length + 4 = f.headSize := by
  unfold Framer.hdr5 Framer.headSize; split <;> rfl

theorem Framer.headSize_le (f : Framer) : f.headSize ≤ 9 := by unfold Framer.headSize; split <;> omega

theorem Framer.writeHeader_eq (f : Framer) (fl op : UInt8) (s : Int) :
    f.writeHeader fl op s = f.hdr5 fl op s ++ [0, 0, 0, 0] := by
  unfold Framer.writeHeader Framer.hdr5; split <;> rfl

theorem Framer.writeHeader_length (f : Framer) (fl op : UInt8) (s : Int) :
    (f.writeHeader fl op s).length = f.headSize := by
  rw [f.writeHeader_eq, List.length_append]; exact f.hdr5_length fl op s

def Framer.frame (f : Framer) (fl op : UInt8) (s : Int) (payload : Bytes) : Bytes :=
  f.hdr5 fl op s ++ be32 payload.length ++ payload

theorem Framer.frame_length (f : Framer) (fl op : UInt8) (s : Int) (z : Bytes) :
    (f.frame fl op s z).length = f.headSize + z.length := by
  simp only [Framer.frame, List.length_append, be32_length, f.hdr5_length]

theorem Framer.frame_drop (f : Framer) (fl op : UInt8) (s : Int) (z : Bytes) :
    (f.frame fl op s z).drop f.headSize = z :=
  List.drop_left' (by rw [List.length_append, be32_length, f.hdr5_length])

theorem Framer.frame_flag (f : Framer) (fl op : UInt8) (s : Int) (z : Bytes) :
    (f.frame fl op s z).getD 1 0 = fl := rfl

theorem Framer.setLength_buf (f : Framer) (fl op : UInt8) (s : Int) (z : Bytes) (n : Nat) :
    f.setLength (f.writeHeader fl op s ++ z) n = f.hdr5 fl op s ++ be32 n ++ z := by
  simp only [Framer.setLength]
  rw [← f.hdr5_length fl op s, Nat.add_sub_cancel, f.writeHeader_eq, List.append_assoc (f.hdr5 fl op s),
    List.take_left, ← List.append_assoc (f.hdr5 fl op s), List.drop_left' (by simp)]

/-- **`build` as a function of the body and of what Encode answers**: the only facts about the buffer
    `finish` uses are its length, its flags byte and the split at `headSize`. -/
theorem Framer.build_eq (f : Framer) (fl op : UInt8) (s : Int) (body : Bytes) :
    f.build fl op s body =
      if f.headSize + body.length > maxFrameSize then .error .tooBig
      else if fl &&& flagCompress = flagCompress then
        match f.comp with
        | none => .error .panic
        | some c =>
          match c.enc body with
          | .error _ => .error .codec
          | .ok z => if f.headSize + z.length > maxFrameSize then .error .tooBig else .ok (f.frame fl op s z)
      else .ok (f.frame fl op s body) := by
  have hl := f.writeHeader_length fl op s
  have hfl : (f.writeHeader fl op s ++ body).getD 1 0 = fl := by unfold Framer.writeHeader; rfl
  unfold Framer.build Framer.finish
  simp only [hfl, List.length_append, hl, List.take_left' hl, List.drop_left' hl, Nat.add_sub_cancel_left,
    f.setLength_buf, beq_iff_eq, Framer.frame]
  -- both sides now read the same; they differ in the `Decidable` instance of the flag test only
  rfl

/-- everything `build` can answer, each with the reason: the six ways through `finish`
    (`hraw`: the uncompressed buffer is within the limit) -/
inductive Framer.Built (f : Framer) (fl op : UInt8) (s : Int) (body : Bytes) : Except Err Bytes → Prop
  | tooBig (hbig : maxFrameSize < f.headSize + body.length) : Built f fl op s body (.error .tooBig)
  | plain (hraw : f.headSize + body.length ≤ maxFrameSize) (hfl : fl &&& flagCompress ≠ flagCompress) :
      Built f fl op s body (.ok (f.frame fl op s body))
  | panic (hraw : f.headSize + body.length ≤ maxFrameSize) (hfl : fl &&& flagCompress = flagCompress)
      (hc : f.comp = none) : Built f fl op s body (.error .panic)
  | codec (c : Codec) (u : Unit) (hraw : f.headSize + body.length ≤ maxFrameSize)
      (hfl : fl &&& flagCompress = flagCompress) (hc : f.comp = some c) (he : c.enc body = .error u) :
      Built f fl op s body (.error .codec)
  | expanded (c : Codec) (z : Bytes) (hraw : f.headSize + body.length ≤ maxFrameSize)
      (hfl : fl &&& flagCompress = flagCompress) (hc : f.comp = some c) (he : c.enc body = .ok z)
      (hbig : maxFrameSize < f.headSize + z.length) : Built f fl op s body (.error .tooBig)
  | packed (c : Codec) (z : Bytes) (hraw : f.headSize + body.length ≤ maxFrameSize)
      (hfl : fl &&& flagCompress = flagCompress) (hc : f.comp = some c) (he : c.enc body = .ok z)
      (hfit : f.headSize + z.length ≤ maxFrameSize) : Built f fl op s body (.ok (f.frame fl op s z))

theorem Framer.built (f : Framer) (fl op : UInt8) (s : Int) (body : Bytes) :
    f.Built fl op s body (f.build fl op s body) := by
  rw [f.build_eq]
  split
  · exact .tooBig (by omega)
  have hraw : f.headSize + body.length ≤ maxFrameSize := by omega
  split
  · split
    · exact .panic hraw ‹_› ‹_›
    · split
      · exact .codec _ _ hraw ‹_› ‹_› ‹_›
      · split
        · exact .expanded _ _ hraw ‹_› ‹_› ‹_› (by omega)
        · exact .packed _ _ hraw ‹_› ‹_› ‹_› (by omega)
  · exact .plain hraw ‹_›

theorem Framer.builtReq (f : Framer) (r : Req) (s : Int) (body : Bytes) :
    f.Built (r.headerFlags f) r.opcode s body (f.buildReq r s body) := f.built ..

/-- the header a reader sees for a finished frame -/
def Framer.headOf (f : Framer) (fl op : UInt8) (s : Int) (n : Nat) : Head :=
  { version := f.proto, flags := fl,
    stream := if f.proto > 2 then int16Of (byteOfInt (s / 256)) (byteOfInt s) else int8Of (byteOfInt s),
    op := op, length := (n : Int) }

theorem toInt32_small (n : Nat) (h : n < 2147483648) : toInt32 n = (n : Int) := by
  unfold toInt32; split <;> omega

theorem readHeader_v12 (p0 fl s op a b c d : UInt8) (body : Bytes) (h : p0 &&& 0x7f = 1 ∨ p0 &&& 0x7f = 2) :
    readHeader (p0 :: fl :: s :: op :: a :: b :: c :: d :: body) =
      .ok ({ version := p0, flags := fl, stream := int8Of s, op := op, length := toInt32 (readBE32 a b c d) }, body) := by
  rcases h with h | h <;> simp [readHeader, h]

theorem readHeader_v345 (p0 fl s1 s2 op a b c d : UInt8) (body : Bytes)
    (h : p0 &&& 0x7f = 3 ∨ p0 &&& 0x7f = 4 ∨ p0 &&& 0x7f = 5) :
    readHeader (p0 :: fl :: s1 :: s2 :: op :: a :: b :: c :: d :: body) =
      .ok ({ version := p0, flags := fl, stream := int16Of s1 s2, op := op, length := toInt32 (readBE32 a b c d) },
        body) := by
  rcases h with h | h | h <;> simp [readHeader, h]

end Compress
namespace C18
open Compress

/-- protocol versions the reader accepts (frame.go readHeader) -/
def ValidProto (f : Framer) : Prop := f.proto = 1 ∨ f.proto = 2 ∨ f.proto = 3 ∨ f.proto = 4 ∨ f.proto = 5

theorem readHeader_frame_wide (f : Framer) (fl op : UInt8) (s : Int) (payload : Bytes)
    (hv : f.proto = 1 ∨ f.proto = 2 ∨ f.proto = 3 ∨ f.proto = 4 ∨ f.proto = 5)
    (hn : payload.length < 2147483648) :
    readHeader (f.frame fl op s payload) = .ok (f.headOf fl op s payload.length, payload) := by
  have hr := readBE32_be32 payload.length (by omega)
  have ht := toInt32_small _ hn
  by_cases h2 : f.proto > 2 <;>
    simp only [Framer.frame, Framer.hdr5, Framer.headOf, h2, if_true, if_false, be32, List.cons_append, List.nil_append]
  · rw [readHeader_v345 _ _ _ _ _ _ _ _ _ _ (by rcases hv with h | h | h | h | h <;> simp [h] at h2 ⊢ <;> decide), hr, ht]
  · rw [readHeader_v12 _ _ _ _ _ _ _ _ _ (by rcases hv with h | h | h | h | h <;> simp [h] at h2 ⊢ <;> decide), hr, ht]

end C18
namespace Compress
open C18 (ValidProto readHeader_frame_wide)

theorem Framer.readFrame_eq (f : Framer) (h : Head) (r : Bytes)
    (h0 : 0 ≤ h.length) (hmax : h.length ≤ maxFrameSize) (hr : h.length.toNat ≤ r.length) :
    f.readFrame h r =
      if h.flags &&& flagCompress = flagCompress then
        match f.comp with
        | none => .error .noCompressor
        | some c =>
          match c.dec (r.take h.length.toNat) with
          | .error _ => .error .codec
          | .ok b => .ok b
      else .ok (r.take h.length.toNat) := by
  unfold Framer.readFrame
  rw [if_neg (by omega), if_neg (by omega), if_neg (by omega)]
  simp only [beq_iff_eq]
  -- as in `build_eq`: the two sides differ in the `Decidable` instance of the flag test only
  rfl

/-- **`decode` once the header is read and the body is exactly what it declares** — whoever wrote the frame -/
theorem Framer.decode_of_header (f : Framer) (wire : Bytes) (h : Head) (body : Bytes)
    (hh : readHeader wire = .ok (h, body)) (hl : h.length = (body.length : Int)) (hmax : body.length ≤ maxFrameSize) :
    f.decode wire =
      if h.flags &&& flagCompress = flagCompress then
        match f.comp with
        | none => .error .noCompressor
        | some c =>
          match c.dec body with
          | .error _ => .error .codec
          | .ok b => .ok (h, b)
      else .ok (h, body) := by
  unfold Framer.decode
  simp only [hh]
  rw [f.readFrame_eq h body (by omega) (by omega) (by omega), hl, Int.toNat_natCast, List.take_length]
  by_cases hfl : h.flags &&& flagCompress = flagCompress
  · simp only [hfl, if_true]
    cases f.comp with
    | none => rfl
    | some c => cases hd : c.dec body <;> simp only [hd]
  · simp only [hfl, if_false]

theorem Framer.decode_frame (f : Framer) (fl op : UInt8) (s : Int) (p : Bytes)
    (hv : ValidProto f)
    (hp : p.length ≤ maxFrameSize) :
    f.decode (f.frame fl op s p) =
      if fl &&& flagCompress = flagCompress then
        match f.comp with
        | none => .error .noCompressor
        | some c =>
          match c.dec p with
          | .error _ => .error .codec
          | .ok b => .ok (f.headOf fl op s p.length, b)
      else .ok (f.headOf fl op s p.length, p) :=
  f.decode_of_header _ _ p (readHeader_frame_wide f fl op s p hv (by unfold maxFrameSize at hp; omega)) rfl hp

/-- no bound on the frame is asked for: `build` answers none above the limit (`tooBig`, `expanded`) -/
theorem Framer.decode_build (f : Framer) (hv : ValidProto f)
    (fl op : UInt8) (s : Int) (body wire : Bytes) (hb : f.build fl op s body = .ok wire)
    (hc : ∀ c z, f.comp = some c → c.enc body = .ok z → c.dec z = .ok body) :
    f.decode wire = .ok (f.headOf fl op s (wire.length - f.headSize), body) := by
  have hB := f.built fl op s body
  rw [hb] at hB
  cases hB <;> rw [f.frame_length, Nat.add_sub_cancel_left, f.decode_frame fl op s _ hv (by omega)]
  case plain _ hfl => rw [if_neg hfl]
  case packed c z _ hfl hcomp henc _ => simp only [hfl, if_true, hcomp, hc c z hcomp henc]

end Compress
