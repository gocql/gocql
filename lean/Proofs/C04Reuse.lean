/- Typed destinations REUSED across the rows of a page (Model/RowsReuse.lean). The specification's side: the excluded condition
   `sensitive`, and every call of a row decoded on its own (`freshCalls`, `deliver`). Outside the condition a call stores what it
   stores in a fresh destination (`intoBase_fresh`; for a struct: `Masked`, `udt_rel` along the recursion of the mask); the calls
   of a row then decode independently (`applyCalls_fresh`, `applyAll_deliver`), and the typed loops are the recorder loop followed
   by that (`…AllT_of_scanRows`). -/
import Proofs.C04Rows
import Proofs.Common
import Model.RowsReuse
namespace C04
open FrameRead RespSpec Rows RowsReuse Marshal
open ValueSpec (CqlTy)

/-- the excluded condition for destinations WITHOUT parts: an EMPTY (zero-length, non-null) value of an ascii / text /
    varchar / blob column into an unnamed `[]byte` (`*v = append((*v)[:0], data...)`: nil stays nil, non-nil becomes
    empty). (`*[n]T` and structs count as excluded here; `sensitive` below looks into them.) -/
def sensitiveFlat (t : Option CqlTy) (ty : GoTy) (data : Option FrameRead.Bytes) : Bool :=
  match ty with
  | .bytes false =>
    (match t with | some t => textFamily t | none => false) && (match data with | some [] => true | _ => false)
  | .array _ _ => true
  | .struct _ => true
  | .udtstruct _ _ => true
  | _ => false

theorem withPtr_base (f : GoTy → Option FrameRead.Bytes → URes) (ty : GoTy) (data : Option FrameRead.Bytes)
    (h : ∀ t, ty ≠ .ptr t) : withPtr f ty data = f ty data := by
  cases ty <;> simp_all [withPtr, stripPtr]

/-- outside the excluded condition a call on a destination that holds ANY value stores what the same call stores
    in a fresh zero value -/
theorem intoBase_fresh_flat (p : Nat) (t : CqlTy) (ty : GoTy) (data : Option FrameRead.Bytes) (prev : GoVal)
    (h : sensitiveFlat (some t) ty data = false) : intoBase p t ty data prev = unmarshal p t ty data := by
  unfold unmarshal
  cases ty with
  | ptr g => unfold intoBase; rfl
  | bytes named =>
    rw [withPtr_base _ _ _ (by intro t h; cases h)]
    unfold intoBase
    cases named with
    | true => rfl
    | false =>
      simp only [sensitiveFlat, Bool.and_eq_false_iff] at h
      by_cases htf : textFamily t = true
      · simp only [htf, if_true]
        rcases h with h | h
        · simp [htf] at h
        · cases data with
          | none => rfl
          | some d => cases d with
            | nil => simp at h
            | cons a b => rfl
      · simp [htf]
  | array n g => simp [sensitiveFlat] at h
  | struct gs => simp [sensitiveFlat] at h
  | udtstruct ns gs => simp [sensitiveFlat] at h
  | _ => rw [withPtr_base _ _ _ (by intro t h; cases h)]; unfold intoBase; rfl

/-- Go destination types whose Unmarshal never looks at what the destination holds, whatever the column and the
    cell: everything except the unnamed `[]byte` (empty cells) and the in-place composites -/
def statelessTy : GoTy → Bool
  | .bytes false => false
  | .array _ _ => false
  | .struct _ => false
  | .udtstruct _ _ => false
  | _ => true

theorem sensitiveFlat_of_stateless (t : Option CqlTy) (ty : GoTy) (data : Option FrameRead.Bytes)
    (hs : statelessTy ty = true) : sensitiveFlat t ty data = false := by
  cases ty with
  | bytes named => cases named with
    | false => cases hs
    | true => rfl
  | array _ _ => cases hs
  | struct _ => cases hs
  | udtstruct _ _ => cases hs
  | _ => rfl

/-- which struct fields the reset of the missing fields (`zeroRest`: the value's data is used up before the type's
    fields are — repair of KF-C04-7) writes. `wrote`: the fields the value itself has written.
    `none`: a field the value has written is reset again (the type names the same struct field twice): C12's decode
    model of a FRESH struct (Marshal.unmarshalUdtStruct), where the reset is otherwise a no-op, does not describe it -/
def zeroMask (fnames : List String) (gs : List GoTy) (wrote : List Bool) : List String → List CqlTy → List Bool → Option (List Bool)
  | name :: names, _ :: ts, mask =>
    (match lookupIdx name fnames 0 with
     | none => zeroMask fnames gs wrote names ts mask
     | some i => (match gs[i]? with
       | none => zeroMask fnames gs wrote names ts mask
       | some _ => if wrote[i]? = some true then none else zeroMask fnames gs wrote names ts (mask.set i true)))
  | _, _, mask => some mask

/-- which struct fields a UDT value determines (the loop of unmarshalUDT without the decoding): the fields its own
    fields write, and — a value with fewer fields than the type — the fields the reset of the missing fields writes;
    `none`: a written field falls under the flat excluded condition -/
def udtMask (fnames : List String) (gs : List GoTy) : List String → List CqlTy → FrameRead.Bytes → List Bool → Option (List Bool)
  | name :: names, t :: ts, data, mask =>
    if data = [] then zeroMask fnames gs mask (name :: names) (t :: ts) mask
    else if ValueSpec.shorter data 4 then some mask
    else (match readBytesM data with
     | none => some mask
     | some (item, r) =>
       (match lookupIdx name fnames 0 with
        | none => udtMask fnames gs names ts r mask
        | some i => (match gs[i]? with
          | none => udtMask fnames gs names ts r mask
          | some g => if sensitiveFlat (some t) g item then none else udtMask fnames gs names ts r (mask.set i true))))
  | _, _, _, mask => some mask

/-- a UDT value into a struct that holds another row's value: excluded unless the value is null / empty (the struct
    is reset) or EVERY FIELD OF THE STRUCT IS NAMED BY A FIELD OF THE TYPE the loop reaches — written from the value,
    or reset because the value carries fewer fields than the type (KF-C04-7 repaired: a short value is inside
    the claim) — and no written field is an empty text-family value into a `[]byte` field (KF-C04-6) / a nested
    in-place composite. What stays excluded besides KF-C04-6 is not a finding: a struct field that NO field of the
    column's type names is the application's own field, a non-empty value never touches it (fresh struct: zero). -/
def udtSens (names : List String) (ts : List CqlTy) (fnames : List String) (gs : List GoTy) (data : Option FrameRead.Bytes) : Bool :=
  if dataBytes data = [] then false
  else match udtMask fnames gs names ts (dataBytes data) (List.replicate gs.length false) with
    | none => true
    | some m => !(m.all id)

/-- a list / set into `[n]T`: every element is overwritten; excluded when the element type is itself excluded for
    some value (`[n][]byte` of a text-family element type, nested arrays / structs) -/
def arrSens (et : CqlTy) (g : GoTy) : Bool :=
  !(statelessTy g || (match g with | .bytes false => !textFamily et | _ => false))

/-- THE EXCLUDED CONDITION of the `C04_rows_independent…_partial` theorems: the (column type, Go type, data) for
    which what `Unmarshal(info, data, &x)` leaves in `x` depends on what `x` held before. -/
def sensitive (t : Option CqlTy) (ty : GoTy) (data : Option FrameRead.Bytes) : Bool :=
  match ty with
  | .udtstruct fnames gs => (match t with | some (.udt names ts) => udtSens names ts fnames gs data | _ => true)
  | .struct gs => (match t with | some (.udt names ts) => udtSens names ts [] gs data | _ => true)
  | .array _ g => (match t with | some (.list et) => arrSens et g | some (.set et) => arrSens et g | _ => true)
  | _ => sensitiveFlat t ty data

theorem sensitive_of_stateless (t : Option CqlTy) (ty : GoTy) (data : Option FrameRead.Bytes)
    (hs : statelessTy ty = true) : sensitive t ty data = false := by
  rw [← sensitiveFlat_of_stateless t ty data hs]
  cases ty with
  | array _ _ => cases hs
  | struct _ => cases hs
  | udtstruct _ _ => cases hs
  | _ => rfl

/-- the outcomes `a` (unmarshalUDT's field loop in place, on a reused struct) and `b` (C12's model of the loop on a
    fresh struct) are of the same kind, and two results — `L` fields each — agree on every field that `m'` marks as
    written -/
def URel (L : Nat) (a b : LRes (List GoVal)) (m' : List Bool) : Prop :=
  match a, b with
  | .ok r1 _, .ok r2 _ => r1.length = L ∧ r2.length = L ∧ m'.length = L ∧ ∀ j : Nat, m'[j]? = some true → r1[j]? = r2[j]?
  | .err, .err => True
  | .crash, .crash => True
  | .unmodelled, .unmodelled => True
  | _, _ => False

theorem getElem?_false_of_ne_true (l : List Bool) (i : Nat) (hi : i < l.length) (h : l[i]? ≠ some true) :
    l[i]? = some false := by
  rw [List.getElem?_eq_getElem hi] at h ⊢
  cases hb : l[i] with
  | false => rfl
  | true => rw [hb] at h; exact absurd rfl h

theorem getElem?_true_of_all (m : List Bool) (h : m.all id = true) (j : Nat) (hj : j < m.length) :
    m[j]? = some true := by
  rw [List.getElem?_eq_getElem hj]
  exact congrArg some (List.all_eq_true.mp h m[j] (List.getElem_mem hj))

/-- two lists that agree wherever the mask is set still do after the left one is written at `i`, `i` is marked, and the right one
    (`b'`: `b` itself, or `b` written likewise) holds the written value there -/
theorem agree_set {m : List Bool} {a b b' : List GoVal} {i : Nat} {v : GoVal}
    (h : ∀ j : Nat, m[j]? = some true → a[j]? = b[j]?) (hi : i < a.length) (hv : b'[i]? = some v)
    (hb : ∀ j, j ≠ i → b'[j]? = b[j]?) : ∀ j : Nat, (m.set i true)[j]? = some true → (a.set i v)[j]? = b'[j]? := by
  intro j hj
  rcases getElem?_set_cases hj with ⟨rfl, _⟩ | ⟨hij, hm⟩
  · rw [hv, List.getElem?_set_self hi]
  · rw [List.getElem?_set_ne hij, hb j (Ne.symm hij)]; exact h j hm

theorem zeroOfs_eq_map (gs : List GoTy) : zeroOfs gs = gs.map zeroOf := by
  induction gs with
  | nil => simp [zeroOfs]
  | cons g gs ih => simp [zeroOfs, ih]

theorem zeroOfs_length (gs : List GoTy) : (zeroOfs gs).length = gs.length := by
  rw [zeroOfs_eq_map, List.length_map]

theorem fit_length (n : Nat) (l : List GoVal) : (fit n l).length = n := by
  simp [fit]

theorem zeroOfs_getElem? (gs : List GoTy) (i : Nat) (g : GoTy) (h : gs[i]? = some g) :
    (zeroOfs gs)[i]? = some (zeroOf g) := by
  rw [zeroOfs_eq_map, List.getElem?_map, h]; rfl

/-- the reset of the missing fields on the reused struct `acc1` against the untouched fresh struct `acc2` (which
    still holds zero values wherever the value wrote nothing): they agree on every field `m'` marks -/
theorem zero_rel (fnames : List String) (gs : List GoTy) (wrote : List Bool) (acc2 : List GoVal)
    (hw : wrote.length = gs.length)
    (h5 : ∀ j : Nat, wrote[j]? = some false → acc2[j]? = (zeroOfs gs)[j]?) :
    ∀ (names : List String) (ts : List CqlTy) (acc1 : List GoVal) (mask m' : List Bool),
    acc1.length = gs.length → mask.length = gs.length →
    (∀ j : Nat, mask[j]? = some true → acc1[j]? = acc2[j]?) →
    zeroMask fnames gs wrote names ts mask = some m' →
    (zeroRest fnames gs names ts acc1).length = gs.length ∧ m'.length = gs.length ∧
      ∀ j : Nat, m'[j]? = some true → (zeroRest fnames gs names ts acc1)[j]? = acc2[j]? := by
  intro names ts acc1 mask m' h1 h3 h4 hm
  -- along the recursion of `zeroMask`, which is that of `zeroRest`
  fun_induction zeroMask fnames gs wrote names ts mask generalizing acc1
  case case1 hl ih => rw [zeroRest]; simp only [hl]; exact ih acc1 h1 h3 h4 hm
  case case2 i hl hg ih => rw [zeroRest]; simp only [hl, hg]; exact ih acc1 h1 h3 h4 hm
  case case3 => cases hm
  case case4 i hl g hg hwi ih =>
    have hi : i < gs.length := (List.getElem?_eq_some_iff.mp hg).1
    have hz : acc2[i]? = some (zeroOf g) := by
      rw [h5 i (getElem?_false_of_ne_true wrote i (by omega) hwi)]; exact zeroOfs_getElem? gs i g hg
    rw [zeroRest]; simp only [hl, hg]
    exact ih (acc1.set i (zeroOf g)) (by simp [h1]) (by simp [h3]) (agree_set h4 (h1 ▸ hi) hz fun _ _ => rfl) hm
  case case5 hne =>
    cases hm
    -- the catch-all equation of `zeroRest` asks that no earlier pattern matches: those side goals are `hne`
    rw [zeroRest] <;> first | exact hne | exact ⟨h1, h3, h4⟩

/-- the reused struct `a` and the fresh struct `b` under the mask of the fields written so far: they agree where it is set,
    and the fresh one still holds the zero value where it is not -/
structure Masked (gs : List GoTy) (mask : List Bool) (a b : List GoVal) : Prop where
  la : a.length = gs.length
  lb : b.length = gs.length
  lm : mask.length = gs.length
  agree : ∀ j : Nat, mask[j]? = some true → a[j]? = b[j]?
  zero : ∀ j : Nat, mask[j]? = some false → b[j]? = (zeroOfs gs)[j]?

/-- a field written with the same value on both sides -/
theorem Masked.write {gs : List GoTy} {mask : List Bool} {a b : List GoVal} (h : Masked gs mask a b) {i : Nat}
    (hi : i < gs.length) (v : GoVal) : Masked gs (mask.set i true) (a.set i v) (b.set i v) where
  la := by simp [h.la]
  lb := by simp [h.lb]
  lm := by simp [h.lm]
  agree := agree_set h.agree (h.la ▸ hi) (List.getElem?_set_self (h.lb ▸ hi)) fun j hj => List.getElem?_set_ne (Ne.symm hj)
  zero j hj := by
    rcases getElem?_set_cases hj with ⟨_, hb⟩ | ⟨hij, hm⟩
    · cases hb
    · rw [List.getElem?_set_ne hij]; exact h.zero j hm

/-- the field loop on the reused struct against C12's loop on the fresh one, along the recursion of `udtMask` (which is theirs) -/
theorem udt_rel (p : Nat) (fnames : List String) (gs : List GoTy)
    (names : List String) (ts : List CqlTy) (data : FrameRead.Bytes) (acc1 acc2 : List GoVal) (mask m' : List Bool)
    (hM : Masked gs mask acc1 acc2) (hm : udtMask fnames gs names ts data mask = some m') :
    URel gs.length (udtInto p names ts fnames gs data acc1) (unmarshalUdtStruct p names ts fnames gs data acc2) m' := by
  fun_induction udtMask fnames gs names ts data mask generalizing acc1 acc2
  case case1 name names t ts mask =>
    rw [udtInto, unmarshalUdtStruct]
    obtain ⟨z1, z2, z3⟩ := zero_rel fnames gs mask acc2 hM.lm hM.zero (name :: names) (t :: ts) acc1 mask m' hM.la hM.lm hM.agree hm
    exact ⟨z1, hM.lb, z2, z3⟩
  case case2 hd hs => rw [udtInto, unmarshalUdtStruct]; simp only [hd, hs, if_false, if_true, URel]
  case case3 hd hs hr => rw [udtInto, unmarshalUdtStruct]; simp only [hd, hs, hr, if_false, Bool.false_eq_true, URel]
  case case4 hd hs item r hr hl ih =>
    rw [udtInto, unmarshalUdtStruct]
    simp only [hd, hs, hr, hl, if_false, Bool.false_eq_true]
    exact ih acc1 acc2 hM hm
  case case5 hd hs item r hr i hl hg ih =>
    rw [udtInto, unmarshalUdtStruct]
    simp only [hd, hs, hr, hl, hg, if_false, Bool.false_eq_true]
    exact ih acc1 acc2 hM hm
  case case6 => cases hm
  case case7 t _ _ _ hd hs item r hr i hl g hg hsens ih =>
    -- the field is written: the call does not look at what the field holds, both structs receive the same value
    rw [udtInto, unmarshalUdtStruct]
    simp only [hd, hs, hr, hl, hg, if_false, Bool.false_eq_true,
      intoBase_fresh_flat p t g item (acc1.getD i .nil) (by simpa using hsens), unmarshal]
    cases withPtr (unmarshalBase p t) g item with
    | ok v => exact ih _ _ (hM.write (List.getElem?_eq_some_iff.mp hg).1 v) hm
    | _ => trivial
  case case8 hne =>
    cases hm
    -- as in `zero_rel`: the side goals of the catch-all equations are `hne`
    rw [udtInto, unmarshalUdtStruct] <;> first | exact hne | exact ⟨hM.la, hM.lb, hM.lm, hM.agree⟩

/-- when the value determines every field of the struct (written, or reset as missing), the struct's earlier contents
    do not matter -/
theorem udt_fresh (p : Nat) (names : List String) (ts : List CqlTy) (fnames : List String) (gs : List GoTy)
    (data : FrameRead.Bytes) (prevs : List GoVal) (k : List GoVal → GoVal) (m' : List Bool)
    (hm : udtMask fnames gs names ts data (List.replicate gs.length false) = some m') (hall : m'.all id = true) :
    (match udtInto p names ts fnames gs data (fit gs.length prevs) with
      | .ok vs _ => URes.ok (k vs) | .err => .err | .crash => .crash | .unmodelled => .unmodelled)
    = (match unmarshalUdtStruct p names ts fnames gs data (zeroOfs gs) with
      | .ok vs _ => URes.ok (k vs) | .err => .err | .crash => .crash | .unmodelled => .unmodelled) := by
  have hrel := udt_rel p fnames gs names ts data (fit gs.length prevs) (zeroOfs gs) (List.replicate gs.length false) m'
    ⟨fit_length _ _, zeroOfs_length gs, by simp,
      by intro j hj; rw [List.getElem?_replicate] at hj; split at hj <;> simp at hj, fun _ _ => rfl⟩ hm
  revert hrel
  -- of the sixteen pairs of outcomes `URel` leaves the like ones; only two successes say more than `True`
  rcases udtInto p names ts fnames gs data (fit gs.length prevs) with ⟨r1, _⟩ | _ | _ | _ <;>
    rcases unmarshalUdtStruct p names ts fnames gs data (zeroOfs gs) with ⟨r2, _⟩ | _ | _ | _ <;> simp [URel]
  intro l1 l2 l3 hj
  congr 1
  apply List.ext_getElem?
  intro j
  by_cases hjl : j < gs.length
  · exact hj j (getElem?_true_of_all m' hall j (by omega))
  · have a1 : r1[j]? = none := by simp; omega
    have a2 : r2[j]? = none := by simp; omega
    rw [a1, a2]

/-- the element loop on an array whose element calls never look at the element they replace -/
theorem elemsInto_eq (p : Nat) (f : Option FrameRead.Bytes → GoVal → URes) (g' : Option FrameRead.Bytes → URes)
    (h : ∀ item prev, f item prev = g' item) :
    ∀ (n : Nat) (b : FrameRead.Bytes) (prevs : List GoVal), elemsInto p f n b prevs = unmarshalElems p g' n b := by
  intro n
  induction n with
  | zero => intro b prevs; rfl
  | succ n ih =>
    intro b prevs
    simp only [elemsInto, unmarshalElems]
    cases readCollItem p b with
    | none => rfl
    | some ir =>
      obtain ⟨item, r⟩ := ir
      simp only [h, ih]
      cases g' item with
      | ok v => simp only []; cases unmarshalElems p g' n r <;> rfl
      | _ => rfl

/-- an element type that does not exclude the array excludes no element value -/
theorem sensitiveFlat_of_arrSens {et : CqlTy} {g : GoTy} (he : arrSens et g = false) (item : Option FrameRead.Bytes) :
    sensitiveFlat (some et) g item = false := by
  simp only [arrSens, Bool.not_eq_false', Bool.or_eq_true] at he
  rcases he with he | he
  · exact sensitiveFlat_of_stateless _ g item he
  · cases g with
    | bytes named => cases named <;> simp_all [sensitiveFlat]
    | _ => simp at he

/-- the same for destinations with parts (a struct, `[n]T`) -/
theorem intoBase_fresh (p : Nat) (t : CqlTy) (ty : GoTy) (data : Option FrameRead.Bytes) (prev : GoVal)
    (h : sensitive (some t) ty data = false) : intoBase p t ty data prev = unmarshal p t ty data := by
  cases ty with
  | udtstruct _ gs | struct gs =>
    cases t with
    | udt names ts =>
      unfold unmarshal
      rw [withPtr_base _ _ _ (by intro t h; cases h)]
      unfold intoBase
      simp only [unmarshalBase]
      simp only [sensitive] at h
      revert h
      fun_cases udtSens names ts _ gs data <;> intro h
      · simp [*]
      · cases h
      case case3 hd m' hm =>
        simp only [hd, if_false]
        exact udt_fresh p names ts _ gs (dataBytes data) (partsOf prev) _ m' hm (by simpa using h)
    | _ => simp [sensitive] at h
  | array len g =>
    unfold unmarshal
    rw [withPtr_base _ _ _ (by intro t h; cases h)]
    cases t with
    | list et | set et =>
      have he : arrSens et g = false := by simpa [sensitive] using h
      unfold intoBase
      cases data with
      | none => rfl
      | some d =>
        simp only [unmarshalBase, unmarshalListTo]
        cases readCollSize p d with
        | none => rfl
        | some nr =>
          obtain ⟨n, r⟩ := nr
          simp only [elemsInto_eq p _ (withPtr (unmarshalBase p et) g) fun item prev =>
            intoBase_fresh_flat p et g item prev (sensitiveFlat_of_arrSens he item)]
          split
          · rfl
          · cases unmarshalElems p (withPtr (unmarshalBase p et) g) n.toNat r <;> rfl
    | _ => simp [sensitive] at h
  | _ => exact intoBase_fresh_flat p t _ data prev (by simpa [sensitive] using h)

theorem unmarshalInto_fresh (p : Nat) (t : Option CqlTy) (ty : GoTy) (data : Option FrameRead.Bytes) (prev : GoVal)
    (h : sensitive t ty data = false) : unmarshalInto p t ty data prev = unmarshalFresh p t ty data := by
  cases t with
  | none => rfl
  | some t => exact intoBase_fresh p t ty data prev h

/-! ## the specification: every call of a row decoded on its own -/

inductive FreshRow
  | ok (vals : List GoVal)    -- every cell decodes: the values the row stands for
  | err                       -- some cell does not decode into its destination's type: Unmarshal returns an error
  | bad                       -- outside the decode model (`unmodelled`) or a panic
deriving Repr

/-- the calls of a row, each decoded into a FRESH zero value of its destination's Go type (C12's decode model);
    the first call that does not decode decides -/
def freshCalls (p : Nat) (tys : List GoTy) : List Call → FreshRow
  | [] => .ok []
  | c :: cs =>
    match tys[c.dest]? with
    | none => .bad
    | some ty =>
      match unmarshalFresh p (cqlOf c.typ) ty c.data with
      | .ok v => (match freshCalls p tys cs with
          | .ok vs => .ok (v :: vs)
          | o => o)
      | .err => .err
      | _ => .bad

/-- no call of the row falls under the excluded condition -/
def insensitive (tys : List GoTy) (calls : List Call) : Bool :=
  calls.all (fun c => match tys[c.dest]? with
    | some ty => !sensitive (cqlOf c.typ) ty c.data
    | none => true)

/-- the calls of a row go to consecutive destinations, each exactly once: applied to destinations holding ANY
    values (`done ++ restv`) they leave exactly the fresh decodes, or stop at the first cell that does not decode -/
theorem applyCalls_fresh (p : Nat) (tys : List GoTy) (calls : List Call) (done restv : List GoVal)
    (hd : calls.map (·.dest) = List.range' done.length calls.length)
    (hl : done.length + restv.length = tys.length) (hr : restv.length = calls.length)
    (hins : insensitive tys calls = true) :
    match freshCalls p tys calls with
    | .ok vs => applyCalls p tys calls (done ++ restv) = .ok (done ++ vs)
    | .err => ∃ v', applyCalls p tys calls (done ++ restv) = .err v'
    | .bad => applyCalls p tys calls (done ++ restv) = .crash ∨ applyCalls p tys calls (done ++ restv) = .unmodelled := by
  induction calls generalizing done restv with
  | nil =>
    have : restv = [] := by simpa using hr
    subst this
    simp [freshCalls, applyCalls]
  | cons c cs ih =>
    simp only [List.map_cons, List.length_cons, List.range'_succ, List.cons.injEq] at hd
    obtain ⟨hc, hcs⟩ := hd
    cases restv with
    | nil => simp at hr
    | cons v0 restv' =>
      simp only [List.length_cons] at hl hr
      have hlt : done.length < tys.length := by omega
      obtain ⟨ty, hty⟩ : ∃ ty, tys[c.dest]? = some ty := by
        rw [hc]; exact ⟨tys[done.length], by simp [hlt]⟩
      have hv : (done ++ v0 :: restv')[c.dest]? = some v0 := by
        rw [hc]; simp
      have hins' : sensitive (cqlOf c.typ) ty c.data = false ∧ insensitive tys cs = true := by
        simpa [insensitive, hty] using hins
      have hinto := unmarshalInto_fresh p (cqlOf c.typ) ty c.data v0 hins'.1
      simp only [freshCalls, applyCalls, applyCall, hty, hv, hinto]
      cases hres : unmarshalFresh p (cqlOf c.typ) ty c.data with
      | ok v =>
        have hset : (done ++ v0 :: restv').set c.dest v = (done ++ [v]) ++ restv' := by
          rw [hc]; simp
        simp only [hset]
        have := ih (done ++ [v]) restv' (by simpa using hcs) (by simp; omega) (by omega) hins'.2
        cases hf : freshCalls p tys cs <;> rw [hf] at this <;> simpa using this
      | err => exact ⟨_, rfl⟩
      | crash => exact Or.inl rfl
      | unmodelled => exact Or.inr rfl

theorem applyCalls_length (p : Nat) (tys : List GoTy) (cs : List Call) (v w : List GoVal)
    (h : applyCalls p tys cs v = .ok w) : w.length = v.length := by
  revert h
  fun_induction applyCalls p tys cs v <;> intro h
  case case1 => cases h; rfl
  case case2 c cs v v1 hc ih =>
    revert hc
    fun_cases applyCall p tys v c <;> intro hc <;> cases hc
    simpa using ih h
  case case3 hne => exact (hne w h).elim

/-! ## the loop `for iter.Scan(&x0, &x1, …) { … }` -/

/-- successive Iter.Scan calls with the SAME typed destinations: the destinations' values after every row that was
    delivered, and the iterator when Scan returned false; `none`: a panic / outside the decode model -/
def scanAllT (p : Nat) (tys : List GoTy) : Nat → Iter → List GoVal → Option (List (List GoVal) × Iter)
  | 0, it, _ => some ([], it)
  | n + 1, it, vals =>
    match scanT p it tys vals with
    | .row it' vals' =>
      (match scanAllT p tys n it' vals' with
       | some (l, it'') => some (vals' :: l, it'')
       | none => none)
    | .stop it' _ => some ([], it')
    | _ => none

/-- the specification of a page read into typed destinations: every row's cells decoded on their own, up to the
    first row with a cell that does not decode (`true`: there was one) -/
def deliver (p : Nat) (tys : List GoTy) : List (List Call) → Option (List (List GoVal) × Bool)
  | [] => some ([], false)
  | calls :: more =>
    match freshCalls p tys calls with
    | .bad => none
    | .err => some ([], true)
    | .ok vals => (deliver p tys more).map (fun lf => (vals :: lf.1, lf.2))

/-- the calls of successive rows applied to the SAME typed destinations: the destinations' values after every row, up to
    the first row with a call that returns an error (`true`: there was one); `none`: a panic / outside the decode model -/
def applyAll (p : Nat) (tys : List GoTy) : List (List Call) → List GoVal → Option (List (List GoVal) × Bool)
  | [], _ => some ([], false)
  | calls :: more, vals =>
    match applyCalls p tys calls vals with
    | .ok vals' => (applyAll p tys more vals').map (fun lf => (vals' :: lf.1, lf.2))
    | .err _ => some ([], true)
    | _ => none

/-- rows are independent: when the calls of every row go to all the destinations in order and none falls under the excluded
    condition, what the destinations held before a row does not matter -/
theorem applyAll_deliver (p : Nat) (tys : List GoTy) : ∀ (callss : List (List Call)) (vals : List GoVal),
    vals.length = tys.length →
    (∀ calls ∈ callss, calls.map (·.dest) = List.range' 0 tys.length ∧ insensitive tys calls = true) →
    applyAll p tys callss vals = deliver p tys callss
  | [], _, _, _ => rfl
  | calls :: more, vals, hv, hall => by
    obtain ⟨hd, hins⟩ := hall calls (by simp)
    have hlen : calls.length = tys.length := by simpa using congrArg List.length hd
    have h := applyCalls_fresh p tys calls [] vals (by rw [hlen]; exact hd) (by simpa using hv) (hv.trans hlen.symm) hins
    simp only [List.nil_append] at h
    simp only [applyAll, deliver]
    cases hfc : freshCalls p tys calls with
    | ok vs =>
      rw [hfc] at h
      simp only [h]
      rw [applyAll_deliver p tys more vs ((applyCalls_length p tys _ _ _ h).trans hv) (fun c hc => hall c (by simp [hc]))]
    | err =>
      rw [hfc] at h
      obtain ⟨v', h⟩ := h
      simp only [h]
    | bad =>
      rw [hfc] at h
      rcases h with h | h <;> simp only [h]

/-- the recorder's view of a well-formed page read into as many destinations as `tys`: the calls of its rows, each row's going
    to all the destinations in order -/
theorem page_calls (m : Meta) (rs : List (List Cell)) (tys : List GoTy)
    (hcols : ∀ n g, m.cols ≠ .omitted n g) (hw : wfRowsP (colTypes m.cols) rs = true)
    (hW : totalWidth (colTypes m.cols) = tys.length)
    (hins : ∀ row ∈ typedRowsP (colTypes m.cols) rs, insensitive tys (rowCalls 0 row) = true) :
    let it := iterOf (viewMeta m) rs.length (eRows rs)
    scanRows (tys.map (fun _ => true)) rs.length it
        = some ((typedRowsP (colTypes m.cols) rs).map (rowCalls 0), { it with pos := rs.length, buf := [] }) ∧
      ∀ calls ∈ (typedRowsP (colTypes m.cols) rs).map (rowCalls 0),
        calls.map (·.dest) = List.range' 0 tys.length ∧ insensitive tys calls = true := by
  intro it
  have hat := atRows_view m rs hcols hw
  refine ⟨by rw [List.map_const', ← hW]; exact page_scanRows (viewMeta m) m.cols rs hcols hw rfl rfl, fun calls hc => ?_⟩
  obtain ⟨row, hr, rfl⟩ := List.mem_map.mp hc
  obtain ⟨r0, hr0, rfl⟩ := List.mem_map.mp hr
  exact ⟨by rw [rowCalls_dest, hat.zip_fst hr0, hW], hins _ hr⟩

/-- the Scan loop over typed destinations is the recorder's loop followed by the typed application of its calls -/
theorem scanAllT_of_scanRows (p : Nat) (tys : List GoTy) : ∀ (n : Nat) (it it' : Iter) (callss : List (List Call)) (vals : List GoVal),
    scanRows (tys.map (fun _ => true)) n it = some (callss, it') →
    scan it' (tys.map (fun _ => true)) = .stop it' [] → it'.failed = false →
    (scanAllT p tys (n + 1) it vals).map (fun r => (r.1, r.2.failed, r.2.pos))
      = (applyAll p tys callss vals).map (fun lf => (lf.1, lf.2, it.pos + (lf.1.length : Int)))
  | 0, it, it', callss, vals, h, hend, hf => by
    obtain ⟨rfl, rfl⟩ := scanRows_zero h
    simp [scanAllT, scanT, hend, applyCalls, applyAll, hf]
  | n + 1, it, it', callss, vals, h, hend, hf => by
    obtain ⟨it1, calls, cs1, hsc, hr, rfl⟩ := scanRows_succ h
    rw [scanAllT]
    simp only [scanT, hsc, applyAll]
    cases applyCalls p tys calls vals with
    | ok vals' =>
      have ih := scanAllT_of_scanRows p tys n it1 it' cs1 vals' hr hend hf
      have hp := (scan_row_next hsc).1
      cases ha : scanAllT p tys (n + 1) it1 vals' <;> cases hb : applyAll p tys cs1 vals' <;> simp [ha, hb] at ih ⊢
      exact ⟨ih.1, ih.2.1, by omega⟩
    | err v => simp
    | crash => simp
    | unmodelled => simp

/-! ## the Scanner: `for sc.Next() { sc.Scan(&x0, &x1, …) }` -/

/-- the Scanner loop with the SAME typed destinations: the values after every row delivered, did a Scan return an
    error, the Scanner at the end; `none`: a panic / outside the decode model -/
def scannerAllT (p : Nat) (tys : List GoTy) : Nat → Scanner → List GoVal → Option (List (List GoVal) × Bool × Scanner)
  | 0, s, _ => some ([], false, s)
  | n + 1, s, vals =>
    match s.next with
    | .ok (s1, true) =>
      (match scannerScanT p s1 tys vals with
       | .ok s2 vals' =>
         (match scannerAllT p tys n s2 vals' with
          | some (l, e, s3) => some (vals' :: l, e, s3)
          | none => none)
       | .error s2 _ => some ([], true, s2)
       | _ => none)
    | .ok (s1, false) => some ([], false, s1)
    | _ => none

theorem scannerAllT_of_scanRows (p : Nat) (tys : List GoTy) : ∀ (n : Nat) (it it' : Iter) (callss : List (List Call))
    (vals : List GoVal) (s : Scanner), s.it = it → s.cols.length = it.md.columns.length →
    scanRows (tys.map (fun _ => true)) n it = some (callss, it') → it'.failed = false → it'.pos = it'.numRows →
    (scannerAllT p tys (n + 1) s vals).map (fun r => (r.1, r.2.1, r.2.2.it.failed))
      = (applyAll p tys callss vals).map (fun lf => (lf.1, lf.2, false))
  | 0, it, it', callss, vals, s, hs, hc, h, hf, hp => by
    obtain ⟨rfl, rfl⟩ := scanRows_zero h
    subst hs
    simp [scannerAllT, scanner_end s hf hp, applyAll, hf]
  | n + 1, it, it', callss, vals, s, hs, hc, h, hf, hp => by
    obtain ⟨sit, scols, svalid⟩ := s
    subst hs
    obtain ⟨it1, calls, cs1, hsc, hr, rfl⟩ := scanRows_succ h
    obtain ⟨cells, hcl, hmd, hnext, hscan⟩ := scanner_of_scan hsc scols svalid hc
    rw [scannerAllT]
    simp only [hnext, scannerScanT, hscan, applyAll]
    cases applyCalls p tys calls vals with
    | ok vals' =>
      have ih := scannerAllT_of_scanRows p tys n it1 it' cs1 vals' ⟨it1, cells, false⟩ rfl (by rw [hmd]; exact hcl) hr hf hp
      cases ha : scannerAllT p tys (n + 1) ⟨it1, cells, false⟩ vals' <;> cases hb : applyAll p tys cs1 vals' <;>
        simp [ha, hb] at ih ⊢
      exact ih
    | err v => simp [(scan_row_next hsc).2.1]
    | crash => simp
    | unmodelled => simp

/-! ## MapScan with pointers to the same variables in a new map per row -/

def mapScanAllT (p : Nat) (tys : List GoTy) : Nat → Iter → List GoVal → Option (List (List GoVal) × Iter)
  | 0, it, _ => some ([], it)
  | n + 1, it, vals =>
    match mapScanT p it tys vals with
    | .row it' vals' =>
      (match mapScanAllT p tys n it' vals' with
       | some (l, it'') => some (vals' :: l, it'')
       | none => none)
    | .stop it' _ => some ([], it')
    | _ => none

theorem scanT_md (p : Nat) (it it' : Iter) (tys : List GoTy) (vals vals' : List GoVal)
    (h : scanT p it tys vals = .row it' vals') : it'.md = it.md := by
  revert h
  fun_cases scanT p it tys vals <;> intro h <;> cases h
  next hs _ => exact (scan_row_next hs).2.2

/-- when RowData names every destination once, the MapScan loop IS the Scan loop -/
theorem mapScanAllT_eq (p : Nat) (tys : List GoTy) (names : List FrameRead.Bytes) (n : Nat) (it : Iter) (vals : List GoVal)
    (hn : rowDataNames it.md.columns = some names) (hl : names.length = tys.length) (hd : names.Nodup) :
    mapScanAllT p tys n it vals = scanAllT p tys n it vals := by
  induction n generalizing it vals with
  | zero => rfl
  | succ n ih =>
    unfold mapScanAllT scanAllT
    by_cases hf : it.failed = true
    · have hs : scan it (tys.map (fun _ => true)) = .stop it [] := by unfold scan; simp [hf]
      simp [mapScanT, hf, scanT, hs, applyCalls]
    · have hf' : it.failed = false := by simpa using hf
      have hm : mapScanT p it tys vals = scanT p it tys vals := by
        simp [mapScanT, hf', hn, hl, hd]
      rw [hm]
      cases hs : scanT p it tys vals with
      | row it' vals' =>
        have hmd := scanT_md p it it' tys vals vals' hs
        dsimp only  -- the `match` on what scanT returned
        rw [ih it' vals' (by rw [hmd]; exact hn)]
      | stop it' v => rfl
      | crash => rfl
      | unmodelled => rfl

theorem insensitive_of_stateless (tys : List GoTy) (h : tys.all statelessTy = true) (calls : List Call) :
    insensitive tys calls = true := by
  simp only [insensitive, List.all_eq_true]
  intro c _
  cases hty : tys[c.dest]? with
  | none => rfl
  | some ty =>
    have hmem : ty ∈ tys := List.mem_of_getElem? hty
    have hs : statelessTy ty = true := (List.all_eq_true.mp h) ty hmem
    simp only [sensitive_of_stateless _ ty _ hs, Bool.not_false]

end C04
