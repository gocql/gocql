import Proofs.C16ViewAgree
/-! the invariant of pass 2 of a refresh (`NewPol`) behind `C16_new_host_in_policy`: after a refresh every host object
that is NEW in the ring (a new node, or the new object of a node whose address changed) is in the policy's host lists —
provided no OTHER accepted reported host has its connect address (the policy lists are keyed by connect address, they cannot hold two hosts on one).
Since refreshRing removes what is gone before it adds anything (repair of KF-C16-4) the previous owner of
the address — a replaced node, a node that moved away in the same report — is no obstacle any more. -/
namespace C16
open Ring ClusterView

/-- no other accepted reported host has the connect address of `s` -/
def OwnConn (env : Env) (reported : List RHost) (s : RHost) : Prop :=
  ∀ y ∈ accepted env reported, y ≠ s → cAddr y ≠ cAddr s

instance (env : Env) (reported : List RHost) (s : RHost) : Decidable (OwnConn env reported s) := by
  unfold OwnConn; infer_instance

/-- `s` is in the policy's lists: in the token-aware list when the policy is token aware, and in the fallback's lists -/
def InPolicy (env : Env) (p : Policy) (s : RHost) : Prop := (env.tokenAware = true → s ∈ p.ta) ∧ (s ∈ p.loc ∨ s ∈ p.rem)

instance (env : Env) (p : Policy) (s : RHost) : Decidable (InPolicy env p s) := by unfold InPolicy; infer_instance

theorem has_iff (env : Env) (p : Policy) (s : RHost) : p.has env s = true ↔ InPolicy env p s := by
  cases h : env.tokenAware <;> simp [Policy.has, InPolicy, h]

theorem mem_cowAdd_self (l : List RHost) (h : RHost) (hl : ∀ y ∈ l, cAddr y ≠ cAddr h) : h ∈ cowAdd l h :=
  (mem_cowAdd l h h).mpr (Or.inr ⟨rfl, hl⟩)

def MatchedC (acc : List RHost) (r : Ring.Ring) : Prop := ∀ e ∈ r.byId, ∃ h ∈ acc, h.id = e.1 ∧ cAddr h = cAddr e.2

theorem inPolicy_add_keep (env : Env) (p : Policy) (h s : RHost) (hs : InPolicy env p s) : InPolicy env (p.add env h) s := by
  refine ⟨fun ht => ?_, ?_⟩
  · rw [add_ta, ht]; exact (mem_cowAdd _ _ _).mpr (Or.inl (hs.1 ht))
  · rw [add_loc, add_rem]
    rcases hs.2 with h1 | h1
    · left; split
      · exact (mem_cowAdd _ _ _).mpr (Or.inl h1)
      · exact h1
    · right; split
      · exact h1
      · exact (mem_cowAdd _ _ _).mpr (Or.inl h1)

theorem inPolicy_add_self (env : Env) (p : Policy) (h : RHost) (hfree : ∀ y ∈ p.all, cAddr y ≠ cAddr h) :
    InPolicy env (p.add env h) h := by
  have hta : ∀ y ∈ p.ta, cAddr y ≠ cAddr h := fun y hy => hfree y ((mem_all _ _).mpr (Or.inl hy))
  have hloc : ∀ y ∈ p.loc, cAddr y ≠ cAddr h := fun y hy => hfree y ((mem_all _ _).mpr (Or.inr (Or.inl hy)))
  have hrem : ∀ y ∈ p.rem, cAddr y ≠ cAddr h := fun y hy => hfree y ((mem_all _ _).mpr (Or.inr (Or.inr hy)))
  refine ⟨fun ht => ?_, ?_⟩
  · rw [add_ta, ht]; exact mem_cowAdd_self _ _ hta
  · rw [add_loc, add_rem]
    cases hl : env.isLocal h with
    | true => left; exact mem_cowAdd_self _ _ hloc
    | false => right; exact mem_cowAdd_self _ _ hrem

/-- invariant of pass 2 of a refresh, `w1` being the view after pass 1: every object stored since then whose
connect address no other accepted reported host has is in the policy's lists -/
structure NewPol (env : Env) (reported : List RHost) (w1 w : View) : Prop where
  agree : Agree env w
  matched : MatchedC (accepted env reported) w.ring
  inpol : ∀ s, lookup w.ring.byId s.id = some s → lookup w1.ring.byId s.id = none → OwnConn env reported s →
    InPolicy env w.pol s

theorem addAllV_newPol (env : Env) (reported : List RHost) (w1 w : View) (hw : NewPol env reported w1 w) :
    NewPol env reported w1 ((accepted env reported).foldl (addStepV env) w) := by
  refine (accepted env reported).foldlRecOn (motive := NewPol env reported w1) _ hw fun w hw h hacc => ?_
  cases hlk : lookup w.ring.byId h.id with
  | some e => rw [addStepV_of_some env w h e hlk]; exact hw
  | none =>
    rw [addStepV_of_none env w h hlk]
    refine ⟨agree_addNew env w h hw.agree hlk, ?_, ?_⟩
    · intro e he
      have he' : e ∈ (w.ring.addIfMissing h).1.byId := he
      rcases (mem_add_new w.ring h hlk e).mp he' with rfl | he'
      · exact ⟨h, hacc, rfl, rfl⟩
      · exact hw.matched e he'
    · intro s hs hnew hown
      have hs' : lookup (w.ring.addIfMissing h).1.byId s.id = some s := hs
      rw [lookup_addIfMissing] at hs'
      show InPolicy env (w.pol.add env h) s
      cases hold : lookup w.ring.byId s.id with
      | some x =>
        rw [hold] at hs'
        cases hs'
        exact inPolicy_add_keep env w.pol h s (hw.inpol s hold hnew hown)
      | none =>
        -- the id was missing: `s` is the host just added
        rw [hold] at hs'
        dsimp only at hs'
        split at hs'
        · cases hs'
          apply inPolicy_add_self
          intro y hy hcy
          have hycur := hw.agree.pol y hy
          obtain ⟨h', hh', hid', hc'⟩ := hw.matched (y.id, y) (find_key_mem hycur)
          by_cases e : h' = h
          · rw [e] at hid'
            have hid2 : h.id = y.id := hid'
            rw [← hid2, hlk] at hycur
            cases hycur
          · exact hown h' hh' e (hc'.trans hcy)
        · cases hs'

theorem cAddr_eq (a b : RHost) (h1 : a.caddr = b.caddr) (h2 : a.addr = b.addr) : cAddr a = cAddr b := by
  unfold cAddr; rw [h1, h2]

theorem refresh_newPol (env : Env) (v : View) (ha : Agree env v) (reported : List RHost) :
    NewPol env reported (removeAllV env v (goneV env v reported)) (v.refresh env reported) := by
  refine addAllV_newPol env reported _ _ ⟨agree_pass1 env v ha reported, ?_, ?_⟩
  · intro e he
    rw [removeAllV_ring] at he
    obtain ⟨y, hy, hid, hc, had⟩ := pass1_matched v.ring ha.sinv.wf ha.sinv.knodup env.filter reported e he
    exact ⟨y, hy, hid, cAddr_eq y e.2 hc had⟩
  · exact fun s hs hn _ => nomatch (hs.symm.trans hn)

end C16
