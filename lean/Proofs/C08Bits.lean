import Model.Streams
import Proofs.Common
import Proofs.Bytes
/-! C08: ids are bits. `mask j` is the word with the one bit of id `j` (`mask_eq`), `bitAt` reads the bit of an id in the bitset,
`setBit` / `clrBit` are the point updates a successful CAS makes (`bitAt_setBit`, `bitAt_clrBit`), and `countBelow p k` counts the
ids below `k` of which `p` holds — the popcount of the bitset for `p = bitAt ws`, which is `countP` over `List.range`
(`countBelow_eq_countP`). What acquiring and releasing an id does to the bits and to the count together: `setBit_view`, `clrBit_view`. -/
namespace C08
open Streams

theorem streamOffset_lt (j : Nat) : streamOffset j < 64 := by unfold streamOffset; omega

theorem mask_eq (j : Nat) : mask j = BitVec.twoPow 64 (streamOffset j) := rfl

theorem mask_getLsbD (j i : Nat) : (mask j).getLsbD i = decide (i = streamOffset j) := by
  rw [mask_eq, BitVec.getLsbD_twoPow, decide_eq_true (streamOffset_lt j), Bool.true_and]
  exact decide_eq_decide.mpr eq_comm

theorem and_mask (b : Word) (j : Nat) : b &&& mask j = if b.getLsbD (streamOffset j) then mask j else 0#64 :=
  BitVec.and_twoPow b _

theorem mask_ne_zero (j : Nat) : mask j ≠ 0#64 := BE.twoPow_ne_zero (streamOffset_lt j)

theorem and_mask_eq_zero (b : Word) (j : Nat) : (b &&& mask j == 0#64) = !b.getLsbD (streamOffset j) :=
  BE.bit_clear b _ (streamOffset_lt j)

def setBit (ws : List Word) (id : Nat) : List Word := ws.set (id / 64) (ws.getD (id / 64) 0 ||| mask id)
def clrBit (ws : List Word) (id : Nat) : List Word := ws.set (id / 64) (ws.getD (id / 64) 0 &&& ~~~ mask id)

/-- the test of `Clear` (`bucket & mask != mask`) reads the bit of `id` -/
theorem clear_test (ws : List Word) (id : Nat) :
    (ws.getD (bucketOffset id) 0 &&& mask id ≠ mask id) ↔ bitAt ws id = false := by
  show _ ↔ (ws.getD (bucketOffset id) 0).getLsbD (streamOffset id) = false
  rw [← BE.bit_set _ _ (streamOffset_lt id), beq_eq_false_iff_ne]; rfl

theorem streamOffset_eq_iff {a b : Nat} (h : a / 64 = b / 64) : streamOffset a = streamOffset b ↔ a = b := by
  unfold streamOffset; omega

theorem bitAt_set (ws : List Word) (p : Nat) (w : Word) (id : Nat) (h : p < ws.length) :
    bitAt (ws.set p w) id = if id / 64 = p then w.getLsbD (streamOffset id) else bitAt ws id := by
  unfold bitAt
  by_cases hp : id / 64 = p
  · subst hp; simp [List.getD_eq_getElem?_getD, h]
  · simp [List.getD_eq_getElem?_getD, hp, Ne.symm hp]

theorem bitAt_setBit (ws : List Word) (id id' : Nat) (h : id / 64 < ws.length) :
    bitAt (setBit ws id) id' = (decide (id' = id) || bitAt ws id') := by
  rw [setBit, bitAt_set _ _ _ _ h]
  split
  · rename_i hw
    simp [mask_getLsbD, streamOffset_eq_iff hw, ← hw, bitAt, Bool.or_comm]
  · rename_i hw
    simp [show id' ≠ id from fun e => hw (e ▸ rfl)]

theorem bitAt_clrBit (ws : List Word) (id id' : Nat) (h : id / 64 < ws.length) :
    bitAt (clrBit ws id) id' = (!decide (id' = id) && bitAt ws id') := by
  rw [clrBit, bitAt_set _ _ _ _ h]
  split
  · rename_i hw
    simp [-BitVec.getLsbD_eq_getElem, mask_getLsbD, streamOffset_eq_iff hw, ← hw, bitAt, streamOffset_lt, Bool.and_comm]
  · rename_i hw
    simp [show id' ≠ id from fun e => hw (e ▸ rfl)]

theorem bitAt_setBit_of {ws : List Word} {id x : Nat} (h : id / 64 < ws.length) (hx : bitAt ws x = true) :
    bitAt (setBit ws id) x = true := by rw [bitAt_setBit _ _ _ h, hx, Bool.or_true]

theorem bitAt_clrBit_of {ws : List Word} {id x : Nat} (h : id / 64 < ws.length) (hne : x ≠ id) (hx : bitAt ws x = true) :
    bitAt (clrBit ws id) x = true := by rw [bitAt_clrBit _ _ _ h, hx, decide_eq_false hne]; rfl

theorem ne_of_bitAt {ws : List Word} {a id : Nat} (ha : bitAt ws a = true) (hf : bitAt ws id = false) : a ≠ id :=
  fun e => by rw [e, hf] at ha; cases ha

theorem streamOffset_word (pos j : Nat) : streamOffset (pos * 64 + j) = streamOffset j := by
  unfold streamOffset; rw [Nat.mul_add_mod_self_right]

/-- bit `j` of word `pos` is the bit of id `pos * 64 + j` (`streamFromBucket`) -/
theorem bitAt_word (ws : List Word) (pos j : Nat) (hj : j < 64) :
    bitAt ws (pos * 64 + j) = (ws.getD pos 0).getLsbD (streamOffset j) := by
  rw [bitAt, streamOffset_word, show (pos * 64 + j) / 64 = pos by omega]

theorem setBit_word (ws : List Word) (pos j : Nat) (hj : j < 64) :
    setBit ws (pos * 64 + j) = ws.set pos (ws.getD pos 0 ||| mask j) := by
  rw [setBit, mask, streamOffset_word, show (pos * 64 + j) / 64 = pos by omega]; rfl

theorem bitAt_oob (ws : List Word) (id : Nat) (h : ¬ id / 64 < ws.length) : bitAt ws id = false := by
  simp [bitAt, List.getD_eq_getElem?_getD, List.getElem?_eq_none (Nat.le_of_not_lt h)]

theorem bitAt_lt {ws : List Word} {id : Nat} (h : bitAt ws id = true) : id / 64 < ws.length :=
  Decidable.by_contra fun hn => by rw [bitAt_oob ws id hn] at h; cases h

theorem length_setBit (ws : List Word) (id : Nat) : (setBit ws id).length = ws.length := by simp [setBit]
theorem length_clrBit (ws : List Word) (id : Nat) : (clrBit ws id).length = ws.length := by simp [clrBit]

/-- number of ids below `k` satisfying `p` -/
def countBelow (p : Nat → Bool) : Nat → Nat
  | 0 => 0
  | k + 1 => countBelow p k + (if p k then 1 else 0)

theorem countBelow_eq_countP (p : Nat → Bool) (k : Nat) : countBelow p k = (List.range k).countP p := by
  induction k with
  | zero => rfl
  | succ k ih => rw [countBelow, ih, List.range_succ, List.countP_append, List.countP_singleton]

theorem countBelow_congr {p q : Nat → Bool} (k : Nat) (h : ∀ x, x < k → p x = q x) : countBelow p k = countBelow q k := by
  rw [countBelow_eq_countP, countBelow_eq_countP]
  exact List.countP_congr fun x hx => by rw [h x (List.mem_range.mp hx)]

theorem countBelow_set {p q : Nat → Bool} (a : Nat) (hq : ∀ x, q x = (decide (x = a) || p x)) (hp : p a = false) (k : Nat) :
    countBelow q k = countBelow p k + (if a < k then 1 else 0) := by
  induction k with
  | zero => simp [countBelow]
  | succ k ih =>
    simp only [countBelow, ih, hq k]
    by_cases h1 : k = a
    · subst h1; simp [hp]
    · by_cases h2 : a < k
      · have : a < k + 1 := by omega
        simp [h1, h2, this]; omega
      · have : ¬ a < k + 1 := by omega
        simp [h1, h2, this]

theorem countBelow_clr {p q : Nat → Bool} (a : Nat) (hq : ∀ x, q x = (!decide (x = a) && p x)) (hp : p a = true) (k : Nat) :
    countBelow q k + (if a < k then 1 else 0) = countBelow p k :=
  (countBelow_set a (fun x => by by_cases h : x = a <;> simp [hq, h, hp]) (by simp [hq]) k).symm

theorem setBit_view {ws : List Word} {id K : Nat} (hw : id / 64 < ws.length) (hK : id < K) (hfree : bitAt ws id = false) :
    (∀ x, bitAt (setBit ws id) x = (decide (x = id) || bitAt ws x)) ∧
    countBelow (bitAt (setBit ws id)) K = countBelow (bitAt ws) K + 1 := by
  have hbits := fun x => bitAt_setBit ws id x hw
  exact ⟨hbits, (countBelow_set id hbits hfree K).trans (by rw [if_pos hK])⟩

theorem clrBit_view {ws : List Word} {id K : Nat} (hw : id / 64 < ws.length) (hK : id < K) (hset : bitAt ws id = true) :
    (∀ x, bitAt (clrBit ws id) x = (!decide (x = id) && bitAt ws x)) ∧
    countBelow (bitAt (clrBit ws id)) K + 1 = countBelow (bitAt ws) K := by
  have hbits := fun x => bitAt_clrBit ws id x hw
  exact ⟨hbits, (by rw [if_pos hK] : _ = _).trans (countBelow_clr id hbits hset K)⟩

theorem countBelow_le (p : Nat → Bool) (k : Nat) : countBelow p k ≤ k := by
  have := List.countP_le_length (p := p) (l := List.range k)
  rwa [List.length_range, ← countBelow_eq_countP] at this

theorem countBelow_lt {p : Nat → Bool} {x k : Nat} (hx : x < k) (hp : p x = false) : countBelow p k < k := by
  have h := countBelow_set (q := fun y => decide (y = x) || p y) x (fun _ => rfl) hp k
  have := countBelow_le (fun y => decide (y = x) || p y) k
  rw [if_pos hx] at h; omega

theorem countBelow_all {p : Nat → Bool} (k : Nat) (h : ∀ x, x < k → p x = true) : countBelow p k = k := by
  rw [countBelow_eq_countP, List.countP_eq_length.mpr fun x hx => h x (List.mem_range.mp hx), List.length_range]

theorem countBelow_lt_exists {p : Nat → Bool} (k : Nat) (h : countBelow p k < k) : ∃ x, x < k ∧ p x = false :=
  Decidable.by_contra fun hn => by
    have := countBelow_all (p := p) k fun x hx => by
      cases hp : p x
      · exact (hn ⟨x, hx, hp⟩).elim
      · rfl
    omega

theorem countBelow_two {p : Nat → Bool} {a b k : Nat} (ha : a < k) (hb : b < k) (hab : a ≠ b)
    (hpa : p a = true) (hpb : p b = true) : 2 ≤ countBelow p k := by
  have h1 := countBelow_clr (q := fun x => !decide (x = a) && p x) a (fun _ => rfl) hpa k
  have h2 := countBelow_clr (q := fun x => !decide (x = b) && (!decide (x = a) && p x)) b (fun _ => rfl)
    (by simp [hpb, Ne.symm hab]) k
  simp only [ha, hb, ↓reduceIte] at h1 h2
  omega

theorem forall_set {α : Type} {P : α → Prop} {l : List α} (h : ∀ (u : Nat) y, l[u]? = some y → P y) (t : Nat) {x : α} (hx : P x) :
    ∀ (u : Nat) y, (l.set t x)[u]? = some y → P y := by
  intro u y hu
  rcases getElem?_set_cases hu with ⟨_, rfl⟩ | ⟨_, hu⟩
  · exact hx
  · exact h u y hu

end C08
