import Model.PrepLife
import Proofs.Common
/-!
# C05, sequences of answers on the prepare / execute paths: lemmas

`Inv` (Model/PrepLife.lean): every cached flight exists, belongs to its key and — if it is finished — holds a
prepared statement. It is the precondition of the dereference `ifp.preparedStatment.id` in
prepared_cache.go evictPreparedID. It is preserved by every step of the machine for every answer the peer
can give, PROVIDED every arm of the flight's goroutine that stores an error also removes the key (`RmOK`);
the code that exists satisfies that (`removes_ok`).
-/
namespace C05Seq
open PrepLife Dispatch

/-- every failing arm of prepareStatement's goroutine ends with `stmtsLRU.remove(key)` -/
def RmOK (rm : PArm → Bool) : Prop := ∀ a, a.result = .failed → rm a = true

theorem removes_ok : RmOK PArm.removes := by
  intro a h
  cases a <;> simp_all [PArm.result, PArm.removes]

theorem init_inv : Inv initCore := by
  intro k f h
  simp [initCore] at h

theorem removeKey_inv {c : Core} (k : Nat) (h : Inv c) : Inv (c.removeKey k) := by
  intro k' f hc
  simp only [Core.removeKey] at hc ⊢
  split at hc
  · cases hc
  · exact h k' f hc

/-- storing a result in flight `f` keeps the invariant, for any cache that still points at `f` only if
    the result is not an error -/
theorem setSt_inv {c : Core} {f : Nat} {fl : Flight} (st : FSt) (hf : c.flights[f]? = some fl) (h : Inv c)
    (cache' : Nat → Option Nat)
    (hsub : ∀ k f', cache' k = some f' → c.cache k = some f' ∧ (f' = f → st ≠ .failed)) :
    Inv { cache := cache', flights := c.flights.set f { fl with st := st } } := by
  intro k f' hc
  obtain ⟨hc', hst⟩ := hsub k f' hc
  obtain ⟨fl', h1, h2, h3⟩ := h k f' hc'
  by_cases e : f' = f
  · subst e
    rw [hf] at h1; cases h1
    exact ⟨{ fl with st := st }, getElem?_set_of _ hf, h2, hst rfl⟩
  · exact ⟨fl', by rw [List.getElem?_set_ne (Ne.symm e)]; exact h1, h2, h3⟩

theorem complete_inv {rm : PArm → Bool} (hrm : RmOK rm) {c : Core} (f : Nat) (a : PArm) (h : Inv c) :
    Inv (complete rm c f a) := by
  unfold complete
  cases hf : c.flights[f]? with
  | none => exact h
  | some fl =>
    simp only [Core.setSt, Core.removeKey, hf]
    split
    · -- the key is removed: nothing in the cache points at a flight of another key
      refine setSt_inv _ hf h _ fun k f' hc => ?_
      split at hc
      · cases hc
      · rename_i hk
        refine ⟨hc, fun e => ?_⟩
        obtain ⟨fl', h1, h2, _⟩ := h k f' hc
        rw [e, hf] at h1; cases h1
        exact absurd h2.symm hk
    · rename_i hr
      exact setSt_inv _ hf h _ fun k f' hc => ⟨hc, fun _ hres => hr (hrm a hres)⟩

/-- evictPreparedID on a core that satisfies the invariant: the dereference finds a statement, and what is left
    satisfies the invariant -/
theorem evict_ok {c : Core} {key id : Nat} {r : Option Core} (h : Inv c) (he : evict c key id = r) :
    ∃ c', r = some c' ∧ Inv c' := by
  revert he
  fun_cases evict c key id <;> intro he <;> subst he
  -- the last way is the dereference of a finished flight without statement: the invariant excludes it
  case case6 f hc fl h1 hst =>
    obtain ⟨fl', h1', _, h3⟩ := h key f hc
    rw [h1] at h1'; cases h1'
    exact absurd hst h3
  all_goals first | exact ⟨c, rfl, h⟩ | exact ⟨_, rfl, removeKey_inv key h⟩

theorem insert_inv {c : Core} (s : Nat) (h : Inv c) :
    Inv { cache := fun k => if k = s then some c.flights.length else c.cache k,
          flights := c.flights ++ [{ stmt := s, st := .inflight }] } := by
  intro k f hc
  simp only at hc ⊢
  split at hc
  · rename_i hk
    cases hc
    refine ⟨{ stmt := s, st := .inflight }, ?_, hk.symm, by simp⟩
    simp
  · obtain ⟨fl, h1, h2, h3⟩ := h k f hc
    exact ⟨fl, getElem?_append_of _ h1, h2, h3⟩

theorem prepLoop_inv (fuel c : Nat) (core : Core) (cl : Caller) (h : Inv core) :
    Inv (prepLoop fuel c core cl).1 := by
  fun_induction prepLoop fuel c core cl <;> first | exact h | exact insert_inv _ h | exact ‹PrepLife.Inv _ → _› h

theorem resume_inv (c : Nat) (core : Core) (cl : Caller) (f : Nat) (h : Inv core) :
    Inv (resume c core cl f).1 := by
  fun_cases resume c core cl f <;> first | exact h | exact prepLoop_inv _ _ _ _ h

theorem wake_inv (f : Nat) (i : Nat) (cs : List Caller) (core : Core) (h : Inv core) :
    Inv (wake f i cs core).2.1 := by
  fun_induction wake f i cs core
  · exact h
  · rename_i ih; exact ih (resume_inv _ _ _ _ h)
  · rename_i ih; exact ih h

theorem restart_ok (s : State) {core : Core} (c : Nat) (cl : Caller) (rows : Nat) (h : Inv core) :
    ∃ s' log, restart s core c cl rows = .next s' log ∧ Inv s'.core :=
  ⟨_, _, rfl, prepLoop_inv _ _ _ _ h⟩

/-- one step from a state that satisfies the invariant, whatever the peer answers: the input does not
    apply, or the machine moves to a state that satisfies it; never the nil dereference -/
theorem step_ok {rm : PArm → Bool} (hrm : RmOK rm) {s : State} (i : Input) (h : Inv s.core) :
    step rm s i = .bad ∨ ∃ s' log, step rm s i = .next s' log ∧ Inv s'.core := by
  -- one goal for each way through `step`: the input does not apply; a caller (re)starts; a flight completes and wakes its
  -- waiters; an execution returns; an UNPREPARED evicts
  fun_cases step rm s i
  all_goals first
    | exact .inl rfl
    | exact .inr (restart_ok _ _ _ _ h)
    | exact .inr ⟨_, _, rfl, h⟩
    | exact .inr ⟨_, _, rfl, wake_inv _ _ _ _ (complete_inv hrm _ _ h)⟩
    | skip
  · -- the dereference in evictPreparedID: impossible under the invariant
    obtain ⟨_, he, _⟩ := evict_ok h ‹evict _ _ _ = none›
    cases he
  · obtain ⟨_, he, h'⟩ := evict_ok h ‹evict _ _ _ = some _›
    cases he
    exact .inr (restart_ok _ _ _ _ h')

theorem run_safe {rm : PArm → Bool} (hrm : RmOK rm) (is : List Input) (s : State) (h : Inv s.core) :
    (run rm s is).crashed = false ∧ Inv (run rm s is).state.core := by
  induction is generalizing s with
  | nil => exact ⟨rfl, h⟩
  | cons i is ih =>
    unfold run
    rcases step_ok hrm i h with hs | ⟨s', log, hs, h'⟩ <;> rw [hs]
    · exact ih s h
    · exact ih s' h'

theorem invOK_of_inv {c : Core} (n : Nat) (h : Inv c) : invOK c n = true := by
  unfold invOK
  rw [List.all_eq_true]
  intro k _
  cases hc : c.cache k with
  | none => rfl
  | some f =>
    obtain ⟨fl, h1, h2, h3⟩ := h k f hc
    simp only [h1]
    simp [h2, h3]

theorem invAnswer_ok {rm : PArm → Bool} (hrm : RmOK rm) (is : List Input) (s : State) (h : Inv s.core) :
    invAnswer rm s is = "ok" := by
  induction is generalizing s with
  | nil => simp [invAnswer, invOK_of_inv _ h]
  | cons i is ih =>
    unfold invAnswer
    rw [invOK_of_inv _ h]
    rcases step_ok hrm i h with hs | ⟨s', log, hs, h'⟩ <;> simp only [hs, if_true]
    · exact ih s h
    · exact ih s' h'

/-- the removal table with ONE arm forgotten: `default:` stores the error and leaves the key (every other arm as
    in the code) -/
def rmForgetDefault : PArm → Bool
  | .dflt => false
  | a => a.removes

end C05Seq
