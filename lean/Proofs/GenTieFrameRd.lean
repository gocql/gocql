import Gen.Frame
import Model.FrameRead
import Proofs.GenTieBits
/-!
  Tie theorems between the framer's primitive READERS regenerated from /repo/frame.go by tools/go2lean (`Gen.Frame.framer_read*`:
  methods with the pointer receiver `f *framer`, translated as functions from the receiver field `f.buf` to
  `Option (f.buf' × result)`, `none` = the Go code reached `panic(…)`) and the reader combinators of the response model
  the C04 theorems are about (`FrameRead`, `.err` = the recovered panic). For every buffer shorter than 2^63 bytes.
-/
namespace GenTie.FrameRd
open GenTie.C12 GenTie.Bits FrameRead

/-- the outcome of a generated reader (none = the Go code panicked; the recovered panic is the model's `.err`) -/
def res {α β : Type} (f : α → β) : Option (List (BitVec 8) × α) → Outcome (β × Bytes)
  | none => .err
  | some (b, a) => .ok (f a, b.map UInt8.ofBitVec)

theorem slt_ofNat (a b : Nat) (ha : a < 2^63) (hb : b < 2^63) :
    BitVec.slt (BitVec.ofNat 64 a) (BitVec.ofNat 64 b) = decide (a < b) := slt_nat a b ha hb

theorem back2 (s : List UInt8) : List.map (UInt8.ofBitVec ∘ fun x => x.toBitVec) s = s := by
  rw [ofBitVec_toBitVec, List.map_id]

theorem back (s : List UInt8) : (s.map (·.toBitVec)).map UInt8.ofBitVec = s := map_back s

theorem readByte (buf : List UInt8) (h : buf.length < 2^63) :
    res UInt8.ofBitVec (Gen.Frame.framer_readByte (buf.map (·.toBitVec))) = FrameRead.readByte buf := by
  unfold Gen.Frame.framer_readByte
  rw [List.length_map, slt_ofNat _ _ h (by decide)]
  rcases buf with _ | ⟨a, r⟩
  · rfl
  · simp [res, FrameRead.readByte, slice, back2, bind, P.bind, pure, P.pure]

theorem be16_val (a b : UInt8) :
    ((a.toBitVec.setWidth 16 <<< 8) ||| b.toBitVec.setWidth 16).toNat = a.toNat * 256 + b.toNat :=
  be2_bv (by decide) a b

theorem be16_nat (a b : UInt8) : a.toNat <<< 8 % 65536 ||| b.toNat = a.toNat * 256 + b.toNat := by
  simpa using be2_bv (w := 16) (by decide) a b

theorem be32_nat (a b c d : UInt8) :
    a.toNat <<< 24 % 4294967296 ||| b.toNat <<< 16 % 4294967296 ||| c.toNat <<< 8 % 4294967296 ||| d.toNat
      = ((a.toNat * 256 + b.toNat) * 256 + c.toNat) * 256 + d.toNat := by
  have := be4_bv (w := 32) (by decide) a b c d
  simp only [BitVec.toNat_or, BitVec.toNat_shiftLeft, BitVec.toNat_setWidth, UInt8.toNat_toBitVec, byte_mod _ 32 (by decide),
    Nat.reducePow] at this
  exact this.trans (by omega)

theorem toInt_signExtend32 (v : BitVec 32) : (v.signExtend 64).toInt = int32Of v.toNat := by
  rw [BitVec.toInt_signExtend_of_le (by decide), BitVec.toInt_eq_toNat_cond]
  unfold int32Of
  have := v.isLt
  split <;> split <;> omega

theorem int32_val (a b c d : UInt8) :
    (((((a.toBitVec.setWidth 32 <<< 24) ||| (b.toBitVec.setWidth 32 <<< 16)) ||| (c.toBitVec.setWidth 32 <<< 8)) |||
        d.toBitVec.setWidth 32).signExtend 64).toInt = int32Of (((a.toNat * 256 + b.toNat) * 256 + c.toNat) * 256 + d.toNat) := by
  rw [toInt_signExtend32, be4_bv (w := 32) (by decide)]
  exact congrArg int32Of (by omega)

theorem gen_readShort_short (buf : List UInt8) (h : buf.length < 2) :
    Gen.Frame.framer_readShort (buf.map (·.toBitVec)) = none := by
  unfold Gen.Frame.framer_readShort
  rw [List.length_map, slt_ofNat _ _ (by omega) (by decide)]
  simp [h]

theorem gen_readShort_cons (a b : UInt8) (r : List UInt8) (h : r.length + 2 < 2^63) :
    Gen.Frame.framer_readShort ((a :: b :: r).map (·.toBitVec))
      = some (r.map (·.toBitVec), (a.toBitVec.setWidth 16 <<< 8) ||| b.toBitVec.setWidth 16) := by
  unfold Gen.Frame.framer_readShort
  rw [List.length_map, slt_ofNat _ _ (by simpa using h) (by decide)]
  simp

theorem mod_readShort_short (buf : List UInt8) (h : buf.length < 2) : FrameRead.readShort buf = .err := by
  simp [FrameRead.readShort, slice, bind, P.bind, h]

theorem mod_readShort_cons (a b : UInt8) (r : List UInt8) :
    FrameRead.readShort (a :: b :: r) = .ok (a.toNat * 256 + b.toNat, r) := by
  have h2 : ¬ (r.length + 1 + 1 < 2) := by omega
  simp [FrameRead.readShort, slice, bind, P.bind, pure, P.pure, beNat, h2]

theorem gen_readInt_cons (a b c d : UInt8) (r : List UInt8) (h : r.length + 4 < 2^63) :
    Gen.Frame.framer_readInt ((a :: b :: c :: d :: r).map (·.toBitVec))
      = some (r.map (·.toBitVec), ((((a.toBitVec.setWidth 32 <<< 24) ||| (b.toBitVec.setWidth 32 <<< 16)) |||
          (c.toBitVec.setWidth 32 <<< 8)) ||| d.toBitVec.setWidth 32).signExtend 64) := by
  unfold Gen.Frame.framer_readInt
  rw [List.length_map, slt_ofNat _ _ (by simpa using h) (by decide)]
  simp [-BitVec.signExtend_or]

theorem mod_readInt_short (buf : List UInt8) (h : buf.length < 4) : FrameRead.readInt buf = .err := by
  simp [FrameRead.readInt, slice, bind, P.bind, h]

theorem mod_readInt_cons (a b c d : UInt8) (r : List UInt8) :
    FrameRead.readInt (a :: b :: c :: d :: r)
      = .ok (int32Of (((a.toNat * 256 + b.toNat) * 256 + c.toNat) * 256 + d.toNat), r) := by
  have h2 : ¬ (r.length + 1 + 1 + 1 + 1 < 4) := by omega
  simp [FrameRead.readInt, slice, bind, P.bind, pure, P.pure, beNat, h2]

/-- `readShort` on both sides at once: a short buffer fails on both, otherwise both go on with `buf[2:]` and the word read
    stands for the model's number -/
theorem readShort_cases (buf : List UInt8) (h : buf.length < 2^63) :
    (Gen.Frame.framer_readShort (buf.map (·.toBitVec)) = none ∧ FrameRead.readShort buf = .err) ∨
    (∃ v : BitVec 16, Gen.Frame.framer_readShort (buf.map (·.toBitVec)) = some ((buf.drop 2).map (·.toBitVec), v) ∧
      FrameRead.readShort buf = .ok (v.toNat, buf.drop 2)) := by
  by_cases hs : buf.length < 2
  · exact .inl ⟨gen_readShort_short buf hs, mod_readShort_short buf hs⟩
  · obtain ⟨a, b, r, rfl⟩ := cons2_of_length buf hs
    exact .inr ⟨_, gen_readShort_cons a b r (by simpa using h), by rw [mod_readShort_cons, be16_val]; rfl⟩

theorem readInt_cases (buf : List UInt8) (h : buf.length < 2^63) :
    (buf.length < 4 ∧ Gen.Frame.framer_readInt (buf.map (·.toBitVec)) = none ∧ FrameRead.readInt buf = .err) ∨
    (¬ buf.length < 4 ∧ ∃ v : BitVec 64,
      Gen.Frame.framer_readInt (buf.map (·.toBitVec)) = some ((buf.drop 4).map (·.toBitVec), v) ∧
      FrameRead.readInt buf = .ok (v.toInt, buf.drop 4)) := by
  by_cases hs : buf.length < 4
  · refine .inl ⟨hs, ?_, mod_readInt_short buf hs⟩
    rw [Gen.Frame.framer_readInt, List.length_map, slt_ofNat _ _ h (by decide)]
    simp [hs]
  · obtain ⟨a, b, c, d, r, rfl⟩ := cons4_of_length buf hs
    exact .inr ⟨hs, _, gen_readInt_cons a b c d r (by simpa using h), by rw [mod_readInt_cons, int32_val]; rfl⟩

theorem readShort (buf : List UInt8) (h : buf.length < 2^63) :
    res (·.toNat) (Gen.Frame.framer_readShort (buf.map (·.toBitVec))) = FrameRead.readShort buf := by
  rcases readShort_cases buf h with ⟨hg, hm⟩ | ⟨v, hg, hm⟩ <;> rw [hg, hm] <;> simp [res, back2]

theorem readInt (buf : List UInt8) (h : buf.length < 2^63) :
    res (·.toInt) (Gen.Frame.framer_readInt (buf.map (·.toBitVec))) = FrameRead.readInt buf := by
  rcases readInt_cases buf h with ⟨_, hg, hm⟩ | ⟨_, v, hg, hm⟩ <;> rw [hg, hm] <;> simp [res, back2]

theorem size16 (v : BitVec 16) : v.setWidth 64 = BitVec.ofNat 64 v.toNat := (BitVec.ofNat_toNat 64 v).symm

/-- `len(f.buf) < int(size)` guard, then `f.buf[:size]`, `f.buf[size:]`: the model's `slice size size` -/
theorem sliceTie (r : List UInt8) (n : Nat) (hr : r.length < 2^63) (hn : n < 2^63) :
    res (·.map UInt8.ofBitVec)
      (if BitVec.slt (BitVec.ofNat 64 (r.map (·.toBitVec)).length) (BitVec.ofNat 64 n) then none
       else some ((r.map (·.toBitVec)).drop n, (r.map (·.toBitVec)).take n)) = slice n n r := by
  rw [List.length_map, slt_ofNat _ _ hr hn]
  unfold slice
  by_cases h : r.length < n
  · simp [h, res]
  · simp [h, res, ← List.map_drop, ← List.map_take, back2]

theorem slt_zero (x : BitVec 64) : BitVec.slt x 0x0#64 = decide (x.toInt < 0) := BitVec.slt_eq_decide

theorem ofNat_toInt (x : BitVec 64) (h : 0 ≤ x.toInt) : x = BitVec.ofNat 64 x.toInt.toNat := by
  apply BitVec.eq_of_toNat_eq
  rw [BitVec.toInt_eq_toNat_cond] at *
  have := x.isLt
  simp
  split at h <;> omega

theorem slice_guard (r : List UInt8) (size : BitVec 64) (n : Nat) (hr : r.length < 2^63) (hs : size.toInt = n) :
    res (·.map UInt8.ofBitVec)
      (if BitVec.slt (BitVec.ofNat 64 (r.map (·.toBitVec)).length) size then none
       else some ((r.map (·.toBitVec)).drop size.toNat, (r.map (·.toBitVec)).take size.toNat)) = slice n n r := by
  have hn : n < 2^63 := by have := BitVec.toInt_lt (x := size); omega
  obtain rfl : size = BitVec.ofNat 64 n := by rw [ofNat_toInt size (by omega), hs]; rfl
  rw [toNat_int (by omega)]
  exact sliceTie r n hr hn

theorem readString (buf : List UInt8) (h : buf.length < 2^63) :
    res (·.map UInt8.ofBitVec) (Gen.Frame.framer_readString (buf.map (·.toBitVec))) = FrameRead.readString buf := by
  unfold Gen.Frame.framer_readString FrameRead.readString
  rcases readShort_cases buf h with ⟨hg, hm⟩ | ⟨v, hg, hm⟩ <;> simp only [hg, bind, P.bind, hm]
  · rfl
  · have := v.isLt
    exact slice_guard _ _ v.toNat (by rw [List.length_drop]; omega) (by rw [size16, toInt_int (by omega)])

/-- `readShortBytes` is `readString` on both sides (`[]byte` and `string` are the same lists) -/
theorem readShortBytes (buf : List UInt8) (h : buf.length < 2^63) :
    res (·.map UInt8.ofBitVec) (Gen.Frame.framer_readShortBytes (buf.map (·.toBitVec))) = FrameRead.readShortBytes buf :=
  readString buf h

/-- `readBytes` (= `readBytesInternal` + the panic on its error): a negative size is null (the generated code has the
    empty list there: nil and empty are not distinguished by the translation) -/
theorem readBytes (buf : List UInt8) (h : buf.length < 2^63) :
    res (·.map UInt8.ofBitVec) (Gen.Frame.framer_readBytes (buf.map (·.toBitVec)))
      = (match FrameRead.readBytes buf with
         | .ok (o, r) => .ok (o.getD [], r) | .err => .err | .crash => .crash) := by
  unfold Gen.Frame.framer_readBytes Gen.Frame.framer_readBytesInternal FrameRead.readBytes
  rw [List.length_map, slt_ofNat _ _ h (by decide)]
  rcases readInt_cases buf h with ⟨hs, hg, hm⟩ | ⟨hs, v, hg, hm⟩
  · simp only [hs, decide_true, if_true, bind, P.bind, hm]; rfl
  · simp only [hs, decide_false, Bool.false_eq_true, if_false, hg, bind, P.bind, hm, slt_zero]
    by_cases hneg : v.toInt < 0
    · simp [hneg, res, pure, P.pure, back2]
    · have := slice_guard (buf.drop 4) v v.toInt.toNat (by rw [List.length_drop]; omega) (by omega)
      simp only [hneg, decide_false, Bool.false_eq_true, if_false]
      -- the model's `slice` is rewritten into the generated guard expression (`this`), then the guard is split
      unfold P.bind
      rw [← this]
      generalize (BitVec.ofNat 64 (List.map (fun x => x.toBitVec) (buf.drop 4)).length).slt v = cnd
      cases cnd <;> simp [res, pure, P.pure]

/-! ### `readConsistency` (`return Consistency(f.readShort())`: the effectful call is hoisted into a let) and `readInetAdressOnly` -/

theorem readConsistency (buf : List UInt8) (h : buf.length < 2^63) :
    res (·.toNat) (Gen.Frame.framer_readConsistency (buf.map (·.toBitVec))) = FrameRead.readConsistency buf := by
  rw [Gen.Frame.framer_readConsistency, FrameRead.readConsistency]
  rcases readShort_cases buf h with ⟨hg, hm⟩ | ⟨v, hg, hm⟩ <;> rw [hg, hm] <;> simp [res, back2]

theorem goCopy_full (n : Nat) (src : List (BitVec 8)) (h : src.length = n) :
    Gen.Frame.goCopyAt (List.replicate n 0#8) 0 src = src := by
  unfold Gen.Frame.goCopyAt
  simp [h]
  exact List.take_of_length_le (by omega)

theorem sliceCopyTie (r : List UInt8) (n : Nat) (hr : r.length < 2^63) (hn : n < 2^63) :
    res (·.map UInt8.ofBitVec)
      (if BitVec.slt (BitVec.ofNat 64 (r.map (·.toBitVec)).length) (BitVec.ofNat 64 n) then none
       else some ((r.map (·.toBitVec)).drop n,
         Gen.Frame.goCopyAt (List.replicate n 0#8) 0 ((r.map (·.toBitVec)).take n))) = slice n n r := by
  by_cases h : r.length < n
  · rw [List.length_map, slt_ofNat _ _ hr hn]
    simp [h, res, slice]
  · rw [goCopy_full n _ (by simp; omega)]
    exact sliceTie r n hr hn

theorem beq_lit (b : BitVec 8) (c : Nat) (hc : c < 256) : (b == BitVec.ofNat 8 c) = (b.toNat == c) := by
  rw [Bool.eq_iff_iff]; simp [← BitVec.toNat_inj, Nat.mod_eq_of_lt hc]

theorem mod_inet_nil : FrameRead.readInetAdressOnly [] = .err := rfl

theorem mod_inet_cons (a : UInt8) (r : List UInt8) :
    FrameRead.readInetAdressOnly (a :: r)
      = if (!(a.toNat == 4 || a.toNat == 16)) = true then .err else slice a.toNat a.toNat r := by
  by_cases hok : (a.toNat == 4 || a.toNat == 16) = true
  · simp [FrameRead.readInetAdressOnly, bind, P.bind, slice, hok]
  · have hok' : (a.toNat == 4 || a.toNat == 16) = false := by simpa using hok
    simp [FrameRead.readInetAdressOnly, bind, P.bind, slice, hok', P.fail]

theorem gen_inet_cons (a : UInt8) (r : List UInt8) (h : r.length + 1 < 2^63) :
    Gen.Frame.framer_readInetAdressOnly ((a :: r).map (·.toBitVec))
      = if (!(a.toNat == 4 || a.toNat == 16)) = true then none
        else if r.length < a.toNat then none
        else some ((r.drop a.toNat).map (·.toBitVec), (r.take a.toNat).map (·.toBitVec)) := by
  unfold Gen.Frame.framer_readInetAdressOnly
  rw [List.length_map, slt_ofNat _ _ (by simpa using h) (by decide)]
  have h0 : ¬ (r.length + 1 < 1) := by omega
  simp only [List.length_cons, h0, decide_false, Bool.false_eq_true, if_false, List.map_cons, List.getD_cons_zero, List.drop_succ_cons,
    List.drop_zero]
  rw [beq_lit _ 4 (by decide), beq_lit _ 16 (by decide), ← BitVec.ofNat_toNat, List.length_map,
    slt_ofNat _ _ (by omega) (by have := UInt8.toNat_lt a; omega)]
  simp only [UInt8.toNat_toBitVec]
  by_cases hok : (a.toNat == 4 || a.toNat == 16) = true
  · simp only [hok, Bool.not_true, Bool.false_eq_true, if_false]
    by_cases hs : r.length < a.toNat
    · simp [hs]
    · simp only [hs, decide_false, Bool.false_eq_true, if_false]
      rw [goCopy_full a.toNat _ (by simp; omega), List.map_drop, List.map_take]
  · have hok' : (a.toNat == 4 || a.toNat == 16) = false := by simpa using hok
    simp only [hok', Bool.not_false, if_true]

theorem readInetAdressOnly (buf : List UInt8) (h : buf.length < 2^63) :
    res (·.map UInt8.ofBitVec) (Gen.Frame.framer_readInetAdressOnly (buf.map (·.toBitVec))) = FrameRead.readInetAdressOnly buf := by
  rcases buf with _ | ⟨a, r⟩
  · rfl
  · rw [mod_inet_cons, gen_inet_cons a r (by simpa using h)]
    by_cases hok : (!(a.toNat == 4 || a.toNat == 16)) = true
    · simp only [hok, if_true]; rfl
    · by_cases hs : r.length < a.toNat <;> simp [hok, hs, slice, res, back2]

/-- `readInet` (`return f.readInetAdressOnly(), f.readInt()`: both calls hoisted, in order) -/
theorem readInet (buf : List UInt8) (h : buf.length < 2^63) :
    (match Gen.Frame.framer_readInet (buf.map (·.toBitVec)) with
     | none => Outcome.err
     | some (fb, ip, port) => Outcome.ok ((ip.map UInt8.ofBitVec, port.toInt), fb.map UInt8.ofBitVec))
      = FrameRead.readInet buf := by
  unfold Gen.Frame.framer_readInet FrameRead.readInet
  rcases buf with _ | ⟨a, r⟩
  · rfl
  · have hr : r.length + 1 < 2^63 := by simpa using h
    simp only [bind, P.bind]
    rw [gen_inet_cons a r hr, mod_inet_cons]
    by_cases hok : (!(a.toNat == 4 || a.toNat == 16)) = true
    · simp [hok]
    · by_cases hs : r.length < a.toNat
      · simp [hok, hs, slice]
      · rcases readInt_cases (r.drop a.toNat) (by rw [List.length_drop]; omega) with ⟨_, hg, hm⟩ | ⟨_, v, hg, hm⟩ <;>
          rw [List.map_drop] at hg <;> simp [hok, hs, slice, hg, hm, pure, P.pure, back2]

end GenTie.FrameRd
