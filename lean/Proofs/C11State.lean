import Model.Policies
import Proofs.C11Pol
import Proofs.C11TA
import Proofs.C11Hist
import Proofs.C11Ops
import Proofs.C11Ident
/-! What holds of ONE policy state, which the history theorems of Proofs/C11.lean and Proofs/C11Bulk.lean read at the
reachable states: the list invariant along histories (`Inv_run`, `TAInv_run`); where a replica list comes from
(`replicasFor_hosts`, `repsOf_some`); the structure of the ideal sequence in ANY state with the invariant (`pickSeq_struct`);
a state tied to a notifier history by `BI` (`BI_of_events`) and what follows for it (`complete_state`, `fresh_of_BI`, `exact_state`). -/
namespace C11
open Policies

inductive Op
  | add (h : Host)       -- AddHost / HostUp
  | remove (h : Host)    -- RemoveHost / HostDown
  | pick (up : Nat → Bool)
  | setCtr (n : Nat)     -- the policy has served n picks already (hook VerifSetPickCount)

def Pol.apply (p : Pol) : Op → Pol
  | .add h => p.add h
  | .remove h => p.remove h
  | .pick up => (p.pick up).1
  | .setCtr n => p.setCtr n

theorem Inv_run (p : Pol) (hp : Inv p) (ops : List Op) : Inv (ops.foldl Pol.apply p) := by
  refine foldl_inv Inv Pol.apply (fun p o hp => ?_) ops p hp
  cases o with
  | add h => exact Inv_add p hp h
  | remove h => exact Inv_remove p hp h
  | pick up => exact Inv_ctr p hp _
  | setCtr n => exact Inv_ctr p hp _

theorem TAInv_apply (t : TA) (hp : Inv t.pol) (o : TAOp) : Inv (t.apply o).pol := by
  rw [apply_pol]
  cases o with
  | add h => exact Inv_add _ hp h
  | remove h => exact Inv_remove _ hp h
  | hostUp h => exact Inv_add _ hp h
  | hostDown h => exact Inv_remove _ hp h
  | setReplicas ks tab => exact hp
  | pick up σ rk limit =>
    show Inv (t.pick up σ rk limit).1.pol
    rcases pick_pol t up σ rk limit with e | e <;> rw [e]
    · exact hp
    · exact Inv_ctr _ hp _
  | setCtr n => exact Inv_ctr _ hp _
  | keyspaceChanged ks => exact hp
  | setMeta ks v => exact hp

theorem TAInv_run (t : TA) (hp : Inv t.pol) (ops : List TAOp) : Inv (ops.foldl TA.apply t).pol :=
  foldl_inv (fun t : TA => Inv t.pol) TA.apply (fun t o hp => TAInv_apply t hp o) ops t hp

/-- where a replica list comes from: a row of the keyspace's table, or the ring owner of the token alone -/
theorem replicasFor_hosts (t : TA) (ks tok : Nat) (l : List Host) (ft : Bool) (hr : t.replicasFor ks tok = .hosts l ft) :
    (ft = true ∧ ∃ e ∈ t.replicas, e.1 = ks ∧ ∃ k, (k, l) ∈ e.2) ∨
    (ft = false ∧ ∃ k h, l = [h] ∧ (k, h) ∈ ringOf t.hosts) := by
  revert hr
  fun_cases TA.replicasFor t ks tok <;> intro hr <;> cases hr
  · rename_i hl'
    rw [Option.bind_eq_some_iff] at hl'
    obtain ⟨e, he, hlk⟩ := hl'
    exact Or.inl ⟨rfl, e, List.mem_of_find?_eq_some he, by simpa using List.find?_some he, lookupTok_mem e.2 tok _ hlk⟩
  · rename_i h hh
    obtain ⟨k, hk⟩ := lookupTok_mem _ tok _ hh
    exact Or.inr ⟨rfl, k, h, rfl, hk⟩

theorem repsOf_some (t : TA) (σ : List Host → List Host) (hσ : ∀ l, (σ l).Perm l) (rk : Option (Nat × Nat)) (r : List Host)
    (h : repsOf t σ rk = some r) :
    ∃ ks tok l ft, rk = some (ks, tok) ∧ t.replicasFor ks tok = .hosts l ft ∧ r.Perm l := by
  revert h
  -- only a query with a routing key whose keyspace and token have a replica list gets one
  fun_cases repsOf t σ rk <;> intro h <;> cases h
  rename_i ks tok l ft hr
  refine ⟨ks, tok, l, ft, rfl, hr, ?_⟩
  split
  · exact hσ l
  · exact .refl l

theorem replicasFor_nodup (t : TA) (hrep : ∀ e ∈ t.replicas, ∀ f ∈ e.2, f.2.Nodup) (ks tok : Nat)
    (reps : List Host) (ft : Bool) (hr : t.replicasFor ks tok = .hosts reps ft) : reps.Nodup := by
  rcases replicasFor_hosts t ks tok reps ft hr with ⟨_, e, he, _, k, hk⟩ | ⟨_, k, h, rfl, _⟩
  · exact hrep e he _ hk
  · exact List.pairwise_singleton _ _

theorem repsOf_nodup (t : TA) (σ : List Host → List Host) (hσ : ∀ l, (σ l).Perm l) (rk : Option (Nat × Nat))
    (hrep : ∀ e ∈ t.replicas, ∀ f ∈ e.2, f.2.Nodup) (r : List Host) (h : repsOf t σ rk = some r) : r.Nodup := by
  obtain ⟨ks, tok, l, ft, _, hr, hperm⟩ := repsOf_some t σ hσ rk r h
  exact hperm.nodup_iff.mpr (replicasFor_nodup t hrep ks tok l ft hr)

theorem pickScan_ideal (t : TA) (up : Nat → Bool) (σ : List Host → List Host) (rk : Option (Nat × Nat))
    (hb : Pol.below t.pol) (l : List Host) (hl : t.pickSeq up σ rk = .seq l) : t.pickScan up σ rk = ⟨l, false⟩ := by
  rw [pickSeq_eq] at hl
  injection hl with hl
  rw [pickScan_eq, ← hl, pickScan_small _ up hb]
  cases repsOf t σ rk <;> rfl

/-- structure of the ideal sequence in a state with the list invariant: the specified replica head, then a
subsequence of the fallback's sequence; only up hosts, every known up host; no host twice if the replica list has none -/
theorem pickSeq_struct (t : TA) (hp : Inv t.pol) (up : Nat → Bool) (σ : List Host → List Host) (rk : Option (Nat × Nat)) :
    ∃ l rest, t.pickSeq up σ rk = .seq l ∧
      l = specHead t.pol.tier t.pol.maxTier up t.nonlocal ((repsOf t σ rk).getD []) ++ rest ∧
      rest.Sublist (t.pol.pickSeq up) ∧ (∀ h ∈ l, up h.id = true) ∧
      (∀ h, known t.pol h → up h.id = true → h ∈ l) ∧ ((∀ r, repsOf t σ rk = some r → r.Nodup) → l.Nodup) := by
  have hfb : ∀ x ∈ t.pol.pickSeq up, up x.id = true := fun x hx => ((mem_pickSeq _ hp up x).mp hx).2
  have hall : ∀ h, known t.pol h → up h.id = true → h ∈ t.pol.pickSeq up := fun h hk hu => (mem_pickSeq _ hp up h).mpr ⟨hk, hu⟩
  rw [pickSeq_eq]
  cases repsOf t σ rk with
  | none =>
    exact ⟨_, t.pol.pickSeq up, rfl, by simp [specHead], .refl _, hfb, hall,
      fun _ => pickSeq_nodup _ hp up⟩
  | some r =>
    exact ⟨_, minusUsed (taHead t.pol.tier t.pol.maxTier up t.nonlocal r) (t.pol.pickSeq up), rfl,
      by rw [Option.getD_some, ← taHead_eq_specHead]; rfl, minusUsed_sublist _ _, taSeq_up _ _ _ _ _ _ hfb,
      fun h hk hu => mem_taSeq_of_fallback _ _ _ _ _ _ h (hall h hk hu), fun hn => taSeq_nodup _ _ _ _ _ _ (hn r rfl)⟩

theorem take_mk (l : List Host) (c : Bool) (limit : Nat) :
    Scan.take ⟨l, c⟩ limit = if limit ≤ l.length then .seq (l.take limit) else if c then .crash else .seq l := rfl

theorem taScan_eq (tier : Host → Nat) (m : Nat) (up : Nat → Bool) (nl : Bool) (reps : List Host) (fb : Scan) :
    taScan tier m up nl reps fb = ⟨taHead tier m up nl reps ++ minusUsed (taHead tier m up nl reps) fb.offered, fb.crashed⟩ := rfl

/-- what ties a policy state to a notifier history: the fallback policy lists exactly the hosts whose last call was
`AddHost` or `HostUp`, the policy's own list the hosts added and not removed since, every table not marked is fresh -/
structure BI (t : TA) (S : Host → Status) (d : List Nat) : Prop where
  inv : Inv t.pol
  kS : ∀ x, known t.pol x ↔ (S x).inList = true
  hS : ∀ x, x ∈ t.hosts ↔ (S x).known = true
  fresh : ∀ ks, ks ∉ d → TabFresh t ks

/-- a state whose lists are what the notifier calls `evs` make of a new policy has the invariant, if the hosts of `evs`
have pairwise different addresses: the lists hold the owner of each key by the history (`owner_evs`, `taOwner_evs`: any
hosts), and without shared addresses a host owns its key iff its own status says so -/
theorem BI_of_events (k : Kind) (ldc lrack : Nat) (t : TA) (evs : List (Ev × Host)) (d : List Nat)
    (hna : ∀ a ∈ evs.map (·.2), ∀ b ∈ evs.map (·.2), a.addr = b.addr → a = b)
    (hpol : t.pol.setCtr 0 = evs.foldl polEv ((Pol.new k ldc lrack).setCtr 0)) (hhosts : t.hosts = evs.foldl hostsEv [])
    (hfresh : ∀ ks, ks ∉ d → TabFresh t ks) : BI t (fun x => statusOf evs x) d := by
  obtain ⟨h1, _, h3⟩ := owner_evs (Pol.new k ldc lrack).key evs ((Pol.new k ldc lrack).setCtr 0) (fun _ => none) rfl
    (Inv_ctr _ (Inv_new k ldc lrack) 0) (fun _ _ h => nomatch h) (fun x => by simp [known, Pol.new, Pol.setCtr])
  obtain ⟨_, h4⟩ := taOwner_evs evs [] (fun _ => none) (by simp [AddrNodup]) (fun _ _ h => nomatch h) (fun x => by simp)
  rw [← hpol] at h1 h3
  rw [← hhosts] at h4
  exact ⟨Inv_ctr _ h1 _, fun x => (h3 x).trans (ownerOf_noAlias _ (fun a b e => ((key_eq_iff _ a b).mp e).2) _ hna x),
    fun x => (h4 x).trans (taOwnerOf_noAlias _ hna x), hfresh⟩

/-- the invariant in every state reachable by a history of single operations: only its notifier calls matter to the
lists (`run_pol`, `run_hosts`) -/
theorem BI_hist (k : Kind) (ldc lrack : Nat) (sh nl ps : Bool) (sess : Option Nat) (ops : List TAOp) (hna : NoAlias ops) :
    BI (ops.foldl TA.apply (TA.new (Pol.new k ldc lrack) sh nl ps sess))
      (fun x => statusOf (evsOf ops) x) (dirtyOf (TA.new (Pol.new k ldc lrack) sh nl ps sess) ops) := by
  refine BI_of_events k ldc lrack _ (evsOf ops) _ hna (run_pol ops _ 0) (run_hosts ops _) (fun ks hks => ?_)
  have := dirty_run_at ops (TA.new (Pol.new k ldc lrack) sh nl ps sess, []) ks (fun _ e he => by simp [TA.new] at he) hks
  rwa [runDirty_fst] at this

/-- completeness in any state tied to a notifier history by `BI`: only up hosts, every host the history expects -/
theorem complete_state {t : TA} {evs : List (Ev × Host)} {d : List Nat} (b : BI t (fun x => statusOf evs x) d)
    (up : Nat → Bool) (σ : List Host → List Host) (rk : Option (Nat × Nat)) :
    ∃ l, t.pickSeq up σ rk = .seq l ∧ (Pol.below t.pol → t.pickScan up σ rk = ⟨l, false⟩) ∧
      (∀ h ∈ l, up h.id = true) ∧ ∀ x, (statusOf evs x).expected (up x.id) = true → x ∈ l := by
  obtain ⟨l, _, hl, _, _, hup, hc, _⟩ := pickSeq_struct t b.inv up σ rk
  refine ⟨l, hl, fun hb => pickScan_ideal t up σ rk hb l hl, hup, fun x hx => ?_⟩
  obtain ⟨h1, h2⟩ := expected_inList _ (wf_statusOf _ x) _ hx
  exact hc x ((b.kS x).mpr h1) h2

theorem reps_mem_hosts (t : TA) (σ : List Host → List Host) (hσ : ∀ l, (σ l).Perm l) (rk : Option (Nat × Nat))
    (hfq : ∀ ks tok, rk = some (ks, tok) → TabFresh t ks ∨ ∃ l, t.replicasFor ks tok = .hosts l false) :
    ∀ x ∈ (repsOf t σ rk).getD [], x ∈ t.hosts := by
  intro x hx
  cases h : repsOf t σ rk with
  | none => rw [h] at hx; cases hx
  | some r =>
    rw [h, Option.getD_some] at hx
    obtain ⟨ks, tok, l, ft, rfl, hr, hperm⟩ := repsOf_some t σ hσ _ r h
    have hxl := hperm.mem_iff.mp hx
    rcases replicasFor_hosts t ks tok l ft hr with ⟨rfl, e, he, heks, k, hk⟩ | ⟨_, k, h', rfl, hk⟩
    · rcases hfq ks tok rfl with h2 | ⟨l2, h2⟩
      · exact h2 e he heks _ hk x hxl
      · rw [hr] at h2; cases h2
    · rw [List.mem_singleton.mp hxl]
      exact ringOf_sub t.hosts _ hk

/-- a replica list from a table that is not marked, or from the ring, lists hosts the history knows -/
theorem fresh_of_BI {t : TA} {evs : List (Ev × Host)} {d : List Nat}
    (b : BI t (fun x => statusOf evs x) d) (σ : List Host → List Host) (hσ : ∀ l, (σ l).Perm l) (rk : Option (Nat × Nat))
    (hfq : ∀ ks tok, rk = some (ks, tok) → ks ∉ d ∨ ∃ l, t.replicasFor ks tok = .hosts l false) :
    ∀ x ∈ (repsOf t σ rk).getD [], x ∈ t.hosts ∧ (statusOf evs x).known = true := by
  intro x hx
  suffices h : x ∈ t.hosts from ⟨h, (b.hS x).mp h⟩
  exact reps_mem_hosts t σ hσ rk (fun ks tok e => (hfq ks tok e).imp_left (b.fresh ks)) x hx

/-- core of the exactness theorems, for any state tied to a notifier history `evs` by the invariant `BI`: if no host is a
ghost, no host of the specified replica head was reported down last, and the replica list comes from a table that is
not marked (`d`) or from the ring - or else lists known hosts only - the drained iterator offers exactly the expected
hosts, each once -/
theorem exact_state {t : TA} {evs : List (Ev × Host)} {d : List Nat}
    (b : BI t (fun x => statusOf evs x) d)
    (up : Nat → Bool) (σ : List Host → List Host) (hσ : ∀ l, (σ l).Perm l) (rk : Option (Nat × Nat))
    (hrep : ∀ e ∈ t.replicas, ∀ f ∈ e.2, f.2.Nodup) (hg : ∀ x, (statusOf evs x).ghost = false)
    (hdown : ∀ x ∈ specHead t.pol.tier t.pol.maxTier up t.nonlocal ((repsOf t σ rk).getD []),
      (statusOf evs x).last ≠ some .hdown)
    (hfresh : (∀ ks tok, rk = some (ks, tok) → ks ∉ d ∨ ∃ l, t.replicasFor ks tok = .hosts l false) ∨
      ∀ x ∈ specHead t.pol.tier t.pol.maxTier up t.nonlocal ((repsOf t σ rk).getD []), (statusOf evs x).known = true) :
    ∃ l, t.pickSeq up σ rk = .seq l ∧ (Pol.below t.pol → t.pickScan up σ rk = ⟨l, false⟩) ∧ l.Nodup ∧
      (∀ x, x ∈ l ↔ (statusOf evs x).expected (up x.id) = true) ∧
      ∀ univ : List Host, univ.Nodup → (∀ h ∈ evs.map (·.2), h ∈ univ) →
        l.Perm (univ.filter (fun x => (statusOf evs x).expected (up x.id))) := by
  have hst : ∀ x ∈ specHead t.pol.tier t.pol.maxTier up t.nonlocal ((repsOf t σ rk).getD []),
      (statusOf evs x).known = true ∧ (statusOf evs x).last ≠ some .hdown := by
    intro x hx
    refine ⟨?_, hdown x hx⟩
    rcases hfresh with hf | hf
    · rw [← taHead_eq_specHead] at hx
      exact (fresh_of_BI b σ hσ rk hf x (mem_taHead _ _ _ _ _ x hx).1).2
    · exact hf x hx
  obtain ⟨l, rest, hl, hrest, hsub, hup, hcomp, hnd⟩ := pickSeq_struct t b.inv up σ rk
  have hnd := hnd (repsOf_nodup t σ hσ rk hrep)
  have hmem : ∀ x, x ∈ l ↔ (statusOf evs x).expected (up x.id) = true := by
    intro x
    constructor
    · intro hx
      rw [hup x hx]
      rw [hrest, List.mem_append] at hx
      rcases hx with hx | hx
      · exact (expected_iff _ true).mpr ⟨(hst x hx).1, (hst x hx).2, rfl⟩
      · have hk := ((mem_pickSeq _ b.inv up x).mp (hsub.subset hx)).1
        exact inList_expected _ (wf_statusOf _ x) (hg x) ((b.kS x).mp hk)
    · intro hx
      obtain ⟨h1, h2⟩ := expected_inList _ (wf_statusOf _ x) _ hx
      exact hcomp x ((b.kS x).mpr h1) h2
  refine ⟨l, hl, fun hb => pickScan_ideal t up σ rk hb l hl, hnd, hmem, ?_⟩
  intro univ hun hall
  rw [List.perm_ext_iff_of_nodup hnd (hun.filter _)]
  intro x
  rw [hmem x, List.mem_filter]
  refine ⟨fun hx => ⟨hall x (mem_of_known _ x ?_), hx⟩, fun hx => hx.2⟩
  exact ((expected_iff _ _).mp hx).1

end C11
