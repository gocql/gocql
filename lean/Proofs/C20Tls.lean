import Model.TlsAuth
/-! The TLS side of one connection (`Model/TlsAuth.lean`): the bytes of string literals (for the test vectors), the normal
    form of `setupTLSConfig` (`filesError`, `derived`, `setupTLSConfig_eq`), when the caller's pool object grows, the host part
    of the dialled address (`beforeLastColon_spec`, `joinHostPort_eq`), and the name and the acceptance decision of a dial
    through the derived config against the specification (`namespace C20`: `accepts_eq_mayProceed`). -/
namespace TlsAuth

/-- For evaluation: `String.toList` on a literal decodes the literal's UTF-8 bytes position by position, which the
    kernel does slowly; the byte array itself is at hand. -/
theorem strBytes_fun : strBytes = fun s => s.toByteArray.data.toList := funext fun s => by
  conv => rhs; rw [← String.ofList_toList (s := s), String.toByteArray_ofList]
  simp [strBytes, List.utf8Encode]

/-- the error `setupTLSConfig` ends with: the CA file is looked at first, then the key pair -/
def filesError (o : SslOpts) : Option TlsErr :=
  match o.ca with
  | .unreadable => some .caOpen
  | .unparsable | .foreign => some .caParse
  | _ => if (o.cert ≠ .absent || o.key ≠ .absent) && !keyPairLoads o.cert o.key then some .keyPair else none

/-- the config `setupTLSConfig` returns when the files are good, field by field -/
def derived (o : SslOpts) : OutCfg where
  insecure := effectiveInsecure (o.cfg.map (·.insecure)) o.enableHostVerification
  serverName := (o.cfg.map (·.serverName)).getD []
  hasRootCAs := o.ca = .valid || (o.cfg.map (·.hasRootCAs)).getD false
  nCerts := (o.cfg.map (·.nCerts)).getD 0 + if o.cert ≠ .absent || o.key ≠ .absent then 1 else 0
  sharesCallerPool := (o.cfg.map (·.hasRootCAs)).getD false

theorem setupTLSConfig_eq (o : SslOpts) :
    setupTLSConfig o = match filesError o with
      | some e => .error e
      | none => .ok (derived o) := by
  obtain ⟨cfg, ehv, ca, cert, key⟩ := o
  -- a bad CA file: both sides compute to its error
  cases ca <;> try rfl
  -- CA absent or valid: split on what the clone reads (Config, EnableHostVerification, InsecureSkipVerify) and on the
  -- two Booleans the key-pair step looks at; every case computes
  all_goals
    simp only [setupTLSConfig, filesError, derived]
    generalize keyPairLoads cert key = kp
    generalize (decide (cert ≠ .absent) || decide (key ≠ .absent)) = b
    rcases cfg with _ | ⟨i, sn, r, n⟩ <;> cases ehv <;> (try cases i) <;> cases b <;> cases kp <;> rfl

theorem setupTLSConfig_ok {o : SslOpts} {c : OutCfg} (h : setupTLSConfig o = .ok c) : c = derived o := by
  rw [setupTLSConfig_eq] at h
  cases hf : filesError o with
  | some e => rw [hf] at h; cases h
  | none => rw [hf] at h; cases h; rfl

theorem filesError_eq_none (o : SslOpts) :
    filesError o = none ↔
      (o.ca = .absent ∨ o.ca = .valid) ∧ ((o.cert = .absent ∧ o.key = .absent) ∨ keyPairLoads o.cert o.key = true) := by
  obtain ⟨cfg, ehv, ca, cert, key⟩ := o
  cases ca <;> cases hk : keyPairLoads cert key <;> simp [filesError, hk]

theorem effectiveInsecure_eq_true (cfg : Option Bool) (ehv : Bool) :
    effectiveInsecure cfg ehv = true ↔ ehv = false ∧ (cfg = none ∨ cfg = some true) := by
  rcases cfg with _ | _ | _ <;> cases ehv <;> decide

theorem documented_eq (cfg : Option Bool) (ehv : Bool) : Spec.documented cfg ehv = some (!effectiveInsecure cfg ehv) := by
  rcases cfg with _ | _ | _ <;> cases ehv <;> decide

theorem callerPoolMutated_iff (o : SslOpts) :
    callerPoolMutated o = true ↔ o.ca = .valid ∧ ∃ u, o.cfg = some u ∧ u.hasRootCAs = true := by
  unfold callerPoolMutated
  rcases o.cfg with _ | u <;> simp [and_comm]

theorem beforeLastColon_spec (l : List UInt8) :
    match beforeLastColon l with
    | none => colon ∉ l
    | some p => ∃ post, l = p ++ colon :: post ∧ colon ∉ post := by
  -- the arms of the definition: a colon further on / this is the last colon / no colon yet
  fun_induction beforeLastColon l with
  | case1 => exact List.not_mem_nil
  | case2 c cs p hb ih => rw [hb] at ih; obtain ⟨post, e, hp⟩ := ih; exact ⟨post, by simp [e], hp⟩
  | case3 cs hb ih => rw [hb] at ih; exact ⟨cs, rfl, ih⟩
  | case4 c cs hb hc ih => rw [hb] at ih; simpa [Ne.symm hc] using ih

theorem beforeLastColon_none (l : List UInt8) (h : colon ∉ l) : beforeLastColon l = none := by
  have := beforeLastColon_spec l
  cases hb : beforeLastColon l with
  | none => rfl
  | some p => rw [hb] at this; obtain ⟨q, e, -⟩ := this; exact absurd (e ▸ by simp) h

theorem beforeLastColon_split (pre post : List UInt8) (h : colon ∉ post) :
    beforeLastColon (pre ++ colon :: post) = some pre := by
  induction pre with
  | nil => simp [beforeLastColon, beforeLastColon_none post h]
  | cons c cs ih => simp [beforeLastColon, ih]

theorem joinHostPort_eq (host port : List UInt8) :
    joinHostPort host port = (if host.contains colon then [91] ++ host ++ [93] else host) ++ colon :: port := by
  unfold joinHostPort; split <;> simp

theorem hostPart_split (pre post : List UInt8) (h : colon ∉ post) : hostPart (pre ++ colon :: post) = pre := by
  simp [hostPart, beforeLastColon_split pre post h]

theorem hostPart_nocolon (l : List UInt8) (h : colon ∉ l) : hostPart l = l := by
  simp [hostPart, beforeLastColon_none l h]

end TlsAuth

namespace C20
open TlsAuth

/-- the documented table, read off the config the options derive -/
theorem mustVerify_eq (o : SslOpts) : Spec.mustVerify o = !(derived o).insecure := by
  simp [Spec.mustVerify, documented_eq, derived]

/-- the name handed to crypto/tls when the documented table says "verify" -/
theorem serverName_when_verifying (o : SslOpts) (name port : List UInt8) (hp : colon ∉ port)
    (hv : Spec.mustVerify o = true) :
    (tlsConfigForAddr (derived o).insecure (derived o).serverName (joinHostPort name port)).1 =
      Spec.expectedName o name := by
  have hi : (derived o).insecure = false := by simpa [mustVerify_eq] using hv
  have hn : (o.cfg.map (·.serverName)).getD [] = (derived o).serverName := rfl
  simp only [Spec.expectedName, hn, tlsConfigForAddr, hi, joinHostPort_eq]
  by_cases he : (derived o).serverName = []
  · simp [he, hostPart_split _ _ hp]
  · simp [he]

/-- the acceptance decision of a dial through the derived config is the specification's `mayProceed` -/
theorem accepts_eq_mayProceed (o : SslOpts) (name port : List UInt8) (cert : ServerCert) (hp : colon ∉ port) :
    tlsAccepts (derived o).insecure (rootsTrust o cert.signer)
      (tlsConfigForAddr (derived o).insecure (derived o).serverName (joinHostPort name port)).1 cert =
      Spec.mayProceed o name cert := by
  have hname := serverName_when_verifying o name port hp
  simp only [tlsAccepts, Spec.mayProceed, mustVerify_eq, Bool.not_not] at hname ⊢
  cases hi : (derived o).insecure
  · rw [hi] at hname; rw [hname rfl]
  · rfl

end C20
