import Model.EventQueue
import Proofs.Common
/-! the event-debouncer schedules (Model/EventQueue.lean): memory lemmas, the simulation between
the memory-level model of the code and the value-level specification, invariants of the specification -/
namespace C16Queue
open ClusterView EvQueue

theorem read_write_other (m : Mem) (a i : Nat) (e : Ev) (s : Slice) (h : s.arr ≠ a ∨ s.len ≤ i) :
    (m.write a i e).read s = m.read s := by
  unfold Mem.read Mem.write
  apply List.map_congr_left
  intro j hj
  have hj' : j < s.len := by simpa using hj
  have : ¬ (s.arr = a ∧ j = i) := by
    rcases h with h | h
    · exact fun x => h x.1
    · exact fun x => by omega
  simp [this]

theorem range_succ_map {β : Type} (f : Nat → β) (n : Nat) :
    (List.range (n + 1)).map f = (List.range n).map f ++ [f n] := by
  simp [List.range_succ]

/-- `append` writes in place while there is room (`if_pos`), else into the fresh array `m.next` (`if_neg`) -/
theorem read_append (grow : Nat → Nat) (m : Mem) (s : Slice) (e : Ev) :
    (m.append grow s e).1.read (m.append grow s e).2 = m.read s ++ [e] := by
  unfold Mem.append
  by_cases hc : s.len < m.cap s.arr
  · rw [if_pos hc]
    show (List.range (s.len + 1)).map ((m.write s.arr s.len e).cell s.arr) = _
    rw [range_succ_map]
    congr 1
    · exact read_write_other m s.arr s.len e s (Or.inr (Nat.le_refl _))
    · exact congrArg (· :: []) (if_pos ⟨rfl, rfl⟩)
  · rw [if_neg hc]
    show (List.range (s.len + 1)).map _ = _
    rw [range_succ_map]
    congr 1
    · apply List.map_congr_left
      intro j hj
      exact (if_pos rfl).trans (if_pos (List.mem_range.mp hj))
    · exact congrArg (· :: []) ((if_pos rfl).trans ((if_neg (Nat.lt_irrefl _)).trans (if_pos rfl)))

theorem read_append_other (grow : Nat → Nat) (m : Mem) (s : Slice) (e : Ev) (s' : Slice)
    (h1 : s'.arr ≠ s.arr) (h2 : s'.arr < m.next) :
    (m.append grow s e).1.read s' = m.read s' := by
  unfold Mem.append
  by_cases hc : s.len < m.cap s.arr
  · rw [if_pos hc]; exact read_write_other m s.arr s.len e s' (Or.inl h1)
  · rw [if_neg hc]
    apply List.map_congr_left
    intro j _
    exact if_neg (Nat.ne_of_lt h2)

theorem append_alloc (grow : Nat → Nat) (m : Mem) (s : Slice) (e : Ev) (hs : s.arr < m.next) :
    (m.append grow s e).2.arr < (m.append grow s e).1.next ∧
    ∀ a, a < m.next → a ≠ s.arr → a < (m.append grow s e).1.next ∧ a ≠ (m.append grow s e).2.arr := by
  unfold Mem.append
  by_cases hc : s.len < m.cap s.arr
  · rw [if_pos hc]; exact ⟨hs, fun _ h1 h2 => ⟨h1, h2⟩⟩
  · rw [if_neg hc]; exact ⟨Nat.lt_succ_self _, fun _ h1 _ => ⟨Nat.lt_succ_of_lt h1, Nat.ne_of_lt h1⟩⟩

theorem append_len (grow : Nat → Nat) (m : Mem) (s : Slice) (e : Ev) : (m.append grow s e).2.len = s.len + 1 := by
  unfold Mem.append
  by_cases hc : s.len < m.cap s.arr
  · rw [if_pos hc]
  · rw [if_neg hc]

/-! ### simulation: the code's memory-level behaviour is the specification's -/

/-- the memory-level state `q` stands for the value-level state `s`: reading the slices of `q` gives the lists of `s`;
the last two fields are what keeps it so — every slice lives in an allocated array, and no pending handler's
slice shares its array with `e.events` -/
structure Sim (q : Q) (s : Spec) : Prop where
  buf : q.mem.read q.events = s.buf
  started : q.started = s.started
  pending : q.pending.map (fun p => (p.1, q.mem.read p.2)) = s.pending
  handled : q.handled = s.handled
  stopped : q.stopped = s.stopped
  evAlloc : q.events.arr < q.mem.next
  pendAlloc : ∀ p ∈ q.pending, p.2.arr < q.mem.next ∧ p.2.arr ≠ q.events.arr

theorem read_length (m : Mem) (s : Slice) : (m.read s).length = s.len := by simp [Mem.read]

theorem sim_init : Sim {} {} := by
  constructor <;> simp [Mem.read, Mem.init]

theorem map_pending_congr (m m' : Mem) (l : List (Nat × Slice)) (h : ∀ p ∈ l, m'.read p.2 = m.read p.2) :
    l.map (fun p => (p.1, m'.read p.2)) = l.map (fun p => (p.1, m.read p.2)) := by
  apply List.map_congr_left
  intro p hp
  rw [h p hp]

theorem find_map (m : Mem) (k : Nat) : ∀ (l : List (Nat × Slice)),
    (l.map (fun p => (p.1, m.read p.2))).find? (fun p => p.1 == k)
      = (l.find? (fun p => p.1 == k)).map (fun p => (p.1, m.read p.2)) :=
  fun l => by rw [List.find?_map]; rfl

theorem erase_found {α : Type} [BEq α] [LawfulBEq α] (f : α → Bool) : ∀ (l : List α) (p : α),
    l.find? f = some p → l.erase p = l.eraseP f := by
  intro l
  induction l with
  | nil => intro p h; cases h
  | cons x t ih =>
    intro p h
    rw [List.find?_cons] at h
    cases hx : f x with
    | true =>
      rw [hx] at h
      cases h
      rw [List.erase_cons_head, List.eraseP_cons_of_pos hx]
    | false =>
      rw [hx] at h
      have hne : x ≠ p := fun e => by have := List.find?_some h; rw [← e, hx] at this; cases this
      rw [List.erase_cons_tail (by simpa using hne), List.eraseP_cons_of_neg (by simp [hx]), ih p h]

theorem erase_find_map (m : Mem) (k : Nat) (l : List (Nat × Slice)) (p : Nat × Slice)
    (hf : l.find? (fun p => p.1 == k) = some p) :
    (l.map (fun p => (p.1, m.read p.2))).erase (p.1, m.read p.2) = (l.erase p).map (fun p => (p.1, m.read p.2)) := by
  rw [erase_found _ l p hf, erase_found (fun p => p.1 == k) _ _ (by rw [find_map, hf]; rfl), List.eraseP_map]
  rfl

theorem sim_step (grow : Nat → Nat) (q : Q) (s : Spec) (a : QAct) (h : Sim q s) :
    Sim (qstep grow q a) (sstep s a) := by
  have hlen : s.buf.length = q.events.len := by rw [← h.buf, read_length]
  cases a with
  | debounce e =>
    simp only [qstep, qstepWith, sstep, debounceAdd, hlen]
    by_cases hc : q.events.len < eventBufferSize
    · rw [if_pos hc, if_pos hc]
      have hother : ∀ p ∈ q.pending, (q.mem.append grow q.events e).1.read p.2 = q.mem.read p.2 :=
        fun p hp => read_append_other grow q.mem q.events e p.2 (h.pendAlloc p hp).2 (h.pendAlloc p hp).1
      obtain ⟨hev, hpend⟩ := append_alloc grow q.mem q.events e h.evAlloc
      refine ⟨?_, h.started, ?_, h.handled, h.stopped, hev, fun p hp => hpend _ (h.pendAlloc p hp).1 (h.pendAlloc p hp).2⟩
      · show (q.mem.append grow q.events e).1.read (q.mem.append grow q.events e).2 = s.buf ++ [e]
        rw [read_append, h.buf]
      · show q.pending.map (fun p => (p.1, (q.mem.append grow q.events e).1.read p.2)) = s.pending
        rw [map_pending_congr _ _ _ hother, h.pending]
    · rw [if_neg hc, if_neg hc]
      exact ⟨h.buf, h.started, h.pending, h.handled, h.stopped, h.evAlloc, h.pendAlloc⟩
  | stop =>
    exact ⟨h.buf, h.started, h.pending, h.handled, rfl, h.evAlloc, h.pendAlloc⟩
  | fire =>
    simp only [qstep, qstepWith, sstep, hlen, ← h.stopped, flushBuffer, Mem.alloc, Bool.false_eq_true, if_false]
    by_cases hstop : q.stopped = true
    · rw [if_pos hstop, if_pos hstop]
      exact ⟨h.buf, h.started, h.pending, h.handled, h.stopped, h.evAlloc, h.pendAlloc⟩
    rw [if_neg hstop, if_neg hstop]
    by_cases hc : q.events.len = 0
    · rw [if_pos hc, if_pos hc]
      exact ⟨h.buf, h.started, h.pending, h.handled, h.stopped, h.evAlloc, h.pendAlloc⟩
    · -- the buffer handed to handler `q.started` stays where it is; `e.events` moves to the fresh array
      rw [if_neg hc, if_neg hc]
      refine ⟨rfl, congrArg (· + 1) h.started, ?_, h.handled, rfl, Nat.lt_succ_self _, ?_⟩
      · show (q.pending ++ [(q.started, q.events)]).map (fun p => (p.1, q.mem.read p.2)) = _
        rw [List.map_append, h.pending, List.map_cons, List.map_nil, h.buf, h.started]
      · intro p hp
        show p.2.arr < q.mem.next + 1 ∧ p.2.arr ≠ q.mem.next
        have : p.2.arr < q.mem.next := by
          rcases List.mem_append.mp hp with hp | hp
          · exact (h.pendAlloc p hp).1
          · rw [List.mem_singleton.mp hp]; exact h.evAlloc
        exact ⟨Nat.lt_succ_of_lt this, Nat.ne_of_lt this⟩
  | run k =>
    have hfind := find_map q.mem k q.pending
    rw [h.pending] at hfind
    simp only [qstep, qstepWith, sstep, hfind]
    cases hf : q.pending.find? (fun p => p.1 == k) with
    | none => exact h
    | some p =>
      refine ⟨h.buf, h.started, ?_, ?_, h.stopped, h.evAlloc, ?_⟩
      · show (q.pending.erase p).map (fun p => (p.1, q.mem.read p.2)) = s.pending.erase (p.1, q.mem.read p.2)
        rw [← h.pending, erase_find_map q.mem k q.pending p hf]
      · show q.handled ++ [(p.1, q.mem.read p.2)] = s.handled ++ [(p.1, q.mem.read p.2)]
        rw [h.handled]
      · intro p' hp'
        exact h.pendAlloc p' (List.mem_of_mem_erase hp')

theorem sim_run (grow : Nat → Nat) (as : List QAct) : ∀ (q : Q) (s : Spec), Sim q s → Sim (qrun grow q as) (srun s as) := by
  induction as with
  | nil => intro q s h; exact h
  | cons a t ih => intro q s h; exact ih _ _ (sim_step grow q s a h)

/-- every frame the debouncer accepted is in exactly one place: the batch of a flush (by ordinal), or the buffer -/
structure SInv (s : Spec) : Prop where
  nflushed : s.flushed.length = s.started
  batches : ∀ p ∈ s.handled ++ s.pending, s.flushed[p.1]? = some p.2
  once : (s.handled ++ s.pending).map (·.1) |>.Perm (List.range s.started)
  bufLen : s.buf.length ≤ eventBufferSize

theorem sinv_init : SInv {} := by
  constructor <;> simp

theorem sinv_step (s : Spec) (a : QAct) (h : SInv s) : SInv (sstep s a) := by
  fun_cases sstep s a with
  | case1 e =>  -- a frame arrives
    refine ⟨h.nflushed, h.batches, h.once, ?_⟩
    show (debounceAdd s.buf e).length ≤ eventBufferSize
    unfold debounceAdd
    split
    · rw [List.length_append]; assumption
    · exact h.bufLen
  | case2 => exact ⟨h.nflushed, h.batches, h.once, h.bufLen⟩   -- stop
  | case3 => exact h   -- the timer expires after the stop
  | case4 => exact h   -- … or on an empty buffer
  | case5 =>  -- a flush: the buffer becomes the batch of handler `s.started`
    refine ⟨?_, ?_, ?_, Nat.zero_le _⟩
    · show (s.flushed ++ [s.buf]).length = s.started + 1
      rw [List.length_append, h.nflushed]; rfl
    · intro p hp
      show (s.flushed ++ [s.buf])[p.1]? = some p.2
      have hp' : p ∈ (s.handled ++ s.pending) ++ [(s.started, s.buf)] := by
        rw [List.append_assoc]; exact hp
      rcases List.mem_append.mp hp' with hp' | hp'
      · exact getElem?_append_of _ (h.batches p hp')
      · rw [List.mem_singleton.mp hp', ← h.nflushed]
        exact List.getElem?_concat_length
    · show ((s.handled ++ (s.pending ++ [(s.started, s.buf)])).map (·.1)).Perm (List.range (s.started + 1))
      rw [← List.append_assoc, List.map_append, List.range_succ]
      exact List.Perm.append h.once (List.Perm.refl _)
  | case6 => exact h   -- no such handler pending
  | case7 k p hf =>  -- handler `k` reads its batch
    have hmem : p ∈ s.pending := List.mem_of_find?_eq_some hf
    have hperm : (s.handled ++ [p] ++ s.pending.erase p).Perm (s.handled ++ s.pending) := by
      rw [List.append_assoc]
      exact List.Perm.append_left _ (List.perm_cons_erase hmem).symm
    exact ⟨h.nflushed, fun q hq => h.batches q ((hperm.mem_iff).mp hq), (hperm.map (·.1)).trans h.once, h.bufLen⟩

theorem sinv_run (as : List QAct) : ∀ s, SInv s → SInv (srun s as) :=
  foldl_inv SInv sstep sinv_step as

/-- generalised over the start state: what is flushed or buffered grows by exactly the frames accepted from then on -/
theorem flushed_accepted (as : List QAct) : ∀ (s : Spec),
    (srun s as).flushed.flatten ++ (srun s as).buf = s.flushed.flatten ++ s.buf ++ acceptedFrom s.stopped s.buf.length as := by
  induction as with
  | nil => intro s; simp [srun, acceptedFrom]
  | cons a t ih =>
    intro s
    show (srun (sstep s a) t).flushed.flatten ++ (srun (sstep s a) t).buf = _
    rw [ih (sstep s a)]
    cases a with
    | debounce e =>
      by_cases hc : s.buf.length < eventBufferSize
      · simp [sstep, debounceAdd, acceptedFrom, hc]
      · simp [sstep, debounceAdd, acceptedFrom, hc]
    | stop => simp [sstep, acceptedFrom]
    | fire =>
      cases hst : s.stopped with
      | true => simp [sstep, acceptedFrom, hst]
      | false =>
        by_cases hc : s.buf.length = 0
        · have hb : s.buf = [] := List.eq_nil_of_length_eq_zero hc
          simp [sstep, acceptedFrom, hb, hst]
        · simp [sstep, acceptedFrom, hc, hst]
    | run k =>
      cases hf : s.pending.find? (fun p => p.1 == k) <;> simp [sstep, acceptedFrom, hf]

theorem stopped_step (s : Spec) (a : QAct) (h : s.stopped = true) :
    (sstep s a).stopped = true ∧ (sstep s a).started = s.started ∧ (sstep s a).flushed = s.flushed := by
  cases a with
  | debounce e => exact ⟨h, rfl, rfl⟩
  | stop => exact ⟨rfl, rfl, rfl⟩
  | fire => simp [sstep, h]
  | run k => cases hf : s.pending.find? (fun p => p.1 == k) <;> simp [sstep, hf, h]

theorem stopped_run (as : List QAct) (s : Spec) (h : s.stopped = true) :
    (srun s as).started = s.started ∧ (srun s as).flushed = s.flushed :=
  (foldl_inv (fun x => x.stopped = true ∧ x.started = s.started ∧ x.flushed = s.flushed) sstep
    (fun x a hx => have ⟨h1, h2, h3⟩ := stopped_step x a hx.1; ⟨h1, h2.trans hx.2.1, h3.trans hx.2.2⟩) as s ⟨h, rfl, rfl⟩).2

/-- all frames of a schedule, in order of arrival -/
def frames : List QAct → List Ev
  | [] => []
  | .debounce e :: t => e :: frames t
  | _ :: t => frames t

/-- no debounce window receives more than `eventBufferSize` frames (`n` = frames of the current window so far; after
`stop` the window never ends) -/
def WindowsBounded : Bool → Nat → List QAct → Prop
  | _, _, [] => True
  | st, n, .debounce _ :: t => n < eventBufferSize ∧ WindowsBounded st (n + 1) t
  | st, n, .fire :: t => if st then WindowsBounded st n t else WindowsBounded st 0 t
  | st, n, .run _ :: t => WindowsBounded st n t
  | _, n, .stop :: t => WindowsBounded true n t

theorem accepted_all (as : List QAct) : ∀ st n, WindowsBounded st n as → acceptedFrom st n as = frames as := by
  induction as with
  | nil => intro st n _; rfl
  | cons a t ih =>
    intro st n h
    cases a with
    | debounce e =>
      have h' : n < eventBufferSize ∧ WindowsBounded st (n + 1) t := h
      simp only [acceptedFrom, frames, h'.1, if_true]
      rw [ih st (n + 1) h'.2]
    | fire =>
      cases st with
      | true => exact ih true n h
      | false => exact ih false 0 h
    | run k => exact ih st n h
    | stop => exact ih true n h

end C16Queue
