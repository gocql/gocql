import Model.Policies
import Proofs.C11Cow
/-! The round-robin based policies: the visiting order of one layer is a rotation (`rot`); the invariant `Inv` of the three
policies (one entry per address in every list, every host in the list of its tier) and what it gives for `Pol.pickSeq`;
the code's index arithmetic (uint64 counter, `int(...)`, Go `%`) equals the natural-number arithmetic below the bound
`Pol.below` (`ctr + 1 + layer length < 2^63` for every layer). -/
namespace C11
open Policies

def rot (r : Nat) (l : List Host) : List Host := l.drop (r % l.length) ++ l.take (r % l.length)

theorem length_layerSeq (s : Nat) (l : List Host) : (layerSeq s l).length = l.length := by
  simp [layerSeq]

theorem length_rot (r : Nat) (l : List Host) : (rot r l).length = l.length := by
  unfold rot
  cases l with
  | nil => simp
  | cons a t =>
    have : r % (a :: t).length < (a :: t).length := Nat.mod_lt _ (by simp)
    simp only [List.length_append, List.length_drop, List.length_take]
    omega

theorem getElem_layerSeq (s : Nat) (l : List Host) (i : Nat) (hi : i < (layerSeq s l).length) :
    (layerSeq s l)[i] = l[(s + (i + 1)) % l.length]'(Nat.mod_lt _ (by rw [length_layerSeq] at hi; omega)) := by
  have hn : (s + (i + 1)) % l.length < l.length := Nat.mod_lt _ (by rw [length_layerSeq] at hi; omega)
  simp [layerSeq, List.getD_eq_getElem?_getD, List.getElem?_eq_getElem hn]

theorem getElem_rotAux (l : List Host) (k i : Nat) (hk : k < l.length) (hi : i < l.length)
    (h : i < (l.drop k ++ l.take k).length) :
    (l.drop k ++ l.take k)[i] = l[(k + i) % l.length]'(Nat.mod_lt _ (by omega)) := by
  rw [List.getElem_append]
  split
  · rename_i h1
    have h2 : i < l.length - k := by simpa using h1
    rw [List.getElem_drop]
    congr 1
    exact (Nat.mod_eq_of_lt (by omega)).symm
  · rename_i h1
    have h2 : ¬ i < l.length - k := by simpa using h1
    rw [List.getElem_take]
    congr 1
    simp only [List.length_drop]
    have e : k + i = l.length + (i - (l.length - k)) := by omega
    rw [e, Nat.add_mod_left, Nat.mod_eq_of_lt (by omega)]

theorem getElem_rot (r : Nat) (l : List Host) (i : Nat) (hi : i < (rot r l).length) :
    (rot r l)[i] = l[(r + i) % l.length]'(Nat.mod_lt _ (by rw [length_rot] at hi; omega)) := by
  have hl : i < l.length := by rw [length_rot] at hi; exact hi
  have hpos : 0 < l.length := by omega
  have hr : r % l.length < l.length := Nat.mod_lt _ hpos
  have key : (r + i) % l.length = (r % l.length + i) % l.length := by
    rw [Nat.add_mod, Nat.mod_eq_of_lt hl]
  show (l.drop (r % l.length) ++ l.take (r % l.length))[i]'(by simpa [rot] using hi) = _
  rw [getElem_rotAux l _ i hr hl]
  congr 1
  exact key.symm

theorem layerSeq_eq_rot (s : Nat) (l : List Host) : layerSeq s l = rot (s + 1) l := by
  apply List.ext_getElem
  · rw [length_layerSeq, length_rot]
  · intro i h1 h2
    rw [getElem_layerSeq, getElem_rot]
    congr 1
    congr 1
    omega


theorem layerSeq_perm (s : Nat) (l : List Host) : (layerSeq s l).Perm l := by
  rw [layerSeq_eq_rot]; exact _root_.rot_perm _ _

theorem layerSeq_succ (s : Nat) (l : List Host) : layerSeq (s + 1) l = rot 1 (layerSeq s l) := by
  apply List.ext_getElem
  · rw [length_layerSeq, length_rot, length_layerSeq]
  · intro i h1 h2
    rw [getElem_layerSeq, getElem_rot, getElem_layerSeq]
    have hl : i < l.length := by rw [length_layerSeq] at h1; exact h1
    congr 1
    simp only [length_layerSeq]
    have e1 : s + 1 + (i + 1) = (1 + i) + (s + 1) := by omega
    have e2 : ∀ x, s + (x + 1) = x + (s + 1) := by intro x; omega
    rw [e1, e2 ((1 + i) % l.length), Nat.add_mod ((1 + i) % l.length), Nat.mod_mod, ← Nat.add_mod]

theorem rrSeq_nil (up : Nat → Bool) (s : Nat) : rrSeq up s [] = [] := rfl

theorem rrSeq_cons (up : Nat → Bool) (s : Nat) (l : List Host) (ls : List (List Host)) :
    rrSeq up s (l :: ls) = (layerSeq s l).filter (fun h => up h.id) ++ rrSeq up s ls := by
  simp [rrSeq]

theorem layerSeq_nil (s : Nat) : layerSeq s [] = [] := rfl

theorem rrSeq_perm (up : Nat → Bool) (s : Nat) (layers : List (List Host)) :
    (rrSeq up s layers).Perm (layers.flatten.filter (fun h => up h.id)) := by
  induction layers with
  | nil => simp [rrSeq_nil]
  | cons l ls ih =>
    rw [rrSeq_cons, List.flatten_cons, List.filter_append]
    exact List.Perm.append ((layerSeq_perm s l).filter _) ih

theorem mem_rrSeq (up : Nat → Bool) (s : Nat) (layers : List (List Host)) (h : Host) :
    h ∈ rrSeq up s layers ↔ (∃ l ∈ layers, h ∈ l) ∧ up h.id = true := by
  rw [(rrSeq_perm up s layers).mem_iff, List.mem_filter, List.mem_flatten]

theorem rrSeq_nodup (up : Nat → Bool) (s : Nat) (layers : List (List Host)) (hn : layers.flatten.Nodup) :
    (rrSeq up s layers).Nodup :=
  (rrSeq_perm up s layers).nodup_iff.mpr (List.Sublist.nodup List.filter_sublist hn)

theorem mem_layerSeq (s : Nat) (l : List Host) (h : Host) : h ∈ layerSeq s l ↔ h ∈ l :=
  (layerSeq_perm s l).mem_iff

structure Inv (p : Pol) : Prop where
  a0 : AddrNodup p.l0
  a1 : AddrNodup p.l1
  a2 : AddrNodup p.l2
  t0 : ∀ h ∈ p.l0, p.tier h = 0
  t1 : ∀ h ∈ p.l1, p.tier h = 1
  t2 : ∀ h ∈ p.l2, p.tier h = 2

def known (p : Pol) (h : Host) : Prop := h ∈ p.l0 ∨ h ∈ p.l1 ∨ h ∈ p.l2

theorem tier_le_two (p : Pol) (h : Host) : p.tier h = 0 ∨ p.tier h = 1 ∨ p.tier h = 2 := by
  fun_cases Pol.tier p h
  · exact Or.inl rfl
  · exact Or.inl rfl
  · exact Or.inr (Or.inl rfl)
  · exact Or.inl rfl
  · exact Or.inr (Or.inl rfl)
  · exact Or.inr (Or.inr rfl)

theorem tier_rr (p : Pol) (hk : p.kind = .rr) (h : Host) : p.tier h = 0 := by
  simp [Pol.tier, hk]

theorem tier_dc (p : Pol) (hk : p.kind = .dc) (h : Host) : p.tier h = 0 ∨ p.tier h = 1 := by
  simp only [Pol.tier, hk]; split <;> simp

theorem Inv_new (k : Kind) (ldc lrack : Nat) : Inv (Pol.new k ldc lrack) := by
  constructor <;> simp [Pol.new, AddrNodup]

theorem tier_setLayer (p : Pol) (i : Nat) (l : List Host) (h : Host) : (p.setLayer i l).tier h = p.tier h := by
  rcases i with _ | _ | i <;> rfl

theorem Inv_setLayer (p : Pol) (hp : Inv p) (i : Nat) (hi : i = 0 ∨ i = 1 ∨ i = 2) (l : List Host)
    (hl : AddrNodup l) (ht : ∀ h ∈ l, p.tier h = i) : Inv (p.setLayer i l) := by
  rcases hi with rfl | rfl | rfl
  · exact ⟨hl, hp.a1, hp.a2, ht, hp.t1, hp.t2⟩
  · exact ⟨hp.a0, hl, hp.a2, hp.t0, ht, hp.t2⟩
  · exact ⟨hp.a0, hp.a1, hl, hp.t0, hp.t1, ht⟩

theorem getLayer_tier (p : Pol) (hp : Inv p) (i : Nat) (hi : i = 0 ∨ i = 1 ∨ i = 2) :
    AddrNodup (p.getLayer i) ∧ ∀ h ∈ p.getLayer i, p.tier h = i := by
  rcases hi with rfl | rfl | rfl
  · exact ⟨hp.a0, hp.t0⟩
  · exact ⟨hp.a1, hp.t1⟩
  · exact ⟨hp.a2, hp.t2⟩

theorem Inv_add (p : Pol) (hp : Inv p) (h : Host) : Inv (p.add h) := by
  unfold Pol.add
  have ⟨hn, ht⟩ := getLayer_tier p hp (p.tier h) (tier_le_two p h)
  apply Inv_setLayer p hp _ (tier_le_two p h) _ (cowAdd_inv _ _ hn)
  intro x hx
  rw [mem_cowAdd] at hx
  rcases hx with hx | ⟨rfl, _⟩
  · exact ht x hx
  · rfl

theorem Inv_remove (p : Pol) (hp : Inv p) (h : Host) : Inv (p.remove h) := by
  unfold Pol.remove
  have ⟨hn, ht⟩ := getLayer_tier p hp (p.tier h) (tier_le_two p h)
  apply Inv_setLayer p hp _ (tier_le_two p h) _ (cowRemove_inv _ _ hn)
  intro x hx
  rw [mem_cowRemove] at hx
  exact ht x hx.1

theorem Inv_ctr (p : Pol) (hp : Inv p) (c : Nat) : Inv { p with ctr := c } :=
  ⟨hp.a0, hp.a1, hp.a2, hp.t0, hp.t1, hp.t2⟩

/-- with the invariant, the unused lists are empty: the layers handed to `roundRobbin` are all three lists -/
theorem rrSeq_layers (p : Pol) (hp : Inv p) (up : Nat → Bool) (s : Nat) :
    rrSeq up s p.layers = rrSeq up s [p.l0, p.l1, p.l2] := by
  unfold Pol.layers
  cases hk : p.kind
  · have h1 : p.l1 = [] := List.eq_nil_iff_forall_not_mem.mpr (fun h hh => by
      have := hp.t1 h hh; rw [tier_rr p hk] at this; omega)
    have h2 : p.l2 = [] := List.eq_nil_iff_forall_not_mem.mpr (fun h hh => by
      have := hp.t2 h hh; rw [tier_rr p hk] at this; omega)
    simp [h1, h2, rrSeq_cons, rrSeq_nil, layerSeq_nil]
  · have h2 : p.l2 = [] := List.eq_nil_iff_forall_not_mem.mpr (fun h hh => by
      have := hp.t2 h hh; rcases tier_dc p hk h with e | e <;> omega)
    simp [h2, rrSeq_cons, rrSeq_nil, layerSeq_nil]
  · rfl

theorem mem_pickSeq (p : Pol) (hp : Inv p) (up : Nat → Bool) (h : Host) :
    h ∈ p.pickSeq up ↔ known p h ∧ up h.id = true := by
  unfold Pol.pickSeq known
  rw [rrSeq_layers p hp, mem_rrSeq]
  simp only [List.mem_cons, List.not_mem_nil, or_false, exists_eq_or_imp, exists_eq_left]

theorem Inv_flatten_nodup (p : Pol) (hp : Inv p) : [p.l0, p.l1, p.l2].flatten.Nodup := by
  simp only [List.flatten_cons, List.flatten_nil, List.append_nil]
  rw [List.nodup_append]
  refine ⟨hp.a0.nodup, ?_, ?_⟩
  · rw [List.nodup_append]
    refine ⟨hp.a1.nodup, hp.a2.nodup, ?_⟩
    intro a ha b hb e
    subst e
    have := hp.t1 a ha; have := hp.t2 a hb; omega
  · intro a ha b hb e
    subst e
    rw [List.mem_append] at hb
    have := hp.t0 a ha
    rcases hb with hb | hb
    · have := hp.t1 a hb; omega
    · have := hp.t2 a hb; omega

theorem pickSeq_nodup (p : Pol) (hp : Inv p) (up : Nat → Bool) : (p.pickSeq up).Nodup := by
  unfold Pol.pickSeq
  rw [rrSeq_layers p hp]
  exact rrSeq_nodup up _ _ (Inv_flatten_nodup p hp)

theorem pickSeq_sorted (p : Pol) (hp : Inv p) (up : Nat → Bool) :
    (p.pickSeq up).Pairwise (fun a b => p.tier a ≤ p.tier b) := by
  unfold Pol.pickSeq
  rw [rrSeq_layers p hp]
  simp only [rrSeq_cons, rrSeq_nil, List.append_nil]
  have mt : ∀ (l : List Host) (k : Nat), (∀ h ∈ l, p.tier h = k) →
      ∀ a ∈ (layerSeq (p.ctr + 1) l).filter (fun h => up h.id), p.tier a = k :=
    fun l k hl a ha => hl a ((mem_layerSeq _ _ _).mp (List.mem_filter.mp ha).1)
  have m0 := mt _ 0 hp.t0
  have m1 := mt _ 1 hp.t1
  have m2 := mt _ 2 hp.t2
  have same : ∀ (l : List Host) (k : Nat), (∀ a ∈ l, p.tier a = k) → l.Pairwise (fun a b => p.tier a ≤ p.tier b) :=
    fun l k hl => List.pairwise_of_forall_mem_list (fun a ha b hb => by rw [hl a ha, hl b hb]; exact Nat.le_refl _)
  rw [List.pairwise_append]
  refine ⟨same _ 0 m0, ?_, ?_⟩
  · rw [List.pairwise_append]
    refine ⟨same _ 1 m1, same _ 2 m2, ?_⟩
    intro a ha b hb
    rw [m1 a ha, m2 b hb]; omega
  · intro a ha b hb
    rw [m0 a ha]; omega

theorem wrap64_small (x : Int) (h0 : 0 ≤ x) (h1 : x < 9223372036854775808) : wrap64 x = x := by
  unfold wrap64; omega

theorem goIndex_small (s k n : Nat) (h : s + k < 9223372036854775808) :
    goIndex (wrap64 (s : Int)) k n = some ((s + k) % n) := by
  unfold goIndex
  rw [wrap64_small (s : Int) (by omega) (by omega)]
  rw [wrap64_small ((s : Int) + (k : Int)) (by omega) (by omega)]
  have e : ((s : Int) + (k : Int)) = ((s + k : Nat) : Int) := by omega
  rw [e, Int.tmod_eq_emod_of_nonneg (by omega)]
  have e2 : (((s + k : Nat) : Int) % (n : Int)) = (((s + k) % n : Nat) : Int) := Int.ofNat_mod_ofNat (s + k) n
  simp only [e2]
  have : ¬ ((((s + k) % n : Nat) : Int) < 0) := by omega
  rw [if_neg this, Int.toNat_natCast]

theorem layerScan_small (s : Nat) (l : List Host) (h : s + l.length < 9223372036854775808) :
    layerScan (wrap64 (s : Int)) l = (layerSeq s l).map some := by
  unfold layerScan layerSeq
  rw [List.map_map]
  apply List.map_congr_left
  intro k hk
  have hk' : k < l.length := List.mem_range.mp hk
  rw [goIndex_small s (k + 1) l.length (by omega)]
  rfl

theorem runScan_some (up : Nat → Bool) (L : List Host) :
    runScan up (L.map some) = ⟨L.filter (fun h => up h.id), false⟩ := by
  induction L with
  | nil => rfl
  | cons a t ih =>
    simp only [List.map_cons, runScan, ih, List.filter_cons]
    split <;> rfl

theorem rrScan_small (up : Nat → Bool) (s : Nat) (layers : List (List Host))
    (h : ∀ l ∈ layers, s + l.length < 9223372036854775808) :
    rrScan up (wrap64 (s : Int)) layers = ⟨rrSeq up s layers, false⟩ := by
  unfold rrScan rrSeq
  have e : layers.map (layerScan (wrap64 (s : Int))) = layers.map (fun l => (layerSeq s l).map some) :=
    List.map_congr_left (fun l hl => layerScan_small s l (h l hl))
  rw [e]
  have e2 : (layers.map (fun l => (layerSeq s l).map some)).flatten = ((layers.map (layerSeq s)).flatten).map some := by
    rw [List.map_flatten, List.map_map]; rfl
  rw [e2, runScan_some]
  congr 1
  rw [List.filter_flatten, List.map_map]; rfl

theorem shift_small (p : Pol) (h : p.ctr + 1 < 9223372036854775808) : p.shift = wrap64 ((p.ctr + 1 : Nat) : Int) := by
  unfold Pol.shift
  rw [Nat.mod_eq_of_lt (by omega)]

/-- the bound under which the next `Pick` of the policy does not leave the ideal arithmetic -/
def Pol.below (p : Pol) : Prop := ∀ l ∈ p.layers, p.ctr + 1 + l.length < 9223372036854775808

/-- every policy kind hands at least one layer to `roundRobbin`, so a bound on `n + length` for every layer bounds `n` -/
theorem layers_bound (p : Pol) (n b : Nat) (h : ∀ l ∈ p.layers, n + l.length < b) : n < b := by
  have : p.layers ≠ [] := by fun_cases Pol.layers p <;> exact List.cons_ne_nil _ _
  obtain ⟨l, hl⟩ := List.exists_mem_of_ne_nil _ this
  have := h l hl
  omega

theorem pickScan_small (p : Pol) (up : Nat → Bool) (h : Pol.below p) : p.pickScan up = ⟨p.pickSeq up, false⟩ := by
  unfold Pol.pickScan Pol.pickSeq
  rw [shift_small p (layers_bound p _ _ h)]
  exact rrScan_small up (p.ctr + 1) p.layers h

theorem bump_ctr (p : Pol) (h : p.ctr + 1 < 18446744073709551616) : p.bump.ctr = p.ctr + 1 := by
  unfold Pol.bump
  exact Nat.mod_eq_of_lt h

theorem rot_one_cons (x : Host) (r : List Host) : rot 1 (x :: r) = r ++ [x] := by
  cases r with
  | nil => simp [rot]
  | cons y t =>
    have e : 1 % (x :: y :: t).length = 1 := Nat.mod_eq_of_lt (by simp)
    unfold rot
    rw [e]
    rfl

theorem repeat_pick (up : Nat → Bool) : ∀ (j : Nat) (p : Pol), p.ctr + j < 18446744073709551616 →
    Nat.repeat (fun q => (q.pick up).1) j p = { p with ctr := p.ctr + j } := by
  intro j
  induction j with
  | zero => intro p _; rfl
  | succ j ih =>
    intro p h
    show (fun q : Pol => (q.pick up).1) (Nat.repeat (fun q => (q.pick up).1) j p) = _
    rw [ih p (by omega)]
    show Pol.bump _ = _
    unfold Pol.bump
    simp only
    rw [Nat.mod_eq_of_lt (by omega)]
    rfl

theorem pickScan_three (p : Pol) (hp : Inv p) (hb : Pol.below p) (up : Nat → Bool) :
    p.pickScan up = ⟨rrSeq up (p.ctr + 1) [p.l0, p.l1, p.l2], false⟩ := by
  rw [pickScan_small p up hb]
  unfold Pol.pickSeq
  rw [rrSeq_layers p hp]

theorem runScan_up (up : Nat → Bool) (l : List (Option Host)) : ∀ x ∈ (runScan up l).offered, up x.id = true := by
  -- arms of `runScan`: the end | a nil position | an up host is offered | a down host is skipped
  fun_induction runScan up l <;> intro x hx
  · cases hx
  · cases hx
  · rename_i hup ih
    rcases List.mem_cons.mp hx with e | e
    · rw [e]; exact hup
    · exact ih x e
  · rename_i ih; exact ih x hx

end C11
