import Model.Uuid
import Proofs.Bytes
/-! Version / variant stamping and the bit packing of the timestamp.
    Masks and stamps of one byte are read off as arithmetic on `toNat`: a mask `2^k - 1` is `% 2^k`, and or-ing a
    bit that lies above the mask adds it. -/
namespace Uuid

theorem forall_byte (P : UInt8 → Prop) (h : ∀ n : Fin 256, P (UInt8.ofNat n.val)) : ∀ x : UInt8, P x := by
  intro x
  have := h ⟨x.toNat, x.toNat_lt⟩
  simpa using this

theorem and_mask_toNat (x m : UInt8) (k : Nat) (hm : m.toNat = 2 ^ k - 1) : (x &&& m).toNat = x.toNat % 2 ^ k := by
  rw [UInt8.toNat_and, hm, Nat.and_two_pow_sub_one_eq_mod]

theorem low4_eq_mod (x : UInt8) : (x &&& 0x0F).toNat = x.toNat % 16 := and_mask_toNat x _ 4 rfl

theorem low6_eq_mod (x : UInt8) : (x &&& 0x3F).toNat = x.toNat % 64 := and_mask_toNat x _ 6 rfl

theorem stamp_toNat (x m s : UInt8) (k i : Nat) (hm : m.toNat = 2 ^ k - 1) (hs : s.toNat = 1 <<< i) (hki : k ≤ i) :
    ((x &&& m) ||| s).toNat = x.toNat % 2 ^ k + s.toNat := by
  have : x.toNat % 2 ^ k < 2 ^ i :=
    Nat.lt_of_lt_of_le (Nat.mod_lt _ (Nat.two_pow_pos k)) (Nat.pow_le_pow_right (by decide) hki)
  rw [UInt8.toNat_or, and_mask_toNat x m k hm, hs, Nat.or_comm, ← Nat.shiftLeft_add_eq_or_of_lt this, Nat.add_comm]

theorem v1_toNat (x : UInt8) : ((x &&& 0x0F) ||| 0x10).toNat = x.toNat % 16 + 16 :=
  stamp_toNat x _ _ 4 4 rfl rfl (by decide)

theorem v4_toNat (x : UInt8) : ((x &&& 0x0F) ||| 0x40).toNat = x.toNat % 16 + 64 :=
  stamp_toNat x _ _ 4 6 rfl rfl (by decide)

theorem var_toNat (x : UInt8) : ((x &&& 0x3F) ||| 0x80).toNat = x.toNat % 64 + 128 :=
  stamp_toNat x _ _ 6 7 rfl rfl (by decide)

/-- `u[6] & 0xF0 >> 4` is the high nibble -/
theorem version_eq_div (x : UInt8) : ((x &&& 0xF0) >>> 4).toNat = x.toNat / 16 := by
  have := x.toNat_lt
  rw [UInt8.toNat_shiftRight, UInt8.toNat_and]
  show (x.toNat &&& 0xF0) >>> 4 = _
  rw [Nat.shiftRight_and_distrib, Nat.shiftRight_eq_div_pow]
  show x.toNat / 16 &&& (2 ^ 4 - 1) = _
  rw [Nat.and_two_pow_sub_one_eq_mod]
  omega

theorem v4_version (x : UInt8) : ((((x &&& 0x0F) ||| 0x40) &&& 0xF0) >>> 4).toNat = 4 := by
  rw [version_eq_div, v4_toNat]; omega

theorem v4_low (x : UInt8) : (((x &&& 0x0F) ||| 0x40) &&& 0x0F) = x &&& 0x0F := by
  apply UInt8.toNat_inj.mp
  rw [low4_eq_mod, low4_eq_mod, v4_toNat]; omega

theorem var_low (x : UInt8) : (((x &&& 0x3F) ||| 0x80) &&& 0x3F).toNat = x.toNat % 64 := by
  rw [low6_eq_mod, var_toNat]; omega

theorem variant_ietf_iff_byte : ∀ x : UInt8,
    ((if x &&& 0x80 = 0 then 0 else if x &&& 0x40 = 0 then 2 else if x &&& 0x20 = 0 then 6 else 7) = 2) ↔
      (128 ≤ x.toNat ∧ x.toNat < 192) := by
  apply forall_byte; decide +kernel

theorem tbyte_toNat (t k : Nat) : (tbyte t k).toNat = t / 2 ^ k % 256 := by
  simp [tbyte, UInt8.toNat_ofNat', Nat.shiftRight_eq_div_pow]

theorem or_shl (a i y : Nat) (hy : y < 2 ^ i) : a <<< i ||| y = a * 2 ^ i + y := BE.or_shl a i y hy

end Uuid
