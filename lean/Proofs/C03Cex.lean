/- The concrete requests of the counterexample theorems (`cex…`), the lengths of what `cexMany` / `cexManyStmts` write. -/
import Proofs.C03Reject
namespace C03
open FrameSpec FrameWrite

/-- consistency ONE, nothing else -/
def p0 : GParams := ⟨1, false, [], 0, [], 0, false, 0, []⟩

/-- EXECUTE of prepared id ab with one UnsetValue -/
def cexUnset : GReq := .execute [0xab] { p0 with values := [⟨[], true, none⟩] } []
/-- EXECUTE with values (positional 01, named "n" 02): the name is not on the first value -/
def cexNameLater : GReq := .execute [0xab] { p0 with values := [⟨[], false, some [1]⟩, ⟨[0x6e], false, some [2]⟩] } []
/-- EXECUTE with values (named "n" 01, positional 02) -/
def cexNameFirst : GReq := .execute [0xab] { p0 with values := [⟨[0x6e], false, some [1]⟩, ⟨[], false, some [2]⟩] } []
/-- EXECUTE with one named value -/
def cexNamed : GReq := .execute [0xab] { p0 with values := [⟨[0x6e], false, some [1]⟩] } []
/-- BATCH of one statement "x" with timestamp 5 -/
def cexBatchTs : GReq := .batch 0 [⟨[], [0x78], []⟩] 1 0 true 5 []
/-- QUERY "x" with one bound value -/
def cexQueryValue : GReq := .query [0x78] { p0 with values := [⟨[], false, some [1]⟩] } []
/-- QUERY "x" with page size 2^31 -/
def cexPageSize : GReq := .query [0x78] { p0 with pageSize := 2147483648 } []
/-- QUERY "x" with timestamp 5 -/
def cexQueryTs : GReq := .query [0x78] { p0 with defaultTimestamp := true, tsValue := 5 } []
/-- EXECUTE with n null values -/
def cexMany (n : Nat) : GReq := .execute [0xab] { p0 with values := List.replicate n ⟨[], false, none⟩ } []
/-- BATCH of n statements "x" -/
def cexManyStmts (n : Nat) : GReq := .batch 0 (List.replicate n ⟨[], [0x78], []⟩) 1 0 false 0 []
/-- EXECUTE of a prepared id `id` -/
def cexLongId (id : Bytes) : GReq := .execute id p0 []

theorem many_len (n : Nat) :
    (List.flatMap (wQVal false) (List.replicate n (⟨[], false, none⟩ : GVal))).length = 4 * n := by
  induction n with
  | zero => rfl
  | succ k ih =>
    simp only [List.replicate_succ, List.flatMap_cons, List.length_append, ih]
    simp [wQVal, wVal, wBytes, wInt, wUInt]; omega

theorem many_stmts_len (n : Nat) :
    (List.flatMap wStmt (List.replicate n (⟨[], [0x78], []⟩ : GStmt))).length = 8 * n := by
  induction n with
  | zero => rfl
  | succ k ih =>
    simp only [List.replicate_succ, List.flatMap_cons, List.length_append, ih]
    simp [wStmt, wLongString, wInt, wUInt, wShort]; omega

theorem valuesOk_too_many (v : Nat) (b : Bool) (l : List NVal) (h : l.length > 65535) : valuesOk v b l = false := by
  have : ¬ l.length ≤ 65535 := by omega
  simp [valuesOk, this]

end C03
