import Model.TypeStr
/-! C05, the schema type-string parsers. The recursive-descent parser returns a strictly shorter
rest or fails (`Good`), so its fuel is never exhausted; the interpreters of the parse tree only pass a
crash on (each proved along the ways through its definition); the translation of class names grows a string by a bounded factor. -/
namespace C05TypeStr
open TypeStr

theorem skipWs_len (s : Str) : (skipWs s).length ≤ s.length := by
  induction s with
  | nil => simp [skipWs]
  | cons c r ih => simp only [skipWs]; split <;> simp <;> omega

theorem skipWs_cons_len {s r : Str} {c : Nat} (h : skipWs s = c :: r) : r.length + 1 ≤ s.length := by
  have := skipWs_len s
  rwa [h] at this

theorem takeIdent_len (s : Str) : (takeIdent s).1.length + (takeIdent s).2.length = s.length := by
  induction s with
  | nil => simp [takeIdent]
  | cons c r ih => simp only [takeIdent]; split <;> simp <;> omega

theorem takeIdent_lt (s : Str) (h : (takeIdent s).1.isEmpty = false) : (takeIdent s).2.length + 1 ≤ s.length := by
  have := takeIdent_len s
  cases h1 : (takeIdent s).1 with
  | nil => simp [h1] at h
  | cons a b => simp [h1] at this; omega

/-- what a parser call may return: a strictly shorter rest or `fail` — never a crash (the three reads of
`t.input[t.index]` in parseParamNodes are each behind an end-of-input check) -/
def Good {α : Type} (o : Out (α × Str)) (n : Nat) : Prop :=
  match o with
  | .ok (_, s') => s'.length + 1 ≤ n
  | .fail => True
  | .crash _ => False

theorem Good.mono {α : Type} {o : Out (α × Str)} {n m : Nat} (h : Good o n) (hnm : n ≤ m) : Good o m := by
  cases o with
  | ok a => obtain ⟨_, s'⟩ := a; simp only [Good] at *; omega
  | fail => trivial
  | crash x => exact h

/-- a call that is `Good` either failed or returned a strictly shorter rest: what the callers' `match` on
its result reduces with -/
theorem Good.cases {α : Type} {o : Out (α × Str)} {n : Nat} (h : Good o n) :
    (∃ a s', o = .ok (a, s') ∧ s'.length + 1 ≤ n) ∨ o = .fail := by
  cases o with
  | ok a => exact .inl ⟨a.1, a.2, rfl, h⟩
  | fail => exact .inr rfl
  | crash x => exact h.elim

/-- skipping white space after an optional separator does not make the rest longer -/
theorem skipIf_len (b : Bool) (r x : Str) (h : r.length ≤ x.length) :
    (if b = true then skipWs r else x).length ≤ x.length := by
  split
  · exact Nat.le_trans (skipWs_len r) h
  · exact Nat.le_refl _

/-- the closing `if` of `parseClass`, as the model writes it -/
theorem fin_good (name : Str) (params : Params) (s0 s2 : Str) (n : Nat)
    (h : s2.length + 1 ≤ n) (h' : s2.length ≤ s0.length) :
    Good (if s2.length ≤ s0.length then Out.ok (Node.mk name params (s0.take (s0.length - s2.length)), s2)
             else Out.crash Site.inputSlice) n := by
  simp only [h', if_true, Good]; omega

theorem parse_good : ∀ f : Nat,
    (∀ s, s.length + 1 ≤ f → Good (parseClass f s) s.length) ∧
    (∀ s acc, s.length + 2 ≤ f → Good (paramLoop f s acc) s.length) := by
  intro f
  induction f with
  | zero => exact ⟨fun s h => by omega, fun s acc h => by omega⟩
  | succ f ih =>
    obtain ⟨ihC, ihL⟩ := ih
    constructor
    · intro s hf
      unfold parseClass
      extract_lets s0 p s1
      have h0 : s0.length ≤ s.length := skipWs_len s
      split
      · trivial
      · rename_i hne
        have h1 : p.2.length + 1 ≤ s0.length := takeIdent_lt s0 (by simpa using hne)
        have h2 : s1.length ≤ p.2.length := skipWs_len p.2
        clear_value s1 p s0
        split
        · exact fin_good _ _ _ _ _ (by omega) (by omega)
        · rename_i c r
          split
          · exact fin_good _ _ _ _ _ (by omega) (by omega)
          · have h3 := skipWs_len r
            simp only [List.length_cons] at h2
            rcases (ihL (skipWs r) [] (by omega)).cases with ⟨params, s2, hpl, hlen⟩ | hpl <;> simp only [hpl]
            · exact fin_good _ _ _ _ _ (by omega) (by omega)
            · trivial
    · intro s acc hf
      unfold paramLoop
      split
      · trivial
      · rename_i c r
        split
        · simp [Good]
        · extract_lets p
          split
          · trivial
          · split
            · trivial
            · rename_i c2 r2 heq
              extract_lets hasName s3
              have h1 : r2.length + 1 ≤ p.2.length := skipWs_cons_len heq
              have h2 : p.1.length + p.2.length = (c :: r).length := takeIdent_len _
              have h3 : s3.length ≤ (c :: r).length := skipIf_len hasName r2 (c :: r) (by omega)
              clear_value s3 p
              rcases (ihC s3 (by omega)).cases with ⟨node, s4, hpc, hlen⟩ | hpc <;> simp only [hpc]
              · split
                · trivial
                · rename_i c5 r5 heq5
                  have h4 := skipWs_cons_len heq5
                  have h6 : _ ≤ r5.length + 1 := skipIf_len (c5 == 44) r5 (c5 :: r5) (Nat.le_succ _)
                  exact Good.mono (ihL _ _ (by omega)) (by omega)
              · trivial

def NoCrash {α : Type} (o : Out α) : Prop := ∀ x, o ≠ .crash x

theorem NoCrash.ok {α : Type} (a : α) : NoCrash (Out.ok a) := by intro x h; cases h
theorem NoCrash.fail {α : Type} : NoCrash (Out.fail : Out α) := by intro x h; cases h

theorem NoCrash.crashSite {α : Type} {o : Out α} (h : NoCrash o) : o.crashSite = none := by
  cases o with
  | crash x => exact absurd rfl (h x)
  | _ => rfl

/-! The interpreters of the parse tree only pass a crash on: what each returns is a result, a failure, or the crash of a
call that does not crash. -/

theorem asTypeInfo_noCrash (n : Node) : NoCrash (asTypeInfo n) := by
  fun_induction asTypeInfo n <;> intro x hx <;> simp_all [NoCrash]

theorem collLoop_noCrash (ps : Params) (acc : List (Str × Ty)) : NoCrash (collLoop ps acc) := by
  fun_induction collLoop ps acc <;> first
    | exact .ok _ | exact .fail | assumption
    | exact absurd ‹asTypeInfo _ = .crash _› (asTypeInfo_noCrash _ _)

theorem component_noCrash (cls : Node) : NoCrash (component cls) := by
  fun_cases component cls <;> first
    | exact .ok _ | exact .fail
    | exact absurd ‹asTypeInfo _ = .crash _› (asTypeInfo_noCrash _ _)

theorem typesLoop_noCrash (ps : Params) : NoCrash (typesLoop ps) := by
  fun_induction typesLoop ps <;> first
    | exact .ok _ | exact .fail
    | exact absurd ‹component _ = .crash _› (component_noCrash _ _)
    | exact absurd ‹typesLoop _ = .crash _› (‹NoCrash (typesLoop _)› _)

theorem interpret_noCrash (input : Str) (ast : Node) : NoCrash (interpret input ast) := by
  fun_cases interpret input ast
  all_goals first
    | exact .ok _
    | exact .fail
    | exact absurd ‹typesLoop _ = .crash _› (typesLoop_noCrash _ _)
    | exact absurd ‹component _ = .crash _› (component_noCrash _ _)
    | skip
  · -- `ast.params[:count]` is in bounds: `count` is `len(params)` or `len(params) - 1`
    rename_i count _ _ h
    exact absurd (by unfold count; split <;> omega) h
  · -- a collection class: the crash would be `collLoop`'s
    rename_i x hx
    split at hx
    · exact absurd hx (collLoop_noCrash _ _ _)
    · cases hx

/-- parseType never panics, for every byte string: the recursion fuel `|input| + 1` is never
exhausted, `t.input[startIndex:endIndex]` and `ast.params[:count]` are in bounds -/
theorem parseType_noCrash (input : Str) : NoCrash (parseType input) := by
  have hg := (parse_good (input.length + 1)).1 input (Nat.le_refl _)
  fun_cases parseType input
  · exact NoCrash.ok _
  · exact (‹parseClass _ _ = Out.crash _› ▸ hg).elim
  · exact interpret_noCrash input _

theorem trimLeft_len (s : Str) : (trimLeft s).length ≤ s.length := by
  induction s with
  | nil => simp [trimLeft]
  | cons c r ih => simp only [trimLeft]; split <;> simp <;> omega

theorem trimSpace_len (s : Str) : (trimSpace s).length ≤ s.length := by
  unfold trimSpace
  have h1 := trimLeft_len s
  have h2 := trimLeft_len (trimLeft s).reverse
  simp at *; omega

theorem splitCS_len (s cur : Str) : ∀ p ∈ splitCS s cur, p.length ≤ s.length + cur.length := by
  fun_induction splitCS s cur <;> intro p hp <;> simp_all
  · omega  -- one byte left
  · -- `, `: the part is the segment, or comes later
    rename_i ih
    rcases hp with h | h
    · subst h; simp <;> omega
    · have := ih p h; omega
  · rename_i ih; have := ih p hp; omega  -- any other byte joins the segment

theorem splitLoop_len (s seg : Str) (less : Int) : ∀ p ∈ splitLoop s seg less, p.length ≤ s.length + seg.length := by
  fun_induction splitLoop s seg less <;> intro p hp <;> simp_all
  · exact Nat.le_trans (trimSpace_len _) (by simp)  -- end of input: the last segment
  · rename_i ih; have := ih p hp; omega  -- a top-level comma after an empty segment
  · -- a top-level comma: the part is the segment, or comes later
    rename_i ih
    rcases hp with h | h
    · subst h; exact Nat.le_trans (trimSpace_len _) (by simp)
    · have := ih p h; omega
  · rename_i ih; have := ih p hp; omega  -- any other byte joins the segment

theorem splitComposite_len (s : Str) : ∀ p ∈ splitComposite s, p.length ≤ s.length := by
  intro p hp
  unfold splitComposite at hp
  split at hp
  · simpa using splitLoop_len s [] 0 p hp
  · simpa using splitCS_len s [] p hp

theorem trimPrefix_len (p s : Str) : (trimPrefix p s).length ≤ s.length := by
  unfold trimPrefix; split <;> simp

/-- what is passed on from `name[:len(name)-1]` is strictly shorter than `name` -/
theorem inner_len {p name s : Str} (h : inner p name = .ok s) : s.length + 1 ≤ name.length := by
  unfold inner at h
  split at h
  · cases h; have := trimPrefix_len p (name.take (name.length - 1)); simp at this; omega
  · cases h

/-- `name[:len(name)-1]` is in bounds whenever one of the (non-empty) prefixes matched -/
theorem inner_noCrash {p name : Str} (hp : 1 ≤ p.length) (h : p.isPrefixOf name = true) : NoCrash (inner p name) := by
  have := (List.isPrefixOf_iff_prefix.mp h).length_le
  unfold inner
  split
  · exact .ok _
  · omega

theorem mapOut_noCrash (g : Str → Out Ty) (ns : List Str) (h : ∀ n ∈ ns, NoCrash (g n)) : NoCrash (mapOut g ns) := by
  fun_induction mapOut g ns <;> first
    | exact .ok _ | exact .fail
    | exact absurd ‹g _ = .crash _› (h _ (by simp) _)
    | exact absurd ‹mapOut g _ = .crash _› (‹_ → NoCrash (mapOut g _)› (fun m hm => h m (by simp [hm])) _)

theorem getCT_noCrash : ∀ (f : Nat) (name : Str), name.length + 1 ≤ f → NoCrash (getCT f name) := by
  intro f
  induction f with
  | zero => intro name h; omega
  | succ f ih =>
    intro name hf
    -- the parts of a composite are no longer than the whole
    have part : ∀ s, s.length + 1 ≤ name.length → ∀ n ∈ splitComposite s, NoCrash (getCT f n) :=
      fun s hl n hn => ih n (by have := splitComposite_len s n hn; omega)
    generalize hg : f + 1 = g
    fun_cases getCT g name
    · omega
    all_goals obtain rfl : f = _ := Nat.succ.inj hg
    -- one goal for each way through: what is returned is a type, a failure, or the crash of a call
    all_goals first
      | exact .ok _
      | exact .fail
      -- `name[:len(name)-1]` behind a matched prefix
      | exact absurd ‹inner _ _ = .crash _› (inner_noCrash (by decide) ‹_› _)
      | skip
    all_goals have hl := inner_len ‹inner _ _ = .ok _›
    -- the text between the prefix and the final `>` is strictly shorter than `name` (`hl`)
    -- in the order of the prefixes: frozen, set, list, map (key, then value), tuple
    · exact ih _ (by omega)
    · exact absurd ‹getCT f _ = .crash _› (ih _ (by omega) _)
    · exact absurd ‹getCT f _ = .crash _› (ih _ (by omega) _)
    · exact absurd ‹getCT f _ = .crash _› (part _ hl _ (by simp [‹splitComposite _ = _›]) _)
    · exact absurd ‹getCT f _ = .crash _› (part _ hl _ (by simp [‹splitComposite _ = _›]) _)
    · exact absurd ‹mapOut _ _ = .crash _› (mapOut_noCrash _ _ (part _ hl) _)

theorem getCassandraType_noCrash (s : Str) : NoCrash (getCassandraType s) :=
  getCT_noCrash _ s (Nat.le_refl _)

theorem getTypeInfo_noCrash (s : Str) : NoCrash (getTypeInfo s) := by
  unfold getTypeInfo; split <;> exact getCassandraType_noCrash _

theorem replaceAll_len (old new : Str) (k : Nat) (hk : 1 ≤ k) (h : new.length ≤ k * old.length)
    (n : Nat) (s : Str) : (replaceAll old new n s).length ≤ k * s.length := by
  fun_induction replaceAll old new n s
  · exact Nat.le_mul_of_pos_left _ (by omega)
  · simp
  · -- a match: `new` for `old`, then the rest
    rename_i c r hp ih
    have hl := (List.isPrefixOf_iff_prefix.mp hp).length_le
    simp only [List.length_append, List.length_drop] at *
    have h2 : k * ((c :: r).length - old.length) + k * old.length = k * (c :: r).length := by
      rw [← Nat.mul_add]; congr 1; omega
    omega
  · rename_i r _ ih
    simp only [List.length_cons]
    have : k * (r.length + 1) = k * r.length + k := by rw [Nat.mul_add]; simp
    omega

theorem replace_len (s old new : Str) (k : Nat) (hk : 1 ≤ k) (h : new.length ≤ k * old.length) :
    (replace s old new).length ≤ k * s.length := by
  unfold replace
  split
  · exact Nat.le_mul_of_pos_left _ (by omega)
  · exact replaceAll_len old new k hk h _ s

theorem lookup_mem (tbl : List (Str × Nat)) (s : Str) (v : Nat) (h : lookup tbl s = some v) : v ∈ tbl.map (·.2) := by
  revert h
  fun_induction lookup tbl s <;> intro h
  · cases h
  · cases h; simp
  · rename_i ih; simp [ih h]

theorem typeName_apache_len (x : Str) : (typeName (apacheType x)).length ≤ 9 := by
  have hall : ∀ v ∈ (0 :: apacheTable.map (·.2)), (typeName v).length ≤ 9 := by decide
  unfold apacheType
  cases h : lookup apacheTable (trimPrefix kAPACHE x) with
  | none => exact hall 0 (List.mem_cons_self ..)
  | some v => exact hall v (List.mem_cons_of_mem _ (lookup_mem _ _ _ h))

/-- the class name collected so far, translated -/
theorem flush_len (cur : Str) :
    (if cur.isEmpty then [] else typeName (apacheType cur.reverse)).length ≤ 9 * cur.length := by
  cases cur with
  | nil => simp
  | cons a b => have := typeName_apache_len (a :: b).reverse; simp at *; omega

theorem translateFields_len (s cur : Str) : (translateFields s cur).length ≤ 9 * (s.length + cur.length) := by
  induction s generalizing cur with
  | nil => unfold translateFields; simpa using flush_len cur
  | cons c r ih =>
    unfold translateFields
    split
    · have h0 := ih []
      have := flush_len cur
      simp at *; omega
    · have := ih (c :: cur)
      simp at *; omega

end C05TypeStr
