import Model.Prepare
/-!
# C14, session tier: the transitions of the connection-level machine and of the specification, by name

`PConn.step` is a function with some fifty alternatives, twenty of which succeed. `PConn.Step s a s' evs` lists those
twenty in eighteen constructors (`finishRet` and `abandon` cover two each), each with the facts its guards establish
and the state and events it produces; `Step_of_step` / `step_of_Step` say that this is what `PConn.step` computes.
Proofs about every step go by cases on `Step`; proofs that a step is enabled apply a constructor. `Obs.Step o e o'`
does the same for the specification `Obs.step`: six transitions, one per kind of accepted event; `prep` and `rm` are
one operation on the specification state (`touch`).
-/
namespace PConn
variable {κ : Type} [DecidableEq κ]

/-- call c is inside `prepareStatement` for its next entry `e`, selecting on flight f -/
structure Waits (s : State κ) (c : Nat) (cl : Caller κ) (f : Nat) (fl : Flight κ) (e : κ × Nat) : Prop where
  hc  : s.callers[c]? = some cl
  hpc : cl.pc = .waiting f
  hf  : s.flights[f]? = some fl
  he  : cl.entries[cl.got.length]? = some e

def setCaller (s : State κ) (c : Nat) (cl : Caller κ) : State κ := { s with callers := s.callers.set c cl }

/-- `finish` on an UNPREPARED answer: evictPreparedID for the key the answer's id stands for, if any -/
def unprepEvict (s : State κ) (cl : Caller κ) (id : Id) : State κ × List (Ev κ) :=
  match unprepKey s cl id with
  | some k => evictIfMatch s k id
  | none => (s, [])

inductive Step (s : State κ) : Action κ → State κ → List (Ev κ) → Prop
  | call (b : Bool) {es : List (κ × Nat)} (hes : es ≠ []) :
      Step s (.call b es)
        { s with callers := s.callers ++ [{ batch := b, entries := es, got := [], pc := .start, banned := isRemoved s }] }
        [.start s.callers.length b es]
  | hit {c cl e f} (hc : s.callers[c]? = some cl) (hpc : cl.pc = .start) (he : cl.entries[cl.got.length]? = some e)
      (hck : s.cache e.1 = some f) : Step s (.lookup c) (setCaller s c { cl with pc := .waiting f }) []
  | miss {c cl e} (hc : s.callers[c]? = some cl) (hpc : cl.pc = .start) (he : cl.entries[cl.got.length]? = some e)
      (hck : s.cache e.1 = none) :
      Step s (.lookup c)
        { s with cache := fun k' => if k' = e.1 then some s.flights.length else s.cache k',
                 flights := s.flights ++ [{ key := e.1, ans := none, done := false, removed := false, spawned := false }],
                 callers := s.callers.set c { cl with pc := .won s.flights.length } } []
  | spawn {c cl f fl} (hc : s.callers[c]? = some cl) (hpc : cl.pc = .won f) (hf : s.flights[f]? = some fl) :
      Step s (.spawn c)
        { s with flights := s.flights.set f { fl with spawned := true },
                 callers := s.callers.set c { cl with pc := .waiting f } } []
  | evict {k g} (hst : ¬ s.strict = true) (hck : s.cache k = some g) : Step s (.evict k) (removeKey s k).1 (removeKey s k).2
  | srvPrepare {f fl} (r : PAns) (hf : s.flights[f]? = some fl) (ha : fl.ans = none ∧ fl.spawned = true) :
      Step s (.srvPrepare f r) { s with flights := s.flights.set f { fl with ans := some r } } [.prep f fl.key r]
  | completeOk {f fl p} (hf : s.flights[f]? = some fl) (ha : fl.ans = some (some p)) (hd : ¬ fl.done = true) :
      Step s (.complete f) (setDone s f) []
  | completeFail {f fl} (hf : s.flights[f]? = some fl) (ha : fl.ans = some none) (hd : ¬ fl.done = true) :
      Step s (.complete f) (setDone (removeKey s fl.key).1 f) (removeKey s fl.key).2
  | obsFail {c cl f fl e} (a : XAns) (w : Waits s c cl f fl e) (hd : fl.done = true) (ha : fl.ans = some none) :
      Step s (.observe c a) (setCaller s c { cl with pc := .returned }) [.ret c (.prepErr f)]
  | obsCount {c cl f fl e id nc} (a : XAns) (w : Waits s c cl f fl e) (hd : fl.done = true)
      (ha : fl.ans = some (some (id, nc))) (hne : e.2 ≠ nc) :
      Step s (.observe c a) (setCaller s c { cl with pc := .returned }) [.ret c .countErr]
  | obsExec {c cl f fl e id} (a : XAns) (w : Waits s c cl f fl e) (hd : fl.done = true)
      (ha : fl.ans = some (some (id, e.2))) (hlen : (cl.got ++ [f]).length = cl.entries.length) :
      Step s (.observe c a) (setCaller s c { cl with got := cl.got ++ [f], pc := .answered a, banned := isRemoved s })
        [.exec c ((cl.got ++ [f]).map (idOf s)) a]
  | obsMore {c cl f fl e id} (a : XAns) (w : Waits s c cl f fl e) (hd : fl.done = true)
      (ha : fl.ans = some (some (id, e.2))) (hlen : ¬ (cl.got ++ [f]).length = cl.entries.length) :
      Step s (.observe c a) (setCaller s c { cl with got := cl.got ++ [f], pc := .start }) []
  | finishRet {c cl a out} (hao : (a = .ok ∧ out = .ok) ∨ (a = .err ∧ out = .execErr)) (hc : s.callers[c]? = some cl)
      (hpc : cl.pc = .answered a) : Step s (.finish c) (setCaller s c { cl with pc := .returned }) [.ret c out]
  | finishUnprep {c cl id} (hc : s.callers[c]? = some cl) (hpc : cl.pc = .answered (.unprep id)) :
      Step s (.finish c) (setCaller (unprepEvict s cl id).1 c { cl with got := [], pc := .start }) (unprepEvict s cl id).2
  | cancel {c} (hlt : c < s.callers.length) :
      Step s (.cancel c) { s with cancelled := fun c' => decide (c' = c) || s.cancelled c' } [.cancel c]
  | abandon {c cl} (hc : s.callers[c]? = some cl) (hcan : s.cancelled c = true)
      (hpc : (∃ f, cl.pc = .waiting f) ∨ (∃ a, cl.pc = .answered a)) :
      Step s (.abandon c) (setCaller s c { cl with pc := .abandoned }) [.ret c .ctxErr]
  | abandonLate {c cl f fl e id} (w : Waits s c cl f fl e) (hcan : s.cancelled c = true) (hd : fl.done = true)
      (ha : fl.ans = some (some (id, e.2))) (hlen : (cl.got ++ [f]).length = cl.entries.length) :
      Step s (.abandonLate c) (setCaller s c { cl with got := cl.got ++ [f], pc := .lagging }) [.ret c .ctxErr]
  | srvLate {c cl} (a : XAns) (hc : s.callers[c]? = some cl) (hpc : cl.pc = .lagging) :
      Step s (.srvLate c a) (setCaller s c { cl with pc := .abandoned, banned := isRemoved s })
        [.exec c (cl.got.map (idOf s)) a]

theorem step_of_Step {s s' : State κ} {a : Action κ} {evs : List (Ev κ)} (h : Step s a s' evs) :
    PConn.step s a = some (s', evs) := by
  cases h with
  | call b hes => simp only [PConn.step]; rw [if_neg hes]
  | hit hc hpc he hck => simp only [PConn.step, hc, hpc, he, hck, if_true]; rfl
  | miss hc hpc he hck => simp only [PConn.step, hc, hpc, he, hck, if_true]
  | spawn hc hpc hf => simp only [PConn.step, hc, hpc, hf]
  | evict hst hck => simp only [PConn.step, hck]; rw [if_neg hst]
  | srvPrepare r hf ha => simp only [PConn.step, hf]; rw [if_pos ha]
  | completeOk hf ha hd => simp only [PConn.step, hf, ha]; rw [if_neg hd]
  | completeFail hf ha hd => simp only [PConn.step, hf, ha]; rw [if_neg hd]
  | obsFail a w hd ha => simp only [PConn.step, w.hc, w.hpc, w.hf, w.he, hd, ha, if_true]; rfl
  | obsCount a w hd ha hne => simp only [PConn.step, w.hc, w.hpc, w.hf, w.he, hd, ha, if_true]; rw [if_pos hne]; rfl
  | obsExec a w hd ha hlen =>
    simp only [PConn.step, w.hc, w.hpc, w.hf, w.he, hd, ha, if_true]; rw [if_neg (fun h => h rfl), if_pos hlen]; rfl
  | obsMore a w hd ha hlen =>
    simp only [PConn.step, w.hc, w.hpc, w.hf, w.he, hd, ha, if_true]; rw [if_neg (fun h => h rfl), if_neg hlen]; rfl
  | finishRet hao hc hpc => rcases hao with ⟨rfl, rfl⟩ | ⟨rfl, rfl⟩ <;> (simp only [PConn.step, hc, hpc]; rfl)
  | finishUnprep hc hpc => simp only [PConn.step, hc, hpc]; rfl
  | cancel hlt => simp only [PConn.step, hlt, if_true]
  | abandon hc hcan hpc => rcases hpc with ⟨f, hpc⟩ | ⟨a, hpc⟩ <;> (simp only [PConn.step, hc, hcan, hpc, if_true]; rfl)
  | abandonLate w hcan hd ha hlen =>
    simp only [PConn.step, w.hc, hcan, w.hpc, w.hf, w.he, hd, ha, if_true]; rw [if_pos ⟨trivial, hlen⟩]; rfl
  | srvLate a hc hpc => simp only [PConn.step, hc, hpc, if_true]; rfl

theorem Step_of_step {s s' : State κ} {a : Action κ} {evs : List (Ev κ)} (h : PConn.step s a = some (s', evs)) :
    Step s a s' evs := by
  suffices ∀ r, PConn.step s a = some r → Step s a r.1 r.2 from this _ h
  intro r
  -- `caseN`: the N-th alternative of `PConn.step`, in the order of its definition; the others fail
  fun_cases PConn.step s a <;> intro h <;> cases h
  case case2 hes => exact .call _ hes
  case case5 hc hpc _ he _ hck => exact .hit hc hpc he hck
  case case6 hc hpc _ he hck _ => exact .miss hc hpc he hck
  case case10 hc _ hpc _ hf => exact .spawn hc hpc hf
  case case14 hst _ hck => exact .evict hst hck
  case case16 hf ha => exact .srvPrepare _ hf ha
  case case21 hf hd _ ha => exact .completeOk hf ha hd
  case case22 hf hd _ ha => exact .completeFail hf ha hd
  case case24 hc _ hpc _ _ he hf hd ha => exact .obsFail _ ⟨hc, hpc, hf, he⟩ hd ha
  case case25 hc _ hpc _ _ he hf hd _ _ ha hne => exact .obsCount _ ⟨hc, hpc, hf, he⟩ hd ha hne
  case case26 hc _ hpc _ _ he hf hd _ _ ha hne hlen =>
    obtain rfl := Decidable.of_not_not hne; exact .obsExec _ ⟨hc, hpc, hf, he⟩ hd ha hlen
  case case27 hc _ hpc _ _ he hf hd _ _ ha hne hlen =>
    obtain rfl := Decidable.of_not_not hne; exact .obsMore _ ⟨hc, hpc, hf, he⟩ hd ha hlen
  case case33 hc hpc => exact .finishRet (.inl ⟨rfl, rfl⟩) hc hpc
  case case34 hc hpc => exact .finishRet (.inr ⟨rfl, rfl⟩) hc hpc
  case case35 hc _ hpc _ => exact .finishUnprep hc hpc
  case case37 hlt => exact .cancel hlt
  case case40 hc hcan _ hpc => exact .abandon hc hcan (.inl ⟨_, hpc⟩)
  case case41 hc hcan _ hpc => exact .abandon hc hcan (.inr ⟨_, hpc⟩)
  case case45 hc hcan _ hpc _ _ he hf hd _ _ ha hq =>
    obtain ⟨rfl, hlen⟩ := hq; exact .abandonLate ⟨hc, hpc, hf, he⟩ hcan hd ha hlen
  case case53 hc hpc => exact .srvLate _ hc hpc

theorem Step.isSome {s s' : State κ} {a : Action κ} {evs : List (Ev κ)} (h : Step s a s' evs) :
    (PConn.step s a).isSome = true := by
  rw [step_of_Step h]; rfl

end PConn

namespace Obs
open PConn
variable {κ : Type} [DecidableEq κ]

/-- what `prep` and `rm` do alike: the record of flight f becomes `x`, a flight heard of for the first time becomes
    known, the credit of key k becomes `cr` -/
def touch (o : OState κ) (f : Nat) (x : OFlight κ) (k : κ) (cr : Nat) : OState κ :=
  { o with flights := fun g => if g = f then some x else o.flights g,
           known := if o.flights f = none then f :: o.known else o.known,
           credit := fun k' => if k' = k then cr else o.credit k' }

inductive Step (o : OState κ) : Ev κ → OState κ → Prop
  | start {c b es} (hc : c = o.callers.length) (hes : es ≠ []) :
      Step o (.start c b es) { o with callers := o.callers ++ [{ entries := es, pc := .active, banned := removedNow o }] }
  | prep {f k r} (hcr : 0 < o.credit k)
      (hany : o.callers.any (fun cl => (cl.pc.live || cl.pc.gaveUp) && hasKey cl.entries k) = true) (x : OFlight κ)
      (hx : o.flights f = none ∧ x = ⟨k, some r, false⟩ ∨
        ∃ fl, o.flights f = some fl ∧ (fl.key = k ∧ fl.ans = none) ∧ x = { fl with ans := some r }) :
      Step o (.prep f k r) (touch o f x k (o.credit k - 1))
  | rm {k f} (hj : ¬ (o.strict = true ∧ justified o k f = false)) (x : OFlight κ)
      (hx : o.flights f = none ∧ x = ⟨k, none, true⟩ ∨
        ∃ fl, o.flights f = some fl ∧ (fl.key = k ∧ fl.removed = false) ∧ x = { fl with removed := true }) :
      Step o (.rm k f) (touch o f x k (o.credit k + 1))
  | exec {c ids a cl pc} (hc : o.callers[c]? = some cl) (hok : okEntries o cl.banned cl.entries ids = true)
      (hpc : cl.pc.live = true ∧ pc = .awaiting a ∨ cl.pc = .abandoned true ∧ pc = .abandoned false) :
      Step o (.exec c ids a) { o with callers := o.callers.set c { cl with pc := pc, banned := removedNow o } }
  | ret {c out cl} (hc : o.callers[c]? = some cl)
      (hq : match (generalizing := false) out with
        | .ok => cl.pc = .awaiting .ok
        | .execErr => cl.pc = .awaiting .err
        | .prepErr f => (cl.pc.live = true ∧ cl.banned f = false) ∧ ∃ fl, o.flights f = some fl ∧
            hasKey cl.entries fl.key = true ∧ fl.ans = some none ∧ fl.removed = true
        | .countErr => cl.pc.live = true ∧ countMismatch o cl = true
        | .ctxErr => o.cancelled c = true ∧ cl.pc.running = true) :
      Step o (.ret c out) (setPc o c cl (match (generalizing := false) out with | .ctxErr => .abandoned cl.pc.live | _ => .returned))
  | cancel {c} (hlt : c < o.callers.length) :
      Step o (.cancel c) { o with cancelled := fun c' => decide (c' = c) || o.cancelled c' }

theorem Step_of_step {o o' : OState κ} {e : Ev κ} (h : Obs.step o e = some o') : Step o e o' := by
  revert h
  -- `caseN`: the N-th alternative of `Obs.step`, in the order of its definition
  fun_cases Obs.step o e <;> intro h <;> cases h
  case case1 hc => exact .start hc.1 hc.2
  case case3 hc hf => simpa [touch, hf] using Step.prep hc.1 hc.2 _ (.inl ⟨hf, rfl⟩)
  case case4 hc fl hf hk => simpa [touch, hf] using Step.prep hc.1 hc.2 _ (.inr ⟨fl, hf, hk, rfl⟩)
  case case8 hj hf => simpa [touch, hf] using Step.rm hj _ (.inl ⟨hf, rfl⟩)
  case case9 hj fl hf hk => simpa [touch, hf] using Step.rm hj _ (.inr ⟨fl, hf, hk, rfl⟩)
  case case12 hc hk => exact .exec hc hk.2 (.inl ⟨hk.1, rfl⟩)
  case case13 hc _ hk => exact .exec hc hk.2 (.inr ⟨hk.1, rfl⟩)
  case case20 hc _ hp fl hf hq => exact .ret hc ⟨hp, fl, hf, hq⟩
  case case30 hc => exact .cancel hc
  -- the other returns: `ok`, `execErr`, `countErr`, `ctxErr`
  all_goals exact .ret ‹_› ‹_›

theorem step_of_Step {o o' : OState κ} {e : Ev κ} (h : Step o e o') : Obs.step o e = some o' := by
  cases h with
  | start hc hes => simp [Obs.step, hc, hes]
  | prep hcr hany x hx =>
    rcases hx with ⟨hf, rfl⟩ | ⟨fl, hf, hk, rfl⟩
    · simp [Obs.step, touch, hcr, hany, hf]
    · simp [Obs.step, touch, hcr, hany, hf, hk]
  | rm hj x hx =>
    rcases hx with ⟨hf, rfl⟩ | ⟨fl, hf, hk, rfl⟩
    · simp [Obs.step, touch, hj, hf]
    · simp [Obs.step, touch, hj, hf, hk]
  | exec hc hok hpc =>
    rcases hpc with ⟨hl, rfl⟩ | ⟨hl, rfl⟩
    · simp only [Obs.step, hc]; rw [if_pos ⟨hl, hok⟩]
    · simp only [Obs.step, hc]; rw [if_neg (by rw [hl]; simp [OPC.live]), if_pos ⟨hl, hok⟩]
  | @ret c out cl hc hq =>
    cases out
    case prepErr f => obtain ⟨hp, fl, hf, hq⟩ := hq; simp only [Obs.step, hc]; rw [if_pos hp]; simp only [hf]; rw [if_pos hq]
    all_goals simp_all [Obs.step, setPc]
  | cancel hlt => simp [Obs.step, hlt]

theorem run_one {o o' : OState κ} {e : Ev κ} (h : Step o e o') : Obs.run o [e] = some o' := by
  simp only [Obs.run, step_of_Step h]

end Obs
