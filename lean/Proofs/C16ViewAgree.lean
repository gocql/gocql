import Proofs.C16Refresh
import Proofs.C16ViewDispatch
/-! the invariant `Agree` of a session view: pools and policy entries belong to the ring's current objects, policy entries
sit in the list their locality assigns them to. It is kept by a refresh (refreshRing with its session-level effects;
repaired: removals first, then additions) whatever is reported, by the effects of status events and by `connected`. -/
namespace C16
open Ring ClusterView

theorem startPoolFill_ring (env : Env) (v : View) (h : RHost) : (v.startPoolFill env h).ring = v.ring := rfl
theorem removeHost_ring (env : Env) (v : View) (h : RHost) : (v.removeHost env h).ring = (v.ring.remove h.id).1 := rfl

theorem removeAllV_ring (env : Env) (prev : List (Nat × RHost)) : ∀ (v : View),
    (removeAllV env v prev).ring = removeAll v.ring prev := by
  induction prev with
  | nil => intro v; rfl
  | cons p t ih => intro v; obtain ⟨k, x⟩ := p; simp only [removeAllV, removeAll]; rw [ih, removeHost_ring]

theorem addStepV_ring (env : Env) (v : View) (h : RHost) : (addStepV env v h).ring = (v.ring.addIfMissing h).1 := by
  unfold addStepV
  cases hl : lookup v.ring.byId h.id with
  | none => rw [addIfMissing_of_none _ h hl]; rfl
  | some e => rw [addIfMissing_of_some _ h e hl]

theorem foldl_addStepV_ring (env : Env) (l : List RHost) : ∀ (v : View),
    (l.foldl (addStepV env) v).ring = l.foldl (fun r h => (r.addIfMissing h).1) v.ring :=
  fun _ => (List.foldl_hom (·.ring) fun v h => (addStepV_ring env v h).symm).symm

def accepted (env : Env) (reported : List RHost) : List RHost := reported.filter (fun h => !env.filter h)

/-- the hosts removed by pass 1 of `View.refresh` -/
def goneV (env : Env) (v : View) (reported : List RHost) : List (Nat × RHost) := goneOf v.ring env.filter reported

theorem refreshV_eq (env : Env) (v : View) (reported : List RHost) :
    v.refresh env reported = (accepted env reported).foldl (addStepV env) (removeAllV env v (goneV env v reported)) := rfl

theorem refreshV_ring (env : Env) (v : View) (reported : List RHost) :
    (v.refresh env reported).ring = (v.ring.refresh env.filter reported).1 := by
  rw [refreshV_eq, foldl_addStepV_ring, removeAllV_ring, refresh_ring]
  rfl

/-- a reported host with a new id is stored and its pool fill started -/
def View.addNew (env : Env) (v : View) (h : RHost) : View :=
  ({ v with ring := (v.ring.addIfMissing h).1 }).startPoolFill env h

theorem addStepV_of_none (env : Env) (v : View) (h : RHost) (hl : lookup v.ring.byId h.id = none) :
    addStepV env v h = View.addNew env v h := by
  unfold addStepV View.addNew
  rw [addIfMissing_of_none _ h hl]

theorem addStepV_of_some (env : Env) (v : View) (h e : RHost) (hl : lookup v.ring.byId h.id = some e) :
    addStepV env v h = v := by
  unfold addStepV
  rw [addIfMissing_of_some _ h e hl]

theorem removeAllV_preserves (env : Env) (P : View → Prop) (hrm : ∀ v h, P v → P (v.removeHost env h))
    (prev : List (Nat × RHost)) : ∀ v, P v → P (removeAllV env v prev) := by
  induction prev with
  | nil => intro v hp; exact hp
  | cons p t ih => intro v hp; obtain ⟨k, x⟩ := p; exact ih _ (hrm v x hp)

theorem addAllV_preserves (env : Env) (P : View → Prop)
    (hadd : ∀ v h, P v → lookup v.ring.byId h.id = none → P (View.addNew env v h)) (l : List RHost) :
    ∀ v, P v → P (l.foldl (addStepV env) v) := by
  refine foldl_inv P _ (fun v h hp => ?_) l
  cases hl : lookup v.ring.byId h.id with
  | none => rw [addStepV_of_none env v h hl]; exact hadd v h hp hl
  | some e => rw [addStepV_of_some env v h e hl]; exact hp

theorem refreshV_preserves (env : Env) (P : View → Prop)
    (hadd : ∀ v h, P v → lookup v.ring.byId h.id = none → P (View.addNew env v h))
    (hrm : ∀ v h, P v → P (v.removeHost env h)) (v : View) (hp : P v) (reported : List RHost) :
    P (v.refresh env reported) := by
  rw [refreshV_eq]
  exact addAllV_preserves env P hadd _ _ (removeAllV_preserves env P hrm _ v hp)

/-- every pool belongs to the ring's current object of its host id -/
def PoolsOk (v : View) : Prop := ∀ e ∈ v.pools, lookup v.ring.byId e.1 = some e.2
/-- every policy entry is the ring's current object of its host id -/
def PolOk (v : View) : Prop := ∀ h ∈ v.pol.all, lookup v.ring.byId h.id = some h
/-- the token-aware list is only used by a token-aware policy; local / remote lists hold local / remote hosts -/
def PolPlaced (env : Env) (p : Policy) : Prop :=
  (env.tokenAware = false → p.ta = []) ∧ (∀ x ∈ p.loc, env.isLocal x = true) ∧ (∀ x ∈ p.rem, env.isLocal x = false)

theorem PolPlaced.ta {env : Env} {p : Policy} (h : PolPlaced env p) : env.tokenAware = false → p.ta = [] := h.1
theorem PolPlaced.loc {env : Env} {p : Policy} (h : PolPlaced env p) : ∀ x ∈ p.loc, env.isLocal x = true := h.2.1
theorem PolPlaced.rem {env : Env} {p : Policy} (h : PolPlaced env p) : ∀ x ∈ p.rem, env.isLocal x = false := h.2.2

structure Agree (env : Env) (v : View) : Prop where
  sinv : SInv v.ring
  pools : PoolsOk v
  pol : PolOk v
  placed : PolPlaced env v.pol

theorem fbAdd_ta (env : Env) (p : Policy) (h : RHost) : (p.fbAdd env h).ta = p.ta := by
  unfold Policy.fbAdd; split <;> rfl
theorem fbAdd_loc (env : Env) (p : Policy) (h : RHost) : (p.fbAdd env h).loc = if env.isLocal h then cowAdd p.loc h else p.loc := by
  unfold Policy.fbAdd; split <;> rfl
theorem fbAdd_rem (env : Env) (p : Policy) (h : RHost) : (p.fbAdd env h).rem = if env.isLocal h then p.rem else cowAdd p.rem h := by
  unfold Policy.fbAdd; split <;> rfl
theorem fbRemove_ta (env : Env) (p : Policy) (h : RHost) : (p.fbRemove env h).ta = p.ta := by
  unfold Policy.fbRemove; split <;> rfl
theorem fbRemove_loc (env : Env) (p : Policy) (h : RHost) :
    (p.fbRemove env h).loc = if env.isLocal h then cowRemove p.loc (cAddr h) else p.loc := by
  unfold Policy.fbRemove; split <;> rfl
theorem fbRemove_rem (env : Env) (p : Policy) (h : RHost) :
    (p.fbRemove env h).rem = if env.isLocal h then p.rem else cowRemove p.rem (cAddr h) := by
  unfold Policy.fbRemove; split <;> rfl

theorem add_ta (env : Env) (p : Policy) (h : RHost) : (p.add env h).ta = if env.tokenAware then cowAdd p.ta h else p.ta := by
  unfold Policy.add; rw [fbAdd_ta]; cases env.tokenAware <;> rfl
theorem add_loc (env : Env) (p : Policy) (h : RHost) : (p.add env h).loc = if env.isLocal h then cowAdd p.loc h else p.loc := by
  unfold Policy.add; rw [fbAdd_loc]; cases env.tokenAware <;> rfl
theorem add_rem (env : Env) (p : Policy) (h : RHost) : (p.add env h).rem = if env.isLocal h then p.rem else cowAdd p.rem h := by
  unfold Policy.add; rw [fbAdd_rem]; cases env.tokenAware <;> rfl
theorem remove_ta (env : Env) (p : Policy) (h : RHost) :
    (p.remove env h).ta = if env.tokenAware then cowRemove p.ta (cAddr h) else p.ta := by
  unfold Policy.remove; rw [fbRemove_ta]; cases env.tokenAware <;> rfl
theorem remove_loc (env : Env) (p : Policy) (h : RHost) :
    (p.remove env h).loc = if env.isLocal h then cowRemove p.loc (cAddr h) else p.loc := by
  unfold Policy.remove; rw [fbRemove_loc]; cases env.tokenAware <;> rfl
theorem remove_rem (env : Env) (p : Policy) (h : RHost) :
    (p.remove env h).rem = if env.isLocal h then p.rem else cowRemove p.rem (cAddr h) := by
  unfold Policy.remove; rw [fbRemove_rem]; cases env.tokenAware <;> rfl

theorem mem_all (p : Policy) (x : RHost) : x ∈ p.all ↔ x ∈ p.ta ∨ x ∈ p.loc ∨ x ∈ p.rem := by
  simp [Policy.all, List.mem_append]

theorem mem_cowAdd_sub (l : List RHost) (h x : RHost) (hx : x ∈ cowAdd l h) : x ∈ l ∨ x = h := by
  rcases (mem_cowAdd l h x).mp hx with h1 | h1
  · exact Or.inl h1
  · exact Or.inr h1.1

theorem mem_fbAdd_all (env : Env) (p : Policy) (h x : RHost) (hx : x ∈ (p.fbAdd env h).all) : x ∈ p.all ∨ x = h := by
  rw [mem_all, fbAdd_ta, fbAdd_loc, fbAdd_rem] at hx
  rw [mem_all]
  rcases hx with hx | hx | hx
  · exact Or.inl (Or.inl hx)
  · split at hx
    · rcases mem_cowAdd_sub _ _ _ hx with h1 | h1
      · exact Or.inl (Or.inr (Or.inl h1))
      · exact Or.inr h1
    · exact Or.inl (Or.inr (Or.inl hx))
  · split at hx
    · exact Or.inl (Or.inr (Or.inr hx))
    · rcases mem_cowAdd_sub _ _ _ hx with h1 | h1
      · exact Or.inl (Or.inr (Or.inr h1))
      · exact Or.inr h1

/-- `policy.AddHost` is the fallback's after the token-aware list's `add` -/
theorem mem_add_all (env : Env) (p : Policy) (h x : RHost) (hx : x ∈ (p.add env h).all) : x ∈ p.all ∨ x = h := by
  unfold Policy.add at hx
  cases ht : env.tokenAware with
  | false => rw [ht] at hx; exact mem_fbAdd_all env p h x hx
  | true =>
    rw [ht] at hx
    rcases mem_fbAdd_all env _ h x hx with h1 | h1
    · rw [mem_all] at h1 ⊢
      rcases h1 with h1 | h1
      · exact (mem_cowAdd_sub _ _ _ h1).imp Or.inl id
      · exact Or.inl (Or.inr h1)
    · exact Or.inr h1

theorem mem_fbRemove_all (env : Env) (p : Policy) (h x : RHost) (hx : x ∈ (p.fbRemove env h).all) : x ∈ p.all := by
  rw [mem_all, fbRemove_ta, fbRemove_loc, fbRemove_rem] at hx
  rw [mem_all]
  rcases hx with hx | hx | hx
  · exact Or.inl hx
  · split at hx
    · exact Or.inr (Or.inl ((mem_cowRemove _ _ _).mp hx).1)
    · exact Or.inr (Or.inl hx)
  · split at hx
    · exact Or.inr (Or.inr hx)
    · exact Or.inr (Or.inr ((mem_cowRemove _ _ _).mp hx).1)

/-- after the fallback's `RemoveHost(h)` / `HostDown(h)` the object `h` is in neither of its lists: it is dropped
from the list of its locality and was never in the other -/
theorem fbRemove_not_mem (env : Env) (p : Policy) (hp : PolPlaced env p) (h : RHost) :
    h ∉ (p.fbRemove env h).loc ∧ h ∉ (p.fbRemove env h).rem := by
  rw [fbRemove_loc, fbRemove_rem]
  cases hl : env.isLocal h with
  | true =>
    exact ⟨fun hm => ((mem_cowRemove _ _ _).mp hm).2 rfl, fun hm => by have := hp.rem h hm; rw [hl] at this; cases this⟩
  | false =>
    exact ⟨fun hm => (by have := hp.loc h hm; rw [hl] at this; cases this), fun hm => ((mem_cowRemove _ _ _).mp hm).2 rfl⟩

theorem mem_remove_all (env : Env) (p : Policy) (hp : PolPlaced env p) (h x : RHost) (hx : x ∈ (p.remove env h).all) :
    x ∈ p.all ∧ x ≠ h := by
  have hta : x ∈ (p.remove env h).ta → x ∈ p.ta ∧ x ≠ h := by
    rw [remove_ta]
    cases ht : env.tokenAware with
    | true => exact fun hm => ⟨((mem_cowRemove _ _ _).mp hm).1, fun e => ((mem_cowRemove _ _ _).mp hm).2 (by rw [e])⟩
    | false => intro hm; rw [hp.ta ht] at hm; cases hm
  have hfb := fbRemove_not_mem env p hp h
  rw [mem_all, remove_loc, remove_rem] at hx
  rw [← fbRemove_loc, ← fbRemove_rem] at hx
  rw [mem_all]
  rcases hx with hx | hx | hx
  · exact ⟨Or.inl (hta hx).1, (hta hx).2⟩
  · refine ⟨Or.inr (Or.inl ?_), fun e => hfb.1 (e ▸ hx)⟩
    rw [fbRemove_loc] at hx; split at hx
    · exact ((mem_cowRemove _ _ _).mp hx).1
    · exact hx
  · refine ⟨Or.inr (Or.inr ?_), fun e => hfb.2 (e ▸ hx)⟩
    rw [fbRemove_rem] at hx; split at hx
    · exact hx
    · exact ((mem_cowRemove _ _ _).mp hx).1

theorem placed_cowAdd (P : RHost → Prop) (l : List RHost) (h : RHost) (hl : ∀ x ∈ l, P x) (hh : P h) : ∀ x ∈ cowAdd l h, P x := by
  intro x hx
  rcases mem_cowAdd_sub _ _ _ hx with h1 | h1
  · exact hl x h1
  · rw [h1]; exact hh

theorem placed_fbAdd (env : Env) (p : Policy) (h : RHost) (hp : PolPlaced env p) : PolPlaced env (p.fbAdd env h) := by
  refine ⟨fun ht => by rw [fbAdd_ta]; exact hp.ta ht, ?_, ?_⟩
  · rw [fbAdd_loc]
    cases hl : env.isLocal h with
    | true => simp only [↓reduceIte]; exact placed_cowAdd (fun x => env.isLocal x = true) _ _ hp.loc hl
    | false => simpa using hp.loc
  · rw [fbAdd_rem]
    cases hl : env.isLocal h with
    | true => simpa using hp.rem
    | false => simp only [Bool.false_eq_true, ↓reduceIte]; exact placed_cowAdd (fun x => env.isLocal x = false) _ _ hp.rem hl

/-- the token-aware list may hold anything as long as the policy is token aware -/
theorem placed_ta (env : Env) (p : Policy) (l : List RHost) (hp : PolPlaced env p) :
    PolPlaced env (if env.tokenAware then { p with ta := l } else p) := by
  cases ht : env.tokenAware with
  | true => exact ⟨fun e => absurd (ht.symm.trans e) (by decide), hp.loc, hp.rem⟩
  | false => exact hp

theorem placed_add (env : Env) (p : Policy) (h : RHost) (hp : PolPlaced env p) : PolPlaced env (p.add env h) :=
  placed_fbAdd env _ h (placed_ta env p _ hp)

theorem placed_fbRemove (env : Env) (p : Policy) (h : RHost) (hp : PolPlaced env p) : PolPlaced env (p.fbRemove env h) := by
  refine ⟨fun ht => by rw [fbRemove_ta]; exact hp.ta ht, ?_, ?_⟩
  · rw [fbRemove_loc]
    split
    · intro x hx; exact hp.loc x ((mem_cowRemove _ _ _).mp hx).1
    · exact hp.loc
  · rw [fbRemove_rem]
    split
    · exact hp.rem
    · intro x hx; exact hp.rem x ((mem_cowRemove _ _ _).mp hx).1

theorem placed_remove (env : Env) (p : Policy) (h : RHost) (hp : PolPlaced env p) : PolPlaced env (p.remove env h) :=
  placed_fbRemove env _ h (placed_ta env p _ hp)

theorem agree_startPoolFill (env : Env) (v : View) (h : RHost) (ha : Agree env v) (hl : lookup v.ring.byId h.id = some h) :
    Agree env (v.startPoolFill env h) := by
  refine ⟨ha.sinv, ?_, ?_, placed_add env _ h ha.placed⟩
  · intro e he
    rcases (mem_poolAdd _ _ _).mp he with h1 | ⟨h1, _⟩
    · exact ha.pools e h1
    · rw [h1]; exact hl
  · intro x hx
    rcases mem_add_all env _ _ _ hx with h1 | h1
    · exact ha.pol x h1
    · rw [h1]; exact hl

/-- `addHostIfMissing` replaces no stored object: pools and policy entries stay in agreement -/
theorem agree_ringAdd (env : Env) (v : View) (h : RHost) (ha : Agree env v) :
    Agree env { v with ring := (v.ring.addIfMissing h).1 } := by
  have hkeep : ∀ k x, lookup v.ring.byId k = some x → lookup (v.ring.addIfMissing h).1.byId k = some x := by
    intro k x hk
    rw [lookup_addIfMissing, hk]
  exact ⟨SInv_addIfMissing _ ha.sinv h, fun e he => hkeep _ _ (ha.pools e he), fun x hx => hkeep _ _ (ha.pol x hx), ha.placed⟩

theorem agree_addNew (env : Env) (v : View) (h : RHost) (ha : Agree env v) (hn : lookup v.ring.byId h.id = none) :
    Agree env (View.addNew env v h) := by
  refine agree_startPoolFill env _ h (agree_ringAdd env v h ha) ?_
  show lookup (v.ring.addIfMissing h).1.byId h.id = some h
  rw [lookup_addIfMissing, hn, if_pos rfl]

theorem agree_removeHost (env : Env) (v : View) (h : RHost) (ha : Agree env v) (hl : lookup v.ring.byId h.id = some h) :
    Agree env (v.removeHost env h) := by
  refine ⟨SInv_remove _ ha.sinv h.id, ?_, ?_, placed_remove env _ h ha.placed⟩
  · intro e he
    have h1 := (mem_erase _ _ _).mp he
    show lookup (v.ring.remove h.id).1.byId e.1 = some e.2
    rw [lookup_remove]
    simp only [h1.2, ↓reduceIte]
    exact ha.pools e h1.1
  · intro x hx
    have h1 := mem_remove_all env _ ha.placed h x hx
    show lookup (v.ring.remove h.id).1.byId x.id = some x
    rw [lookup_remove]
    have hx' := ha.pol x h1.1
    have hne : x.id ≠ h.id := by
      intro e
      rw [e, hl] at hx'
      exact h1.2 (Option.some.inj hx').symm
    simp only [hne, ↓reduceIte]
    exact hx'

theorem removeAllV_agree (env : Env) (prev : List (Nat × RHost)) : ∀ (v : View), Agree env v →
    (∀ e ∈ prev, lookup v.ring.byId e.1 = some e.2) → (keys prev).Nodup → Agree env (removeAllV env v prev) := by
  induction prev with
  | nil => intro v ha _ _; exact ha
  | cons p t ih =>
    intro v ha hp hn
    obtain ⟨k, x⟩ := p
    simp only [removeAllV]
    have hk : lookup v.ring.byId k = some x := hp (k, x) List.mem_cons_self
    have hxid : x.id = k := ha.sinv.wf _ (find_key_mem hk)
    simp only [keys, List.map_cons, List.nodup_cons] at hn
    apply ih
    · exact agree_removeHost env v x ha (by rw [hxid]; exact hk)
    · intro e he
      have hne : e.1 ≠ k := fun e1 => hn.1 (List.mem_map.mpr ⟨e, he, e1⟩)
      rw [removeHost_ring, lookup_remove, hxid]
      simp only [hne, ↓reduceIte]
      exact hp e (List.mem_cons_of_mem _ he)
    · exact hn.2

theorem gone_nodup (env : Env) (v : View) (hn : (keys v.ring.byId).Nodup) (reported : List RHost) :
    (keys (goneV env v reported)).Nodup := by
  unfold goneV goneOf keys at *
  exact List.Sublist.nodup (List.Sublist.map _ List.filter_sublist) hn

theorem agree_pass1 (env : Env) (v : View) (ha : Agree env v) (reported : List RHost) :
    Agree env (removeAllV env v (goneV env v reported)) :=
  removeAllV_agree env _ v ha (fun _ he => find_key_of_mem ha.sinv.knodup (List.mem_filter.mp he).1)
    (gone_nodup env v ha.sinv.knodup reported)

theorem agree_refresh (env : Env) (v : View) (ha : Agree env v) (reported : List RHost) :
    Agree env (v.refresh env reported) := by
  rw [refreshV_eq]
  exact addAllV_preserves env (Agree env) (fun w h hw hl => agree_addNew env w h hw hl) _ _ (agree_pass1 env v ha reported)

/-- a refresh starts the pool fill of every host id it adds -/
theorem refresh_fills_new (env : Env) (v : View) (reported : List RHost) :
    ∀ id, id ∈ (v.refresh env reported).ring.ids → id ∉ v.ring.ids → hasKey (v.refresh env reported).pools id = true :=
  refreshV_preserves env (fun w => ∀ id, id ∈ keys w.ring.byId → id ∉ keys v.ring.byId → hasKey w.pools id = true)
    (fun w h hp _ id hid hnew => (hasKey_poolAdd ..).mpr
      (((ids_addIfMissing w.ring h id).mp hid).elim .inr fun h1 => .inl (hp id h1 hnew)))
    (fun w h hp id hid hnew => (hasKey_erase ..).mpr
      ⟨hp id ((ids_remove w.ring h.id id).mp hid).1 hnew, ((ids_remove w.ring h.id id).mp hid).2⟩)
    v (fun _ hid hnew => absurd hid hnew) reported

theorem agree_applyEff (env : Env) (v : View) (f : Eff) (ha : Agree env v)
    (hcur : ∀ h, f.host = some h → lookup v.ring.byId h.id = some h) : Agree env (applyEff env v f) := by
  cases f with
  | none => rw [applyEff_none]; exact ha
  | fill h => rw [applyEff_fill]; exact agree_startPoolFill env v h ha (hcur h rfl)
  | takeDown h =>
    rw [applyEff_takeDown]
    refine ⟨ha.sinv, ?_, ?_, placed_fbRemove env _ h ha.placed⟩
    · intro e he; exact ha.pools e ((mem_erase _ _ _).mp he).1
    · intro x hx; exact ha.pol x (mem_fbRemove_all env _ h x hx)
  | _ => exact ⟨ha.sinv, ha.pools, ha.pol, ha.placed⟩

theorem agree_effectOf (env : Env) (v : View) (e : Nat × Change) (ha : Agree env v) :
    Agree env (applyEff env v (effectOf env v.ring e)) :=
  agree_applyEff env v _ ha fun h hh => (byIP_current _ ha.sinv e.1 h (effectOf_host env v.ring e h hh)).1

theorem agree_connected (env : Env) (v : View) (id : Nat) (ha : Agree env v) : Agree env (v.connected env id) := by
  fun_cases View.connected env v id with
  | case1 => exact ha                                               -- no pool of that id
  | case2 h hl _ => exact ⟨ha.sinv, ha.pools, ha.pol, ha.placed⟩    -- the pool's host is filtered: only its state changes
  | case3 h hl _ =>
    -- policy.HostUp for the pool's host, which is the ring's current object of its id
    have hcur : lookup v.ring.byId id = some h := ha.pools _ (find_key_mem hl)
    have hid : h.id = id := ha.sinv.wf _ (find_key_mem hcur)
    refine ⟨ha.sinv, ha.pools, fun x hx => ?_, placed_fbAdd env _ h ha.placed⟩
    rcases mem_fbAdd_all env _ h x hx with h1 | h1
    · exact ha.pol x h1
    · rw [h1, hid]; exact hcur

end C16
