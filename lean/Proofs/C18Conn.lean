import Proofs.C18Frame
import Model.CompressRecv
import Model.CompressSend
/-! Around the framer: the compress bit of a connection's framers (`headerFlags_bit`, `connFramer_none_bit`), the wire
    as the frames built (`foldl_sendStep_wire`), `recv` by what `readFrame` answers (`recv_ret`), negotiation as one
    equation (`negotiate_eq`), runs of connections. -/
namespace C18
open Compress

theorem and1_cases (x : UInt8) : x &&& 1 = 0 ∨ x &&& 1 = 1 := by
  have h : (x &&& 1).toNat = x.toNat % 2 := by rw [UInt8.toNat_and]; exact Nat.and_one_is_mod _
  rcases Nat.mod_two_eq_zero_or_one x.toNat with h2 | h2 <;> rw [h2] at h
  · exact .inl (UInt8.toNat_inj.1 h)
  · exact .inr (UInt8.toNat_inj.1 h)

theorem and_or_distrib_right (a b m : UInt8) : (a ||| b) &&& m = (a &&& m) ||| (b &&& m) :=
  UInt8.toBitVec_inj.1 BitVec.and_or_distrib_right

theorem and_and_of_and_eq {a b c : UInt8} (h : a &&& b = c) (x : UInt8) : x &&& a &&& b = x &&& c := by
  rw [UInt8.and_assoc, h]

theorem or_or_and_self (a b m : UInt8) : (a ||| m ||| b) &&& m = m :=
  UInt8.toBitVec_inj.1 (by simp only [UInt8.toBitVec_and, UInt8.toBitVec_or]; ext i; simp; intro h; simp [h])

/-- the request is one whose builder keeps the framer's compress bit -/
def Req.compressible (r : Req) : Prop := r ≠ .startup ∧ r ≠ .options

theorem not_compressible {r : Req} (hr : r = .startup ∨ r = .options) : ¬ Req.compressible r := by
  rcases hr with rfl | rfl <;> simp [Req.compressible]

theorem headerFlags_bit (f : Framer) (r : Req) :
    (r.headerFlags f &&& flagCompress = flagCompress) ↔ (f.flags &&& flagCompress = flagCompress ∧ Req.compressible r) := by
  cases r <;> simp [Req.headerFlags, Req.compressible, flagCompress, and_and_of_and_eq (show (0xFE : UInt8) &&& 1 = 0 by decide)]

/-- the framers a connection makes: `newFramer`, then flag bits other than the compress bit or-ed in
    (tracing 0x02, custom payload 0x04, …) -/
def connFramer (comp : Option Codec) (version extra : UInt8) : Framer :=
  { newFramer comp version with flags := (newFramer comp version).flags ||| extra }

theorem connFramer_none_bit (version extra : UInt8) (hx : extra &&& 1 = 0) :
    (connFramer none version extra).flags &&& flagCompress ≠ flagCompress := by
  have hv : ((if version == 5 then (0x10:UInt8) else 0) &&& 1) = 0 := by split <;> decide
  have : (connFramer none version extra).flags &&& 1 = 0 := by
    simp only [connFramer, newFramer, Option.isSome_none, Bool.false_eq_true, if_false, UInt8.zero_or]
    rw [and_or_distrib_right, hv, hx]; decide
  rw [flagCompress, this]; decide

theorem sendStep_wire (f : Framer) (st : SendSt) (op : SendOp) :
    (sendStep f st op).wire = st.wire ++ (op.frame f).toList := by
  cases op with
  | resp s => simp [sendStep, respond, SendOp.frame]
  | req r s body =>
    simp only [sendStep, execSend, SendOp.frame]
    cases hb : f.buildReq r s body <;> simp [Except.toOption]

theorem foldl_sendStep_wire (f : Framer) (ops : List SendOp) : ∀ st : SendSt,
    (ops.foldl (sendStep f) st).wire = st.wire ++ ops.flatMap (fun op => (op.frame f).toList) := by
  induction ops with
  | nil => intro st; simp
  | cons op rest ih => intro st; simp [List.foldl, ih, sendStep_wire, List.append_assoc]

theorem negotiate_eq (name : Option String) (adv : Supported) :
    negotiate name adv =
      let o := name.filter fun n => (lookup adv "COMPRESSION").contains n
      ⟨o.isSome, o⟩ := by
  fun_cases negotiate name adv <;> simp_all [Option.filter]

theorem negotiate_startupOpt (name : Option String) (adv : Supported) (n : String) :
    (negotiate name adv).startupOpt = some n ↔ name = some n ∧ n ∈ lookup adv "COMPRESSION" := by
  simp [negotiate_eq, Option.filter_eq_some_iff]

theorem negotiate_keep (name : Option String) (adv : Supported) :
    (negotiate name adv).keep = true ↔ ∃ n, name = some n ∧ n ∈ lookup adv "COMPRESSION" := by
  simp [negotiate_eq, Option.any_eq_true]

theorem negotiate_not_keep (name : Option String) (adv : Supported) (h : (negotiate name adv).keep = false) :
    (negotiate name adv).startupOpt = none := by
  rw [negotiate_eq] at h ⊢
  exact Option.not_isSome_iff_eq_none.1 (Bool.not_eq_true _ ▸ h)

theorem readFrame_no_panic (f : Framer) (h : Head) (r : Bytes) : f.readFrame h r ≠ .error .panic := by
  fun_cases Framer.readFrame f h r <;> nofun

/-- `Conn.recv` (the code that exists) given what `readFrame` answered: the dispatch on the stream of the header -/
def recvRet (ns : Int) (calls : List Int) (h : Head) (rf : Except Err Bytes) : Out :=
  if h.stream > ns then .close .beyond
  else if h.stream = -1 then
    match rf with
    | .error e => .close (.read e)
    | .ok b => .event h b
  else if h.stream ≤ 0 then
    match rf with
    | .error e => .close (.read e)
    | .ok _ => .close .proto
  else if calls.contains h.stream then .deliver h.stream rf
  else .discard

theorem recv_ret (comp : Option Codec) (version : UInt8) (ns : Int) (calls : List Int) (h : Head) (r : Bytes) :
    recv .ret comp version ns calls h r = recvRet ns calls h ((newFramer comp version).readFrame h r) := by
  unfold recv recvRet Framer.readInto
  cases (newFramer comp version).readFrame h r <;> rfl

theorem recvRet_call {ns : Int} {calls : List Int} {h : Head} (rf : Except Err Bytes)
    (hns : h.stream ≤ ns) (hpos : 0 < h.stream) (hmem : h.stream ∈ calls) :
    recvRet ns calls h rf = .deliver h.stream rf := by
  unfold recvRet
  rw [if_neg (by omega), if_neg (by omega), if_neg (by omega), if_pos (by simpa using hmem)]

/-- the code that exists reads nothing of what the HostInfo carries and leaves nothing on it -/
theorem connect_perConn (name : Option String) (st : Option Supported) (adv : Supported) :
    connect .perConn name st adv = (none, { optionsSent := true, nego := negotiate name adv }) := rfl

theorem runHist_perConn (name : Option String) (st : Option Supported) (advs : List Supported) :
    runHist .perConn name st advs =
      advs.map (fun adv => ({ optionsSent := true, nego := negotiate name adv } : ConnObs)) := by
  induction advs generalizing st with
  | nil => rfl
  | cons a rest ih => simp only [runHist, connect_perConn, ih, List.map_cons]

/-- whatever the source of the SUPPORTED answer: the host takes no part in the negotiation -/
theorem runHosts_eq_zip (src : SupSource) (name : Option String) : ∀ (st : Option Supported) (conns : List (Nat × Supported)),
    runHosts src name st conns = (conns.map (·.1)).zip (runHist src name st (conns.map (·.2)))
  | _, [] => rfl
  | st, (h, adv) :: rest => by
    simp only [runHosts, runHist, List.map_cons, List.zip_cons_cons, runHosts_eq_zip src name _ rest]

theorem runHosts_perConn (name : Option String) (st : Option Supported) (conns : List (Nat × Supported)) :
    runHosts .perConn name st conns =
      conns.map (fun c => (c.1, ({ optionsSent := true, nego := negotiate name c.2 } : ConnObs))) := by
  rw [runHosts_eq_zip, runHist_perConn, List.map_map, List.zip_map']
  rfl

end C18
