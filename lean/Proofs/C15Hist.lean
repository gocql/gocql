import Model.PagingFirst
import Proofs.C15Paging
import Proofs.Common
/-! The history model of C15 (`Model/PagingHist.lean`): `tot`, what an iterator has delivered (`out`, `reqs`) followed by
    what it WILL still deliver (`fut`), is an invariant of every step of every history, and equals the result of
    running its snapshot alone (`Paging.run`). What survives the three moves of an iterator (a row, the one fetch, the
    switch: `Pres`) survives `scanF`, `scanN` and every history. -/
namespace Paging.Hist
open Paging

/-- rows, QUERY/EXECUTE requests (PREPAREs dropped: whether one is needed depends on what ran before on
    the session), final error -/
def obs3 (o : Out) : List Int × List Req × Option Fail := (o.rows, o.reqs.filter Req.isExec, o.err)

/-- what draining page `p` (from its position) and then its chain delivers -/
def futPage (ppOf : Int → Nat → Nat) (p : Iter) (rest : List Reply) : Out :=
  match p.err with
  | some f => ⟨[], [], some f⟩
  | none =>
    match p.next with
    | none => ⟨p.rows.drop p.pos, [], none⟩
    | some n =>
      let o := run (ppOf n.qry.pf) rest true n.qry
      ⟨p.rows.drop p.pos ++ o.rows, o.reqs, o.err⟩

/-- what draining iterator `it` from here delivers (contexts alive) -/
def fut (ppOf : Int → Nat → Nat) (it : It) : Out :=
  match it.pre with
  | none => futPage ppOf it.cur it.rest
  | some nx =>
    match it.cur.err with
    | some f => ⟨[], [], some f⟩
    | none =>
      match it.cur.next with
      | none => ⟨it.cur.rows.drop it.cur.pos, [], none⟩
      | some _ =>
        let o := futPage ppOf nx it.rest
        ⟨it.cur.rows.drop it.cur.pos ++ o.rows, o.reqs, o.err⟩

/-- delivered so far ++ still to come -/
def tot (ppOf : Int → Nat → Nat) (it : It) : List Int × List Req × Option Fail :=
  (it.out ++ (fut ppOf it).rows, (it.reqs ++ (fut ppOf it).reqs).filter Req.isExec, (fut ppOf it).err)

/-- the snapshot run alone against the node's answers to it -/
def target (ppOf : Int → Nat → Nat) (it : It) : List Int × List Req × Option Fail :=
  obs3 (run (ppOf it.snap.pf) it.script false it.snap)

variable (ppOf : Int → Nat → Nat)

theorem filter_prep_nil (c : Bool) (q : Qry) : (prep c q).filter Req.isExec = [] := by
  unfold prep; split <;> simp [Req.isExec]

theorem filter_prep (c : Bool) (q : Qry) (l : List Req) :
    (prep c q ++ l).filter Req.isExec = l.filter Req.isExec := by
  rw [List.filter_append, filter_prep_nil, List.nil_append]

/-- `run` = one executeQuery, then the drain of the page it returned; the prepared-cache flag of either only
    decides about PREPAREs -/
theorem obs3_run : ∀ (script : List Reply) (c c' : Bool) (q : Qry) (F : Fetch),
    F = connExec (ppOf q.pf) script c q →
    obs3 (run (ppOf q.pf) script c' q) =
      ((futPage ppOf F.iter F.rest).rows, (F.reqs ++ (futPage ppOf F.iter F.rest).reqs).filter Req.isExec,
        (futPage ppOf F.iter F.rest).err) := by
  intro script
  induction script with
  | nil => intro c c' q F hF; subst hF; simp [run, connExec, futPage, errIter, obs3, filter_prep_nil]
  | cons r rest ih =>
    intro c c' q F hF
    subst hF
    cases r with
    | unprepared =>
      have h := ih false false q _ rfl
      simp only [obs3, Prod.mk.injEq] at h
      simp [run, connExec, obs3, filter_prep_nil, List.append_assoc, List.filter_cons, h]
    | fail f => simp [run, connExec, futPage, errIter, obs3, filter_prep_nil]
    | page rows st =>
      cases st with
      | none => simp [run, connExec, futPage, pageIter, obs3, filter_prep_nil]
      | some s =>
        cases hd : q.disableAutoPage <;> simp [run, connExec, futPage, pageIter, hd, obs3, filter_prep_nil]

def noCancel : Step → Prop
  | .cancel _ => False
  | _ => True

theorem callerDead_nil (e : Env) (h : e.cancelled = []) (c : Option Nat) : callerDead e c = false := by
  cases c <;> simp [callerDead, h]

/-- either executor path: nothing sent and `context canceled` if the caller's context is done, otherwise
    conn.executeQuery of the unchanged query -/
theorem sessExec_fst (e : Env) (script : List Reply) (q : Qry) :
    (sessExec ppOf e script q).1 =
      (if callerDead e q.ctx then ⟨errIter .ctx, script, []⟩ else connExec (ppOf q.pf) script e.cached q) := by
  unfold sessExec
  by_cases hs : (q.idem && decide (0 < q.spec)) = true <;> cases hd : callerDead e q.ctx <;> simp [hs, dead, hd]

theorem sessExec_cancelled (e : Env) (script : List Reply) (q : Qry) :
    (sessExec ppOf e script q).2.cancelled = e.cancelled := by
  unfold sessExec
  simp only []
  split <;> split <;> rfl

theorem sessExec_alive (e : Env) (h : e.cancelled = []) (script : List Reply) (q : Qry) :
    (sessExec ppOf e script q).1 = connExec (ppOf q.pf) script e.cached q := by
  rw [sessExec_fst, callerDead_nil e h]; rfl

/-- iterator `it` once the one fetch of its next page has returned `F` -/
def fetched (it : It) (F : Fetch) : It :=
  { it with pre := some F.iter, rest := F.rest, reqs := it.reqs ++ F.reqs }

theorem force_eq (e : Env) (it : It) (n : NextIter)
    (he : it.cur.err = none) (hp : it.pre = none) (hn : it.cur.next = some n) :
    force ppOf e it = (fetched it (sessExec ppOf e it.rest n.qry).1, (sessExec ppOf e it.rest n.qry).2) := by
  simp [force, fetched, he, hp, hn]

theorem force_cases (e : Env) (it : It) :
    force ppOf e it = (it, e) ∨
    ∃ n, it.cur.err = none ∧ it.pre = none ∧ it.cur.next = some n ∧
      force ppOf e it = (fetched it (sessExec ppOf e it.rest n.qry).1, (sessExec ppOf e it.rest n.qry).2) := by
  fun_cases force ppOf e it
  · -- no error, nothing fetched ahead, a next page: the fetch
    exact .inr ⟨_, ‹_›, ‹_›, ‹_›, rfl⟩
  · exact .inl rfl

theorem force_frame (e : Env) (it : It) :
    (force ppOf e it).1.cur = it.cur ∧ (force ppOf e it).1.out = it.out ∧
    (force ppOf e it).1.snap = it.snap ∧ (force ppOf e it).1.script = it.script := by
  rcases force_cases ppOf e it with h | ⟨_, _, _, _, h⟩ <;> rw [h] <;> exact ⟨rfl, rfl, rfl, rfl⟩

theorem fut_pending (it : It) (n : NextIter)
    (he : it.cur.err = none) (hp : it.pre = none) (hn : it.cur.next = some n) :
    fut ppOf it = ⟨it.cur.rows.drop it.cur.pos ++ (run (ppOf n.qry.pf) it.rest true n.qry).rows,
      (run (ppOf n.qry.pf) it.rest true n.qry).reqs, (run (ppOf n.qry.pf) it.rest true n.qry).err⟩ := by
  simp [fut, futPage, he, hp, hn]

theorem tot_fetch (it : It) (n : NextIter) (c : Bool) (F : Fetch)
    (hF : F = connExec (ppOf n.qry.pf) it.rest c n.qry)
    (he : it.cur.err = none) (hp : it.pre = none) (hn : it.cur.next = some n) :
    tot ppOf (fetched it F) = tot ppOf it := by
  have h3 := obs3_run ppOf it.rest c true n.qry F hF
  simp only [obs3, Prod.mk.injEq] at h3
  have hnew : fut ppOf (fetched it F) =
      ⟨it.cur.rows.drop it.cur.pos ++ (futPage ppOf F.iter F.rest).rows, (futPage ppOf F.iter F.rest).reqs,
       (futPage ppOf F.iter F.rest).err⟩ := by
    simp only [fut, fetched, he, hn]
  simp only [tot, fut_pending ppOf it n he hp hn, hnew, Prod.mk.injEq]
  simp only [fetched]
  refine ⟨by rw [h3.1], ?_, by rw [h3.2.2]⟩
  rw [List.filter_append, List.filter_append, List.filter_append, h3.2.1, List.filter_append, List.append_assoc]

theorem tot_force (e : Env) (h : e.cancelled = []) (it : It) :
    tot ppOf (force ppOf e it).1 = tot ppOf it := by
  rcases force_cases ppOf e it with hno | ⟨n, he, hp, hn, heq⟩
  · rw [hno]
  · rw [heq]
    exact tot_fetch ppOf it n e.cached _ (sessExec_alive ppOf e h it.rest n.qry) he hp hn

theorem force_cancelled (e : Env) (it : It) :
    (force ppOf e it).2.cancelled = e.cancelled := by
  rcases force_cases ppOf e it with h | ⟨_, _, _, _, h⟩ <;> rw [h]
  exact sessExec_cancelled ppOf e it.rest _

theorem tot_row (it : It) (r : Int) (c' : Iter) (hs : scanRow it.cur = some (r, c')) :
    tot ppOf { it with cur := c', out := it.out ++ [r] } = tot ppOf it := by
  obtain ⟨he, hr, rfl⟩ := scanRow_some hs
  have hd := drop_of_getElem?_some hr
  cases hp : it.pre <;> cases hn : it.cur.next <;>
    simp only [tot, fut, futPage, he, hp, hn, hd, List.append_assoc, List.cons_append, List.nil_append]

theorem tot_switch (it : It) (nx : Iter) (n : NextIter) (hs : scanRow it.cur = none)
    (he : it.cur.err = none) (hn : it.cur.next = some n) (hp : it.pre = some nx) :
    tot ppOf { it with cur := nx, pre := none } = tot ppOf it := by
  have hd := drop_of_getElem?_none (scanRow_none he hs)
  simp only [tot, fut, hp, he, hn, hd, List.nil_append]

/-- `Q` (of an iterator) and `E` (of the environment its fetches run in) survive the three moves: a row of the
    current page is handed over, the one fetch of the next page happens, the iterator switches to the fetched page -/
structure Pres (ppOf : Int → Nat → Nat) (E : Env → Prop) (Q : It → Prop) : Prop where
  row : ∀ (it : It) (r : Int) (c' : Iter), scanRow it.cur = some (r, c') → Q it →
    Q { it with cur := c', out := it.out ++ [r] }
  force : ∀ (e : Env) (it : It), E e → Q it → Q (force ppOf e it).1 ∧ E (force ppOf e it).2
  switch : ∀ (it : It) (nx : Iter) (n : NextIter), scanRow it.cur = none → it.cur.err = none →
    it.cur.next = some n → it.pre = some nx → Q it → Q { it with cur := nx, pre := none }

theorem scanF_pres {ppOf : Int → Nat → Nat} {E : Env → Prop} {Q : It → Prop} (h : Pres ppOf E Q)
    (k : Nat) (e : Env) (it : It) (he : E e) (hq : Q it) : Q (scanF ppOf k e it).1 ∧ E (scanF ppOf k e it).2.1 := by
  fun_induction scanF ppOf k e it with
  | case1 | case3 | case4 => exact ⟨hq, he⟩
  | case2 k e it r c' hs => exact ⟨h.row it r c' hs hq, he⟩
  | case5 k e it hs herr n hn r nx hp ih =>
    have hf := h.force e it he hq
    have hc := (force_frame ppOf e it).1
    exact ih hf.2 (h.switch _ nx n (by rw [hc]; exact hs) (by rw [hc]; exact herr) (by rw [hc]; exact hn) hp hf.1)
  | case6 k e it => exact h.force e it he hq

theorem scanN_pres {ppOf : Int → Nat → Nat} {E : Env → Prop} {Q : It → Prop} (h : Pres ppOf E Q)
    (n : Nat) (e : Env) (it : It) (he : E e) (hq : Q it) : Q (scanN ppOf n e it).1 ∧ E (scanN ppOf n e it).2 := by
  fun_induction scanN ppOf n e it with
  | case1 => exact ⟨hq, he⟩
  | case2 n e it r _ ih => exact ih (scanF_pres h (scanFuel it) e it he hq).2 (scanF_pres h (scanFuel it) e it he hq).1
  | case3 n e it => exact scanF_pres h (scanFuel it) e it he hq

theorem step_cases (srv : Nat → Bytes → List Reply) (ppOf : Int → Nat → Nat) (w : World) (s : Step) :
    (∃ c, s = .iter c) ∨
    (∃ i it r, ((∃ n, s = .scan i n ∧ r = scanN ppOf n w.env it) ∨ (s = .prefetched i ∧ r = force ppOf w.env it)) ∧
      w.its[i]? = some it ∧ (step srv ppOf w s).its = w.its.set i r.1 ∧ (step srv ppOf w s).env = r.2) ∨
    ((step srv ppOf w s).its = w.its ∧ ((step srv ppOf w s).env = w.env ∨ ∃ c, s = .cancel c)) := by
  cases s with
  | iter c => exact Or.inl ⟨c, rfl⟩
  | scan i n =>
    simp only [step]
    cases hi : w.its[i]? with
    | none => exact Or.inr (Or.inr ⟨rfl, Or.inl rfl⟩)
    | some it => exact Or.inr (Or.inl ⟨i, it, _, Or.inl ⟨n, rfl, rfl⟩, hi, rfl, rfl⟩)
  | prefetched i =>
    simp only [step]
    cases hi : w.its[i]? with
    | none => exact Or.inr (Or.inr ⟨rfl, Or.inl rfl⟩)
    | some it => exact Or.inr (Or.inl ⟨i, it, _, Or.inr ⟨rfl, rfl⟩, hi, rfl, rfl⟩)
  | cancel c => exact Or.inr (Or.inr ⟨rfl, Or.inr ⟨c, rfl⟩⟩)
  | _ => exact Or.inr (Or.inr ⟨rfl, Or.inl rfl⟩)

theorem exec_pres {ppOf : Int → Nat → Nat} {E : Env → Prop} {Q : It → Prop} (h : Pres ppOf E Q)
    (srv : Nat → Bytes → List Reply)
    (hstart : ∀ e q, E e → Q (startIter srv ppOf e q).1 ∧ E (startIter srv ppOf e q).2)
    (l : List Step) (w : World)
    (hc : ∀ c, Step.cancel c ∈ l → ∀ e, E e → E { e with cancelled := c :: e.cancelled })
    (he : E w.env) (hq : ∀ it ∈ w.its, Q it) :
    E (exec srv ppOf w l).env ∧ ∀ it ∈ (exec srv ppOf w l).its, Q it := by
  rw [foldl_of_eqns (exec := exec srv ppOf) (fun _ => rfl) fun _ _ _ => rfl]
  refine l.foldlRecOn (motive := fun w : World => E w.env ∧ ∀ it ∈ w.its, Q it) _ ⟨he, hq⟩ fun w ⟨he, hq⟩ s hs => ?_
  rcases step_cases srv ppOf w s with ⟨c, rfl⟩ | ⟨i, it, r, hr, hi, hits, henv⟩ | ⟨hits, henv⟩
  · have hs := hstart w.env (iterQry w.obj c) he
    refine ⟨hs.2, fun y hy => ?_⟩
    rcases List.mem_append.1 hy with hm | hm
    · exact hq y hm
    · rw [List.mem_singleton.1 hm]; exact hs.1
  · have hs : Q r.1 ∧ E r.2 := by
      rcases hr with ⟨n, _, rfl⟩ | ⟨_, rfl⟩
      · exact scanN_pres h n w.env it he (hq it (List.mem_of_getElem? hi))
      · exact h.force w.env it he (hq it (List.mem_of_getElem? hi))
    rw [hits, henv]
    exact ⟨hs.2, fun y hy => (List.mem_or_eq_of_mem_set hy).elim (hq y) (fun hxy => hxy ▸ hs.1)⟩
  · rw [hits]
    refine ⟨?_, hq⟩
    rcases henv with h' | ⟨c, rfl⟩
    · rw [h']; exact he
    · exact hc c hs w.env he

/-- an invariant stated for every result `T` holds for each iterator's own result: no move touches the snapshot -/
theorem pres_target {ppOf : Int → Nat → Nat} {E : Env → Prop} {Q : List Int × List Req × Option Fail → It → Prop}
    (h : ∀ T, Pres ppOf E (Q T)) : Pres ppOf E (fun it => Q (target ppOf it) it) :=
  ⟨fun it r c' hs hq => (h (target ppOf it)).row it r c' hs hq,
   fun e it he hq => by
     have hf := force_frame ppOf e it
     have := (h (target ppOf it)).force e it he hq
     simp only [Hist.target, hf.2.2.1, hf.2.2.2]
     exact this,
   fun it nx n hs he hn hp hq => (h (target ppOf it)).switch it nx n hs he hn hp hq⟩

theorem pres_snap (s : Qry) (sc : List Reply) :
    Pres ppOf (fun _ => True) (fun it => it.snap = s ∧ it.script = sc) :=
  ⟨fun _ _ _ _ h => h,
   fun e it _ h => by
     have hf := force_frame ppOf e it
     exact ⟨⟨hf.2.2.1.trans h.1, hf.2.2.2.trans h.2⟩, trivial⟩,
   fun _ _ _ _ _ _ _ h => h⟩

theorem pres_tot (T : List Int × List Req × Option Fail) :
    Pres ppOf (fun e => e.cancelled = []) (fun it => tot ppOf it = T) :=
  ⟨fun it r c' hs hq => (tot_row ppOf it r c' hs).trans hq,
   fun e it he hq => ⟨(tot_force ppOf e he it).trans hq, (force_cancelled ppOf e it).trans he⟩,
   fun it nx n hs he hn hp hq => (tot_switch ppOf it nx n hs he hn hp).trans hq⟩

theorem startIter_tot (srv : Nat → Bytes → List Reply) (ppOf : Int → Nat → Nat) (e : Env) (q : Qry)
    (hd : callerDead e q.ctx = false) :
    tot ppOf (startIter srv ppOf e q).1 = target ppOf (startIter srv ppOf e q).1 := by
  have ha : (sessExec ppOf e (srv q.ident q.pageState) q).1 = connExec (ppOf q.pf) (srv q.ident q.pageState) e.cached q := by
    rw [sessExec_fst, hd]; rfl
  have h3 := obs3_run ppOf (srv q.ident q.pageState) e.cached false q _ rfl
  simp only [startIter, tot, target, fut, ha, List.nil_append]
  rw [h3]

theorem exec_tot (srv : Nat → Bytes → List Reply) (ppOf : Int → Nat → Nat) (h : List Step) (w : World)
    (hc : w.env.cancelled = []) (hw : ∀ it ∈ w.its, tot ppOf it = target ppOf it) (hnc : ∀ s ∈ h, noCancel s) :
    ∀ it ∈ (exec srv ppOf w h).its, tot ppOf it = target ppOf it :=
  (exec_pres (pres_target (pres_tot ppOf)) srv
    (fun e q he => ⟨startIter_tot srv ppOf e q (callerDead_nil e he _), (sessExec_cancelled ppOf e _ q).trans he⟩)
    h w (fun _ hm => (hnc _ hm).elim) hc hw).2

theorem tot_finished (it : It) (h : finished it) :
    tot ppOf it = (it.out, it.reqs.filter Req.isExec, it.cur.err) := by
  unfold finished at h
  rcases h with h | ⟨hr, hn⟩
  · cases he : it.cur.err with
    | none => simp [he] at h
    | some f => cases hp : it.pre <;> simp [tot, fut, futPage, he, hp]
  · have hd := drop_of_getElem?_none hr
    cases he : it.cur.err <;> cases hp : it.pre <;> simp [tot, fut, futPage, he, hp, hn, hd]

theorem finished_result (it : It) (o : Out) (h : tot ppOf it = obs3 o) (hf : finished it) :
    it.out = o.rows ∧ it.cur.err = o.err ∧ it.reqs.filter Req.isExec = o.reqs.filter Req.isExec := by
  rw [tot_finished ppOf it hf] at h
  simp only [obs3, Prod.mk.injEq] at h
  exact ⟨h.1, h.2.2, h.2.1⟩

theorem connExec_iter (pp : Nat → Nat) (script : List Reply) (c : Bool) (q : Qry) :
    (∃ f, (connExec pp script c q).iter = errIter f) ∨
    ∃ rows st, (connExec pp script c q).iter = pageIter pp q rows st := by
  fun_induction connExec pp script c q with
  | case1 => exact Or.inl ⟨_, rfl⟩
  | case2 _ _ _ _ ih => exact ih
  | case3 f => exact Or.inl ⟨f, rfl⟩
  | case4 rows st => exact Or.inr ⟨rows, st, rfl⟩

/-- conn.executeQuery's next-page query: the executed query with only the paging state replaced -/
theorem connExec_next_copy (pp : Nat → Nat) (script : List Reply) (c : Bool) (q : Qry) (n : NextIter)
    (hn : (connExec pp script c q).iter.next = some n) : n.qry = { q with pageState := n.qry.pageState } := by
  rcases connExec_iter pp script c q with ⟨f, h⟩ | ⟨rows, st, h⟩ <;> rw [h] at hn
  · cases hn
  · cases st with
    | none => cases hn
    | some s =>
      simp only [pageIter] at hn
      split at hn <;> cases hn
      rfl

theorem connExec_progress (pp : Nat → Nat) (script : List Reply) (c : Bool) (q : Qry) :
    (connExec pp script c q).rest.length < script.length ∨ (connExec pp script c q).iter.err.isSome = true := by
  fun_induction connExec pp script c q with
  | case1 => exact Or.inr rfl
  | case2 _ _ _ _ ih => exact ih.imp Nat.lt_succ_of_lt id
  | case3 | case4 => exact Or.inl (Nat.lt_succ_self _)

/-- the error of the Iter an executeQuery returns is the outcome of the first answer that is not UNPREPARED -/
theorem connExec_err (pp : Nat → Nat) (script : List Reply) (c : Bool) (q : Qry) :
    (connExec pp script c q).iter.err = First.Spec.execErr script := by
  fun_induction connExec pp script c q with
  | case2 _ _ _ _ ih => exact ih
  | _ => rfl

/-- the fetch of a due next page leaves a page in `pre`, and consumes a reply unless that page is an error -/
theorem force_progress (e : Env) (it : It) (n : NextIter)
    (he : it.cur.err = none) (hn : it.cur.next = some n) :
    ∃ nx, (force ppOf e it).1.pre = some nx ∧
      ((force ppOf e it).1.rest.length + 1 ≤ it.rest.length + (if it.pre.isSome then 1 else 0) ∨
        nx.err.isSome = true) := by
  cases hpre : it.pre with
  | some p =>
    have hno : force ppOf e it = (it, e) := by simp [force, he, hpre]
    exact ⟨p, by rw [hno]; exact hpre, Or.inl (by simp [hno])⟩
  | none =>
    rw [force_eq ppOf e it n he hpre hn, sessExec_fst]
    refine ⟨_, rfl, ?_⟩
    split
    · right; rfl
    · rcases connExec_progress (ppOf n.qry.pf) it.rest e.cached n.qry with h | h
      · left; simp [fetched]; omega
      · right; exact h

/-- The fuel of `scanF` suffices: every page switch consumes a reply, or uses up the one page fetched ahead, or
    lands on an error page (which stops the next round); so with `rest.length + [a page in pre] + 2 ≤ k` — or one
    round left on an error page — a `false` comes from the iterator having ended, never from `k = 0`. -/
theorem scanF_false_finished (k : Nat) (e : Env) (it : It)
    (hk : it.rest.length + (if it.pre.isSome then 1 else 0) + 2 ≤ k ∨ (1 ≤ k ∧ it.cur.err.isSome = true))
    (hf : (scanF ppOf k e it).2.2 = false) : finished (scanF ppOf k e it).1 := by
  fun_induction scanF ppOf k e it with
  | case1 => rcases hk with h | h <;> omega
  | case2 => cases hf
  | case3 k e it hs f he => exact Or.inl (by simp [he])
  | case4 k e it hs he hn => exact Or.inr ⟨scanRow_none he hs, hn⟩
  | case5 k e it hs he n hn r nx hp ih =>
    apply ih _ hf
    have hk1 : it.rest.length + (if it.pre.isSome then 1 else 0) + 2 ≤ k + 1 := by
      rcases hk with h | h
      · exact h
      · simp [he] at h
    obtain ⟨nx', h', hprog⟩ := force_progress ppOf e it n he hn
    rw [hp] at h'; cases h'
    rcases hprog with h | h
    · left; show (force ppOf e it).1.rest.length + 0 + 2 ≤ k; omega
    · right; exact ⟨by omega, h⟩
  | case6 k e it hs he n hn r hp =>
    obtain ⟨nx, h, _⟩ := force_progress ppOf e it n he hn
    rw [hp] at h; cases h

theorem scanF_fuel (e : Env) (it : It)
    (h : (scanF ppOf (scanFuel it) e it).2.2 = false) : finished (scanF ppOf (scanFuel it) e it).1 := by
  apply scanF_false_finished ppOf (scanFuel it) e it _ h
  left; unfold scanFuel; split <;> omega

end Paging.Hist
