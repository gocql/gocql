import Proofs.C12Scalar
import Proofs.C12Coll
import Proofs.C12Frame
import Proofs.C12Vint
import Proofs.C12Nest
import Proofs.C12ScalarConf
import Proofs.C12Decode
import Proofs.C12Hist
import Proofs.C12VintDec
import Model.MarshalInterp
/-!
# C12 — encoded values are the CQL specification's encoding, byte for byte; conformant encodings decode
(property theorems)

Specification: `Model/ValueSpec.lean` (`specEnc`/`specDec`, written from the protocol documents).
Model of gocql: `Model/MarshalScalar.lean`, `Model/Marshal.lean`, `Model/MarshalDecode.lean` (marshal.go
transliterated, defects included), tied to the code by the differential run of `harness/cmd/c12`.
`Model/MarshalInterp.lean`: `interp` (documented meaning of a Go value), `excluded` (exact known deviations).
The ownership part of the property (what is held across calls stays intact; `Model/MarshalHeap.lean`) has its end
results in `Proofs/C12Own.lean` (same namespace), its invariant in `Proofs/C12Heap.lean`.
-/
namespace C12
open ValueSpec Marshal C12Bytes C12Int C12Varint C12Scalar

def colTy : IntCol → CqlTy
  | .tiny => .tinyint | .small => .smallint | .int => .int | .big => .bigint

theorem specEnc_intcol (p : Nat) (col : IntCol) (v : Int) :
    specEnc p (colTy col) (.int v) = if fitsS col.bytes v = true then some (tcEnc col.bytes v) else none :=
  C12ScalarConf.specEnc_intcol p _ col (by cases col <;> rfl) v

/-- FULL STATEMENT (does not hold for the unchanged code): for every Go integer kind (named or not) and every value,
    `marshal = specEnc`.  It fails exactly where an UNSIGNED Go value ≥ 2^(8w−1) is accepted and written as the two's
    complement bit pattern (D9; `C12_int_wrap`, `C12_cex_uint16_smallint`).  Proved part: everything else — in
    particular every signed kind, every in-range unsigned value, and every refusal. -/
theorem C12_int_conforms_partial (p : Nat) (col : IntCol) (k : IntKind) (named : Bool) (v : Int)
    (hv : k.holds v = true)
    (hex : ¬ (k.signed = false ∧ (256:Int) ^ col.bytes ≤ 2 * v)) :
    marshalIntKind col k named v = specEnc p (colTy col) (.int v) := by
  rw [marshalIntKind_char col k named v hv, specEnc_intcol]
  have hw : ¬ wrapsAccepted col k named v = true := fun h => hex ⟨(wrapsAccepted_iff.mp h).1.1, (wrapsAccepted_iff.mp h).1.2.1⟩
  simp [hw]

/-- what the code does on the excluded inputs: it writes the encoding of `v − 256^w`, a different (negative) number -/
theorem C12_int_wrap (p : Nat) (col : IntCol) (k : IntKind) (named : Bool) (v : Int)
    (hv : k.holds v = true) (hw : wrapsAccepted col k named v = true) :
    marshalIntKind col k named v = specEnc p (colTy col) (.int (v - (256:Int) ^ col.bytes)) ∧
    specEnc p (colTy col) (.int v) = none := by
  rw [marshalIntKind_char col k named v hv, specEnc_intcol, specEnc_intcol]
  obtain ⟨⟨_, hlo, hhi⟩, _⟩ := wrapsAccepted_iff.mp hw
  have hpos : (0:Int) < (256:Int) ^ col.bytes := by rw [← cast_pow256]; exact_mod_cast pow256_pos col.bytes
  have h1 : fitsS col.bytes (v - (256:Int) ^ col.bytes) = true := fitsS_iff.mpr (by omega)
  have h2 : fitsS col.bytes v = false := fitsS_false_iff.mpr (.inr hlo)
  have h3 : tcEnc col.bytes (v - (256:Int) ^ col.bytes) = tcEnc col.bytes v := by
    have := tcEnc_add_pow col.bytes v (-1)
    simpa [Int.sub_eq_add_neg] using this
  simp [h1, h2, h3, hw]

/-- encoding fails iff the value is not representable — up to the wrap window -/
theorem C12_int_error_iff (col : IntCol) (k : IntKind) (named : Bool) (v : Int) (hv : k.holds v = true) :
    marshalIntKind col k named v = none ↔ (fitsS col.bytes v = false ∧ wrapsAccepted col k named v = false) := by
  rw [marshalIntKind_char col k named v hv]
  cases fitsS col.bytes v <;> cases wrapsAccepted col k named v <;> simp

/-- counterexamples (also replay inputs): uint16 65535 → smallint is written as ff ff = −1;
    uint64 2^63+5 → bigint is written as the bytes of −2^63+5 -/
theorem C12_cex_uint16_smallint :
    marshalIntKind .small .uint16 false 65535 = some [255, 255] ∧
    specEnc 4 .smallint (.int 65535) = none ∧ specEnc 4 .smallint (.int (-1)) = some [255, 255] := by
  refine ⟨by decide, by decide, by decide⟩

theorem C12_cex_uint64_bigint :
    marshalIntKind .big .uint64 false 9223372036854775813 = some [128, 0, 0, 0, 0, 0, 0, 5] ∧
    specEnc 4 .bigint (.int 9223372036854775813) = none := by
  refine ⟨by decide, by decide⟩

/-- non-vacuity -/
example : marshalIntKind .small .int true 300 = some [1, 44] ∧ specEnc 3 .smallint (.int 300) = some [1, 44] := by
  refine ⟨by decide, by decide⟩
example : marshalIntKind .int .int64 false (-2147483649) = none := by decide

/-- a Go string bound to an integer column: the decimal number it spells, in the column's width, or an error -/
theorem C12_int_string (p : Nat) (col : IntCol) (s b : Bytes) (h : marshalIntString col s = some b) :
    ∃ n, parseDec s = some n ∧ specEnc p (colTy col) (.int n) = some b :=
  C12ScalarConf.marshalIntString_spec p (colTy col) col (by cases col <;> rfl) s b h

/-- marshalVarint on every Go integer kind (incl. uint64 ≥ 2^63): when it succeeds the bytes are the varint -/
theorem C12_varint_conforms (p : Nat) (k : IntKind) (named : Bool) (v : Int) (hv : k.holds v = true) (b : Bytes)
    (h : marshalVarintKind k named v = some b) : specEnc p .varint (.int v) = some b := by
  simp [specEnc, marshalVarintKind_spec k named v hv b h]

theorem C12_varint_string (p : Nat) (s b : Bytes) (h : marshalVarintString s = some b) :
    ∃ n, parseDec s = some n ∧ specEnc p .varint (.int n) = some b := by
  obtain ⟨n, hn, hb⟩ := marshalVarintString_spec s b h
  exact ⟨n, hn, by simp [specEnc, hb]⟩

/-- the specification's varint is the SHORTEST two's complement encoding (= `BigInteger.toByteArray`), for every
    integer: it decodes to the number, nothing shorter does, and any non-redundant byte string is the varint of its value -/
theorem C12_varint_minimal (n : Int) :
    tcDec (specVarint n) = n ∧
    (∀ b : Bytes, b ≠ [] → tcDec b = n → (specVarint n).length ≤ b.length) ∧
    (∀ b : Bytes, minimalTC b = true → tcDec b = n → b = specVarint n) :=
  ⟨tcDec_specVarint n, fun b hb h => specVarint_minimal n b hb h,
   fun b hm h => by rw [← h]; exact (specVarint_tcDec b hm).symm⟩

/-- the trimming loop of marshalVarint (marshal.go:785-810): any non-empty two's complement byte string ↦ the
    varint of its value -/
theorem C12_varint_trim (b : Bytes) (hb : b ≠ []) : trimTC b = specVarint (tcDec b) := trimTC_spec b hb

example : specVarint 128 = [0, 128] ∧ specVarint (-129) = [255, 127] ∧ specVarint (-128) = [128] := by
  -- two bytes, two bytes, one byte: the least lengths that hold the numbers
  exact ⟨(specVarint_eq_tcEnc 1 128 (by decide) (.inr (by decide))).trans (by decide),
    (specVarint_eq_tcEnc 1 (-129) (by decide) (.inr (by decide))).trans (by decide),
    (specVarint_eq_tcEnc 0 (-128) (by decide) (.inl rfl)).trans (by decide)⟩

/-- a big.Int bound to a bigint / counter column (repair of KF-C12-2): for EVERY integer, the 8-byte two's complement
    encoding of the specification when the number is an int64, an error otherwise — never the minimal-length form -/
theorem C12_bigint_bigInt_conforms (p : Nat) (v : Int) :
    marshalScalar .bigint (.big v) = optM (specEnc p .bigint (.int v)) ∧
    marshalScalar .counter (.big v) = optM (specEnc p .counter (.int v)) := by
  have key := C12ScalarConf.marshalBig_eq v
  exact ⟨by simpa [marshalScalar, specEnc] using key, by simpa [marshalScalar, specEnc] using key⟩

/-- the regression inputs of KF-C12-2: `spec 4 bigint big 5` is 8 bytes; 2^63 is refused -/
example : marshalScalar .bigint (.big 5) = .ok (some [0, 0, 0, 0, 0, 0, 0, 5]) :=
  (C12_bigint_bigInt_conforms 4 5).1.trans
    (congrArg optM (show specEnc 4 .bigint (.int 5) = some [0, 0, 0, 0, 0, 0, 0, 5] by decide))
example : marshalScalar .bigint (.big 9223372036854775808) = .err :=
  (C12_bigint_bigInt_conforms 4 9223372036854775808).1.trans
    (congrArg optM (show specEnc 4 .bigint (.int 9223372036854775808) = none by decide))
/-- `encBigInt2C` alone gives the minimal-length form: what a big.Int on a bigint column was written as before the
    repair of KF-C12-2 -/
example : encBigInt2C 5 = [5] := by simp [encBigInt2C, natBytes, byteOfNat]

/-- FULL STATEMENT (does not hold): the conformant encoding of `n` decodes into any Go integer kind to `n`, or to a
    range error when the kind cannot hold `n`.  It fails for NEGATIVE `n` into an unsigned kind at least as wide as
    the column (the value is masked / reinterpreted: smallint −1 → uint16 65535, bigint −1 → uint64 2^64−1).
    Proved part: all signed kinds, and all non-negative values. -/
theorem C12_int_accepts_conformant_partial (col : IntCol) (n : Int) (k : IntKind)
    (hn : fitsS col.bytes n = true) (hs : k.signed = true ∨ 0 ≤ n) :
    unmarshalIntKind (srcOf col) (decodeFixed (srcOf col) (tcEnc col.bytes n)) k =
      if k.holds n = true then some n else none := by
  rw [decode_tcEnc col n k hn, seenBy_of (srcOf_bytes col ▸ hn) hs]

theorem C12_cex_smallint_uint16 :
    unmarshalIntKind .small (decodeFixed .small [255, 255]) .uint16 = some 65535 ∧
    specDec 4 .smallint [255, 255] = some (.int (-1)) := by
  refine ⟨by decide, ?_⟩
  have : tcDec [255, 255] = -1 := by decide
  simp [specDec, this]

/-- a millisecond count bound to a date column is written as 2^31 + FLOOR(days since the epoch) — for EVERY int64,
    before 1970 as well (repair of KF-C12-4: daysSinceEpoch) — and refused when that day number does not fit the 4
    bytes of a date (repair of KF-C12-5: encDate): exactly the specification -/
theorem C12_date_conforms (p : Nat) (ts : Int) :
    marshalScalar .date (.int .int64 false ts) = optM (specEnc p .date (.int (ts / 86400000))) :=
  C12ScalarConf.marshalDateMillis_spec p ts

/-- the same for a time.Time (not the zero time, milliseconds representable in int64 — open finding KF-C12-9): the day
    that CONTAINS the instant, or an error when it is outside the range of a date -/
theorem C12_date_time_conforms (p : Nat) (sec nsec : Int) (hn : 0 ≤ nsec ∧ nsec < 1000000000)
    (hz : timeIsZero sec nsec = false)
    (h1 : fitsS 8 (sec * 1000) = true) (h2 : fitsS 8 (exactMillis sec nsec) = true) :
    marshalScalar .date (.time sec nsec) = optM (specEnc p .date (.int (sec / 86400))) :=
  C12ScalarConf.date_time_eq p sec nsec hn hz h1 h2

/-- the regression input of KF-C12-4, kernel-checked, = `spec 4 date t -43200 0` (1969-12-31T12:00:00Z): day 2^31 − 1 -/
theorem C12_date_floor_witness :
    marshalScalar .date (.time (-43200) 0) = .ok (some [127, 255, 255, 255]) ∧
    marshalScalar .date (.int .int64 false (-1)) = .ok (some [127, 255, 255, 255]) ∧
    specEnc 4 .date (.int ((-43200 : Int) / 86400)) = some [127, 255, 255, 255] := by
  have hs : specEnc 4 .date (.int ((-43200 : Int) / 86400)) = some [127, 255, 255, 255] := by decide
  exact ⟨(C12_date_time_conforms 4 (-43200) 0 (by decide) (by decide) (by decide) (by decide)).trans (congrArg optM hs),
    (C12_date_conforms 4 (-1)).trans
      (congrArg optM (show specEnc 4 .date (.int ((-1 : Int) / 86400000)) = some [127, 255, 255, 255] by decide)), hs⟩

/-- the OLD computation (truncating division, before the repair) gave the NEXT day: regression of the former counterexample -/
example : encInt (toS 32 (goDiv (-43200000) millisInADay + 2147483648)) = [128, 0, 0, 0] := by decide

/-- KF-C12-5 (repaired), regression of the former counterexample: day 2^31 used to be written as day −2^31 (00 00 00 00);
    now it is an error, like the last representable day + 1 ms … and the last day itself is still written.
    = replay inputs `enc 4 date i int64 185542587187200000`, `spec 4 date i int64 185542587187199999` -/
theorem C12_cex_date_range :
    marshalScalar .date (.int .int64 false 185542587187200000) = .err ∧
    specEnc 4 .date (.int ((185542587187200000 : Int) / 86400000)) = none ∧
    marshalScalar .date (.int .int64 false 185542587187199999) = .ok (some [255, 255, 255, 255]) := by
  refine ⟨?_, by decide, ?_⟩
  · have : specEnc 4 .date (.int ((185542587187200000 : Int) / 86400000)) = none := by decide
    rw [C12_date_conforms 4, this]; rfl
  · have : specEnc 4 .date (.int ((185542587187199999 : Int) / 86400000)) = some [255, 255, 255, 255] := by decide
    rw [C12_date_conforms 4, this]; rfl

/-- timestamp: milliseconds since the epoch (floor), 8 bytes — for every non-zero time.Time that does not overflow -/
theorem C12_timestamp_conforms_partial (p : Nat) (sec nsec : Int)
    (hz : timeIsZero sec nsec = false)
    (h1 : fitsS 8 (sec * 1000) = true) (h2 : fitsS 8 (exactMillis sec nsec) = true) :
    marshalScalar .timestamp (.time sec nsec) = .ok (specEnc p .timestamp (.int (exactMillis sec nsec))) :=
  C12ScalarConf.timestamp_time_eq p sec nsec hz h1 h2

example : marshalScalar .timestamp (.time (-1) 999000000) = .ok (some [255, 255, 255, 255, 255, 255, 255, 255]) :=
  (C12_timestamp_conforms_partial 4 (-1) 999000000 (by decide) (by decide) (by decide)).trans (congrArg MRes.ok (by decide))

/-! ## collections: the structural step (element theorems as hypotheses), protocol ≥ 3 -/

open C12Coll in
/-- a slice bound to a list column (the same code path serves sets, arrays and []interface{}): if every element is
    marshalled as the specification says (`ElemOK`: nil exactly for null, else the element's spec bytes) then the
    whole value is the specification's encoding — 4-byte count, 4-byte element lengths, −1 for null.  This is the
    induction step for nesting: `ElemOK` of the elements is again an instance of the conformance statement. -/
theorem C12_list_framing (p : Nat) (hp : p ≥ 3) (et : CqlTy) (vs : List GoVal) (cs : List CqlVal) (b : Bytes)
    (hall : AllOK p et vs cs)
    (h : marshal p (.list et) (.slice false vs) = .ok (some b)) :
    specEnc p (.list et) (.list cs) = some b := by
  apply marshalList_spec p et vs cs b hall (fun h => absurd hp (by omega))
  simpa [marshal] using h

/-- FULL STATEMENT for protocol ≤ 2 does not hold for null elements (no null in the 2-byte framing): a zero-length
    element is written -/
theorem C12_cex_null_element_v2 :
    marshal 2 (.list .int) (.slice false [.nilptr, .ptr (.int .int false 1)]) = .ok (some [0, 2, 0, 0, 0, 4, 0, 0, 0, 1]) ∧
    specEnc 2 (.list .int) (.list [.null, .int 1]) = none := by
  refine ⟨?_, by decide⟩
  have h1 : encShort (toS 16 2) = [0, 2] := by decide
  have h2 : encShort (toS 16 0) = [0, 0] := by decide
  have h3 : encShort (toS 16 4) = [0, 4] := by decide
  have h4 : encInt (toS 32 1) = [0, 0, 0, 1] := by decide
  simp [marshal, wrapSeq, marshalElems, collSize, collItem, marshalScalar, marshalIntColumn, optM, marshalIntKind, h1, h2, h3, h4]

open C12Coll in
/-- a Go value bound to a tuple column, every source shape ([]interface{}; struct, slice, array): if every field is
    marshalled as the specification says (`FieldOK`: an untyped nil of a []interface{} or a nil encoding — typed nil
    pointer, nil []byte, nil slice, nil map … — exactly for null, else the field's spec bytes, shorter than 2 GiB)
    then the whole value is the specification's encoding: `[bytes]` per field, −1 for null (repair of KF-C12-6:
    appendBytes).  Induction step for nesting, like `C12_list_framing`. -/
theorem C12_tuple_framing (p : Nat) (ts : List CqlTy) (vs : List GoVal) (cs : List CqlVal) (b : Bytes) :
    (FieldsOK p true ts vs cs → marshal p (.tuple ts) (.ifaces vs) = .ok (some b) →
      specEnc p (.tuple ts) (.tuple cs) = some b) ∧
    (FieldsOK p false ts vs cs →
      (marshal p (.tuple ts) (.struct vs) = .ok (some b) ∨
       (∃ isNil, marshal p (.tuple ts) (.slice isNil vs) = .ok (some b)) ∨
       marshal p (.tuple ts) (.array vs) = .ok (some b)) →
      specEnc p (.tuple ts) (.tuple cs) = some b) := by
  constructor
  · intro hall h
    have hl := FieldsOK_length hall
    simp only [marshal, hl, ne_eq, not_true_eq_false, if_false] at h
    simp only [specEnc]
    exact marshalTupleIfaces_spec p ts vs cs b hall (wrapTuple_ok h)
  · intro hall h
    have hl := FieldsOK_length hall
    have key : wrapTuple ts (marshalTupleFields p ts vs) = .ok (some b) := by
      rcases h with h | ⟨isNil, h⟩ | h <;>
        simpa only [marshal, hl, ne_eq, not_true_eq_false, if_false] using h
    simp only [specEnc]
    exact marshalTupleFields_spec p ts vs cs b hall (wrapTuple_ok key)

/-- the field hypothesis is met by every kind of nil: a typed nil pointer, a pointer to a nil pointer, a nil []byte,
    a nil slice and a nil map all marshal to the nil encoding, which the tuple now writes as −1 -/
theorem C12_tuple_nil_fields (p : Nat) (vi : Bool) (t : CqlTy) :
    C12Coll.FieldOK p vi t .nilptr .null ∧ C12Coll.FieldOK p vi t (.ptr .nilptr) .null ∧
    C12Coll.FieldOK p vi .blob (.bytes false true []) .null ∧
    C12Coll.FieldOK p vi (.list t) (.slice true []) .null ∧ C12Coll.FieldOK p vi (.map t t) (.map true []) .null := by
  refine ⟨?_, ?_, ?_, ?_, ?_⟩ <;> refine Or.inr (Or.inl ⟨?_, rfl⟩) <;>
    simp [marshal, marshalScalar, marshalVarcharColumn]

/-- untyped nil bound to a tuple column is null (repair of KF-C12-7), as for the scalar, list, set and map columns
    (in the model only a UDT column answers it with an error);
    = replay input `spec 4 tuple 1 int nil` -/
theorem C12_tuple_nil_null (p : Nat) (ts : List CqlTy) :
    marshal p (.tuple ts) .nil = .ok none ∧ interp (.tuple ts) .nil = some .null := by
  constructor <;> simp [marshal, interp]

/-- the regression inputs of KF-C12-6, kernel-checked: `spec 4 tuple 2 int text ifs 2 nilptr s 41` and the struct
    shape with a nil []byte -/
theorem C12_tuple_typed_nil_witness :
    marshal 4 (.tuple [.int, .text]) (.ifaces [.nilptr, .str false [65]]) = .ok (some [255, 255, 255, 255, 0, 0, 0, 1, 65]) ∧
    marshal 4 (.tuple [.blob, .text]) (.struct [.bytes false true [], .str false [65]]) =
      .ok (some [255, 255, 255, 255, 0, 0, 0, 1, 65]) ∧
    specEnc 4 (.tuple [.int, .text]) (.tuple [.null, .bytes [65]]) = some [255, 255, 255, 255, 0, 0, 0, 1, 65] := by
  have h1 : encInt (toS 32 1) = [0, 0, 0, 1] := by decide
  have hm : encInt (-1) = [255, 255, 255, 255] := by decide
  refine ⟨?_, ?_, by decide⟩ <;>
    simp [marshal, wrapTuple, marshalTupleIfaces, marshalTupleFields, GoVal.isNil, GoVal.isNilPtr, appendBytes,
      marshalScalar, marshalVarcharColumn, h1, hm]

/-! ## the 2-byte framing of protocol ≤ 2, the decode direction of both framings, tuple / UDT fields -/

open C12Frame in
/-- `C12_list_framing` for protocol ≤ 2 (2-byte UNSIGNED count and element lengths, no null): if every element is
    marshalled to its specification bytes then the whole value is the specification's encoding.  The hypothesis
    "length ≤ 65535" is not needed as an assumption: success of Marshal implies it (second conjunct for the count,
    `C12_v2_too_large` for the elements) -/
theorem C12_list_framing_v2 (p : Nat) (hp : p ≤ 2) (et : CqlTy) (vs : List GoVal) (cs : List CqlVal) (b : Bytes)
    (hall : AllOK2 p et vs cs)
    (h : marshal p (.list et) (.slice false vs) = .ok (some b)) :
    specEnc p (.list et) (.list cs) = some b ∧ vs.length ≤ 65535 := by
  replace h : wrapSeq p vs.length (marshalElems p et vs) = .ok (some b) := by simpa [marshal] using h
  refine ⟨C12Coll.marshalList_spec p et vs cs b hall.allOK.1 (fun _ => hall.allOK.2) h, ?_⟩
  obtain ⟨c, _, hc, _⟩ := C12Coll.wrapSeq_ok h
  simp only [countFrame, show ¬ p ≥ 3 by omega, if_false] at hc
  split at hc
  · omega
  · cases hc

/-- non-vacuity, kernel-checked: a list of one 1-byte text under protocol 2 -/
example : marshal 2 (.list .text) (.slice false [.str false [97]]) = .ok (some [0, 1, 0, 1, 97]) ∧
    specEnc 2 (.list .text) (.list [.bytes [97]]) = some [0, 1, 0, 1, 97] := by
  refine ⟨?_, by decide⟩
  have h1 : encShort (toS 16 1) = [0, 1] := by decide
  simp [marshal, wrapSeq, marshalElems, collSize, collItem, marshalScalar, marshalVarcharColumn, h1]

/-- "65536 must be an error" under protocol ≤ 2: neither marshal.go nor the specification can frame an element of
    more than 65535 bytes (and 65535 itself is framed: `C12_coll_length_readback`) -/
theorem C12_v2_too_large (p : Nat) (hp : p ≤ 2) (b : Bytes) (h : b.length > 65535) :
    collItem p (some b) = none ∧ elemFrame p (some b) = none := by
  have : elemFrame p (some b) = none := by
    simp only [elemFrame, show ¬ p ≥ 3 by omega, if_false]
    rw [if_neg (by omega)]
  exact ⟨by rw [C12Coll.collItem_some, this], this⟩

/-- decode direction of the length fields: what writeCollectionSize wrote, readCollectionSize reads back — under
    protocol ≤ 2 the [short] is read back UNSIGNED, for every count / length up to 65535 (an `int16` reading would
    make 32768..65535 negative); an element's bytes come back unchanged (EMPTY stays empty) and a null (protocol ≥ 3)
    comes back as null -/
theorem C12_coll_length_readback (p : Nat) (rest : Bytes) :
    (∀ (n : Nat) (c : Bytes), collSize p (n:Int) = some c → readCollSize p (c ++ rest) = some ((n:Int), rest)) ∧
    (∀ (b e : Bytes), collItem p (some b) = some e → readCollItem p (e ++ rest) = some (some b, rest)) ∧
    (p ≥ 3 → ∀ e, collItem p none = some e → readCollItem p (e ++ rest) = some (none, rest)) :=
  ⟨fun n c h => C12Frame.readCollSize_collSize p n c rest h,
   fun b e h => C12Frame.readCollItem_collItem p b e rest h,
   fun hp e h => C12Frame.readCollItem_null p hp e rest h⟩

/-- the boundary itself, kernel-checked: length 65535 (ff ff) is written under protocol 2 and read back as 65535, 32768
    (80 00) as 32768 -/
example : collSize 2 65535 = some [255, 255] ∧ readCollSize 2 [255, 255] = some (65535, []) ∧
    collSize 2 32768 = some [128, 0] ∧ readCollSize 2 [128, 0] = some (32768, []) ∧ collSize 2 65536 = none := by
  decide

/-- the readers of the model accept whatever the SPECIFICATION's readers accept, with the same result: collection
    count, collection element (both framings; under protocol ≤ 2 the two are the same function), tuple / UDT field
    — in particular length 0 is a present, EMPTY value and only a negative length is null -/
theorem C12_readers_conform (p : Nat) (b r : Bytes) :
    (∀ n, readCount p b = some (n, r) → readCollSize p b = some ((n:Int), r)) ∧
    (∀ e, readElem p b = some (e, r) → readCollItem p b = some (e, r)) ∧
    (p ≤ 2 → readCollItem p b = readElem p b) ∧
    (∀ e, readBytesFrame b = some (e, r) → readBytesM b = some (e, r)) :=
  ⟨fun n h => C12Frame.readCollSize_of_readCount p b r n h,
   fun e h => C12Frame.readCollItem_of_readElem p b r e h,
   fun hp => C12Frame.readCollItem_eq_readElem_v2 p hp b,
   fun e h => C12Frame.readBytesM_of_readBytesFrame b r e h⟩

/-- null ≠ empty inside tuples and UDTs, both sides: the field writer followed by the field reader gives back null
    for null (−1) and the EMPTY value for an empty value (0) — for the model of marshal.go (appendBytes / readBytes)
    and for the specification (`bytesFrame` / `readBytesFrame`) -/
theorem C12_field_null_vs_empty (rest : Bytes) :
    readBytesM (appendBytes (some []) ++ rest) = some (some [], rest) ∧
    readBytesM (appendBytes none ++ rest) = some (none, rest) ∧
    readBytesFrame (bytesFrame (some []) ++ rest) = some (some [], rest) ∧
    readBytesFrame (bytesFrame none ++ rest) = some (none, rest) :=
  ⟨(C12Frame.readBytesM_empty_vs_null rest).1, (C12Frame.readBytesM_empty_vs_null rest).2,
   C12Frame.readBytesFrame_bytesFrame (some []) rest (by intro b hb; injection hb with hb; subst hb; simp),
   C12Frame.readBytesFrame_bytesFrame none rest (by intro b hb; cases hb)⟩

open C12Frame in
/-- `specDec (specEnc v) = v` for tuples and UDTs, given it for the non-null fields (`FieldsRT`): null fields, EMPTY
    fields and absent trailing fields (a UDT value shorter than its type) all come back as they were -/
theorem C12_spec_fields_roundtrip (p : Nat) (names : List String) (ts : List CqlTy) (vs : List CqlVal) (b : Bytes)
    (hf : FieldsRT p ts vs) :
    (specEnc p (.tuple ts) (.tuple vs) = some b → specDec p (.tuple ts) b = some (.tuple vs)) ∧
    (specEnc p (.udt names ts) (.tuple vs) = some b → specDec p (.udt names ts) b = some (.tuple vs)) := by
  constructor <;> intro h <;> simp only [specEnc] at h <;>
    simp [specDec, specDecFields_specEncFields p ts vs b hf h]

open C12Frame in
/-- non-vacuity: a UDT (text, text, int) holding (null, EMPTY) with the third field absent -/
example : specEnc 4 (.udt ["a", "b", "c"] [.text, .text, .int]) (.tuple [.null, .bytes []]) =
      some [255, 255, 255, 255, 0, 0, 0, 0] ∧
    specDec 4 (.udt ["a", "b", "c"] [.text, .text, .int]) [255, 255, 255, 255, 0, 0, 0, 0] =
      some (.tuple [.null, .bytes []]) := by
  have henc : specEnc 4 (.udt ["a", "b", "c"] [.text, .text, .int]) (.tuple [.null, .bytes []]) =
      some [255, 255, 255, 255, 0, 0, 0, 0] := by decide
  refine ⟨henc, ?_⟩
  refine (C12_spec_fields_roundtrip 4 ["a", "b", "c"] [.text, .text, .int] [.null, .bytes []] _ ?_).2 henc
  refine .cons (.inl rfl) (.cons (.inr ⟨rfl, ?_⟩) .nil)
  intro b hb
  simp [specEnc] at hb
  subst hb
  simp [specDec]

open C12Frame in
/-- model decode = specification decode, collections (structural step, both framings): if the model's element
    decoder `f` agrees with the specification's element decoder `g` (`ElemDecOK`: `rep c` for every decoded `c`,
    `rep null` for null) then unmarshalList's loop yields exactly the representation of what `decElems` yields -/
theorem C12_list_decode_framing (p : Nat) (f : Option Bytes → URes) (g : Bytes → Option CqlVal) (rep : CqlVal → GoVal)
    (hfg : ElemDecOK f g rep) (n : Nat) (b r : Bytes) (cs : List CqlVal)
    (h : decElems p g n b = some (cs, r)) : unmarshalElems p f n b = .ok (cs.map rep) r := by
  induction n generalizing b cs with
  | zero => cases h; rfl
  | succ n ih =>
    obtain ⟨e, r1, v, vs, he, hv, hr, rfl⟩ := decElems_succ h
    have hf : f e = .ok (rep v) := by
      cases e with
      | none => cases hv; exact hfg.1
      | some x => exact hfg.2 x v hv
    simp [unmarshalElems, readCollItem_of_readElem p b r1 e he, hf, ih r1 vs hr]

open C12Frame in
/-- model decode = specification decode, tuples into scan targets (structural step): every field the specification
    reader delivers — null, EMPTY, bytes — reaches the field decoder as such, absent trailing fields are null -/
theorem C12_tuple_decode_framing (p : Nat) (ts : List CqlTy) (gs : List GoTy) (b : Bytes) (cs : List CqlVal)
    (xs : List GoVal) (h : specDecFields p ts b = some cs) (hok : ScanOK p ts gs cs xs) :
    unmarshalTupleScan p ts gs b = .ok xs [] := by
  induction hok generalizing b with
  | nil =>
    simp only [specDecFields] at h
    by_cases hb : b = []
    · subst hb; simp [unmarshalTupleScan]
    · rw [if_neg hb] at h; cases h
  -- no value left: the input is at its end
  | absent hx _ ih =>
    by_cases hb : b = []
    · subst hb; simp [unmarshalTupleScan, shorter, hx, ih [] (specDecFields_nil p _)]
    · obtain ⟨_, _, _, _, _, _, hcs, _⟩ := specDecFields_cons hb h
      cases hcs
  -- a value: the input has its frame
  | cons hnull hsome _ ih =>
    by_cases hb : b = []
    · subst hb; rw [specDecFields_nil] at h; cases h
    · obtain ⟨e, r1, v, vs, hm, hs, hcs, hrest, hv⟩ := specDecFields_cons hb h
      cases hcs
      simp [unmarshalTupleScan, hs, hm, hv _ _ hnull hsome, ih r1 hrest]

open C12Frame in
/-- model decode = specification decode, tuples into a struct / slice / array (structural step): `setField` is one
    field of unmarshalTuple — decode into goType(elem), then the slot rule `setSlot` (`unmarshalTupleSet_cons`); every
    field the specification reader delivers reaches it as null, EMPTY or bytes; absent trailing fields are null -/
theorem C12_tuple_struct_decode_framing (p : Nat) (ts : List CqlTy) (gs : List GoTy) (b : Bytes) (cs : List CqlVal)
    (xs : List GoVal) (h : specDecFields p ts b = some cs) (hok : SetOK p ts gs cs xs) :
    unmarshalTupleSet p ts gs b = .ok xs [] := by
  induction hok generalizing b with
  | nil =>
    simp only [specDecFields] at h
    by_cases hb : b = []
    · subst hb; simp [unmarshalTupleSet]
    · rw [if_neg hb] at h; cases h
  | absent hx _ ih =>
    by_cases hb : b = []
    · subst hb; rw [unmarshalTupleSet_cons]; simp [shorter, hx, ih [] (specDecFields_nil p _)]
    · obtain ⟨_, _, _, _, _, _, hcs, _⟩ := specDecFields_cons hb h
      cases hcs
  | cons hnull hsome _ ih =>
    by_cases hb : b = []
    · subst hb; rw [specDecFields_nil] at h; cases h
    · obtain ⟨e, r1, v, vs, hm, hs, hcs, hrest, hv⟩ := specDecFields_cons hb h
      cases hcs
      rw [unmarshalTupleSet_cons]
      simp [hs, hm, hv _ _ hnull hsome, ih r1 hrest]

open C12Frame in
/-- the slot rule keeps null and EMPTY apart: a pointer field of the element's Go type is nil exactly for a null
    element; a present element — empty or not — gives a non-nil pointer to the decoded value -/
theorem C12_slot_null_vs_empty (t : CqlTy) (item : Option Bytes) (v : GoVal) :
    setSlot t (.ptr (goTypeOf t)) item v = if item.isSome then .ok (.ptr v) else .ok .nilptr :=
  setSlot_ptr t item v

/-! ## duration: three zig-zag vints -/

/-- encVint = the specification's signed vint (zig-zag, then the unsigned vint whose first byte announces the number
    of extra bytes by its leading one bits, 1..9 bytes) for every int64; encIntZigZag = zig-zag -/
theorem C12_vint (n : Int) (h : fitsS 8 n = true) :
    encVint n = specVint n ∧ encIntZigZag n = zigzag n ∧ unzigzag (zigzag n) = n :=
  ⟨C12Vint.encVint_spec n h, C12Vint.encIntZigZag_spec n h, C12Vint.unzigzag_zigzag n⟩

/-- gocql.Duration, time.Duration, int64 AND every named int64 type (the reflect.Int64 fallback, repair of KF-C12-3)
    bound to a duration column: months, days, nanoseconds as three vints -/
theorem C12_duration_conforms (p : Nat) (m d n : Int) (named : Bool)
    (hm : fitsS 4 m = true) (hd : fitsS 4 d = true) (hn : fitsS 8 n = true) :
    marshalScalar .duration (.cqldur m d n) = .ok (specEnc p .duration (.duration m d n)) ∧
    marshalScalar .duration (.dur n) = .ok (specEnc p .duration (.duration 0 0 n)) ∧
    marshalScalar .duration (.int .int64 named n) = .ok (specEnc p .duration (.duration 0 0 n)) := by
  have h0 : fitsS 4 0 = true := by decide
  refine ⟨?_, ?_, ?_⟩
  case refine_3 => cases named <;> simp [marshalScalar, specEnc, hn, h0, C12ScalarConf.encVints_spec 0 0 n h0 h0 hn]
  all_goals simp [marshalScalar, specEnc, hm, hd, hn, h0, C12ScalarConf.encVints_spec m d n hm hd hn,
    C12ScalarConf.encVints_spec 0 0 n h0 h0 hn]

/-- the regression input of KF-C12-3, kernel-checked: `spec 4 duration ni int64 1` is 00 00 02 -/
example : marshalScalar .duration (.int .int64 true 1) = .ok (some [0, 0, 2]) ∧
    specEnc 4 .duration (.duration 0 0 1) = some [0, 0, 2] := by
  have hs : specEnc 4 .duration (.duration 0 0 1) = some [0, 0, 2] := by decide
  refine ⟨?_, hs⟩
  rw [(C12_duration_conforms 4 0 0 1 true (by decide) (by decide) (by decide)).2.2, hs]

/-! ## decimal, big.Int → varint, and every other scalar; every nesting (structural induction) -/

/-- marshal.go encBigInt2C (big.Int → bytes, used WITHOUT the trimming loop by marshalDecimal) is the specification's
    varint — the shortest two's complement form — for EVERY integer, in particular at −2^(8k−1) where
    `BitLen()` is a multiple of 8 and one 0xFF has to be stripped -/
theorem C12_encBigInt2C_minimal (n : Int) : encBigInt2C n = specVarint n := C12BigInt.encBigInt2C_spec n

/-- decimal: 4-byte scale, then the unscaled value as varint — for every inf.Dec (scale is an int32) -/
theorem C12_decimal_conforms (p : Nat) (u s : Int) (hs : fitsS 4 s = true) :
    marshalScalar .decimal (.dec u s) = .ok (specEnc p .decimal (.decimal u s)) :=
  C12ScalarConf.decimal_eq p u s hs

/-- non-vacuity at the boundary: −1.28 (unscaled −128, scale 2) is 00 00 00 02 80, not 00 00 00 02 ff 80 -/
example : marshalScalar .decimal (.dec (-128) 2) = .ok (some [0, 0, 0, 2, 128]) := by
  rw [C12_decimal_conforms 4 (-128) 2 (by decide)]
  have : specVarint (-128) = [128] := (specVarint_eq_tcEnc 0 (-128) (by decide) (.inl rfl)).trans (by decide)
  simp [specEnc, this]; decide

/-- a big.Int bound to a varint column: the specification's varint for every integer -/
theorem C12_varint_bigInt_conforms (p : Nat) (v : Int) :
    marshalScalar .varint (.big v) = .ok (specEnc p .varint (.int v)) := by
  simp [marshalScalar, marshalVarintColumn, specEnc, C12BigInt.marshalVarintBig_spec]

/-- EVERY scalar column × every documented Go scalar that is a value of its Go type (`wfScalar`: integer in the range
    of its kind, 16-byte UUID, int32 scale, nanosecond part in [0, 10^9) …) outside the exact `excludedScalar`
    predicate (the open findings): Marshal returns the nil slice exactly for null, otherwise the specification's
    bytes of the documented meaning, or an error (no bytes); never a panic.  Covers float / double bit patterns,
    decimal, inet (4 or 16 bytes, IPv4-mapped → 4), uuid / timeuuid (also from strings and []byte), time, boolean,
    text / blob, and the integer / varint / date / timestamp / duration cases proved above -/
theorem C12_scalar_conforms (p : Nat) (t : CqlTy) (g : GoVal) (ht : Marshal.CqlTy.isScalar t = true)
    (hwf : C12Nest.wfScalar g) (hd : documentedScalar t g = true) (hx : excludedScalar t g = false) :
    C12Nest.Conf p t (marshalScalar t g) (interpScalar t g) := C12ScalarConf.scalar_conf p t g ht hwf hd hx

/-- non-vacuity: float 1.0 (bit pattern 0x3f800000), IPv4-mapped IPv6 address → 4 bytes -/
example : marshalScalar .float (.f32 false 1065353216) = .ok (some [63, 128, 0, 0]) ∧
    specEnc 4 .float (.f32 1065353216) = some [63, 128, 0, 0] := by
  refine ⟨?_, by decide⟩
  have : encInt (toS 32 1065353216) = [63, 128, 0, 0] := by decide
  simp [marshalScalar, this]
example : marshalScalar .inet (.ip [0,0,0,0,0,0,0,0,0,0,255,255,10,0,0,1]) = .ok (some [10, 0, 0, 1]) ∧
    interpScalar .inet (.ip [0,0,0,0,0,0,0,0,0,0,255,255,10,0,0,1]) = some (.bytes [10, 0, 0, 1]) := by
  have : ipTo4 [0,0,0,0,0,0,0,0,0,0,255,255,10,0,0,1] = some [10, 0, 0, 1] := by decide
  simp [marshalScalar, interpScalar, this]

/-- CONFORMANCE AT EVERY NESTING DEPTH, EVERY PROTOCOL VERSION (both collection framings), by induction on the Go value:
    for every type tree built from the 21 scalar types with list, set, map, non-empty tuples AND user defined types
    (`nest`: a UDT has at least one field, no field name twice — `nodupB`, what CREATE TYPE enforces — and as many names
    as types), every Go value all of whose parts are values of their Go types (`wf`), documented for that column
    (`documented`) and outside the exact deviation predicate
    (`excluded`, the open findings): gocql.Marshal returns
      * the nil slice exactly when the documented meaning is null,
      * otherwise (result shorter than 2 GiB — a frame cannot carry more) exactly the specification's encoding
        `specEnc` of the documented meaning `interp`, collection counts, element lengths, −1 for null elements and
        null tuple fields included,
      * or an error (no bytes); never a panic, never an unmodelled combination.
    Under protocol ≤ 2 (2-byte unsigned counts and lengths, no null element) `excluded` keeps out exactly the
    collections holding a `nullish` element — untyped nil also behind pointers, typed nil pointer, nil []byte / slice /
    map (KF-C12-8, `C12_cex_null_element_v2`, `C12_cex_ptr_nil_v2`).
    The induction has its own steps (`C12Nest.elems_conf`, `tupleLoop_conf`), not `C12_list_framing` / `C12_tuple_framing`. -/
theorem C12_marshal_conforms (p : Nat) (t : CqlTy) (g : GoVal) (hn : C12Nest.nest t = true)
    (hw : C12Nest.wf g) (hd : documented t g = true) (hx : excluded p t g = false) :
    (marshal p t g = .ok none → interp t g = some .null) ∧
    (∀ b, marshal p t g = .ok (some b) → b.length < 2^31 →
      ∃ c, interp t g = some c ∧ c.isNull = false ∧ specEnc p t c = some b) ∧
    marshal p t g ≠ .crash ∧ marshal p t g ≠ .unmodelled := by
  have h := C12Nest.confAt (C12ScalarConf.scalar_conf p) g t hn hw hd hx
  refine ⟨fun e => ?_, fun b e hl => ?_, fun e => ?_, fun e => ?_⟩ <;> rw [e] at h
  · exact h
  · exact h hl
  · exact h
  · exact h

/-- non-vacuity: a list of (text, int) tuples from a slice of structs whose second field is a typed nil pointer —
    all hypotheses hold, so the real result [count 1][len 9][len 1 'a'][−1] is the specification's encoding -/
example : ∃ c, interp (.list (.tuple [.text, .int])) (.slice false [.struct [.str false [97], .nilptr]]) = some c ∧
    specEnc 4 (.list (.tuple [.text, .int])) c = some [0,0,0,1, 0,0,0,9, 0,0,0,1,97, 255,255,255,255] := by
  have hm : marshal 4 (.list (.tuple [.text, .int])) (.slice false [.struct [.str false [97], .nilptr]]) =
      .ok (some [0,0,0,1, 0,0,0,9, 0,0,0,1,97, 255,255,255,255]) := by
    have h1 : encInt (toS 32 1) = [0, 0, 0, 1] := by decide
    have h9 : encInt (toS 32 9) = [0, 0, 0, 9] := by decide
    have hm1 : encInt (-1) = [255, 255, 255, 255] := by decide
    simp [marshal, wrapSeq, marshalElems, collSize, collItem, wrapTuple, marshalTupleFields, GoVal.isNilPtr, appendBytes,
      marshalScalar, marshalVarcharColumn, h1, h9, hm1]
  obtain ⟨c, hc, _, hs⟩ := (C12_marshal_conforms 4 _ _ (by decide)
    (by simp [C12Nest.wf, C12Nest.wfAll, C12Nest.wfScalar]) (by decide) (by decide)).2.1 _ hm (by decide)
  exact ⟨c, hc, hs⟩

/-- the well-formedness of a UDT type is decidable and real definitions meet it; a definition with a field name twice
    does not -/
example : C12Nest.nest (.udt ["lat", "lon", "alt"] [.double, .double, .list .int]) = true ∧
    C12Nest.nest (.udt ["a", "a"] [.int, .bigint]) = false ∧ C12Nest.nest (.udt [] []) = false := by decide

/-- non-vacuity for UDT columns: the struct {b:"x", a:5} bound to the type (a int, b text) — fields in the order of
    the TYPE, each through its own name -/
example : ∃ c, interp (.udt ["a", "b"] [.int, .text]) (.udtstruct ["b", "a"] [.str false [120], .int .int false 5]) = some c ∧
    specEnc 4 (.udt ["a", "b"] [.int, .text]) c = some [0, 0, 0, 4, 0, 0, 0, 5, 0, 0, 0, 1, 120] := by
  have hm : marshal 4 (.udt ["a", "b"] [.int, .text]) (.udtstruct ["b", "a"] [.str false [120], .int .int false 5]) =
      .ok (some [0, 0, 0, 4, 0, 0, 0, 5, 0, 0, 0, 1, 120]) := by
    have h5 : encInt (toS 32 5) = [0, 0, 0, 5] := by decide
    have h4 : encInt (toS 32 4) = [0, 0, 0, 4] := by decide
    have h1 : encInt (toS 32 1) = [0, 0, 0, 1] := by decide
    simp [marshal, udtAssemble, marshalNamed, lookupIdx, seqItems, appendBytes, marshalScalar, marshalIntColumn, optM,
      marshalIntKind, marshalVarcharColumn, h5, h4, h1]
  obtain ⟨c, hc, _, hs⟩ := (C12_marshal_conforms 4 _ _ (by decide)
    (by simp [C12Nest.wf, C12Nest.wfAll, C12Nest.wfScalar, IntKind.holds, IntKind.signed, IntKind.bits, leB, ltB])
    (by decide) (by decide)).2.1 _ hm (by decide)
  exact ⟨c, hc, hs⟩

/-- the hypothesis "no field name twice" is needed FOR THE MODEL: marshalNamed resolves the column type of a Go entry
    through the first UDT field of its name, so for the ill-formed type (a int, a bigint) the model writes 4 + 4 bytes
    where the specification (and, checked with `enc 4 udt 2 a int a bigint us 1 a i int 5`, the real marshalUDT, which
    uses each field's own type: 4 + 8 bytes) does not.  Outside `nest` model and code differ; such types are never
    generated (Cassandra refuses them). -/
theorem C12_cex_udt_duplicate_names :
    marshal 4 (.udt ["a", "a"] [.int, .bigint]) (.udtstruct ["a"] [.int .int false 5]) =
      .ok (some [0, 0, 0, 4, 0, 0, 0, 5, 0, 0, 0, 4, 0, 0, 0, 5]) ∧
    specEnc 4 (.udt ["a", "a"] [.int, .bigint]) (.tuple [.int 5, .int 5]) =
      some [0, 0, 0, 4, 0, 0, 0, 5, 0, 0, 0, 8, 0, 0, 0, 0, 0, 0, 0, 5] := by
  refine ⟨?_, by decide⟩
  have h5 : encInt (toS 32 5) = [0, 0, 0, 5] := by decide
  have h4 : encInt (toS 32 4) = [0, 0, 0, 4] := by decide
  simp [marshal, udtAssemble, marshalNamed, lookupIdx, seqItems, appendBytes, marshalScalar, marshalIntColumn, optM,
    marshalIntKind, h5, h4]

/-- KF-C12-8 also behind a pointer: a `*interface{}` holding nil inside a collection under protocol ≤ 2 is written as a
    zero-length element; the specification has no encoding (no null in the 2-byte framing).  `nullish` (and the
    harness classifier valgen.Excluded) count it.  = replay input `enc 2 map int int map k int ptr iface 1 i int 1 ptr nil` -/
theorem C12_cex_ptr_nil_v2 :
    marshal 2 (.map .int .int) (.map false [(.int .int false 1, .ptr .nil)]) = .ok (some [0, 1, 0, 4, 0, 0, 0, 1, 0, 0]) ∧
    specEnc 2 (.map .int .int) (.map [(.int 1, .null)]) = none ∧
    excluded 2 (.map .int .int) (.map false [(.int .int false 1, .ptr .nil)]) = true ∧
    excluded 3 (.map .int .int) (.map false [(.int .int false 1, .ptr .nil)]) = false := by
  refine ⟨?_, by decide, by decide, by decide⟩
  have h1 : encShort (toS 16 1) = [0, 1] := by decide
  have h0 : encShort (toS 16 0) = [0, 0] := by decide
  have h4 : encShort (toS 16 4) = [0, 4] := by decide
  have hi : encInt (toS 32 1) = [0, 0, 0, 1] := by decide
  simp [marshal, wrapSeq, marshalPairs, collSize, collItem, marshalScalar, marshalIntColumn, optM, marshalIntKind, h1, h0, h4, hi]

/-- non-vacuity under protocol 2: set<text> from a slice of strings, 2-byte framing -/
example : ∃ c, interp (.set .text) (.slice false [.str false [97], .str false []]) = some c ∧
    specEnc 2 (.set .text) c = some [0, 2, 0, 1, 97, 0, 0] := by
  have hm : marshal 2 (.set .text) (.slice false [.str false [97], .str false []]) = .ok (some [0, 2, 0, 1, 97, 0, 0]) := by
    have h2 : encShort (toS 16 2) = [0, 2] := by decide
    have h1 : encShort (toS 16 1) = [0, 1] := by decide
    have h0 : encShort (toS 16 0) = [0, 0] := by decide
    simp [marshal, wrapSeq, marshalElems, collSize, collItem, marshalScalar, marshalVarcharColumn, h2, h1, h0]
  obtain ⟨c, hc, _, hs⟩ := (C12_marshal_conforms 2 _ _ (by decide)
    (by simp [C12Nest.wf, C12Nest.wfAll, C12Nest.wfScalar]) (by decide) (by decide)).2.1 _ hm (by decide)
  exact ⟨c, hc, hs⟩

/-- the converse for the scalars with a layout of their own: every specification-conformant decimal / float / double /
    time encoding (`specDec … = some …`) decodes, in the model of gocql.Unmarshal, to exactly the value the
    specification decoder reads — unscaled value as two's complement of any length and 4-byte scale, IEEE bit
    patterns unchanged (NaN payloads included), nanoseconds as 8-byte two's complement -/
theorem C12_scalar_decode_conforms (p : Nat) (isNil named : Bool) (b : Bytes) :
    (∀ u s, specDec p .decimal b = some (.decimal u s) → unmarshalScalar .decimal isNil b .dec = .ok (.dec u s)) ∧
    (∀ x, specDec p .float b = some (.f32 x) → unmarshalScalar .float isNil b (.f32 false) = .ok (.f32 false x)) ∧
    (∀ x, specDec p .double b = some (.f64 x) → unmarshalScalar .double isNil b (.f64 named) = .ok (.f64 named x)) ∧
    (∀ n, specDec p .time b = some (.int n) →
      unmarshalScalar .time isNil b (.int .int64 named) = .ok (.int .int64 named n) ∧
      unmarshalScalar .time isNil b .dur = .ok (.dur n)) :=
  ⟨fun u s h => C12Decode.decimal_decode p isNil b u s h, fun x h => C12Decode.float_decode p isNil b x h,
   fun x h => C12Decode.double_decode p isNil named b x h, fun n h => C12Decode.time_decode p isNil named b n h⟩

/-- non-vacuity: 00 00 00 02 80 is the conformant decimal −1.28 -/
example : specDec 4 .decimal [0, 0, 0, 2, 128] = some (.decimal (-128) 2) := by
  have h1 : tcDec [128] = -128 := by decide
  have h2 : tcDec [0, 0, 0, 2] = 2 := by decide
  simp [specDec, minimalTC, h1, h2]

/-- duration, converse direction — closes the chain source text → model → specification for duration: marshal.go's
    decVint (generated code = `Marshal.decVint`: GenTie.C12.decVint) reads, for EVERY byte string, exactly what the
    specification's vint reader reads (first byte's leading one bits = number of extra bytes, big-endian payload,
    zig-zag); hence every specification-conformant duration decodes into a gocql.Duration to the value the
    specification decoder reads.  (Encode direction: C12_vint, C12_duration_conforms, GenTie.C12.encVint.) -/
theorem C12_duration_decode_conforms (p : Nat) (isNil : Bool) :
    (∀ data : Bytes, decVint data = specReadVint data) ∧
    (∀ (b : Bytes) (m d n : Int), specDec p .duration b = some (.duration m d n) →
      unmarshalScalar .duration isNil b .cqldur = .ok (.cqldur m d n)) := by
  refine ⟨C12VintDec.decVint_spec, fun b m d n h => ?_⟩
  have e : unmarshalScalar .duration isNil b .cqldur =
      (if b = [] then URes.ok (.cqldur 0 0 0) else
        (match decVints b with
         | some (m, dd, n) => URes.ok (.cqldur m dd n)
         | none => URes.err)) := rfl
  simp only [specDec, Option.bind_eq_bind, Option.bind_eq_some_iff] at h
  obtain ⟨⟨m', r1⟩, h1, ⟨d', r2⟩, h2, ⟨n', r3⟩, h3, h⟩ := h
  split at h <;> cases h
  next hc =>
  have hne : b ≠ [] := by
    intro hb; subst hb; simp [specReadVint, specReadUVint] at h1
  have hv : decVints b = some (m', d', n') := by
    simp [decVints, C12VintDec.decVint_spec, h1, h2, h3, toS32_id _ hc.2.1, toS32_id _ hc.2.2.1]
  rw [e, if_neg hne, hv]

/-- non-vacuity: the one-byte vint 02 is 1, the two-byte vint 80 81 is −65, rest untouched -/
example : decVint [2, 7] = some (1, [7]) ∧ decVint [0x80, 0x81, 9] = some (-65, [9]) := by
  rw [(C12_duration_decode_conforms 4 false).1, (C12_duration_decode_conforms 4 false).1]
  decide

/-! ## histories inside one process: the same Go type marshalled for several type descriptions -/

open MarshalMemo in
/-- HISTORY INDEPENDENCE, for ALL call sequences: in the process of the code that exists (no state between calls:
    `pureRun`, the machine op `hist` is answered with, `F` = the specification's answer to the call's own protocol,
    type description and Go value) the answers to the calls `cs` are the same whatever calls `h` were made before
    them in the same process — same Go type under other UDT definitions (reordered / renamed / added fields),
    other tuple arities, other element types — and each is `F` of its own call -/
theorem C12_history_independent {α β : Type} (F : α → β) (h cs : List α) :
    (pureRun F () (h ++ cs)).drop h.length = pureRun F () cs ∧ pureRun F () cs = cs.map F := by
  simp [C12Hist.pureRun_eq]

open MarshalMemo in
/-- … and for every implementation that REMEMBERS a resolution (struct field ↔ UDT field, …) in per-process state:
    if every cache hit it accepts gives the stateless answer, all answers of all sequences are the stateless ones -/
theorem C12_memo_sound {α β ρ κ : Type} [DecidableEq κ] (M : Memo α β ρ κ)
    (hs : ∀ a a', M.key a' = M.key a → M.valid (M.resolve a') a = true → M.apply (M.resolve a') a = M.direct a)
    (as : List α) : M.run [] as = as.map M.direct :=
  C12Hist.memo_run M hs as [] (C12Hist.inv_nil M)

open MarshalMemo in
/-- non-vacuity: a cache keyed by (UDT field names, struct tags) meets the hypothesis -/
example (as : List UCall) : soundUdt.run [] as = as.map soundUdt.direct := by
  apply C12_memo_sound
  intro a a' hk _
  simp only [soundUdt, Prod.mk.injEq] at hk
  simp [Memo.direct, soundUdt, udtResolve, hk.1, hk.2]

open MarshalMemo in
/-- FULL STATEMENT "every memo is history independent" is false. Kernel-checked: the field resolution cached per
    (struct type, keyspace, type name) and re-used when the number of fields agrees — the struct {a:10, b:20} for
    the definition (a, b) and then for the look-alike definition (b, a): the second value is written in the stale
    order 10 20 instead of 20 10.  Each call alone, or the look-alike first, is right: only a SEQUENCE shows it
    (= the replay shape of op `hist`) -/
theorem C12_cex_stale_udt_cache :
    staleUdt.run [] [([1, 2], [1, 2], [10, 20]), ([2, 1], [1, 2], [10, 20])] = [[10, 20], [10, 20]] ∧
    [([1, 2], [1, 2], [10, 20]), ([2, 1], [1, 2], [10, 20])].map staleUdt.direct = [[10, 20], [20, 10]] ∧
    staleUdt.run [] [([2, 1], [1, 2], [10, 20])] = [[20, 10]] ∧
    soundUdt.run [] [([1, 2], [1, 2], [10, 20]), ([2, 1], [1, 2], [10, 20])] = [[10, 20], [20, 10]] := by
  decide

end C12
