import Proofs.C05ValueColl
/-!
  C05 (no bytes from the network can crash the application): value decoders.

  `C05_values_total`: every index / slice / make / reflect-index operation of the decoders (the sites
  `idx`, `sliceFrom`, `sliceTo`, `reflectBounds` of Model.CrashValue) is in bounds, behind the guard
  that precedes it. The model is the code after the repairs of KF-C05-12, 15, 16, 17, 18, 19, 21; the
  inputs that crashed the code before the repairs are errors now (`C05_former_witnesses_are_errors`,
  the `ops` of the findings, replayed on the real code by the check).
  Allocation: the element count handed to reflect.MakeSlice / MakeMapWithSize is bounded by the bytes
  left (`C05_alloc_bound`, `C05_map_alloc_bound`), and the guard that enforces it rejects nothing that
  would have decoded (`C05_count_guard_conservative`).
-/
namespace C05Value
open CrashValue

/-- the table of destination kinds a tuple can be stored in: a row that applies answers an error (wrong number of fields,
    wrong array length) or exactly `n` slots (a fixed count equal to `n`, or `replicate n`); it never crashes -/
theorem tupleSlots_cases {g : GT} {n : Nat} {r : Res (List Slot)} (h : tupleSlots g n = some r) :
    r = .err ∨ ∃ slots, r = .ok slots ∧ slots.length = n := by
  revert h
  fun_cases tupleSlots g n <;> intro h <;> cases h <;> (try split) <;> first
    | exact .inl rfl
    | exact .inr ⟨_, rfl, by simp <;> omega⟩

theorem setSlot_safe (slots : List Slot) (i : Nat) (src : GT) (h : i < slots.length) :
    Safe (setSlot slots i src) := by
  unfold setSlot
  rw [List.getElem?_eq_getElem h]
  dsimp only
  (repeat' split) <;> simp

theorem readCS4 (proto : Nat) (a b c x : UInt8) (rest : Bytes) (hp : proto > 2) :
    readCollectionSize proto (a :: b :: c :: x :: rest) = .ok (i32 a b c x, 4) := by
  simp [readCollectionSize, hp, idx]

theorem sliceFrom4 (fn : Fn) (a b c x : UInt8) (rest : Bytes) : sliceFrom fn (a :: b :: c :: x :: rest) 4 = .ok rest := by
  rw [sliceFrom_ok (by simp)]; rfl

mutual
theorem core_safe (proto : Nat) : ∀ (t : CT) (g : GT) (d : Option Bytes), Safe (core proto t g d)
  | .nat n, g, d => by
      simp only [core]; exact scalar_safe n g d
  | .list e, g, d => by
      simp only [core]
      exact unmarshalList_safe proto _ (fun g' d' => unmG_safe (core_safe proto e) g' d') g d
  | .map k v, g, d => by
      simp only [core]
      exact unmarshalMap_safe proto _ _ (fun g' d' => unmG_safe (core_safe proto k) g' d')
        (fun g' d' => unmG_safe (core_safe proto v) g' d') g d
  | .tuple es, g, d => by
      simp only [core]
      cases h : tupleSlots g es.length with
      | none => exact safe_err
      | some r =>
        rcases tupleSlots_cases h with rfl | ⟨slots, rfl, hl⟩
        · exact safe_err
        · exact tupleLoop_safe proto es 0 slots _ (by omega)
  | .udt fs, g, d => by
      simp only [core]
      -- into a `map[string]interface{}` or a struct; NULL and the empty value are done at once
      repeat' split
      all_goals first
        | exact safe_ok _ | exact safe_err
        | exact udtMapLoop_safe proto fs _ | exact udtStructLoop_safe proto fs _ _
theorem tupleLoop_safe (proto : Nat) : ∀ (es : List CT) (i : Nat) (slots : List Slot) (d : Bytes),
    i + es.length ≤ slots.length → Safe (tupleLoop proto es i slots d)
  | [], _, _, _, _ => by simp only [tupleLoop]; simp
  | e :: es, i, slots, d, h => by
      simp only [tupleLoop]
      simp only [List.length_cons] at h
      apply safe_bind (tupleField_safe d); intro pd _
      apply safe_bind (goType_safe e); intro gt _
      apply safe_bind (unmG_safe (core_safe proto e) gt pd.1); intro _ _
      apply safe_bind (setSlot_safe slots i gt (by omega)); intro _ _
      exact tupleLoop_safe proto es (i+1) slots pd.2 (by omega)
theorem udtMapLoop_safe (proto : Nat) : ∀ (fs : List (Nat × CT)) (d : Bytes),
    Safe (udtMapLoop proto fs d)
  | [], _ => by simp only [udtMapLoop]; simp
  | (_, e) :: fs, d => by
      simp only [udtMapLoop]
      split
      · simp
      · split
        · simp
        · rename_i h0 h4
          apply safe_bind (goType_safe e); intro gt _
          apply safe_bind (readBytes_safe (by omega)); intro pd _
          apply safe_bind (unmG_safe (core_safe proto e) gt pd.1); intro _ _
          exact udtMapLoop_safe proto fs pd.2
theorem udtStructLoop_safe (proto : Nat) : ∀ (fs : List (Nat × CT)) (sf : List UField) (d : Bytes),
    Safe (udtStructLoop proto fs sf d)
  | [], _, _ => by simp only [udtStructLoop]; simp
  | (nm, e) :: fs, sf, d => by
      simp only [udtStructLoop]
      split
      · simp
      · split
        · simp
        · rename_i h0 h4
          apply safe_bind (readBytes_safe (by omega)); intro pd _
          split
          · exact udtStructLoop_safe proto fs sf pd.2
          · rename_i f _
            split
            · apply safe_bind (unmG_safe (core_safe proto e) f.ty pd.1); intro _ _
              exact udtStructLoop_safe proto fs sf pd.2
            · exact safe_err
end

/-- `v[i]` in the `[]interface{}` path is in bounds: the loop is entered only when
    `len(v) >= len(tuple.Elems)` -/
theorem ifsLoop_safe (proto : Nat) (es : List CT) (i : Nat) (ds : List GT) (d : Bytes)
    (h : i + es.length ≤ ds.length) : Safe (ifsLoop proto es i ds d) := by
  fun_induction ifsLoop proto es i ds d
  case case1 => exact safe_ok _
  case case2 e es i ds d ih =>
    simp only [List.length_cons] at h
    refine safe_bind (tupleField_safe d) fun pd _ => ?_
    rw [List.getElem?_eq_getElem (show i < ds.length by omega)]
    exact safe_bind (unmG_safe (core_safe proto e) _ pd.1) fun _ _ => ih _ (by omega)

/-- FULL: no protocol version, type tree, destination and byte string (or NULL) makes `Unmarshal`
    panic: every index / slice / make / reflect operation of marshal.go Unmarshal … unmarshalUDT and
    helpers.go goType is in bounds (no bound on sizes or depth). -/
theorem C05_values_total (proto : Nat) (t : CT) (dst : Dest) (data : Option Bytes) :
    ∀ s, unmarshal proto t dst data ≠ .crash s := by
  show Safe (unmarshal proto t dst data)
  fun_cases unmarshal proto t dst data
  -- into a `*g`; into what goType allocates; into a `[]interface{}` (a tuple only, and only if it is long enough)
  · exact unmG_safe (core_safe proto t) _ _
  · exact safe_bind (goType_safe t) fun g _ => unmG_safe (core_safe proto t) _ _
  · exact safe_err
  · exact ifsLoop_safe proto _ 0 _ _ (by omega)
  · exact safe_err

/-- what unmarshalList allocates fits in the remaining bytes: count * header size <= bytes left -/
theorem C05_alloc_bound (n : Int) (avail p cnt : Nat) (hp : 0 < p)
    (h : makeCount n avail p = .ok cnt) : cnt * p ≤ avail := by
  rw [makeCount_eq] at h
  split at h <;> cases h
  exact (Nat.le_div_iff_mul_le hp).mp (And.right ‹_›)

theorem C05_map_alloc_bound (n : Int) (avail p cnt : Nat) (hp : 0 < p)
    (h : makeMapCount n avail p = .ok cnt) : cnt * (2 * p) ≤ avail :=
  C05_alloc_bound n avail (2 * p) cnt (by omega) (makeMapCount_eq n avail p ▸ h)

/-- a count read from the header and accepted by a count guard `mk`, times the header size, fits the bytes of the value,
    if what the guard accepts fits the bytes after the header -/
theorem guarded_count_le (proto : Nat) (d : Bytes) (mk : Int → Nat → Nat → Res Nat) (g : Nat → Nat)
    (hmk : ∀ n a p c, 0 < p → mk n a p = .ok c → g c * p ≤ a) :
    (match readCollectionSize proto d with
      | .ok (n, p) => (match mk n (d.length - p) p with | .ok c => g c | _ => 0)
      | _ => 0) * hdr proto ≤ d.length := by
  rcases readCollectionSize_cases proto d with h | ⟨n, p, h, hp, hp2⟩
  · simp [h]
  · subst hp2
    simp only [h]
    split
    · rename_i c hc
      have := hmk n _ _ c (hdr_pos proto) hc
      omega
    · simp

/-- the model's allocation counter of a value decode (the element count asked of reflect.MakeSlice /
    twice the entry count asked of reflect.MakeMapWithSize) times the header size is at most the bytes
    of the value: for every protocol version, type, destination type and byte string -/
theorem C05_top_alloc_bound (proto : Nat) (t : CT) (g : GT) (data : Option Bytes) :
    topAllocCount proto t g data * hdr proto ≤ (data.getD []).length := by
  unfold topAllocCount
  split
  · split
    · exact guarded_count_le proto _ makeCount _ fun n a p c => C05_alloc_bound n a p c
    · simp
  · split
    · exact guarded_count_le proto _ makeMapCount _ fun n a p c hp h => by
        have := C05_map_alloc_bound n a p c hp h
        rwa [Nat.mul_comm 2 c, Nat.mul_assoc]
    · simp
  · simp

/-- a list body that cannot hold `cnt` element headers never decodes to `ok` (each element read
    consumes at least one header): so the count guard never turns a successful decode into an error, it
    only refuses the allocation that would precede the inevitable `unexpected eof` -/
theorem listLoop_short_not_ok (proto : Nat) (f : Option Bytes → Outcome) (len : Nat) :
    ∀ (cnt i : Nat) (d : Bytes), d.length < cnt * hdr proto → listLoop proto f len cnt i d ≠ .ok ()
  | 0, _, _, h => by simp at h
  | cnt+1, i, d, h => by
      simp only [listLoop]
      rcases readElem_cases .unmarshalList proto d with he | ⟨ed, rest, he, hlen⟩
      · simp [he]
      · simp only [he, ok_bind]
        split
        · cases hf : f ed with
          | ok u =>
            simp only [ok_bind]
            apply listLoop_short_not_ok proto f len cnt (i+1) rest
            have : (cnt + 1) * hdr proto = cnt * hdr proto + hdr proto := by rw [Nat.add_mul]; simp
            omega
          | err => simp
          | crash s => simp
        · simp

/-- the count guard is conservative: whenever `makeCount` refuses a non-negative count, the element
    loop over the same bytes would not have returned ok either -/
theorem C05_count_guard_conservative (proto : Nat) (f : Option Bytes → Outcome) (n : Int) (d : Bytes)
    (hn : 0 ≤ n) (hrej : makeCount n d.length (hdr proto) = .err) :
    listLoop proto f n.toNat n.toNat 0 d ≠ .ok () := by
  apply listLoop_short_not_ok
  rw [makeCount_eq] at hrej
  split at hrej
  · cases hrej
  · exact (Nat.div_lt_iff_lt_mul (hdr_pos proto)).mp (by omega)

/-! ### regression: the inputs that crashed the code before the repairs (the `ops` of KF-C05-12, 15-19,
    21; replayed on the real code by the check) are errors now -/

theorem C05_former_witnesses_are_errors :
    -- KF-C05-15 `val 4 list(int) slice(int) fffffffe`: list length −2 into a slice
    unmarshal 4 (.list (.nat .int)) (.val (.slice (.sc .int))) (some [0xff, 0xff, 0xff, 0xfe]) = .err
    -- KF-C05-12 `val 4 tuple(int,int) ifs(int,int) 0000000901`: tuple field length 9 with 1 byte left
    ∧ unmarshal 4 (.tuple [.nat .int, .nat .int]) (.ifs [.sc .int, .sc .int]) (some [0, 0, 0, 9, 1]) = .err
    -- KF-C05-12 `val 4 udt(a:int) def 0000000901`
    ∧ unmarshal 4 (.udt [(97, .nat .int)]) .deflt (some [0, 0, 0, 9, 1]) = .err
    -- KF-C05-16 `val 4 tuple(int,int) ifs(int) 0000000400000001`: `[]interface{}` shorter than the tuple
    ∧ unmarshal 4 (.tuple [.nat .int, .nat .int]) (.ifs [.sc .int]) (some [0, 0, 0, 4, 0, 0, 0, 1]) = .err
    -- KF-C05-17 `val 4 date time 01`: one-byte date
    ∧ unmarshal 4 (.nat .date) (.val (.sc .time)) (some [1]) = .err
    -- KF-C05-18 `val 4 tuple(int) struct(A:int64) -`: struct field type differs from goType(int) = int
    ∧ unmarshal 4 (.tuple [.nat .int]) (.val (.struct [(65, false, .sc .int64)])) (some []) = .err
    -- KF-C05-19 `val 4 udt(wall:int) time 0000000400000001`: UDT field named like an unexported field
    ∧ unmarshal 4 (.udt [(nameCode ['w','a','l','l'], .nat .int)]) (.val (.sc .time))
        (some [0, 0, 0, 4, 0, 0, 0, 1]) = .err
    -- KF-C05-21 huge count, tiny body: rejected BEFORE reflect.MakeSlice (`makeCount` = err)
    ∧ unmarshal 4 (.list (.nat .int)) (.val (.slice (.sc .int))) (some [0x7f, 0xff, 0xff, 0xff]) = .err
    ∧ makeCount 2147483647 0 4 = .err := by
  decide

/-- `val 4 map(blob,int) def 00000000`: the default destination of map<blob,int> cannot be built —
an ERROR since /repo commit c637d3e (it was a reflect.MapOf panic, KF-C05-14) -/
theorem C05_gotype_blob_key_is_error :
    unmarshal 4 (.map (.nat .blob) (.nat .int)) .deflt (some [0, 0, 0, 0]) = .err ∧
    unmarshal 4 (.tuple [.map (.nat .blob) (.nat .int)]) (.val (.slice (.sc .iface))) (some []) = .err := by
  decide

/-! ### non-vacuity: the decoders still decode (they are not the constant `err`) -/

example : unmarshal 4 (.list (.nat .int)) (.val (.slice (.sc .int))) (some [0,0,0,1, 0,0,0,4, 0,0,0,7]) = .ok () := by
  decide
example : unmarshal 4 (.tuple [.nat .int, .nat .text]) (.ifs [.sc .int, .sc .string])
    (some [0,0,0,4, 0,0,0,7, 0,0,0,1, 0x61]) = .ok () := by decide
example : unmarshal 4 (.nat .date) (.val (.sc .time)) (some [0x80, 0, 0, 1]) = .ok () := by decide
example : makeCount 1 8 4 = .ok 1 := by decide

end C05Value
