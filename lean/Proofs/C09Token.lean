import Model.Token
import Proofs.Bytes
import Proofs.Common
/-!
  Lemmas about `Model/Token.lean`: the bound of a big-endian value; the bytewise order `lexLt` is core's `<` on byte lists;
  the composite routing key (decodable for components below 65536 bytes; equal to the specification's framing); token
  strings (printed decimal digits parse back to the number, the sign of a printed integer is read back); the partitioner a
  class name selects does not depend on the package prefix.
-/
namespace Token

theorem beNat_eq : ∀ bs, beNat bs = ValueSpec.beNat bs := BE.beNat_unique _ rfl fun _ _ => rfl

theorem beNat_lt : ∀ (bs : List UInt8), beNat bs < 256 ^ bs.length :=
  fun bs => beNat_eq bs ▸ BE.beNat_lt bs

theorem lexLt_iff_lt (a b : List UInt8) : lexLt a b = true ↔ a < b := by
  fun_induction lexLt a b with
  | case1 | case2 | case3 => simp
  | case4 a as b bs h => simp [List.cons_lt_cons_iff, UInt8.lt_iff_toNat_lt, h]           -- first byte smaller
  | case5 a as b bs _ h =>                                                               -- first byte greater
    rw [List.cons_lt_cons_iff, ← UInt8.toNat_inj, UInt8.lt_iff_toNat_lt]
    simp only [Bool.false_eq_true, false_iff]; omega
  | case6 a as b bs h1 h2 ih =>                                                          -- first bytes equal: the rest decides
    rw [List.cons_lt_cons_iff, ← UInt8.toNat_inj, UInt8.lt_iff_toNat_lt, ih]
    simp only [h1, false_or, iff_and_self]; omega

theorem lexLt_eq_false {a b : List UInt8} : lexLt a b = false ↔ b ≤ a := by
  rw [← Bool.not_eq_true, lexLt_iff_lt, List.not_lt]

theorem composite_length_ge (cs : List (List UInt8)) : cs.length ≤ (composite cs).length ∨ True := Or.inr trivial

theorem decode_composite : ∀ (cs : List (List UInt8)) (fuel : Nat),
    (∀ c ∈ cs, c.length < 65536) → (composite cs).length ≤ fuel →
    decodeComposite fuel (composite cs) = some cs
  | [], fuel, _, _ => by cases fuel <;> simp [composite, decodeComposite]
  | c :: cs, fuel, hall, hf => by
    have hc : c.length < 65536 := hall c (by simp)
    have hmod : c.length % 65536 = c.length := Nat.mod_eq_of_lt hc
    cases fuel with
    | zero => simp [composite, be16] at hf
    | succ fuel =>
      have hd1 : (c ++ (0 :: composite cs)).drop (c.length + 1) = composite cs := by
        rw [← List.drop_drop, List.drop_left]; rfl
      -- the two length bytes give `c.length` back; behind `c` stands the 0 byte and then the other frames
      simp only [composite, be16, hmod, List.cons_append, List.nil_append, decodeComposite, List.append_assoc,
        BE.ofNat_mod, BE.two_roundtrip, List.drop_left, List.take_left, hd1, List.head?_cons, ne_eq, not_true_eq_false, if_false]
      rw [if_neg (by simp), decode_composite cs fuel (fun x hx => hall x (by simp [hx])) (by
        simp [composite, be16] at hf; omega)]

/-- the length field a 65536-byte component would get is `00 00` (the framing itself:
    `C09_routing_length_wraps_above_65535`) -/
theorem composite_truncates : be16 (65536 % 65536) = [0, 0] := by decide

/-- for components that fit the unsigned 16-bit length the code's framing IS the specification's -/
theorem composite_eq_frame : ∀ cs : List (List UInt8), (∀ c ∈ cs, c.length ≤ 65535) → composite cs = Spec.frame cs
  | [], _ => rfl
  | c :: cs, h => by
    have hc : c.length ≤ 65535 := h c (by simp)
    have ih := composite_eq_frame cs (fun d hd => h d (by simp [hd]))
    have e1 : c.length % 65536 = c.length := Nat.mod_eq_of_lt (by omega)
    simp only [composite, Spec.frame, be16, e1, BE.ofNat_mod, ih]


/-- the model prints with the digit loop of core's `Nat.toDigits` -/
theorem natDigits_eq (n : Nat) : natDigits n = Nat.toDigits 10 n := by
  have hd : ∀ d : Fin 10, Char.ofNat (48 + d.val) = Nat.digitChar d.val := by decide
  have aux : ∀ f n acc, natDigitsAux f n acc = Nat.toDigitsCore 10 f n acc := by
    intro f
    induction f with
    | zero => intro n acc; rfl
    | succ f ih =>
      intro n acc
      simp only [natDigitsAux, Nat.toDigitsCore, hd ⟨n % 10, Nat.mod_lt _ (by decide)⟩, ih]
  exact aux _ _ _

theorem parseNat_natDigits (n : Nat) : parseNat (natDigits n) = some n := by
  rw [parseNat, natDigits_eq, if_neg (by simp [Nat.toDigits_ne_nil])]
  exact toDigits_of_eqns (fun _ => rfl) (fun c cs a h => by simp only [parseDigits, digitVal, if_pos h]) n

theorem natDigits_head (n : Nat) : ∃ c cs, natDigits n = c :: cs ∧ c ≠ '-' ∧ c ≠ '+' := by
  rw [natDigits_eq]
  cases h : Nat.toDigits 10 n with
  | nil => exact absurd h Nat.toDigits_ne_nil
  | cons c cs =>
    have hd : c.isDigit = true := Nat.isDigit_of_mem_toDigits (by decide) (by decide) (h ▸ List.mem_cons_self)
    exact ⟨c, cs, rfl, by rintro rfl; exact absurd hd (by decide), by rintro rfl; exact absurd hd (by decide)⟩

theorem splitSign_plain (c : Char) (cs : List Char) (h1 : c ≠ '-') (h2 : c ≠ '+') :
    splitSign (c :: cs) = (false, c :: cs) := by
  unfold splitSign
  split
  · rename_i heq; simp at heq; exact absurd heq.1 h2
  · rename_i heq; simp at heq; exact absurd heq.1 h1
  · rfl

theorem splitSign_printInt (i : Int) : splitSign (printInt i) = (decide (i < 0), natDigits i.natAbs) := by
  by_cases hneg : i < 0
  · simp [printInt, hneg, splitSign]
  · obtain ⟨c, cs, hds, h1, h2⟩ := natDigits_head i.natAbs
    simp only [printInt, hneg, if_false, decide_false, hds, splitSign_plain c cs h1 h2]

/-- RandomPartitioner token strings (`big.Int.SetString`): the decimal string of EVERY integer (no range bound;
    Cassandra's tokens are 0 … 2^127 and the minimum token -1) parses to that integer -/
theorem parseBig_printInt (i : Int) : parseBig (printInt i) = some i := by
  simp [parseBig, splitSign_printInt, parseNat_natDigits]
  omega

theorem hasSuffix_iff (s suf : List Char) : hasSuffix s suf = true ↔ suf <:+ s :=
  List.isSuffixOf_iff_suffix

/-- a package prefix does not change whether a class name ends with `suf`, unless `suf` is longer than the class name
    and ends with it: two suffixes of one string are comparable -/
theorem hasSuffix_append_congr (p s suf : List Char) (h : hasSuffix s suf = true ∨ hasSuffix suf s = false) :
    hasSuffix (p ++ s) suf = hasSuffix s suf := by
  cases hs : hasSuffix s suf with
  | true => exact (hasSuffix_iff _ _).mpr (((hasSuffix_iff _ _).mp hs).trans (List.suffix_append p s))
  | false =>
    have h2 := h.resolve_left (by simp [hs])
    rw [← Bool.not_eq_true, hasSuffix_iff] at *
    exact fun h => (List.suffix_or_suffix_of_suffix h (List.suffix_append p s)).elim hs h2

/-- **the package prefix is irrelevant**: for every class name that is not a proper suffix of one of the three names -/
theorem selectPartitioner_append (p s : List Char)
    (h : ∀ suf ∈ [nameMurmur3, nameOrdered, nameRandom], hasSuffix s suf = true ∨ hasSuffix suf s = false) :
    selectPartitioner (p ++ s) = selectPartitioner s := by
  have h' := fun suf hm => hasSuffix_append_congr p s suf (h suf hm)
  simp only [selectPartitioner, h' nameMurmur3 (by simp), h' nameOrdered (by simp), h' nameRandom (by simp)]

end Token
