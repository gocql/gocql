import Model.Ring
import Proofs.C16Ring
import Proofs.C16Refresh
/-! consistency of the by-id / by-address indexes (repaired `removeHost`) at three strengths: `RInv` (kept by `remove`, by
`addIfMissing` on a free address, by both loops of refreshRing when the accepted rows have distinct addresses), `Cov` (kept by
additions and harmless removals, `RemOk`), `NoStale` (kept by every operation). `updateStored`: `Proofs/C16Update.lean`.
The histories the property theorems quantify over are defined here with their guards and invariants: ring operations (`ROp`,
`applyOp`; `Guarded` / `RInv_run`, `RemGuarded` / `CInv`, `SInv`) and refreshes (`Report`, `GoodReport`, `runRefreshes`). -/
namespace C16
open Ring

/-- FULL consistency of the by-id and by-address indexes: every host is stored under its own id, is
indexed by its address, and no two hosts share an address -/
structure RInv (r : Ring.Ring) : Prop where
  wf : WF r.byId
  knodup : (keys r.byId).Nodup
  ip : ∀ e ∈ r.byId, lookup r.byIp e.2.addr = some e.1
  uniq : ∀ e1 ∈ r.byId, ∀ e2 ∈ r.byId, e1.2.addr = e2.2.addr → e1.1 = e2.1

/-- WEAK consistency (holds also while two hosts share an address): every address of a host of the
ring is indexed to a host of the ring with that address -/
def Cov (r : Ring.Ring) : Prop :=
  ∀ e ∈ r.byId, ∃ e' ∈ r.byId, e'.2.addr = e.2.addr ∧ lookup r.byIp e.2.addr = some e'.1

/-- no stale by-address entry: every entry maps an address to a host of the ring with that address -/
def NoStale (r : Ring.Ring) : Prop :=
  ∀ a id, lookup r.byIp a = some id → ∃ h, (id, h) ∈ r.byId ∧ h.addr = a

/-- no host of the ring with another id has the address of `h` -/
def AddrFree (r : Ring.Ring) (h : RHost) : Prop := ∀ e ∈ r.byId, e.2.addr = h.addr → e.1 = h.id

instance (r : Ring.Ring) (h : RHost) : Decidable (AddrFree r h) := by unfold AddrFree; infer_instance

theorem RInv_empty : RInv Ring.empty :=
  ⟨by simp [WF, Ring.empty], by simp [keys, Ring.empty], by simp [Ring.empty], by simp [Ring.empty]⟩

theorem RInv.of_ip {r : Ring.Ring} (wf : WF r.byId) (knodup : (keys r.byId).Nodup)
    (ip : ∀ e ∈ r.byId, lookup r.byIp e.2.addr = some e.1) : RInv r :=
  ⟨wf, knodup, ip, fun e1 h1 e2 h2 heq => Option.some.inj ((ip e1 h1).symm.trans (heq ▸ ip e2 h2))⟩

theorem RInv_cov (r : Ring.Ring) (hr : RInv r) : Cov r := fun e he => ⟨e, he, rfl, hr.ip e he⟩

theorem Cov_addIfMissing (r : Ring.Ring) (hc : Cov r) (h : RHost) : Cov (r.addIfMissing h).1 := by
  cases hl : lookup r.byId h.id with
  | some e => rw [addIfMissing_of_some r h e hl]; exact hc
  | none =>
    intro e he
    rw [byIp_add_new r h hl]
    rw [mem_add_new r h hl] at he
    have hnew : (h.id, h) ∈ (r.addIfMissing h).1.byId := (mem_add_new r h hl _).mpr (Or.inl rfl)
    by_cases ha : e.2.addr = h.addr
    · exact ⟨(h.id, h), hnew, ha.symm, by rw [ha]; exact lookup_put_self _ _ _⟩
    · rcases he with rfl | he
      · exact absurd rfl ha
      · obtain ⟨e', he', h1, h2⟩ := hc e he
        exact ⟨e', (mem_add_new r h hl _).mpr (Or.inr he'), h1, by rw [lookup_put_ne _ _ _ _ ha]; exact h2⟩

theorem Cov_remove (r : Ring.Ring) (hc : Cov r) (k : Nat)
    (hK : ∀ e ∈ r.byId, e.1 ≠ k → lookup r.byIp e.2.addr ≠ some k) : Cov (r.remove k).1 := by
  intro e he
  rw [mem_remove] at he
  obtain ⟨e', he', h1, h2⟩ := hc e he.1
  have hne := hK e he.1 he.2
  have hk' : e'.1 ≠ k := fun hk => hne (hk ▸ h2)
  exact ⟨e', (mem_remove r k e').mpr ⟨he', hk'⟩, h1, by rw [byIp_remove_keep r k _ hne]; exact h2⟩

/-! ### `NoStale` holds after EVERY operation -/

theorem NoStale_addIfMissing (r : Ring.Ring) (hs : NoStale r) (h : RHost) : NoStale (r.addIfMissing h).1 := by
  cases hl : lookup r.byId h.id with
  | some e => rw [addIfMissing_of_some r h e hl]; exact hs
  | none =>
    intro a id hlk
    rw [byIp_add_new r h hl] at hlk
    by_cases ha : a = h.addr
    · subst ha
      rw [lookup_put_self] at hlk
      cases hlk
      exact ⟨h, (mem_add_new r h hl _).mpr (Or.inl rfl), rfl⟩
    · rw [lookup_put_ne _ _ _ _ ha] at hlk
      obtain ⟨h', hm, hh⟩ := hs a id hlk
      exact ⟨h', (mem_add_new r h hl _).mpr (Or.inr hm), hh⟩

theorem NoStale_remove (r : Ring.Ring) (hn : (keys r.byId).Nodup) (hs : NoStale r) (k : Nat) : NoStale (r.remove k).1 := by
  intro a id hlk
  have hold := byIp_remove_sub r k a id hlk
  obtain ⟨h', hm, hh⟩ := hs a id hold
  refine ⟨h', (mem_remove r k _).mpr ⟨hm, ?_⟩, hh⟩
  intro hk
  dsimp only at hk
  subst hk
  have hl : lookup r.byId id = some h' := find_key_of_mem hn hm
  subst hh
  exact byIp_remove_self r id h' hl hlk

theorem RInv_addIfMissing (r : Ring.Ring) (hr : RInv r) (h : RHost) (hfree : AddrFree r h) : RInv (r.addIfMissing h).1 := by
  cases hl : lookup r.byId h.id with
  | some e => rw [addIfMissing_of_some r h e hl]; exact hr
  | none =>
    have hnk : ∀ e ∈ r.byId, e.1 ≠ h.id := by
      intro e he hk
      rw [lookup_eq_none] at hl
      exact hl (hk ▸ List.mem_map.mpr ⟨e, he, rfl⟩)
    refine .of_ip (WF_addIfMissing r h hr.wf) (knodup_addIfMissing r hr.knodup h) fun e he => ?_
    rw [byIp_add_new r h hl]
    rcases (mem_add_new r h hl e).mp he with rfl | he
    · exact lookup_put_self _ _ _
    · have hne : e.2.addr ≠ h.addr := fun heq => hnk e he (hfree e he heq)
      rw [lookup_put_ne _ _ _ _ hne]
      exact hr.ip e he

theorem RInv_remove (r : Ring.Ring) (hr : RInv r) (k : Nat) : RInv (r.remove k).1 := by
  refine .of_ip (WF_remove r k hr.wf) (knodup_remove r hr.knodup k) fun e he => ?_
  rw [mem_remove] at he
  have : lookup r.byIp e.2.addr ≠ some k := by rw [hr.ip e he.1]; exact fun h => he.2 (Option.some.inj h)
  rw [byIp_remove_keep r k _ this]
  exact hr.ip e he.1

theorem getHost_of_mem (r : Ring.Ring) (hw : WF r.byId) (hn : (keys r.byId).Nodup) (e : Nat × RHost) (he : e ∈ r.byId) :
    r.getHost e.2.id = some e.2 := by
  unfold Ring.getHost; rw [hw e he]; exact find_key_of_mem hn he

theorem RInv_lookup (r : Ring.Ring) (hr : RInv r) (h : RHost) (hh : h ∈ r.allHosts) :
    r.getHost h.id = some h ∧ r.getHostByIP h.addr = (some h, true) := by
  simp only [Ring.allHosts, List.mem_map] at hh
  obtain ⟨e, he, rfl⟩ := hh
  have h1 : lookup r.byId e.1 = some e.2 := find_key_of_mem hr.knodup he
  refine ⟨getHost_of_mem r hr.wf hr.knodup e he, ?_⟩
  unfold Ring.getHostByIP
  rw [hr.ip e he]
  simp only [h1]

theorem Cov_lookup (r : Ring.Ring) (hw : WF r.byId) (hn : (keys r.byId).Nodup) (hc : Cov r) (h : RHost) (hh : h ∈ r.allHosts) :
    r.getHost h.id = some h ∧
    (∃ h' ∈ r.allHosts, h'.addr = h.addr ∧ r.getHostByIP h.addr = (some h', true)) ∧
    ((∀ h' ∈ r.allHosts, h'.addr = h.addr → h' = h) → r.getHostByIP h.addr = (some h, true)) := by
  simp only [Ring.allHosts, List.mem_map] at hh
  obtain ⟨e, he, rfl⟩ := hh
  obtain ⟨e', he', h1, h2⟩ := hc e he
  have h3 : lookup r.byId e'.1 = some e'.2 := find_key_of_mem hn he'
  have hall : e'.2 ∈ r.allHosts := List.mem_map.mpr ⟨e', he', rfl⟩
  have hget : r.getHostByIP e.2.addr = (some e'.2, true) := by
    unfold Ring.getHostByIP; rw [h2]; simp only [h3]
  refine ⟨getHost_of_mem r hw hn e he, ⟨e'.2, hall, h1, hget⟩, ?_⟩
  intro hal
  rw [hget, hal e'.2 hall h1]

theorem NoStale_lookup (r : Ring.Ring) (hn : (keys r.byId).Nodup) (hs : NoStale r) (a : Nat) (x : Option RHost)
    (hx : r.getHostByIP a = (x, true)) : ∃ h, x = some h ∧ h ∈ r.allHosts ∧ h.addr = a := by
  unfold Ring.getHostByIP at hx
  cases hl : lookup r.byIp a with
  | none => rw [hl] at hx; simp at hx
  | some id =>
    rw [hl] at hx
    dsimp only at hx
    obtain ⟨h, hm, ha⟩ := hs a id hl
    have : lookup r.byId id = some h := find_key_of_mem hn hm
    rw [this] at hx
    exact ⟨h, (Prod.mk.inj hx).1.symm, List.mem_map.mpr ⟨(id, h), hm, rfl⟩, ha⟩

inductive ROp | addIfMissing (h : RHost) | addOrUpdate (h : RHost) | remove (id : Nat)

def applyOp (r : Ring.Ring) : ROp → Ring.Ring
  | .addIfMissing h => (r.addIfMissing h).1
  | .addOrUpdate h => (r.addOrUpdate h).1
  | .remove id => (r.remove id).1

theorem addOrUpdate_ring (r : Ring.Ring) (h : RHost) : (r.addOrUpdate h).1 = (r.addIfMissing h).1 := rfl

/-- along the history, no host is added while a host with another id has its address -/
def Guarded : Ring.Ring → List ROp → Prop
  | _, [] => True
  | r, .addIfMissing h :: t => AddrFree r h ∧ Guarded (r.addIfMissing h).1 t
  | r, .addOrUpdate h :: t => AddrFree r h ∧ Guarded (r.addOrUpdate h).1 t
  | r, .remove id :: t => Guarded (r.remove id).1 t

theorem RInv_run (r : Ring.Ring) (hr : RInv r) (ops : List ROp) (hg : Guarded r ops) : RInv (ops.foldl applyOp r) := by
  refine foldl_guarded applyOp Guarded RInv (fun r o t hg hr => ?_) ops r hg hr
  cases o with
  | addIfMissing h => exact ⟨RInv_addIfMissing r hr h hg.1, hg.2⟩
  | addOrUpdate h => exact ⟨RInv_addIfMissing r hr h hg.1, hg.2⟩
  | remove id => exact ⟨RInv_remove r hr id, hg⟩

/-- the removal of host id `k` is harmless for the by-address index: `k` is unknown, or its host is
the only host of the ring on its address, or the by-address entry of its address maps to another id -/
def RemOk (r : Ring.Ring) (k : Nat) : Prop :=
  match lookup r.byId k with
  | none => True
  | some hk => (∀ e ∈ r.byId, e.2.addr = hk.addr → e.1 = k) ∨ lookup r.byIp hk.addr ≠ some k

instance (r : Ring.Ring) (k : Nat) : Decidable (RemOk r k) := by
  unfold RemOk; split <;> infer_instance

/-- along the history every removal is harmless (`RemOk`); additions are NOT restricted -/
def RemGuarded : Ring.Ring → List ROp → Prop
  | _, [] => True
  | r, .addIfMissing h :: t => RemGuarded (r.addIfMissing h).1 t
  | r, .addOrUpdate h :: t => RemGuarded (r.addOrUpdate h).1 t
  | r, .remove id :: t => RemOk r id ∧ RemGuarded (r.remove id).1 t

/-- the invariant of `RemGuarded` histories -/
structure CInv (r : Ring.Ring) : Prop where
  wf : WF r.byId
  knodup : (keys r.byId).Nodup
  cov : Cov r

theorem CInv_remove (r : Ring.Ring) (hr : CInv r) (k : Nat) (hok : RemOk r k) : CInv (r.remove k).1 := by
  refine ⟨WF_remove r k hr.wf, knodup_remove r hr.knodup k, ?_⟩
  unfold RemOk at hok
  cases hl : lookup r.byId k with
  | none => rw [remove_of_none r k hl]; exact hr.cov
  | some hk =>
    rw [hl] at hok
    dsimp only at hok
    apply Cov_remove r hr.cov k
    intro e he hne hidx
    -- the entry of e's address maps to a host with e's address: were it `k`, that host would be the removed one
    obtain ⟨e', he', h1, h2⟩ := hr.cov e he
    rw [h2] at hidx
    have := eq_of_nodup_map hr.knodup he' (find_key_mem hl) (Option.some.inj hidx)
    subst this
    rcases hok with hal | hni
    · exact hne (hal e he h1.symm)
    · exact hni (h1 ▸ h2)

theorem CInv_addIfMissing (r : Ring.Ring) (hr : CInv r) (h : RHost) : CInv (r.addIfMissing h).1 :=
  ⟨WF_addIfMissing r h hr.wf, knodup_addIfMissing r hr.knodup h, Cov_addIfMissing r hr.cov h⟩

theorem CInv_run (r : Ring.Ring) (hr : CInv r) (ops : List ROp) (hg : RemGuarded r ops) : CInv (ops.foldl applyOp r) := by
  refine foldl_guarded applyOp RemGuarded CInv (fun r o t hg hr => ?_) ops r hg hr
  cases o with
  | addIfMissing h => exact ⟨CInv_addIfMissing r hr h, hg⟩
  | addOrUpdate h => exact ⟨CInv_addIfMissing r hr h, hg⟩
  | remove id => exact ⟨CInv_remove r hr id hg.1, hg.2⟩

/-- the invariant of ALL histories -/
structure SInv (r : Ring.Ring) : Prop where
  wf : WF r.byId
  knodup : (keys r.byId).Nodup
  ns : NoStale r

theorem SInv_empty : SInv Ring.empty := ⟨by simp [WF, Ring.empty], by simp [keys, Ring.empty], by simp [NoStale, Ring.empty, lookup]⟩

theorem SInv_addIfMissing (r : Ring.Ring) (hr : SInv r) (h : RHost) : SInv (r.addIfMissing h).1 :=
  ⟨WF_addIfMissing r h hr.wf, knodup_addIfMissing r hr.knodup h, NoStale_addIfMissing r hr.ns h⟩

theorem SInv_remove (r : Ring.Ring) (hr : SInv r) (k : Nat) : SInv (r.remove k).1 :=
  ⟨WF_remove r k hr.wf, knodup_remove r hr.knodup k, NoStale_remove r hr.knodup hr.ns k⟩

theorem byIP_current (r : Ring.Ring) (hs : SInv r) (a : Nat) (h : RHost) (hg : r.getHostByIP a = (some h, true)) :
    lookup r.byId h.id = some h ∧ h.addr = a := by
  obtain ⟨x, e, m, had⟩ := NoStale_lookup r hs.knodup hs.ns a _ hg
  cases e
  obtain ⟨p, hp, rfl⟩ := List.mem_map.mp m
  exact ⟨getHost_of_mem r hs.wf hs.knodup p hp, had⟩

theorem getHostByIP_ne_nil (r : Ring.Ring) (hs : SInv r) (a : Nat) : r.getHostByIP a ≠ (none, true) := by
  intro hg
  obtain ⟨_, hx, _⟩ := NoStale_lookup r hs.knodup hs.ns a none hg
  cases hx

theorem SInv_refresh (r : Ring.Ring) (hr : SInv r) (filter : RHost → Bool) (reported : List RHost) :
    SInv (r.refresh filter reported).1 :=
  refresh_preserves SInv (fun r h hp => SInv_addIfMissing r hp h) (fun r k hp => SInv_remove r hp k) r hr filter reported

/-! ### the by-address index along refreshRing

Pass 1 only removes hosts, which keeps full consistency (`RInv_remove`). Every host that is left has the
node address of an accepted reported row of its id; pass 2 adds accepted rows whose id is missing, so a
host added never meets a host with another id on its address as long as the accepted rows have pairwise
distinct node addresses: full consistency (`RInv`) is an invariant of both loops. (Before the repair hosts
were added while the previous owner of their address was still in the ring.) -/

def Matched (acc : List RHost) (r : Ring.Ring) : Prop := ∀ e ∈ r.byId, ∃ h ∈ acc, h.id = e.1 ∧ h.addr = e.2.addr

theorem addAll_RInv (acc : List RHost) (hna : (acc.map (·.addr)).Nodup) (r : Ring.Ring) (hr : RInv r) (hm : Matched acc r) :
    RInv (acc.foldl (fun r h => (r.addIfMissing h).1) r) ∧ Matched acc (acc.foldl (fun r h => (r.addIfMissing h).1) r) := by
  refine acc.foldlRecOn (motive := fun r => RInv r ∧ Matched acc r) _ ⟨hr, hm⟩ fun r ⟨hr, hm⟩ h hh => ⟨?_, ?_⟩
  · -- a host of the ring on the address of `h` matches a row with that address: the row `h` itself
    apply RInv_addIfMissing r hr h
    intro e he heq
    obtain ⟨h', hh', hid, had⟩ := hm e he
    have : h' = h := eq_of_nodup_map hna hh' hh (had.trans heq)
    rw [← hid, this]
  · cases hlk : lookup r.byId h.id with
    | some e0 => rw [addIfMissing_of_some r h e0 hlk]; exact hm
    | none =>
      intro e he
      rcases (mem_add_new r h hlk e).mp he with rfl | he
      · exact ⟨h, hh, rfl, rfl⟩
      · exact hm e he

theorem refresh_RInv (r : Ring.Ring) (hr : RInv r) (filter : RHost → Bool) (reported : List RHost)
    (hna : ((reported.filter (fun h => !filter h)).map (·.addr)).Nodup) : RInv (r.refresh filter reported).1 := by
  rw [refresh_ring]
  have h1 : RInv (removeAll r (goneOf r filter reported)) := removeAll_preserves RInv (fun r k h => RInv_remove r h k) _ r hr
  have h2 : Matched (reported.filter (fun h => !filter h)) (removeAll r (goneOf r filter reported)) := by
    intro e he
    obtain ⟨y, hy, hid, _, had⟩ := pass1_matched r hr.wf hr.knodup filter reported e he
    exact ⟨y, hy, hid, had⟩
  exact (addAll_RInv _ hna _ h1 h2).1

/-- a cluster report as the diff loop sees it: the host filter and the reported hosts (local host + valid peers) -/
abbrev Report := (RHost → Bool) × List RHost

/-- what every report of a real cluster satisfies: the accepted (not filtered) hosts have pairwise distinct node
addresses (host ids may repeat: of a host id reported twice the first row counts) -/
def GoodReport (x : Report) : Prop := ((x.2.filter (fun h => !x.1 h)).map (·.addr)).Nodup

instance (x : Report) : Decidable (GoodReport x) := by unfold GoodReport; infer_instance

def runRefreshes (r : Ring.Ring) (hist : List Report) : Ring.Ring :=
  hist.foldl (fun r x => (r.refresh x.1 x.2).1) r

theorem RInv_runRefreshes (r0 : Ring.Ring) (h0 : RInv r0) (hist : List Report) (hg : ∀ x ∈ hist, GoodReport x) :
    RInv (runRefreshes r0 hist) :=
  hist.foldlRecOn (motive := RInv) _ h0 fun r hr x hx => refresh_RInv r hr x.1 x.2 (hg x hx)

end C16
