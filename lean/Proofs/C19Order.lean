import Proofs.C19Gen
/-! Cassandra's TimeUUIDType order (`Spec.cassLe`) is the lexicographic order of a key: the timestamp, then the low
    8 bytes as signed values (`cassLe_iff_key`); so it is reflexive, total, transitive, and antisymmetric up to the
    key. On 16-byte values the low bytes compare as one balanced base-256 number (`sVal`, `cassLe_iff_sVal`), of
    which the tails of Min/MaxTimeUUID are the extreme values an RFC 4122 value can carry (`tail_bounds`): the bounds
    are EXACT range delimiters (`bounds_iff`). -/
namespace Uuid

theorem signed_range (b : UInt8) : -128 ≤ Spec.signed b ∧ Spec.signed b ≤ 127 := by
  have := b.toNat_lt; unfold Spec.signed; split <;> omega

theorem sLexLe_cons (a b : UInt8) (as bs : List UInt8) :
    Spec.sLexLe (a :: as) (b :: bs) = true ↔
      Spec.signed a < Spec.signed b ∨ (Spec.signed a = Spec.signed b ∧ Spec.sLexLe as bs = true) := by
  simp only [Spec.sLexLe]
  by_cases h1 : Spec.signed a < Spec.signed b
  · simp [h1]
  · by_cases h2 : Spec.signed b < Spec.signed a
    · simp [h1, h2]; omega
    · have : Spec.signed a = Spec.signed b := by omega
      simp [this]

theorem min_tail (t : Nat) : (timeUUIDWith t minClock minNode).drop 8 = List.replicate 8 0x80 := by
  show [(UInt8.ofNat (minClock >>> 8) &&& 0x3F) ||| 0x80, UInt8.ofNat minClock] ++ nodeBytes minNode = _
  decide

theorem max_tail (t : Nat) : (timeUUIDWith t maxClock maxNode).drop 8 = 0xbf :: List.replicate 7 0x7f := by
  show [(UInt8.ofNat (maxClock >>> 8) &&& 0x3F) ||| 0x80, UInt8.ofNat maxClock] ++ nodeBytes maxNode = _
  decide

theorem signed_inj (a b : UInt8) (h : Spec.signed a = Spec.signed b) : a = b := by
  have ha := a.toNat_lt; have hb := b.toNat_lt
  apply UInt8.toNat_inj.mp
  unfold Spec.signed at h
  split at h <;> split at h <;> omega

/-- `sLexLe` is the library's lexicographic order on the signed values of the bytes -/
theorem sLexLe_iff_map : ∀ a b : List UInt8, Spec.sLexLe a b = true ↔ a.map Spec.signed ≤ b.map Spec.signed
  | [], _ => by simp [Spec.sLexLe]
  | _ :: _, [] => by simp [Spec.sLexLe]
  | a :: as, b :: bs => by
    rw [sLexLe_cons, sLexLe_iff_map as bs, List.map_cons, List.map_cons, List.cons_le_cons_iff]

/-- what Cassandra's comparison looks at, as one list: the timestamp, then the low 8 bytes as signed values -/
def cassKey (u : List UInt8) : List Int := (Spec.rfcTimestamp u : Int) :: (u.drop 8).map Spec.signed

theorem cassLe_iff_key (u v : List UInt8) : Spec.cassLe u v = true ↔ cassKey u ≤ cassKey v := by
  rw [cassKey, cassKey, List.cons_le_cons_iff, ← sLexLe_iff_map, Int.ofNat_lt, Int.natCast_inj]
  unfold Spec.cassLe
  by_cases h1 : Spec.rfcTimestamp u < Spec.rfcTimestamp v
  · simp [h1]
  · by_cases h2 : Spec.rfcTimestamp v < Spec.rfcTimestamp u
    · simp [h1, h2]; omega
    · simp [h1, h2]; omega

theorem cassLe_of_ts_lt (u v : List UInt8) (h : Spec.rfcTimestamp u < Spec.rfcTimestamp v) :
    Spec.cassLe u v = true ∧ Spec.cassLe v u = false := by
  rw [← Bool.not_eq_true, cassLe_iff_key, cassLe_iff_key, cassKey, cassKey, List.cons_le_cons_iff, List.cons_le_cons_iff]
  omega

/-- the value of a list of signed bytes read as base-256 digits -/
def sVal : List UInt8 → Int
  | [] => 0
  | b :: bs => Spec.signed b * 256 ^ bs.length + sVal bs

theorem sVal_bound : ∀ l : List UInt8, -(128 * ((256 : Int) ^ l.length - 1)) ≤ 255 * sVal l ∧
    255 * sVal l ≤ 127 * ((256 : Int) ^ l.length - 1)
  | [] => by simp [sVal]
  | b :: bs => by
    have ih := sVal_bound bs
    obtain ⟨h1, h2⟩ := signed_range b
    have hp : (0 : Int) < 256 ^ bs.length := Int.pow_pos (by decide)
    simp only [sVal, List.length_cons, Int.pow_succ]
    generalize (256 : Int) ^ bs.length = P at *
    have m1 : -128 * P ≤ Spec.signed b * P := Int.mul_le_mul_of_nonneg_right h1 (Int.le_of_lt hp)
    have m2 : Spec.signed b * P ≤ 127 * P := Int.mul_le_mul_of_nonneg_right h2 (Int.le_of_lt hp)
    generalize Spec.signed b * P = X at *
    omega

theorem sVal_cons_lt {a b : UInt8} {as bs : List UInt8} (hl : as.length = bs.length)
    (h : Spec.signed a < Spec.signed b) : sVal (a :: as) < sVal (b :: bs) := by
  have ba := sVal_bound as
  have bb := sVal_bound bs
  have hp : (0 : Int) < 256 ^ bs.length := Int.pow_pos (by decide)
  have m : (Spec.signed a + 1) * 256 ^ bs.length ≤ Spec.signed b * 256 ^ bs.length :=
    Int.mul_le_mul_of_nonneg_right (by omega) (Int.le_of_lt hp)
  simp only [sVal, hl]
  rw [hl] at ba
  rw [Int.add_mul] at m
  generalize (256 : Int) ^ bs.length = P at *
  generalize Spec.signed a * P = X at *
  generalize Spec.signed b * P = Y at *
  omega

theorem sLexLe_iff_sVal : ∀ a b : List UInt8, a.length = b.length → (Spec.sLexLe a b = true ↔ sVal a ≤ sVal b)
  | [], [], _ => by simp [Spec.sLexLe, sVal]
  | [], _ :: _, h => by simp at h
  | _ :: _, [], h => by simp at h
  | a :: as, b :: bs, h => by
    have hl : as.length = bs.length := by simpa using h
    rw [sLexLe_cons, sLexLe_iff_sVal as bs hl]
    rcases Int.lt_trichotomy (Spec.signed a) (Spec.signed b) with h1 | h1 | h1
    · exact ⟨fun _ => Int.le_of_lt (sVal_cons_lt hl h1), fun _ => Or.inl h1⟩
    · simp only [sVal, hl, h1, Int.lt_irrefl, false_or, true_and]
      exact (Int.add_le_add_iff_left _).symm
    · have := sVal_cons_lt hl.symm h1
      exact ⟨fun h => by rcases h with h | ⟨h, _⟩ <;> omega, fun h => by omega⟩

theorem cassLe_iff_sVal (u v : List UInt8) (hu : u.length = 16) (hv : v.length = 16) :
    Spec.cassLe u v = true ↔ Spec.rfcTimestamp u < Spec.rfcTimestamp v ∨
      (Spec.rfcTimestamp u = Spec.rfcTimestamp v ∧ sVal (u.drop 8) ≤ sVal (v.drop 8)) := by
  rw [cassLe_iff_key, cassKey, cassKey, List.cons_le_cons_iff, ← sLexLe_iff_map,
    sLexLe_iff_sVal _ _ (by simp [hu, hv]), Int.ofNat_lt, Int.natCast_inj]

/-- the low 8 bytes of `MinTimeUUID` / `MaxTimeUUID` are the least / greatest balanced values an RFC 4122 value can
    carry there: byte 8 is at most 0xbf = -65 (variant `10`), the other seven are arbitrary -/
theorem tail_bounds (u : List UInt8) (hl : u.length = 16) (hvar : variant u = 2) (t t' : Nat) :
    sVal ((timeUUIDWith t minClock minNode).drop 8) ≤ sVal (u.drop 8) ∧
    sVal (u.drop 8) ≤ sVal ((timeUUIDWith t' maxClock maxNode).drop 8) := by
  rw [min_tail, max_tail]
  obtain ⟨b0, b1, b2, b3, b4, b5, b6, b7, b8, b9, b10, b11, b12, b13, b14, b15, rfl⟩ := list16 u hl
  have hb : 128 ≤ b8.toNat ∧ b8.toNat < 192 := (variant_ietf_iff_byte b8).mp hvar
  have h8 : Spec.signed b8 ≤ -65 := by unfold Spec.signed; split <;> omega
  have hlo := sVal_bound [b8, b9, b10, b11, b12, b13, b14, b15]
  have hhi := sVal_bound [b9, b10, b11, b12, b13, b14, b15]
  -- `(256^n - 1) / 255` is the number 0x0101…01 of n digits 1: all digits -128, and -65 followed by seven 127
  have e1 : sVal (List.replicate 8 0x80) = -128 * ((256 ^ 8 - 1) / 255) := by decide +kernel
  have e2 : sVal (0xbf :: List.replicate 7 0x7f) = -65 * 256 ^ 7 + 127 * ((256 ^ 7 - 1) / 255) := by decide +kernel
  show sVal (List.replicate 8 0x80) ≤ sVal [b8, b9, b10, b11, b12, b13, b14, b15] ∧
    Spec.signed b8 * 256 ^ 7 + sVal [b9, b10, b11, b12, b13, b14, b15] ≤ sVal (0xbf :: List.replicate 7 0x7f)
  rw [e1, e2]
  simp only [List.length_cons, List.length_nil] at hlo hhi
  omega

/-- against the bounds of a timestamp only the timestamp of an RFC 4122 version-1 value counts -/
theorem bounds_iff (t : Nat) (u : List UInt8) (hl : u.length = 16) (hv : version u = 1) (hvar : variant u = 2) :
    (Spec.cassLe (timeUUIDWith t minClock minNode) u = true ↔ t % 2 ^ 60 ≤ timestamp u) ∧
    (Spec.cassLe u (timeUUIDWith t maxClock maxNode) = true ↔ timestamp u ≤ t % 2 ^ 60) := by
  have := tail_bounds u hl hvar t t
  rw [cassLe_iff_sVal _ _ (with_length ..) hl, cassLe_iff_sVal _ _ hl (with_length ..),
    rfcTimestamp_with_mod, rfcTimestamp_with_mod, timestamp_eq_rfc u hl hv]
  omega

theorem rfcTs_min (a : Int × Nat) : Spec.rfcTimestamp (minTimeUUID a.1 a.2) = tick a :=
  rfcTimestamp_with_mod ..

theorem rfcTs_max (a : Int × Nat) : Spec.rfcTimestamp (maxTimeUUID a.1 a.2) = tick a :=
  rfcTimestamp_with_mod ..

/-! the four readings of `bounds_iff` at `minTimeUUID` / `maxTimeUUID`: these are `timeUUIDWith` of the reading's 64-bit
    pattern, whose residue modulo 2^60 is `tick a` by definition -/

theorem min_le_iff (a : Int × Nat) (u : List UInt8) (hl : u.length = 16) (hv : version u = 1) (hvar : variant u = 2) :
    Spec.cassLe (minTimeUUID a.1 a.2) u = true ↔ tick a ≤ timestamp u :=
  (bounds_iff _ u hl hv hvar).1

theorem le_max_iff (b : Int × Nat) (u : List UInt8) (hl : u.length = 16) (hv : version u = 1) (hvar : variant u = 2) :
    Spec.cassLe u (maxTimeUUID b.1 b.2) = true ↔ timestamp u ≤ tick b :=
  (bounds_iff _ u hl hv hvar).2

theorem lt_min_iff (b : Int × Nat) (u : List UInt8) (hl : u.length = 16) (hv : version u = 1) (hvar : variant u = 2) :
    Spec.cassLe (minTimeUUID b.1 b.2) u = false ↔ timestamp u < tick b := by
  rw [← Bool.not_eq_true, min_le_iff b u hl hv hvar, Nat.not_le]

theorem max_lt_iff (a : Int × Nat) (u : List UInt8) (hl : u.length = 16) (hv : version u = 1) (hvar : variant u = 2) :
    Spec.cassLe u (maxTimeUUID a.1 a.2) = false ↔ tick a < timestamp u := by
  rw [← Bool.not_eq_true, le_max_iff a u hl hv hvar, Nat.not_le]

end Uuid
