import Proofs.C07Refine
/-!
  The inductive invariant `Inv` of the machine of `Model/Writer.lean`, one part per group of state components:
  `Batch` (queue, batch, flusher flags, semaphore holder; `Proofs/C07Batch.lean`), `Closing` (what the control states outside
  the Write promise about results and about `closing`, and the closing flags), `Socket` (the ledger of the wire, mutual
  exclusion, the frame being written is the newest chunk). Only `Socket` needs the semaphore (`serialised`), and it is
  proved where it is plain: on the semaphore writer under the four actions that touch the socket (`socket_step`); every
  machine, either writer, inherits it through the refinement to the semaphore writer (`Sim`, `Inv.sock`): `Inv` holds a
  state of the semaphore writer as a witness, and `inv_step` moves the witness by `sim_step`.
  Also here: the monitor's check accepts every reachable wire (`scan_step`), and the step lemmas of the shutdown leg
  (`idle_step`, `gone_step`).
-/
namespace Writer

/-- what a control state outside the Write promises: a result `ok` means the whole frame; a caller that failed with bytes
    out, or is the closer, has begun closeWithError -/
def Pc.Res (cfg : Cfg) (closing : Bool) (w : Nat) : Pc → Prop
  | .wrote n ok => ok = true → n = cfg.lens w
  | .done n ok => (ok = true → n = cfg.lens w) ∧ (ok = false → 0 < n → closing = true)
  | .closer _ => closing = true
  | _ => True

/-- `closing` only grows -/
theorem Pc.Res.mono {cfg : Cfg} {cl cl' : Bool} {w : Nat} {p : Pc} (h : p.Res cfg cl w) (hc : cl = true → cl' = true) :
    p.Res cfg cl' w := by
  cases p with
  | done n ok => exact ⟨h.1, fun e hn => hc (h.2 e hn)⟩
  | closer n => exact hc h
  | _ => exact h

/-- a frame with some but not all of its bytes out: its Write is in progress, or the writer that was cut is on its way to
    closeWithError, or the connection is closing -/
theorem Pc.Res.torn {cfg : Cfg} {cl : Bool} {w : Nat} {p : Pc} (h : p.Res cfg cl w) (hpos : 0 < p.sent)
    (hlt : p.sent < cfg.lens w) : cl = true ∨ p = .inWrite p.sent ∨ p = .wrote p.sent false ∨ p = .failing p.sent := by
  cases p with
  | inWrite off => exact .inr (.inl rfl)
  | failing n => exact .inr (.inr (.inr rfl))
  | closer n => exact .inl h
  | wrote n ok =>
    cases ok
    · exact .inr (.inr (.inl rfl))
    · exact absurd (h rfl) (Nat.ne_of_lt hlt)
  | done n ok =>
    cases ok
    · exact .inl (h.2 rfl hpos)
    · exact absurd (h.1 rfl) (Nat.ne_of_lt hlt)
  | _ => exact absurd hpos (Nat.lt_irrefl 0)

structure Closing (cfg : Cfg) (pc : Nat → Pc) (closing closed ext : Bool) : Prop where
  res : ∀ w, (pc w).Res cfg closing w
  closerEx : closing = true → closed = true ∨ ext = true ∨ ∃ w n, pc w = .closer n
  closedClosing : closed = true → closing = true

theorem Closing.at {cfg : Cfg} {pc : Nat → Pc} {cl cd ex : Bool} {w : Nat} {p : Pc} (h : Closing cfg pc cl cd ex)
    (hw : pc w = p) : p.Res cfg cl w :=
  hw ▸ h.res w

theorem closerEx_move {pc : Nat → Pc} {cl cd ex : Bool} {w : Nat} {p v : Pc}
    (h : cl = true → cd = true ∨ ex = true ∨ ∃ x n, pc x = .closer n) (hw : pc w = p) (hc : ∀ n, p ≠ .closer n) :
    cl = true → cd = true ∨ ex = true ∨ ∃ x n, setPc pc w v x = .closer n :=
  fun hcl => (h hcl).imp_right fun h => h.imp_right fun ⟨x, n, hx⟩ => ⟨x, n, setPc_keep hx hw (hc n)⟩

theorem Closing.move {cfg : Cfg} {pc : Nat → Pc} {cl cd ex : Bool} {w : Nat} {p v : Pc} (h : Closing cfg pc cl cd ex)
    (hw : pc w = p) (hv : v.Res cfg cl w) (hc : ∀ n, p ≠ .closer n) : Closing cfg (setPc pc w v) cl cd ex :=
  ⟨forall_update' (P := fun x (p : Pc) => p.Res cfg cl x) hv fun x _ => h.res x, closerEx_move h.closerEx hw hc, h.closedClosing⟩

theorem closing_step (cfg : Cfg) (s s' : St) (a : Act) (hb : Batch cfg s) (h : Closing cfg s.pc s.closing s.closed s.ext)
    (hs : step cfg s a = some s') : Closing cfg s'.pc s'.closing s'.closed s'.ext := by
  cases Step.of_step hs with
  | submit hw | cancel hw | retFailed hw | piece hw _ => exact h.move hw trivial nofun
  | enqueue hg => exact h.move hg.2.1 trivial nofun
  | enter hg => exact hg.2.elim (fun h1 => h.move h1.2 trivial nofun) fun h2 => h.move h2.2.1 trivial nofun
  | quit hg => exact hg.elim (fun h1 => h.move h1.2 nofun nofun) fun h2 => h.move h2.2.1 nofun nofun
  | retCancelled hw => exact h.move hw ⟨nofun, fun _ h0 => absurd h0 (Nat.lt_irrefl 0)⟩ nofun
  | retOk hw => exact h.move hw ⟨fun _ => h.at hw rfl, nofun⟩ nofun
  | tick _ | flusherQuitFlush _ _ | flusherQuit _ _ | cancelCtx _ => exact h
  | shutdown => exact ⟨fun w => (h.res w).mono fun _ => rfl, fun _ => .inl rfl, fun _ => rfl⟩
  | shutQuit _ => exact ⟨fun w => (h.res w).mono fun _ => rfl, fun _ => .inr (.inl rfl), fun _ => rfl⟩
  | @close w n hw =>
    refine ⟨forall_update' (P := fun x (p : Pc) => p.Res cfg true x) (by split; exact ⟨nofun, fun _ _ => rfl⟩; exact rfl)
      fun x _ => (h.res x).mono fun _ => rfl, fun _ => ?_, fun _ => rfl⟩
    -- the first caller becomes the closer; a later one finds the closer (or the `Close()` from outside) there
    by_cases hc : s.closing = true
    · exact closerEx_move h.closerEx hw nofun hc
    · exact .inr (.inr ⟨w, n, setPc_same.trans (if_neg hc)⟩)
  | closeFinish hw _ =>
    exact ⟨forall_update' (P := fun x (p : Pc) => p.Res cfg s.closing x) ⟨nofun, fun _ _ => h.at hw⟩ fun x _ => h.res x,
      fun _ => .inl rfl, fun _ => h.at hw⟩
  | @endWrite w ok off hw hg =>
    -- the result of the Write itself: success, also by byte count, means the whole frame
    have hv : (Pc.wrote off (ok || (cfg.coalesce && off == cfg.lens w))).Res cfg s.closing w := fun hok => by
      cases ok
      · exact (Nat.beq_eq_true_eq _ _).mp (Bool.and_eq_true_iff.mp hok).2
      · exact hg rfl
    dsimp only
    split
    · -- the rest of the batch, all `queued`, is failed with 0 bytes
      have out : ∀ {x u}, s.pc x = u → u ≠ .queued → setMany s.pc s.todo (.wrote 0 false) x = u := fun hx hu =>
        (setMany_not_mem fun hm => hu (hx.symm.trans ((hb.queued _).mpr (.inr hm)))).trans hx
      refine Closing.move ⟨fun x => ?_, fun hc => (h.closerEx hc).imp_right fun h => h.imp_right
        fun ⟨x, n, hx⟩ => ⟨x, n, out hx nofun⟩, h.closedClosing⟩ (out hw nofun) hv nofun
      by_cases hm : x ∈ s.todo
      · rw [setMany_mem hm]; exact nofun
      · rw [setMany_not_mem hm]; exact h.res x
    · exact h.move hw hv nofun

/-- accounting (`Acct`), mutual exclusion (whoever is inside the socket Write holds the semaphore / is the flusher's buffer),
    and the frame being written is the LAST thing on the wire -/
structure Socket (lens : Nat → Nat) (wire : List Piece) (pc : Nat → Pc) (owner : Option Nat) : Prop where
  acc : Acct lens wire pc
  excl : ∀ w off, pc w = .inWrite off → owner = some w ∧ (0 < off → (glue wire).head? = some ⟨w, 0, off⟩)

theorem excl_setPc {pc : Nat → Pc} {w : Nat} {v : Pc} {Q : Nat → Nat → Prop}
    (hv : ∀ off, v = .inWrite off → Q w off) (hfr : ∀ x, x ≠ w → ∀ off, pc x = .inWrite off → Q x off) :
    ∀ x off, setPc pc w v x = .inWrite off → Q x off :=
  fun x => forall_update' (P := fun x (p : Pc) => ∀ off, p = .inWrite off → Q x off) hv hfr x

theorem socket_step (cfg : Cfg) (hser : cfg.serialised = true) (hc : cfg.coalesce = false) (d d' : St) (a : Act)
    (ha : a.isWire = true) (h : Socket cfg.lens d.wire d.pc d.owner) (hs : step cfg d a = some d') :
    Socket cfg.lens d'.wire d'.pc d'.owner := by
  -- a writer other than the semaphore holder is not inside the Write
  have alone : ∀ {w x off : Nat}, (d.owner = none ∨ d.owner = some w) → x ≠ w → d.pc x = .inWrite off → False :=
    fun ho e hx => by
      have := (h.excl _ _ hx).1
      rcases ho with ho | ho <;> rw [ho] at this <;> cases this
      exact e rfl
  cases Step.of_step hs with
  | submit hw => exact ⟨h.acc.congr (sent_setPc _ _ _ (hw ▸ rfl)), excl_setPc nofun fun x _ => h.excl x⟩
  | @enter w hg =>
    have hw : d.pc w = .waiting := hg.2.elim (·.2) fun h2 => absurd h2.1 (ne_true_of_eq_false hc)
    exact ⟨h.acc.congr (sent_setPc _ _ _ (hw ▸ rfl)),
      excl_setPc (fun off e => by cases e; exact ⟨rfl, nofun⟩) fun x e off hx => (alone (.inl (hg.1 hser)) e hx).elim⟩
  | @piece w k off hw hg =>
    obtain ⟨hacc', hhead⟩ := h.acc.piece hw (h.excl w off hw).2 hg.1 hg.2.1
    exact ⟨hacc', excl_setPc (fun o e => by cases e; exact ⟨(h.excl w off hw).1, fun _ => hhead⟩)
      fun x e o hx => (alone (.inr (h.excl w off hw).1) e hx).elim⟩
  | @endWrite w ok off hw hg =>
    simp only [hc, Bool.false_and, Bool.false_eq_true, if_false, Bool.or_false]
    exact ⟨h.acc.congr (sent_setPc _ _ _ (hw ▸ rfl)),
      excl_setPc nofun fun x e o hx => (alone (.inr (h.excl w off hw).1) e hx).elim⟩
  | _ => cases ha

structure Inv (cfg : Cfg) (s : St) : Prop where
  batch : Batch cfg s
  closing : Closing cfg s.pc s.closing s.closed s.ext
  /-- wire, semaphore holder and positions are those of a state of the semaphore writer (`Sim`) that has the socket invariant -/
  sim : ∃ d, Sim s d ∧ Socket cfg.lens d.wire d.pc d.owner

theorem Inv.sock {cfg : Cfg} {s : St} (h : Inv cfg s) : Socket cfg.lens s.wire s.pc s.owner :=
  have ⟨d, sim, hd⟩ := h.sim
  ⟨sim.wire ▸ hd.acc.congr fun x => (sim.pcs x).sent.symm, fun w off hw => by
    rw [← sim.owner, ← sim.wire]
    exact hd.excl w off (sim.at hw)⟩

theorem Inv.mutex {cfg : Cfg} {s : St} (h : Inv cfg s) (w off : Nat) (hw : s.pc w = .inWrite off) : s.owner = some w :=
  (h.sock.excl w off hw).1

theorem inv_init (cfg : Cfg) : Inv cfg init :=
  ⟨batch_init cfg, ⟨fun _ => trivial, nofun, nofun⟩, init, sim_init, by constructor <;> simp [init, glue, Pc.sent], nofun⟩

theorem inv_step (cfg : Cfg) (hser : cfg.serialised = true) (s s' : St) (a : Act) (h : Inv cfg s)
    (hs : step cfg s a = some s') : Inv cfg s' :=
  have ⟨d, sim, hd⟩ := h.sim
  have ⟨d', hr, sim'⟩ := sim_step cfg s s' d a h.batch sim hs
  ⟨batch_step cfg s s' a h.batch hs, closing_step cfg s s' a h.batch h.closing hs, d', sim',
   (isRun _).inv_of (A := fun a => a.isWire = true) (socket_step cfg.direct hser rfl)
     (fun _ hb => (List.mem_filter.mp hb).2) hd hr⟩

theorem inv_reach (cfg : Cfg) (hser : cfg.serialised = true) {as : List Act} {s : St} (h : run cfg init as = some s) :
    Inv cfg s :=
  (isRun cfg).inv (inv_step cfg hser) (inv_init cfg) h

/-- the online check goes on accepting: the wire stays framed (`Acct.framed`) and `scan` checks just that, piece by piece -/
theorem scan_step (cfg : Cfg) (hser : cfg.serialised = true) {s s' : St} {a : Act} (inv : Inv cfg s)
    (hsc : scan cfg.lens s.wire = some (glue s.wire)) (hs : step cfg s a = some s') :
    scan cfg.lens s'.wire = some (glue s'.wire) := by
  rcases step_wire hs with hw | ⟨w, off, k, _, _, hw⟩
  · rw [hw]; exact hsc
  · have hf := (inv_step cfg hser s s' a inv hs).sock.acc.framed
    rw [hw] at hf ⊢
    unfold scan at hsc ⊢
    rw [scanFrom_snoc, hsc]
    simp only [← glue_snoc]
    simp [hf]

/-! ### the shutdown leg (`quit` closes = `c.cancel()`, which precedes `c.close()`)

`cfg.flushOnQuit = false` is conn.go as it is (the flusher's quit branch tells every queued writer `(0, io.EOF)`). -/

/-- from an idle state (no Write and no batch in progress), an action that does not "take the next one" leaves the wire
    as it is and the state idle:
    in particular every action of the shutdown leg (`cancelCtx`, `shutQuit`, `flusherQuit`, `quit w`, `shutdown`) -/
theorem idle_step {cfg : Cfg} (hq : cfg.flushOnQuit = false) {s s' : St} {a : Act} {ps : List Piece}
    (hn : a.takesNext cfg.coalesce = false) (inv : Inv cfg s) (hi : s.wire = ps ∧ s.owner = none ∧ s.flushing = false)
    (hs : step cfg s a = some s') : s'.wire = ps ∧ s'.owner = none ∧ s'.flushing = false := by
  obtain ⟨hps, hown, hfl⟩ := hi
  have noWrite : ∀ {w off}, s.pc w ≠ .inWrite off := fun hw => by
    have := inv.mutex _ _ hw; rw [hown] at this; cases this
  cases Step.of_step hs with
  | piece hw _ | endWrite hw _ => exact absurd hw noWrite
  | tick _ => cases hn
  | enter hg =>
    rcases hg.2 with ⟨h1, _⟩ | ⟨_, _, h3, _⟩
    · simp [Act.takesNext, h1] at hn
    · exact absurd h3 (ne_true_of_eq_false hfl)
  | flusherQuitFlush _ hf => rw [hq] at hf; cases hf
  | _ => exact ⟨hps, hown, hfl⟩

/-- once the flusher has taken its quit branch it never takes a tick again, so nothing "takes the next one" -/
theorem gone_step {cfg : Cfg} (hq : cfg.flushOnQuit = false) (hc : cfg.coalesce = true) {s s' : St} {a : Act}
    {ps : List Piece} (inv : Inv cfg s) (h : s.wire = ps ∧ s.gone = true) (hs : step cfg s a = some s') :
    s'.wire = ps ∧ s'.gone = true := by
  obtain ⟨hps, hg⟩ := h
  refine ⟨?_, (step_flags hs).2 hg⟩
  by_cases hn : a.takesNext cfg.coalesce = false
  · exact (idle_step hq hn inv ⟨hps, inv.batch.idle_of_gone hq hc hg⟩ hs).1
  · cases a <;> simp [Act.takesNext, hc] at hn
    cases Step.of_step hs with
    | tick hgd => exact absurd hg (ne_true_of_eq_false hgd.2.2.2)

end Writer
