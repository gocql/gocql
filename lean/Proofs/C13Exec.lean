import Model.Executor
/-! The sequential model of `queryExecutor.do` (`Executor.doLoop`): what the loop head finds (`nextUsable`), the walk of
    the attempts along the offered hosts (`Walk`), the loop as a relation between where it starts and what it returns,
    round by round (`Runs`, `doLoop_runs`), and the facts about its output, each an induction over that relation: the
    walk, the counting and numbering, how it ends, the budget, the consistency levels, and that a success or logical
    error is the last attempt. First, what `Out.push` does to an output (`ExecutorConc.push_*`). -/
namespace ExecutorConc
open Executor

theorem push_final (o : Out) (a : Att) : (o.push a).final = o.final := rfl
theorem push_cnt (o : Out) (a : Att) : (o.push a).cnt = o.cnt := rfl
theorem push_len (o : Out) (a : Att) : (o.push a).attempts.length = o.attempts.length + 1 := by simp [Out.push]

end ExecutorConc

namespace Executor
open ExecutorConc (push_cnt push_len)

theorem Req.record_eq (r : Req) (c : Nat) : r.record c = c + 1 := by
  unfold Req.record; split <;> rfl

/-- the policy (if any) licenses an attempt only while the counter is at most `N`: what the budget of the sequential loop and
    of the concurrent executions rests on -/
def Upto (pol : Option Policy) (N : Nat) : Prop := ∀ p, pol = some p → ∀ n, p.attempt n = true → n ≤ N

theorem Upto.policy {p : Policy} {N : Nat} (hp : ∀ m, p.attempt m = decide (m ≤ N)) : Upto (some p) N :=
  fun _ h n hn => by cases h; simpa [hp] using hn

theorem Upto.noPolicy (N : Nat) : Upto none N := fun _ => nofun

/-- `as` (the hosts of the attempts, the first of them being request number `k`) walks along `ids` (the selected
    host followed by the iterator's output) in a changing environment `us`:
    a host is passed over only if it is unusable at that moment (`skip`) or after an attempt on it (`move`);
    every attempt is on a host that is usable at that moment; after an attempt the walk stays on the host
    (`stay`, and if the host has become unusable meanwhile the next step skips it) or moves on; never backwards. -/
inductive Walk (us : Nat → Nat → Bool) : Nat → List Nat → List Nat → Prop
  | done (k : Nat) (ids : List Nat) : Walk us k ids []
  | skip (k u : Nat) (ids as : List Nat) : us k u = false → Walk us k ids as → Walk us k (u :: ids) as
  | stay (k u : Nat) (ids as : List Nat) : us k u = true → Walk us (k+1) (u :: ids) as → Walk us k (u :: ids) (u :: as)
  | move (k u : Nat) (ids as : List Nat) : us k u = true → Walk us (k+1) ids as → Walk us k (u :: ids) (u :: as)

theorem nextUsable_some (u : Nat → Bool) (l : List Nat) {h : Nat} {rest : List Nat} (hn : nextUsable u l = some (h, rest)) :
    ∃ pre, l = pre ++ h :: rest ∧ u h = true ∧ ∀ x ∈ pre, u x = false := by
  fun_induction nextUsable u l with
  | case1 => cases hn
  | case2 x xs hx => cases hn; exact ⟨[], rfl, hx, nofun⟩
  | case3 x xs hx ih =>
    obtain ⟨pre, hl, hu, hp⟩ := ih hn
    exact ⟨x :: pre, by rw [hl]; rfl, hu, List.forall_mem_cons.mpr ⟨Bool.eq_false_iff.mpr hx, hp⟩⟩

theorem nextUsable_usable {u : Nat → Bool} {l : List Nat} {h : Nat} {rest : List Nat}
    (hn : nextUsable u l = some (h, rest)) : u h = true :=
  let ⟨_, _, hu, _⟩ := nextUsable_some u l hn; hu

theorem nextUsable_none (u : Nat → Bool) : ∀ (l : List Nat), (∀ x ∈ l, u x = false) → nextUsable u l = none
  | [], _ => rfl
  | x :: l, h => by
    simp only [nextUsable, h x (List.mem_cons_self ..), Bool.false_eq_true, if_false]
    exact nextUsable_none u l fun y hy => h y (List.mem_cons_of_mem _ hy)

theorem walk_skip_prefix (us : Nat → Nat → Bool) (k : Nat) (tail as : List Nat) :
    ∀ (pre : List Nat), (∀ x ∈ pre, us k x = false) → Walk us k tail as → Walk us k (pre ++ tail) as
  | [], _, h => h
  | x :: pre, hp, h =>
    Walk.skip k x _ _ (hp x (by simp)) (walk_skip_prefix us k tail as pre (fun y hy => hp y (by simp [hy])) h)

theorem getLast?_cons_of_some {α : Type} (y x : α) (l : List α) (h : l.getLast? = some x) : (y :: l).getLast? = some x := by
  rw [List.getLast?_cons, h]; rfl

/-- what the loop makes of its output, round by round (`fuel` = the rounds still allowed) -/
inductive Runs (pol : Option Policy) (outcome : Nat → Res) (us : Nat → Nat → Bool) :
    Nat → List Nat → Nat → Nat → Nat → Option (Nat × Nat) → Out → Prop
  | fuel {pending k cnt cons lastErr} : Runs pol outcome us 0 pending k cnt cons lastErr ⟨[], .outOfFuel, cnt, cons⟩
  | exhausted {fuel pending k cnt cons lastErr} : nextUsable (us k) pending = none →
      Runs pol outcome us (fuel+1) pending k cnt cons lastErr
        ⟨[], match lastErr with | some (e, j) => .lastErr e j | none => .noConnections, cnt, cons⟩
  /-- the attempt on the first usable host is the last: the policy licenses no further one. Looser than `doLoop`: which
      of the two endings it is and the statement's consistency afterwards (`c`) are left open; no fact below needs them -/
  | stop {fuel pending k cnt cons lastErr h rest r f c} : nextUsable (us k) pending = some (h, rest) → outcome k = r →
      f = .last r ∨ f = .unknownRetryType →
      (∀ e p, r = .err e → pol = some p → p.attempt (cnt + 1) = true → p.rtype e ≠ .retry ∧ p.rtype e ≠ .nextHost) →
      Runs pol outcome us (fuel+1) pending k cnt cons lastErr ⟨[⟨h, cnt, cons, r⟩], f, cnt + 1, c⟩
  /-- the policy licenses another attempt and the rest of the loop follows, on the same host (`Retry`) or on what the
      iterator still offers (`RetryNextHost`) -/
  | push {fuel pending k cnt cons lastErr h rest e p pending' o} : nextUsable (us k) pending = some (h, rest) →
      outcome k = .err e → pol = some p → p.attempt (cnt + 1) = true →
      (pending' = h :: rest ∧ p.rtype e = .retry ∨ pending' = rest ∧ p.rtype e = .nextHost) →
      Runs pol outcome us fuel pending' (k+1) (cnt+1) ((p.newCons (cnt+1)).getD cons) (some (e, k)) o →
      Runs pol outcome us (fuel+1) pending k cnt cons lastErr (o.push ⟨h, cnt, cons, .err e⟩)

theorem doLoop_runs (req : Req) (pol : Option Policy) (outcome : Nat → Res) (us : Nat → Nat → Bool) :
    ∀ (fuel : Nat) (pending : List Nat) (k cnt cons : Nat) (lastErr : Option (Nat × Nat)),
    Runs pol outcome us fuel pending k cnt cons lastErr (doLoop req pol outcome us fuel pending k cnt cons lastErr)
  | 0, _, _, _, _, _ => .fuel
  | fuel+1, pending, k, cnt, cons, lastErr => by
    have ih := doLoop_runs req pol outcome us fuel
    simp only [doLoop, Req.record_eq]
    cases hn : nextUsable (us k) pending with
    | none => cases lastErr <;> exact .exhausted hn
    | some hr =>
      obtain ⟨h, rest⟩ := hr
      simp only []  -- the `match some (h, rest)` of the loop body reduces to its second arm
      cases hr : outcome k with
      | logical => exact .stop hn hr (.inl rfl) (by simp)
      | ok => exact .stop hn hr (.inl rfl) (by simp)
      | err e =>
        cases pol with
        | none => exact .stop hn hr (.inl rfl) (by simp)
        | some p =>
          simp only []  -- `match some p` reduces to the policy's arm
          split
          · rename_i hat
            exact .stop hn hr (.inl rfl) (by rintro _ _ ⟨⟩ ⟨⟩ h; simp [h] at hat)
          · rename_i hat
            have hat : p.attempt (cnt + 1) = true := by simpa using hat
            split
            · exact .push hn hr rfl hat (.inl ⟨rfl, ‹_›⟩) (ih ..)
            · exact .stop hn hr (.inl rfl) (by rintro _ _ ⟨⟩ ⟨⟩ _; simp [*])
            · exact .stop hn hr (.inl rfl) (by rintro _ _ ⟨⟩ ⟨⟩ _; simp [*])
            · exact .push hn hr rfl hat (.inr ⟨rfl, ‹_›⟩) (ih ..)
            · exact .stop hn hr (.inr rfl) (by rintro _ _ ⟨⟩ ⟨⟩ _; simp [*])

theorem doQuery_runs (req : Req) (pol : Option Policy) (outcome : Nat → Res) (us : Nat → Nat → Bool) (fuel : Nat)
    (ids : List Nat) (k cnt cons : Nat) :
    Runs pol outcome us fuel ids k cnt cons none (doQuery req pol outcome us fuel ids k cnt cons) :=
  doLoop_runs ..

namespace Runs
variable {pol : Option Policy} {outcome : Nat → Res} {us : Nat → Nat → Bool} {fuel : Nat} {pending : List Nat}
  {k cnt cons : Nat} {lastErr : Option (Nat × Nat)} {o : Out}

theorem walk (hr : Runs pol outcome us fuel pending k cnt cons lastErr o) : Walk us k pending (o.attempts.map (·.host)) := by
  -- the walk from the first usable host on; the skipped prefix is added last
  have lift : ∀ {pending k h rest as}, nextUsable (us k) pending = some (h, rest) → Walk us k (h :: rest) as →
      Walk us k pending as := by
    intro pending k h rest as hn g
    obtain ⟨pre, hl, _, hpre⟩ := nextUsable_some _ _ hn
    exact hl ▸ walk_skip_prefix us k _ _ pre hpre g
  induction hr with
  | fuel => exact .done _ _
  | exhausted => exact .done _ _
  | stop hn => exact lift hn (.stay _ _ _ _ (nextUsable_usable hn) (.done _ _))
  | push hn _ _ _ hpend _ ih =>
    refine lift hn ?_
    rcases hpend with ⟨rfl, _⟩ | ⟨rfl, _⟩
    · exact .stay _ _ _ _ (nextUsable_usable hn) ih
    · exact .move _ _ _ _ (nextUsable_usable hn) ih

theorem count (hr : Runs pol outcome us fuel pending k cnt cons lastErr o) : o.cnt = cnt + o.attempts.length := by
  induction hr with
  | push _ _ _ _ _ _ ih => rw [push_cnt, push_len, ih]; omega
  | _ => rfl

theorem each (hr : Runs pol outcome us fuel pending k cnt cons lastErr o) (i : Nat) (a : Att) (h : o.attempts[i]? = some a) :
    a.idx = cnt + i ∧ a.res = outcome (k + i) ∧ us (k + i) a.host = true := by
  induction hr generalizing i with
  | fuel => simp at h
  | exhausted => simp at h
  | stop hn hr =>
    cases i with
    | zero => cases Option.some.inj h; exact ⟨rfl, hr.symm, nextUsable_usable hn⟩
    | succ i => simp at h
  | push hn he _ _ _ _ ih =>
    cases i with
    | zero => cases Option.some.inj h; exact ⟨rfl, he.symm, nextUsable_usable hn⟩
    | succ i =>
      obtain ⟨g1, g2, g3⟩ := ih i h
      exact ⟨by omega, by rw [g2]; congr 1; omega, by rw [← g3]; congr 1; omega⟩

/-- how the loop ends: with the last attempt's result, or — nothing usable left — with the error recorded last. For any
    `lastErr` at the start, since every further round starts with the error of the attempt before it -/
structure Ends (outcome : Nat → Res) (k : Nat) (lastErr : Option (Nat × Nat)) (o : Out) : Prop where
  last : ∀ r, o.final = .last r → ∃ a, o.attempts.getLast? = some a ∧ a.res = r
  exhausted : ∀ e j, o.final = .lastErr e j →
    (o.attempts = [] ∧ lastErr = some (e, j)) ∨
    (∃ a, o.attempts.getLast? = some a ∧ a.res = .err e ∧ j + 1 = k + o.attempts.length ∧ outcome j = .err e)
  noConn : o.final = .noConnections → o.attempts = [] ∧ lastErr = none
  empty : o.attempts = [] → o.final = .outOfFuel ∨ (lastErr = none ∧ o.final = .noConnections) ∨
    (∃ e j, lastErr = some (e, j) ∧ o.final = .lastErr e j)

theorem final (hr : Runs pol outcome us fuel pending k cnt cons lastErr o) : Ends outcome k lastErr o := by
  induction hr with
  | fuel => constructor <;> simp
  | @exhausted _ _ _ _ _ lastErr => cases lastErr <;> constructor <;> simp
  | stop _ _ hf => rcases hf with rfl | rfl <;> constructor <;> simp
  | @push _ _ k cnt cons _ h _ e _ _ o _ hk _ _ _ _ ih =>
    refine ⟨fun r hr => ?_, fun e' j he => .inr ?_, fun he => ?_, fun he => ?_⟩
    · obtain ⟨a, ha1, ha2⟩ := ih.last r hr
      exact ⟨a, getLast?_cons_of_some _ _ _ ha1, ha2⟩
    · rcases ih.exhausted e' j he with ⟨g1, g2⟩ | ⟨a, ha1, ha2, ha3, ha4⟩
      · cases g2
        exact ⟨⟨h, cnt, cons, .err e⟩, by simp [Out.push, g1], rfl, by simp [Out.push, g1], hk⟩
      · exact ⟨a, getLast?_cons_of_some _ _ _ ha1, ha2, by rw [push_len]; omega, ha4⟩
    · exact nomatch (ih.noConn he).2
    · simp [Out.push] at he

/-- every attempt after the first was licensed by the policy at the counter's value then -/
theorem budget (hr : Runs pol outcome us fuel pending k cnt cons lastErr o) {N : Nat}
    (hp : Upto pol N) : o.attempts.length ≤ 1 + (N - cnt) := by
  induction hr with
  | fuel => exact Nat.zero_le _
  | exhausted => exact Nat.zero_le _
  | stop => exact Nat.le_add_right 1 _
  | push _ _ hpol hat _ _ ih =>
    have := hp _ hpol _ hat
    rw [push_len]; omega

/-- consistency of the attempts: the first request carries the statement's level; every later one carries what
    the policy's `Attempt` set when it allowed that retry (or the previous level if it set none) -/
theorem cons_chain {p : Policy} (hr : Runs (some p) outcome us fuel pending k cnt cons lastErr o) :
    (∀ a, o.attempts[0]? = some a → a.cons = cons) ∧
    (∀ i a b, o.attempts[i]? = some a → o.attempts[i+1]? = some b → b.cons = (p.newCons (cnt + i + 1)).getD a.cons) := by
  generalize hpol : some p = pol at hr
  induction hr with
  | fuel => simp
  | exhausted => simp
  | stop => simp
  | push _ _ hp' _ _ _ ih =>
    cases hpol.trans hp'
    obtain ⟨g1, g2⟩ := ih
    refine ⟨fun a ha => ?_, fun i a b ha hb => ?_⟩
    · cases Option.some.inj ha; rfl
    · cases i with
      | zero =>
        cases Option.some.inj ha
        exact g1 b hb
      | succ i =>
        rw [g2 i a b ha hb]; congr 2; omega

/-- an attempt that ends with success or a logical error (context, not found) is the last of its execution -/
theorem stop_last (hr : Runs pol outcome us fuel pending k cnt cons lastErr o) (i : Nat) (a : Att)
    (h : o.attempts[i]? = some a) (hres : a.res = .logical ∨ a.res = .ok) : i + 1 = o.attempts.length := by
  induction hr generalizing i with
  | fuel => simp at h
  | exhausted => simp at h
  | stop =>
    cases i with
    | zero => rfl
    | succ j => simp at h
  | push _ he _ _ _ _ ih =>
    cases i with
    | zero =>
      -- the first attempt failed with `err e`
      cases Option.some.inj h
      simp at hres
    | succ j => exact congrArg (· + 1) (ih j h)

end Runs

end Executor
