import Model.Policies
import Proofs.Common
/-! `cowAdd` / `cowRemove` keep "one entry per connect address" (`AddrNodup`) and change membership by exactly the
host added (if its address was free) / the entries with the address removed. -/
namespace C11
open Policies

def AddrNodup (l : List Host) : Prop := l.Pairwise (fun a b => a.addr ≠ b.addr)

theorem AddrNodup.nodup {l : List Host} (h : AddrNodup l) : l.Nodup := by
  unfold AddrNodup at h
  exact h.imp (fun hab heq => hab (by rw [heq]))

theorem equal_iff (a b : Host) : a.equal b = true ↔ a.addr = b.addr := by
  unfold Host.equal
  simp only [Bool.or_eq_true, beq_iff_eq]
  constructor
  · rintro (h | h)
    · rw [h]
    · exact h
  · intro h; exact Or.inr h

theorem cowAdd_inv (l : List Host) (h : Host) (hl : AddrNodup l) : AddrNodup (cowAdd l h).1 := by
  fun_cases cowAdd l h with
  | case1 => exact hl
  | case2 hn =>
    simp only [List.any_eq_true, not_exists, not_and, equal_iff] at hn
    unfold AddrNodup
    rw [List.pairwise_append]
    refine ⟨hl, List.pairwise_singleton _ _, ?_⟩
    intro a ha b hb
    simp only [List.mem_singleton] at hb
    subst hb
    intro e
    exact hn a ha e.symm

theorem cowRemove_inv (l : List Host) (ip : Nat) (hl : AddrNodup l) : AddrNodup (cowRemove l ip).1 := by
  fun_cases cowRemove l ip with
  | case1 => exact List.Pairwise.sublist List.filter_sublist hl
  | case2 => exact hl

theorem mem_cowAdd (l : List Host) (h x : Host) :
    x ∈ (cowAdd l h).1 ↔ x ∈ l ∨ (x = h ∧ ∀ y ∈ l, y.addr ≠ h.addr) := by
  fun_cases cowAdd l h with
  | case1 hy =>
    simp only [List.any_eq_true, equal_iff] at hy
    obtain ⟨y, hy, e⟩ := hy
    exact ⟨Or.inl, fun hx => hx.elim id (fun h2 => absurd e.symm (h2.2 y hy))⟩
  | case2 hn =>
    simp only [List.any_eq_true, not_exists, not_and, equal_iff] at hn
    simp only [List.mem_append, List.mem_singleton]
    exact or_congr_right ⟨fun hx => ⟨hx, fun y hy e => hn y hy e.symm⟩, And.left⟩

theorem mem_cowRemove (l : List Host) (ip : Nat) (x : Host) :
    x ∈ (cowRemove l ip).1 ↔ x ∈ l ∧ x.addr ≠ ip := by
  fun_cases cowRemove l ip with
  | case1 => simp [List.mem_filter]
  | case2 hn =>
    simp only [List.any_eq_true, not_exists, not_and, beq_iff_eq] at hn
    exact ⟨fun hx => ⟨hx, hn x hx⟩, And.left⟩

theorem cowAdd_unchanged (l : List Host) (h : Host) (hc : (cowAdd l h).2 = false) : (cowAdd l h).1 = l := by
  revert hc
  fun_cases cowAdd l h <;> intro hc
  · rfl
  · cases hc

theorem cowRemove_unchanged (l : List Host) (ip : Nat) (hc : (cowRemove l ip).2 = false) : (cowRemove l ip).1 = l := by
  revert hc
  fun_cases cowRemove l ip <;> intro hc
  · cases hc
  · rfl

end C11
