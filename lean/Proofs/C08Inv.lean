import Model.Streams
import Proofs.C08Bits
/-! C08: the inductive invariant `Inv` of the concurrent machine under the client protocol, that the fresh state has it
(`inv_init`), and that it survives when one thread moves (`inv_set`, with one instance per kind of move). That every
`tstep` is such a move is in Proofs/C08Step. -/
namespace C08
open Streams

/-- the id a thread is responsible for although it is not in `held`:
    `g7` = bit acquired by a successful CAS, `GetStream` has not returned yet;
    `c8/c9/c10` = `Clear(id)` called by the holder, bit not yet cleared -/
def owns : PC → Option Nat
  | .g7 id => some id
  | .c8 id => some id
  | .c9 id _ => some id
  | .c10 id => some id
  | _ => none

/-- inside `Clear`, `inuseStreams` not yet decremented -/
def inClear : PC → Bool
  | .c8 _ => true
  | .c9 _ _ => true
  | .c10 _ => true
  | .c11 _ => true
  | _ => false

/-- thread-local fact: the bit the thread is about to CAS to one is zero in the value it compares with -/
def localOk : PC → Prop
  | .g5 _ _ j b => b.getLsbD (streamOffset j) = false ∧ j < 64
  | _ => True

def isOwner (pc : PC) : Bool := (owns pc).isSome

structure Inv (s : State) : Prop where
  npos : 0 < s.sh.words.length
  reserved : bitAt s.sh.words 0 = true
  heldNodup : s.held.Nodup
  heldOk : ∀ id : Nat, id ∈ s.held → 1 ≤ id ∧ id < 64 * s.sh.words.length ∧ bitAt s.sh.words id = true
  ownOk : ∀ (t : Nat) (pc : PC) (id : Nat), s.threads[t]? = some pc → owns pc = some id →
    1 ≤ id ∧ id < 64 * s.sh.words.length ∧ bitAt s.sh.words id = true ∧ id ∉ s.held
  ownInj : ∀ (t t' : Nat) (pc pc' : PC) (id : Nat), s.threads[t]? = some pc → s.threads[t']? = some pc' →
    owns pc = some id → owns pc' = some id → t = t'
  locals : ∀ (t : Nat) (pc : PC), s.threads[t]? = some pc → localOk pc
  count : countBelow (bitAt s.sh.words) (64 * s.sh.words.length)
            = 1 + s.held.length + s.threads.countP isOwner
  inuse : s.sh.inuse = (s.held.length : Int) + (s.threads.countP inClear : Nat)

theorem bitAt_init (n : Nat) (hn : 0 < n) (id : Nat) : bitAt (init n).words id = decide (id = 0) := by
  have h : (init n).words = setBit (List.replicate n 0#64) 0 := by
    simp [init, setBit, List.getD_eq_getElem?_getD, hn]
  rw [h, bitAt_setBit _ _ _ (by simpa using hn)]
  simp [bitAt, List.getD_eq_getElem?_getD, List.getElem?_replicate]
  split <;> simp

theorem length_init (n : Nat) : (init n).words.length = n := by simp [init]

theorem countBelow_single (k : Nat) : countBelow (fun id => decide (id = 0)) k = if 0 < k then 1 else 0 := by
  induction k with
  | zero => rfl
  | succ k ih =>
    simp only [countBelow, ih]
    cases k <;> simp

theorem count_init (n : Nat) (hn : 0 < n) : countBelow (bitAt (init n).words) (64 * n) = 1 := by
  rw [funext (bitAt_init n hn), countBelow_single, if_pos (by omega)]

theorem inv_init (n k : Nat) (hn : 0 < n) : Inv (initState n k) := by
  have hidle : ∀ {t : Nat} {pc : PC}, (initState n k).threads[t]? = some pc → pc = .idle :=
    fun h => (List.mem_replicate.mp (List.mem_of_getElem? h)).2
  refine ⟨?_, ?_, ?_, ?_, ?_, ?_, ?_, ?_, ?_⟩
  · simpa [initState, length_init] using hn
  · simp [initState, bitAt_init n hn]
  · simp [initState]
  · simp [initState]
  · intro t pc id ht ho
    rw [hidle ht] at ho; cases ho
  · intro t t' pc pc' id ht _ ho _
    rw [hidle ht] at ho; cases ho
  · intro t pc ht
    rw [hidle ht]; trivial
  · simp [initState, length_init, count_init n hn, List.countP_replicate, isOwner, owns]
  · simp [initState, init, List.countP_replicate, inClear]

/-- thread `t` moves from `pc` to `pc'` while the shared state becomes `sh'` and the held list `held'`: what is
    left to show is what the move changes — the ids in `held'`, the id `pc'` owns, the bits and the membership
    in `held'` of the ids the other threads own, and the two counting equations -/
theorem inv_set {s : State} (hI : Inv s) {t : Nat} {pc : PC} (ht : s.threads[t]? = some pc)
    {sh' : Shared} {pc' : PC} {held' : List Nat}
    (hlen : sh'.words.length = s.sh.words.length) (hres : bitAt sh'.words 0 = true) (hnd : held'.Nodup)
    (hheld : ∀ id, id ∈ held' → 1 ≤ id ∧ id < 64 * s.sh.words.length ∧ bitAt sh'.words id = true)
    (hown : ∀ id, owns pc' = some id → 1 ≤ id ∧ id < 64 * s.sh.words.length ∧ bitAt sh'.words id = true ∧
      id ∉ held' ∧ ∀ u pcu, u ≠ t → s.threads[u]? = some pcu → owns pcu ≠ some id)
    (hoth : ∀ u pcu id, u ≠ t → s.threads[u]? = some pcu → owns pcu = some id →
      bitAt sh'.words id = true ∧ id ∉ held')
    (hloc : localOk pc')
    (hcount : countBelow (bitAt sh'.words) (64 * s.sh.words.length) + s.held.length + (if isOwner pc then 1 else 0)
      = countBelow (bitAt s.sh.words) (64 * s.sh.words.length) + held'.length + (if isOwner pc' then 1 else 0))
    (hinuse : sh'.inuse + s.held.length + (if inClear pc then 1 else 0 : Nat)
      = s.sh.inuse + held'.length + (if inClear pc' then 1 else 0 : Nat)) :
    Inv { sh := sh', threads := s.threads.set t pc', held := held' } := by
  refine ⟨hlen ▸ hI.npos, hres, hnd, hlen ▸ hheld, ?_, ?_, forall_set hI.locals t hloc, ?_, ?_⟩
  · intro u pcu id hu hou
    rw [hlen]
    rcases getElem?_set_cases hu with ⟨_, rfl⟩ | ⟨hne, hv⟩
    · obtain ⟨a1, a2, a3, a4, _⟩ := hown id hou
      exact ⟨a1, a2, a3, a4⟩
    · obtain ⟨a1, a2, _⟩ := hI.ownOk u pcu id hv hou
      exact ⟨a1, a2, hoth u pcu id hne.symm hv hou⟩
  · intro u u' pcu pcu' id hu hu' ho ho'
    rcases getElem?_set_cases hu with ⟨rfl, rfl⟩ | ⟨hne, hv⟩ <;>
      rcases getElem?_set_cases hu' with ⟨rfl, rfl⟩ | ⟨hne', hv'⟩
    · rfl
    · exact absurd ho' ((hown id ho).2.2.2.2 u' pcu' hne'.symm hv')
    · exact absurd ho ((hown id ho').2.2.2.2 u pcu hne.symm hv)
    · exact hI.ownInj u u' pcu pcu' id hv hv' ho ho'
  · have := countP_set isOwner s.threads t pc pc' ht
    have := hI.count
    dsimp only; rw [hlen]; omega
  · have := countP_set inClear s.threads t pc pc' ht
    have := hI.inuse
    dsimp only; omega

/-- transitions that touch neither the bitset nor the counter nor the ownership -/
theorem inv_local {s : State} (hI : Inv s) {t : Nat} {pc pc' : PC} (ht : s.threads[t]? = some pc)
    (sh' : Shared) (hw : sh'.words = s.sh.words) (hu : sh'.inuse = s.sh.inuse)
    (ho : owns pc' = owns pc) (hc : inClear pc' = inClear pc) (hl : localOk pc') :
    Inv { sh := sh', threads := s.threads.set t pc', held := s.held } := by
  refine inv_set hI ht (by rw [hw]) (hw ▸ hI.reserved) hI.heldNodup (hw ▸ hI.heldOk) ?_ ?_ hl ?_ ?_
  · intro id hid
    rw [ho] at hid
    obtain ⟨a1, a2, a3, a4⟩ := hI.ownOk t pc id ht hid
    exact ⟨a1, a2, hw ▸ a3, a4, fun u pcu hne hu hou => hne (hI.ownInj u t pcu pc id hu ht hou hid)⟩
  · intro u pcu id _ hu hou
    exact hw ▸ (hI.ownOk u pcu id hu hou).2.2
  · rw [hw, show isOwner pc' = isOwner pc by simp only [isOwner, ho]]
  · rw [hu, hc]

/-- successful CAS of `GetStream` on the word of a free id -/
theorem inv_acquire {s : State} (hI : Inv s) {t : Nat} {pc : PC} (ht : s.threads[t]? = some pc)
    (ho : owns pc = none) (hc : inClear pc = false) {id : Nat} (hlt : id < 64 * s.sh.words.length)
    (hfree : bitAt s.sh.words id = false) :
    Inv { sh := { s.sh with words := setBit s.sh.words id }, threads := s.threads.set t (.g7 id), held := s.held } := by
  obtain ⟨hbits, hcnt⟩ := setBit_view (K := 64 * s.sh.words.length) (by omega) hlt hfree
  -- a free id is claimed by nobody
  have hset : ∀ {x}, bitAt s.sh.words x = true → x ≠ id := fun h => ne_of_bitAt h hfree
  refine inv_set hI ht (length_setBit _ _) (by simp [hbits, hI.reserved]) hI.heldNodup ?_ ?_ ?_ trivial ?_ ?_
  · intro x hx
    have := hI.heldOk x hx
    simp [hbits, this]
  · intro x hx
    cases hx
    exact ⟨Nat.pos_of_ne_zero (Ne.symm (hset hI.reserved)), hlt, by simp [hbits],
      fun hm => hset (hI.heldOk id hm).2.2 rfl, fun u pcu _ hu hou => hset (hI.ownOk u pcu id hu hou).2.2.1 rfl⟩
  · intro u pcu x _ hu hou
    have := hI.ownOk u pcu x hu hou
    simp [hbits, this]
  · rw [show isOwner pc = false by rw [isOwner, ho]; rfl]
    simp only [isOwner, owns, Bool.false_eq_true, ↓reduceIte, Option.isSome]
    omega
  · rw [hc]; rfl

/-- `AddInt32(&inuse, 1)` and return of `GetStream` -/
theorem inv_return {s : State} (hI : Inv s) {t id : Nat} (ht : s.threads[t]? = some (.g7 id)) :
    Inv { sh := { s.sh with inuse := s.sh.inuse + 1 }, threads := s.threads.set t .idle,
          held := id :: s.held } := by
  obtain ⟨h1, h2, h3, h4⟩ := hI.ownOk t _ id ht rfl
  refine inv_set hI ht rfl hI.reserved (List.nodup_cons.mpr ⟨h4, hI.heldNodup⟩) ?_ nofun ?_ trivial ?_ ?_
  · intro x hx
    rcases List.mem_cons.mp hx with rfl | hx
    · exact ⟨h1, h2, h3⟩
    · exact hI.heldOk x hx
  · intro u pcu x hne hu hou
    obtain ⟨_, _, a3, a4⟩ := hI.ownOk u pcu x hu hou
    refine ⟨a3, fun hm => ?_⟩
    rcases List.mem_cons.mp hm with rfl | hm
    · exact hne (hI.ownInj u t pcu _ x hu ht hou rfl)
    · exact a4 hm
  · simp only [isOwner, owns, List.length_cons, Option.isSome, Bool.false_eq_true, ↓reduceIte]; omega
  · simp only [inClear, List.length_cons, Bool.false_eq_true, ↓reduceIte]; omega

/-- successful CAS of `Clear` -/
theorem inv_release {s : State} (hI : Inv s) {t id : Nat} {b : Word} (ht : s.threads[t]? = some (.c9 id b)) :
    Inv { sh := { s.sh with words := clrBit s.sh.words id }, threads := s.threads.set t (.c11 id), held := s.held } := by
  obtain ⟨h1, h2, h3, h4⟩ := hI.ownOk t _ id ht rfl
  obtain ⟨hbits, hcnt⟩ := clrBit_view (K := 64 * s.sh.words.length) (by omega) h2 h3
  refine inv_set hI ht (length_clrBit _ _) ?_ hI.heldNodup ?_ nofun ?_ trivial ?_ ?_
  · simp [hbits, hI.reserved, show (0 : Nat) ≠ id by omega]
  · intro x hx
    have := hI.heldOk x hx
    simp [hbits, this, show x ≠ id from fun e => h4 (e ▸ hx)]
  · intro u pcu x hne hu hou
    have := hI.ownOk u pcu x hu hou
    simp [hbits, this, show x ≠ id from fun e => hne (hI.ownInj u t pcu _ id hu ht (e ▸ hou) rfl)]
  · simp only [isOwner, owns, Bool.false_eq_true, ↓reduceIte, Option.isSome]
    omega
  · simp only [inClear]

/-- `AddInt32(&inuse, -1)` of `Clear`: the result is not negative -/
theorem inv_decrement {s : State} (hI : Inv s) {t x : Nat} (ht : s.threads[t]? = some (.c11 x)) :
    Inv { sh := { s.sh with inuse := s.sh.inuse - 1 }, threads := s.threads.set t .idle, held := s.held }
    ∧ ¬ (s.sh.inuse - 1 < 0) := by
  refine ⟨inv_set hI ht rfl hI.reserved hI.heldNodup hI.heldOk nofun
    (fun u pcu id _ hu hou => (hI.ownOk u pcu id hu hou).2.2) trivial rfl ?_, ?_⟩
  · simp only [inClear, Bool.false_eq_true, ↓reduceIte]; omega
  · have : 0 < s.threads.countP inClear := List.countP_pos_iff.mpr ⟨_, List.mem_of_getElem? ht, rfl⟩
    have := hI.inuse
    omega

/-- ghost step: the holder of `id` calls `Clear(id)` and thereby gives the id up -/
theorem inv_call_clear {s : State} (hI : Inv s) {t id : Nat} (ht : s.threads[t]? = some .idle)
    (hheld : id ∈ s.held) :
    Inv { sh := s.sh, threads := s.threads.set t (.c8 id), held := s.held.erase id } := by
  obtain ⟨h1, h2, h3⟩ := hI.heldOk id hheld
  have hnd := hI.heldNodup
  have hl := List.length_erase_of_mem hheld
  have hpos : 0 < s.held.length := List.length_pos_of_mem hheld
  refine inv_set hI ht rfl hI.reserved (hnd.erase id) (fun x hx => hI.heldOk x (List.mem_of_mem_erase hx))
    ?_ ?_ trivial ?_ ?_
  · intro x hx
    cases hx
    exact ⟨h1, h2, h3, fun hm => (hnd.mem_erase_iff.mp hm).1 rfl,
      fun u pcu _ hu hou => absurd hheld (hI.ownOk u pcu id hu hou).2.2.2⟩
  · intro u pcu x _ hu hou
    obtain ⟨_, _, a3, a4⟩ := hI.ownOk u pcu x hu hou
    exact ⟨a3, fun hm => a4 (List.mem_of_mem_erase hm)⟩
  · simp only [isOwner, owns, hl, Option.isSome, Bool.false_eq_true, ↓reduceIte]; omega
  · simp only [inClear, hl, Bool.false_eq_true, ↓reduceIte]; omega

end C08
