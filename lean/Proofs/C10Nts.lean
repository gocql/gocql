import Model.Placement
import Proofs.C10Simple
import Proofs.Common
/-! networkTopology.replicaMap, the code side.  The loop body `ntsStep` in three effects (`stA`/`stB`/`stC`); the induction principle of
the inner loop `ntsWalk` (`ntsWalk_induct`); the invariant `Good` of that loop, valid for EVERY ring: per-DC counters never
exceed rf and count the replicas per DC, so the "replica overflow" / "no replicas" / "not the primary" panics cannot fire
(`ntsLoop_ok`). -/
namespace C10Nts
open Placement C10Simple

theorem upd_same {β : Type} (f : Nat → β) (k : Nat) (v : β) : upd f k v k = v := by simp [upd]
theorem upd_other {β : Type} (f : Nat → β) (k d : Nat) (v : β) (h : d ≠ k) : upd f k v d = f d := by simp [upd, h]
theorem upd_self {β : Type} (f : Nat → β) (k : Nat) : upd f k (f k) = f := by
  funext x; by_cases h : x = k <;> simp [upd, h]

theorem upd_upd {β : Type} (f : Nat → β) (k : Nat) (a b : β) : upd (upd f k a) k b = upd f k b := by
  funext x; by_cases h : x = k <;> simp [upd, h]

theorem drain_eq (rf r : Nat) (reps sk : List Host) :
    drain rf r reps sk =
      (r + min sk.length (rf - r), reps ++ sk.take (min sk.length (rf - r)), sk.drop (min sk.length (rf - r))) := by
  fun_induction drain rf r reps sk with
  | case1 r reps => simp
  | case2 r reps sh sk h ih =>
    have hm : min (sh :: sk).length (rf - r) = min sk.length (rf - (r + 1)) + 1 := by
      simp only [List.length_cons]; omega
    rw [ih, hm, List.take_succ_cons, List.drop_succ_cons]
    simp only [List.append_assoc, List.singleton_append, Prod.mk.injEq, and_true]
    omega
  | case3 r reps sh sk h =>
    have : rf - r = 0 := by omega
    simp [this]

/-- all racks of the DC already used: take the host -/
def stA (st : NtsSt) (h : Host) : NtsSt :=
  { st with replicas := st.replicas ++ [h], inDC := upd st.inDC h.dc (st.inDC h.dc + 1) }

/-- new rack: take the host, then `k` hosts from the skipped list -/
def stB (st : NtsSt) (h : Host) (k : Nat) : NtsSt :=
  { st with replicas := st.replicas ++ [h] ++ (st.skipped h.dc).take k,
            inDC := upd st.inDC h.dc (st.inDC h.dc + 1 + k),
            seen := upd st.seen h.dc (st.seen h.dc ++ [h.rack]),
            skipped := upd st.skipped h.dc ((st.skipped h.dc).drop k) }

/-- rack already used, other racks still unused: remember the host -/
def stC (st : NtsSt) (h : Host) : NtsSt :=
  { st with skipped := upd st.skipped h.dc (st.skipped h.dc ++ [h]) }

/-- number of skipped hosts drained when `h` brings a new rack -/
def drainCount (c : NtsCfg) (st : NtsSt) (h : Host) : Nat :=
  if (st.seen h.dc).length + 1 = (c.racks h.dc).length
  then min (st.skipped h.dc).length (rfOf c.rfs h.dc - (st.inDC h.dc + 1)) else 0

theorem ntsStep_active (c : NtsCfg) (st : NtsSt) (h : Host)
    (h0 : rfOf c.rfs h.dc ≠ 0) (hlt : st.inDC h.dc < rfOf c.rfs h.dc) (h3 : h.rack ∈ c.racks h.dc) :
    (h.rack ∈ st.seen h.dc ∧ (st.seen h.dc).length = (c.racks h.dc).length ∧ ntsStep c st h = stA st h) ∨
    (h.rack ∉ st.seen h.dc ∧ ntsStep c st h = stB st h (drainCount c st h)) ∨
    (h.rack ∈ st.seen h.dc ∧ (st.seen h.dc).length ≠ (c.racks h.dc).length ∧ ntsStep c st h = stC st h) := by
  have h1 : ¬ st.inDC h.dc ≥ rfOf c.rfs h.dc := by omega
  unfold ntsStep
  by_cases h4 : h.rack ∈ st.seen h.dc
  · by_cases h5 : (st.seen h.dc).length = (c.racks h.dc).length
    · left; refine ⟨h4, h5, ?_⟩
      simp [h0, h1, h3, h4, h5, stA]
    · right; right; refine ⟨h4, h5, ?_⟩
      simp [h0, h1, h3, h4, h5, stC]
  · right; left; refine ⟨h4, ?_⟩
    simp only [h0, h1, h3, h4, if_false, not_true_eq_false, not_false_eq_true, false_and, if_true]
    unfold stB drainCount
    by_cases h5 : (st.seen h.dc).length + 1 = (c.racks h.dc).length
    · simp only [List.length_append, List.length_cons, List.length_nil, Nat.zero_add, h5, if_true, drain_eq]
    · simp only [List.length_append, List.length_cons, List.length_nil, Nat.zero_add, h5, if_false, List.take_zero,
        List.append_nil, Nat.add_zero, List.drop_zero, upd_self]

theorem ntsStep_skip (c : NtsCfg) (st : NtsSt) (h : Host)
    (hc : rfOf c.rfs h.dc = 0 ∨ st.inDC h.dc = rfOf c.rfs h.dc) : ntsStep c st h = st := by
  unfold ntsStep
  rcases hc with hc | hc
  · simp [hc]
  · by_cases h0 : rfOf c.rfs h.dc = 0
    · simp [h0]
    · simp [h0, hc]

/-- the body does something for `h`: its datacenter still needs replicas and `dcRacks` knows its rack -/
structure Active (c : NtsCfg) (st : NtsSt) (h : Host) : Prop where
  pos : rfOf c.rfs h.dc ≠ 0
  lt : st.inDC h.dc < rfOf c.rfs h.dc
  rack : h.rack ∈ c.racks h.dc

/-- every outcome of the loop body, as a case principle; `overflow` (a counter above rf: the "replica overflow" panic) cannot
occur in a state satisfying `Good`, see `good_step` -/
theorem ntsStep_elim (c : NtsCfg) (st : NtsSt) (h : Host) {motive : NtsSt → Prop}
    (skip : rfOf c.rfs h.dc = 0 ∨ st.inDC h.dc = rfOf c.rfs h.dc ∨ h.rack ∉ c.racks h.dc → motive st)
    (overflow : rfOf c.rfs h.dc < st.inDC h.dc → motive { st with crash := true })
    (sameRack : Active c st h → h.rack ∈ st.seen h.dc → (st.seen h.dc).length = (c.racks h.dc).length → motive (stA st h))
    (newRack : Active c st h → h.rack ∉ st.seen h.dc → motive (stB st h (drainCount c st h)))
    (otherRack : Active c st h → h.rack ∈ st.seen h.dc → (st.seen h.dc).length ≠ (c.racks h.dc).length →
      motive (stC st h)) : motive (ntsStep c st h) := by
  by_cases h0 : rfOf c.rfs h.dc = 0
  · rw [ntsStep_skip c st h (Or.inl h0)]; exact skip (Or.inl h0)
  rcases Nat.lt_trichotomy (st.inDC h.dc) (rfOf c.rfs h.dc) with hlt | heq | hgt
  · by_cases h3 : h.rack ∈ c.racks h.dc
    · rcases ntsStep_active c st h h0 hlt h3 with ⟨hs, hc, e⟩ | ⟨hs, e⟩ | ⟨hs, hc, e⟩ <;> rw [e]
      · exact sameRack ⟨h0, hlt, h3⟩ hs hc
      · exact newRack ⟨h0, hlt, h3⟩ hs
      · exact otherRack ⟨h0, hlt, h3⟩ hs hc
    · have : ntsStep c st h = st := by unfold ntsStep; simp [h0, Nat.not_le.mpr hlt, h3]
      rw [this]; exact skip (Or.inr (Or.inr h3))
  · rw [ntsStep_skip c st h (Or.inr heq)]; exact skip (Or.inr (Or.inl heq))
  · have : ntsStep c st h = { st with crash := true } := by unfold ntsStep; simp [h0, Nat.le_of_lt hgt, hgt]
    rw [this]; exact overflow hgt

/-- the inner loop without the seen-host check: the code before the repair of KF-C10-1 (kept for the regression examples) -/
def walk0 (c : NtsCfg) : NtsSt → List Host → NtsSt
  | st, [] => st
  | st, h :: rest =>
    if st.crash then st
    else if st.replicas.length < c.totalRF ∧ haveRF c st = false then walk0 c (ntsStep c st h) rest
    else st

/-- invariant of the code's inner loop `ntsWalk` (any ring, any walk): the per-DC counters stay within rf, no crash, the
counters count the replicas per DC, a skipped list holds hosts of its own DC only -/
structure Good (c : NtsCfg) (st : NtsSt) : Prop where
  le : ∀ d, st.inDC d ≤ rfOf c.rfs d
  nocrash : st.crash = false
  cnt : ∀ d, (st.replicas.filter (fun x => decide (x.dc = d))).length = st.inDC d
  skdc : ∀ d x, x ∈ st.skipped d → x.dc = d

theorem good_init (c : NtsCfg) : Good c ntsInit :=
  ⟨by intro d; simp [ntsInit], rfl, by intro d; simp [ntsInit], by intro d x hx; simp [ntsInit] at hx⟩

theorem filter_dc_length (l : List Host) (e d : Nat) (hl : ∀ x ∈ l, x.dc = e) :
    (l.filter (fun x => decide (x.dc = d))).length = if d = e then l.length else 0 := by
  by_cases hd : d = e
  · subst hd
    rw [List.filter_eq_self.mpr (by intro x hx; simp [hl x hx])]
    simp
  · rw [List.filter_eq_nil_iff.mpr (by intro x hx; rw [hl x hx]; simp; omega)]
    simp [hd]

theorem drainCount_le (c : NtsCfg) (st : NtsSt) (h : Host) :
    drainCount c st h ≤ (st.skipped h.dc).length ∧
    (st.inDC h.dc < rfOf c.rfs h.dc → st.inDC h.dc + 1 + drainCount c st h ≤ rfOf c.rfs h.dc) := by
  unfold drainCount
  by_cases h5 : (st.seen h.dc).length + 1 = (c.racks h.dc).length
  · simp only [h5, if_true]; omega
  · simp only [h5, if_false]; omega

theorem Good.cnt_append {c : NtsCfg} {st : NtsSt} (g : Good c st) (k : Nat) (ext : List Host) (hext : ∀ x ∈ ext, x.dc = k) :
    ∀ d, ((st.replicas ++ ext).filter (fun x => decide (x.dc = d))).length =
      if d = k then st.inDC k + ext.length else st.inDC d :=
  forall_update' (P := fun d n => ((st.replicas ++ ext).filter (fun x => decide (x.dc = d))).length = n)
    (by rw [List.filter_append, List.length_append, g.cnt, filter_dc_length ext k k hext, if_pos rfl])
    (fun d hd => by rw [List.filter_append, List.length_append, g.cnt, filter_dc_length ext k d hext, if_neg hd]; rfl)

theorem good_step (c : NtsCfg) (st : NtsSt) (h : Host) (g : Good c st) : Good c (ntsStep c st h) := by
  apply ntsStep_elim c st h
  case skip => exact fun _ => g
  case overflow => exact fun hgt => absurd (g.le h.dc) (Nat.not_le.mpr hgt)
  case sameRack =>
    exact fun a _ _ => ⟨forall_update (P := fun d n => n ≤ rfOf c.rfs d) g.le h.dc a.lt, g.nocrash,
      g.cnt_append h.dc [h] (by simp), g.skdc⟩
  case newRack =>
    intro a _
    obtain ⟨hk1, hk2⟩ := drainCount_le c st h
    have hext : ∀ x ∈ [h] ++ (st.skipped h.dc).take (drainCount c st h), x.dc = h.dc := by
      intro x hx
      rcases List.mem_append.mp hx with hx | hx
      · rw [List.mem_singleton.mp hx]
      · exact g.skdc _ x (List.mem_of_mem_take hx)
    refine ⟨forall_update (P := fun d n => n ≤ rfOf c.rfs d) g.le h.dc (hk2 a.lt), g.nocrash, ?_, ?_⟩
    · have := g.cnt_append h.dc _ hext
      simp only [List.length_append, List.length_singleton, List.length_take, Nat.min_eq_left hk1, ← List.append_assoc,
        ← Nat.add_assoc] at this
      exact this
    · exact forall_update (P := fun d l => ∀ x ∈ l, x.dc = d) g.skdc h.dc
        (fun x hx => g.skdc _ x (List.mem_of_mem_drop hx))
  case otherRack =>
    exact fun _ _ _ => ⟨g.le, g.nocrash, g.cnt, forall_update (P := fun d l => ∀ x ∈ l, x.dc = d) g.skdc h.dc (fun x hx =>
      (List.mem_append.mp hx).elim (g.skdc _ x) (fun hx => by rw [List.mem_singleton.mp hx]))⟩

/-- what the body keeps for every host met for the first time (hosts of the walk satisfy `Q`), the loop keeps; `sh'` is the
seen-host list at the end -/
theorem ntsWalk_induct (c : NtsCfg) (P : List Host → NtsSt → Prop) (Q : Host → Prop)
    (hstep : ∀ sh st h, Q h → h ∉ sh → P sh st → P (sh ++ [h]) (ntsStep c st h)) (l sh : List Host) (st : NtsSt) :
    (∀ x ∈ l, Q x) → P sh st → ∃ sh', (∀ x ∈ sh', x ∈ sh ∨ x ∈ l) ∧ P sh' (ntsWalk c st sh l) := by
  fun_induction ntsWalk c st sh l with
  | case1 st sh | case2 st sh h rest _ | case5 st sh h rest _ _ => exact fun _ p => ⟨sh, fun _ hx => Or.inl hx, p⟩
  | case3 st sh h rest _ _ _ ih =>
    intro hq p
    obtain ⟨sh', hs, p'⟩ := ih (fun x hx => hq x (List.mem_cons_of_mem _ hx)) p
    exact ⟨sh', fun x hx => (hs x hx).imp_right (List.mem_cons_of_mem _), p'⟩
  | case4 st sh h rest _ _ hnew ih =>
    intro hq p
    obtain ⟨sh', hs, p'⟩ := ih (fun x hx => hq x (List.mem_cons_of_mem _ hx)) (hstep sh st h (hq h List.mem_cons_self) hnew p)
    refine ⟨sh', fun x hx => ?_, p'⟩
    rcases hs x hx with hx | hx
    · rcases List.mem_append.mp hx with hx | hx
      · exact Or.inl hx
      · exact Or.inr (List.mem_singleton.mp hx ▸ List.mem_cons_self)
    · exact Or.inr (List.mem_cons_of_mem _ hx)

theorem good_walk (c : NtsCfg) (l sh : List Host) (st : NtsSt) (g : Good c st) : Good c (ntsWalk c st sh l) := by
  obtain ⟨_, _, g'⟩ := ntsWalk_induct c (fun _ st => Good c st) (fun _ => True) (fun _ st h _ _ g => good_step c st h g)
    l sh st (fun _ _ => trivial) g
  exact g'

theorem step_prefix (c : NtsCfg) (st : NtsSt) (h : Host) :
    ∃ ext, (ntsStep c st h).replicas = st.replicas ++ ext :=
  ntsStep_elim c st h (motive := fun st' => ∃ ext, st'.replicas = st.replicas ++ ext)
    (fun _ => ⟨[], (List.append_nil _).symm⟩) (fun _ => ⟨[], (List.append_nil _).symm⟩) (fun _ _ _ => ⟨[h], rfl⟩)
    (fun _ _ => ⟨[h] ++ (st.skipped h.dc).take (drainCount c st h), (List.append_assoc ..)⟩)
    (fun _ _ _ => ⟨[], (List.append_nil _).symm⟩)

theorem walk_prefix (c : NtsCfg) (l sh : List Host) (st : NtsSt) :
    ∃ ext, (ntsWalk c st sh l).replicas = st.replicas ++ ext := by
  obtain ⟨_, _, p⟩ := ntsWalk_induct c (fun _ st' => ∃ ext, st'.replicas = st.replicas ++ ext) (fun _ => True)
    (fun _ st' h _ _ ⟨e1, he1⟩ => by
      obtain ⟨e2, he2⟩ := step_prefix c st' h
      exact ⟨e1 ++ e2, by rw [he2, he1, List.append_assoc]⟩)
    l sh st (fun _ _ => trivial) ⟨[], (List.append_nil _).symm⟩
  exact p

theorem rfOf_mem (rfs : List (Nat × Nat)) (d : Nat) (h : rfOf rfs d ≠ 0) : (d, rfOf rfs d) ∈ rfs := by
  unfold rfOf at *
  cases hl : rfs.lookup d with
  | none => simp [hl] at h
  | some v =>
    obtain ⟨l₁, l₂, rfl, _⟩ := List.lookup_eq_some_iff.mp hl
    simp

theorem sum_ge_of_mem (l : List Nat) (v : Nat) (h : v ∈ l) : v ≤ l.sum := by
  induction l with
  | nil => simp at h
  | cons a r ih =>
    simp only [List.sum_cons]
    rcases List.mem_cons.mp h with rfl | h
    · omega
    · have := ih h; omega

/-- from the fresh state the walk takes the first host when its DC has rf > 0 and its rack is known -/
theorem walk_head (c : NtsCfg) (htot : c.totalRF = (c.rfs.map (·.2)).sum) (h : Host) (rest : List Host)
    (hrf : rfOf c.rfs h.dc ≠ 0) (hr : h.rack ∈ c.racks h.dc) :
    (ntsWalk c ntsInit [] (h :: rest)).replicas.head? = some h := by
  have hmem := rfOf_mem c.rfs h.dc hrf
  have hpos : 0 < c.totalRF := by
    rw [htot]
    have := sum_ge_of_mem (c.rfs.map (·.2)) (rfOf c.rfs h.dc) (List.mem_map.mpr ⟨_, hmem, rfl⟩)
    omega
  have hhave : haveRF c ntsInit = false := by
    unfold haveRF
    have : c.rfs.all (fun p => p.2 == ntsInit.inDC p.1) = false := by
      rw [List.all_eq_false]
      exact ⟨_, hmem, by simp [ntsInit]; exact hrf⟩
    simp [this]
  rw [ntsWalk, if_neg (by simp [ntsInit]), if_pos ⟨hpos, hhave⟩, if_neg List.not_mem_nil]
  have hstep : (ntsStep c ntsInit h).replicas = [h] := by
    rcases ntsStep_active c ntsInit h hrf (Nat.pos_of_ne_zero hrf) hr with ⟨hs, _, _⟩ | ⟨_, e⟩ | ⟨hs, _, _⟩
    · exact absurd hs List.not_mem_nil
    · rw [e]; simp [stB, ntsInit]
    · exact absurd hs List.not_mem_nil
  obtain ⟨ext, hext⟩ := walk_prefix c rest ([] ++ [h]) (ntsStep c ntsInit h)
  rw [hext, hstep]
  rfl

theorem ntsLoop_ok (c : NtsCfg) (tokens : List Entry) (its : List (Nat × Entry)) (acc : ReplicaRing)
    (H : ∀ p ∈ its, rfOf c.rfs p.2.2.dc ≠ 0 →
      (ntsReplicasAt c tokens p.1).crash = false ∧ (ntsReplicasAt c tokens p.1).replicas.head? = some p.2.2) :
    ntsLoop c tokens its acc =
      .ok (acc ++ (its.filter (fun p => decide (rfOf c.rfs p.2.2.dc ≠ 0))).map
              (fun p => (p.2.1, (ntsReplicasAt c tokens p.1).replicas))) := by
  fun_induction ntsLoop c tokens its acc with
  | case1 => simp
  | case2 i th rest acc h0 ih => rw [ih fun q hq => H q (List.mem_cons_of_mem _ hq)]; simp [h0]
  | case3 i th rest acc h0 st hc =>   -- the walk overflowed
    exact absurd hc (by simp [st, (H _ (List.mem_cons_self ..) h0).1])
  | case4 i th rest acc h0 st _ hreps =>   -- no replica
    have := (H _ (List.mem_cons_self ..) h0).2
    simp [st] at hreps; simp [hreps] at this
  | case5 i th rest acc h0 st _ r0 rs hreps hne =>   -- the first replica is not the token's host
    have := (H _ (List.mem_cons_self ..) h0).2
    simp [st] at hreps; simp [hreps] at this; exact absurd this hne
  | case6 i th rest acc h0 st _ r0 rs hreps _ ih =>
    rw [ih fun q hq => H q (List.mem_cons_of_mem _ hq)]; simp [h0, st]

/-! ### set insertion: `setAdd`; Cassandra's `Spec.sadd` and the ghost field of `updateReplicas` are the same function -/

theorem sadd_eq {α : Type} [DecidableEq α] (s : List α) (x : α) : Spec.sadd s x = setAdd s x := rfl

theorem mem_setAdd {α : Type} [DecidableEq α] (s : List α) (x y : α) : y ∈ setAdd s x ↔ y ∈ s ∨ y = x := by
  unfold setAdd
  by_cases h : x ∈ s
  · rw [if_pos h]
    exact ⟨Or.inl, fun h' => h'.elim id (fun e => e ▸ h)⟩
  · simp [h]

theorem setAdd_of_mem {α : Type} [DecidableEq α] (s : List α) (x : α) (h : x ∈ s) : setAdd s x = s := if_pos h

theorem setAdd_new {α : Type} [DecidableEq α] (s : List α) (x : α) (h : x ∉ s) : setAdd s x = s ++ [x] := if_neg h

theorem mem_foldl_setAdd {α : Type} [DecidableEq α] (l : List α) : ∀ (acc : List α) (x : α),
    x ∈ l.foldl setAdd acc ↔ x ∈ acc ∨ x ∈ l := by
  induction l with
  | nil => intro acc x; simp
  | cons a r ih => intro acc x; rw [List.foldl_cons, ih, mem_setAdd, List.mem_cons, or_assoc]

/-- folding `setAdd` over `l` appends the elements of `l` not yet present, first occurrences only: the code's set (`toSet`) is the
specification's list of distinct elements in order of first occurrence -/
theorem foldl_setAdd_eq {α : Type} [DecidableEq α] (l acc : List α) : l.foldl setAdd acc = acc ++ dedup acc l := by
  fun_induction dedup acc l with
  | case1 => simp
  | case2 sh h r hm ih => rw [List.foldl_cons, setAdd_of_mem _ _ hm, ih]
  | case3 sh h r hm ih => rw [List.foldl_cons, setAdd_new _ _ hm, ih, List.append_assoc]; rfl

theorem toSet_eq_firsts {α : Type} [DecidableEq α] (l : List α) : toSet l = Spec.firsts l := by
  rw [toSet, foldl_setAdd_eq, List.nil_append, dedup_nil_eq_firsts]

theorem mem_toSet {α : Type} [DecidableEq α] (l : List α) (x : α) : x ∈ toSet l ↔ x ∈ l := by
  rw [toSet_eq_firsts, mem_firsts]

theorem nodup_toSet {α : Type} [DecidableEq α] (l : List α) : (toSet l).Nodup :=
  toSet_eq_firsts l ▸ nodup_firsts l

theorem rack_known (rfs : List (Nat × Nat)) (hosts : List Host) (h : Host) (hm : h ∈ hosts) :
    h.rack ∈ (mkCfg rfs hosts).racks h.dc := by
  simp only [mkCfg, mem_toSet, List.mem_map, List.mem_filter, decide_eq_true_eq]
  exact ⟨h, ⟨hm, rfl⟩, rfl⟩

theorem mem_indexed {α : Type} (l : List α) (p : Nat × α) (hp : p ∈ indexed l) :
    ∃ (h : p.1 < l.length), l[p.1] = p.2 := by
  unfold indexed at hp
  obtain ⟨i, hi, he⟩ := List.mem_iff_getElem.mp hp
  simp only [List.length_zip, List.length_range, Nat.min_self] at hi
  rw [List.getElem_zip] at he
  simp only [List.getElem_range] at he
  subst he
  exact ⟨hi, rfl⟩

theorem indexed_length {α : Type} (l : List α) : (indexed l).length = l.length := by simp [indexed]

theorem indexed_map_snd {α : Type} (l : List α) : (indexed l).map (·.2) = l := by
  unfold indexed
  exact List.map_snd_zip (by simp)

end C10Nts
