import Proofs.C12Heap
/-!
C12, OWNERSHIP of what crosses gocql.Marshal / gocql.Unmarshal (the heap machine of Model/MarshalHeap.lean).

FULL STATEMENT of the sub-property: the bytes Marshal returned for a value are the specification's encoding
of THAT value for as long as somebody holds them — conn.go encodes every bind value of a statement / of all
statements of a batch before it writes the frame, applications keep results — however many Marshal and
Unmarshal calls of whatever types and sizes run afterwards, on whatever goroutine, and whatever the callers do
to their own inputs afterwards; and a decoded value stays the value when the caller recycles the data buffer.

That holds for the memory discipline of the code that exists (`fresh`: a new buffer per result slice —
`&bytes.Buffer{}` per marshalList / marshalMap call, `make` / `append` to a nil slice elsewhere, copies in the
decoders): theorems below, for ALL op sequences and every function table. One exception is part of the code that
exists and is stated as such: the ZERO-COPY paths (`case []byte: return v, nil` of marshalVarchar / marshalUUID,
`To4()` / `To16()` of a net.IP in marshalInet) hand the caller's own slice back when it is bound to the column
itself — such a result is, by construction, a view of the caller's buffer (`C12_passthrough_is_input`,
`C12_passthrough_witness`); the hypothesis `sl.pass = false` of `C12_held_intact` excludes exactly these.
It does not hold for every discipline: kernel-checked counterexamples for a pooled-and-returned scratch buffer
(`C12_cex_pooled_collection`, the replay input of op `held`) and for decoded byte slices that alias the data
buffer (`C12_cex_alias_data`).
-/
namespace C12
open MarshalHeap
open ValueSpec (Bytes CqlTy)
open Marshal

/-- **Held results are never modified by later operations.** For every table of calls (any encoder /
    decoder), every op sequence (hold / drop / callers scribbling over their inputs; any number, kinds, sizes):
    a result that is held at the end and did not come through the zero-copy path shows exactly the byte
    slices its call returned, and these are what the table gives for the slot's argument — independent of
    everything that ran in between. -/
theorem C12_held_intact {α : Type} (S : Sig α) (ops : List (Op α)) (k : Nat) (sl : Slot α)
    (h : (run .fresh S ops).lookup k = some sl) (hp : sl.pass = false) :
    S.F sl.arg = some sl.want ∧ (run .fresh S ops).heap.reads sl.res = sl.want :=
  have hok := (good_run S ops).ok k sl (mem_of_lookupSlot h)
  ⟨hok.value, (hok.copied hp).2⟩

/-- op `c` answers with the table's value for that slot's own argument -/
theorem C12_chk_spec {α : Type} (S : Sig α) (ops : List (Op α)) (k : Nat) (sl : Slot α)
    (h : (run .fresh S ops).lookup k = some sl) (hp : sl.pass = false) :
    (run .fresh S ops).chk k = S.F sl.arg := by
  have ⟨h1, h2⟩ := C12_held_intact S ops k sl h hp
  simp [St.chk, h, h2, h1]

/-- **… whatever runs later.** A slot that holds `sl` after `ops₁` holds the same slices with the same bytes
    after any continuation `ops₂` that does not itself re-use or drop that slot. -/
theorem C12_held_stable {α : Type} (S : Sig α) (ops₁ ops₂ : List (Op α)) (k : Nat) (sl : Slot α)
    (h : (run .fresh S ops₁).lookup k = some sl) (hp : sl.pass = false)
    (hn : ∀ op ∈ ops₂, op.touches k = false) :
    (run .fresh S (ops₁ ++ ops₂)).lookup k = some sl ∧
    (run .fresh S (ops₁ ++ ops₂)).heap.reads sl.res = (run .fresh S ops₁).heap.reads sl.res := by
  have hl : (run .fresh S (ops₁ ++ ops₂)).lookup k = some sl := by
    unfold run; rw [List.foldl_append]
    rw [lookup_foldl .fresh S k ops₂ hn]; exact h
  exact ⟨hl, by rw [(C12_held_intact S _ k sl hl hp).2, (C12_held_intact S _ k sl h hp).2]⟩

/-- **Marshal and Unmarshal do not write to their callers' memory** (nor keep it): whatever calls run later
    (any number; no `mutIn` by the caller itself), the input buffers of a held slot — in fact every buffer
    that existed — show the same bytes. -/
theorem C12_input_untouched {α : Type} (S : Sig α) (ops₁ ops₂ : List (Op α)) (k : Nat) (sl : Slot α)
    (h : (run .fresh S ops₁).lookup k = some sl) (hn : ∀ op ∈ ops₂, op.isMut = false) :
    (run .fresh S (ops₁ ++ ops₂)).heap.reads sl.inp = (run .fresh S ops₁).heap.reads sl.inp := by
  have hid := ((good_run S ops₁).ok k sl (mem_of_lookupSlot h)).inputs
  apply reads_congr
  intro w hw
  unfold run; rw [List.foldl_append]
  exact buf_foldl_noMut S ops₂ hn _ _ (hid w hw)

/-- the zero-copy paths: such a result IS a sub-slice of the slot's own input buffer (so it shows whatever
    the caller's buffer shows), never of anybody else's -/
theorem C12_passthrough_is_input {α : Type} (S : Sig α) (ops : List (Op α)) (k : Nat) (sl : Slot α)
    (h : (run .fresh S ops).lookup k = some sl) (hp : sl.pass = true) :
    ∃ i off n, S.pass sl.arg = some (i, off, n) ∧ sl.res = [(sl.inp.getD i ⟨0, 0, 0⟩).sub off n] :=
  ((good_run S ops).ok k sl (mem_of_lookupSlot h)).view hp

/-- **The instance the driver answers op `held` / `conn` with** (`callSig`: Marshal / Unmarshal as the
    SPECIFICATION defines them): a held Marshal result that is not a zero-copy view reads `specEnc (interp g)` of
    its own value; a held decoded value's byte slices are those of `representAny (specDec data)`. -/
theorem C12_held_marshal_spec (ops : List (Op Call)) (k : Nat) (sl : Slot Call)
    (h : (run .fresh callSig ops).lookup k = some sl) :
    (∀ p t g, sl.arg = .enc p t g → passthrough t g = none →
        ∃ b, specEncode p t g = some (some b) ∧ (run .fresh callSig ops).heap.reads sl.res = [b]) ∧
    (∀ p t ty data, sl.arg = .dec p t ty data →
        ∃ v, specDecode p t ty data = some v ∧ (run .fresh callSig ops).heap.reads sl.res = leaves v) := by
  have hg := (good_run callSig ops).ok k sl (mem_of_lookupSlot h)
  refine ⟨fun p t g ha hpass => ?_, fun p t ty data ha => ?_⟩
  · have hp : sl.pass = false := hg.pass_false (by rw [ha]; exact hpass)
    have ⟨h1, h2⟩ := C12_held_intact callSig ops k sl h hp
    rw [ha] at h1
    simp only [callSig] at h1
    split at h1
    · next b hs => exact ⟨b, hs, by rw [h2, ← Option.some.inj h1]⟩
    · cases h1
  · have hp : sl.pass = false := hg.pass_false (by rw [ha]; rfl)
    have ⟨h1, h2⟩ := C12_held_intact callSig ops k sl h hp
    rw [ha] at h1
    simp only [callSig] at h1
    obtain ⟨v, hs, hv⟩ := Option.map_eq_some_iff.mp h1
    exact ⟨v, hs, by rw [h2, ← hv]⟩

/-! ### witnesses (a toy table keeps the kernel computations small: the argument names its own result) -/

/-- argument = (scratch?, zero-copy?, the result bytes); the input buffer is the argument itself -/
def toySig : Sig (Bool × Bool × Bytes) where
  ins := fun a => [a.2.2]
  F := fun a => some [a.2.2]
  pass := fun a => if a.2.1 then some (0, 0, a.2.2.length) else none
  scratch := fun a => a.1

/-- non-vacuity: three results of different kinds held across later calls, a scribbled input, a drop -/
example :
    let s := run .fresh toySig
      [.hold 0 (true, false, [1, 2, 3]), .hold 1 (true, false, [9, 8, 7]), .hold 2 (false, false, [4, 4]),
       .mutIn 0 0xFF, .hold 3 (true, false, [5]), .drop 1]
    s.chk 0 = some [[1, 2, 3]] ∧ s.chk 1 = none ∧ s.chk 2 = some [[4, 4]] ∧ s.chk 3 = some [[5]] ∧
    s.input 0 = some [[0xFE, 0xFD, 0xFC]] := by decide

/-- FULL STATEMENT ("held results stay intact under EVERY memory discipline of Marshal") is false.
    Kernel-checked witness for the pooled-and-returned scratch buffer (`buf := pool.Get(); buf.Reset();
    defer pool.Put(buf); …; return buf.Bytes()`): two collection values, the second assembled while the first
    is still held and not longer than the recycled buffer — the holder of the first reads the bytes of the
    second (a SHORTER one leaves a mixture, a LONGER one makes the buffer grow and leaves the first intact:
    why comparing each result at once, or growing sizes, never show it). Under `fresh` all three stay. -/
theorem C12_cex_pooled_collection :
    (run .pooled toySig [.hold 0 (true, false, [1, 2, 3]), .hold 1 (true, false, [9, 8, 7])]).chk 0 = some [[9, 8, 7]] ∧
    (run .pooled toySig [.hold 0 (true, false, [1, 2, 3]), .hold 1 (true, false, [9, 8])]).chk 0 = some [[9, 8, 3]] ∧
    (run .pooled toySig [.hold 0 (true, false, [1, 2, 3]), .hold 1 (true, false, [7, 7, 7, 7])]).chk 0 = some [[1, 2, 3]] ∧
    (run .pooled toySig [.hold 0 (true, false, [1, 2, 3]), .hold 1 (false, false, [9, 8, 7])]).chk 0 = some [[1, 2, 3]] ∧
    (run .fresh toySig [.hold 0 (true, false, [1, 2, 3]), .hold 1 (true, false, [9, 8, 7])]).chk 0 = some [[1, 2, 3]] := by
  decide

/-- … and for a decoder whose result slices alias the data buffer (`*v = data[a:b]` instead of a copy): the
    caller recycling its data buffer afterwards changes the held decoded value. -/
theorem C12_cex_alias_data :
    let s := run .aliasIn toySig [.hold 0 (false, false, [1, 2, 3]), .mutIn 0 0xFF]
    (s.lookup 0).map (·.want) = some [[1, 2, 3]] ∧ s.chk 0 = some [[0xFE, 0xFD, 0xFC]] := by
  decide

/-- the zero-copy paths of the code that exists, on the real table: a `[]byte` bound to a blob column comes
    back as the caller's own slice (scribbling over it afterwards shows in the held result), the same bytes
    inside a list are copied (the held result stays the specification's encoding) — op `held` replays both. -/
theorem C12_passthrough_witness :
    passthrough .blob (.bytes false false [1, 2, 3]) = some (0, 0, 3) ∧
    passthrough (.list .blob) (.slice false [.bytes false false [1, 2, 3]]) = none ∧
    passthrough .inet (.ip [0, 0, 0, 0, 0, 0, 0, 0, 0, 0, 0xff, 0xff, 10, 0, 0, 1]) = some (0, 12, 4) ∧
    (let s := run .fresh toySig [.hold 0 (false, true, [1, 2, 3]), .mutIn 0 0xFF]
     (s.lookup 0).map (·.want) = some [[1, 2, 3]] ∧ s.chk 0 = some [[0xFE, 0xFD, 0xFC]]) := by
  decide

end C12
