import Proofs.C11Lazy
/-! # C11 — the lazy iterator REFINES the eager one when the up/down state is fixed

`Policies.LIter` (state read at every call) and `TA.pickScan` (state fixed at the `Pick`) describe the same iterator
when nothing changes between the calls: the calls of a lone ROUTED lazy iterator return, one by one, the hosts of the
drained scan of the code (`TA.pickScan`), then nil - or panic exactly where the scan panics. This ties the theorems
about the eager model (`C11_tokenaware_all_states_partial`, the history theorems, `offerit`) to the iterator the model
driver runs. -/
namespace C11
open Policies

/-- the fallback walk drained, in the eager model's own form (`taScan`): the scan of the positions minus what was offered -/
def drainPos (up : Nat → Bool) (used : List Host) (ps : List (Option Host)) : Scan :=
  ⟨minusUsed used (runScan up ps).offered, (runScan up ps).crashed⟩

theorem drainPos_scanPos (up : Nat → Bool) (ps : List (Option Host)) (used : List Host) :
    drainPos up used ps = match scanPos up used ps with
      | (.host x, rest) => ⟨x :: (drainPos up (x :: used) rest).offered, (drainPos up (x :: used) rest).crashed⟩
      | (.done, _) => ⟨[], false⟩
      | (.panic, _) => ⟨[], true⟩ := by
  unfold drainPos
  -- arms of `scanPos`: no position left | a nil position (panic) | the host is returned | it is skipped
  fun_induction scanPos up used ps
  · rfl
  · rfl
  · rename_i h r hc
    simp only [Bool.and_eq_true, Bool.not_eq_true'] at hc
    simp only [runScan, hc.1, if_true, minusUsed, hc.2, Bool.false_eq_true, if_false]
  · rename_i h r hc ih
    rw [← ih]
    by_cases hu : up h.id = true
    · have : used.contains h = true := by simpa [hu] using hc
      simp only [runScan, hu, if_true, minusUsed, this]
    · simp only [runScan, hu, Bool.false_eq_true, if_false]

theorem filter_of_dropWhile {α : Type} (p : α → Bool) (l : List α) :
    l.filter p = match l.dropWhile (fun x => !p x) with
      | [] => []
      | y :: r => y :: r.filter p := by
  induction l with
  | nil => rfl
  | cons a t ih =>
    rw [List.dropWhile_cons, List.filter_cons]
    cases p a
    · exact ih
    · rfl

/-- the sequence a ROUTED lazy iterator (`plain = false`) will still offer when nothing changes: the up replicas still
to be looked at, then the fallback positions minus everything offered -/
def lseq (t : TA) (up : Nat → Bool) (it : LIter) : Scan :=
  let reps := (it.q1 ++ it.q2).filter (fun h => up h.id)
  let fb := drainPos up (it.given ++ reps) (it.fb.getD t.pol.positions)
  ⟨reps ++ fb.offered, fb.crashed⟩

def LWf (it : LIter) : Prop := it.plain = false ∧ (it.fb ≠ none → it.q1 = [] ∧ it.q2 = [])

theorem scanPos_done_rest (up : Nat → Bool) (ps : List (Option Host)) :
    ∀ u r, scanPos up u ps = (.done, r) → r = [] := by
  intro u r h
  fun_induction scanPos up u ps
  · cases h; rfl
  · cases h
  · cases h
  · rename_i ih; exact ih h

theorem fbCall_lseq (t t2 : TA) (up : Nat → Bool) (it : LIter) (hpl : it.plain = false) :
    LWf (fbCall t up it).2.1 ∧
    (fbCall t up it).2.2 = expectedNext (drainPos up it.given (it.fb.getD t.pol.positions)) ∧
    ((fbCall t up it).2.2 ≠ .panic → lseq t2 up (fbCall t up it).2.1 =
      ⟨(drainPos up it.given (it.fb.getD t.pol.positions)).offered.tail,
       (drainPos up it.given (it.fb.getD t.pol.positions)).crashed⟩) := by
  rw [fbCall_iter, fbCall_result]
  simp only [hpl, Bool.false_eq_true, if_false]
  refine ⟨⟨rfl, fun _ => ⟨rfl, rfl⟩⟩, ?_⟩
  have hd := drainPos_scanPos up (it.fb.getD t.pol.positions) it.given
  cases hs : scanPos up it.given (it.fb.getD t.pol.positions) with
  | mk e rest =>
    simp only [hs] at hd
    cases e with
    | host x =>
      have hc : drainPos up (it.given ++ [x]) rest = drainPos up (x :: it.given) rest :=
        congrArg (Scan.mk · _) (minusUsed_congr _ _ _ (fun z => by
          simp only [List.mem_append, List.mem_cons, List.not_mem_nil, false_or, or_comm]))
      exact ⟨by rw [hd]; rfl, fun _ => by
        simp only [lseq, hd, List.append_nil, List.filter_nil, List.nil_append, List.tail_cons, hc, Option.getD_some]⟩
    | done =>
      obtain rfl := scanPos_done_rest up _ it.given rest hs
      exact ⟨by rw [hd]; rfl, fun _ => by
        simp only [lseq, hd, List.append_nil, List.filter_nil, List.tail_nil, Option.getD_some]
        rfl⟩
    | panic => exact ⟨by rw [hd]; rfl, fun hne => absurd rfl hne⟩

theorem lstep (t : TA) (up : Nat → Bool) (it : LIter) (hw : LWf it) :
    LWf (t.nextL up it).2.1 ∧ (t.nextL up it).2.2 = expectedNext (lseq t up it) ∧
    ((t.nextL up it).2.2 ≠ .panic →
      lseq (t.nextL up it).1 up (t.nextL up it).2.1 = ⟨(lseq t up it).offered.tail, (lseq t up it).crashed⟩) := by
  obtain ⟨hpl, hw2⟩ := hw
  have ef := filter_of_dropWhile (fun h : Host => up h.id) (it.q1 ++ it.q2)
  cases hq : (it.q1 ++ it.q2).dropWhile (fun h => !up h.id) with
  | cons y r =>
    -- a queued replica is returned; the fallback iterator does not exist yet
    obtain ⟨q1', q2', e', e⟩ := (nextL_queue t up it).1 y r hq
    have hfb : it.fb = none := by
      cases hf : it.fb with
      | none => rfl
      | some ps =>
        obtain ⟨a, b⟩ := hw2 (by rw [hf]; nofun)
        rw [a, b] at hq
        cases hq
    simp only [hq] at ef
    rw [e]
    refine ⟨⟨hpl, fun h => absurd hfb h⟩, ?_, fun _ => ?_⟩
    · simp only [lseq, ef, expectedNext, List.cons_append]
    · simp only [lseq, ef, e', List.cons_append, List.tail_cons, List.append_assoc, List.nil_append]
  | nil =>
    simp only [hq] at ef
    rw [(nextL_queue t up it).2 hq]
    have hl : lseq t up it = drainPos up it.given (it.fb.getD t.pol.positions) := by
      simp only [lseq, ef, List.append_nil, List.nil_append]
    rw [hl]
    exact fbCall_lseq t _ up it hpl

/-- any number of calls of a lone iterator, nothing changing in between, when every call returns the head of a
sequence `S` that goes with the iterator's state (`R`) and goes on with the tail: the hosts returned are the first `n`
of `S`; the calls end with nil / the panic exactly when `S` is exhausted -/
theorem run_of_step (up : Nat → Bool) (R : TA → LIter → Scan → Prop)
    (hstep : ∀ t it S, R t it S → (t.nextL up it).2.2 = expectedNext S ∧
      ((t.nextL up it).2.2 ≠ .panic → R (t.nextL up it).1 (t.nextL up it).2.1 ⟨S.offered.tail, S.crashed⟩)) (n : Nat) :
    ∀ (t : TA) (it : LIter) (S : Scan), R t it S →
    (t.nextLN up it n).2.2.1 = S.offered.take n ∧
    (n ≤ S.offered.length → (t.nextLN up it n).2.2.2 = none) ∧
    (S.offered.length < n → (t.nextLN up it n).2.2.2 = some (if S.crashed then .panic else .done)) := by
  intro t it S hR
  fun_induction TA.nextLN t up it n generalizing S with
  | case1 t it => exact ⟨by simp, fun _ => rfl, fun h => absurd h (Nat.not_lt_zero _)⟩
  | case2 t it n t1 it1 x heq r ih =>
    obtain ⟨hnext, hrest⟩ := hstep t it S hR
    rw [heq] at hnext hrest
    cases hoff : S.offered with
    | nil => simp only [expectedNext, hoff] at hnext; split at hnext <;> cases hnext
    | cons y rest =>
      simp only [expectedNext, hoff, Next.host.injEq] at hnext
      subst hnext
      have hR' := hrest (fun h => nomatch h)
      rw [hoff] at hR'
      obtain ⟨i1, i2, i3⟩ := ih _ hR'
      simp only [List.tail_cons] at i1 i2 i3
      exact ⟨by simp only [List.take_succ_cons, i1, r], fun h => i2 (by simpa using h), fun h => i3 (by simpa using h)⟩
  | case3 t it n t1 it1 e hne heq =>
    obtain ⟨hnext, _⟩ := hstep t it S hR
    rw [heq] at hnext
    cases hoff : S.offered with
    | cons y rest => simp only [expectedNext, hoff] at hnext; exact (hne y hnext).elim
    | nil =>
      simp only [expectedNext, hoff] at hnext
      exact ⟨by simp, fun h => by simp at h, fun _ => by rw [hnext]⟩

theorem remoteWalk_true_filter (up : Nat → Bool) (bs : List (List Host)) :
    (remoteWalk (fun _ => true) bs).filter (fun h => up h.id) = remoteWalk up bs := by
  induction bs with
  | nil => rfl
  | cons b r ih =>
    simp only [remoteWalk, List.filter_append, ih, List.filter_filter, Bool.and_true]

theorem localReplicas_true_filter (tier : Host → Nat) (up : Nat → Bool) (reps : List Host) :
    (localReplicas tier (fun _ => true) reps).filter (fun h => up h.id) = localReplicas tier up reps := by
  unfold localReplicas
  rw [List.filter_filter]
  apply List.filter_congr
  intro x _
  simp [Bool.and_comm]

/-- the replicas a lazy iterator queues at its `Pick` (the state not yet looked at), filtered by the state, are the
replica phases of the eager model -/
theorem queued_filter (tier : Host → Nat) (m : Nat) (up : Nat → Bool) (nl : Bool) (reps : List Host) :
    (localReplicas tier (fun _ => true) reps ++
      (if nl then remoteWalk (fun _ => true) (remoteBuckets tier m reps) else [])).filter (fun h => up h.id) =
      taHead tier m up nl reps := by
  rw [List.filter_append, localReplicas_true_filter]
  unfold taHead
  congr 1
  split
  · exact remoteWalk_true_filter up _
  · rfl

/-- THE LAZY ITERATOR REFINES THE EAGER ONE (routed queries): in ANY policy state, for any up/down assignment that
stays fixed, any shuffle and any query that has a replica list, `n` calls of the iterator as the code runs it (state
read at every call) return the first `n` hosts of the drained scan `TA.pickScan` of the eager model - to which
`C11_tokenaware_all_states_partial`, the history theorems and `offerit` apply -, none of them the end marker while
hosts are left, then nil, or the panic exactly if the scan panics. -/
theorem C11_lazy_refines_eager (t : TA) (up : Nat → Bool) (σ : List Host → List Host) (ks tok : Nat)
    (l : List Host) (ft : Bool) (hr : t.replicasFor ks tok = .hosts l ft) (n : Nat) :
    let S := t.pickScan up σ (some (ks, tok))
    let r := (t.openL σ (some (ks, tok))).1.nextLN up (t.openL σ (some (ks, tok))).2 n
    r.2.2.1 = S.offered.take n ∧
    (n ≤ S.offered.length → r.2.2.2 = none) ∧
    (S.offered.length < n → r.2.2.2 = some (if S.crashed then .panic else .done)) := by
  intro S r
  have hwf : LWf (t.openL σ (some (ks, tok))).2 := by
    simp only [TA.openL, hr]
    exact ⟨rfl, fun h => absurd rfl h⟩
  have hseq : lseq (t.openL σ (some (ks, tok))).1 up (t.openL σ (some (ks, tok))).2 = S := by
    show _ = t.pickScan up σ (some (ks, tok))
    simp only [TA.openL, hr, lseq, queued_filter, TA.pickScan, taScan]
    rfl
  refine run_of_step up (fun t it S => LWf it ∧ lseq t up it = S) ?_ n _ _ S ⟨hwf, hseq⟩
  rintro t it S ⟨hw, rfl⟩
  obtain ⟨h1, h2, h3⟩ := lstep t up it hw
  exact ⟨h2, fun h => ⟨h1, h3 h⟩⟩

/-- non-vacuity: replicas a, c of token 50, c down: three calls return a, b, d; the fourth nil -/
example :
    (cexTAok.pickScan (fun i => i != 3) id (some (0, 50))).offered = [cexA', cexB', cexD'] ∧
    ((cexTAok.openL id (some (0, 50))).1.nextLN (fun i => i != 3) (cexTAok.openL id (some (0, 50))).2 4).2.2 =
      ([cexA', cexB', cexD'], some Next.done) := by
  decide

theorem runScan_scanPos (up : Nat → Bool) (ps : List (Option Host)) :
    runScan up ps = match scanPos up [] ps with
      | (.host x, rest) => ⟨x :: (runScan up rest).offered, (runScan up rest).crashed⟩
      | (.done, _) => ⟨[], false⟩
      | (.panic, _) => ⟨[], true⟩ := by
  induction ps with
  | nil => rfl
  | cons a t ih =>
    cases a with
    | none => rfl
    | some y =>
      rw [runScan, scanPos]
      cases up y.id
      · exact ih
      · rfl

def PWf (it : LIter) (ps : List (Option Host)) : Prop := it.plain = true ∧ it.q1 = [] ∧ it.q2 = [] ∧ it.fb = some ps

theorem pstep (t : TA) (up : Nat → Bool) (it : LIter) (ps : List (Option Host)) (hw : PWf it ps) :
    (t.nextL up it).2.2 = expectedNext (runScan up ps) ∧
    ((t.nextL up it).2.2 ≠ .panic → ∃ ps', PWf (t.nextL up it).2.1 ps' ∧
      runScan up ps' = ⟨(runScan up ps).offered.tail, (runScan up ps).crashed⟩) := by
  obtain ⟨h1, h2, h3, h4⟩ := hw
  rw [(nextL_queue t up it).2 (by rw [h2, h3]; rfl), fbCall_iter, fbCall_result]
  simp only [h1, h4, if_true, Option.getD_some]
  have hd := runScan_scanPos up ps
  cases hs : scanPos up [] ps with
  | mk e rest =>
    simp only [hs] at hd
    cases e with
    | host x => exact ⟨by rw [hd]; rfl, fun _ => ⟨rest, ⟨rfl, rfl, rfl, rfl⟩, by rw [hd]; rfl⟩⟩
    | done =>
      obtain rfl := scanPos_done_rest up ps [] rest hs
      exact ⟨by rw [hd]; rfl, fun _ => ⟨[], ⟨rfl, rfl, rfl, rfl⟩, by rw [hd]; rfl⟩⟩
    | panic => exact ⟨by rw [hd]; rfl, fun hne => absurd rfl hne⟩

/-- THE LAZY ITERATOR REFINES THE EAGER ONE, queries handed to the fallback policy as they are (no routing key, no token
ring, empty ring): the calls return the hosts of the fallback policy's drained scan -/
theorem C11_lazy_refines_eager_plain (t : TA) (up : Nat → Bool) (σ : List Host → List Host) (rk : Option (Nat × Nat))
    (hplain : (t.openL σ rk).2 = ⟨[], [], [], some t.pol.positions, true⟩) (n : Nat) :
    let S := t.pol.pickScan up
    let r := (t.openL σ rk).1.nextLN up (t.openL σ rk).2 n
    r.2.2.1 = S.offered.take n ∧
    (n ≤ S.offered.length → r.2.2.2 = none) ∧
    (S.offered.length < n → r.2.2.2 = some (if S.crashed then .panic else .done)) := by
  intro S r
  have hw : PWf (t.openL σ rk).2 t.pol.positions := by rw [hplain]; exact ⟨rfl, rfl, rfl, rfl⟩
  exact run_of_step up (fun _ it S => ∃ ps, PWf it ps ∧ runScan up ps = S)
    (fun t it S ⟨ps, hw, e⟩ => e ▸ pstep t up it ps hw) n _ _ S ⟨_, hw, rfl⟩

example : (cexTAok.openL id none).2 = ⟨[], [], [], some cexTAok.pol.positions, true⟩ := rfl

end C11
