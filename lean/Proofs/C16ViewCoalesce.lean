import Model.ClusterView
import Proofs.C16Ring
/-! `hasKey` on the pool map; the coalescing loop of `handleNodeEvent` keeps, per address, the LAST status; the event buffer in
closed form (`debounced_eq`: the first `eventBufferSize` frames of a window, `recvBuffer_eq`: in wire order) -/
namespace C16
open Ring ClusterView

/-- specification: the last STATUS_CHANGE event of address `a` in the batch (none if there is none) -/
def lastStatus : List Ev → Nat → Option Change
  | [], _ => none
  | .topology :: t, a => lastStatus t a
  | .status c a' :: t, a =>
    match lastStatus t a with
    | some c' => some c'
    | none => if a' = a then some c else none

theorem hasKey_iff {β : Type} (m : List (Nat × β)) (k : Nat) : hasKey m k = true ↔ k ∈ keys m := by
  simp only [hasKey, keys, List.any_eq_true, List.mem_map]
  constructor
  · rintro ⟨e, he, h⟩; exact ⟨e, he, by simpa using h⟩
  · rintro ⟨e, he, h⟩; exact ⟨e, he, by simpa using h⟩

theorem hasKey_false_iff {β : Type} (m : List (Nat × β)) (k : Nat) : hasKey m k = false ↔ k ∉ keys m := by
  rw [← hasKey_iff]; simp

theorem hasKey_poolAdd (m : List (Nat × RHost)) (h : RHost) (k : Nat) :
    hasKey (poolAdd m h) k = true ↔ hasKey m k = true ∨ k = h.id := by
  unfold poolAdd
  by_cases hc : hasKey m h.id = true
  · rw [if_pos hc]
    exact ⟨Or.inl, fun h' => h'.elim id fun e => e ▸ hc⟩
  · rw [if_neg hc]
    simp only [hasKey, List.any_append, List.any_cons, List.any_nil, Bool.or_false, Bool.or_eq_true, beq_iff_eq]
    exact or_congr Iff.rfl eq_comm

theorem hasKey_erase (m : List (Nat × RHost)) (k k' : Nat) :
    hasKey (erase m k) k' = true ↔ hasKey m k' = true ∧ k' ≠ k := by
  rw [hasKey_iff, hasKey_iff, mem_keys_erase]

theorem lookup_append {β : Type} (m n : List (Nat × β)) (k : Nat) :
    lookup (m ++ n) k = match lookup m k with | some v => some v | none => lookup n k := by
  simp only [lookup, List.find?_append]
  cases List.find? (fun e => e.1 == k) m <;> simp

theorem coalesceStep_status (m : List (Nat × Change)) (c : Change) (a : Nat) :
    coalesceStep m (.status c a) =
      if hasKey m a then m.map (fun e => if e.1 == a then (a, c) else e) else m ++ [(a, c)] := rfl

theorem lookup_coalesceStep (m : List (Nat × Change)) (c : Change) (a' a : Nat) :
    lookup (coalesceStep m (.status c a')) a = if a' = a then some c else lookup m a := by
  rw [coalesceStep_status]
  by_cases hk : hasKey m a' = true
  · rw [if_pos hk, lookup_setVal]
    by_cases h : a' = a
    · subst h
      cases hl : lookup m a' with
      | none => exact absurd ((hasKey_iff m a').mp hk) ((lookup_eq_none m a').mp hl)
      | some v => simp
    · simp [h, Ne.symm h]
  · rw [if_neg hk, lookup_append]
    have hk' : a' ∉ keys m := (hasKey_false_iff m a').mp (by simpa using hk)
    by_cases h : a' = a
    · subst h
      have : lookup m a' = none := (lookup_eq_none m a').mpr hk'
      rw [this]
      simp [lookup]
    · cases hl : lookup m a with
      | some v => simp [h]
      | none => simp [h, lookup]

theorem lookup_foldl_coalesce (b : List Ev) : ∀ (m : List (Nat × Change)) (a : Nat),
    lookup (b.foldl coalesceStep m) a = match lastStatus b a with | some c => some c | none => lookup m a := by
  induction b with
  | nil => intro m a; simp [lastStatus]
  | cons e t ih =>
    intro m a
    simp only [List.foldl_cons]
    rw [ih]
    cases e with
    | topology => simp [coalesceStep, lastStatus]
    | status c a' =>
      simp only [lastStatus]
      cases lastStatus t a with
      | some c' => rfl
      | none =>
        simp only [lookup_coalesceStep]
        by_cases h : a' = a <;> simp [h]

theorem lookup_coalesce (b : List Ev) (a : Nat) : lookup (coalesce b) a = lastStatus b a := by
  unfold coalesce
  rw [lookup_foldl_coalesce]
  cases lastStatus b a <;> simp [lookup]

theorem keys_coalesceStep_nodup (m : List (Nat × Change)) (e : Ev) (h : (keys m).Nodup) :
    (keys (coalesceStep m e)).Nodup := by
  cases e with
  | topology => exact h
  | status c a =>
    rw [coalesceStep_status]
    by_cases hk : hasKey m a = true
    · rw [if_pos hk, keys_setVal]; exact h
    · rw [if_neg hk]
      have hk' : a ∉ keys m := (hasKey_false_iff m a).mp (by simpa using hk)
      simp only [keys, List.map_append, List.map_cons, List.map_nil]
      rw [List.nodup_append]
      refine ⟨h, by simp, ?_⟩
      intro x hx y hy
      simp only [List.mem_singleton] at hy
      subst hy
      intro heq; subst heq; exact hk' hx

theorem keys_coalesce_nodup (b : List Ev) : (keys (coalesce b)).Nodup :=
  foldl_inv (fun m => (keys m).Nodup) _ keys_coalesceStep_nodup b [] List.nodup_nil

theorem perm_of_lookup_eq {β : Type} (l1 l2 : List (Nat × β)) (h1 : (keys l1).Nodup) (h2 : (keys l2).Nodup)
    (h : ∀ a, lookup l1 a = lookup l2 a) : l1.Perm l2 := by
  -- distinct keys, distinct entries
  have nd : ∀ l : List (Nat × β), (keys l).Nodup → l.Nodup :=
    fun l hn => (List.pairwise_map.mp hn).imp fun hne e => hne (congrArg (·.1) e)
  rw [List.perm_ext_iff_of_nodup (nd l1 h1) (nd l2 h2)]
  intro e
  constructor
  · exact fun he => find_key_mem ((h e.1).symm.trans (find_key_of_mem h1 he))
  · exact fun he => find_key_mem ((h e.1).trans (find_key_of_mem h2 he))

theorem foldl_debounceAdd_eq (burst : List Ev) : ∀ acc : List Ev,
    burst.foldl debounceAdd acc = acc ++ burst.take (eventBufferSize - acc.length) := by
  induction burst with
  | nil => intro acc; simp
  | cons e t ih =>
    intro acc
    rw [List.foldl_cons, ih]
    unfold debounceAdd
    by_cases hlt : acc.length < eventBufferSize
    · rw [if_pos hlt, List.length_append, List.length_singleton, List.append_assoc, List.singleton_append,
        show eventBufferSize - acc.length = (eventBufferSize - (acc.length + 1)) + 1 by omega, List.take_succ_cons]
    · rw [if_neg hlt, show eventBufferSize - acc.length = 0 by omega]; rfl

theorem debounced_eq (burst : List Ev) : debounced burst = burst.take eventBufferSize := foldl_debounceAdd_eq burst []

theorem lastStatus_replicate (n : Nat) (c : Change) (a : Nat) (hn : 0 < n) : lastStatus (List.replicate n (Ev.status c a)) a = some c := by
  induction n with
  | zero => omega
  | succ k ih =>
    simp only [List.replicate_succ, lastStatus]
    cases k with
    | zero => simp [lastStatus]
    | succ j => rw [ih (by omega)]

theorem lastStatus_append_status (l : List Ev) (c : Change) (a : Nat) : lastStatus (l ++ [Ev.status c a]) a = some c := by
  induction l with
  | nil => simp [lastStatus]
  | cons e t ih =>
    cases e with
    | topology => simp only [List.cons_append, lastStatus]; exact ih
    | status c' a' => simp only [List.cons_append, lastStatus]; rw [ih]

theorem recvBuffer_eq (wire : List WireFrame) : ∀ (acc : List Ev), wire.foldl recvStep acc = (wireEvents wire).foldl debounceAdd acc := by
  induction wire with
  | nil => intro acc; rfl
  | cons f t ih =>
    intro acc
    cases f <;> exact ih _

end C16
