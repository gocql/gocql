import Model.RoutingNames
import Proofs.C09Routing
/-!
# C09 — name / index resolution between partition-key columns and bind markers

`resolve` on the names is `Spec.Resolves` (first marker with exactly that name); the code's loop `byName`, which finds index
and type together, computes `resolve` and the types of the resolved markers; components that are defined give `Encodes`.
Last section: the model of op rkm (`Model/Routing.lean`) is this model at `α := String` on `cols.map ofCol`, one equation
per function, so that the lemmas about markers serve both.
-/
namespace RoutingNames

open Routing (Enc Bytes KeyRes)

variable {α τ ν β : Type} [DecidableEq α]

theorem lookup_mem (k : α) (l : List (α × β)) (v : β) (h : lookup k l = some v) : (k, v) ∈ l := by
  fun_induction lookup k l with
  | case1 => cases h
  | case2 => cases h; exact List.mem_cons_self
  | case3 _ _ _ _ ih => exact List.mem_cons_of_mem _ (ih h)

theorem lookup_none (k : α) : ∀ (l : List (α × β)), lookup k l = none ↔ ∀ p ∈ l, p.1 ≠ k
  | [] => by simp [lookup]
  | (k', v') :: r => by
    unfold lookup
    by_cases hk : k' = k
    · simp [hk]
    · simp [hk, lookup_none k r]

theorem lookup_of_mem (k : α) : ∀ (l : List (α × β)) (v : β), (l.map (·.1)).Nodup → (k, v) ∈ l → lookup k l = some v
  | [], v, _, h => by cases h
  | (k', v') :: r, v, hnd, h => by
    rw [List.map_cons, List.nodup_cons] at hnd
    rcases List.mem_cons.mp h with h | h
    · cases h; simp [lookup]
    · -- an entry further down has another key: the keys are distinct
      have hk : k' ≠ k := fun e => hnd.1 (e ▸ List.mem_map_of_mem (f := (·.1)) h)
      simp only [lookup, hk, if_false]
      exact lookup_of_mem k r v hnd.2 h

/-- `firstIdx` is `List.findIdx?` for the name, counted from `k` -/
theorem firstIdx_eq (n : α) : ∀ (ms : List α) (k : Nat),
    firstIdx n ms k = (ms.findIdx? (fun m => decide (n = m))).map (· + k)
  | [], _ => rfl
  | m :: ms, k => by
    rw [firstIdx, List.findIdx?_cons, firstIdx_eq n ms (k + 1)]
    by_cases h : n = m
    · simp [h]
    · simp only [h, if_false, decide_false, Bool.false_eq_true, Option.map_map]
      congr 1; funext i; simp only [Function.comp_apply]; omega

theorem firstIdx_none (n : α) (ms : List α) (k : Nat) : firstIdx n ms k = none ↔ n ∉ ms := by
  simp only [firstIdx_eq, Option.map_eq_none_iff, List.findIdx?_eq_none_iff, decide_eq_false_iff_not]
  exact ⟨fun h hm => h n hm rfl, fun h x hx e => h (e ▸ hx)⟩

theorem resolve_cons (n : α) (ns ms : List α) :
    resolve (n :: ns) ms =
      match firstIdx n ms 0 with
      | none => none
      | some i =>
        match resolve ns ms with
        | some is => some (i :: is)
        | none => none := by
  rw [resolve]; rfl

theorem firstIdx_iff (n : α) (ms : List α) (i : Nat) :
    firstIdx n ms 0 = some i ↔ ms[i]? = some n ∧ ∀ j, j < i → ms[j]? ≠ some n := by
  simp only [firstIdx_eq, Nat.add_zero, Option.map_id', List.findIdx?_eq_some_iff_getElem, decide_eq_true_eq,
    List.getElem?_eq_some_iff, ne_eq]
  constructor
  · rintro ⟨h, hn, hmin⟩
    exact ⟨⟨h, hn.symm⟩, fun j hj ⟨hj', e⟩ => hmin j hj e.symm⟩
  · rintro ⟨⟨h, hn⟩, hmin⟩
    exact ⟨h, hn.symm, fun j hj e => hmin j hj ⟨by omega, e.symm⟩⟩

omit [DecidableEq α] in
/-- the specification, pointwise: one index per key column; the `k`-th index names the `k`-th key column exactly, and
    is the first to do so -/
theorem resolves_iff (ms : List α) : ∀ (pk : List α) (is : List Nat), Spec.Resolves ms pk is ↔
    is.length = pk.length ∧ ∀ (k : Nat) (n : α) (i : Nat), pk[k]? = some n → is[k]? = some i →
      ms[i]? = some n ∧ ∀ j : Nat, j < i → ms[j]? ≠ some n
  | [], [] => ⟨fun _ => ⟨rfl, fun _ _ _ hn => by simp at hn⟩, fun _ => trivial⟩
  | [], _ :: _ => ⟨False.elim, fun h => by simp at h⟩
  | _ :: _, [] => ⟨False.elim, fun h => by simp at h⟩
  | n :: ns, i :: is => by
    simp only [Spec.Resolves, resolves_iff ms ns is]
    constructor
    · rintro ⟨h0, hl, h⟩
      refine ⟨by simp [hl], fun k n' i' hn hi => ?_⟩
      cases k with
      | zero => cases hn; cases hi; exact h0
      | succ k => exact h k n' i' (by simpa using hn) (by simpa using hi)
    · rintro ⟨hl, h⟩
      exact ⟨h 0 n i rfl rfl, by simpa using hl,
        fun k n' i' hn hi => h (k + 1) n' i' (by simpa using hn) (by simpa using hi)⟩

theorem resolve_none_iff (ms : List α) : ∀ (pk : List α), resolve pk ms = none ↔ ∃ n ∈ pk, n ∉ ms
  | [] => by simp [resolve]
  | n :: ns => by
    -- a key column without marker is the first one, or one of the others
    simp only [List.mem_cons, exists_eq_or_imp, ← firstIdx_none n ms 0, ← resolve_none_iff ms ns, resolve_cons]
    cases firstIdx n ms 0 <;> cases resolve ns ms <;> simp

/-- the loop that finds index and type together finds the index `firstIdx` finds on the names -/
theorem firstBound_fst (n : α) (ms : List (Marker α τ)) (k : Nat) :
    (firstBound n ms k).map (·.1) = firstIdx n (ms.map (·.name)) k := by
  fun_induction firstBound n ms k with
  | case1 => rfl
  | case2 _ _ _ h => simp [firstIdx, h]                        -- found here
  | case3 _ _ _ h ih => simpa [firstIdx, h] using ih          -- further down

/-- …and the type of the marker at that index -/
theorem firstBound_ty (n : α) (ms : List (Marker α τ)) (k i : Nat) (t : τ) (h : firstBound n ms k = some (i, t)) :
    ∃ j, i = j + k ∧ (ms[j]?).map (·.ty) = some t := by
  fun_induction firstBound n ms k with
  | case1 => cases h
  | case2 => cases h; exact ⟨0, by omega, rfl⟩
  | case3 m ms k _ ih =>
    obtain ⟨j, rfl, h3⟩ := ih h
    exact ⟨j + 1, by omega, by simpa using h3⟩

/-- the schema branch of the code = `resolve` on the names… -/
theorem byName_fst (ms : List (Marker α τ)) : ∀ (pk : List α),
    (byName ms pk).map (·.1) = resolve pk (ms.map (·.name))
  | [] => rfl
  | n :: ns => by
    rw [resolve_cons, ← firstBound_fst, ← byName_fst ms ns, byName]
    cases firstBound n ms 0 <;> cases byName ms ns <;> rfl

theorem byName_eq (ms : List (Marker α τ)) : ∀ pk : List α,
    byName ms pk = (resolve pk (ms.map (·.name))).bind fun is => (typesAt ms is).map fun ts => (is, ts)
  | [] => rfl
  | n :: ns => by
    rw [byName, resolve_cons, ← firstBound_fst, byName_eq ms ns]
    cases hf : firstBound n ms 0 with
    | none => rfl
    | some p =>
      obtain ⟨i, t⟩ := p
      obtain ⟨m, hm, hmt⟩ := by simpa using firstBound_ty n ms 0 i t hf
      cases resolve ns (ms.map (·.name)) with
      | none => rfl
      | some is => cases hts : typesAt ms is <;> simp [typesAt, hm, hmt, hts]

/-- …the types being the types of the resolved markers -/
theorem byName_typesAt (ms : List (Marker α τ)) (pk : List α) (is : List Nat) (ts : List τ)
    (h : byName ms pk = some (is, ts)) : typesAt ms is = some ts := by
  rw [byName_eq] at h
  obtain ⟨is', -, h⟩ := Option.bind_eq_some_iff.mp h
  obtain ⟨ts', hts, h⟩ := Option.map_eq_some_iff.mp h
  cases h; exact hts

omit [DecidableEq α] in
theorem encAt_of_component {enc : τ → ν → Enc} {ms : List (Marker α τ)} {vals : List ν} {i : Nat} {c : Bytes}
    (h : Spec.component enc ms vals i = some c) :
    ∃ m, ms[i]? = some m ∧ Routing.encAt enc vals m.ty i = .ok (some c) := by
  -- the one way to a component: a marker, a bound value, and `Marshal` answering bytes
  revert h
  fun_cases Spec.component enc ms vals i with
  | case1 m v hv hm b hb => rintro ⟨⟩; exact ⟨m, hm, by simp [Routing.encAt, hv, hb]⟩
  | _ => nofun

omit [DecidableEq α] in
/-- the components at indexes `is` are `Marshal`'s answers for the values there, with the types of THOSE markers -/
theorem encodes_of_components (enc : τ → ν → Enc) (ms : List (Marker α τ)) (vals : List ν) (is : List Nat)
    (cs : List Bytes) (h : Spec.components enc ms vals is = some cs) :
    ∃ ts, typesAt ms is = some ts ∧ Routing.Encodes enc vals is ts cs := by
  fun_induction Spec.components enc ms vals is generalizing cs with
  | case1 => cases h; exact ⟨[], rfl, .nil⟩
  | case2 i is c cs' hcs hc ih =>
    cases h
    obtain ⟨m, hm, he⟩ := encAt_of_component hc
    obtain ⟨ts, hts, henc⟩ := ih cs' hcs
    exact ⟨m.ty :: ts, by simp [typesAt, hm, hts], .cons he henc⟩
  | _ => cases h

omit [DecidableEq α] in
theorem isEmpty_of_typesAt {ms : List (Marker α τ)} {is : List Nat} {ts : List τ}
    (h : typesAt ms is = some ts) (hne : is ≠ []) : ms.isEmpty = false := by
  cases is with
  | nil => exact absurd rfl hne
  | cons i is => cases ms with
    | nil => simp [typesAt] at h
    | cons _ _ => rfl

omit [DecidableEq α] in
theorem typesAt_length (ms : List (Marker α τ)) (is : List Nat) (ts : List τ) (h : typesAt ms is = some ts) :
    ts.length = is.length := by
  fun_induction typesAt ms is generalizing ts with
  | case1 => cases h; rfl
  | case3 i is m _ ts' hts ih => cases h; simp [ih ts' hts]
  | _ => cases h

/-- the resolved markers carry the components: what the schema branch hands to `createRoutingKey` -/
theorem byName_of_resolve (enc : τ → ν → Enc) (ms : List (Marker α τ)) (vals : List ν)
    {pk : List α} {is : List Nat} {cs : List Bytes} (hres : resolve pk (ms.map (·.name)) = some is)
    (hcomp : Spec.components enc ms vals is = some cs) :
    ∃ ts, byName ms pk = some (is, ts) ∧ Routing.Encodes enc vals is ts cs := by
  obtain ⟨ts, hts, henc⟩ := encodes_of_components enc ms vals _ cs hcomp
  exact ⟨ts, by rw [byName_eq, hres, Option.bind_some, hts]; rfl, henc⟩

/-! ### the model of op rkm (`Model/Routing.lean`, names as `String`) is this model at `α := String` on the markers
`cols.map ofCol`: its loops and its specification are the same functions -/

@[reducible] def ofCol (c : Routing.Col τ) : Marker String τ := ⟨c.name, c.ty⟩

theorem findBound_eq_firstBound (name : String) : ∀ (cols : List (Routing.Col τ)) (k : Nat),
    Routing.findBound name cols k = firstBound name (cols.map ofCol) k
  | [], k => rfl
  | c :: cs, k => by
    simp only [Routing.findBound, List.map_cons, firstBound]
    by_cases h : c.name = name
    · simp [h]
    · have h' : ¬ name = c.name := fun e => h e.symm
      simp [h, h', findBound_eq_firstBound name cs (k + 1)]

theorem byName_eq_routing (cols : List (Routing.Col τ)) : ∀ (names : List String),
    Routing.byName cols names = byName (cols.map ofCol) names
  | [] => rfl
  | n :: ns => by
    simp only [Routing.byName, byName, findBound_eq_firstBound, byName_eq_routing cols ns]
    cases firstBound n (cols.map ofCol) 0 with
    | none => rfl
    | some p => cases byName (cols.map ofCol) ns <;> rfl

theorem typesAt_ofCol (cols : List (Routing.Col τ)) : ∀ is, Routing.typesAt cols is = typesAt (cols.map ofCol) is
  | [] => rfl
  | i :: is => by
    rw [Routing.typesAt, typesAt, typesAt_ofCol cols is, List.getElem?_map]
    cases cols[i]? <;> rfl

theorem component_ofCol (enc : τ → ν → Enc) (cols : List (Routing.Col τ)) (vals : List ν) (i : Nat) :
    Routing.Spec.component enc cols vals i = Spec.component enc (cols.map ofCol) vals i := by
  rw [Routing.Spec.component, Spec.component, List.getElem?_map]
  cases cols[i]? <;> cases vals[i]? <;> rfl

theorem components_ofCol (enc : τ → ν → Enc) (cols : List (Routing.Col τ)) (vals : List ν) :
    ∀ is, Routing.Spec.components enc cols vals is = Spec.components enc (cols.map ofCol) vals is
  | [] => rfl
  | i :: is => by
    simp only [Routing.Spec.components, Spec.components, component_ofCol, components_ofCol enc cols vals is]
    cases Spec.component enc (cols.map ofCol) vals i <;> cases Spec.components enc (cols.map ofCol) vals is <;> rfl

theorem firstMarker_eq (n : String) (cols : List (Routing.Col τ)) :
    Routing.Spec.firstMarker n cols = firstIdx n (cols.map (·.name)) 0 := by
  simp only [firstIdx_eq, Routing.Spec.firstMarker, List.findIdx?_map, Nat.add_zero, Option.map_id', Function.comp_def,
    eq_comm]

theorem componentsByName_eq (enc : τ → ν → Enc) (cols : List (Routing.Col τ)) (vals : List ν) :
    ∀ names, Routing.Spec.componentsByName enc cols vals names =
      (resolve names (cols.map (·.name))).bind (Routing.Spec.components enc cols vals)
  | [] => rfl
  | n :: ns => by
    simp only [Routing.Spec.componentsByName, componentsByName_eq enc cols vals ns, firstMarker_eq, resolve_cons]
    cases firstIdx n (cols.map (·.name)) 0 <;> cases resolve ns (cols.map (·.name)) <;>
      simp [Routing.Spec.components]

theorem rkm_info_typesAt {m : Routing.Meta τ} {schema : Option (List String)} {info : Routing.Info τ}
    (hr : Routing.routingKeyInfo m schema = .info info) :
    typesAt (m.cols.map ofCol) info.indexes = some info.types := by
  revert hr
  fun_cases Routing.routingKeyInfo m schema with
  | case2 _ _ _ _ hts => rintro ⟨⟩; rw [← typesAt_ofCol]; exact hts                             -- pk indexes
  | case5 _ _ _ _ _ hb => rintro ⟨⟩; exact byName_typesAt _ _ _ _ (byName_eq_routing _ _ ▸ hb)   -- schema
  | _ => nofun

end RoutingNames
