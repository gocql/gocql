/- Which requests the builders refuse (panic / error): before the count checks exactly the `Rejectable0` ones
   (`encodeReq0_rejects_iff`), none of which is expressible; the count checks refuse `tooManyR`, which an expressible request passes.
   The two together are `C03_rejected_iff` / `C03_rejected_inexpressible` in Proofs/C03.lean. -/
import Proofs.C03Values
namespace C03
open FrameSpec FrameWrite

theorem isEmpty_iff_len {α : Type} (l : List α) : (!l.isEmpty) = decide (l.length > 0) := by
  cases l <;> simp

theorem askStmt_named (s : GStmt) :
    (bstmtVals (askStmt s)).any (fun x => x.name.isSome) = s.values.any (fun x => decide (x.name ≠ [])) := by
  have hx : ∀ x : GVal, (askVal x).name.isSome = decide (x.name ≠ []) := fun x =>
    Bool.eq_iff_iff.mpr ((askVal_name_isSome x).trans decide_eq_true_iff.symm)
  unfold askStmt
  split <;> simp [bstmtVals, List.any_map, Function.comp_def, hx]

/-- a guarded writer fails exactly when its guard fires, with the guard's error -/
theorem ite_error {ε α : Type} {c : Prop} [Decidable c] {a e : ε} {b : α} :
    (if c then Except.error a else Except.ok b) = .error e ↔ c ∧ a = e := by
  by_cases h : c <;> simp [h]

theorem rejectable_ask (v : Nat) (now : Int) (g : GReq) :
    Rejectable0 v (ask now g) = true ↔
      (((payloadOf g).length > 0 ∧ v < 4) ∨ ∃ e, wBody v now g = .error e) := by
  have h5 : v < 5 ↔ ¬ v > 4 := by omega
  cases g with
  | startup _ | options | authResponse _ | register _ =>
    -- no payload and no guard: both sides are false
    simp only [Rejectable0, ask, payloadOf, wBody, List.length_nil, Nat.lt_irrefl, false_and, reduceCtorEq,
      exists_false, or_self, Bool.false_eq_true, gt_iff_lt]
  | query _ _ _ | prepare _ _ _ | batch _ _ _ _ _ _ _ =>
    -- one guard: the left side from `Rejectable0`, the right from the guard of `wBody` (`ite_error`)
    simp only [Rejectable0, ask, payloadOf, wBody, ite_error, exists_and_left, exists_eq', and_true, askParams,
      Option.isSome_ite', isEmpty_iff_len, askStmt_named, List.any_map, Function.comp_def, Bool.or_eq_true,
      Bool.and_eq_true, decide_eq_true_eq, and_assoc, h5, ne_eq, gt_iff_lt]
  | execute _ _ _ =>
    -- the guard sits under `if v > 1`: EXECUTE under v1 never looks at the keyspace
    simp only [Rejectable0, ask, payloadOf, wBody, askParams, Option.isSome_ite', isEmpty_iff_len, Bool.or_eq_true,
      Bool.and_eq_true, decide_eq_true_eq, and_assoc, h5, ne_eq, gt_iff_lt]
    by_cases hv : 1 < v <;>
      simp only [hv, if_true, if_false, ite_error, exists_and_left, exists_eq', and_true, true_and, false_and,
        reduceCtorEq, exists_false]

/-- the body writers never report ErrFrameTooBig: the only errors in `wBody` are the literals `panicKeyspace` and
    `namedBatch`, so every branch of every writer is refuted by constructor disagreement -/
theorem wBody_not_tooBig {v : Nat} {now : Int} {g : GReq} (h : wBody v now g = .error .frameTooBig) : False := by
  revert h
  fun_cases wBody v now g <;> intro h <;> cases h

theorem encodeReq0_rejects_iff (v : Nat) (tracing : Bool) (stream now : Int) (g : GReq) :
    (∃ e, encodeReq0 v tracing stream now g = .error e ∧ e ≠ .frameTooBig) ↔ Rejectable0 v (ask now g) = true := by
  rw [rejectable_ask]
  unfold encodeReq0
  by_cases hp : (payloadOf g).length > 0 ∧ v < 4
  · simp only [hp, and_self, if_true, true_or, iff_true]
    exact ⟨_, rfl, by simp⟩
  · simp only [hp, if_false, false_or]
    cases hb : wBody v now g with
    | error e => exact ⟨fun _ => ⟨e, rfl⟩, fun _ => ⟨e, rfl, fun he => wBody_not_tooBig (he ▸ hb)⟩⟩
    | ok body =>
      simp only [reduceCtorEq, exists_false, iff_false]
      rintro ⟨e, he, hne⟩
      exact hne (ite_error.mp he).2.symm

/-- the refusals of the builders proper (before the count checks) are never spurious -/
theorem rejected0_inexpressible (v : Nat) (req : Req) (h : Rejectable0 v req = true) : Expressible v req = false := by
  apply Bool.eq_false_iff.mpr
  intro hE
  have hpl : ∀ pl : Payload, reqPayload req = pl → (!pl.isEmpty) = true → v ≥ 4 := fun pl e hne =>
    (payloadOk_iff.mp (e ▸ expressible_payload hE)).1 (by simpa [isEmpty_iff_len] using hne)
  have params : ∀ (p : QParams) (b : Bool), (if v = 1 then paramsOkV1 p b else paramsOk v p) = true → v ≠ 1 →
      p.keyspace.isSome = true → v ≥ 5 := fun p b hp h1 hks => by
    rw [if_neg h1] at hp
    obtain ⟨_, _, _, _, _, _, _, hk⟩ := paramsOk_iff.mp hp
    exact hk hks
  cases req with
  | query s p pl =>
    simp only [Rejectable0, Bool.or_eq_true, Bool.and_eq_true, decide_eq_true_eq] at h
    rcases h with ⟨hne, hv⟩ | ⟨⟨hv1, hks⟩, hv5⟩
    · have := hpl pl rfl hne; omega
    · have := params p _ (expressible_query_iff.mp hE).2.2 hv1 hks; omega
  | execute s p pl =>
    simp only [Rejectable0, Bool.or_eq_true, Bool.and_eq_true, decide_eq_true_eq] at h
    rcases h with ⟨hne, hv⟩ | ⟨⟨hv1, hks⟩, hv5⟩
    · have := hpl pl rfl hne; omega
    · have := params p _ (expressible_execute_iff.mp hE).2.2 (by omega) hks; omega
  | prepare s ks pl =>
    simp only [Rejectable0, Bool.or_eq_true, Bool.and_eq_true, decide_eq_true_eq] at h
    rcases h with ⟨hne, hv⟩ | ⟨hks, hv5⟩
    · have := hpl pl rfl hne; omega
    · obtain ⟨_, _, _, hk⟩ := expressible_prepare_iff.mp hE; have := hk hks; omega
  | batch typ stmts cons ser ts ks pl =>
    simp only [Rejectable0, Bool.or_eq_true, Bool.and_eq_true, decide_eq_true_eq, List.any_eq_true] at h
    rcases h with ⟨hne, hv⟩ | ⟨hv2, st, hst1, x, hx1, hx2⟩
    · have := hpl pl rfl hne; omega
    · -- the entry's values are all unnamed
      obtain ⟨_, _, _, hst, _⟩ := expressible_batch_iff.mp hE
      have hv := bstmtOk_values (hst st hst1)
      have := ((valuesOk_iff.mp hv).2.resolve_right fun h => nomatch h.1.1) x hx1
      simp [this] at hx2
  | _ => simp [Rejectable0] at h

/-! ## the count checks: more than 65535 values / batch entries are refused (KF-C03-5 / KF-C03-6) -/

theorem tooManyR_ask (now : Int) (g : GReq) : tooManyR (ask now g) = tooManyG g := by
  cases g with
  | query s p pl => simp [tooManyR, tooManyG, ask, askParams]
  | execute id p pl => simp [tooManyR, tooManyG, ask, askParams]
  | batch typ stmts cons ser dts tsv pl =>
    have hx : ∀ s : GStmt, (bstmtVals (askStmt s)).length = s.values.length := by
      intro s; unfold askStmt; split <;> simp [bstmtVals]
    simp [tooManyR, tooManyG, ask, List.any_map, Function.comp_def, hx]
  | _ => rfl

theorem valuesOk_len (v : Nat) (b : Bool) (l : List NVal) (h : valuesOk v b l = true) : l.length ≤ 65535 :=
  (valuesOk_iff.mp h).1.1

theorem paramsOkV1_len (p : QParams) (b : Bool) (h : paramsOkV1 p b = true) : p.values.length ≤ 65535 := by
  obtain ⟨_, _, hv⟩ := paramsOkV1_iff.mp h
  cases b
  · simp [List.isEmpty_iff.mp hv]
  · exact valuesOk_len _ _ _ hv

theorem expressible_not_tooManyR (v : Nat) (r : Req) (h : Expressible v r = true) : tooManyR r = false := by
  have params : ∀ (p : QParams) (b : Bool), (if v = 1 then paramsOkV1 p b else paramsOk v p) = true →
      p.values.length ≤ 65535 := fun p b hp => by
    split at hp
    · exact paramsOkV1_len _ _ hp
    · exact valuesOk_len v true _ (paramsOk_iff.mp hp).2.1
  cases r with
  | query s p pl => have := params p _ (expressible_query_iff.mp h).2.2; simp [tooManyR]; omega
  | execute s p pl => have := params p _ (expressible_execute_iff.mp h).2.2; simp [tooManyR]; omega
  | batch typ stmts cons ser ts ks pl =>
    obtain ⟨_, _, hn, hst, _⟩ := expressible_batch_iff.mp h
    simp only [tooManyR, Bool.or_eq_false_iff, decide_eq_false_iff_not, List.any_eq_false, decide_eq_true_eq]
    exact ⟨by omega, fun s hs => by have := valuesOk_len _ _ _ (bstmtOk_values (hst s hs)); omega⟩
  | _ => rfl

end C03
