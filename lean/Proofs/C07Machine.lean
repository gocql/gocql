import Proofs.C07Wire
import Proofs.Common
/-!
  Facts about the machine of `Model/Writer.lean` that need no invariant of the reachable states. Three notions are
  introduced: `step` as guarded commands (`Step`), the ledger of the wire against the control states (`Acct`), the
  control-flow graph of one writer (`Pc.Next`).
-/
namespace Writer

theorem isRun (cfg : Cfg) : IsRun (step cfg) (run cfg) :=
  ⟨fun _ => rfl, fun s a as => by rw [run]; cases step cfg s a <;> rfl⟩

/-- along a schedule whose actions are all of a kind `A`: a property whose step lemma needs an invariant `I` of the machine;
    `I` is carried along -/
theorem run_with_of {cfg : Cfg} {I P : St → Prop} {A : Act → Prop} (hI : ∀ s s' a, I s → step cfg s a = some s' → I s')
    (hstep : ∀ {s a s'}, A a → I s → P s → step cfg s a = some s' → P s') {as : List Act} {s s' : St}
    (hA : ∀ a ∈ as, A a) (hi : I s) (h : P s) (hr : run cfg s as = some s') : P s' :=
  ((isRun cfg).inv_of (P := fun t => I t ∧ P t)
    (fun t t' a ha ⟨hi, h⟩ hs => ⟨hI t t' a hi hs, hstep ha hi h hs⟩) hA ⟨hi, h⟩ hr).2

theorem run_with {cfg : Cfg} {I P : St → Prop} (hI : ∀ s s' a, I s → step cfg s a = some s' → I s')
    (hstep : ∀ {s a s'}, I s → P s → step cfg s a = some s' → P s') {as : List Act} {s s' : St} :
    I s → P s → run cfg s as = some s' → P s' :=
  run_with_of (A := fun _ => True) hI (fun _ => hstep) fun _ _ => trivial

/-- `step` as guarded commands, one rule per way an action can fire: `Step cfg s a s'` iff `step cfg s a = some s'` -/
inductive Step (cfg : Cfg) (s : St) : Act → St → Prop
  | submit {w} (hw : s.pc w = .idle) : Step cfg s (.submit w) { s with pc := setPc s.pc w .waiting }
  | cancel {w} (hw : s.pc w = .waiting) : Step cfg s (.cancel w) { s with pc := setPc s.pc w .cancelled }
  | enqueue {w} (hg : cfg.coalesce = true ∧ s.pc w = .waiting ∧ s.flushing = false ∧ s.gone = false) :
      Step cfg s (.enqueue w) { s with pc := setPc s.pc w .queued, queue := s.queue ++ [w] }
  | tick (hg : cfg.coalesce = true ∧ s.flushing = false ∧ s.queue ≠ [] ∧ s.gone = false) :
      Step cfg s .tick { s with flushing := true, todo := s.queue, queue := [] }
  | enter {w} (hg : (cfg.serialised = true → s.owner = none) ∧
        ((cfg.coalesce = false ∧ s.pc w = .waiting) ∨
         (cfg.coalesce = true ∧ s.pc w = .queued ∧ s.flushing = true ∧ w ∈ s.todo))) :
      Step cfg s (.enter w)
        { s with pc := setPc s.pc w (.inWrite 0), owner := some w, todo := s.todo.filter (· ≠ w) }
  | piece {w k off} (hw : s.pc w = .inWrite off) (hg : 0 < k ∧ off + k ≤ cfg.lens w ∧ s.closed = false) :
      Step cfg s (.piece w k) { s with wire := s.wire ++ [⟨w, off, k⟩], pc := setPc s.pc w (.inWrite (off + k)) }
  | endWrite {w ok off} (hw : s.pc w = .inWrite off) (hg : ok = true → off = cfg.lens w) :
      Step cfg s (.endWrite w ok)
        { s with
          pc := setPc (if (cfg.coalesce && !ok) = true then setMany s.pc s.todo (.wrote 0 false) else s.pc) w
            (.wrote off (ok || (cfg.coalesce && off == cfg.lens w))),
          owner := none,
          todo := if (cfg.coalesce && !ok) = true then [] else s.todo,
          flushing := if (cfg.coalesce && (!ok || s.todo.isEmpty)) = true then false else s.flushing }
  | quit {w} (hg : (s.quit = true ∧ s.pc w = .waiting) ∨ (s.gone = true ∧ s.pc w = .queued ∧ w ∉ s.todo)) :
      Step cfg s (.quit w) { s with pc := setPc s.pc w (.wrote 0 false), queue := s.queue.filter (· ≠ w) }
  | retCancelled {w} (hw : s.pc w = .cancelled) : Step cfg s (.ret w) { s with pc := setPc s.pc w (.done 0 false) }
  | retOk {w n} (hw : s.pc w = .wrote n true) : Step cfg s (.ret w) { s with pc := setPc s.pc w (.done n true) }
  | retFailed {w n} (hw : s.pc w = .wrote n false) : Step cfg s (.ret w) { s with pc := setPc s.pc w (.failing n) }
  | close {w n} (hw : s.pc w = .failing n) :
      Step cfg s (.close w)
        { s with pc := setPc s.pc w (if s.closing = true then .done n false else .closer n), closing := true }
  | closeFinish {w n} (hw : s.pc w = .closer n) (hq : s.quit = true) :
      Step cfg s (.closeFinish w) { s with pc := setPc s.pc w (.done n false), closed := true }
  | shutdown : Step cfg s .shutdown { s with closing := true, closed := true, quit := true, ext := false }
  | cancelCtx {w n} (hw : s.pc w = .closer n) : Step cfg s (.cancelCtx w) { s with quit := true }
  | shutQuit (hc : s.closing = false) : Step cfg s .shutQuit { s with closing := true, quit := true, ext := true }
  | flusherQuit (hg : cfg.coalesce = true ∧ s.quit = true ∧ s.flushing = false ∧ s.gone = false)
      (hf : ¬cfg.flushOnQuit = true) : Step cfg s .flusherQuit { s with gone := true }
  | flusherQuitFlush (hg : cfg.coalesce = true ∧ s.quit = true ∧ s.flushing = false ∧ s.gone = false)
      (hf : cfg.flushOnQuit = true) :
      Step cfg s .flusherQuit { s with gone := true, flushing := !s.queue.isEmpty, todo := s.queue, queue := [] }

theorem Step.of_step {cfg : Cfg} {s s' : St} {a : Act} (hs : step cfg s a = some s') : Step cfg s a s' := by
  -- one case per branch of `step`, its guards in the context: a branch that fires is a rule, the others give `none`
  revert hs
  fun_cases step cfg s a <;> intro hs <;> cases hs <;> constructor <;> assumption

theorem Step.to_step {cfg : Cfg} {s s' : St} {a : Act} (h : Step cfg s a s') : step cfg s a = some s' := by
  cases h with
  | shutdown => rfl
  | submit hg | cancel hg | enqueue hg | tick hg | enter hg | quit hg | shutQuit hg => exact if_pos hg
  | piece hw hg | endWrite hw hg | closeFinish hw hg => simp only [step, hw]; exact if_pos hg
  | retCancelled hw | retOk hw | retFailed hw | close hw | cancelCtx hw => simp only [step, hw]
  | flusherQuit hg hf => simp only [step]; rw [if_pos hg, if_neg hf]
  | flusherQuitFlush hg hf => simp only [step]; rw [if_pos hg, if_pos hf]

theorem setPc_same {pc : Nat → Pc} {w : Nat} {v : Pc} : setPc pc w v w = v := by simp [setPc]
theorem setPc_other {pc : Nat → Pc} {w x : Nat} {v : Pc} (h : x ≠ w) : setPc pc w v x = pc x := by simp [setPc, h]

theorem setPc_keep {pc : Nat → Pc} {w x : Nat} {p u v : Pc} (hx : pc x = u) (hw : pc w = p) (hne : p ≠ u) :
    setPc pc w v x = u :=
  (setPc_other fun e => hne (hw.symm.trans ((congrArg pc e).symm.trans hx))).trans hx

theorem sent_setPc (pc : Nat → Pc) (w : Nat) (v : Pc) (h : v.sent = (pc w).sent) (x : Nat) :
    (setPc pc w v x).sent = (pc x).sent :=
  forall_update' (P := fun x (p : Pc) => p.sent = (pc x).sent) h (fun _ _ => rfl) x

theorem setMany_mem {pc : Nat → Pc} {ws : List Nat} {v : Pc} {x : Nat} (h : x ∈ ws) : setMany pc ws v x = v := by
  simp [setMany, h]
theorem setMany_not_mem {pc : Nat → Pc} {ws : List Nat} {v : Pc} {x : Nat} (h : x ∉ ws) : setMany pc ws v x = pc x := by
  simp [setMany, h]
theorem setMany_nil (pc : Nat → Pc) (v : Pc) : setMany pc [] v = pc := by
  funext x; simp [setMany]

/-- accounting: the chunks on the wire are exactly the frame prefixes the control states say were sent -/
structure Acct (lens : Nat → Nat) (wire : List Piece) (pc : Nat → Pc) : Prop where
  acct : ∀ c ∈ glue wire, c.start = 0 ∧ 0 < c.n ∧ c.n = (pc c.id).sent
  mem : ∀ w, 0 < (pc w).sent → ⟨w, 0, (pc w).sent⟩ ∈ glue wire
  nodup : ((glue wire).map (·.id)).Nodup
  bound : ∀ w, (pc w).sent ≤ lens w

theorem Acct.chunk {lens : Nat → Nat} {wire : List Piece} {pc : Nat → Pc} (h : Acct lens wire pc) {c : Chunk}
    (hc : c ∈ glue wire) : c.start = 0 ∧ 0 < c.n ∧ c.n ≤ lens c.id :=
  have ⟨h0, hpos, hn⟩ := h.acct c hc
  ⟨h0, hpos, hn ▸ h.bound c.id⟩

theorem Acct.congr {lens : Nat → Nat} {wire : List Piece} {pc pc' : Nat → Pc} (h : Acct lens wire pc)
    (hs : ∀ x, (pc' x).sent = (pc x).sent) : Acct lens wire pc' :=
  ⟨fun c hc => by rw [hs]; exact h.acct c hc, fun w hw => by rw [hs]; exact h.mem w (by rw [← hs]; exact hw), h.nodup,
   fun w => by rw [hs]; exact h.bound w⟩

theorem Acct.framed {lens : Nat → Nat} {wire : List Piece} {pc : Nat → Pc} (h : Acct lens wire pc) :
    framed lens (glue wire) = true :=
  framed_iff.mpr ⟨fun _ => h.chunk, h.nodup⟩

theorem Acct.piece {lens : Nat → Nat} {wire : List Piece} {pc : Nat → Pc} (h : Acct lens wire pc) {w off k : Nat}
    (hw : pc w = .inWrite off) (hhead : 0 < off → (glue wire).head? = some ⟨w, 0, off⟩) (hk : 0 < k)
    (hle : off + k ≤ lens w) :
    Acct lens (wire ++ [⟨w, off, k⟩]) (setPc pc w (.inWrite (off + k))) ∧
      (glue (wire ++ [⟨w, off, k⟩])).head? = some ⟨w, 0, off + k⟩ := by
  have hglue : glue (wire ++ [⟨w, off, k⟩]) = ⟨w, 0, off + k⟩ :: (glue wire).filter (·.id ≠ w) := by
    rw [glue_snoc]
    refine addPiece_newest h.nodup (fun e c hc hid => ?_) hhead
    -- nothing out yet: no chunk of that frame
    have := h.acct c hc
    rw [hid, hw] at this
    exact absurd (this.2.2.trans e) (Nat.ne_of_gt this.2.1)
  have hrest : ∀ {c}, c ∈ (glue wire).filter (·.id ≠ w) ↔ c ∈ glue wire ∧ c.id ≠ w :=
    List.mem_filter.trans (and_congr_right fun _ => decide_eq_true_iff)
  refine ⟨⟨fun c hc => ?_, fun x hx => ?_, ?_, fun x => ?_⟩, by rw [hglue]; rfl⟩
  · rw [hglue] at hc
    rcases List.mem_cons.mp hc with hc | hc
    · subst hc; rw [setPc_same]; exact ⟨rfl, Nat.add_pos_right off hk, rfl⟩
    · rw [setPc_other (hrest.mp hc).2]; exact h.acct c (hrest.mp hc).1
  · rw [hglue]
    exact forall_update'
      (P := fun x (p : Pc) => 0 < p.sent → ⟨x, 0, p.sent⟩ ∈ (⟨w, 0, off + k⟩ :: (glue wire).filter (·.id ≠ w) : List Chunk))
      (fun _ => List.mem_cons_self) (fun x hxw hx => List.mem_cons_of_mem _ (hrest.mpr ⟨h.mem x hx, hxw⟩)) x hx
  · rw [hglue, List.map_cons, List.nodup_cons]
    exact ⟨fun hm => by obtain ⟨c, hc, hid⟩ := List.mem_map.mp hm; exact (hrest.mp hc).2 hid,
      List.Pairwise.sublist (List.filter_sublist.map _) h.nodup⟩
  · exact forall_update' (P := fun x (p : Pc) => p.sent ≤ lens x) (v := .inWrite (off + k)) hle (fun x _ => h.bound x) x

theorem Acct.no_bytes {lens : Nat → Nat} {wire : List Piece} {pc : Nat → Pc} (h : Acct lens wire pc) {w : Nat}
    (h0 : (pc w).sent = 0) : ∀ p ∈ wire, p.id ≠ w := by
  intro p hp hid
  obtain ⟨c, hcm, hcid⟩ := List.mem_map.mp ((mem_ids_foldl wire p.id []).mpr (.inl (List.mem_map_of_mem hp)))
  obtain ⟨_, hpos, hn⟩ := h.acct c hcm
  rw [hcid, hid, h0] at hn
  exact absurd hn (Nat.ne_of_gt hpos)

theorem step_wire {cfg : Cfg} {s s' : St} {a : Act} (hs : step cfg s a = some s') :
    s'.wire = s.wire ∨
      ∃ w off k, s.pc w = .inWrite off ∧ s.closed = false ∧ s'.wire = s.wire ++ [⟨w, off, k⟩] := by
  cases Step.of_step hs with
  | piece hw hg => exact .inr ⟨_, _, _, hw, hg.2.2, rfl⟩
  | _ => exact .inl rfl

theorem step_flags {cfg : Cfg} {s s' : St} {a : Act} (hs : step cfg s a = some s') :
    (s.closed = true → s'.closed = true) ∧ (s.gone = true → s'.gone = true) := by
  -- `closed` is written by `closeFinish` and `shutdown` only, `gone` by the two `flusherQuit` rules only, and always to `true`
  cases Step.of_step hs <;> refine ⟨?_, ?_⟩ <;> first | exact id | exact fun _ => rfl

/-- the control-flow graph of one writer -/
inductive Pc.Next : Pc → Pc → Prop
  | submit : Next .idle .waiting
  | cancel : Next .waiting .cancelled
  | enqueue : Next .waiting .queued
  | enterDirect : Next .waiting (.inWrite 0)
  | enterBatch : Next .queued (.inWrite 0)
  | piece {off k} : Next (.inWrite off) (.inWrite (off + k))
  | endWrite {off ok} : Next (.inWrite off) (.wrote off ok)
  | quitWaiting : Next .waiting (.wrote 0 false)
  | failQueued : Next .queued (.wrote 0 false)
  | retCancelled : Next .cancelled (.done 0 false)
  | retOk {n} : Next (.wrote n true) (.done n true)
  | retFailed {n} : Next (.wrote n false) (.failing n)
  | closeFirst {n} : Next (.failing n) (.closer n)
  | closeLater {n} : Next (.failing n) (.done n false)
  | closeFinish {n} : Next (.closer n) (.done n false)

theorem setPc_next {pc : Nat → Pc} {w : Nat} {v : Pc} (hn : (pc w).Next v) (x : Nat) :
    setPc pc w v x = pc x ∨ (pc x).Next (setPc pc w v x) :=
  forall_update' (P := fun x (p : Pc) => p = pc x ∨ (pc x).Next p) (.inr hn) (fun _ _ => .inl rfl) x

theorem Pc.outcome_sent {p : Pc} {n : Nat} {ok : Bool} (h : p.outcome = some (n, ok)) : p.sent = n := by
  cases p <;> cases h <;> rfl

theorem Pc.Next.outcome {p q : Pc} {o : Nat × Bool} (h : p.Next q) (ho : p.outcome = some o) : q.outcome = some o := by
  cases h <;> first | exact ho | cases ho

end Writer
