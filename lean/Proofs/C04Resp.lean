/- parseBody / parseFrame on the specification's encoding of a whole response -/
import Proofs.C04Frames
namespace C04
open FrameRead RespSpec

/- `+decide` evaluates parseBody's `switch` on the concrete opcode. -/
theorem parseBody_ok (v : Nat) (b : Body) (r : FrameRead.Bytes)
    (hw : wfBody v b = true) :
    parseBody v (UInt8.ofNat b.opcode) (eMsg v b ++ r) = .ok (viewBody v b, restOfBody b ++ r) := by
  cases b
  all_goals simp only [wfBody, Bool.and_eq_true, decide_eq_true_eq] at hw
  all_goals simp +decide only [parseBody, Body.opcode, ↓reduceIte, eMsg, viewBody, restOfBody, List.nil_append, List.append_assoc,
    bind_eval, andThen_ok, pure_apply, parseErrorFrame_ok, readString_eString, readStringMultiMap_e, parseResultFrame_ok,
    parseEventFrame_ok, readBytes_eBytes, hw]

/-- header flag bits of a response (`c`: the compression bit 0x01 set by the transport) -/
def flagBitsOf (t p w b c : Bool) : Nat :=
  (if t then 0x02 else 0) + (if p then 0x04 else 0) + (if w then 0x08 else 0) + (if b then 0x10 else 0) +
  (if c then 0x01 else 0)

theorem flags_decode : ∀ t p w b c : Bool,
    ((UInt8.ofNat (flagBitsOf t p w b c) &&& flagTracing == flagTracing) = t) ∧
    ((UInt8.ofNat (flagBitsOf t p w b c) &&& flagWarning == flagWarning) = w) ∧
    ((UInt8.ofNat (flagBitsOf t p w b c) &&& flagCustomPayload == flagCustomPayload) = p) := by
  decide

theorem version_is_response (v : Nat) (h1 : 1 ≤ v) (h5 : v ≤ 5) :
    (UInt8.ofNat (v + 0x80) &&& 0x80 == 0) = false := by
  have : v = 1 ∨ v = 2 ∨ v = 3 ∨ v = 4 ∨ v = 5 := by omega
  rcases this with h | h | h | h | h <;> subst h <;> decide

theorem wf_iff {v : Nat} {r : LResp} : wf v r = true ↔ 1 ≤ v ∧ v ≤ 5 ∧ wfTracing r.tracing = true ∧
    wfWarnings r.warnings = true ∧ wfPayload r.payload = true ∧ wfBody v r.body = true := by
  simp only [wf, Bool.and_eq_true, decide_eq_true_eq, and_assoc]

/-- parseFrame only looks at the version byte, the flags and the opcode of the header -/
theorem parseResp_hdr (v : Nat) (r : LResp) (tail : FrameRead.Bytes) (h : Header) (c : Bool)
    (hv : h.version = UInt8.ofNat (v + 0x80)) (hf : h.flags = UInt8.ofNat (r.flags + (if c then 0x01 else 0)))
    (ho : h.op = UInt8.ofNat r.body.opcode) (hw : wf v r = true) :
    parseResp v h (encodeBody v r ++ tail) = .ok (view v r, restOf r ++ tail) := by
  obtain ⟨hv1, hv5, ht, hwn, hp, hb⟩ := wf_iff.mp hw
  obtain ⟨stream, tracing, warnings, payload, beta, body⟩ := r
  have hfl := flags_decode tracing.isSome payload.isSome warnings.isSome beta c
  have hflags : (LResp.flags ⟨stream, tracing, warnings, payload, beta, body⟩) + (if c then 0x01 else 0) =
      flagBitsOf tracing.isSome payload.isSome warnings.isSome beta c := rfl
  have hbody := parseBody_ok v body tail hb
  have hver : (h.version &&& 0x80 == 0) = false := by rw [hv]; exact version_is_response v hv1 hv5
  unfold parseResp parseFrameP
  rw [if_neg (by rw [hver]; simp)]
  simp only [hf, ho, hflags, hfl, restOf, encodeBody, view, List.append_assoc]
  rw [bind_ok (optional_ok readUUID eTracing tracing _ rfl fun t h =>
        readUUID_ok t _ (by subst h; simpa [wfTracing] using ht)),
    bind_ok (optional_ok readStringList eWarnings warnings _ rfl fun w h => by
        subst h
        simp only [wfWarnings, Bool.and_eq_true] at hwn
        exact readStringList_eStringList w _ hwn.1 hwn.2),
    bind_ok (optional_ok readBytesMap ePayload payload _ rfl fun p h => by
        subst h
        simp only [wfPayload, Bool.and_eq_true, decide_eq_true_eq] at hp
        obtain ⟨⟨hn, hall⟩, hd⟩ := hp
        exact readBytesMap_eBytesMap p _ hn hall hd),
    bind_ok hbody]
  rfl

end C04
