/-
What the specification (and so the model of conn.go's prepared-statement cache) keeps
through an exchange: every statement id it holds comes from a PREPARED answer of the peer, and every
PREPARE / EXECUTE serves an `exec` action of the plan.
-/
import Proofs.C03Handshake
namespace C03
open FrameSpec FrameWrite Handshake

/-- the statement ids the specification holds at a point of the exchange -/
def knownOf : SpecAt → Known
  | .use _ _ _ k _ => k
  | .reg _ _ k _ => k
  | .prep _ _ k _ _ _ _ => k
  | .exe _ _ k _ _ _ _ => k
  | _ => []

def IdsFrom (P : Bytes → Prop) (k : Known) : Prop := ∀ e ∈ k, P e.2.1

def execIdOk (P : Bytes → Prop) : Option (Req × Bool) → Prop
  | some (Req.execute id _ _, _) => P id
  | _ => True

theorem lookup_filter_ne (key : Key) (l : Known) : (l.filter (fun e => e.1 != key)).lookup key = none := by
  rw [List.lookup_eq_none_iff]
  intro p hp
  have h := (List.mem_filter.mp hp).2
  simp only [bne_iff_ne, ne_eq] at h
  simp only [bne_iff_ne, ne_eq]
  exact fun e => h e.symm

/-- the actions the specification still has to serve at a point of the exchange (the one in progress first) -/
def actsOf : SpecAt → List Action
  | .use _ _ _ _ rest => rest
  | .reg _ _ _ rest => rest
  | .prep _ _ _ stmt cons vals rest => .exec stmt cons vals :: rest
  | .exe _ _ _ stmt cons vals rest => .exec stmt cons vals :: rest
  | _ => []

/-- a PREPARE / EXECUTE is that of an `exec` action of the plan -/
def execOfPlan (cfg : Config) : Option (Req × Bool) → Prop
  | some (Req.execute id p pl, _) =>
    ∃ stmt cons vals curKs, Action.exec stmt cons vals ∈ cfg.plan ∧ Req.execute id p pl = specExecute cfg curKs id cons vals
  | some (Req.prepare stmt ks pl, _) =>
    ∃ cons vals curKs, Action.exec stmt cons vals ∈ cfg.plan ∧ Req.prepare stmt ks pl = specPrepare cfg.v curKs stmt
  | _ => True

/-- what holds at every point of the exchange: the known ids satisfy `P`, what is still to be served is of the plan -/
def AtOk (P : Bytes → Prop) (cfg : Config) (at_ : SpecAt) : Prop :=
  IdsFrom P (knownOf at_) ∧ actsOf at_ ⊆ cfg.plan

/-- what holds of every request due: the id of an EXECUTE satisfies `P`; EXECUTE and PREPARE serve the plan -/
def ReqOk (P : Bytes → Prop) (cfg : Config) (r : Option (Req × Bool)) : Prop := execIdOk P r ∧ execOfPlan cfg r

theorem atOk_nil (P : Bytes → Prop) (cfg : Config) (at_ : SpecAt) (hk : knownOf at_ = []) (ha : actsOf at_ = []) :
    AtOk P cfg at_ ∧ ReqOk P cfg none :=
  ⟨⟨hk ▸ nofun, ha ▸ List.nil_subset _⟩, trivial, trivial⟩

theorem specForget_ids (P : Bytes → Prop) (known : Known) (key : Key) (uid : Bytes) (h : IdsFrom P known) :
    IdsFrom P (specForget known key uid) := by
  unfold specForget
  split
  · split
    · intro e he; exact h e (List.mem_filter.mp he).1
    · exact h
  · exact h

theorem specExec_ok (P : Bytes → Prop) (cfg : Config) (z : Bool) (curKs : Bytes) (known : Known) (stmt : Bytes) (cons : Nat)
    (vals : List (Option Bytes)) (rest : List Action) (h : IdsFrom P known)
    (hp : .exec stmt cons vals :: rest ⊆ cfg.plan) :
    AtOk P cfg (specExec cfg z curKs known stmt cons vals rest).1 ∧
    ReqOk P cfg (specExec cfg z curKs known stmt cons vals rest).2 := by
  have h0 : Action.exec stmt cons vals ∈ cfg.plan := hp List.mem_cons_self
  fun_cases specExec cfg z curKs known stmt cons vals rest
  · -- a known id, the right number of values: it is one of `known`
    obtain ⟨l₁, l₂, rfl, -⟩ := List.lookup_eq_some_iff.mp ‹List.lookup _ known = some _›
    exact ⟨⟨h, hp⟩, h ((curKs, stmt), _, vals.length) (by simp), stmt, cons, vals, curKs, h0, rfl⟩
  · exact atOk_nil P cfg _ rfl rfl
  · exact ⟨⟨h, hp⟩, trivial, cons, vals, curKs, h0, rfl⟩

theorem specNext_ok (P : Bytes → Prop) (cfg : Config) (z : Bool) (curKs : Bytes) (known : Known) (rest : List Action)
    (h : IdsFrom P known) (hp : rest ⊆ cfg.plan) :
    AtOk P cfg (specNext cfg z curKs known rest).1 ∧ ReqOk P cfg (specNext cfg z curKs known rest).2 := by
  fun_induction specNext cfg z curKs known rest
  · exact atOk_nil P cfg _ rfl rfl
  · exact ⟨⟨h, List.subset_of_cons_subset hp⟩, trivial, trivial⟩
  · rename_i ih; exact ih (List.subset_of_cons_subset hp)
  · exact ⟨⟨h, List.subset_of_cons_subset hp⟩, trivial, trivial⟩
  · exact specExec_ok P cfg z curKs known _ _ _ _ h hp

/-- the same of a result that was named by a `let` -/
theorem atOk_of_eq {P : Bytes → Prop} {cfg : Config} {x : SpecAt × Option (Req × Bool)} {a : SpecAt} {r : Option (Req × Bool)}
    (e : x = (a, r)) (h : AtOk P cfg x.1 ∧ ReqOk P cfg x.2) : AtOk P cfg a ∧ ReqOk P cfg r := by subst e; exact h

/-- one answer keeps both: ids come only from PREPARED answers, requests only from the plan -/
theorem specStep_ok (P : Bytes → Prop) (cfg : Config) (au : Authn) (at_ : SpecAt) (a : PeerAnswer)
    (hP : ∀ id n, a = .prepared id n → P id) (h : AtOk P cfg at_) :
    AtOk P cfg (specStep cfg au at_ a).1 ∧ ReqOk P cfg (specStep cfg au at_ a).2.1 := by
  have h0 := fun z => specNext_ok P cfg z [] [] cfg.plan nofun (List.Subset.refl _)
  fun_cases specStep cfg au at_ a
  -- every way to stop, and the handshake up to its last answer: nothing known, nothing to serve
  all_goals try exact atOk_nil P cfg _ rfl rfl
  -- READY, AUTH_SUCCESS (twice): the plan starts
  · exact atOk_of_eq ‹_› (h0 _)
  · exact atOk_of_eq ‹_› (h0 _)
  · exact atOk_of_eq ‹_› (h0 _)
  -- USE and REGISTER answered: the rest of the plan
  · exact atOk_of_eq ‹_› (specNext_ok P cfg _ _ _ _ h.1 h.2)
  · exact atOk_of_eq ‹_› (specNext_ok P cfg _ _ _ _ h.1 h.2)
  · -- PREPARED: the id comes from the peer
    rename_i stmt cons vals _ _
    refine ⟨⟨?_, h.2⟩, hP _ _ rfl, stmt, cons, vals, _, h.2 (by simp [actsOf]), rfl⟩
    intro e he
    rcases List.mem_cons.mp he with rfl | he
    · exact hP _ _ rfl
    · exact h.1 e he
  -- an EXECUTE answered (twice), or to be repeated after UNPREPARED
  · exact atOk_of_eq ‹_› (specNext_ok P cfg _ _ _ _ h.1 (List.subset_of_cons_subset h.2))
  · exact atOk_of_eq ‹_› (specNext_ok P cfg _ _ _ _ h.1 (List.subset_of_cons_subset h.2))
  · exact atOk_of_eq ‹_› (specExec_ok P cfg _ _ _ _ _ _ _ (specForget_ids P _ _ _ h.1) h.2)

theorem specRun_ok (P : Bytes → Prop) (cfg : Config) (au : Authn) :
    ∀ (answers : List PeerAnswer) (at_ : SpecAt), (∀ id n, .prepared id n ∈ answers → P id) → AtOk P cfg at_ →
      ∀ r ∈ specRun cfg au at_ answers, ReqOk P cfg (some r) := by
  intro answers
  induction answers with
  | nil => intro at_ _ _ r hr; simp [specRun] at hr
  | cons a as ih =>
    intro at_ hP h r hr
    have hs := specStep_ok P cfg au at_ a (fun id n e => hP id n (by simp [e])) h
    simp only [specRun, List.mem_append] at hr
    rcases hr with hr | hr
    · cases hq : (specStep cfg au at_ a).2.1 with
      | none => simp [hq] at hr
      | some q =>
        simp only [hq, Option.toList_some, List.mem_singleton] at hr
        subst hr; rw [hq] at hs; exact hs.2
    · exact ih _ (fun id n hm => hP id n (by simp [hm])) hs.1 r hr

/-- the same of everything the specification lists: OPTIONS, which comes first, is neither an EXECUTE nor a PREPARE -/
theorem specReqs_ok (P : Bytes → Prop) (cfg : Config) (au : Authn) (answers : List PeerAnswer)
    (hP : ∀ id n, .prepared id n ∈ answers → P id) : ∀ r ∈ specReqs cfg au answers, ReqOk P cfg (some r) := by
  intro r hr
  rcases List.mem_cons.mp hr with rfl | hr
  · exact ⟨trivial, trivial⟩
  · exact specRun_ok P cfg au answers .options hP ⟨nofun, List.nil_subset _⟩ r hr

end C03
