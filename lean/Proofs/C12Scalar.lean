import Proofs.C12Int
import Proofs.C12Varint
import Model.MarshalInterp
/-!
# C12: varint from Go integer kinds and from strings (`parseInt`); dates (`daysSinceEpoch`), milliseconds of a time.Time
-/
namespace C12Scalar
open ValueSpec Marshal C12Bytes C12Int C12Varint

theorem beBytes_ne_nil (k n : Nat) (hk : 1 ≤ k) : beBytes k n ≠ [] := fun h => by
  have := beBytes_length k n; rw [h] at this; simp at this; omega

theorem tcDec_zero_beBytes8 (m : Nat) (h : m < 2^64) : tcDec (0 :: beBytes 8 m) = m := by
  rw [tcDec_zero_cons, beNat_beBytes, Nat.mod_eq_of_lt (by omega)]

/-- marshalVarint on an integer kind: refused exactly for `uint` / named unsigned kinds above MaxInt64 (marshalBigInt's
    range check; the bare `uint64` has its own branch), otherwise the specification's varint of the number -/
theorem marshalVarintKind_char (k : IntKind) (named : Bool) (v : Int) (hv : k.holds v = true) :
    marshalVarintKind k named v =
      if k.signed = false ∧ v ≥ 9223372036854775808 ∧ ¬ (k = .uint64 ∧ named = false) then none else some (specVarint v) := by
  obtain ⟨⟨hlo, hhi⟩, hsg, hun⟩ := holds_64 hv
  fun_cases marshalVarintKind k named v
  -- the bare uint64: its 8 bytes, trimmed; in the upper half with a 0 in front
  case case1 hc hup | case2 hc hup =>
    obtain ⟨rfl, rfl⟩ := hc
    have h0 := hun rfl
    have hnat : ((v.toNat : Nat) : Int) = v := by omega
    rw [if_neg (by simp)]
    first
      | rw [trimTC_spec _ (by simp), tcDec_zero_beBytes8 _ (by omega), hnat]
      | rw [trimTC_spec _ (beBytes_ne_nil 8 _ (by omega)), tcDec_beBytes 8 _ (by decide) (by omega), hnat]
  -- marshalBigInt, then trimmed.  `accept_iff`: a signed kind always fits; an unsigned one is checked against MaxInt64
  -- when it is named or `uint`, and is below 2^63 anyway when it is one of the narrow kinds
  case case3 hc =>
    rw [marshalIntKind_char .big k named v hv]
    have hfit : ¬ (k.signed = false ∧ v ≥ 9223372036854775808 ∧ ¬ (k = .uint64 ∧ named = false)) → fitsS 8 v = true := by
      intro hr
      simp only [fitsS_iff]
      cases hs : k.signed
      · have := hun hs
        by_cases hb : v ≥ 9223372036854775808
        · exact absurd ⟨hs, hb, hc⟩ hr
        · omega
      · have := hsg hs; omega
    have hacc := accept_iff .big k named v hun
    by_cases hr : k.signed = false ∧ v ≥ 9223372036854775808 ∧ ¬ (k = .uint64 ∧ named = false)
    · rw [if_pos hr, if_neg, Option.map_none]
      rw [hacc, hr.1]
      simp only [Bool.false_eq_true, if_false, reduceCtorEq, false_and, true_and, false_or, IntCol.bytes]
      by_cases hx : named = true ∨ k = .uint
      · rw [if_pos hx]; omega
      · have hn : named = false := by cases named <;> simp_all
        exact absurd (holds_narrow hv hr.1 (fun h => hr.2.2 ⟨h, hn⟩) (fun h => hx (.inr h))) (by omega)
    · have hf := hfit hr
      rw [if_neg hr, if_pos (.inl hf), Option.map_some, trimTC_spec _ (by rw [tcEnc]; exact beBytes_ne_nil 8 _ (by omega)),
        tcDec_tcEnc IntCol.big.bytes v (by decide) hf]

/-- when marshalVarint on a Go integer kind succeeds, the bytes are the varint of the value — every kind,
    named or not, every value (incl. uint64 ≥ 2^63, 9 bytes before trimming) -/
theorem marshalVarintKind_spec (k : IntKind) (named : Bool) (v : Int) (hv : k.holds v = true) (b : Bytes)
    (h : marshalVarintKind k named v = some b) : b = specVarint v := by
  rw [marshalVarintKind_char k named v hv] at h
  split at h <;> cases h
  rfl

/-- `strconv.ParseInt(s, 10, bits)` answers with the number the digits spell, when it is in range -/
theorem parseInt_some {bits : Nat} {s : Bytes} {n : Int} (h : parseInt bits s = some n) :
    parseDec s = some n ∧ -((2:Int) ^ (bits - 1)) ≤ n ∧ n < (2:Int) ^ (bits - 1) := by
  revert h
  fun_cases parseInt bits s <;> intro h <;> cases h
  exact ⟨‹_›, ‹_›⟩

/-- a Go string bound to an integer column (`strconv.ParseInt(v, 10, 8·w)`): the decimal number it spells, which fits
    the column, in the column's width -/
theorem marshalIntString_tc (col : IntCol) (s b : Bytes) (h : marshalIntString col s = some b) :
    ∃ n, parseDec s = some n ∧ fitsS col.bytes n = true ∧ b = tcEnc col.bytes n := by
  revert h
  fun_cases marshalIntString col s <;> intro h <;> cases h
  obtain ⟨hd, hr⟩ := parseInt_some ‹parseInt _ s = some _›
  refine ⟨_, hd, ?_⟩
  cases col <;>
    simp [IntCol.bytes, fitsS_iff, encTiny_eq, encShort_eq, encInt_eq, encBigInt_eq, tcEnc_toS16, tcEnc_toS32] at hr ⊢ <;>
    omega

/-- string → varint: ParseInt(…, 64), so only the int64 range; the bytes are the varint of the parsed number -/
theorem marshalVarintString_spec (s b : Bytes) (h : marshalVarintString s = some b) :
    ∃ n, parseDec s = some n ∧ b = specVarint n := by
  unfold marshalVarintString at h
  cases hm : marshalIntString .big s with
  | none => simp [hm] at h
  | some b8 =>
    obtain ⟨n, hn, hf, rfl⟩ := marshalIntString_tc .big s b8 hm
    simp only [hm, Option.map_some, Option.some.injEq] at h
    refine ⟨n, hn, ?_⟩
    rw [← h, trimTC_spec _ (by rw [tcEnc]; exact beBytes_ne_nil 8 _ (by decide))]
    exact congrArg specVarint (tcDec_tcEnc 8 n (by decide) hf)

theorem toS64_id (x : Int) (h : fitsS 8 x = true) : toS 64 x = x := toS_id 8 (by decide) x h

/-- marshal.go daysSinceEpoch (truncating `/`, then one less when the truncated remainder is negative) is the FLOOR
    of ts / 86400000 for every int64 — also before 1970 -/
theorem daysSinceEpoch_floor (ts : Int) : daysSinceEpoch ts = ts / 86400000 := by
  unfold daysSinceEpoch goDiv goMod millisInADay
  simp only [Int.tdiv_eq_ediv, Int.tmod_eq_emod]
  have hs : Int.sign 86400000 = 1 := by decide
  by_cases h0 : 0 ≤ ts
  · simp [h0]; omega
  · by_cases hd : (86400000:Int) ∣ ts
    · simp [hd]
      have := Int.emod_eq_zero_of_dvd hd
      omega
    · have hm : ts % 86400000 ≠ 0 := fun h => hd (Int.dvd_of_emod_eq_zero h)
      simp only [h0, hd, or_self, if_false, hs]
      have : (Int.natAbs 86400000 : Int) = 86400000 := by decide
      rw [this]
      split <;> omega

/-- date from a millisecond count: the specification's day (FLOOR) + 2^31, for every count whose day is in range -/
theorem encDateMillis_spec (ts : Int)
    (hrange : fitsU 4 (ts / 86400000 + 2147483648) = true) :
    encDateMillis ts = beBytes 4 (ts / 86400000 + 2147483648).toNat := by
  simp [fitsU_iff] at hrange
  unfold encDateMillis
  rw [daysSinceEpoch_floor, encInt_eq, tcEnc_toS32, tcEnc]
  congr 1
  omega

/-- exact milliseconds of a time.Time with a nanosecond part in [0, 10^9), when nothing overflows -/
theorem timeMillis_exact (sec nsec : Int) (h1 : fitsS 8 (sec * 1000) = true) (h2 : fitsS 8 (exactMillis sec nsec) = true) :
    timeMillis sec nsec = exactMillis sec nsec := by
  unfold timeMillis
  rw [toS64_id _ h1]
  exact toS64_id _ h2

theorem day_of_millis (sec nsec : Int) (hn : 0 ≤ nsec ∧ nsec < 1000000000) :
    exactMillis sec nsec / 86400000 = sec / 86400 := by
  unfold exactMillis; omega

end C12Scalar
