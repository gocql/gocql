/- What the Boolean predicates of the specification (`Expressible` per request kind, `paramsOk`, `paramsOkV1`, `valuesOk`, `payloadOk`)
   say, each once as a flat conjunction in a fixed order, the fields that exist only from some version on already split by
   `guarded_iff`: a proof takes one apart with a single `obtain` pattern (`.mp`) and builds one with a single anonymous constructor
   (`.mpr`), without unfolding the predicate; the custom payload as one field of four request kinds (`reqPayload`); requests that
   differ only in the listing order of their maps (`mapEquiv`). -/
import Proofs.C03Prim
namespace C03
open FrameSpec FrameWrite

/-- the clause of `Expressible` for a field that exists only from some version on (`g`) -/
theorem guarded_iff {α : Type} {p : α → Bool} {o : Option α} {g : Prop} [Decidable g] :
    (o.isNone || (decide g && optAll p o)) = true ↔ optAll p o = true ∧ (o.isSome = true → g) := by
  cases o <;> simp [optAll, and_comm]
theorem valuesOk_iff {v : Nat} {b : Bool} {l : List NVal} : valuesOk v b l = true ↔
    (l.length ≤ 65535 ∧ ∀ x ∈ l, NVal.ok v x = true) ∧
    ((∀ x ∈ l, x.name = none) ∨ (b = true ∧ v ≥ 3) ∧ ∀ x ∈ l, x.name.isSome = true) := by
  simp only [valuesOk, Bool.and_eq_true, Bool.or_eq_true, decide_eq_true_eq, List.all_eq_true, Option.isNone_iff_eq_none]

/-- the v1 forms have no flags: the block is a consistency and, for EXECUTE, unnamed values -/
theorem paramsOkV1_iff {p : QParams} {b : Bool} : paramsOkV1 p b = true ↔
    p = noParams p.cons p.values ∧ isShort p.cons = true ∧ (if b then valuesOk 1 false p.values else p.values.isEmpty) = true := by
  obtain ⟨c, sk, vals, ps, pst, ser, ts, ks⟩ := p
  simp only [paramsOkV1, noParams, Bool.and_eq_true, Bool.not_eq_true', Option.isNone_iff_eq_none, QParams.mk.injEq, true_and]
  constructor
  · rintro ⟨⟨⟨⟨⟨⟨⟨hc, rfl⟩, rfl⟩, rfl⟩, rfl⟩, rfl⟩, rfl⟩, hv⟩
    exact ⟨⟨rfl, rfl, rfl, rfl, rfl, rfl⟩, hc, hv⟩
  · rintro ⟨⟨rfl, rfl, rfl, rfl, rfl, rfl⟩, hc, hv⟩
    exact ⟨⟨⟨⟨⟨⟨⟨hc, rfl⟩, rfl⟩, rfl⟩, rfl⟩, rfl⟩, rfl⟩, hv⟩

theorem paramsOk_iff {v : Nat} {p : QParams} : paramsOk v p = true ↔
    isShort p.cons = true ∧ valuesOk v true p.values = true ∧ optAll isInt32 p.pageSize = true ∧
    optAll fitsInt p.pagingState = true ∧ optAll isShort p.serialCons = true ∧
    (optAll isInt64 p.timestamp = true ∧ (p.timestamp.isSome = true → v ≥ 3)) ∧
    (optAll fitsShort p.keyspace = true ∧ (p.keyspace.isSome = true → v ≥ 5)) := by
  simp only [paramsOk, Bool.and_eq_true, guarded_iff, and_assoc]

theorem expressible_query_iff {v : Nat} {s : Bytes} {p : QParams} {pl : Payload} : Expressible v (.query s p pl) = true ↔
    fitsInt s = true ∧ payloadOk v pl = true ∧ (if v = 1 then paramsOkV1 p false else paramsOk v p) = true := by
  simp only [Expressible, Bool.and_eq_true, and_assoc]

theorem expressible_execute_iff {v : Nat} {id : Bytes} {p : QParams} {pl : Payload} : Expressible v (.execute id p pl) = true ↔
    fitsShort id = true ∧ payloadOk v pl = true ∧ (if v = 1 then paramsOkV1 p true else paramsOk v p) = true := by
  simp only [Expressible, Bool.and_eq_true, and_assoc]

theorem expressible_prepare_iff {v : Nat} {s : Bytes} {ks : Option Bytes} {pl : Payload} :
    Expressible v (.prepare s ks pl) = true ↔
    fitsInt s = true ∧ payloadOk v pl = true ∧ optAll fitsShort ks = true ∧ (ks.isSome = true → v ≥ 5) := by
  simp only [Expressible, Bool.and_eq_true, guarded_iff, and_assoc]

theorem expressible_batch_iff {v typ : Nat} {stmts : List BStmt} {cons : Nat} {ser : Option Nat} {ts : Option Int}
    {ks : Option Bytes} {pl : Payload} : Expressible v (.batch typ stmts cons ser ts ks pl) = true ↔
    v ≥ 2 ∧ typ < 256 ∧ stmts.length ≤ 65535 ∧ (∀ s ∈ stmts, BStmt.ok v s = true) ∧ isShort cons = true ∧
    payloadOk v pl = true ∧ (optAll isShort ser = true ∧ (ser.isSome = true → v ≥ 3)) ∧
    (optAll isInt64 ts = true ∧ (ts.isSome = true → v ≥ 3)) ∧ (optAll fitsShort ks = true ∧ (ks.isSome = true → v ≥ 5)) := by
  simp only [Expressible, Bool.and_eq_true, decide_eq_true_eq, List.all_eq_true, guarded_iff, and_assoc]

def reqPayload : Req → Payload
  | Req.query _ _ pl => pl
  | Req.prepare _ _ pl => pl
  | Req.execute _ _ pl => pl
  | Req.batch _ _ _ _ _ _ pl => pl
  | _ => []

theorem payloadOf_ask (now : Int) (g : GReq) :
    payloadOf g = (match ask now g with
      | Req.query _ _ pl => pl
      | Req.prepare _ _ pl => pl
      | Req.execute _ _ pl => pl
      | Req.batch _ _ _ _ _ _ pl => pl
      | _ => []) := by
  cases g <;> rfl

theorem expressible_payload {v : Nat} {r : Req} (h : Expressible v r = true) : payloadOk v (reqPayload r) = true := by
  cases r with
  | query _ _ _ => exact (expressible_query_iff.mp h).2.1
  | prepare _ _ _ => exact (expressible_prepare_iff.mp h).2.1
  | execute _ _ _ => exact (expressible_execute_iff.mp h).2.1
  | batch _ _ _ _ _ _ _ => obtain ⟨_, _, _, _, _, hpl, _⟩ := expressible_batch_iff.mp h; exact hpl
  | _ => rfl

theorem payloadOk_iff {v : Nat} {pl : Payload} : payloadOk v pl = true ↔
    (pl.length > 0 → v ≥ 4) ∧
    optAll (fun m : Payload => decide (m.length ≤ 65535) && m.all fun kv => fitsShort kv.1 && optAll fitsInt kv.2)
      (if pl.length > 0 then some pl else none) = true := by
  cases pl with
  | nil => simp [payloadOk, optAll]
  | cons a l => simp [payloadOk, optAll, and_assoc]

theorem bstmtOk_values {v : Nat} {s : BStmt} (h : BStmt.ok v s = true) : valuesOk v false (bstmtVals s) = true := by
  cases s <;> simp only [BStmt.ok, Bool.and_eq_true] at h <;> exact h.2

/-! ## requests that differ in the listing order of their maps -/

/-- equal up to the order in which maps (STARTUP options, custom payload) are listed -/
def mapEquiv : Req → Req → Prop
  | Req.startup a, Req.startup b => a.Perm b
  | Req.options, Req.options => True
  | Req.authResponse a, Req.authResponse b => a = b
  | Req.register a, Req.register b => a = b
  | Req.query s p a, Req.query s' p' b => s = s' ∧ p = p' ∧ a.Perm b
  | Req.prepare s k a, Req.prepare s' k' b => s = s' ∧ k = k' ∧ a.Perm b
  | Req.execute i p a, Req.execute i' p' b => i = i' ∧ p = p' ∧ a.Perm b
  | Req.batch t s c se ts ks a, Req.batch t' s' c' se' ts' ks' b =>
      t = t' ∧ s = s' ∧ c = c' ∧ se = se' ∧ ts = ts' ∧ ks = ks' ∧ a.Perm b
  | _, _ => False

theorem payloadOk_perm (v : Nat) {a b : Payload} (h : a.Perm b) : payloadOk v a = payloadOk v b := by
  have hl := h.length_eq
  have he : a.isEmpty = b.isEmpty := by
    cases a <;> cases b <;> simp at hl ⊢
  simp only [payloadOk, he, hl, h.all_eq]

theorem expressible_mapEquiv (v : Nat) (r1 r2 : Req) (h : mapEquiv r1 r2) :
    Expressible v r1 = Expressible v r2 := by
  cases r1 <;> cases r2 <;> simp only [mapEquiv] at h
  · simp only [Expressible, h.length_eq, h.all_eq]
  · rfl
  · rw [h]
  · rw [h]
  -- the four kinds with a custom payload: everything equal, the payload a permutation
  · obtain ⟨rfl, rfl, h⟩ := h; simp only [Expressible, payloadOk_perm v h]
  · obtain ⟨rfl, rfl, h⟩ := h; simp only [Expressible, payloadOk_perm v h]
  · obtain ⟨rfl, rfl, h⟩ := h; simp only [Expressible, payloadOk_perm v h]
  · obtain ⟨rfl, rfl, rfl, rfl, rfl, rfl, h⟩ := h; simp only [Expressible, payloadOk_perm v h]

end C03
