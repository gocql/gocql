import Proofs.C08Calm
import Proofs.C08SeqSpec
/-! C08: linearization of the concurrent machine to the abstract id-set specification (`Streams.specStep`), NO client
protocol (only `Clear(0)` excluded). The linearization points are those of `Streams.lpOf` (listed in Model/Streams.lean).
The pair an atomic operation linearizes is accepted by the specification and `LinInv` is kept (`lin_tstep`, by the kinds
of an operation), hence for every action (`lin_step`) and along every schedule of `runLin` (`lin_run`). -/
namespace C08
open Streams

theorem specAccepts_append (cap : Nat) (l1 l2 : List (Op × Option Ret)) (st : SpecSt) :
    specAccepts cap st (l1 ++ l2) = (specAccepts cap st l1).bind (fun st' => specAccepts cap st' l2) := by
  fun_induction specAccepts cap st l1 <;> simp_all [specAccepts]

theorem specAccepts_one {cap : Nat} {st st' : SpecSt} {op : Op} {r : Option Ret}
    (h : specStep cap st.tbl st.cnt op r = some st') : specAccepts cap st [(op, r)] = some st' := by
  simp only [specAccepts, h]

/-- ONE atomic operation: its linearized pair (if it is a linearization point) is accepted by the specification
    and the abstraction relation is kept -/
theorem lin_tstep {n : Nat} (hn : 0 < n) (sh : Shared) (pc : PC) (hlen : sh.words.length = n)
    (hloc : localA n pc) (hnz : nz pc) (hres : bitAt sh.words 0 = true)
    {tbl : Array Bool} {cnt : Nat} (hL : LinInv n sh.words tbl cnt) :
    ∃ st', specAccepts (64 * n) { tbl := tbl, cnt := cnt } (lpOf sh pc) = some st' ∧
      LinInv n (tstep sh pc).1.words st'.tbl st'.cnt := by
  subst hlen
  cases tstep_kinds sh pc hn (localA_ok hloc) with
  | quiet hq =>
    rw [hq.words]
    rcases hq.kind with ⟨_, _, hlp, _⟩ | ⟨id, _, hb, hlp, _⟩
    · exact ⟨_, by rw [hlp]; rfl, hL⟩
    · obtain ⟨h1, hL'⟩ := lin_clear_false hL hb
      exact ⟨_, by rw [hlp]; exact specAccepts_one h1, hL'⟩
  | acquire id hlt hfree hlp e =>
    obtain ⟨h1, hL'⟩ := lin_get hL rfl hres hlt hfree
    exact ⟨_, by rw [hlp]; exact specAccepts_one h1, by rw [e]; exact hL'⟩
  | ret id =>
    exact ⟨_, rfl, hL⟩
  | release id h hlp e =>
    obtain ⟨h1, _, hL'⟩ := lin_clear_true hL rfl hres hnz ((bitAt_of_word h).trans hloc.1) hloc.2
    exact ⟨_, by rw [hlp]; exact specAccepts_one h1, by rw [e]; exact hL'⟩
  | decrement id =>
    exact ⟨_, rfl, hL⟩

theorem lin_step {n : Nat} (hn : 0 < n) {b0 : Nat → Bool} {s s' : State} {a : Action} {r : Option Ret} {evs : List Ev}
    (hI : InvN n b0 s evs) (hok : noClear0 s a = true) (hs : step s a = some (s', r))
    {tbl : Array Bool} {cnt : Nat} (hL : LinInv n s.sh.words tbl cnt) :
    ∃ st', specAccepts (64 * n) { tbl := tbl, cnt := cnt } (linOf s a) = some st' ∧
      LinInv n s'.sh.words st'.tbl st'.cnt := by
  obtain ⟨t, pc0, pc, held, ht, rfl, _, _, hlin, ⟨op, rfl, rfl, rfl, _⟩ | ⟨_, rfl, _, _⟩⟩ := step_cases hs
  · rw [hlin]
    exact lin_tstep hn s.sh _ hI.len ((quiet_start op).2.2 n) (nz_start s t op hok) hI.b.reserved hL
  · rw [hlin]
    exact lin_tstep hn s.sh _ hI.len (hI.len ▸ hI.a.locals t _ ht) (hI.b.nzs t _ ht) hI.b.reserved hL

theorem lin_run {n : Nat} (hn : 0 < n) (as : List Action) (s s' : State) (lin : List (Op × Option Ret)) (b0 : Nat → Bool)
    (evs : List Ev) (tbl : Array Bool) (cnt : Nat) (hI : InvN n b0 s evs) (hL : LinInv n s.sh.words tbl cnt)
    (h : runLin noClear0 s as = some (s', lin)) :
    ∃ st', specAccepts (64 * n) { tbl := tbl, cnt := cnt } lin = some st' ∧ LinInv n s'.sh.words st'.tbl st'.cnt := by
  fun_induction runLin noClear0 s as generalizing lin evs tbl cnt with
  | case1 s => cases h; exact ⟨{ tbl := tbl, cnt := cnt }, rfl, hL⟩
  | case2 s a as hok s1 r hs ih =>
    obtain ⟨p, hr, e⟩ := Option.map_eq_some_iff.mp h
    cases e
    obtain ⟨st1, h1, hL1⟩ := lin_step hn hI hok hs hL
    obtain ⟨st2, h2, hL2⟩ := ih p.2 _ st1.tbl st1.cnt (invN_step hI hok hs) hL1 hr
    exact ⟨st2, by rw [specAccepts_append, h1]; exact h2, hL2⟩
  | case3 | case4 => cases h

end C08
