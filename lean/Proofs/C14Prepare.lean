import Proofs.C14LRU
import Model.Prepare
import Proofs.Common
/-! C14, sequential tier: the inductive invariant `Good` of the single-flight protocol `Prepare.step`, kept by every step and
    every schedule -/
namespace Prepare
open LRU
variable {κ : Type} [DecidableEq κ]

/-- the LRU is well formed; every cached entry names an existing flight of its key that has not failed; per key
    `#insert = #removal + (1 if cached)`; `evictPreparedID` never met a flight without a prepared statement -/
structure Good (s : State κ) : Prop where
  lru : s.cache.Inv
  entries : ∀ e ∈ s.cache.items, ∃ fl, s.flights[e.2]? = some fl ∧ fl.key = e.1 ∧ fl.status ≠ .failed
  count : ∀ x, prepares s.log x = removals s.log x + s.cache.keys.count x
  noCrash : s.crashed = false

theorem good_init (cap : Int) : Good (init cap : State κ) := by
  refine ⟨inv_new cap, ?_, ?_, rfl⟩
  · intro e he; simp [init, LRU.new] at he
  · intro x; simp [init, prepares, removals, LRU.new, Cache.keys]

theorem get_hit_parts (c : Cache κ Nat) (hinv : c.Inv) (k : κ) (f : Nat) (c' : Cache κ Nat)
    (h : c.get k = (some f, c')) :
    c'.Inv ∧ (∀ e ∈ c'.items, e ∈ c.items) ∧ (∀ x, c'.keys.count x = c.keys.count x) ∧
    (k, f) ∈ c.items := by
  have hi := get_inv c hinv k
  unfold Cache.get at h hi
  cases hf : c.find k with
  | none => simp [hf] at h
  | some v =>
    simp only [hf] at h hi
    injection h with h1 h2
    injection h1 with h1
    subst h1; subst h2
    have hm := find_key_mem hf
    refine ⟨hi.1, ?_, ?_, hm⟩
    · intro e he
      simp only [List.mem_cons] at he
      rcases he with rfl | he
      · exact hm
      · exact (mem_without k c.items e he).1
    · intro x; exact count_keys_move c hinv.nodup k v hf x

theorem remove_parts (c : Cache κ Nat) (hinv : c.Inv) (k : κ) :
    (c.remove k).2.1.Inv ∧ (∀ e ∈ (c.remove k).2.1.items, e ∈ c.items ∧ e.1 ≠ k) ∧
    (∀ x, (c.remove k).2.1.keys.count x + ((c.remove k).2.2.map (·.1)).count x = c.keys.count x) := by
  have hi := remove_inv c hinv k
  unfold Cache.remove at hi ⊢
  cases hf : c.find k with
  | none =>
    simp only [hf] at hi ⊢
    refine ⟨hinv, ?_, by simp⟩
    intro e he
    refine ⟨he, fun hk => ?_⟩
    exact find_key_eq_none.1 hf (hk ▸ List.mem_map_of_mem (f := (·.1)) he)
  | some v =>
    simp only [hf] at hi ⊢
    refine ⟨hi.1, fun e he => mem_without k c.items e he, ?_⟩
    intro x
    have hm : k ∈ c.keys := List.mem_map_of_mem (f := (·.1)) (find_key_mem hf)
    have := count_keys_without c hinv.nodup k x
    simp only [hm, true_and] at this
    simp only [Cache.keys, List.map_cons, List.map_nil, List.count_cons, List.count_nil] at this ⊢
    by_cases hx : x = k
    · subst hx; simpa using this
    · have hx' : ¬ k = x := fun e => hx e.symm
      simpa [hx, hx'] using this

/-! counting events: the constructor of the mapped events is a variable, so that the three removal / eviction logs share the two lemmas -/

theorem cntI_map (x : κ) (mk : κ → Nat → Event κ) (h : ∀ k f, Event.isInsert x (mk k f) = false) (l : List (κ × Nat)) :
    List.countP (Event.isInsert x) (l.map (fun e => mk e.1 e.2)) = 0 := by
  induction l with
  | nil => rfl
  | cons e t ih => simp [h, ih]

theorem cntR_map (x : κ) (mk : κ → Nat → Event κ) (h : ∀ k f, Event.isRemoval x (mk k f) = (k == x)) (l : List (κ × Nat)) :
    List.countP (Event.isRemoval x) (l.map (fun e => mk e.1 e.2)) = (l.map (·.1)).count x := by
  induction l with
  | nil => rfl
  | cons e t ih => simp [List.countP_cons, h, List.count_cons, ih]

theorem step_flights (s s' : State κ) (a : Action κ) (h : step s a = some s') :
    (s'.flights = s.flights) ∨
    (∃ k, a = .lookup k ∧ s'.flights = s.flights ++ [{ key := k, status := .inflight }]) ∨
    (∃ f fl st, s.flights[f]? = some fl ∧ fl.status = .inflight ∧ s'.flights = s.flights.set f { fl with status := st }) := by
  revert h
  -- `caseN`: the N-th alternative of `step`, in the order of its definition
  fun_cases step s a <;> intro h <;> cases h
  case case2 => exact .inr (.inl ⟨_, rfl, rfl⟩)  -- lookup, miss
  case case4 hf hst _ | case5 hf hst _ => exact .inr (.inr ⟨_, _, _, hf, hst, rfl⟩)  -- complete
  all_goals exact .inl rfl

theorem step_good (s s' : State κ) (a : Action κ) (hg : Good s) (h : step s a = some s') : Good s' := by
  obtain ⟨hinv, hb, hc, hcr⟩ := hg
  -- a `Get` that hits reorders the cache and nothing else; the flight it finds has not failed
  have hit : ∀ {k f c'}, s.cache.get k = (some f, c') → c'.Inv ∧
      (∀ e ∈ c'.items, ∃ fl, s.flights[e.2]? = some fl ∧ fl.key = e.1 ∧ fl.status ≠ .failed) ∧
      (∀ x, prepares s.log x = removals s.log x + c'.keys.count x) ∧
      ∃ fl, s.flights[f]? = some fl ∧ fl.status ≠ .failed := by
    intro k f c' hget
    obtain ⟨hi', hsub, hcnt, hmemf⟩ := get_hit_parts s.cache hinv k f c' hget
    obtain ⟨fl, h1, _, h3⟩ := hb (k, f) hmemf
    exact ⟨hi', fun e he => hb e (hsub e he), fun x => by rw [hcnt x]; exact hc x, fl, h1, h3⟩
  revert h
  fun_cases step s a <;> intro h <;> cases h
  case case1 hget =>  -- lookup, hit
    obtain ⟨hi', hb', hc', _⟩ := hit hget
    refine ⟨hi', hb', fun x => ?_, hcr⟩
    simp only [prepares, removals, List.countP_append, List.countP_cons, List.countP_nil,
      Event.isInsert, Event.isRemoval] at hc' ⊢
    simpa using hc' x
  case case2 k c' hget f0 r =>  -- lookup, miss
    simp only [r, f0]
    have hnone := (get_find s.cache k k).1.symm.trans (congrArg Prod.fst hget)
    obtain ⟨hkeys, hmem⟩ := add_miss_keys s.cache k s.flights.length hnone
    refine ⟨(add_inv s.cache hinv k _).1, ?_, ?_, hcr⟩
    · intro e he
      rcases hmem e he with rfl | he'
      · exact ⟨{ key := k, status := .inflight }, by simp, rfl, by simp⟩
      · obtain ⟨fl, h1, h2, h3⟩ := hb e he'
        refine ⟨fl, ?_, h2, h3⟩
        have hlt : e.2 < s.flights.length := by
          have := List.getElem?_eq_some_iff.1 h1; exact this.1
        rw [List.getElem?_append_left hlt]; exact h1
    · intro x
      have hk := congrArg (List.count x) hkeys
      rw [List.count_append, List.count_cons] at hk
      simp only [prepares, removals, List.countP_append, List.countP_cons, List.countP_nil,
        Event.isInsert, Event.isRemoval, cntI_map x .evicted (fun _ _ => rfl), cntR_map x .evicted (fun _ _ => rfl)] at hc ⊢
      have := hc x
      by_cases hx : k = x
      · simp [hx] at hk ⊢; omega
      · simp [hx] at hk ⊢; omega
  case case4 f fl hfl _ id =>  -- complete, PREPARED
    refine ⟨hinv, ?_, hc, hcr⟩
    intro e he
    obtain ⟨fl0, h1, h2, h3⟩ := hb e he
    by_cases hef : e.2 = f
    · have hlt : f < s.flights.length := (List.getElem?_eq_some_iff.1 hfl).1
      have : fl0 = fl := by rw [hef, hfl] at h1; injection h1 with h1; exact h1.symm
      subst this
      refine ⟨{ fl0 with status := .ok id }, ?_, h2, by simp⟩
      rw [hef, List.getElem?_set_self hlt]
    · exact ⟨fl0, (List.getElem?_set_ne (Ne.symm hef)).trans h1, h2, h3⟩
  case case5 f fl hfl _ rm =>  -- complete, failure
    simp only [rm]
    obtain ⟨hi', hsub, hcnt⟩ := remove_parts s.cache hinv fl.key
    refine ⟨hi', ?_, ?_, hcr⟩
    · intro e he
      obtain ⟨hin, hne⟩ := hsub e he
      obtain ⟨fl0, h1, h2, h3⟩ := hb e hin
      have hef : e.2 ≠ f := by
        intro hef
        rw [hef, hfl] at h1; injection h1 with h1
        exact hne (h1 ▸ h2).symm
      exact ⟨fl0, (List.getElem?_set_ne (Ne.symm hef)).trans h1, h2, h3⟩
    · intro x
      simp only [prepares, removals, List.countP_append, cntI_map x .failRemoved (fun _ _ => rfl),
        cntR_map x .failRemoved (fun _ _ => rfl)] at hc ⊢
      have := hc x; have := hcnt x; omega
  case case7 => exact ⟨hinv, hb, hc, hcr⟩  -- unprepared: not cached
  case case8 k _ c' hget _ _ rm =>  -- unprepared: the cached id
    simp only [rm]
    obtain ⟨hi', hb', hc', _⟩ := hit hget
    obtain ⟨hi'', hsub', hcnt'⟩ := remove_parts c' hi' k
    refine ⟨hi'', fun e he => hb' e (hsub' e he).1, fun x => ?_, hcr⟩
    simp only [prepares, removals, List.countP_append, cntI_map x .unprepRemoved (fun _ _ => rfl),
      cntR_map x .unprepRemoved (fun _ _ => rfl)] at hc' ⊢
    have := hc' x; have := hcnt' x; omega
  case case11 hget h1 h2 =>
    -- the nil dereference needs a cached flight that is neither in flight nor prepared: a failed one
    obtain ⟨_, _, _, fl, hf, h3⟩ := hit hget
    rw [hf] at h1 h2
    cases hs : fl.status with
    | inflight => exact (h2 (congrArg some hs)).elim
    | ok id' => exact (h1 id' (congrArg some hs)).elim
    | failed => exact absurd hs h3
  -- unprepared: another id, or still in flight
  all_goals
    obtain ⟨hi', hb', hc', _⟩ := hit ‹_ = (some _, _)›
    exact ⟨hi', hb', hc', hcr⟩

theorem isRun : IsRun (step (κ := κ)) run :=
  ⟨fun _ => rfl, fun s a as => by rw [run]; cases step s a <;> rfl⟩

theorem run_good (s s' : State κ) (as : List (Action κ)) (hg : Good s) (h : run s as = some s') : Good s' :=
  isRun.inv step_good hg h

end Prepare
