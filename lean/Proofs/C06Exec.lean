import Proofs.C01Upd
/-!
  Invariant of the program-point machine of Conn.exec (`Model/MuxExec.lean`); its consequences are in `Proofs/C06.lean`.
  What a call's own entries say (`CallOk`) is kept index by index; the links between allocator, `c.calls`, wire and program
  points are fields re-proved per kind of update (the lemmas before `inv_step`).
-/
namespace MuxExec

/-- the id a call has in hand at a program point -/
@[grind =] def Pc.sid : Pc → Option Nat
  | .got s | .reg s | .waiting s | .rel s _ | .nwT s _ | .nwD s _ => some s
  | .idle | .fin _ | .done _ => none

/-- the outcome a call carries at a program point -/
@[grind =] def Pc.out : Pc → Option Out
  | .rel _ o | .nwT _ o | .nwD _ o | .fin o | .done o => some o
  | .idle | .got _ | .reg _ | .waiting _ => none

/-- what the invariant says of a call from that call's own entries alone: its program point, its release count, its
    timeout channel. No write at another call, or to `holder`, `reg`, `wire`, can disturb it (`forall_update`). -/
structure CallOk (p : Pc) (n : Nat) (tc : Bool) : Prop where
  le : n ≤ 1
  out : p.out ≠ some .inUse
  idle : p = .idle → n = 0
  nwT : ∀ s o, p = .nwT s o → tc = true
  /-- a call that has finished releaseStream, or returns a response or buildErr, has cleared its id exactly once -/
  cleared : (∃ o, p = .fin o) ∨ p = .done .buildErr ∨ (∃ k, p = .done (.resp k)) → n = 1

structure Inv (st : St) : Prop where
  /-- the call that holds an id is at a program point that has that id in hand, or has left exec while the id waits for
      its late answer (it is still registered, or the connection is closed) -/
  hold_pc : ∀ s c, st.holder s = some c →
    (st.pc c).sid = some s ∨ ∃ o, st.pc c = .done o ∧ (st.closed = true ∨ st.reg s = some c)
  /-- an id that is held is one the allocator hands out, and its holder has not released an id yet -/
  hold_rng : ∀ s c, st.holder s = some c → 1 ≤ s ∧ s < st.cap ∧ st.clears c = 0
  pc_hold : ∀ c s, (st.pc c).sid = some s → st.holder s = some c
  reg_hold : ∀ s c, st.reg s = some c → st.closed = true ∨
    (st.holder s = some c ∧ (st.pc c = .reg s ∨ (∃ o, st.pc c = .nwT s o) ∨ st.wire s = .pending c ∨ st.wire s = .answered c))
  /-- a registered call has passed addCall -/
  reg_late : ∀ s c, st.reg s = some c → s < st.cap ∧ st.pc c ≠ .idle ∧ ∀ s', st.pc c ≠ .got s'
  wire_hold : ∀ s c, (st.wire s = .pending c ∨ st.wire s = .answered c) →
    st.holder s = some c ∧ (st.pc c = .waiting s ∨ st.tclosed c = true) ∧ (st.closed = true ∨ st.reg s = some c)
  wait_wire : ∀ c s, st.pc c = .waiting s → st.wire s = .pending c ∨ st.wire s = .answered c
  loc : ∀ c, CallOk (st.pc c) (st.clears c) (st.tclosed c)
  not_bad : st.bad = false
  /-- whoever the delivery loop of closeWithError has still to visit can be served: it waits, has closed its timeout
      channel, or is about to write (and will then wait) -/
  snap_ok : ∀ c, c ∈ st.snap → (∃ s, st.pc c = .waiting s) ∨ st.tclosed c = true ∨ (∃ s, st.pc c = .reg s)
  snap_closing : ∀ c, c ∈ st.snap → st.closing = true ∧ st.closed = true
  /-- between addCall and the write the call is in c.calls, unless closeWithError has emptied the map -/
  pc_reg : ∀ c s, st.pc c = .reg s → st.closed = true ∨ st.reg s = some c
  /-- only a call in its select has anything on the wire under its id -/
  quiet_wire : ∀ c s, (st.pc c).sid = some s → st.pc c ≠ .waiting s → st.wire s = .none
  free_wire : ∀ s, st.holder s = none → st.wire s = .none
  hold_unique : ∀ s s' c, st.holder s = some c → st.holder s' = some c → s = s'

theorem inv_init (cap : Nat) : Inv (init cap) := by
  constructor <;> first | exact fun _ => ⟨Nat.zero_le _, nofun, fun _ => rfl, nofun, nofun⟩ | simp [init, Pc.sid]

/-- a step that moves call `c` alone to another program point owes `CallOk` at that point only -/
theorem Inv.loc_pc {st : St} (h : Inv st) (c : Nat) {p : Pc} (hk : CallOk p (st.clears c) (st.tclosed c)) :
    ∀ x, CallOk (upd st.pc c p x) (st.clears x) (st.tclosed x) :=
  forall_update (P := fun x p => CallOk p (st.clears x) (st.tclosed x)) h.loc c hk

/-- closeWithError's first critical section -/
theorem inv_beginClose (st : St) (err : Bool) (h : Inv st) : Inv (beginClose st err) := by
  unfold beginClose
  split
  · exact h
  · split
    · exact { h with
        hold_pc := fun s c => by upd_from h.hold_pc s c
        reg_hold := fun s c => by upd_from h.reg_hold s c
        reg_late := fun s c => by upd_from h.reg_late s c
        wire_hold := fun s c => by upd_from h.wire_hold s c
        snap_ok := fun c hc => by
          obtain ⟨s, _, hr⟩ := List.mem_filterMap.1 hc
          have := (h.loc c).nwT s; have := h.wire_hold s c; upd_from h.reg_hold s c hr
        snap_closing := fun c => by upd_from h.snap_closing c
        pc_reg := fun c s => by upd_from h.pc_reg c s }
    · exact { h with
        hold_pc := fun s c => by upd_from h.hold_pc s c
        reg_hold := fun s c => by upd_from h.reg_hold s c
        wire_hold := fun s c => by upd_from h.wire_hold s c
        snap_ok := fun c => by upd_from h.snap_ok c
        snap_closing := fun c => by upd_from h.snap_closing c
        pc_reg := fun c s => by upd_from h.pc_reg c s }

/-- close(call.timeout): the invariant only ever asks for the channel to be closed -/
theorem Inv.tclose {st : St} (h : Inv st) (c : Nat) : Inv { st with tclosed := upd st.tclosed c true } :=
  { h with
    wire_hold := fun s c => by upd_from h.wire_hold s c
    loc := forall_update (P := fun x tc => CallOk (st.pc x) (st.clears x) tc) h.loc c { h.loc c with nwT := fun _ _ _ => rfl }
    snap_ok := fun c => by upd_from h.snap_ok c }

/-- the delivery loop has visited c -/
theorem Inv.visited {st : St} (h : Inv st) (c : Nat) : Inv { st with snap := st.snap.erase c } :=
  { h with
    snap_ok := fun d hd => h.snap_ok d (List.mem_of_mem_erase hd)
    snap_closing := fun d hd => h.snap_closing d (List.mem_of_mem_erase hd) }

/-- the places from which exec returns `o` -/
@[grind cases] inductive Exit (st : St) (c : Nat) (o : Out) : Prop
  | select {s : Nat} : st.pc c = .waiting s → st.tclosed c = true → Exit st c o
  | noId : st.pc c = .idle → Exit st c o
  | released : st.pc c = .fin o → Exit st c o
  /-- refused registration: the connection is closed -/
  | refused {s : Nat} : st.pc c = .got s → st.closed = true → Exit st c o
  | writeFailed {s : Nat} : st.pc c = .reg s → st.closed = true → st.tclosed c = true → Exit st c o

theorem Inv.done {st : St} (h : Inv st) (c : Nat) (o : Out) (hp : Exit st c o)
    (ho : o ≠ .inUse) (hcl : o = .buildErr ∨ (∃ k, o = .resp k) → st.clears c = 1) :
    Inv { st with pc := upd st.pc c (.done o) } := by
  -- a call that returns while it still holds an id was waiting, so its request is on the wire and registered (`wire_hold`),
  -- or the connection is closed (the other alternatives of `hp`)
  have hr : ∀ s, st.holder s = some c → st.closed = true ∨ st.reg s = some c := fun s hs => by
    have := h.hold_pc s c hs; have := h.wait_wire c s; have := h.wire_hold s c; grind
  exact { h with
    hold_pc := fun s c => by upd_from h.hold_pc s c
    pc_hold := fun c s => by upd_from h.pc_hold c s
    reg_hold := fun s c => by upd_from h.reg_hold s c
    reg_late := fun s c => by upd_from h.reg_late s c
    wire_hold := fun s c => by upd_from h.wire_hold s c
    wait_wire := fun c s => by upd_from h.wait_wire c s
    loc := h.loc_pc c ⟨(h.loc c).le, by simpa [Pc.out] using ho, nofun, nofun, fun hh => hcl (by simpa using hh)⟩
    snap_ok := fun c => by upd_from h.snap_ok c
    pc_reg := fun c s => by upd_from h.pc_reg c s
    quiet_wire := fun c s => by upd_from h.quiet_wire c s }

/-- the two exits of exec before the frame was written: close(call.timeout) -/
theorem Inv.neverWritten {st : St} (h : Inv st) (c s : Nat) (o : Out) (hp : st.pc c = .reg s) (ho : o ≠ .inUse) :
    Inv { st with pc := upd st.pc c (.nwT s o), tclosed := upd st.tclosed c true } := by
  have hk := h.pc_hold c s (congrArg Pc.sid hp)
  have hw := h.quiet_wire c s (congrArg Pc.sid hp) (by simp [hp])
  have hr := h.pc_reg c s hp
  exact { h with
    hold_pc := fun s c => by upd_from h.hold_pc s c
    pc_hold := fun c s => by upd_from h.pc_hold c s
    reg_hold := fun s c => by upd_from h.reg_hold s c
    reg_late := fun s c => by upd_from h.reg_late s c
    wire_hold := fun s c => by upd_from h.wire_hold s c
    wait_wire := fun c s => by upd_from h.wait_wire c s
    loc := forall_update₂ (P := fun x p tc => CallOk p (st.clears x) tc) h.loc c
      ⟨(h.loc c).le, by simpa [Pc.out] using ho, nofun, fun _ _ _ => rfl, by simp⟩
    snap_ok := fun c => by upd_from h.snap_ok c
    pc_reg := fun c s => by upd_from h.pc_reg c s
    quiet_wire := fun c s => by upd_from h.quiet_wire c s }

/-- releaseStream by the call itself, after its registration is gone. The state is written as `clear` leaves it once
    the holder of `s` is known to be `c` (hence `bad || !(c == c)`), so that the cases of `inv_step` apply it as it stands. -/
theorem Inv.clearOwn {st : St} (h : Inv st) (c s : Nat) (o : Out) (hp : st.pc c = .nwD s o ∨ st.pc c = .rel s o) :
    Inv { st with holder := upd st.holder s none, clears := upd st.clears c (st.clears c + 1),
                  bad := st.bad || !(c == c), pc := upd st.pc c (.fin o) } := by
  have hi : (st.pc c).sid = some s ∧ (st.pc c).out = some o ∧ st.pc c ≠ .waiting s := by grind
  have hh := h.pc_hold c s hi.1
  have hz := (h.hold_rng s c hh).2.2
  have hw := h.quiet_wire c s hi.1 hi.2.2
  have ho := (h.loc c).out
  exact { h with
    hold_pc := fun s c => by upd_from h.hold_pc s c
    hold_rng := fun s' c' => by have := h.hold_unique s' s c'; upd_from h.hold_rng s' c'
    pc_hold := fun c s => by upd_from h.pc_hold c s
    reg_hold := fun s c => by upd_from h.reg_hold s c
    reg_late := fun s c => by upd_from h.reg_late s c
    wire_hold := fun s c => by upd_from h.wire_hold s c
    wait_wire := fun c s => by upd_from h.wait_wire c s
    loc := forall_update₂ (P := fun x p n => CallOk p n (st.tclosed x)) h.loc c
      ⟨by omega, fun e => ho (hi.2.1.trans e), nofun, nofun, fun _ => by omega⟩
    not_bad := by upd_from h.not_bad
    snap_ok := fun c => by upd_from h.snap_ok c
    pc_reg := fun c s => by upd_from h.pc_reg c s
    quiet_wire := fun c s => by upd_from h.quiet_wire c s
    free_wire := fun s => by upd_from h.free_wire s
    hold_unique := fun s s' c => by upd_from h.hold_unique s s' c }

theorem inv_step (st st' : St) (a : Act) (h : Inv st) (hs : step st a = some st') : Inv st' := by
  revert hs
  fun_cases step st a <;> intro hs <;> cases hs
  case case1 c₀ s₀ hg =>  -- getStream
    obtain ⟨hidle, hfree, _, _⟩ := hg
    have hi := (h.loc c₀).idle hidle
    have hw := h.free_wire s₀ hfree
    have hn : ∀ s', st.holder s' ≠ some c₀ := fun s' hs' => by have := h.hold_pc s' c₀ hs'; grind
    exact { h with
      hold_pc := fun s c => by upd_from h.hold_pc s c
      hold_rng := fun s c => by upd_from h.hold_rng s c
      pc_hold := fun c s => by upd_from h.pc_hold c s
      reg_hold := fun s c => by upd_from h.reg_hold s c
      reg_late := fun s c => by upd_from h.reg_late s c
      wire_hold := fun s c => by upd_from h.wire_hold s c
      wait_wire := fun c s => by upd_from h.wait_wire c s
      loc := h.loc_pc c₀ ⟨(h.loc c₀).le, by simp [Pc.out], nofun, nofun, by simp⟩
      snap_ok := fun c => by upd_from h.snap_ok c
      pc_reg := fun c s => by upd_from h.pc_reg c s
      quiet_wire := fun c s => by upd_from h.quiet_wire c s
      free_wire := fun s => by upd_from h.free_wire s
      hold_unique := fun s s' c => by upd_from h.hold_unique s s' c }
  case case3 c₀ hp => exact h.done c₀ .noStreams (.noId hp) (by simp) (by simp)  -- noStreams
  case case5 c₀ s₀ hp hcl =>  -- addCall on a closed connection
    exact h.done c₀ .connClosed (.refused hp hcl) (by simp) (by simp)
  case case6 c₀ s₀ hp _ d₀ hd =>
    -- addCall, id still registered: unreachable. `reg_late` puts a registered call past addCall, `reg_hold` makes it the
    -- holder of `s₀`, which is `c₀` at `.got s₀`
    exfalso
    have hk := h.pc_hold c₀ s₀ (congrArg Pc.sid hp)
    have := h.reg_hold s₀ d₀ hd
    have := h.reg_late s₀ d₀ hd
    grind
  case case7 c₀ s₀ hp _ _ =>  -- addCall
    have hk := h.pc_hold c₀ s₀ (congrArg Pc.sid hp)
    have hw := h.quiet_wire c₀ s₀ (congrArg Pc.sid hp) (by simp [hp])
    have hb := (h.hold_rng s₀ c₀ hk).2.1
    exact { h with
      hold_pc := fun s c => by upd_from h.hold_pc s c
      pc_hold := fun c s => by upd_from h.pc_hold c s
      reg_hold := fun s c => by upd_from h.reg_hold s c
      reg_late := fun s c => by upd_from h.reg_late s c
      wire_hold := fun s c => by upd_from h.wire_hold s c
      wait_wire := fun c s => by upd_from h.wait_wire c s
      loc := h.loc_pc c₀ ⟨(h.loc c₀).le, by simp [Pc.out], nofun, nofun, by simp⟩
      snap_ok := fun c => by upd_from h.snap_ok c
      pc_reg := fun c s => by upd_from h.pc_reg c s
      quiet_wire := fun c s => by upd_from h.quiet_wire c s }
  case case9 c₀ s₀ hp | case11 c₀ s₀ hp => exact h.neverWritten c₀ _ _ hp (by simp)  -- buildFail, writeCancelled
  case case13 c₀ s₀ hp _ =>  -- writeFailed
    have hc : (beginClose st true).closed = true := by unfold beginClose; split <;> simp_all
    have hp1 : (beginClose st true).pc c₀ = .reg s₀ := by unfold beginClose; split <;> exact hp
    exact ((inv_beginClose st true h).tclose c₀).done c₀ .writeErr (.writeFailed hp1 hc (by simp [upd]))
      (by simp) (by simp)
  case case15 c₀ s₀ hp =>  -- wrote
    have hk := h.pc_hold c₀ s₀ (congrArg Pc.sid hp)
    have hw := h.quiet_wire c₀ s₀ (congrArg Pc.sid hp) (by simp [hp])
    have hr := h.pc_reg c₀ s₀ hp
    exact { h with
      hold_pc := fun s c => by upd_from h.hold_pc s c
      pc_hold := fun c s => by upd_from h.pc_hold c s
      reg_hold := fun s c => by upd_from h.reg_hold s c
      reg_late := fun s c => by upd_from h.reg_late s c
      wire_hold := fun s c => by upd_from h.wire_hold s c
      wait_wire := fun c s => by upd_from h.wait_wire c s
      loc := h.loc_pc c₀ ⟨(h.loc c₀).le, by simp [Pc.out], nofun, nofun, by simp⟩
      snap_ok := fun c => by upd_from h.snap_ok c
      pc_reg := fun c s => by upd_from h.pc_reg c s
      quiet_wire := fun c s => by have := h.pc_hold c s; upd_from h.quiet_wire c s
      free_wire := fun s => by upd_from h.free_wire s }
  case case17 c₀ s₀ o₀ hp =>  -- nwDelete
    have hk := h.pc_hold c₀ s₀ (congrArg Pc.sid hp)
    have hw := h.quiet_wire c₀ s₀ (congrArg Pc.sid hp) (by simp [hp])
    have ho := (h.loc c₀).out
    split <;> exact { h with
      hold_pc := fun s c => by upd_from h.hold_pc s c
      pc_hold := fun c s => by upd_from h.pc_hold c s
      reg_hold := fun s c => by upd_from h.reg_hold s c
      reg_late := fun s c => by upd_from h.reg_late s c
      wire_hold := fun s c => by upd_from h.wire_hold s c
      wait_wire := fun c s => by upd_from h.wait_wire c s
      loc := h.loc_pc c₀ ⟨(h.loc c₀).le, by simpa [hp, Pc.out] using ho, nofun, nofun, by simp⟩
      snap_ok := fun c => by upd_from h.snap_ok c
      pc_reg := fun c s => by have := h.pc_hold c s; upd_from h.pc_reg c s
      quiet_wire := fun c s => by upd_from h.quiet_wire c s }
  case case19 c₀ s₀ o₀ hp =>  -- nwClear
    simp only [clear, h.pc_hold c₀ s₀ (congrArg Pc.sid hp)]
    exact h.clearOwn c₀ s₀ o₀ (.inl hp)
  case case21 c₀ s₀ o₀ hp =>  -- release
    simp only [clear, h.pc_hold c₀ s₀ (congrArg Pc.sid hp)]
    exact h.clearOwn c₀ s₀ o₀ (.inr hp)
  case case23 c₀ o₀ hp =>  -- finish
    exact h.done c₀ o₀ (.released hp) (fun ho => (h.loc c₀).out (by simp [hp, ho, Pc.out]))
      (fun _ => (h.loc c₀).cleared (.inl ⟨o₀, hp⟩))
  case case25 s₀ c₀ hw =>  -- answer
    have hk := h.wire_hold s₀ c₀ (.inl hw)
    exact { h with
      reg_hold := fun s c => by upd_from h.reg_hold s c
      wire_hold := fun s c => by upd_from h.wire_hold s c
      wait_wire := fun c s => by upd_from h.wait_wire c s
      quiet_wire := fun c s => by upd_from h.quiet_wire c s
      free_wire := fun s => by upd_from h.free_wire s }
  case case28 s₀ c₀ hw hcl d₀ hd hpw =>  -- deliver to the waiting caller
    have hk := h.wire_hold s₀ c₀ (.inr hw)
    obtain rfl : d₀ = c₀ := by grind
    exact { h with
      hold_pc := fun s c => by upd_from h.hold_pc s c
      pc_hold := fun c s => by upd_from h.pc_hold c s
      reg_hold := fun s c => by upd_from h.reg_hold s c
      reg_late := fun s c => by upd_from h.reg_late s c
      wire_hold := fun s c => by upd_from h.wire_hold s c
      wait_wire := fun c s => by upd_from h.wait_wire c s
      loc := forall_update₂ (P := fun x p tc => CallOk p (st.clears x) tc) h.loc d₀
        ⟨(h.loc d₀).le, by simp [Pc.out], nofun, nofun, by simp⟩
      snap_ok := fun c => by upd_from h.snap_ok c
      pc_reg := fun c s => by upd_from h.pc_reg c s
      quiet_wire := fun c s => by upd_from h.quiet_wire c s
      free_wire := fun s => by upd_from h.free_wire s }
  case case29 s₀ c₀ hw hcl d₀ hd _ htc =>  -- deliver, the caller has gone: recv releases the id
    have hk := h.wire_hold s₀ c₀ (.inr hw)
    obtain rfl : d₀ = c₀ := by grind
    have hh := hk.1
    have hz := (h.hold_rng s₀ d₀ hh).2.2
    -- the caller has left its select with its id still reserved for want of this answer: it is through
    have hpd : ∃ o, st.pc d₀ = .done o := by
      have := h.hold_pc s₀ d₀ hh; have := h.quiet_wire d₀ s₀; grind
    simp only [clear, hh]
    exact { h with
      hold_pc := fun s' c' => by have := h.hold_unique s' s₀ c'; upd_from h.hold_pc s' c'
      hold_rng := fun s' c' => by have := h.hold_unique s' s₀ c'; upd_from h.hold_rng s' c'
      pc_hold := fun c s => by upd_from h.pc_hold c s
      reg_hold := fun s c => by upd_from h.reg_hold s c
      reg_late := fun s c => by upd_from h.reg_late s c
      wire_hold := fun s c => by upd_from h.wire_hold s c
      wait_wire := fun c s => by upd_from h.wait_wire c s
      loc := forall_update (P := fun x n => CallOk (st.pc x) n (st.tclosed x)) h.loc d₀
        ⟨by omega, (h.loc d₀).out, fun e => by simp [e] at hpd, (h.loc d₀).nwT, fun _ => by omega⟩
      not_bad := by upd_from h.not_bad
      pc_reg := fun c s => by upd_from h.pc_reg c s
      quiet_wire := fun c s => by upd_from h.quiet_wire c s
      free_wire := fun s => by upd_from h.free_wire s
      hold_unique := fun s s' c => by upd_from h.hold_unique s s' c }
  case case31 s₀ c₀ hw _ _ =>  -- deliver, no handler
    have hk := h.wire_hold s₀ c₀ (.inr hw)
    exact { h with
      reg_hold := fun s c => by upd_from h.reg_hold s c
      wire_hold := fun s c => by upd_from h.wire_hold s c
      wait_wire := fun c s => by upd_from h.wait_wire c s
      quiet_wire := fun c s => by upd_from h.quiet_wire c s
      free_wire := fun s => by upd_from h.free_wire s }
  case case33 c₀ s₀ hp | case35 c₀ s₀ hp =>  -- timeout, cancel
    exact (h.tclose c₀).done c₀ _ (.select hp (by simp [upd])) (by simp) (by simp)
  case case37 c₀ s₀ hp _ =>  -- connDone
    exact (h.tclose c₀).done c₀ .connClosed (.select hp (by simp [upd])) (by simp) (by simp)
  case case41 err₀ _ => exact inv_beginClose st err₀ h  -- closeBegin
  case case42 c₀ _ s₀ hp =>  -- closeDeliver to a waiting call
    exact ((h.tclose c₀).done c₀ .connErr (.select hp (by simp [upd])) (by simp) (by simp)).visited c₀
  case case43 c₀ _ _ _ => exact h.visited c₀  -- closeDeliver, the call has closed its timeout channel
  case case46 hg => exact { h with snap_closing := fun c hc => by simp [hg.2] at hc }  -- closeFinish

theorem isRun : IsRun step run := ⟨fun _ => rfl, fun s a as => by rw [run]; cases step s a <;> rfl⟩

theorem inv_reach {cap : Nat} {as : List Act} {st : St} (h : run (init cap) as = some st) : Inv st :=
  isRun.inv inv_step (inv_init cap) h

end MuxExec
