import Model.Pipe
import Proofs.Common
/-! The handshake-result protocol of startupCoordinator.setupConn (`Hs` of `Model/Pipe.lean`; namespace `C17.HsProofs`): its
    invariant, that no step moves a reporter backwards (`step_mono`), and the state in which the variant with a buffered channel
    is stuck (`blocked_stepBuf`). -/
namespace C17
namespace HsProofs
open Hs

structure Inv (s : St) : Prop where
  ret : s.c = .ret → s.cancelled = true
  left : s.c = .left → s.cancelled = true
  ticker : s.w = .done → s.tickerClosed = true
  noBuf : s.buf = 0

theorem inv_init : Inv St.init := by constructor <;> simp [St.init]

theorem inv_step (s s' : St) (a : Act) (h : Inv s) (hs : step s a = some s') : Inv s' := by
  obtain ⟨h1, h2, h3, h4⟩ := h
  revert hs; fun_cases step s a <;> intro hs <;> cases hs <;> constructor <;> simp_all

theorem isRun : IsRun step run := ⟨fun _ => rfl, fun s a as => by rw [run]; cases step s a <;> rfl⟩
theorem isRunBuf : IsRun stepBuf runBuf := ⟨fun _ => rfl, fun t b bs => by rw [runBuf]; cases stepBuf t b <;> rfl⟩

theorem inv_run : ∀ (as : List Act) (s s' : St), Inv s → run s as = some s' → Inv s' :=
  fun _ _ _ => isRun.inv inv_step

/-- no step of anybody moves a reporter away from returning (each reporter only goes `run → send → done`), and once setupConn
    has returned it stays returned -/
theorem step_mono {s s' : St} {a : Act} (hs : step s a = some s') :
    (s.c = .ret → s'.c = .ret) ∧ s'.r.measure ≤ s.r.measure ∧ s'.w.measure ≤ s.w.measure := by
  revert hs; fun_cases step s a <;> intro hs <;> cases hs <;> simp_all [RPc.measure]

/-- the variant with a buffered result channel and plain sends: a reporter at its send with the slot full and the consumer gone
    stays there, whatever happens -/
theorem blocked_stepBuf (t t' : St) (b : Act) (h : t.r = .send ∧ t.c = .ret ∧ t.buf = 1) (hs : stepBuf t b = some t') :
    t'.r = .send ∧ t'.c = .ret ∧ t'.buf = 1 := by
  revert hs; fun_cases stepBuf t b <;> intro hs <;> cases hs <;> simp_all

end HsProofs
end C17
