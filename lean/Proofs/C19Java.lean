import Proofs.C19Order
/-! The long-arithmetic formulation of Cassandra's comparison (`Spec.javaLe`) equals the byte formulation
    (`Spec.cassLe`) on version-1 values: the reordered first long is `2^60 + timestamp`, and the xor with `0x0080…80` turns the
    unsigned value of the second long into the balanced value `sVal` of the low 8 bytes plus a constant; `cassLe`
    compares exactly these two numbers (`cassLe_iff_sVal`). -/
namespace Uuid
open Spec

theorem and_shifted_mask (y s w : Nat) : y &&& (2 ^ w - 1) <<< s = y / 2 ^ s % 2 ^ w * 2 ^ s := by
  apply Nat.eq_of_testBit_eq
  intro i
  rw [Nat.testBit_and, Nat.testBit_shiftLeft, Nat.testBit_two_pow_sub_one, ← Nat.shiftLeft_eq, Nat.testBit_shiftLeft,
    Nat.testBit_mod_two_pow, Nat.testBit_div_two_pow]
  by_cases h : s ≤ i
  · by_cases h2 : i - s < w <;> simp [h, h2]
  · simp [h]

/-- `reorderTimestampBytes` on a long given by its fields (high 32 bits `A`, then 16 bits `B`, low 16 bits `C`):
    the low 16 bits go to the top, the next 16 below them, the high 32 bits to the bottom -/
theorem reorder_fields (A B C : Nat) (lA : A < 4294967296) (lB : B < 65536) (lC : C < 65536) :
    reorderTimestampBytes (A * 4294967296 + B * 65536 + C) = C * 281474976710656 + (B * 4294967296 + A) := by
  have l2 : B <<< 32 + A < 2 ^ 48 := by rw [Nat.shiftLeft_eq]; simp only [Nat.reducePow]; omega
  unfold reorderTimestampBytes
  rw [show ∀ y, y &&& 0xFFFF00000000 = y / 2 ^ 32 % 2 ^ 16 * 2 ^ 32 from fun y => and_shifted_mask y 32 16,
    Nat.shiftLeft_eq, Nat.shiftLeft_eq, Nat.shiftRight_eq_div_pow]
  simp only [Nat.reducePow]
  rw [show (A * 4294967296 + B * 65536 + C) * 281474976710656 % 18446744073709551616 = C <<< 48 by
      rw [Nat.shiftLeft_eq]; simp only [Nat.reducePow]; omega,
    show (A * 4294967296 + B * 65536 + C) * 65536 / 4294967296 % 65536 * 4294967296 = B <<< 32 by
      rw [Nat.shiftLeft_eq]; simp only [Nat.reducePow]; omega,
    show (A * 4294967296 + B * 65536 + C) / 4294967296 = A by omega,
    Nat.or_assoc, ← Nat.shiftLeft_add_eq_or_of_lt (i := 32) lA B, ← Nat.shiftLeft_add_eq_or_of_lt l2 C,
    Nat.shiftLeft_eq, Nat.shiftLeft_eq]

theorem xor80 : ∀ n : Fin 256, n.val ^^^ 128 = (n.val + 128) % 256 := by decide +kernel

theorem xor_blocks (a b x y m : Nat) (hx : x < 2 ^ m) (hy : y < 2 ^ m) :
    (a * 2 ^ m + x) ^^^ (b * 2 ^ m + y) = (a ^^^ b) * 2 ^ m + (x ^^^ y) := by
  have hp := Nat.two_pow_pos m
  rw [← Nat.div_add_mod ((a * 2 ^ m + x) ^^^ (b * 2 ^ m + y)) (2 ^ m), Nat.xor_div_two_pow, Nat.xor_mod_two_pow,
    Nat.mul_comm a, Nat.mul_comm b, Nat.mul_add_div hp, Nat.mul_add_div hp, Nat.mul_add_mod, Nat.mul_add_mod,
    Nat.div_eq_of_lt hx, Nat.div_eq_of_lt hy, Nat.mod_eq_of_lt hx, Nat.mod_eq_of_lt hy, Nat.add_zero, Nat.add_zero,
    Nat.mul_comm]

theorem toSigned64_small (n : Nat) (h : n < 2 ^ 63) : toSigned64 n = (n : Int) := by
  unfold toSigned64; rw [if_pos h]

theorem msb_core (A B C : Nat) (lA : A < 4294967296) (lB : B < 65536) (hver : C / 4096 = 1) :
    toSigned64 (reorderTimestampBytes (A * 4294967296 + B * 65536 + C)) =
      ((A + B * 4294967296 + (C % 4096) * 281474976710656 : Nat) : Int) + 2 ^ 60 := by
  rw [reorder_fields A B C lA lB (by omega), toSigned64_small _ (by omega)]
  omega

theorem getLong_zero (u : List UInt8) (h : u.length = 16) :
    getLong u 0 = timeLow u * 4294967296 + timeMid u * 65536 + timeHiAndVersion u := by
  obtain ⟨b0, b1, b2, b3, b4, b5, b6, b7, b8, b9, b10, b11, b12, b13, b14, b15, rfl⟩ := list16 u h
  show be ([b0, b1, b2, b3] ++ ([b4, b5] ++ [b6, b7])) = be [b0, b1, b2, b3] * 4294967296 + be [b4, b5] * 65536 + be [b6, b7]
  simp only [be_eq, BE.beNat_append, List.length_append, List.length_cons, List.length_nil, Nat.reduceAdd, Nat.reducePow]
  omega

theorem msb_eq (u : List UInt8) (hl : u.length = 16) (hv : version u = 1) :
    toSigned64 (reorderTimestampBytes (getLong u 0)) = (rfcTimestamp u : Int) + 2 ^ 60 := by
  obtain ⟨f1, f2, _, _⟩ := fields16 u hl
  have := (byteAt u 0).toNat_lt; have := (byteAt u 1).toNat_lt; have := (byteAt u 2).toNat_lt
  have := (byteAt u 3).toNat_lt; have := (byteAt u 4).toNat_lt; have := (byteAt u 5).toNat_lt
  rw [getLong_zero u hl]
  exact msb_core _ _ _ (by omega) (by omega) ((version_eq_rfc u hl).symm.trans hv)

theorem signed_flip (c : UInt8) : (((c.toNat + 128) % 256 : Nat) : Int) = Spec.signed c + 128 := by
  have := c.toNat_lt
  unfold Spec.signed
  split <;> omega

theorem be_lt (l : List UInt8) : be l < 2 ^ (8 * l.length) := by
  rw [be_eq, Nat.mul_comm, BE.pow2_mul8]
  exact BE.beNat_lt l

/-- flipping the sign bit of every byte turns the unsigned big-endian value into the balanced one, shifted -/
theorem xor_mask_sVal : ∀ l : List UInt8,
    ((be l ^^^ be (List.replicate l.length 0x80) : Nat) : Int) = sVal l + (be (List.replicate l.length 0x80) : Nat)
  | [] => by simp [be, sVal]
  | b :: l => by
    have ih := xor_mask_sVal l
    have hm := be_lt (List.replicate l.length 0x80)
    rw [List.length_replicate] at hm
    have hb : b.toNat ^^^ 128 = (b.toNat + 128) % 256 := xor80 ⟨b.toNat, b.toNat_lt⟩
    simp only [List.length_cons, List.replicate_succ, be, sVal, List.length_replicate, UInt8.reduceToNat] at ih ⊢
    rw [show (256 : Nat) = 2 ^ 8 from rfl, ← Nat.pow_mul, xor_blocks _ _ _ _ _ (be_lt l) hm, hb, Nat.pow_mul,
      show (2 : Nat) ^ 8 = 256 from rfl, Int.natCast_add, Int.natCast_mul, signed_flip, ih]
    rw [Int.natCast_add, Int.natCast_mul, Int.natCast_pow]
    generalize ((256 : Nat) : Int) ^ l.length = P
    rw [Int.add_mul]
    omega

theorem lsb_bytes (b : UInt8) (t : List UInt8) (ht : t.length = 7) :
    toSigned64 (signedBytesToNativeLong (be (b :: t))) = sVal (b :: t) + 0x0080808080808080 := by
  have hM : be (List.replicate 7 0x80) = 0x80808080808080 := by decide
  have h1 : be t < 2 ^ 56 := by have := be_lt t; rwa [ht] at this
  have h2 : be (List.replicate 7 0x80) < 2 ^ 56 := by decide
  have hx := Nat.xor_lt_two_pow h1 h2
  have hf := xor_mask_sVal t
  show toSigned64 ((b.toNat * 256 ^ t.length + be t) ^^^ 0x0080808080808080) =
    Spec.signed b * 256 ^ t.length + sVal t + 0x0080808080808080
  rw [ht] at hf ⊢
  rw [show (0x0080808080808080 : Nat) = 0 * 2 ^ 56 + be (List.replicate 7 0x80) from hM.symm ▸ rfl,
    show (256 : Nat) ^ 7 = 2 ^ 56 from rfl, xor_blocks _ _ _ _ _ h1 h2, Nat.xor_zero]
  generalize be t ^^^ be (List.replicate 7 0x80) = y at hf hx
  rw [hM] at hf
  have := b.toNat_lt
  unfold toSigned64 Spec.signed
  simp only [Nat.reducePow, Int.reducePow] at *
  split <;> split <;> omega

theorem lsb_eq (u : List UInt8) (hl : u.length = 16) :
    toSigned64 (signedBytesToNativeLong (getLong u 8)) = sVal (u.drop 8) + 0x0080808080808080 := by
  obtain ⟨b0, b1, b2, b3, b4, b5, b6, b7, b8, b9, b10, b11, b12, b13, b14, b15, rfl⟩ := list16 u hl
  exact lsb_bytes b8 [b9, b10, b11, b12, b13, b14, b15] rfl

end Uuid
