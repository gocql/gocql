import Model.PagingWalk
import Proofs.C15Hist
/-! The walk model of C15 (`Model/PagingWalk.lean`): every step of a walk keeps
    (a) what the iterator has delivered plus what it will still deliver (`Hist.tot`: `WInv`, the first alternative of
    `Hist.K`, which walks without cancellation never leave; from it the stride log is the specification's), and
    (b) the relation between the asynchronous prefetch and the consumer's position on the current page (`AInv`). -/
namespace Paging.Walk
open Paging Paging.Hist

theorem scanK_inv {P : W → Prop} (ppOf : Int → Nat → Nat) (api : Api)
    (h1 : ∀ w, P w → P (scan1 ppOf api w).1) (k : Nat) (w : W) (hw : P w) : P (scanK ppOf api k w).1 := by
  fun_induction scanK ppOf api k w with
  | case1 => exact hw
  | case2 k w r _ ih => exact ih (h1 w hw)
  | case3 k w => exact h1 w hw

theorem step_pres {ppOf : Int → Nat → Nat} {E : Env → Prop} {Q : It → Prop} (h : Pres ppOf E Q) (w : W) (s : Step)
    (hw : Q w.it ∧ E w.env) : Q (step ppOf w s).it ∧ E (step ppOf w s).env := by
  cases s with
  | scan api k =>
    exact scanK_inv (P := fun w => Q w.it ∧ E w.env) ppOf api
      (fun w hw => scanF_pres h (scanFuel w.it) w.env w.it hw.2 hw.1) k w hw
  | observe => exact hw
  | await =>
    show Q (await ppOf w).1.it ∧ E (await ppOf w).1.env
    -- the probe makes the one fetch only when the prefetch is `launched` (third case)
    fun_cases await ppOf w with
    | case3 => exact h.force w.env w.it hw.2 hw.1
    | _ => exact hw
  | arrive =>
    show Q (arrive ppOf w).it ∧ E (arrive ppOf w).env
    fun_cases arrive ppOf w with
    | case1 => exact h.force w.env w.it hw.2 hw.1
    | case2 => exact hw

theorem execX_pres {ppOf : Int → Nat → Nat} {E : Env → Prop} {Q : It → Prop} (h : Pres ppOf E Q)
    (hc : ∀ c e, E e → E { e with cancelled := c :: e.cancelled }) (steps : List StepX) (w : W)
    (hw : Q w.it ∧ E w.env) : Q (execX ppOf w steps).it ∧ E (execX ppOf w steps).env := by
  rw [foldl_of_eqns (exec := execX ppOf) (fun _ => rfl) fun _ _ _ => rfl]
  refine foldl_inv (fun w : W => Q w.it ∧ E w.env) _ (fun w s hw => ?_) steps w hw
  cases s with
  | base s => exact step_pres h w s hw
  | cancel c => exact ⟨hw.1, hc c _ hw.2⟩

variable (ppOf : Int → Nat → Nat)

def WInv (T : List Int × List Req × Option Fail) (w : W) : Prop :=
  tot ppOf w.it = T ∧ w.env.cancelled = []

theorem exec_winv (T : List Int × List Req × Option Fail) (steps : List Step) (w : W)
    (hw : WInv ppOf T w) : WInv ppOf T (exec ppOf w steps) := by
  rw [foldl_of_eqns (exec := exec ppOf) (fun _ => rfl) fun _ _ _ => rfl]
  exact foldl_inv (WInv ppOf T) _ (fun w s => step_pres (pres_tot ppOf T) w s) steps w hw

theorem start_winv (script : List Reply) (q : Qry) :
    WInv ppOf (obs3 (run (ppOf q.pf) script false q)) (start ppOf script q) :=
  ⟨startIter_tot (fun _ _ => script) ppOf env0 q (callerDead_nil env0 rfl _), sessExec_cancelled ppOf env0 script q⟩

/-- a Scan that starts with nothing fetched ahead ends with nothing fetched ahead: what it fetches, it switches to -/
theorem scanF_pre_none (k : Nat) (e : Env) (it : It) (h : it.pre = none) :
    (scanF ppOf k e it).1.pre = none := by
  fun_induction scanF ppOf k e it with
  | case1 | case2 | case3 | case4 => exact h
  | case5 k e it hs herr n hn r nx hp ih => exact ih rfl
  | case6 k e it hs herr n hn r hp => exact hp

/-- a call that leaves the current page: nothing is fetched ahead of the page it arrives on, and only this
    call's trigger can have launched that page's prefetch -/
theorem scan1_leaves (api : Api) (w : W) (h : leaves w.it = true) :
    (scan1 ppOf api w).1.it.pre = none ∧
    (scan1 ppOf api w).1.async =
      if (scan1 ppOf api w).2 then trigger api (scan1 ppOf api w).1.it.cur .idle else .idle := by
  refine ⟨?_, by simp only [scan1, h, if_true]⟩
  unfold leaves at h
  simp only [Bool.and_eq_true, Option.isNone_iff_eq_none, Option.isSome_iff_exists] at h
  obtain ⟨⟨hs, he⟩, n, hn⟩ := h
  show (scanF ppOf (scanFuel w.it) w.env w.it).1.pre = none
  rw [scanFuel, scanF]
  simp only [hs, he, hn]
  cases hp : (force ppOf w.env w.it).1.pre with
  | none => simpa using hp
  | some nx => exact scanF_pre_none ppOf _ _ _ rfl

theorem scan1_stays (api : Api) (w : W) (h : leaves w.it = false) :
    scan1 ppOf api w =
      match scanRow w.it.cur with
      | some (r, c') =>
        ({ it := { w.it with cur := c', out := w.it.out ++ [r] }, env := w.env, async := trigger api c' w.async }, true)
      | none => (w, false) := by
  have hf : scanF ppOf (scanFuel w.it) w.env w.it =
      match scanRow w.it.cur with
      | some (r, c') => ({ w.it with cur := c', out := w.it.out ++ [r] }, w.env, true)
      | none => (w.it, w.env, false) := by
    rw [scanFuel, scanF]
    cases hs : scanRow w.it.cur with
    | some rc => rfl
    | none =>
      simp only []
      cases he : w.it.cur.err with
      | some f => rfl
      | none =>
        simp only []
        cases hn : w.it.cur.next with
        | none => rfl
        | some n => simp [leaves, hs, he, hn] at h
  unfold scan1
  rw [hf, h]
  cases scanRow w.it.cur <;> rfl

theorem trigger_cases (api : Api) (c : Iter) (a : Async) :
    trigger api c a = a ∨ (a = .idle ∧ trigger api c a = .launched ∧ ∃ n, c.next = some n ∧ n.pos < c.pos) := by
  fun_cases trigger api c a
  · -- Iter.Scan, a next page, past its threshold and idle: launched
    exact .inr ⟨‹_ ∧ _›.2, rfl, _, ‹_›, ‹_ ∧ _›.1⟩
  · exact .inl rfl
  · exact .inl rfl

theorem scanF_out (k : Nat) (e : Env) (it : It) :
    ((scanF ppOf k e it).2.2 = true → ∃ r, (scanF ppOf k e it).1.out = it.out ++ [r]) ∧
    ((scanF ppOf k e it).2.2 = false → (scanF ppOf k e it).1.out = it.out) := by
  fun_induction scanF ppOf k e it with
  | case1 | case3 | case4 => exact ⟨fun h => (by cases h), fun _ => rfl⟩
  | case2 k e it r c' hs => exact ⟨fun _ => ⟨r, rfl⟩, fun h => (by cases h)⟩
  | case5 k e it hs he n hn r nx hp ih => rw [← (force_frame ppOf e it).2.1]; exact ih
  | case6 k e it hs he n hn r hp => exact ⟨fun h => (by cases h), fun _ => (force_frame ppOf e it).2.1⟩

theorem WInv.prefix {ppOf : Int → Nat → Nat} {T : List Int × List Req × Option Fail} {w : W} (h : WInv ppOf T w) :
    w.it.out <+: T.1 :=
  ⟨(fut ppOf w.it).rows, by rw [← h.1]; rfl⟩

theorem scan1_spec (api : Api) (T : List Int × List Req × Option Fail) (w : W)
    (hw : WInv ppOf T w) :
    WInv ppOf T (scan1 ppOf api w).1 ∧
    ((scan1 ppOf api w).2 = true → (scan1 ppOf api w).1.it.out.length = w.it.out.length + 1 ∧ w.it.out.length < T.1.length) ∧
    ((scan1 ppOf api w).2 = false → (scan1 ppOf api w).1.it.out = w.it.out ∧ w.it.out.length = T.1.length) := by
  have hj : WInv ppOf T (scan1 ppOf api w).1 := scanF_pres (pres_tot ppOf T) (scanFuel w.it) w.env w.it hw.2 hw.1
  have ho := scanF_out ppOf (scanFuel w.it) w.env w.it
  refine ⟨hj, ?_, ?_⟩
  · intro ht
    obtain ⟨r, hr⟩ := ho.1 ht
    have hlen : (scan1 ppOf api w).1.it.out.length = w.it.out.length + 1 := by
      show (scanF ppOf (scanFuel w.it) w.env w.it).1.out.length = _
      rw [hr]; simp
    have := hj.prefix.length_le
    exact ⟨hlen, by omega⟩
  · intro hf
    have hout : (scan1 ppOf api w).1.it.out = w.it.out := ho.2 hf
    -- the iterator has ended: nothing is still to come, so what was delivered is all of `T`
    have hfin : finished (scan1 ppOf api w).1.it := scanF_fuel ppOf w.env w.it hf
    have ht : T.1 = (scan1 ppOf api w).1.it.out := by rw [← hj.1, tot_finished ppOf _ hfin]
    exact ⟨hout, by rw [ht, hout]⟩

theorem scanK_spec (api : Api) (T : List Int × List Req × Option Fail) (k : Nat) (w : W) (hw : WInv ppOf T w) :
    WInv ppOf T (scanK ppOf api k w).1 ∧
    (scanK ppOf api k w).1.it.out.length = min (w.it.out.length + k) T.1.length ∧
    (scanK ppOf api k w).2 = decide (w.it.out.length + k ≤ T.1.length) := by
  fun_induction scanK ppOf api k w with
  | case1 w =>
    have := hw.prefix.length_le
    exact ⟨hw, by show w.it.out.length = _; omega, (decide_eq_true (by omega)).symm⟩
  | case2 k w r hb ih =>
    -- the call returned true: one more row, and the remaining `k` calls
    have h1 := scan1_spec ppOf api T w hw
    have h2 := ih h1.1
    rw [(h1.2.1 hb).1, show w.it.out.length + 1 + k = w.it.out.length + (k + 1) by omega] at h2
    exact h2
  | case3 k w r hb =>
    -- the call returned false: the stride ends here
    have h1 := scan1_spec ppOf api T w hw
    have hb : (scan1 ppOf api w).2 = false := by simpa using hb
    have h3 := h1.2.2 hb
    exact ⟨h1.1, by rw [h3.1]; omega, hb.trans (decide_eq_false (by omega)).symm⟩

theorem step_out (w : W) (s : Step) (hs : ∀ api k, s ≠ .scan api k) :
    (step ppOf w s).it.out = w.it.out := by
  have ho := (force_frame ppOf w.env w.it).2.1
  cases s with
  | scan api k => exact absurd rfl (hs api k)
  | observe => rfl
  | await =>
    show (await ppOf w).1.it.out = w.it.out
    fun_cases await ppOf w with
    | case3 => exact ho
    | _ => rfl
  | arrive =>
    show (arrive ppOf w).it.out = w.it.out
    fun_cases arrive ppOf w with
    | case1 => exact ho
    | case2 => rfl

theorem strideLog_spec (T : List Int × List Req × Option Fail) :
    ∀ (steps : List Step) (w : W), WInv ppOf T w →
    strideLog ppOf w steps = Spec.strides T.1 w.it.out.length (strideKs steps) := by
  intro steps
  induction steps with
  | nil => intro w _; rfl
  | cons s rest ih =>
    intro w hw
    cases s with
    | scan api k =>
      have h := scanK_spec ppOf api T k w hw
      simp only [strideLog, strideKs, Spec.strides]
      rw [ih _ h.1, h.2.2, List.take_drop, List.take_eq_take_min, ← h.2.1, ← List.prefix_iff_eq_take.1 h.1.prefix, h.2.1]
    | _ =>
      simp only [strideLog, strideKs]
      rw [ih _ (step_pres (pres_tot ppOf T) w _ hw), step_out ppOf w _ (by intro _ _ h; cases h)]

/-- walks through Iter.Scan / MapScan only, with observers and the scheduler (no Scanner strides, no probes) -/
def scanOnly : Step → Prop
  | .scan .scan _ => True
  | .observe => True
  | .arrive => True
  | _ => False

theorem trigger_scan (c : Iter) (n : NextIter) (a : Async) (hn : c.next = some n) :
    trigger .scan c a = if n.pos < c.pos ∧ a = .idle then .launched else a := by
  simp [trigger, hn]

/-- The current page's `oncea` against the consumer's position. The next page has been fetched ahead of the switch only
    by a prefetch that Iter.Scan launched (`pre`), and Scan launched it only after the consumer had passed the threshold
    of the current page (`past`). For walks through Iter.Scan alone (`strict`) conversely: the prefetch has been
    launched as soon as the threshold is passed (`armed`). -/
structure AInv (strict : Prop) (w : W) : Prop where
  pre : w.it.pre.isSome → w.async = .launched ∨ w.async = .awaited
  past : w.async = .launched ∨ w.async = .awaited → ∃ n, w.it.cur.next = some n ∧ n.pos < w.it.cur.pos
  armed : strict → (w.async = .idle ∨ w.async = .launched) ∧
    ∀ n, w.it.cur.err = none → w.it.cur.next = some n → n.pos < w.it.cur.pos → w.async = .launched

theorem scan1_ainv {strict : Prop} (api : Api) (hapi : strict → api = .scan) (w : W) (hw : AInv strict w) :
    AInv strict (scan1 ppOf api w).1 := by
  cases hl : leaves w.it with
  | true =>
    obtain ⟨hp, ha⟩ := scan1_leaves ppOf api w hl
    refine ⟨fun h => by simp [hp] at h, fun h => ?_, fun hst => ?_⟩
    · rw [ha] at h
      split at h
      · rcases trigger_cases api (scan1 ppOf api w).1.it.cur .idle with ht | ⟨_, _, hn⟩
        · rw [ht] at h; rcases h with h | h <;> cases h
        · exact hn
      · rcases h with h | h <;> cases h
    · cases hapi hst
      cases hb : (scan1 ppOf .scan w).2 with
      | true =>
        simp only [hb, if_true] at ha
        refine ⟨?_, fun n _ hn hlt => ?_⟩
        · rw [ha]
          rcases trigger_cases .scan (scan1 ppOf .scan w).1.it.cur .idle with ht | ⟨_, ht, _⟩
          · exact Or.inl ht
          · exact Or.inr ht
        · rw [ha, trigger_scan _ n _ hn]; simp [hlt]
      | false =>
        simp only [hb, Bool.false_eq_true, if_false] at ha
        refine ⟨Or.inl ha, fun n he hn _ => ?_⟩
        -- a call that returns false has ended the iterator: no next page
        have hfin : finished (scan1 ppOf .scan w).1.it := scanF_fuel ppOf w.env w.it hb
        rcases hfin with h | ⟨_, h⟩
        · rw [he] at h; cases h
        · rw [h] at hn; cases hn
  | false =>
    rw [scan1_stays ppOf api w hl]
    cases hs : scanRow w.it.cur with
    | none => exact hw
    | some rc =>
      obtain ⟨r, c'⟩ := rc
      have harmed : strict → (trigger api c' w.async = .idle ∨ trigger api c' w.async = .launched) ∧
          ∀ n, c'.err = none → c'.next = some n → n.pos < c'.pos → trigger api c' w.async = .launched := by
        intro hst
        cases hapi hst
        refine ⟨?_, fun n _ hn hlt => ?_⟩
        · rcases trigger_cases .scan c' w.async with ht | ⟨_, ht, _⟩
          · rw [ht]; exact (hw.armed hst).1
          · exact Or.inr ht
        · rw [trigger_scan _ n _ hn]
          rcases (hw.armed hst).1 with ha | ha
          · simp [hlt, ha]
          · simp [ha]
      obtain ⟨_, _, rfl⟩ := scanRow_some hs
      show AInv strict ⟨{ w.it with cur := _, out := w.it.out ++ [r] }, w.env, trigger api _ w.async⟩
      rcases trigger_cases api { w.it.cur with pos := w.it.cur.pos + 1 } w.async with ht | ⟨_, ht, hn⟩
      · refine ⟨by rw [ht]; exact hw.pre, fun h => ?_, harmed⟩
        rw [ht] at h
        obtain ⟨n, hn, hlt⟩ := hw.past h
        exact ⟨n, hn, Nat.lt_succ_of_lt hlt⟩
      · exact ⟨fun _ => Or.inl ht, fun _ => hn, harmed⟩

theorem step_ainv {strict : Prop} (w : W) (s : Step) (hs : strict → scanOnly s) (hw : AInv strict w) :
    AInv strict (step ppOf w s) := by
  have hc := (force_frame ppOf w.env w.it).1
  cases s with
  | scan api k =>
    refine scanK_inv ppOf api (scan1_ainv ppOf api fun hst => ?_) k w hw
    cases api with
    | scan => rfl
    | scanner => exact (hs hst).elim
  | observe => exact hw
  | await =>
    have hno : ¬ strict := fun hst => hs hst
    show AInv strict (await ppOf w).1
    fun_cases await ppOf w with
    | case2 n hn ha =>
      -- the probe disarms an idle prefetch
      refine ⟨fun h => ?_, fun h => (by rcases h with h | h <;> cases h), fun hst => (hno hst).elim⟩
      have := hw.pre h
      rw [ha] at this
      rcases this with h | h <;> cases h
    | case3 n hn ha =>
      -- the probe waits for the launched prefetch: the one fetch happens
      exact ⟨fun _ => Or.inr rfl, fun _ => by rw [hc]; exact hw.past (Or.inl ha), fun hst => (hno hst).elim⟩
    | _ => exact hw
  | arrive =>
    show AInv strict (arrive ppOf w)
    fun_cases arrive ppOf w with
    | case1 ha => exact ⟨fun _ => Or.inl ha, fun h => by rw [hc]; exact hw.past h, fun hst => ⟨Or.inr ha, fun _ _ _ _ => ha⟩⟩
    | case2 => exact hw

theorem exec_ainv {strict : Prop} (steps : List Step) (w : W) (hs : strict → ∀ s ∈ steps, scanOnly s) (hw : AInv strict w) :
    AInv strict (exec ppOf w steps) := by
  rw [foldl_of_eqns (exec := exec ppOf) (fun _ => rfl) fun _ _ _ => rfl]
  exact steps.foldlRecOn _ hw fun w hw s hm => step_ainv ppOf w s (fun hst => hs hst s hm) hw

theorem start_ainv (strict : Prop) (script : List Reply) (q : Qry) : AInv strict (start ppOf script q) := by
  refine ⟨fun h => (nomatch h), fun h => (by rcases h with h | h <;> cases h), fun _ => ⟨Or.inl rfl, ?_⟩⟩
  intro n _ _ hlt
  -- every page an executeQuery returns starts at position 0
  have hp : (start ppOf script q).it.cur.pos = 0 := by
    show (sessExec ppOf env0 script q).1.iter.pos = 0
    rw [sessExec_alive ppOf env0 rfl script q]
    rcases connExec_iter (ppOf q.pf) script env0.cached q with ⟨f, h⟩ | ⟨rows, st, h⟩ <;> rw [h] <;> rfl
  rw [hp] at hlt
  exact absurd hlt (Nat.not_lt_zero _)

end Paging.Walk
