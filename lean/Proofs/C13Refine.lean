import Proofs.C13Exec
import Proofs.C13Conc
/-! The interleaving machine (`ExecutorConc`) run with ONE execution in a static environment makes exactly the
    requests and counts of the sequential model of `queryExecutor.do` (`Executor.doLoop`). -/
namespace ExecutorConc
open Executor

/-- the schedule of one execution left alone: its attempt completes (with the scripted outcome), it decides, … -/
def seqSched (outcome : Nat → Res) : Nat → Nat → List Act
  | 0, _ => []
  | n+1, k => .complete 0 (outcome k) :: .decide 0 :: seqSched outcome n (k+1)

def allUp : Nat → Nat → Bool := fun _ _ => true

theorem run_seq_succ (pol : Option Policy) (outcome : Nat → Res) (n k : Nat) (m : M) :
    run pol m (seqSched outcome (n+1) k) =
      run pol (step pol (step pol m (.complete 0 (outcome k))) (.decide 0)) (seqSched outcome n (k+1)) := rfl

theorem nextUsable_allUp (k : Nat) (h : Nat) (rest : List Nat) : nextUsable (allUp k) (h :: rest) = some (h, rest) := by
  simp [nextUsable, allUp]

theorem run_done (pol : Option Policy) (outcome : Nat → Res) : ∀ (n k : Nat) (m : M), m.exs = [.done] →
    run pol m (seqSched outcome n k) = m
  | 0, _, _, _ => rfl
  | n+1, k, m, h => by
    have h1 : step pol m (.complete 0 (outcome k)) = m := by simp [step, h]
    have h2 : step pol m (.decide 0) = m := by simp [step, h]
    rw [run_seq_succ, h1, h2]
    exact run_done pol outcome n (k+1) m h

/-- the one execution, its attempt counted, returns when the policy licenses no further attempt -/
theorem decide_done (pol : Option Policy) (m : M) (r : Res) (hex : m.exs = [.counted r])
    (hstop : ∀ e p, r = .err e → pol = some p → p.attempt m.cnt = true → p.rtype e ≠ .retry ∧ p.rtype e ≠ .nextHost) :
    step pol m (.decide 0) = { m with exs := [.done] } := by
  simp only [step, hex, List.getElem?_cons_zero, List.set_cons_zero]
  cases r with
  | ok => rfl
  | logical => rfl
  | err e =>
    cases pol with
    | none => rfl
    | some p =>
      dsimp only
      split
      · rfl
      · rename_i hat
        have := hstop e p rfl rfl (by simpa using hat)
        split
        · exact absurd ‹_› this.1
        · exact absurd ‹_› this.2
        · rfl

theorem complete_one (pol : Option Policy) {m : M} (hex : m.exs = [.inflight]) (r : Res) :
    step pol m (.complete 0 r) = { m.count with exs := [.counted r] } := by
  simp [step, hex]

/-- `Retry`: the next request goes to the same host -/
theorem decide_retry {p : Policy} {m : M} {e : Nat} (hex : m.exs = [.counted (.err e)]) (hat : p.attempt m.cnt = true)
    (hrt : p.rtype e = .retry) : step (some p) m (.decide 0) = { m with sent := m.sent + 1, exs := [.inflight] } := by
  simp [step, hex, hat, hrt]

/-- `RetryNextHost`: the execution asks the shared iterator -/
theorem decide_next {p : Policy} {m : M} {e : Nat} (hex : m.exs = [.counted (.err e)]) (hat : p.attempt m.cnt = true)
    (hrt : p.rtype e = .nextHost) : step (some p) m (.decide 0) = m.sendNext 0 := by
  simp [step, hex, hat, hrt]

/-- the one execution has a request in flight, the iterator still holds `rest`, the counter stands at `cnt`: how the
    machine corresponds to a loop head of `doLoop` on `h :: rest` -/
structure Flight (m : M) (rest : List Nat) (cnt : Nat) : Prop where
  exs : m.exs = [.inflight]
  left : m.left = rest.length
  cnt : m.cnt = cnt

/-- from a request in flight on host `h` (the iterator still holding `rest`): the machine's further requests and
    its counter are those of the loop -/
theorem refine_flight {pol : Option Policy} {outcome : Nat → Res} {fuel : Nat} {pending : List Nat} {k cnt cons : Nat}
    {lastErr : Option (Nat × Nat)} {o : Out} (hr : Runs pol outcome allUp fuel pending k cnt cons lastErr o) :
    ∀ (h : Nat) (rest : List Nat) (m0 : M), pending = h :: rest → Flight m0 rest cnt → o.final ≠ .outOfFuel →
        (run pol m0 (seqSched outcome fuel k)).sent + 1 = m0.sent + o.attempts.length ∧
        (run pol m0 (seqSched outcome fuel k)).cnt = o.cnt ∧
        (run pol m0 (seqSched outcome fuel k)).exs = [.done] := by
  induction hr with
  | fuel => intro _ _ _ _ _ hf; exact absurd rfl hf
  | exhausted hn => rintro _ _ _ rfl; rw [nextUsable_allUp] at hn; cases hn
  | @stop f _ k cnt _ _ _ _ _ _ _ hn hr _ hstop =>
    rintro h rest m0 rfl fl _
    subst hr
    rw [run_seq_succ, complete_one pol fl.exs, decide_done pol _ (outcome k) rfl (by simpa [M.count, fl.cnt] using hstop),
      run_done pol outcome _ _ _ rfl]
    simp [M.count, fl.cnt]
  | @push f _ k cnt cons _ h rest e p pending' o hn hr hp hat hpend hrec ih =>
    rintro _ _ m0 rfl fl
    rw [nextUsable_allUp] at hn; cases hn
    subst hp
    rw [run_seq_succ, complete_one _ fl.exs, hr]
    simp only [push_final, push_cnt, push_len]
    intro hf
    have hat' : p.attempt ({ m0.count with exs := [.counted (.err e)] } : M).cnt = true := by simpa [M.count, fl.cnt] using hat
    rcases hpend with ⟨rfl, hrt⟩ | ⟨rfl, hrt⟩
    · -- the next request is in flight: what remains of the run is what remains of the loop
      rw [decide_retry rfl hat' hrt]
      refine And.imp (fun h1 => ?_) id (ih _ _ _ rfl ⟨rfl, fl.left, by simp [M.count, fl.cnt]⟩ hf)
      simp only [M.count] at h1 ⊢; omega
    · rw [decide_next rfl hat' hrt]
      cases pending' with
      | nil =>
        -- the iterator is exhausted: the execution returns the recorded error
        have hl : m0.left = 0 := fl.left
        rw [show M.sendNext _ 0 = { m0.count with exs := [.done] } by simp [M.sendNext, M.count, hl],
          run_done (some p) outcome _ _ _ rfl]
        cases hrec with
        | fuel => exact absurd rfl hf
        | exhausted => simp [M.count, fl.cnt]
        | stop hn => simp [nextUsable] at hn
        | push hn => simp [nextUsable] at hn
      | cons h' rest' =>
        have hl : m0.left = rest'.length + 1 := fl.left
        rw [show M.sendNext _ 0 = { m0.count with sent := m0.sent + 1, left := rest'.length, exs := [.inflight] } by
          simp [M.sendNext, M.count, hl]]
        refine And.imp (fun h1 => ?_) id (ih _ _ _ rfl ⟨rfl, rfl, by simp [M.count, fl.cnt]⟩ hf)
        simp only at h1 ⊢; omega

end ExecutorConc
