/- `<query_parameters>` of QUERY and EXECUTE from v2: the flags byte of writeQueryParams read bit by bit, the whole
   block (values, page size, paging state, serial consistency, timestamp, keyspace) read back as what was asked for, and
   whatever block is read satisfies `paramsOk`. -/
import Proofs.C03Values
namespace C03
open FrameSpec FrameWrite

theorem rdFlags_wFlags (v fl : Nat) (r : Bytes) (h : fl < 256) : rdFlags v (wFlags v fl ++ r) = some (fl, r) := by
  by_cases h5 : v > 4
  · have : v ≥ 5 := by omega
    have hl : fl < 4294967296 := by omega
    simp [rdFlags, wFlags, h5, this, rdUInt_wUInt _ _ hl]
  · have : ¬ v ≥ 5 := by omega
    simp [rdFlags, wFlags, h5, this, rdByte_byteOf _ _ h]

theorem queryFlags_bits (v : Nat) (p : GParams) :
    queryFlags v p < 256 ∧
    bit (queryFlags v p) 0 = decide (p.values.length > 0) ∧
    bit (queryFlags v p) 1 = p.skipMeta ∧
    bit (queryFlags v p) 2 = decide (p.pageSize > 0) ∧
    bit (queryFlags v p) 3 = decide (p.pagingState.length > 0) ∧
    bit (queryFlags v p) 4 = decide (p.serialCons > 0) ∧
    bit (queryFlags v p) 5 = (decide (v > 2) && p.defaultTimestamp) ∧
    bit (queryFlags v p) 6 = namesFlag v p.values ∧
    bit (queryFlags v p) 7 = (decide (p.keyspace ≠ []) && decide (v > 4)) :=
  bits8 _ _ _ _ _ _ _ _

/-- under the version tests of an expressible request (a timestamp only from v3, a keyspace only from v5) the flags pass the
    decoder's checks, and the timestamp and keyspace bits are the conditions under which those fields are written -/
theorem queryFlags_valid (v : Nat) (p : GParams) (hd : p.defaultTimestamp = true → v > 2) (hk : p.keyspace ≠ [] → v > 4) :
    ¬ (v < 3 ∧ (bit (queryFlags v p) 5 = true ∨ bit (queryFlags v p) 6 = true)) ∧
    ¬ (v < 5 ∧ bit (queryFlags v p) 7 = true) ∧
    ¬ (bit (queryFlags v p) 6 = true ∧ ¬ bit (queryFlags v p) 0 = true) ∧
    bit (queryFlags v p) 5 = decide (p.defaultTimestamp = true) ∧
    bit (queryFlags v p) 7 = decide (p.keyspace ≠ []) := by
  obtain ⟨-, q0, -, -, -, -, q5, q6, q7⟩ := queryFlags_bits v p
  have c6 : namesFlag v p.values = true → v > 2 ∧ p.values.length > 0 := by
    cases hq : p.values <;> simp [namesFlag]; omega
  have q5' : bit (queryFlags v p) 5 = decide (p.defaultTimestamp = true) := by
    rw [q5]; cases hdt : p.defaultTimestamp <;> simp [hd, hdt]
  have q7' : bit (queryFlags v p) 7 = decide (p.keyspace ≠ []) := by
    rw [q7]; by_cases h : p.keyspace = [] <;> simp [h, hk]
  refine ⟨?_, ?_, ?_, q5', q7'⟩
  · rw [q5', q6]; rintro ⟨h3, h | h⟩
    · have := hd (of_decide_eq_true h); omega
    · have := c6 h; omega
  · rw [q7']; rintro ⟨h5, h⟩; have := hk (of_decide_eq_true h); omega
  · rw [q6, q0]; rintro ⟨h6, h0⟩; exact h0 (decide_eq_true (c6 h6).2)

theorem rdQueryParams_w (v : Nat) (now : Int) (p : GParams) (r : Bytes) (hv2 : 2 ≤ v)
    (hok : paramsOk v (askParams now p) = true) :
    rdQueryParams v (wQueryParams v now p ++ r) = some (askParams now p, r) := by
  obtain ⟨hfl, q0, q1, q2, q3, q4, -, q6, -⟩ := queryFlags_bits v p
  have hok := paramsOk_iff.mp hok
  simp only [askParams] at hok
  obtain ⟨hcons, hvals, hps, hpst, hser, ⟨hts, htsv⟩, hks, hksv⟩ := hok
  -- a timestamp / keyspace that is asked for is expressible only from v3 / v5: the version tests of the writer hold
  have hd : p.defaultTimestamp = true → v > 2 := fun h => htsv (by simp [h])
  obtain ⟨g2, g3, g4, q5, q7⟩ := queryFlags_valid v p hd fun h => hksv (by simp [h])
  have c5 : (v > 2 ∧ p.defaultTimestamp = true) ↔ p.defaultTimestamp = true := ⟨fun h => h.2, fun h => ⟨hd h, h⟩⟩
  simp only [rdQueryParams, wQueryParams, if_neg (show ¬ v = 1 by omega), List.append_assoc, fShort.inv _ _ hcons,
    rdFlags_wFlags _ _ _ hfl, if_neg (Nat.not_le.mpr hfl), if_neg g2, if_neg g3, if_neg g4]
  simp only [q0, q1, q2, q3, q4, q5, q6, q7, c5]
  -- the paging state goes out as a `[bytes]` that is there
  have hpst' : optAll (optAll fitsInt) (if p.pagingState.length > 0 then some (some p.pagingState) else none) = true := by
    by_cases h : p.pagingState.length > 0
    · rw [if_pos h] at hpst ⊢; exact hpst
    · rw [if_neg h]; rfl
  simp only [rdValues_flagged v _ _ hvals, fInt.opt_inv _ _ _ hps, fBytes.opt_inv _ _ _ hpst', fShort.opt_inv _ _ _ hser,
    fLong.opt_inv _ _ _ hts,
    fString.opt_inv (p.keyspace ≠ []) p.keyspace _ (by simpa [ite_not] using hks)]
  by_cases hp : p.pagingState.length > 0 <;> simp [hp, ite_not, askParams]

theorem rdQueryParams_post {v : Nat} {bs : Bytes} {p : QParams} {r : Bytes}
    (h : rdQueryParams v bs = some (p, r)) : paramsOk v p = true := by
  revert h
  -- the reader yields something on two paths only: with a paging state that is there, and without one
  fun_cases rdQueryParams v bs <;> intro h <;> cases h
  all_goals
    have g2 := ‹¬ (v < 3 ∧ _)›
    have g3 := ‹¬ (v < 5 ∧ _)›
    have hc := fShort.post ‹rdShort bs = some _›
    have hv : valuesOk v true ‹List NVal› = true := by
      have hvals := ‹(if _ then rdCounted _ _ else _) = some _›
      split at hvals
      · exact rdValues_post hvals (fun h6 => ⟨rfl, by have : ¬ v < 3 := fun hlt => g2 ⟨hlt, Or.inr h6⟩; omega⟩)
      · cases hvals; rfl
    have hps := (fInt.opt_post ‹rdOpt _ rdInt _ = some _›).2
    have hpst := (fBytes.opt_post ‹rdOpt _ rdBytes _ = some _›).2
    have hser := (fShort.opt_post ‹rdOpt _ rdShort _ = some _›).2
    have hts := fLong.opt_post ‹rdOpt _ rdLong _ = some _›
    have hks := fString.opt_post ‹rdOpt _ rdString _ = some _›
    exact paramsOk_iff.mpr ⟨hc, hv, hps, hpst, hser,
      ⟨hts.2, fun h5 => by have : ¬ v < 3 := fun hlt => g2 ⟨hlt, Or.inl (hts.1 ▸ h5)⟩; omega⟩,
      hks.2, fun h7 => by have : ¬ v < 5 := fun hlt => g3 ⟨hlt, hks.1 ▸ h7⟩; omega⟩
end C03
