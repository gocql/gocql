import Model.Placement
import Proofs.C10Lookup
/-!
Ring construction (`newTokenRing`).  The model's `buildRing` (append every (token, host) pair, sort) yields,
for pairwise distinct tokens, THE strictly ascending arrangement of the pairs — and there is only one, so every correct
sorting algorithm (Go's unstable `sort.Sort` included) returns the same ring.
-/
namespace C10Ring
open Placement C10Lookup

/-- the pairs `newTokenRing` appends before sorting: for every host, for every token of the host -/
def allPairs (hosts : List (Host × List Int)) : List Entry :=
  hosts.flatMap (fun ht => ht.2.map (fun t => (t, ht.1)))

/-- no token is claimed twice (by one host or by two) — Cassandra's invariant -/
def DistinctTokens (hosts : List (Host × List Int)) : Prop := ((allPairs hosts).map (·.1)).Nodup

theorem perm_sortEntries (l : List Entry) : (sortEntries l).Perm l :=
  perm_foldr_ins insertEntry (fun e x => e.1 ≤ x.1) (fun _ => rfl) (fun _ _ _ => rfl) l

theorem mem_insertEntry (e x : Entry) (l : List Entry) : x ∈ insertEntry e l ↔ x = e ∨ x ∈ l := by
  rw [(perm_ins insertEntry (fun e x => e.1 ≤ x.1) (fun _ => rfl) (fun _ _ _ => rfl) e l).mem_iff]; simp

theorem sorted_insertEntry (e : Entry) (l : List Entry) (hs : Sorted l) (hne : ∀ x ∈ l, x.1 ≠ e.1) :
    Sorted (insertEntry e l) := by
  unfold Sorted at hs ⊢
  fun_induction insertEntry e l with
  | case1 => simp
  | case2 x xs hle =>
    have := hne x (by simp)
    refine List.pairwise_cons.mpr ⟨fun y hy => ?_, hs⟩
    rcases List.mem_cons.mp hy with rfl | hy
    · omega
    · have := (List.pairwise_cons.mp hs).1 y hy; omega
  | case3 x xs hnle ih =>
    rw [List.pairwise_cons] at hs ⊢
    refine ⟨fun y hy => ?_, ih hs.2 (fun y hy => hne y (by simp [hy]))⟩
    rcases (mem_insertEntry e y xs).mp hy with rfl | hy
    · omega
    · exact hs.1 y hy

theorem sorted_sortEntries : ∀ l : List Entry, (l.map (·.1)).Nodup → Sorted (sortEntries l)
  | [], _ => by simp [sortEntries, Sorted]
  | y :: ys, hnd => by
    have h : sortEntries (y :: ys) = insertEntry y (sortEntries ys) := rfl
    rw [h]
    rw [List.map_cons, List.nodup_cons] at hnd
    apply sorted_insertEntry y _ (sorted_sortEntries ys hnd.2)
    intro x hx heq
    apply hnd.1
    rw [← heq]
    exact List.mem_map.mpr ⟨x, (perm_sortEntries ys).mem_iff.mp hx, rfl⟩

theorem buildRing_sorted (hosts : List (Host × List Int)) (hd : DistinctTokens hosts) : Sorted (buildRing hosts) :=
  sorted_sortEntries _ hd

theorem buildRing_perm (hosts : List (Host × List Int)) : (buildRing hosts).Perm (allPairs hosts) :=
  perm_sortEntries _

end C10Ring
