import Proofs.C14Conn
import Proofs.C14LRU
/-!
  C14: the connection-level machine with the real LRU cache (`PLru`, Model/Prepare.lean) refines the machine
  with a finite-map cache and environment evictions (`PConn`); the LRU stays within its capacity in every schedule and
  holds the finite map's entries (`Sync`); and the machine with the real cache refuses no step the finite-map machine
  takes (`step_progress`).
-/
namespace C14ConnLRU
open PConn PLru LRU C14Conn
variable {κ : Type} [DecidableEq κ]

theorem evictAll_run (ks : List κ) (p p' : PConn.State κ) (e : List (Ev κ)) (h : evictAll p ks = some (p', e)) :
    PConn.run p (ks.map PConn.Action.evict) = some (p', e) := by
  fun_induction evictAll p ks generalizing p' e with
  | case1 p => exact h
  | case2 p k ks hs => cases h
  | case3 p k ks p1 e1 hs hr => cases h
  | case4 p k ks p1 e1 hs p2 e2 hr ih => cases h; simp only [List.map_cons, PConn.run, hs, ih _ _ hr]

/-- one step of the machine with the real cache: either the finite-map step of the same action, the LRU following its
    removals (on `finish` after the promoting `Get` of evictPreparedID); or a lookup, which is a `Get` that hits, or an
    `Add` whose purged keys are evicted from the finite map one by one -/
theorem lru_step_cases {s s' : PLru.State κ} {a : PLru.Action κ} {evs : List (Ev κ)} (h : PLru.step s a = some (s', evs)) :
    ((∀ c, a.toP ≠ .lookup c) ∧ PConn.step s.p a.toP = some (s'.p, evs) ∧
      ∃ l0, (l0 = s.lru ∨ ∃ k, l0 = (s.lru.get k).2) ∧ s'.lru = syncRm l0 evs) ∨
    ∃ c k, a = .lookup c ∧ lookupKey s.p c = some k ∧
      ((∃ v, (s.lru.get k).1 = some v ∧ PConn.step s.p (.lookup c) = some (s'.p, evs) ∧ s'.lru = (s.lru.get k).2) ∨
       ((s.lru.get k).1 = none ∧ ∃ p1 e1 e2, PConn.step s.p (.lookup c) = some (p1, e1) ∧
          evictAll p1 ((s.lru.add k s.p.flights.length).2.map (·.1)) = some (s'.p, e2) ∧ evs = e1 ++ e2 ∧
          s'.lru = (s.lru.add k s.p.flights.length).1)) := by
  have other : ∀ pa, (∀ c, pa ≠ .lookup c) → stepOther s pa = some (s', evs) →
      (∀ c, pa ≠ .lookup c) ∧ PConn.step s.p pa = some (s'.p, evs) ∧
        ∃ l0, (l0 = s.lru ∨ ∃ k, l0 = (s.lru.get k).2) ∧ s'.lru = syncRm l0 evs := by
    intro pa hne h
    revert h
    fun_cases stepOther s pa <;> intro h <;> cases h
    exact ⟨hne, ‹_›, _, .inl rfl, rfl⟩
  cases a with
  | lookup c =>
    right
    simp only [PLru.step] at h
    revert h
    -- `caseN`: the N-th alternative of `stepLookup`, in the order of its definition; the others fail
    fun_cases stepLookup s c <;> intro h <;> cases h
    case lookup.case3 k hk v l' hg p1 hs => exact ⟨c, k, rfl, hk, .inl ⟨v, by rw [hg], hs, by rw [hg]⟩⟩  -- `Get` hits
    case lookup.case6 k hk l' hg p1 e1 hs p2 e2 he =>  -- `Get` misses: `Add`, the purged keys evicted
      exact ⟨c, k, rfl, hk, .inr ⟨by rw [hg], p1, e1, e2, hs, he, rfl, rfl⟩⟩
  | finish c =>
    left
    simp only [PLru.step] at h
    revert h
    fun_cases stepFinish s c <;> intro h <;> cases h
    refine ⟨fun c => by simp [PLru.Action.toP], ‹_›, _, ?_, rfl⟩
    cases unprepLookup s.p c with
    | none => exact .inl rfl
    | some k => exact .inr ⟨k, rfl⟩
  | call b es | spawn c | srvPrepare f r | complete f | observe c a | cancel c | abandon c | abandonLate c | srvLate c a =>
    exact .inl (other _ (fun c => by simp [PLru.Action.toP]) h)

theorem step_sim (s s' : PLru.State κ) (a : PLru.Action κ) (evs : List (Ev κ))
    (h : PLru.step s a = some (s', evs)) : ∃ as' : List (PConn.Action κ), PConn.run s.p as' = some (s'.p, evs) := by
  rcases lru_step_cases h with ⟨_, hs, _⟩ | ⟨c, k, rfl, _, ⟨v, _, hs, _⟩ | ⟨_, p1, e1, e2, hs, he, rfl, _⟩⟩
  · exact ⟨_, run_single _ _ _ _ hs⟩
  · exact ⟨_, run_single _ _ _ _ hs⟩
  · exact ⟨_, run_append [.lookup c] _ s.p p1 s'.p e1 e2 (run_single _ _ _ _ hs) (evictAll_run _ _ _ _ he)⟩

theorem lru_run_induction {P : PLru.State κ → PLru.State κ → List (Ev κ) → Prop} (nil : ∀ s, P s s [])
    (cons : ∀ {s a s1 e1 s2 e2}, PLru.step s a = some (s1, e1) → P s1 s2 e2 → P s s2 (e1 ++ e2))
    (as : List (PLru.Action κ)) (s s' : PLru.State κ) (tr : List (Ev κ)) (h : PLru.run s as = some (s', tr)) : P s s' tr := by
  fun_induction PLru.run s as generalizing s' tr with
  | case1 s => cases h; exact nil s
  | case2 s a as hs => cases h
  | case3 s a as s1 e1 hs hr => cases h
  | case4 s a as s1 e1 hs s2 e2 hr ih => cases h; exact cons hs (ih _ _ hr)

theorem run_sim (as : List (PLru.Action κ)) (s s' : PLru.State κ) (tr : List (Ev κ)) (h : PLru.run s as = some (s', tr)) :
    ∃ as' : List (PConn.Action κ), PConn.run s.p as' = some (s'.p, tr) := by
  refine lru_run_induction (P := fun s s' tr => ∃ as' : List (PConn.Action κ), PConn.run s.p as' = some (s'.p, tr))
    (fun s => ⟨[], rfl⟩) ?_ as s s' tr h
  intro s a s1 e1 s2 e2 hs ⟨as2, h2⟩
  obtain ⟨as1, h1⟩ := step_sim s s1 a e1 hs
  exact ⟨as1 ++ as2, run_append as1 as2 s.p s1.p s2.p e1 e2 h1 h2⟩

theorem syncRm_inv : ∀ (evs : List (Ev κ)) (l : LRU.Cache κ Nat), l.Inv → (syncRm l evs).Inv ∧ (syncRm l evs).cap = l.cap := by
  intro evs
  induction evs with
  | nil => intro l h; exact ⟨h, rfl⟩
  | cons e es ih =>
    intro l h
    cases e with
    | rm k f =>
      simp only [syncRm]
      have := remove_inv l h k
      have h2 := ih _ this.1
      exact ⟨h2.1, by rw [h2.2, this.2]⟩
    | _ => exact ih l h

theorem step_lru_inv (s s' : PLru.State κ) (a : PLru.Action κ) (evs : List (Ev κ)) (hI : s.lru.Inv)
    (h : PLru.step s a = some (s', evs)) : s'.lru.Inv ∧ s'.lru.cap = s.lru.cap := by
  rcases lru_step_cases h with
    ⟨_, _, l0, hl | ⟨k, hl⟩, h'⟩ | ⟨c, k, _, _, ⟨v, _, _, h'⟩ | ⟨_, _, _, _, _, _, _, h'⟩⟩ <;> rw [h']
  · subst hl; exact syncRm_inv _ _ hI
  · subst hl
    have hg := get_inv s.lru hI k
    have := syncRm_inv evs _ hg.1
    exact ⟨this.1, this.2.trans hg.2⟩
  · exact get_inv s.lru hI k
  · exact add_inv s.lru hI k _

def rmKeys : List (Ev κ) → List κ
  | [] => []
  | .rm k _ :: es => k :: rmKeys es
  | _ :: es => rmKeys es

omit [DecidableEq κ] in
theorem rmKeys_append (a b : List (Ev κ)) : rmKeys (a ++ b) = rmKeys a ++ rmKeys b := by
  induction a with
  | nil => rfl
  | cons e es ih => cases e <;> simp [rmKeys, ih]

def Eff (p p' : PConn.State κ) (evs : List (Ev κ)) : Prop :=
  ∀ k', p'.cache k' = if k' ∈ rmKeys evs then none else p.cache k'

theorem eff_same (p p' : PConn.State κ) (evs : List (Ev κ)) (hc : p'.cache = p.cache) (hr : rmKeys evs = []) : Eff p p' evs := by
  intro k'; rw [hc, hr]; simp

theorem eff_trans {p p1 p2 : PConn.State κ} {e1 e2 : List (Ev κ)} (h1 : Eff p p1 e1) (h2 : Eff p1 p2 e2) : Eff p p2 (e1 ++ e2) := by
  intro k'
  rw [h2 k', h1 k', rmKeys_append]
  by_cases a : k' ∈ rmKeys e2 <;> by_cases b : k' ∈ rmKeys e1 <;> simp [a, b]

theorem removeKey_eff (s : PConn.State κ) (k : κ) : Eff s (removeKey s k).1 (removeKey s k).2 := by
  unfold removeKey
  split
  · exact eff_same _ _ _ rfl rfl
  · split
    · exact eff_same _ _ _ rfl rfl
    · intro k'
      simp only [rmKeys, List.mem_singleton]

theorem evictIfMatch_eff (s : PConn.State κ) (k : κ) (id : Id) : Eff s (evictIfMatch s k id).1 (evictIfMatch s k id).2 := by
  rcases evictIfMatch_cases s k id with h | ⟨_, _, _, _, _, ⟨_, _, h⟩ | ⟨_, h⟩⟩ <;> rw [h]
  · exact eff_same _ _ _ rfl rfl
  · exact removeKey_eff s k
  · exact eff_same _ _ _ rfl rfl

theorem unprepEvict_eff (s : PConn.State κ) (cl : Caller κ) (id : Id) : Eff s (unprepEvict s cl id).1 (unprepEvict s cl id).2 := by
  unfold unprepEvict; split
  · exact evictIfMatch_eff _ _ _
  · exact eff_same _ _ _ rfl rfl

theorem step_eff (p p' : PConn.State κ) (a : PConn.Action κ) (evs : List (Ev κ)) (hl : ∀ c, a ≠ .lookup c)
    (h : PConn.step p a = some (p', evs)) : Eff p p' evs := by
  cases Step_of_step h
  case hit | miss => exact absurd rfl (hl _)
  case evict => exact removeKey_eff _ _
  case completeOk => exact eff_same _ _ _ (setDone_cache ..) rfl
  case completeFail => intro k'; rw [setDone_cache]; exact removeKey_eff _ _ k'
  case finishUnprep => exact unprepEvict_eff _ _ _
  all_goals exact eff_same _ _ _ rfl rfl

theorem syncRm_find : ∀ (evs : List (Ev κ)) (l : LRU.Cache κ Nat) (k' : κ),
    (syncRm l evs).find k' = if k' ∈ rmKeys evs then none else l.find k' := by
  intro evs
  induction evs with
  | nil => intro l k'; simp [syncRm, rmKeys]
  | cons e es ih =>
    intro l k'
    cases e with
    | rm k f =>
      simp only [syncRm, rmKeys, List.mem_cons]
      rw [ih, (remove_find l k k').2]
      by_cases a : k' = k <;> by_cases b : k' ∈ rmKeys es <;> simp [a, b]
    | _ => exact ih l k'

def Good (p : PConn.State κ) : Prop := ∃ o : Obs.OState κ, Inv p ∧ Rel p o ∧ SInv p

theorem good_init : Good (PConn.init : PConn.State κ) := ⟨_, inv_init false, rel_init false, sinv_init false⟩

theorem good_run {p p' : PConn.State κ} {as : List (PConn.Action κ)} {evs : List (Ev κ)} (hG : Good p)
    (h : PConn.run p as = some (p', evs)) : Good p' := by
  obtain ⟨o, h1, h2, h3⟩ := hG
  obtain ⟨o', _, g1, g2, g3⟩ := run_refines as p p' o evs h1 h2 h3 h
  exact ⟨o', g1, g2, g3⟩

theorem evict_rm {p p' : PConn.State κ} {k : κ} {evs : List (Ev κ)} (hI : Inv p)
    (h : PConn.step p (.evict k) = some (p', evs)) : rmKeys evs = [k] := by
  match Step_of_step h with
  | .evict _ hck =>
    obtain ⟨fl, hf, _, _⟩ := hI.cached k _ hck
    simp only [removeKey, hck, hf]; rfl

theorem evictAll_good (ks : List κ) (p p' : PConn.State κ) (e : List (Ev κ)) (hG : Good p)
    (h : evictAll p ks = some (p', e)) : Good p' ∧ rmKeys e = ks ∧ Eff p p' e := by
  fun_induction evictAll p ks generalizing p' e with
  | case1 p => cases h; exact ⟨hG, rfl, eff_same _ _ _ rfl rfl⟩
  | case2 p k ks hs => cases h
  | case3 p k ks p1 e1 hs hr => cases h
  | case4 p k ks p1 e1 hs p2 e2 hr ih =>
    cases h
    obtain ⟨g1, g2, g3⟩ := ih _ _ (good_run hG (run_single _ _ _ _ hs)) hr
    have hI : Inv p := by obtain ⟨_, h1, _, _⟩ := hG; exact h1
    refine ⟨g1, ?_, eff_trans (step_eff _ _ _ _ (fun c => by simp) hs) g3⟩
    rw [rmKeys_append, evict_rm hI hs, g2]; rfl

theorem lookup_cache {p p' : PConn.State κ} {c : Nat} {evs : List (Ev κ)} (h : PConn.step p (.lookup c) = some (p', evs)) :
    ∃ k, lookupKey p c = some k ∧ evs = [] ∧
      ((∃ f, p.cache k = some f ∧ p'.cache = p.cache) ∨
       (p.cache k = none ∧ ∀ k', p'.cache k' = if k' = k then some p.flights.length else p.cache k')) := by
  match Step_of_step h with
  | .hit (e := e) hc _ he hck => exact ⟨e.1, by simp [lookupKey, hc, he], rfl, .inl ⟨_, hck, rfl⟩⟩
  | .miss (e := e) hc _ he hck => exact ⟨e.1, by simp [lookupKey, hc, he], rfl, .inr ⟨hck, fun _ => rfl⟩⟩

def Sync (s : PLru.State κ) : Prop := ∀ k, s.p.cache k = s.lru.find k

theorem step_sync (s s' : PLru.State κ) (a : PLru.Action κ) (evs : List (Ev κ)) (hG : Good s.p) (hL : s.lru.Inv) (hS : Sync s)
    (h : PLru.step s a = some (s', evs)) : Sync s' := by
  rcases lru_step_cases h with ⟨hne, hs, l0, hl, h'⟩ | ⟨c, k, _, hk, ⟨v, hg, hs, h'⟩ | ⟨hg, p1, e1, e2, hs, he, rfl, h'⟩⟩
  · intro k'
    rw [step_eff _ _ _ _ hne hs k', h', syncRm_find, hS k']
    rcases hl with rfl | ⟨k, rfl⟩
    · rfl
    · rw [(get_find s.lru k k').2]
  · obtain ⟨k2, hk2, _, hcase⟩ := lookup_cache hs
    rw [hk] at hk2; injection hk2 with hk2; subst hk2
    have hfind : s.lru.find k = some v := by rw [← (get_find s.lru k k).1]; exact hg
    intro k'
    rw [h', (get_find s.lru k k').2]
    rcases hcase with ⟨f, _, hc⟩ | ⟨hn, _⟩
    · rw [hc]; exact hS k'
    · rw [hS k, hfind] at hn; cases hn
  · obtain ⟨k2, hk2, _, hcase⟩ := lookup_cache hs
    rw [hk] at hk2; injection hk2 with hk2; subst hk2
    have hfind : s.lru.find k = none := by rw [← (get_find s.lru k k).1]; exact hg
    have hG1 : Good p1 := good_run hG (run_single _ _ _ _ hs)
    obtain ⟨_, hrm, heff⟩ := evictAll_good _ p1 s'.p e2 hG1 he
    intro k'
    rw [heff k', hrm, h', add_miss_find s.lru hL.nodup k _ hfind k']
    rcases hcase with ⟨f, hf, _⟩ | ⟨_, hc⟩
    · rw [hS k, hfind] at hf; cases hf
    · rw [hc k', hS k']

theorem run_good (as : List (PLru.Action κ)) (s s' : PLru.State κ) (tr : List (Ev κ)) (hG : Good s.p) (hL : s.lru.Inv)
    (hS : Sync s) (h : PLru.run s as = some (s', tr)) : Good s'.p ∧ s'.lru.Inv ∧ Sync s' ∧ s'.lru.cap = s.lru.cap := by
  refine lru_run_induction (P := fun s s' _ => Good s.p → s.lru.Inv → Sync s →
    Good s'.p ∧ s'.lru.Inv ∧ Sync s' ∧ s'.lru.cap = s.lru.cap) (fun s hG hL hS => ⟨hG, hL, hS, rfl⟩) ?_ as s s' tr h hG hL hS
  intro s a s1 e1 s2 e2 hs ih hG hL hS
  obtain ⟨as1, h1⟩ := step_sim s s1 a e1 hs
  have hl := step_lru_inv s s1 a e1 hL hs
  obtain ⟨g1, g2, g3, g4⟩ := ih (good_run hG h1) hl.1 (step_sync s s1 a e1 hG hL hS hs)
  exact ⟨g1, g2, g3, g4.trans hl.2⟩

theorem sync_init (cap : Int) : Sync (PLru.init cap : PLru.State κ) := by
  intro k; simp [PLru.init, PConn.init, PConn.initB, LRU.new, Cache.find]

/-- every schedule of the machine with the real cache, from its initial state: the LRU is well formed and of the
    configured capacity, the two caches agree, and the finite-map machine has a schedule with the same trace -/
theorem reach {cap : Int} {as : List (PLru.Action κ)} {s : PLru.State κ} {tr : List (Ev κ)}
    (h : PLru.run (PLru.init cap) as = some (s, tr)) :
    s.lru.Inv ∧ Sync s ∧ s.lru.cap = cap ∧ ∃ as' : List (PConn.Action κ), PConn.run PConn.init as' = some (s.p, tr) := by
  obtain ⟨_, hL, hS, hc⟩ := run_good as _ _ _ good_init (LRU.inv_new cap) (sync_init cap) h
  exact ⟨hL, hS, hc, run_sim as _ _ _ h⟩

/-- **progress**: the machine with the real cache refuses no step the finite-map machine takes -/
theorem step_progress (s : PLru.State κ) (a : PLru.Action κ) (hL : s.lru.Inv) (hS : Sync s) (hst : s.p.strict = false)
    (h : (PConn.step s.p a.toP).isSome = true) : (PLru.step s a).isSome = true := by
  have other : ∀ pa, (PConn.step s.p pa).isSome = true → (stepOther s pa).isSome = true := by
    intro pa h
    unfold stepOther
    cases hs : PConn.step s.p pa with
    | none => simp [hs] at h
    | some r => rfl
  cases a with
  | lookup c =>
    simp only [PLru.Action.toP] at h
    simp only [PLru.step]
    unfold stepLookup
    cases hs : PConn.step s.p (.lookup c) with
    | none => simp [hs] at h
    | some r =>
      obtain ⟨p1, e1⟩ := r
      obtain ⟨k, hk, _, hcase⟩ := lookup_cache hs
      simp only [hk]
      cases hg : (s.lru.get k).1 with
      | some v =>
        have hg' : s.lru.get k = (some v, (s.lru.get k).2) := by rw [← hg]
        rw [hg']
        rfl
      | none =>
        have hg' : s.lru.get k = (none, (s.lru.get k).2) := by rw [← hg]
        rw [hg']
        have hfind : s.lru.find k = none := by rw [← (get_find s.lru k k).1]; exact hg
        have hp1 : ∀ k', p1.cache k' = if k' = k then some s.p.flights.length else s.p.cache k' := by
          rcases hcase with ⟨f, hf, _⟩ | ⟨_, hc⟩
          · rw [hS k, hfind] at hf; cases hf
          · exact hc
        have hst1 : p1.strict = false := by rw [step_strict _ _ _ _ hs]; exact hst
        rcases add_evicts_lru s.lru k s.p.flights.length with hnil | ⟨_, _, _, hlast⟩
        · rw [hnil]; rfl
        · rw [hlast]
          cases hl : ((k, s.p.flights.length) :: s.lru.items).getLast? with
          | none => rfl
          | some e =>
            -- the one case with content: the LRU's victim `e` is cached in the finite map too (`Sync`), and a machine that
            -- is not strict can always `evict` a cached key
            have hm : e ∈ (k, s.p.flights.length) :: s.lru.items := List.mem_of_getLast? hl
            have hc1 : ∃ g, p1.cache e.1 = some g := by
              rw [hp1 e.1]
              by_cases hek : e.1 = k
              · exact ⟨s.p.flights.length, by rw [if_pos hek]⟩
              · rcases List.mem_cons.1 hm with h1 | h1
                · exact absurd (by rw [h1]) hek
                · have : s.lru.find e.1 = some e.2 := find_key_of_mem hL.nodup h1
                  refine ⟨e.2, ?_⟩
                  simp only [hek, if_false]
                  rw [hS e.1]; exact this
            obtain ⟨g, hg1⟩ := hc1
            simp only [Option.toList, List.map_cons, List.map_nil, evictAll,
              step_of_Step (.evict (by rw [hst1]; simp) hg1)]
            rfl
  | finish c =>
    simp only [PLru.Action.toP] at h
    simp only [PLru.step]
    unfold stepFinish
    cases hs : PConn.step s.p (.finish c) with
    | none => simp [hs] at h
    | some r => rfl
  | call b es | spawn c | srvPrepare f r | complete f | observe c a | cancel c | abandon c | abandonLate c | srvLate c a =>
    exact other _ h

end C14ConnLRU
