import Proofs.C12BigInt
import Proofs.C02Hist
import Proofs.C02Cross
import Proofs.C02Nested
import Proofs.C02Vint
import Model.StringSpec
/-!
# C02 — Marshal then Unmarshal gives back the value (property theorems)

Same model as C12 (`Model/Marshal*.lean`).  The harness op `rtsame` (spec-backed) states the property on the
real code: whenever gocql.Marshal succeeds on a documented (column, Go type, value) triple, gocql.Unmarshal of the
bytes into the same Go type gives an equal value.
-/
namespace C02
open ValueSpec Marshal C12Bytes C12Int C12Varint C12Scalar C12BigInt C12 C02Hist C02Cross C02Scalar C02Nested

/-! ## integer columns, same Go kind — including the unsigned wrap window -/

/-- an integer of ANY Go kind (named or not) that Marshal accepts for a tinyint/smallint/int/bigint column comes
    back unchanged when the bytes are decoded into the same Go kind — also for the unsigned values that are written
    as a negative bit pattern (uint16 65535 ↔ smallint ff ff) -/
theorem C02_int_roundtrip (col : IntCol) (k : IntKind) (named : Bool) (v : Int) (hv : k.holds v = true) (b : Bytes)
    (h : marshalIntKind col k named v = some b) :
    unmarshalIntKind (srcOf col) (decodeFixed (srcOf col) b) k = some v := by
  obtain ⟨rfl, hfit | hw⟩ := marshalIntKind_some hv h
  · rw [decode_tcEnc col v k hfit, seenBy_of (srcOf_bytes col ▸ hfit) (signed_or_nonneg hv), if_pos hv]
  · obtain ⟨⟨hk, h1, h2⟩, _⟩ := wrapsAccepted_iff.mp hw
    -- the bytes are those of the negative number v − 256^w, which fits the column; the same unsigned kind reads them
    -- as an unsigned number: `v` again
    have hfit : fitsS col.bytes (v - (256:Int) ^ col.bytes) = true := by
      rw [fitsS_iff]; omega
    have he := tcEnc_add_pow col.bytes v (-1)
    rw [Int.neg_one_mul, ← Int.sub_eq_add_neg] at he
    have hseen : seenBy (srcOf col) k (v - (256:Int) ^ col.bytes) = v := by
      rw [seenBy, if_neg (by simp [hk]), srcOf_bytes, Int.sub_emod_right, Int.emod_eq_of_lt (by omega) h2]
    rw [← he, decode_tcEnc col _ k hfit, hseen, if_pos hv]

/-- FULL STATEMENT (does not hold): "… or into any other documented target type able to represent the value".
    uint16 65535 bound to smallint decodes into *int16 as −1 and into *int64 as −1, although both can hold 65535
    (D9).  Counterexample = replay input of `rt 4 smallint i uint16 65535 k int64`. -/
theorem C02_cex_cross_target :
    marshalIntKind .small .uint16 false 65535 = some [255, 255] ∧
    unmarshalIntKind .small (decodeFixed .small [255, 255]) .int64 = some (-1) ∧
    IntKind.int64.holds 65535 = true := by
  refine ⟨by decide, by decide, by decide⟩

/-- cross-target for the values that are NOT in the wrap window: decoding into any Go kind gives the value when the
    kind can hold it and an error otherwise -/
theorem C02_int_cross_target_partial (col : IntCol) (k k' : IntKind) (named : Bool) (v : Int) (hv : k.holds v = true)
    (hfit : fitsS col.bytes v = true) (hs : k'.signed = true ∨ 0 ≤ v) (b : Bytes)
    (h : marshalIntKind col k named v = some b) :
    unmarshalIntKind (srcOf col) (decodeFixed (srcOf col) b) k' = if k'.holds v = true then some v else none := by
  obtain ⟨rfl, _⟩ := marshalIntKind_some hv h
  rw [decode_tcEnc col v k' hfit, seenBy_of (srcOf_bytes col ▸ hfit) hs]

/-! ## null: a nil pointer is written as null, and null decodes into a pointer as nil -/

theorem C02_null (p : Nat) (t : CqlTy) :
    marshal p t .nilptr = .ok none ∧
    (∀ ty, unmarshal p t (.ptr ty) none = .ok .nilptr) := by
  refine ⟨by simp [marshal], ?_⟩
  intro ty
  simp [unmarshal, withPtr, stripPtr]

/-- varchar/text/ascii/blob: strings and named strings come back unchanged; a non-empty []byte comes back unchanged -/
theorem C02_text_roundtrip (named : Bool) (s : Bytes) :
    marshalVarcharColumn (.str named s) = .ok (some s) ∧
    unmarshalScalar .text false s (.str named) = .ok (.str named s) := by
  refine ⟨by simp [marshalVarcharColumn], rfl⟩

theorem C02_bytes_roundtrip (b : Bytes) (hb : b ≠ []) :
    marshalVarcharColumn (.bytes false false b) = .ok (some b) ∧
    unmarshalScalar .blob false b (.bytes false) = .ok (.bytes false false b) := by
  refine ⟨by simp [marshalVarcharColumn], ?_⟩
  show URes.ok (if b = [] then GoVal.bytes false true [] else GoVal.bytes false false b) = _
  rw [if_neg hb]

/-- FULL STATEMENT (does not hold): "empty stays empty".  An empty non-nil []byte is written as the empty value but
    decodes into *[]byte as a nil slice, which Marshal would write as null. -/
theorem C02_cex_empty_bytes :
    marshalVarcharColumn (.bytes false false []) = .ok (some []) ∧
    unmarshalScalar .blob false [] (.bytes false) = .ok (.bytes false true []) ∧
    marshalVarcharColumn (.bytes false true []) = .ok none := by
  refine ⟨by simp [marshalVarcharColumn], rfl, by simp [marshalVarcharColumn]⟩

/-! ## collections (both framings) and tuple / UDT fields: framing round trips of the model -/

/-- an element of a list / set / map (key or value) written by Marshal is read back by Unmarshal unchanged — the
    same bytes, EMPTY stays empty — under the 4-byte framing and under the 2-byte framing of protocol ≤ 2 for EVERY
    length Marshal accepts (≤ 65535: the [short] is read back unsigned); so is the element count -/
theorem C02_coll_elem_roundtrip (p : Nat) (rest : Bytes) :
    (∀ (b e : Bytes), collItem p (some b) = some e → readCollItem p (e ++ rest) = some (some b, rest)) ∧
    (∀ (n : Nat) (c : Bytes), collSize p (n:Int) = some c → readCollSize p (c ++ rest) = some ((n:Int), rest)) :=
  ⟨fun b e h => C12Frame.readCollItem_collItem p b e rest h, fun n c h => C12Frame.readCollSize_collSize p n c rest h⟩

/-- the boundary, kernel-checked: a 40000-byte element under protocol 2 is framed with 9c 40 and read back with its
    40000 bytes (an `int16` reading would see −25536: a "null" element whose bytes are then parsed as the next elements) -/
example : collSize 2 40000 = some [156, 64] ∧ readCollSize 2 ([156, 64] ++ [7]) = some (40000, [7]) := by decide

/-- FULL STATEMENT (does not hold under protocol ≤ 2): "null elements survive".  A null element is written with
    length 0 (the 2-byte framing has no null) and read back as a present, EMPTY element — KF-C02-3 / KF-C12-8.
    From protocol 3 it does survive (`C12_coll_length_readback`). -/
theorem C02_cex_null_elem_v2 (rest : Bytes) :
    collItem 2 none = some [0, 0] ∧ readCollItem 2 ([0, 0] ++ rest) = some (some [], rest) := by
  refine ⟨by decide, ?_⟩
  simp [readCollItem, readCollSize, shorter, beNat]

/-- a tuple / UDT field: what appendBytes wrote, readBytes reads back — null (−1) as null, a present EMPTY value
    (length 0) as the empty value, bytes as the same bytes -/
theorem C02_field_roundtrip (item : Option Bytes) (rest : Bytes) (h : ∀ b, item = some b → b.length < 2^31) :
    readBytesM (appendBytes item ++ rest) = some (item, rest) := C12Frame.readBytesM_appendBytes item rest h

/-- FULL STATEMENT (does not hold): "a struct that Marshal accepts for a tuple column is given back by Unmarshal into
    the same struct type".  unmarshalTuple decodes every field into goType(elem) and then `Set`s the struct field:
    when the field's type is another documented type of the element (int32 for an int column, *big.Int for varint,
    *inf.Dec for decimal) the value cannot be assigned: an ERROR since the repair of KF-C05-18 (it was a
    reflect.Value.Set panic before), still not the value Marshal was given.  `C02_tuple_struct_roundtrip` is the part that
    holds (fields of type goType(elem) or a pointer to it).  = replay input `rt 4 tuple 1 int st 1 i int32 5 struct 1 k int32` -/
theorem C02_cex_tuple_field_type :
    marshal 4 (.tuple [.int]) (.struct [.int .int32 false 5]) = .ok (some [0, 0, 0, 4, 0, 0, 0, 5]) ∧
    unmarshal 4 (.tuple [.int]) (.struct [.int .int32 false]) (some [0, 0, 0, 4, 0, 0, 0, 5]) = .err := by
  have hd : decInt [0, 0, 0, 4] = 4 := by decide
  have hd5 : decInt [0, 0, 0, 5] = 5 := by decide
  have hu : unmarshalIntKind .int 5 .int = some 5 := by decide
  have hb : (GoTy.int .int32 false == GoTy.int .int false) = false := by decide
  constructor
  · rfl
  · have hus : unmarshalScalar .int false [0, 0, 0, 5] (.int .int false) = .ok (.int .int false 5) := by
      show unmarshalIntlike .int (decInt [0, 0, 0, 5]) [0, 0, 0, 5] (.int .int false) = _
      simp [unmarshalIntlike, hd5, hu, optU]
    simp [unmarshal, withPtr, stripPtr, unmarshalBase, dataBytes, unmarshalTupleSet, shorter, readBytesM, hd, goTypeOf,
      hus, hb]

/-- null ≠ empty inside a UDT, kernel-checked on the model = replay input `rtsame 4 udt 2 a text b text us 2 a ptr s - b
    nilptr ustruct 2 a ptr string b ptr string`: (a = EMPTY, b = null) is written 00 00 00 00 | ff ff ff ff and read
    back as (pointer to "", nil) -/
theorem C02_udt_null_vs_empty_witness :
    marshal 4 (.udt ["a", "b"] [.text, .text]) (.udtstruct ["a", "b"] [.ptr (.str false []), .nilptr]) =
      .ok (some [0, 0, 0, 0, 255, 255, 255, 255]) ∧
    unmarshal 4 (.udt ["a", "b"] [.text, .text]) (.udtstruct ["a", "b"] [.ptr (.str false), .ptr (.str false)])
      (some [0, 0, 0, 0, 255, 255, 255, 255]) = .ok (.udtstruct ["a", "b"] [.ptr (.str false []), .nilptr]) := by
  have d0 : decInt [0, 0, 0, 0] = 0 := by decide
  have dm : decInt [255, 255, 255, 255] = -1 := by decide
  have l1 : lookupIdx "a" ["a", "b"] 0 = some 0 := by decide
  have l2 : lookupIdx "b" ["a", "b"] 0 = some 1 := by decide
  constructor
  · rfl
  · simp [unmarshal, withPtr, stripPtr, unmarshalBase, dataBytes, unmarshalUdtStruct, zeroOf, zeroOfs, shorter, readBytesM,
      d0, dm, l1, l2, C12Frame.unmarshalScalar_text_str, wrapPtr]

/-! ## the answers of a process do not depend on what it marshalled / unmarshalled before (op `hseq`) -/

/-- a process that makes any sequence of Marshal / Unmarshal round trips (`Model/MarshalHistory.lean`: the state is the
    whole history of calls): (1) the answer to a call is the same in every state, (2) the answers of a sequence are the
    per-call answers, (3) so a call gets the same answer whatever precedes and follows it.  The op `hseq` compares every
    call of a sequence made by the REAL code in one process with its per-call answer. -/
theorem C02_marshal_history_independent :
    (∀ (h h' : Hist) (c : Call), (procStep h c).2 = (procStep h' c).2) ∧
    (∀ (h : Hist) (cs : List Call), procRun h cs = cs.map callModel) ∧
    (∀ (h : Hist) (pre suf : List Call) (c : Call), (procRun h (pre ++ c :: suf))[pre.length]? = some (callModel c)) := by
  have run : ∀ (h : Hist) (cs : List Call), procRun h cs = cs.map callModel := fun h cs => by
    induction cs generalizing h with
    | nil => rfl
    | cons c cs ih => simp [procRun, procStep, ih]
  refine ⟨fun _ _ _ => rfl, run, fun h pre suf c => ?_⟩
  rw [run]
  simp

/-- the encoding of a struct bound to a UDT column depends on the cql-tag → value association ONLY: two structs whose
    (tag, value) lists are permutations of each other (distinct tags) — the same fields declared in another order — are
    encoded to the same bytes, for every UDT type, every protocol version, every field value (nested ones included).
    In particular nothing of the Go type but its tags enters (`GoVal.udtstruct names vs`): not its name, not the field
    indexes of another type. -/
theorem C02_udt_layout_independent (p : Nat) (names : List String) (ts : List CqlTy) (fs gs : List (String × GoVal))
    (hp : fs.Perm gs) (hnd : (fs.map (·.1)).Nodup) :
    marshal p (.udt names ts) (.udtstruct (fs.map (·.1)) (fs.map (·.2))) =
    marshal p (.udt names ts) (.udtstruct (gs.map (·.1)) (gs.map (·.2))) :=
  marshal_udtstruct_congr p names ts fs gs fun n _ => find_key_perm hp hnd n

/-- non-vacuity: (street, city) declared in both orders -/
example : marshal 4 (.udt ["a", "b"] [.text, .text]) (.udtstruct ["a", "b"] [.str false [65], .str false [66]]) =
    marshal 4 (.udt ["a", "b"] [.text, .text]) (.udtstruct ["b", "a"] [.str false [66], .str false [65]]) :=
  C02_udt_layout_independent 4 ["a", "b"] [.text, .text] [("a", .str false [65]), ("b", .str false [66])]
    [("b", .str false [66]), ("a", .str false [65])] (List.Perm.swap _ _ _) (by decide)

/-! ## a varint column across Go kinds, against `crossTarget`, the destination half of the specification `crossSpec` (op `rtx`) -/

/-- a Go integer of ANY kind (named or not, the unsigned upper half 2^63 … 2^64−1 included) bound to a varint column:
    (1) Marshal refuses exactly the documented refusals (`uint` / named unsigned kinds above MaxInt64: marshalBigInt's
    range check) — the bare `uint64` is accepted on its whole range; (2) when it accepts, Unmarshal into EVERY destination
    for which the specification `crossTarget` claims a value — every integer kind able to hold the number, `*big.Int`,
    `*string`, time.Duration — gives exactly that value.  Not claimed (`crossTarget` = excluded, with the finding's id):
    a number ≥ 2^63 into `*uint` / named unsigned kinds (KF-C12-12) and a number outside int64 into `*string`
    (KF-C02-5): `C02_cex_varint_upper_half`. -/
theorem C02_varint_cross_target (k : IntKind) (named : Bool) (v : Int) (hv : k.holds v = true) :
    (marshalVarintKind k named v = none ↔
      (k.signed = false ∧ v ≥ 9223372036854775808 ∧ ¬ (k = .uint64 ∧ named = false))) ∧
    (∀ b, marshalVarintKind k named v = some b →
      ∀ base w, crossTarget true v base = .ok w → unmarshalVarint b base = .ok w) := by
  have hb := holds_64 hv
  constructor
  · rw [marshalVarintKind_char k named v hv]
    split
    · exact ⟨fun _ => ‹_›, fun _ => rfl⟩
    · exact ⟨nofun, fun h => absurd h ‹_›⟩
  · intro b hm base w hc
    obtain rfl : b = specVarint v := marshalVarintKind_spec k named v hv b hm
    revert hc
    fun_cases crossTarget true v base <;> intro hc <;> cases hc
    next k' n' hh hex =>   -- an integer kind that holds the number, not a recorded deviation
      have hh' : k'.holds v = true := by simpa using hh
      have hb' := holds_64 hh'
      by_cases hlo : v < 9223372036854775808
      · have hfit : fitsS 8 v = true := by rw [fitsS_iff]; omega
        -- below 2^63 the varint is read as the int64 itself, so any kind that holds `v` gets `v`
        rw [unmarshalVarint_fits v hfit (.int k' n') (fun h => nomatch h)]
        simp [unmarshalIntlike, unmarshalIntKind_char .varint v k' hfit, seenBy_of (src := .varint) hfit (signed_or_nonneg hh'), hh', optU]
      · have hk : k' = .uint64 ∧ n' = false := by
          simp at hex
          exact hex (by omega)
        obtain ⟨rfl, rfl⟩ := hk
        have hm2 : ((v.toNat : Nat) : Int) = v := by omega
        have hup := specVarint_upper v.toNat (by omega) (by omega)
        rw [hm2] at hup
        rw [hup]
        have h9 : (0 :: beBytes 8 v.toNat).length = 9 := by simp [beBytes_length]
        simp [unmarshalVarint, unmarshalVarintFront, h9, bytesToUint64_beBytes8 v.toNat (by omega), hm2]
    next => simp [unmarshalVarint, decBigInt2C_specVarint]   -- *big.Int
    next hex =>   -- *string, a number of int64
      rw [unmarshalVarint_fits v (by simpa using hex) (.str false) (fun h => nomatch h)]
      rfl
    next hfit =>   -- time.Duration, a number of int64
      rw [unmarshalVarint_fits v hfit .dur (fun h => nomatch h)]
      rfl

/-- arbitrary precision: what Marshal writes for a big.Int (varint) and for the unscaled value of an inf.Dec (decimal),
    read back by decBigInt2C, is the number — EVERY integer; and the varint bytes are the specification's (shortest form) -/
theorem C02_bigint_bytes_roundtrip (n : Int) :
    decBigInt2C (encBigInt2C n) = n ∧ decBigInt2C (marshalVarintBig n) = n ∧ marshalVarintBig n = specVarint n :=
  ⟨by rw [encBigInt2C_spec, decBigInt2C_specVarint], by rw [marshalVarintBig_spec, decBigInt2C_specVarint],
   marshalVarintBig_spec n⟩

theorem srt_varint_kind (k : IntKind) (named : Bool) (v : Int) (hv : k.holds v = true) :
    SRT .varint (.int k named) (.int k named v) := by
  refine srt_of_optM (marshalVarintKind k named v) rfl (fun b hk => ?_)
  obtain ⟨_, hsigned, _⟩ := holds_64 hv
  -- Marshal accepted, so the pair is none of the documented refusals: the specification claims the same-kind target
  have hr := mt (C02_varint_cross_target k named v hv).1.mpr (by rw [hk]; nofun)
  have hct : crossTarget true v (.int k named) = .ok (.int k named v) := by
    simp only [crossTarget, hv, Bool.not_true, Bool.false_eq_true, if_false, Bool.true_and]
    rw [if_neg]
    intro hx
    simp only [Bool.and_eq_true, decide_eq_true_eq, Bool.not_eq_true', Bool.and_eq_false_iff, decide_eq_false_iff_not,
      Bool.not_eq_false'] at hx
    refine hr ⟨?_, hx.1, fun hu => by rcases hx.2 with h | h <;> simp [hu.1, hu.2] at h⟩
    cases hs : k.signed
    · rfl
    · have := hsigned hs; omega
  exact (C02_varint_cross_target k named v hv).2 b hk (.int k named) _ hct

/-- the documented (column, Go type, value) triples of the scalar columns for which the same-type round trip is claimed:
    each line a Go kind with ALL its values, restricted only where the line says so -/
inductive Leaf : CqlTy → GoTy → GoVal → Prop
  /-- every Go integer kind, named or not, into tinyint / smallint / int / bigint / counter — every value of the kind
      (Marshal refuses the ones the column cannot hold; the unsigned wrap window comes back through the same kind) -/
  | int {t col} (h : intColOf t = some col) (k : IntKind) (named : Bool) (v : Int) (hv : k.holds v = true) :
      Leaf t (.int k named) (.int k named v)
  /-- every Go integer kind into varint, the unsigned upper half 2^63 … 2^64−1 included -/
  | varint (k : IntKind) (named : Bool) (v : Int) (hv : k.holds v = true) : Leaf .varint (.int k named) (.int k named v)
  /-- big.Int ↔ varint: arbitrary precision -/
  | big (v : Int) : Leaf .varint .big (.big v)
  | bigcol {t} (ht : t = .bigint ∨ t = .counter) (v : Int) : Leaf t .big (.big v)
  | str {t} (ht : isTextual t) (named : Bool) (s : Bytes) : Leaf t (.str named) (.str named s)
  /-- []byte: non-empty (EMPTY is KF-C02-2) -/
  | bytes {t} (ht : isTextual t) (b : Bytes) (hb : b ≠ []) : Leaf t (.bytes false) (.bytes false false b)
  | namedBytes {t} (ht : isTextual t) (b : Bytes) : Leaf t (.bytes true) (.bytes true false b)
  | nilBytes {t} (ht : isTextual t) (named : Bool) : Leaf t (.bytes named) (.bytes named true [])
  | bool (named b : Bool) : Leaf .boolean (.bool named) (.bool named b)
  /-- float32: all 2^32 bit patterns (a NAMED float32 except signalling NaNs, which `float32(rv.Float())` quiets) -/
  | f32 (named : Bool) (x : Nat) (hx : x < 2^32) (hq : named = true → quiet32 x = x) : Leaf .float (.f32 named) (.f32 named x)
  | f64 (named : Bool) (x : Nat) (hx : x < 2^64) : Leaf .double (.f64 named) (.f64 named x)
  /-- inf.Dec: every unscaled big integer, every int32 scale -/
  | decimal (u s : Int) (hs : fitsS 4 s = true) : Leaf .decimal .dec (.dec u s)
  | timeInt64 (named : Bool) (v : Int) (hv : fitsS 8 v = true) : Leaf .time (.int .int64 named) (.int .int64 named v)
  | timeDur (v : Int) (hv : fitsS 8 v = true) : Leaf .time .dur (.dur v)
  | tsInt64 (named : Bool) (v : Int) (hv : fitsS 8 v = true) : Leaf .timestamp (.int .int64 named) (.int .int64 named v)
  | tsDur (v : Int) (hv : fitsS 8 v = true) : Leaf .timestamp .dur (.dur v)
  /-- time.Time with whole milliseconds, pre-epoch and the zero time included, as far as int64 milliseconds reach -/
  | tsTime (sec nsec : Int) (hn : 0 ≤ nsec ∧ nsec < 1000000000) (hms : nsec % 1000000 = 0)
      (h1 : fitsS 8 (sec * 1000) = true) (h2 : fitsS 8 (exactMillis sec nsec) = true) : Leaf .timestamp .time (.time sec nsec)
  /-- a midnight whose day is in the date range (pre-epoch included) -/
  | dateTime (sec : Int) (hmid : sec % 86400 = 0) (h1 : fitsS 8 (sec * 1000) = true)
      (hrange : fitsU 4 (sec / 86400 + 2147483648) = true) : Leaf .date .time (.time sec 0)
  | uuid {t} (ht : isUuid t) (b : Bytes) (hb : b.length = 16) : Leaf t .uuid (.uuid b)
  | arr16 {t} (ht : isUuid t) (b : Bytes) (hb : b.length = 16) : Leaf t .arr16 (.arr16 b)
  /-- gocql.Duration: months / days of int32, nanoseconds of int64 -/
  | duration (m d n : Int) (hm : fitsS 4 m = true) (hd : fitsS 4 d = true) (hn : fitsS 8 n = true) :
      Leaf .duration .cqldur (.cqldur m d n)
  /-- net.IP: 4 bytes, or 16 bytes not IPv4-mapped (the mapped ones: `C02_inet_mapped`) -/
  | inet (b : Bytes) (hb : b.length = 4 ∨ (b.length = 16 ∧ ipTo4 b = none)) : Leaf .inet .ip (.ip b)

theorem Leaf.shape {t : CqlTy} {ty : GoTy} {g : GoVal} (h : Leaf t ty g) :
    CqlTy.isScalar t = true ∧ isBase ty = true ∧ C12Coll.isPtr g = false := by
  cases h with
  | @int t _ h _ _ _ _ => exact ⟨by cases t <;> simp [intColOf] at h <;> rfl, rfl, rfl⟩
  | bigcol ht _ => rcases ht with rfl | rfl <;> exact ⟨rfl, rfl, rfl⟩
  | str ht _ _ | bytes ht _ _ | namedBytes ht _ | nilBytes ht _ =>
    rcases ht with rfl | rfl | rfl | rfl <;> exact ⟨rfl, rfl, rfl⟩
  | uuid ht _ _ | arr16 ht _ _ => rcases ht with rfl | rfl <;> exact ⟨rfl, rfl, rfl⟩
  | _ => exact ⟨rfl, rfl, rfl⟩

/-- SCALAR ROUND TRIP: for every documented triple of `Leaf` — every scalar column type, each Go kind with all its
    values — whatever Marshal returns without error, Unmarshal of it into a fresh value of the same Go type is the
    value that was given; every protocol version. -/
theorem C02_scalar_roundtrip (p : Nat) (t : CqlTy) (ty : GoTy) (g : GoVal) (h : Leaf t ty g) :
    ∀ ob, marshal p t g = .ok ob → unmarshal p t ty ob = .ok g := by
  obtain ⟨hs1, hs2, hs3⟩ := h.shape
  apply rt_scalar p t ty g hs1 hs2 hs3
  cases h with
  | @int t col h k named v hv =>
    refine srt_of_optM (marshalIntKind col k named v) (ms_intcol t col h _) (fun b hk => ?_)
    rw [us_intcol t col h]
    simp [unmarshalIntlike, C02_int_roundtrip col k named v hv b hk, optU]
  | varint k named v hv => exact srt_varint_kind k named v hv
  | big v => exact srt_of _ rfl (by dsimp only [unmarshalScalar, unmarshalVarint]; rw [marshalVarintBig_spec, decBigInt2C_specVarint])
  | bigcol ht v => exact srt_bigint_big _ ht v
  | str ht named s => exact srt_of s (by rw [marshalScalar_textual ht]; rfl) (by rw [unmarshalScalar_textual ht]; rfl)
  | bytes ht b hb =>
    exact srt_of b (by rw [marshalScalar_textual ht]; rfl)
      (by rw [unmarshalScalar_textual ht]; dsimp only [unmarshalScalar]; rw [if_neg hb])
  | namedBytes ht b => exact srt_of b (by rw [marshalScalar_textual ht]; rfl) (by rw [unmarshalScalar_textual ht]; rfl)
  | nilBytes ht named => exact srt_nil_bytes _ ht named
  | bool named b => exact srt_of (encBool b) rfl (by cases b <;> rfl)
  | f32 named x hx hq => exact srt_f32 named x hx hq
  | f64 named x hx => exact srt_of _ rfl (by dsimp only [unmarshalScalar]; rw [decBigInt_encBigInt, toU64_toS64 x hx])
  | decimal u s hs =>
    -- the layout: 4 bytes of scale (never empty), then the varint of the unscaled value
    refine srt_of _ rfl ?_
    dsimp only [unmarshalScalar]
    rw [if_neg (by simp [encInt_length]), List.drop_left' (encInt_length _), List.take_left' (encInt_length _),
      (C02_bigint_bytes_roundtrip u).1, decInt_encInt, toS32_id s hs, toS32_id s hs]
  | timeInt64 _ v hv | timeDur v hv | tsInt64 _ v hv | tsDur v hv =>
    exact srt_of _ rfl (by dsimp only [unmarshalScalar]; rw [decBigInt_encBigInt, toS64_id v hv])
  | tsTime sec nsec hn hms h1 h2 => exact srt_timestamp_time sec nsec hn hms h1 h2
  | dateTime sec hmid h1 hr => exact srt_date_time sec hmid h1 hr
  | uuid ht b hb =>
    exact srt_of b (by rw [marshalScalar_uuid ht]; rfl)
      (by rw [us_uuid _ ht, if_neg (List.ne_nil_of_length_eq_add_one hb), if_neg (by omega)])
  | arr16 ht b hb =>
    exact srt_of b (by rw [marshalScalar_uuid ht]; rfl)
      (by rw [us_arr16 _ ht, if_neg (List.ne_nil_of_length_eq_add_one hb), if_neg (by omega)])
  | inet b hb => exact srt_inet b hb
  | duration m d n hm hd hn =>
    refine srt_of _ rfl ?_
    dsimp only [unmarshalScalar]
    rw [if_neg (C02Vint.encVints_ne_nil m d n hm hd hn), C02Vint.decVints_encVints m d n hm hd hn]

/-- non-vacuity: boundaries named by the property — a negative big.Int in the upper half of its byte width, −0.0,
    a NaN payload, a pre-epoch instant, the zero time -/
example : Leaf .varint .big (.big (-32768)) := .big _
example : Leaf .double (.f64 false) (.f64 false 0x8000000000000000) := .f64 _ _ (by decide)
example : Leaf .float (.f32 false) (.f32 false 0x7fa00001) := .f32 _ _ (by decide) (by intro h; cases h)
example : Leaf .timestamp .time (.time (-1) 999000000) := .tsTime _ _ (by decide) (by decide) (by decide) (by decide)
example : Leaf .timestamp .time (.time zeroTimeSec 0) := .tsTime _ _ (by decide) (by decide) (by decide) (by decide)
example : Leaf .duration .cqldur (.cqldur (-2147483648) 2147483647 (-9223372036854775808)) :=
  .duration _ _ _ (by decide) (by decide) (by decide)
example : Leaf .date .time (.time (-86400) 0) := .dateTime _ (by decide) (by decide) (by decide)
example : marshalVarintBig (-32768) = [128, 0] := by
  -- two bytes: unfold the specification's varint once per byte
  rw [marshalVarintBig_spec, specVarint]
  simp [byteOfNat]
  rw [specVarint]
  simp [byteOfNat]

/-- IPv4-mapped IPv6 (::ffff:a.b.c.d as 16 bytes): written as the 4-byte address, read back as the 4-byte net.IP — the
    same ADDRESS (its 16-byte form is the original; `net.IP.Equal`), not the same byte slice: the documented exception
    of the same-type round trip (kept out of rtsame by exactly this predicate) -/
theorem C02_inet_mapped (b : Bytes) (h16 : b.length = 16) (hz : b.take 10 = List.replicate 10 0)
    (hf : (b.drop 10).take 2 = [255, 255]) :
    marshalScalar .inet (.ip b) = .ok (some (b.drop 12)) ∧
    unmarshalScalar .inet false (b.drop 12) .ip = .ok (.ip (b.drop 12)) ∧
    ipTo16 (b.drop 12) = some b := by
  have hl : (b.drop 12).length = 4 := by simp [h16]
  have h4 : ipTo4 b = some (b.drop 12) := by
    simp only [ipTo4, h16, hz, hf]
    simp
  have h4' : ipTo4 (b.drop 12) = some (b.drop 12) := by simp [ipTo4, hl]
  refine ⟨by dsimp only [marshalScalar]; rw [h4], by dsimp only [unmarshalScalar]; simp [hl, h4'], ?_⟩
  simp only [ipTo16, hl, if_true]
  rw [← hz, ← hf, List.append_assoc, show b.drop 12 = (b.drop 10).drop 2 by rw [List.drop_drop], List.take_append_drop,
    List.take_append_drop]

/-- the values for which the same-type round trip is claimed, built over the scalar triples of `Leaf`: pointers and
    pointers to pointers (nil, or a chain down to a value that is not written as null), lists / sets bound to slices and
    arrays, maps (a Go map holds each key once), nil slices / maps, tuples bound to structs, slices, arrays and
    []interface{}, UDTs bound to map[string]interface{} — nested to ANY depth.  Under protocol ≤ 2 the
    elements must not be null (the 2-byte framing has no null element: KF-C02-3). -/
inductive Clean (p : Nat) : CqlTy → GoTy → GoVal → Prop
  | leaf {t ty g} : Leaf t ty g → Clean p t ty g
  | nilptr (t : CqlTy) (k : Nat) (ty : GoTy) (hb : isBase ty = true) : Clean p t (ptrTy (k+1) ty) .nilptr
  | ptr {t ty g} (k : Nat) (hb : isBase ty = true) : Clean p t ty g → NonNull p t g → Clean p t (ptrTy k ty) (wrapPtr k g)
  | slice {t et gty vs} (ht : isListLike t et) : (∀ v, v ∈ vs → Clean p et gty v) →
      (p ≤ 2 → ∀ v, v ∈ vs → NonNull p et v) → Clean p t (.slice gty) (.slice false vs)
  | nilSlice {t et} (ht : isListLike t et) (gty : GoTy) : Clean p t (.slice gty) (.slice true [])
  | array {t et gty vs} (ht : isListLike t et) : (∀ v, v ∈ vs → Clean p et gty v) →
      (p ≤ 2 → ∀ v, v ∈ vs → NonNull p et v) → Clean p t (.array vs.length gty) (.array vs)
  | map {kt vt gk gv kvs} : (∀ kv, kv ∈ kvs → Clean p kt gk kv.1) → (∀ kv, kv ∈ kvs → Clean p vt gv kv.2) →
      (p ≤ 2 → ∀ kv, kv ∈ kvs → NonNull p kt kv.1 ∧ NonNull p vt kv.2) → KeysDistinct kvs →
      Clean p (.map kt vt) (.map gk gv) (.map false kvs)
  | nilMap (kt vt : CqlTy) (gk gv : GoTy) : Clean p (.map kt vt) (.map gk gv) (.map true [])
  /-- tuple<T1, …, Tn> ↔ struct whose i-th field is of type goType(Ti) (`val`) or *goType(Ti) (`null`: nil, `ptr`:
      pointing to a value not written as null), the held values `Clean` again — tuples inside lists inside tuples … -/
  | tuple (fs : List TField) : (∀ f, f ∈ fs → f.kind ≠ .null → Clean p f.t (goTypeOf f.t) f.v) →
      (∀ f, f ∈ fs → f.side p) →
      Clean p (.tuple (fs.map (·.t))) (.struct (fs.map (·.ty))) (.struct (fs.map (·.val)))
  /-- UDT ↔ map[string]interface{} holding a goType(field) value for every field of the UDT (distinct names) -/
  | udtMap (fl : List UField) : (fl.map (·.name)).Nodup → fl ≠ [] →
      (∀ f, f ∈ fl → Clean p f.t (goTypeOf f.t) f.v) → (∀ f, f ∈ fl → Small p f.t f.v) →
      Clean p (.udt (fl.map (·.name)) (fl.map (·.t))) .udtmap (.udtmap false (fl.map (·.name)) (fl.map (·.v)))
  /-- tuple ↔ []G / [n]G: every field of the one Go type `g` (goType(elem) for every element, or a pointer to it) -/
  | tupleSlice (fs : List TField) (g : GoTy) : (∀ f, f ∈ fs → f.kind ≠ .null → Clean p f.t (goTypeOf f.t) f.v) →
      (∀ f, f ∈ fs → f.side p) → (∀ f, f ∈ fs → f.ty = g) → (g == GoTy.iface) = false →
      Clean p (.tuple (fs.map (·.t))) (.slice g) (.slice false (fs.map (·.val)))
  | tupleArray (fs : List TField) (g : GoTy) : (∀ f, f ∈ fs → f.kind ≠ .null → Clean p f.t (goTypeOf f.t) f.v) →
      (∀ f, f ∈ fs → f.side p) → (∀ f, f ∈ fs → f.ty = g) →
      Clean p (.tuple (fs.map (·.t))) (.array (fs.map (·.t)).length g) (.array (fs.map (·.val)))
  /-- tuple ↔ []interface{} holding a goType(elem) value per element (no nil element) -/
  | tupleIfaces (fs : List TField) : (∀ f, f ∈ fs → f.kind ≠ .null → Clean p f.t (goTypeOf f.t) f.v) →
      (∀ f, f ∈ fs → f.side p) → (∀ f, f ∈ fs → f.kind = .iface) →
      Clean p (.tuple (fs.map (·.t))) (.slice .iface) (.ifaces (fs.map (·.val)))

/-- TUPLE step (element theorems as hypotheses, `C02Nested.FieldsRT`): a struct bound to tuple<T1, …, Tn> whose i-th field has
    type goType(Ti) — holding a value whose round trip holds — or *goType(Ti) — nil, or pointing to such a value that is
    not written as null — is given back unchanged by Marshal followed by Unmarshal into the same struct type: every arity,
    every protocol version; null (nil pointer), EMPTY and values keep their meanings.  Generalises
    `C02_tuple_text_roundtrip` from text fields to every element type (fields of another documented type: KF-C02-4). -/
theorem C02_tuple_struct_roundtrip (p : Nat) (ts : List CqlTy) (gs : List GoTy) (vs : List GoVal)
    (h : FieldsRT p ts gs vs) :
    ∀ ob, marshal p (.tuple ts) (.struct vs) = .ok ob → unmarshal p (.tuple ts) (.struct gs) ob = .ok (.struct vs) := by
  intro ob hm
  obtain ⟨hl1, hl2⟩ := FieldsRT_length h
  simp only [marshal, hl1, ne_eq, not_true_eq_false, if_false] at hm
  rw [unmarshal_base _ _ _ rfl]
  simp only [unmarshalBase, hl2, ne_eq, not_true_eq_false, if_false, tuple_set_back p ts gs vs h ob hm]

/-- null, empty and non-empty keep their distinct meanings inside a tuple: a struct bound to tuple<text, …, text>
    whose fields are `*string` (nil / pointer to "" / pointer to s) or `string` is given back unchanged by Marshal
    followed by Unmarshal into the same struct type — every number of fields, every string, every protocol version -/
theorem C02_tuple_text_roundtrip (p : Nat) (ts : List CqlTy) (gs : List GoTy) (vs : List GoVal)
    (h : C12Frame.TextFields ts gs vs) (hne : ts ≠ []) :
    ∃ b, marshal p (.tuple ts) (.struct vs) = .ok (some b) ∧
      unmarshal p (.tuple ts) (.struct gs) (some b) = .ok (.struct vs) := by
  obtain ⟨body, hm⟩ := text_fields_ok p h
  have hf := fieldsRT_of_text p h
  have hmm : marshal p (.tuple ts) (.struct vs) = .ok (some body) := by
    simp [marshal, (FieldsRT_length hf).1, wrapTuple, hne, hm]
  exact ⟨body, hmm, C02_tuple_struct_roundtrip p ts gs vs hf _ hmm⟩

/-- non-vacuity, kernel-checked = replay input `rtsame 4 tuple 3 text text text st 3 nilptr ptr s - ptr s 41 struct 3
    ptr string ptr string ptr string`: (null, EMPTY, "A") is written as ff ff ff ff | 00 00 00 00 | 00 00 00 01 41 -/
example : marshalTupleFields 4 [.text, .text, .text] [.nilptr, .ptr (.str false []), .ptr (.str false [65])] =
    .ok (some [255, 255, 255, 255, 0, 0, 0, 0, 0, 0, 0, 1, 65]) := rfl

example : C12Frame.TextFields [.text, .text, .text] [.ptr (.str false), .ptr (.str false), .ptr (.str false)]
    [.nilptr, .ptr (.str false []), .ptr (.str false [65])] :=
  .null (.ptr [] (by decide) (.ptr [65] (by decide) .nil))

/-- NESTED ROUND TRIP, by structural induction: for every `Clean` value — scalars inside pointers inside lists inside
    maps inside lists …, any depth — whatever Marshal returns without error, Unmarshal of it into a fresh value of the same
    Go type is the value that was given.  Both collection framings: every protocol version `p` (2-byte lengths for
    p ≤ 2, 4-byte lengths and −1 for null from 3). -/
theorem C02_nested_roundtrip (p : Nat) (t : CqlTy) (ty : GoTy) (g : GoVal) (h : Clean p t ty g) :
    ∀ ob, marshal p t g = .ok ob → unmarshal p t ty ob = .ok g := by
  induction h with
  | leaf hl => exact C02_scalar_roundtrip p _ _ _ hl
  | nilptr t k ty hb => exact rt_nilptr p t k ty hb
  | ptr k hb _ hnn ih => exact rt_ptr p _ k _ hb _ ih hnn
  | slice ht _ hnn ih => exact rt_slice p _ _ ht _ _ ih hnn
  | nilSlice ht gty => exact rt_nil_slice p _ _ ht gty
  | array ht _ hnn ih => exact rt_array p _ _ ht _ _ ih hnn
  | map _ _ hnn hd ihk ihv => exact rt_map p _ _ _ _ _ (fun kv hkv => ⟨ihk kv hkv, ihv kv hkv⟩) hnn hd
  | nilMap kt vt gk gv => exact rt_nil_map p kt vt gk gv
  | tuple fs _ hside ih => exact C02_tuple_struct_roundtrip p _ _ _ (fieldsRT_of p fs ih hside)
  | udtMap fl hnd hne _ hsm ih => exact rt_udtmap p fl hnd hne (fun f hf => ⟨ih f hf, hsm f hf⟩)
  | tupleSlice fs g _ hside hty hg ih =>
    exact rt_tuple_slice p _ g _ (map_ty_replicate fs g hty ▸ fieldsRT_of p fs ih hside) hg
  | tupleArray fs g _ hside hty ih =>
    exact rt_tuple_array p _ g _ (map_ty_replicate fs g hty ▸ fieldsRT_of p fs ih hside)
  | tupleIfaces fs _ hside hk ih =>
    refine rt_tuple_ifaces p _ _
      (map_ty_replicate fs .iface (fun f hf => by simp [TField.ty, hk f hf]) ▸ fieldsRT_of p fs ih hside) ?_
    intro v hv
    obtain ⟨f, hf, rfl⟩ := List.mem_map.mp hv
    have hs := hside f hf
    simp only [TField.side, hk f hf] at hs
    simp only [TField.val, hk f hf]
    exact ⟨hs.2.1, hs.1⟩

/-- non-vacuity: list<map<text, list<int>>> — a slice holding a nil map and a map from "b" to a slice of *int (one
    pointing to 7, one nil = a null element, protocol 4) -/
example : Clean 4 (.list (.map .text (.list .int))) (.slice (.map (.str false) (.slice (.ptr (.int .int false)))))
    (.slice false [.map true [],
                   .map false [(.str false [98], .slice false [.ptr (.int .int false 7), .nilptr])]]) := by
  refine .slice (Or.inl rfl) ?_ (by intro h; omega)
  intro v hv
  simp at hv
  rcases hv with rfl | rfl
  · exact .nilMap _ _ _ _
  · refine .map ?_ ?_ (by intro h; omega) ⟨(by intro kv h; cases h), trivial⟩
    · intro kv hkv
      simp at hkv; subst hkv
      exact .leaf (.str (Or.inr (Or.inl rfl)) _ _)
    · intro kv hkv
      simp at hkv; subst hkv
      refine .slice (Or.inl rfl) ?_ (by intro h; omega)
      intro v hv
      simp at hv
      rcases hv with rfl | rfl
      · exact .ptr 1 rfl (.leaf (.int (col := .int) rfl _ _ _ (by decide)))
          (nonNull_of_some (marshal_int_int 4 7 (by decide)))
      · exact .nilptr _ 0 _ rfl

/-- non-vacuity for maps of any size: `KeysDistinct` is discharged by computation (`keysDistinct_of_B`; `==` on Go values
    is the structural `GoVal.beqV` of Model/Marshal.lean) — map<text, int> ↔ map[string]int with three entries -/
example : Clean 2 (.map .text .int) (.map (.str false) (.int .int false))
    (.map false [(.str false [97], .int .int false 1), (.str false [98], .int .int false (-2)), (.str false [], .int .int false 0)]) := by
  refine .map ?_ ?_ ?_ (keysDistinct_of_B _ (by decide))
  · intro kv hkv
    simp at hkv
    rcases hkv with rfl | rfl | rfl <;> exact .leaf (.str (Or.inr (Or.inl rfl)) _ _)
  · intro kv hkv
    simp at hkv
    rcases hkv with rfl | rfl | rfl <;> exact .leaf (.int (col := .int) rfl _ _ _ (by decide))
  · intro _ kv hkv
    simp at hkv
    rcases hkv with rfl | rfl | rfl <;>
      exact ⟨nonNull_of_some (marshal_text_str 2 false _), nonNull_of_some (marshal_int_int 2 _ (by decide))⟩

/-- non-vacuity of the tuple constructor: list<tuple<int, text>> ↔ []struct{ *int; string } = [(null, "A")] -/
example : Clean 4 (.list (.tuple [.int, .text])) (.slice (.struct [.ptr (.int .int false), .str false]))
    (.slice false [.struct [.nilptr, .str false [65]]]) := by
  refine .slice (Or.inl rfl) ?_ (by intro h; omega)
  intro v hv
  simp at hv; subst hv
  refine Clean.tuple [⟨.int, .null, .nil⟩, ⟨.text, .val, .str false [65]⟩] ?_ ?_
  · intro f hf hk
    simp at hf
    rcases hf with rfl | rfl
    · exact absurd rfl hk
    · exact .leaf (.str (Or.inr (Or.inl rfl)) _ _)
  · intro f hf
    simp at hf
    rcases hf with rfl | rfl
    · exact nullOK_scalar 4 .int rfl
    · exact ⟨rfl, rfl, small_of_some (marshal_text_str 4 false [65]) (by decide)⟩

/-- non-vacuity: tuple<int, int> ↔ []interface{}{int, int} -/
example : Clean 4 (.tuple [.int, .int]) (.slice .iface) (.ifaces [.int .int false 1, .int .int false (-1)]) := by
  refine Clean.tupleIfaces [⟨.int, .iface, .int .int false 1⟩, ⟨.int, .iface, .int .int false (-1)⟩] ?_ ?_ ?_
  · intro f hf _
    simp at hf
    rcases hf with rfl | rfl <;> exact .leaf (.int (col := .int) rfl _ _ _ (by decide))
  · intro f hf
    simp at hf
    rcases hf with rfl | rfl <;>
      exact ⟨rfl, rfl, small_of_some (marshal_int_int 4 _ (by decide)) (by decide)⟩
  · intro f hf
    simp at hf
    rcases hf with rfl | rfl <;> rfl

/-- non-vacuity: udt<a text, b text> ↔ map[string]interface{}{"a": "A", "b": ""} -/
example : Clean 4 (.udt ["a", "b"] [.text, .text]) .udtmap (.udtmap false ["a", "b"] [.str false [65], .str false []]) := by
  refine Clean.udtMap [⟨"a", .text, .str false [65]⟩, ⟨"b", .text, .str false []⟩] (by decide) (by simp) ?_ ?_
  · intro f hf
    simp at hf
    rcases hf with rfl | rfl <;> exact .leaf (.str (Or.inr (Or.inl rfl)) _ _)
  · intro f hf
    simp at hf
    rcases hf with rfl | rfl <;> exact small_of_some (marshal_text_str 4 false _) (by decide)

/-- non-vacuity: tuple<int, list<text>, text> ↔ struct { *int; []string; *string } = (pointer to 7, nil slice, nil) -/
example : FieldsRT 4 [.int, .list .text, .text] [.ptr (.int .int false), .slice (.str false), .ptr (.str false)]
    [.ptr (.int .int false 7), .slice true [], .nilptr] := by
  refine .ptr (t := .int) ?_ ?_ ?_ (.val (t := .list .text) rfl rfl ?_ ?_ (.null (t := .text) (nullOK_scalar 4 .text rfl) .nil))
  · exact C02_scalar_roundtrip 4 _ _ _ (.int (col := .int) rfl _ _ _ (by decide))
  · exact nonNull_of_some (marshal_int_int 4 7 (by decide))
  · exact small_of_some (marshal_int_int 4 7 (by decide)) (by decide)
  · exact C02_nested_roundtrip 4 _ _ _ (.nilSlice (Or.inl rfl) _)
  · intro b hb; simp [marshal] at hb

/-- duration, the zig-zag layer: decIntZigZag (marshal.go) inverts encIntZigZag on EVERY int64 (months, days and
    nanoseconds of a duration are written as vints of their zig-zag codes).  The byte layer: `C02Vint.decVint_specVint`
    (decVint reads back the vint encVint wrote, every int64); that byte layer is what the `duration` line of `Leaf`
    rests on (through `C02Vint.decVints_encVints`). -/
theorem C02_zigzag_roundtrip (n : Int) (h : fitsS 8 n = true) : decIntZigZag (encIntZigZag n) = n := by
  rw [C12Vint.encIntZigZag_spec n h, C12VintDec.decIntZigZag_spec _ (C12Vint.zigzag_lt n h), C12Vint.unzigzag_zigzag]

/-- non-vacuity at the boundary: the smallest int64 meets the hypothesis of `C02_zigzag_roundtrip` -/
example : fitsS 8 (-9223372036854775808) = true := by decide

/-! ## string sources (op `sstr`): refused, or written as the value the string denotes — never silently altered -/

/-- what the specification `StrSpec.strSpec` (Model/StringSpec.lean, compared with the real code on every generated string)
    demands of a Go string bound to an inet column: (1) an answer `ok bytes back` is given ONLY for a string that is an IP
    address literal WITHOUT zone; the bytes are that address (IPv4-mapped ↦ 4 bytes) and the string a `*string` gets back
    denotes the same address again; (2) a literal with a zone — a value the column cannot hold — must be refused, whatever
    the address and the zone (the class seed C02-8 alters: the zone was dropped silently); (3) a string that is no literal
    at all must be refused. -/
theorem C02_inet_string_no_silent_loss (s : Bytes) :
    (∀ b back, StrSpec.strSpec .inet s = .ok b back →
      ∃ a, StrSpec.parseIP s = some (a, []) ∧ b = StrSpec.unmap a ∧
        ∃ a', StrSpec.parseIP back = some (a', []) ∧ StrSpec.unmap a' = b) ∧
    (∀ a z, StrSpec.parseIP s = some (a, z) → z ≠ [] → StrSpec.strSpec .inet s = .merr) ∧
    (StrSpec.parseIP s = none → StrSpec.strSpec .inet s = .merr) := by
  generalize ht : CqlTy.inet = t
  fun_cases StrSpec.strSpec t s <;> cases ht <;> simp_all +zetaDelta

/-- non-vacuity, kernel-checked = the failing input of seed C02-8 (`sstr inet 666538303a3a312565746830`): "fe80::1%eth0"
    is the address fe80::1 with zone "eth0" and must be refused; without the zone it is accepted -/
example : StrSpec.parseIP [102, 101, 56, 48, 58, 58, 49, 37, 101, 116, 104, 48] =
    some ([254, 128, 0, 0, 0, 0, 0, 0, 0, 0, 0, 0, 0, 0, 0, 1], [101, 116, 104, 48]) := by decide
example : StrSpec.strSpec .inet [102, 101, 56, 48, 58, 58, 49, 37, 101, 116, 104, 48] = .merr := by decide
example : StrSpec.parseIP [102, 101, 56, 48, 58, 58, 49] = some ([254, 128, 0, 0, 0, 0, 0, 0, 0, 0, 0, 0, 0, 0, 0, 1], []) := by decide

/-- date and integer columns: `ok` only for a string that is a date `YYYY-MM-DD` of the calendar (February 29 in leap
    years only, …) — and then a `*string` gets back the very same string — resp. a decimal literal whose number the
    column holds, written as the specification's bytes of that number; everything else must be refused -/
theorem C02_date_int_string_no_silent_loss (s : Bytes) :
    (∀ b back, StrSpec.strSpec .date s = .ok b back →
      (s = [] ∧ b = [] ∧ back = []) ∨
      (back = s ∧ ∃ d, StrSpec.parseDate s = some d ∧ b = beBytes 4 (d + 2147483648).toNat)) ∧
    (∀ t w b back, StrSpec.intBytes t = some w → StrSpec.strSpec t s = .ok b back →
      ∃ n, Marshal.parseDec s = some n ∧ fitsS w n = true ∧ b = tcEnc w n ∧ back = formatInt n) := by
  refine ⟨?_, fun t w b back ht => ?_⟩
  · generalize hd : CqlTy.date = t
    fun_cases StrSpec.strSpec t s <;> cases hd <;> simp_all +zetaDelta
  · fun_cases StrSpec.strSpec t s <;> simp_all +zetaDelta [StrSpec.intBytes]

example : StrSpec.strSpec .date [50, 48, 50, 51, 45, 48, 50, 45, 50, 57] = .merr := by decide   -- "2023-02-29"
example : StrSpec.parseDate [49, 57, 54, 57, 45, 49, 50, 45, 51, 49] = some (-1) := by decide    -- "1969-12-31"

/-- uuid / timeuuid from a string: `ok` only for 32 hex digits with hyphens between bytes (upper case, missing or extra
    hyphens are accepted — braces, `urn:uuid:`, whitespace, 31 / 33 digits are not); the bytes are those digits and the
    canonical string a `*string` gets back denotes the same UUID -/
theorem C02_uuid_string_no_silent_loss (t : CqlTy) (ht : isUuid t) (s : Bytes) :
    (∀ b back, StrSpec.strSpec t s = .ok b back →
      StrSpec.parseUUIDLit s = some b ∧ back = uuidString b ∧ StrSpec.parseUUIDLit back = some b) ∧
    (StrSpec.parseUUIDLit s = none → StrSpec.strSpec t s = .merr) := by
  unfold isUuid at ht
  fun_cases StrSpec.strSpec t s <;> simp_all +zetaDelta

example : StrSpec.parseUUIDLit /- "{6ba7b810-9dad-11d1-80b4-00c04fd430c8}" -/
    [123, 54, 98, 97, 55, 98, 56, 49, 48, 45, 57, 100, 97, 100, 45, 49, 49, 100, 49, 45, 56, 48, 98, 52, 45, 48, 48, 99, 48, 52, 102, 100,
     52, 51, 48, 99, 56, 125] = none := by decide
example : StrSpec.parseUUIDLit /- "6BA7B8109DAD11D180B400C04FD430C8" -/
    [54, 66, 65, 55, 66, 56, 49, 48, 57, 68, 65, 68, 49, 49, 68, 49, 56, 48, 66, 52, 48, 48, 67, 48, 52, 70, 68, 52, 51, 48, 67, 56] =
    some [0x6b, 0xa7, 0xb8, 0x10, 0x9d, 0xad, 0x11, 0xd1, 0x80, 0xb4, 0x00, 0xc0, 0x4f, 0xd4, 0x30, 0xc8] := by decide

/-- FULL STATEMENT (does not hold): "… into any documented target type able to represent the value".  2^63 written by a
    bare uint64 into a varint column (00 80 00 00 00 00 00 00 00) decodes into *uint64 and *big.Int, but `*uint`, which
    can hold it, gets an error (KF-C12-12) and so does `*string` (KF-C02-5).
    = replay inputs `rt 4 varint i uint64 9223372036854775808 k uint` / `… string` -/
theorem C02_cex_varint_upper_half :
    marshalVarintKind .uint64 false 9223372036854775808 = some [0, 128, 0, 0, 0, 0, 0, 0, 0] ∧
    unmarshalVarint [0, 128, 0, 0, 0, 0, 0, 0, 0] (.int .uint64 false) = .ok (.int .uint64 false 9223372036854775808) ∧
    unmarshalVarint [0, 128, 0, 0, 0, 0, 0, 0, 0] (.int .uint false) = .err ∧
    IntKind.uint.holds 9223372036854775808 = true ∧
    unmarshalVarint [0, 128, 0, 0, 0, 0, 0, 0, 0] (.str false) = .err := by
  refine ⟨by decide, by rfl, by rfl, by decide, by rfl⟩

end C02
