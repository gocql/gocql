import Proofs.C14Obs
/-!
# C14, session tier: every schedule of the connection-level machine `PConn` produces a trace that the
observable-level specification `Obs` accepts: a forward simulation (`step_refines`, `run_refines`) carrying the inductive
invariant `Inv`, the coupling `Rel` with the specification state, and `SInv` (with a cache that never purges only finished
flights are out of the cache). `FlMono` (flights only gain information) is what `CallerOK` is monotone in.
At the end: schedules compose (`run_append`) and never change the mode (`run_strict`).
-/
namespace C14Conn
open PConn Obs C14Obs

variable {κ : Type} [DecidableEq κ]

/-- the model's `isRemoved s` is `isRemovedL s.flights` by unfolding (`isRemoved_eq`): the proofs below pass one for the other -/
def isRemovedL (fls : List (Flight κ)) (f : Nat) : Bool :=
  match fls[f]? with
  | some fl => fl.removed
  | none => false

omit [DecidableEq κ] in
theorem isRemoved_eq (s : State κ) : isRemoved s = isRemovedL s.flights := rfl

/-- number of flights of key k whose PREPARE has not reached the server -/
def unann (fls : List (Flight κ)) (k : κ) : Nat :=
  fls.countP (fun fl => decide (fl.key = k) && fl.ans.isNone)

/-- the statements taken so far belong to the entries, in order, and come from flights that were not
    banned -/
def GotOK (fls : List (Flight κ)) (b : Nat → Bool) : List (κ × Nat) → List Nat → Prop
  | _, [] => True
  | [], _ :: _ => False
  | e :: es, f :: fs =>
    (∃ (fl : Flight κ) (id : Id), fls[f]? = some fl ∧ fl.key = e.1 ∧ fl.ans = some (some (id, e.2)) ∧ b f = false) ∧ GotOK fls b es fs

/-- the caller is inside prepareStatement for its next entry, holding flight f -/
def Holds (fls : List (Flight κ)) (cl : Caller κ) (f : Nat) : Prop :=
  cl.got.length < cl.entries.length ∧ GotOK fls cl.banned cl.entries cl.got ∧
    ∃ (fl : Flight κ) (e : κ × Nat), fls[f]? = some fl ∧ cl.entries[cl.got.length]? = some e ∧ fl.key = e.1 ∧ cl.banned f = false

structure CallerOK (fls : List (Flight κ)) (cl : Caller κ) : Prop where
  ne  : cl.entries ≠ []
  ban : ∀ f, cl.banned f = true → isRemovedL fls f = true
  pcs : match cl.pc with
    | .start => cl.got.length < cl.entries.length ∧ GotOK fls cl.banned cl.entries cl.got
    | .won f => Holds fls cl f
    | .waiting f => Holds fls cl f
    | .answered _ => True
    | .returned => True
    | .abandoned => True
    | .lagging => cl.got.length = cl.entries.length ∧ GotOK fls cl.banned cl.entries cl.got

/-- the caller accounts for flight f while its PREPARE has not reached the server: it published it and is about
    to start the goroutine, it waits for it, or it gave up on its context (after starting the goroutine) -/
def Owns (pc : PC) (f : Nat) : Prop := pc = .won f ∨ pc = .waiting f ∨ pc = .abandoned

theorem not_owns {pc : PC} {f : Nat} (h : pc = .start ∨ (∃ a, pc = .answered a) ∨ pc = .lagging) : ¬ Owns pc f := by
  rintro (rfl | rfl | rfl) <;> rcases h with h | ⟨_, h⟩ | h <;> cases h

theorem owns_eq {pc : PC} {f g : Nat} (h : pc = .won f ∨ pc = .waiting f) (ho : Owns pc g) : g = f := by
  rcases ho with rfl | rfl | rfl <;> rcases h with h | h <;> cases h <;> rfl

/-- The invariant of `PConn`. `cached`/`uncached`: the cache maps a key to a flight exactly while that flight's ghost
    flag `removed` is off. `doneAns`/`failRem`: a flight is closed only after the server answered, and a failed one only
    after its key was removed (`complete` removes first, closes second). `waiter`: while the PREPARE has not reached the
    server some caller still accounts for the flight (`Owns`); `unspawned`: a flight whose goroutine has not been
    started has its publisher at pc `won`. -/
structure Inv (s : State κ) : Prop where
  cached   : ∀ (k : κ) (f : Nat), s.cache k = some f → ∃ fl : Flight κ, s.flights[f]? = some fl ∧ fl.key = k ∧ fl.removed = false
  uncached : ∀ (f : Nat) (fl : Flight κ), s.flights[f]? = some fl → fl.removed = false → s.cache fl.key = some f
  doneAns  : ∀ (f : Nat) (fl : Flight κ), s.flights[f]? = some fl → fl.done = true → fl.ans ≠ none
  failRem  : ∀ (f : Nat) (fl : Flight κ), s.flights[f]? = some fl → fl.done = true → fl.ans = some none → fl.removed = true
  callers  : ∀ (c : Nat) (cl : Caller κ), s.callers[c]? = some cl → CallerOK s.flights cl
  waiter   : ∀ (f : Nat) (fl : Flight κ), s.flights[f]? = some fl → fl.ans = none →
               ∃ (c : Nat) (cl : Caller κ), s.callers[c]? = some cl ∧ hasKey cl.entries fl.key = true ∧ Owns cl.pc f
  unspawned : ∀ (f : Nat) (fl : Flight κ), s.flights[f]? = some fl → fl.spawned = false →
               ∃ (c : Nat) (cl : Caller κ), s.callers[c]? = some cl ∧ cl.pc = .won f

def FlMono (fls fls' : List (Flight κ)) : Prop :=
  ∀ (f : Nat) (fl : Flight κ), fls[f]? = some fl → ∃ fl' : Flight κ, fls'[f]? = some fl' ∧ fl'.key = fl.key ∧
    (fl.ans ≠ none → fl'.ans = fl.ans) ∧ (fl.removed = true → fl'.removed = true)

omit [DecidableEq κ] in
theorem flmono_refl (fls : List (Flight κ)) : FlMono fls fls := fun _ fl h => ⟨fl, h, rfl, fun _ => rfl, id⟩

omit [DecidableEq κ] in
theorem flmono_set (fls : List (Flight κ)) (g : Nat) (fl fl' : Flight κ) (hg : fls[g]? = some fl)
    (hk : fl'.key = fl.key) (ha : fl.ans ≠ none → fl'.ans = fl.ans) (hr : fl.removed = true → fl'.removed = true) :
    FlMono fls (fls.set g fl') := by
  intro f x hx
  by_cases h : g = f
  · subst h
    rw [hg] at hx; injection hx with hx; subst hx
    exact ⟨fl', getElem?_set_of _ hg, hk, ha, hr⟩
  · exact ⟨x, (List.getElem?_set_ne h).trans hx, rfl, fun _ => rfl, id⟩

omit [DecidableEq κ] in
theorem flmono_append (fls : List (Flight κ)) (x : Flight κ) : FlMono fls (fls ++ [x]) :=
  fun _ fl h => ⟨fl, getElem?_append_of _ h, rfl, fun _ => rfl, id⟩

omit [DecidableEq κ] in
theorem isRemovedL_mono {fls fls' : List (Flight κ)} (hm : FlMono fls fls') (f : Nat)
    (h : isRemovedL fls f = true) : isRemovedL fls' f = true := by
  unfold isRemovedL at h ⊢
  cases hf : fls[f]? with
  | none => simp [hf] at h
  | some fl =>
    simp [hf] at h
    obtain ⟨fl', h1, _, _, h4⟩ := hm f fl hf
    simp [h1, h4 h]

omit [DecidableEq κ] in
theorem gotOK_nil (fls : List (Flight κ)) (b : Nat → Bool) (es : List (κ × Nat)) : GotOK fls b es [] := by
  cases es <;> trivial

omit [DecidableEq κ] in
theorem gotOK_mono {fls fls' : List (Flight κ)} (hm : FlMono fls fls') (b : Nat → Bool) :
    ∀ (es : List (κ × Nat)) (fs : List Nat), GotOK fls b es fs → GotOK fls' b es fs
  | _, [], _ => gotOK_nil ..
  | [], _ :: _, h => by simp [GotOK] at h
  | e :: es, f :: fs, ⟨⟨fl, id, h1, h2, h3, h4⟩, hr⟩ => by
    obtain ⟨fl', g1, g2, g3, _⟩ := hm f fl h1
    refine ⟨⟨fl', id, g1, g2.trans h2, ?_, h4⟩, gotOK_mono hm b es fs hr⟩
    rw [g3 (by rw [h3]; simp), h3]

omit [DecidableEq κ] in
theorem holds_mono {fls fls' : List (Flight κ)} (hm : FlMono fls fls') {cl : Caller κ} {f : Nat}
    (h : Holds fls cl f) : Holds fls' cl f := by
  obtain ⟨h1, h2, fl, e, h3, h4, h5, h6⟩ := h
  obtain ⟨fl', g1, g2, _, _⟩ := hm f fl h3
  exact ⟨h1, gotOK_mono hm _ _ _ h2, fl', e, g1, h4, g2.trans h5, h6⟩

omit [DecidableEq κ] in
theorem callerOK_mono {fls fls' : List (Flight κ)} (hm : FlMono fls fls') (cl : Caller κ)
    (h : CallerOK fls cl) : CallerOK fls' cl := by
  refine ⟨h.ne, fun f hf => isRemovedL_mono hm f (h.ban f hf), ?_⟩
  have hp := h.pcs
  cases hpc : cl.pc with
  | start | lagging => rw [hpc] at hp; exact ⟨hp.1, gotOK_mono hm _ _ _ hp.2⟩
  | won f | waiting f => rw [hpc] at hp; exact holds_mono hm hp
  | answered a | returned | abandoned => trivial

omit [DecidableEq κ] in
theorem CallerOK.not_banned {fls : List (Flight κ)} {cl : Caller κ} (h : CallerOK fls cl) {f : Nat}
    (hf : isRemovedL fls f = false) : cl.banned f = false := by
  cases hb : cl.banned f with
  | false => rfl
  | true => rw [h.ban f hb] at hf; cases hf

omit [DecidableEq κ] in
theorem gotOK_snoc (fls : List (Flight κ)) (b : Nat → Bool) :
    ∀ (es : List (κ × Nat)) (fs : List Nat) (f : Nat) (e : κ × Nat), GotOK fls b es fs → es[fs.length]? = some e →
      (∃ (fl : Flight κ) (id : Id), fls[f]? = some fl ∧ fl.key = e.1 ∧ fl.ans = some (some (id, e.2)) ∧ b f = false) →
      GotOK fls b es (fs ++ [f])
  | [], [], _, _, _, he, _ => nomatch he
  | e' :: es, [], f, e, _, he, hf => by
    injection he with he; subst he
    exact ⟨hf, gotOK_nil ..⟩
  | [], _ :: _, _, _, h, _, _ => h.elim
  | e' :: es, g :: fs, f, e, ⟨h1, h2⟩, he, hf => ⟨h1, gotOK_snoc fls b es fs f e h2 he hf⟩

def PcRel : PC → OPC → Prop
  | .start, p => p.live = true
  | .won _, p => p.live = true
  | .waiting _, p => p.live = true
  | .answered a, p => p = .awaiting a
  | .returned, p => p = .returned
  | .abandoned, p => p.gaveUp = true
  | .lagging, p => p = .abandoned true

def absFlight (fls : List (Flight κ)) (f : Nat) : Option (OFlight κ) :=
  match fls[f]? with
  | none => none
  | some fl => if fl.ans = none ∧ fl.removed = false then none else some ⟨fl.key, fl.ans, fl.removed⟩

/-- The coupling with the specification state. `flight`: the specification knows a flight from the first event that
    mentions it (`absFlight`: answered or removed); `known` lists those. `credit`: the PREPAREs the specification still
    allows for a key are the flights of that key not yet at the server, plus one if the key is not cached. -/
structure Rel (s : State κ) (o : OState κ) : Prop where
  ncall  : o.callers.length = s.callers.length
  call   : ∀ (c : Nat) (cl : Caller κ), s.callers[c]? = some cl → ∃ ocl : OCaller κ, o.callers[c]? = some ocl ∧ ocl.entries = cl.entries ∧
             ocl.banned = cl.banned ∧ PcRel cl.pc ocl.pc
  flight : ∀ f, o.flights f = absFlight s.flights f
  known  : ∀ f, o.flights f ≠ none → f ∈ o.known
  credit : ∀ k, o.credit k = unann s.flights k + (if s.cache k = none then 1 else 0)
  canc   : o.cancelled = s.cancelled
  strict : o.strict = s.strict

theorem removedNow_eq {s : State κ} {o : OState κ} (hR : Rel s o) : removedNow o = isRemoved s := by
  funext f
  unfold removedNow isRemoved
  rw [hR.flight f]
  unfold absFlight
  cases hf : s.flights[f]? with
  | none => rfl
  | some fl =>
    by_cases h : fl.ans = none ∧ fl.removed = false
    · simp [h]
    · simp [h]

theorem hasKey_of_getElem? {es : List (κ × Nat)} {i : Nat} {e : κ × Nat} (h : es[i]? = some e) : hasKey es e.1 = true := by
  unfold hasKey
  exact List.any_eq_true.2 ⟨e, List.mem_of_getElem? h, by simp⟩

omit [DecidableEq κ] in
theorem absFlight_ans {fls : List (Flight κ)} {f : Nat} {fl : Flight κ} (hf : fls[f]? = some fl) (ha : fl.ans ≠ none) :
    absFlight fls f = some ⟨fl.key, fl.ans, fl.removed⟩ := by
  unfold absFlight
  simp [hf, ha]

omit [DecidableEq κ] in
theorem absFlight_set {fls : List (Flight κ)} {f : Nat} {fl : Flight κ} (fl' : Flight κ) (hf : fls[f]? = some fl) (g : Nat) :
    absFlight (fls.set f fl') g = if g = f then
      (if fl'.ans = none ∧ fl'.removed = false then none else some ⟨fl'.key, fl'.ans, fl'.removed⟩) else absFlight fls g := by
  unfold absFlight
  by_cases h : g = f
  · subst h; rw [getElem?_set_of fl' hf, if_pos rfl]
  · rw [if_neg h, List.getElem?_set_ne (Ne.symm h)]

theorem inv_updCaller {s : State κ} {c : Nat} {cl cl' : Caller κ} (hI : Inv s) (hc : s.callers[c]? = some cl)
    (hok : CallerOK s.flights cl') (he : cl'.entries = cl.entries)
    (hw : ∀ (f : Nat) (fl : Flight κ), Owns cl.pc f → s.flights[f]? = some fl → fl.ans = none → Owns cl'.pc f)
    (hu : ∀ (f : Nat) (fl : Flight κ), cl.pc = .won f → s.flights[f]? = some fl → fl.spawned = false → cl'.pc = .won f) :
    Inv { s with callers := s.callers.set c cl' } := by
  refine ⟨hI.cached, hI.uncached, hI.doneAns, hI.failRem, ?_, ?_, ?_⟩
  · intro c' x hx
    rcases getElem?_set_cases hx with ⟨_, h2⟩ | ⟨_, h2⟩
    · subst h2; exact hok
    · exact hI.callers c' x h2
  · intro f fl hf ha
    obtain ⟨c0, cl0, h0, hk0, hp0⟩ := hI.waiter f fl hf ha
    by_cases hcc : c = c0
    · subst hcc
      rw [hc] at h0; injection h0 with h0; subst h0
      exact ⟨c, cl', getElem?_set_of _ hc, he ▸ hk0, hw f fl hp0 hf ha⟩
    · exact ⟨c0, cl0, (List.getElem?_set_ne hcc).trans h0, hk0, hp0⟩
  · intro f fl hf hsp
    obtain ⟨c0, cl0, h0, hp0⟩ := hI.unspawned f fl hf hsp
    by_cases hcc : c = c0
    · subst hcc
      rw [hc] at h0; injection h0 with h0; subst h0
      exact ⟨c, cl', getElem?_set_of _ hc, hu f fl hp0 hf hsp⟩
    · exact ⟨c0, cl0, (List.getElem?_set_ne hcc).trans h0, hp0⟩

theorem inv_updCaller_free {s : State κ} {c : Nat} {cl cl' : Caller κ} (hI : Inv s) (hc : s.callers[c]? = some cl)
    (hok : CallerOK s.flights cl') (he : cl'.entries = cl.entries) (hno : ∀ f, ¬ Owns cl.pc f) :
    Inv { s with callers := s.callers.set c cl' } :=
  inv_updCaller hI hc hok he (fun f _ h => absurd h (hno f)) (fun f _ h => absurd (Or.inl h) (hno f))

theorem inv_updWaiter {s : State κ} {c f : Nat} {cl cl' : Caller κ} {fl : Flight κ} (hI : Inv s)
    (hc : s.callers[c]? = some cl) (hpc : cl.pc = .waiting f) (hf : s.flights[f]? = some fl) (ha : fl.ans ≠ none)
    (hok : CallerOK s.flights cl') (he : cl'.entries = cl.entries) :
    Inv { s with callers := s.callers.set c cl' } := by
  refine inv_updCaller hI hc hok he ?_ ?_
  · intro f' fl' hw hf' ha'
    have := owns_eq (.inr hpc) hw; subst this
    rw [hf] at hf'; injection hf' with hf'; subst hf'
    exact absurd ha' ha
  · intro f' fl' hw; rw [hpc] at hw; cases hw

theorem rel_updCaller_same {s : State κ} {o : OState κ} {c : Nat} {cl cl' : Caller κ} (hR : Rel s o)
    (hc : s.callers[c]? = some cl) (he : cl'.entries = cl.entries) (hb : cl'.banned = cl.banned)
    (hp : ∀ p, PcRel cl.pc p → PcRel cl'.pc p) :
    Rel { s with callers := s.callers.set c cl' } o := by
  refine ⟨by simp [hR.ncall], ?_, hR.flight, hR.known, hR.credit, hR.canc, hR.strict⟩
  intro c' x hx
  rcases getElem?_set_cases hx with ⟨h1, h2⟩ | ⟨_, h2⟩
  · subst h1; subst h2
    obtain ⟨ocl, g1, g2, g3, g4⟩ := hR.call c cl hc
    exact ⟨ocl, g1, g2.trans he.symm, g3.trans hb.symm, hp _ g4⟩
  · exact hR.call c' x h2

theorem rel_updCaller {s : State κ} {o : OState κ} {c : Nat} {cl cl' : Caller κ} (ocl' : OCaller κ) (hR : Rel s o)
    (hc : s.callers[c]? = some cl) (he : ocl'.entries = cl'.entries) (hb : ocl'.banned = cl'.banned)
    (hp : PcRel cl'.pc ocl'.pc) :
    Rel { s with callers := s.callers.set c cl' } { o with callers := o.callers.set c ocl' } := by
  have hlt : c < s.callers.length := (List.getElem?_eq_some_iff.1 hc).1
  refine ⟨by simp [hR.ncall], ?_, hR.flight, hR.known, hR.credit, hR.canc, hR.strict⟩
  intro c' x hx
  rcases getElem?_set_cases hx with ⟨h1, h2⟩ | ⟨h1, h2⟩
  · subst h1; subst h2
    exact ⟨ocl', List.getElem?_set_self (hR.ncall ▸ hlt), he, hb, hp⟩
  · obtain ⟨ocl, g1, g2⟩ := hR.call c' x h2
    exact ⟨ocl, (List.getElem?_set_ne h1).trans g1, g2⟩

theorem unann_set {fls : List (Flight κ)} {g : Nat} {fl : Flight κ} (fl' : Flight κ) (k : κ) (hg : fls[g]? = some fl) :
    unann (fls.set g fl') k + (if fl.key = k ∧ fl.ans = none then 1 else 0) =
      unann fls k + (if fl'.key = k ∧ fl'.ans = none then 1 else 0) := by
  simpa [unann] using countP_set (fun fl => decide (fl.key = k) && fl.ans.isNone) fls g fl fl' hg

theorem unann_set_same (fls : List (Flight κ)) (g : Nat) (fl fl' : Flight κ) (k : κ) (hg : fls[g]? = some fl)
    (hk : fl'.key = fl.key) (ha : fl'.ans = fl.ans) : unann (fls.set g fl') k = unann fls k := by
  have := unann_set fl' k hg
  rw [hk, ha] at this; exact Nat.add_right_cancel this

theorem removeKey_callers (s : State κ) (k : κ) : (removeKey s k).1.callers = s.callers := by
  unfold removeKey
  split
  · rfl
  · split <;> rfl

theorem inv_setFlight {s : State κ} {f : Nat} {fl fl' : Flight κ} {cache' : κ → Option Nat} (hI : Inv s)
    (hf : s.flights[f]? = some fl) (hk : fl'.key = fl.key) (ha : fl.ans ≠ none → fl'.ans = fl.ans)
    (hr : fl.removed = true → fl'.removed = true)
    (hc : ∀ k, cache' k = s.cache k ∨ cache' k = none ∧ s.cache k = some f)
    (hcf : fl'.removed = false ↔ cache' fl.key = some f)
    (hd1 : fl'.done = true → fl'.ans ≠ none) (hd2 : fl'.done = true → fl'.ans = some none → fl'.removed = true)
    (hw : fl'.ans = none → fl.ans = none) (hsp : fl'.spawned = false → fl.spawned = false) :
    Inv { s with cache := cache', flights := s.flights.set f fl' } := by
  have hmono := flmono_set _ f fl fl' hf hk ha hr
  refine ⟨?_, ?_, ?_, ?_, fun c cl hc' => callerOK_mono hmono cl (hI.callers c cl hc'), ?_, ?_⟩
  · intro k g (hg : cache' k = some g)
    have hg' : s.cache k = some g := by
      rcases hc k with h | ⟨h, _⟩ <;> rw [h] at hg
      · exact hg
      · cases hg
    obtain ⟨x, h1, h2, h3⟩ := hI.cached k g hg'
    by_cases hfg : f = g
    · subst hfg
      rw [hf] at h1; injection h1 with h1; subst h1
      exact ⟨fl', getElem?_set_of _ hf, hk.trans h2, hcf.2 (h2 ▸ hg)⟩
    · exact ⟨x, (List.getElem?_set_ne hfg).trans h1, h2, h3⟩
  · intro g x hx hxr
    rcases getElem?_set_cases hx with ⟨h1, h2⟩ | ⟨h1, h2⟩
    · subst h1; subst h2; rw [hk]; exact hcf.1 hxr
    · have := hI.uncached g x h2 hxr
      rcases hc x.key with h | ⟨_, h⟩
      · exact h.trans this
      · rw [this] at h; injection h with h; exact absurd h.symm h1
  · intro g x hx hd
    rcases getElem?_set_cases hx with ⟨_, h2⟩ | ⟨_, h2⟩
    · subst h2; exact hd1 hd
    · exact hI.doneAns g x h2 hd
  · intro g x hx hd hax
    rcases getElem?_set_cases hx with ⟨_, h2⟩ | ⟨_, h2⟩
    · subst h2; exact hd2 hd hax
    · exact hI.failRem g x h2 hd hax
  · intro g x hx hax
    rcases getElem?_set_cases hx with ⟨h1, h2⟩ | ⟨_, h2⟩
    · subst h1; subst h2; rw [hk]; exact hI.waiter f fl hf (hw hax)
    · exact hI.waiter g x h2 hax
  · intro g x hx hax
    rcases getElem?_set_cases hx with ⟨h1, h2⟩ | ⟨_, h2⟩
    · subst h1; subst h2; exact hI.unspawned f fl hf (hsp hax)
    · exact hI.unspawned g x h2 hax

theorem inv_setFlight_same {s : State κ} {f : Nat} {fl fl' : Flight κ} (hI : Inv s)
    (hf : s.flights[f]? = some fl) (hk : fl'.key = fl.key) (ha : fl.ans ≠ none → fl'.ans = fl.ans)
    (hr : fl'.removed = fl.removed)
    (hd1 : fl'.done = true → fl'.ans ≠ none) (hd2 : fl'.done = true → fl'.ans = some none → fl'.removed = true)
    (hw : fl'.ans = none → fl.ans = none) (hsp : fl'.spawned = false → fl.spawned = false) :
    Inv { s with flights := s.flights.set f fl' } := by
  refine inv_setFlight hI hf hk ha (fun h => hr.trans h) (fun _ => Or.inl rfl) ⟨fun h => hI.uncached f fl hf (hr ▸ h), fun h => ?_⟩
    hd1 hd2 hw hsp
  obtain ⟨x, h1, _, h3⟩ := hI.cached _ _ h
  rw [hf] at h1; injection h1 with h1; subst h1
  exact hr.trans h3

/-- the specification's record of one flight follows the flight (`Obs.touch`, the common part of `prep` and `rm`) -/
theorem rel_touch {s : State κ} {o : OState κ} {g : Nat} {fl fl' : Flight κ} {cache' : κ → Option Nat} {x : OFlight κ}
    {k : κ} {cr : Nat} (hR : Rel s o) (hg : s.flights[g]? = some fl)
    (hx : (if fl'.ans = none ∧ fl'.removed = false then none else some ⟨fl'.key, fl'.ans, fl'.removed⟩) = some x)
    (hcr : ∀ k', (if k' = k then cr else o.credit k') = unann (s.flights.set g fl') k' + (if cache' k' = none then 1 else 0)) :
    Rel { s with cache := cache', flights := s.flights.set g fl' } (touch o g x k cr) := by
  refine ⟨hR.ncall, hR.call, fun f => ?_, fun f hf => ?_, hcr, hR.canc, hR.strict⟩
  · show (if f = g then some x else o.flights f) = _
    rw [absFlight_set _ hg, hR.flight f, hx]
  · show f ∈ (if o.flights g = none then g :: o.known else o.known)
    by_cases hfg : f = g
    · subst hfg
      split
      · exact List.mem_cons_self
      next h => exact hR.known f h
    · have := hR.known f (by simpa only [touch, hfg, if_false] using hf)
      split
      · exact List.mem_cons_of_mem _ this
      · exact this

theorem removeKey_refines {s : State κ} {o : OState κ} (k : κ) (hI : Inv s) (hR : Rel s o)
    (hj : s.strict = true → ∀ g, s.cache k = some g → justified o k g = true) :
    ∃ o', Obs.run o (removeKey s k).2 = some o' ∧ Inv (removeKey s k).1 ∧ Rel (removeKey s k).1 o' := by
  unfold removeKey
  cases hck : s.cache k with
  | none => exact ⟨o, rfl, hI, hR⟩
  | some g =>
    obtain ⟨fl, hg, hkey, hrem⟩ := hI.cached k g hck
    have hguard : ¬ (o.strict = true ∧ justified o k g = false) := fun hh => by
      rw [hj (hR.strict ▸ hh.1) g hck] at hh; cases hh.2
    simp only [hg]
    have hInv : Inv { s with cache := fun k' => if k' = k then none else s.cache k',
                             flights := s.flights.set g { fl with removed := true } } := by
      refine inv_setFlight hI hg rfl (fun _ => rfl) (fun _ => rfl) (fun k' => ?_) ?_ (hI.doneAns g fl hg) (fun _ _ => rfl) id id
      · by_cases hk' : k' = k
        · subst hk'; exact Or.inr ⟨if_pos rfl, hck⟩
        · exact Or.inl (if_neg hk')
      · rw [hkey]; simp
    have hof : o.flights g = if fl.ans = none then none else some ⟨k, fl.ans, false⟩ := by
      rw [hR.flight g]; unfold absFlight; simp [hg, hrem, hkey]
    have hcredit : ∀ k', (if k' = k then o.credit k + 1 else o.credit k') =
        unann (s.flights.set g { fl with removed := true }) k' + (if (if k' = k then none else s.cache k') = none then 1 else 0) := by
      intro k'
      rw [unann_set_same s.flights g fl { fl with removed := true } k' hg rfl rfl]
      by_cases hk' : k' = k
      · subst hk'; simp [hR.credit k', hck]
      · simp [hk', hR.credit k']
    have hx : o.flights g = none ∧ (⟨k, fl.ans, true⟩ : OFlight κ) = ⟨k, none, true⟩ ∨
        ∃ fl0, o.flights g = some fl0 ∧ (fl0.key = k ∧ fl0.removed = false) ∧
          (⟨k, fl.ans, true⟩ : OFlight κ) = { fl0 with removed := true } := by
      by_cases hans : fl.ans = none
      · exact .inl ⟨by rw [hof, if_pos hans], by rw [hans]⟩  -- removed before its PREPARE reached the server
      · exact .inr ⟨_, by rw [hof, if_neg hans], ⟨rfl, rfl⟩, rfl⟩
    exact ⟨_, Obs.run_one (.rm hguard _ hx), hInv, rel_touch hR hg (by simp [hkey]) hcredit⟩

/-! ### a flight changes in fields the specification does not see (`done`, `spawned`) -/

theorem setFlight_same {s : State κ} {o : OState κ} (f : Nat) (fl fl' : Flight κ) (hI : Inv s) (hR : Rel s o)
    (hf : s.flights[f]? = some fl) (hk : fl'.key = fl.key) (ha : fl'.ans = fl.ans) (hr : fl'.removed = fl.removed)
    (hd1 : fl'.done = true → fl'.ans ≠ none) (hd2 : fl'.done = true → fl'.ans = some none → fl'.removed = true)
    (hsp : fl'.spawned = false → fl.spawned = false) :
    Inv { s with flights := s.flights.set f fl' } ∧ Rel { s with flights := s.flights.set f fl' } o := by
  refine ⟨inv_setFlight_same hI hf hk (fun _ => ha) hr hd1 hd2 (fun h => ha ▸ h) hsp,
    hR.ncall, hR.call, fun g => ?_, hR.known, fun k => ?_, hR.canc, hR.strict⟩
  · rw [hR.flight g, absFlight_set fl' hf, hk, ha, hr]
    by_cases hg : g = f
    · subst hg; rw [if_pos rfl]; unfold absFlight; rw [hf]
    · rw [if_neg hg]
  · rw [hR.credit k, unann_set_same s.flights f fl fl' k hf hk ha]

theorem setDone_refines {s : State κ} {o : OState κ} (f : Nat) (fl : Flight κ) (hI : Inv s) (hR : Rel s o)
    (hf : s.flights[f]? = some fl) (ha : fl.ans ≠ none) (hr : fl.ans = some none → fl.removed = true) :
    Inv (setDone s f) ∧ Rel (setDone s f) o := by
  unfold setDone
  simp only [hf]
  exact setFlight_same f fl { fl with done := true } hI hR hf rfl rfl rfl (fun _ => ha) (fun _ => hr) id

/-! ### a cache that never purges for capacity: only finished flights are ever out of the cache -/

def SInv (s : State κ) : Prop :=
  s.strict = true → ∀ (f : Nat) (fl : Flight κ), s.flights[f]? = some fl → fl.removed = true → fl.done = true

omit [DecidableEq κ] in
theorem sinv_not_removed {s : State κ} (hS : SInv s) (hst : s.strict = true) {f : Nat} {fl : Flight κ}
    (hf : s.flights[f]? = some fl) (hd : fl.done = false) : fl.removed = false := by
  cases hr : fl.removed with
  | false => rfl
  | true => have := hS hst f fl hf hr; rw [hd] at this; cases this

omit [DecidableEq κ] in
theorem sinv_set {s s' : State κ} (hS : SInv s) (f : Nat) (fl fl' : Flight κ) (hf : s.flights[f]? = some fl)
    (hr : fl'.removed = true → fl'.done = true ∨ fl.removed = true) (hd : fl.done = true → fl'.done = true)
    (hfl : s'.flights = s.flights.set f fl') (hs : s'.strict = s.strict) : SInv s' := by
  intro h g x hx hxr
  rw [hfl] at hx
  rcases getElem?_set_cases hx with ⟨h1, h2⟩ | ⟨_, h2⟩
  · subst h1; subst h2
    rcases hr hxr with h3 | h3
    · exact h3
    · exact hd (hS (hs ▸ h) f fl hf h3)
  · exact hS (hs ▸ h) g x h2 hxr

omit [DecidableEq κ] in
theorem sinv_append {s s' : State κ} (hS : SInv s) (x : Flight κ) (hx : x.removed = false)
    (hfl : s'.flights = s.flights ++ [x]) (hs : s'.strict = s.strict) : SInv s' := by
  intro h g y hy hyr
  rw [hfl] at hy
  rcases getElem?_snoc_cases hy with ⟨_, h2⟩ | ⟨_, h2⟩
  · exact hS (hs ▸ h) g y h2 hyr
  · subst h2; rw [hx] at hyr; cases hyr

theorem removeKey_strict (s : State κ) (k : κ) : (removeKey s k).1.strict = s.strict := by
  unfold removeKey
  split
  · rfl
  · split <;> rfl

theorem sinv_removeKey {s : State κ} (hS : SInv s) (k : κ)
    (hd : ∀ g fl, s.cache k = some g → s.flights[g]? = some fl → fl.done = true) : SInv (removeKey s k).1 := by
  cases hck : s.cache k with
  | none => simp only [removeKey, hck]; exact hS
  | some g =>
    cases hg : s.flights[g]? with
    | none => simp only [removeKey, hck, hg]; exact hS
    | some fl =>
      simp only [removeKey, hck, hg]
      exact sinv_set hS g fl { fl with removed := true } hg (fun _ => Or.inl (hd g fl hck hg)) id rfl rfl

omit [DecidableEq κ] in
theorem setDone_strict (s : State κ) (f : Nat) : (setDone s f).strict = s.strict := by
  unfold setDone
  split <;> rfl

omit [DecidableEq κ] in
theorem setDone_callers (s : State κ) (f : Nat) : (setDone s f).callers = s.callers := by
  unfold setDone
  split <;> rfl

omit [DecidableEq κ] in
theorem setDone_cache (s : State κ) (f : Nat) : (setDone s f).cache = s.cache := by
  unfold setDone
  split <;> rfl

omit [DecidableEq κ] in
theorem sinv_setDone {s : State κ} (hS : SInv s) (f : Nat) : SInv (setDone s f) := by
  unfold setDone
  cases hf : s.flights[f]? with
  | none => exact hS
  | some fl =>
    exact sinv_set hS f fl { fl with done := true } hf (fun _ => Or.inl rfl) (fun _ => rfl) rfl rfl

/-- the failing completion: the key is removed, then the flight is done — with a cache that never purges, the entry
    removed is the failing flight's own -/
theorem sinv_complete_fail {s : State κ} (hI : Inv s) (hS : SInv s) (f : Nat) (fl : Flight κ) (hf : s.flights[f]? = some fl)
    (hd : fl.done = false) : SInv (setDone (removeKey s fl.key).1 f) := by
  intro hst
  have hst' : s.strict = true := by rwa [setDone_strict, removeKey_strict] at hst
  have hc := hI.uncached f fl hf (sinv_not_removed hS hst' hf hd)
  have h3 : (setDone (removeKey s fl.key).1 f).flights = s.flights.set f { fl with removed := true, done := true } := by
    simp only [setDone, removeKey, hc, hf, getElem?_set_of _ hf, List.set_set]
  exact sinv_set hS f fl _ hf (fun _ => .inl rfl) (fun _ => rfl) h3 (by rw [setDone_strict, removeKey_strict]) hst

/-- evictPreparedID either leaves everything as it is, or finds a finished flight under the key: with the server's id
    it removes the key; without a prepared statement it dereferences nil -/
theorem evictIfMatch_cases (s : State κ) (k : κ) (id : Id) :
    evictIfMatch s k id = (s, []) ∨
    ∃ g fl, s.cache k = some g ∧ s.flights[g]? = some fl ∧ fl.done = true ∧
      ((∃ n, fl.ans = some (some (id, n)) ∧ evictIfMatch s k id = removeKey s k) ∨
       ((fl.ans = none ∨ fl.ans = some none) ∧ evictIfMatch s k id = (s, [.crash]))) := by
  cases hck : s.cache k with
  | none => exact .inl (by simp only [evictIfMatch, hck])
  | some g =>
    cases hg : s.flights[g]? with
    | none => exact .inl (by simp only [evictIfMatch, hck, hg])
    | some fl =>
      by_cases hd : fl.done = true
      · cases ha : fl.ans with
        | none => exact .inr ⟨g, fl, rfl, hg, hd, .inr ⟨.inl ha, by simp only [evictIfMatch, hck, hg, hd, ha, if_true]⟩⟩
        | some r =>
          cases r with
          | none => exact .inr ⟨g, fl, rfl, hg, hd, .inr ⟨.inr ha, by simp only [evictIfMatch, hck, hg, hd, ha, if_true]⟩⟩
          | some p =>
            obtain ⟨id', n⟩ := p
            by_cases hid : id = id'
            · subst hid
              exact .inr ⟨g, fl, rfl, hg, hd, .inl ⟨n, ha, by simp only [evictIfMatch, hck, hg, hd, ha, if_true]⟩⟩
            · exact .inl (by simp only [evictIfMatch, hck, hg, hd, ha, hid, if_true, if_false])
      · exact .inl (by simp only [evictIfMatch, hck, hg, hd]; rfl)

/-- in a state of the invariant a finished cached flight has a prepared statement: the nil dereference is excluded -/
theorem evictIfMatch_cases' {s : State κ} (hI : Inv s) (k : κ) (id : Id) :
    evictIfMatch s k id = (s, []) ∨
    ∃ g fl n, s.cache k = some g ∧ s.flights[g]? = some fl ∧ fl.done = true ∧ fl.ans = some (some (id, n)) ∧
      evictIfMatch s k id = removeKey s k := by
  rcases evictIfMatch_cases s k id with h | ⟨g, fl, hck, hg, hd, ⟨n, ha, h⟩ | ⟨ha, _⟩⟩
  · exact .inl h
  · exact .inr ⟨g, fl, n, hck, hg, hd, ha, h⟩
  · obtain ⟨fl', hg', _, hrem⟩ := hI.cached k g hck
    rw [hg] at hg'; injection hg' with hg'; subst hg'
    rcases ha with ha | ha
    · exact absurd ha (hI.doneAns g fl hg hd)
    · have := hI.failRem g fl hg hd ha
      rw [hrem] at this; cases this

theorem sinv_evictIfMatch {s : State κ} (hS : SInv s) (k : κ) (id : Id) : SInv (evictIfMatch s k id).1 := by
  rcases evictIfMatch_cases s k id with h | ⟨g, fl, hck, hg, hd, ⟨n, _, h⟩ | ⟨_, h⟩⟩ <;> rw [h]
  · exact hS
  · refine sinv_removeKey hS k fun g' fl' h1 h2 => ?_
    rw [hck] at h1; injection h1 with h1; subst h1
    rw [hg] at h2; injection h2 with h2; subst h2
    exact hd
  · exact hS

theorem evictIfMatch_strict (s : State κ) (k : κ) (id : Id) : (evictIfMatch s k id).1.strict = s.strict := by
  rcases evictIfMatch_cases s k id with h | ⟨_, _, _, _, _, ⟨_, _, h⟩ | ⟨_, h⟩⟩
  · rw [h]
  · rw [h]; exact removeKey_strict s k
  · rw [h]

theorem evictIfMatch_refines {s : State κ} {o : OState κ} (k : κ) (id : Id) (hI : Inv s) (hR : Rel s o)
    (hw : o.callers.any (fun cl => decide (cl.pc = .awaiting (.unprep id)) && hasKey cl.entries k) = true) :
    ∃ o', Obs.run o (evictIfMatch s k id).2 = some o' ∧ Inv (evictIfMatch s k id).1 ∧ Rel (evictIfMatch s k id).1 o' ∧
      (evictIfMatch s k id).1.callers = s.callers := by
  rcases evictIfMatch_cases' hI k id with h | ⟨g, fl, n, hck, hg, hd, ha, h⟩ <;> rw [h]
  · exact ⟨o, rfl, hI, hR, rfl⟩
  · have hj : s.strict = true → ∀ g', s.cache k = some g' → justified o k g' = true := by
      intro _ g' hg'
      rw [hck] at hg'; injection hg' with hg'; subst hg'
      exact justified_iff.2 ⟨_, (hR.flight g).trans (absFlight_ans hg (by rw [ha]; simp)), .inr ⟨id, n, ha, by simpa using hw⟩⟩
    obtain ⟨o', h1, h2, h3⟩ := removeKey_refines k hI hR hj
    exact ⟨o', h1, h2, h3, removeKey_callers s k⟩

/-- in a state of the invariant evictPreparedID emits no `crash` -/
theorem evictIfMatch_no_crash {s : State κ} (k : κ) (id : Id) (hI : Inv s) : Ev.crash ∉ (evictIfMatch s k id).2 := by
  rcases evictIfMatch_cases' hI k id with h | ⟨g, fl, n, hck, hg, _, _, h⟩ <;> rw [h]
  · exact List.not_mem_nil
  · unfold removeKey
    simp [hck, hg]

theorem unann_append (fls : List (Flight κ)) (x : Flight κ) (k : κ) :
    unann (fls ++ [x]) k = unann fls k + (if x.key = k ∧ x.ans = none then 1 else 0) := by
  unfold unann
  rw [List.countP_append]
  by_cases h1 : x.key = k <;> cases h2 : x.ans <;> simp [h1, h2]

theorem srvPrepare_refines {s : State κ} {o : OState κ} (f : Nat) (fl : Flight κ) (r : PAns) (hI : Inv s) (hR : Rel s o)
    (hf : s.flights[f]? = some fl) (ha : fl.ans = none) :
    ∃ o', Obs.run o [.prep f fl.key r] = some o' ∧
      Inv { s with flights := s.flights.set f { fl with ans := some r } } ∧
      Rel { s with flights := s.flights.set f { fl with ans := some r } } o' := by
  have hun := unann_set { fl with ans := some r } fl.key hf
  rw [if_pos ⟨rfl, ha⟩, if_neg (fun h => by cases h.2)] at hun
  have hany : o.callers.any (fun cl => (cl.pc.live || cl.pc.gaveUp) && hasKey cl.entries fl.key) = true := by
    obtain ⟨c0, cl0, h0, hk0, hp0⟩ := hI.waiter f fl hf ha
    obtain ⟨ocl, q1, q2, _, q4⟩ := hR.call c0 cl0 h0
    refine List.any_eq_true.2 ⟨ocl, List.mem_of_getElem? q1, ?_⟩
    rw [q2, hk0, Bool.and_true, Bool.or_eq_true]
    rcases hp0 with hp0 | hp0 | hp0 <;> rw [hp0] at q4
    · exact Or.inl q4
    · exact Or.inl q4
    · exact Or.inr q4
  have hpos : 0 < o.credit fl.key := by rw [hR.credit]; omega
  have hInv : Inv { s with flights := s.flights.set f { fl with ans := some r } } :=
    inv_setFlight_same hI hf rfl (fun h => absurd ha h) rfl (fun _ h => by cases h)
      (fun hd => absurd ha (hI.doneAns f fl hf hd)) (fun h => by cases h) id
  have hcredit : ∀ k', (if k' = fl.key then o.credit fl.key - 1 else o.credit k') =
      unann (s.flights.set f { fl with ans := some r }) k' + (if s.cache k' = none then 1 else 0) := by
    intro k'
    by_cases hk : k' = fl.key
    · subst hk; rw [if_pos rfl, hR.credit fl.key]; omega
    · have := unann_set { fl with ans := some r } k' hf
      rw [if_neg (fun h => hk h.1.symm), if_neg (fun h => hk h.1.symm)] at this
      rw [if_neg hk, hR.credit k']; omega
  have hof : o.flights f = if fl.removed = false then none else some ⟨fl.key, none, true⟩ := by
    rw [hR.flight f]; unfold absFlight; cases hrem : fl.removed <;> simp [hf, ha, hrem]
  have hx : o.flights f = none ∧ (⟨fl.key, some r, fl.removed⟩ : OFlight κ) = ⟨fl.key, some r, false⟩ ∨
      ∃ fl0, o.flights f = some fl0 ∧ (fl0.key = fl.key ∧ fl0.ans = none) ∧
        (⟨fl.key, some r, fl.removed⟩ : OFlight κ) = { fl0 with ans := some r } := by
    by_cases hrem : fl.removed = false
    · exact .inl ⟨by rw [hof, if_pos hrem], by rw [hrem]⟩
    · have hrem : fl.removed = true := Bool.of_not_eq_false hrem
      exact .inr ⟨_, by rw [hof, hrem]; rfl, ⟨rfl, rfl⟩, by rw [hrem]⟩
  exact ⟨_, Obs.run_one (.prep hpos hany _ hx), hInv, rel_touch hR hf (by simp) hcredit⟩

theorem removeKey_flmono (s : State κ) (k : κ) : FlMono s.flights (removeKey s k).1.flights := by
  fun_cases removeKey s k
  case case3 g _ fl hg => exact flmono_set _ g fl _ hg rfl (fun _ => rfl) (fun _ => rfl)  -- the cached flight is marked
  all_goals exact flmono_refl _

/-- under the invariant, removing a flight's key leaves the flight marked as removed (it was already, or it is the one
    cached under the key) -/
theorem removeKey_marks {s : State κ} (f : Nat) (fl : Flight κ) (hI : Inv s) (hf : s.flights[f]? = some fl) :
    ∃ fl1, (removeKey s fl.key).1.flights[f]? = some fl1 ∧ (fl.ans ≠ none → fl1.ans = fl.ans) ∧ fl1.removed = true := by
  obtain ⟨fl1, h1, _, h3, h4⟩ := removeKey_flmono s fl.key f fl hf
  refine ⟨fl1, h1, h3, ?_⟩
  cases hr : fl.removed with
  | true => exact h4 hr
  | false =>
    unfold removeKey at h1
    simp only [hI.uncached f fl hf hr, hf, getElem?_set_of _ hf] at h1
    cases h1; rfl

theorem waiting_facts {s : State κ} {c f : Nat} {cl : Caller κ} {fl : Flight κ} {e : κ × Nat} (hI : Inv s)
    (w : Waits s c cl f fl e) :
    cl.got.length < cl.entries.length ∧ GotOK s.flights cl.banned cl.entries cl.got ∧ fl.key = e.1 ∧ cl.banned f = false := by
  have hp := (hI.callers c cl w.hc).pcs
  rw [w.hpc] at hp
  obtain ⟨h1, h2, fl', e', g1, g2, g3, g4⟩ := hp
  rw [w.hf] at g1; injection g1 with g1; subst g1
  rw [w.he] at g2; injection g2 with g2; subst g2
  exact ⟨h1, h2, g3, g4⟩

omit [DecidableEq κ] in
theorem idOf_eq {s : State κ} {f : Nat} {fl : Flight κ} {id : Id} {n : Nat} (hf : s.flights[f]? = some fl)
    (ha : fl.ans = some (some (id, n))) : idOf s f = id := by
  unfold idOf
  simp [hf, ha]

theorem okEntries_of_gotOK {s : State κ} {o : OState κ} (hR : Rel s o) (b : Nat → Bool) :
    ∀ (es : List (κ × Nat)) (fs : List Nat), GotOK s.flights b es fs → fs.length = es.length →
      okEntries o b es (fs.map (idOf s)) = true
  | [], [], _, _ => rfl
  | [], _ :: _, h, _ => by simp [GotOK] at h
  | _ :: _, [], _, hl => by simp at hl
  | e :: es, f :: fs, ⟨⟨fl, id, h1, h2, h3, h4⟩, hr⟩, hl => by
    have hrec := okEntries_of_gotOK hR b es fs hr (by simpa using hl)
    have ho : o.flights f = some ⟨fl.key, fl.ans, fl.removed⟩ := by
      rw [hR.flight f, absFlight_ans h1 (by rw [h3]; simp)]
    have hj : justifies o b e.1 e.2 (idOf s f) f = true :=
      justifies_iff.2 ⟨h4, _, ho, h2, by rw [idOf_eq h1 h3]; exact h3⟩
    have hany : o.known.any (justifies o b e.1 e.2 (idOf s f)) = true :=
      List.any_eq_true.2 ⟨f, hR.known f (by rw [ho]; simp), hj⟩
    simp only [List.map_cons, okEntries, hany, hrec, Bool.and_self]

theorem observe_next_ok {s : State κ} {c f : Nat} {cl : Caller κ} {fl : Flight κ} {e : κ × Nat} {id : Id} (hI : Inv s)
    (w : Waits s c cl f fl e) (ha : fl.ans = some (some (id, e.2))) :
    GotOK s.flights cl.banned cl.entries (cl.got ++ [f]) := by
  obtain ⟨_, h2, hk, hb⟩ := waiting_facts hI w
  exact gotOK_snoc _ _ _ _ f e h2 w.he ⟨fl, id, w.hf, hk, ha, hb⟩

/-- the key that an UNPREPARED answer makes the caller evict is the key of one of its own entries -/
theorem unprepKey_hasKey (s : State κ) (cl : Caller κ) (id : Id) (k : κ) (h : unprepKey s cl id = some k) :
    hasKey cl.entries k = true := by
  unfold unprepKey at h
  by_cases hb : cl.batch = true
  · simp only [hb, if_true] at h
    cases hfind : (cl.entries.zip cl.got).reverse.find? (fun e => idOf s e.2 = id) with
    | none => simp [hfind] at h
    | some p =>
      simp only [hfind, Option.map_some, Option.some.injEq] at h
      have hm : p ∈ (cl.entries.zip cl.got).reverse := List.mem_of_find?_eq_some hfind
      have hm' : p ∈ cl.entries.zip cl.got := List.mem_reverse.1 hm
      have := (List.of_mem_zip hm').1
      unfold hasKey
      exact List.any_eq_true.2 ⟨p.1, this, by simp [h]⟩
  · simp only [hb] at h
    cases hes : cl.entries with
    | nil => simp [hes] at h
    | cons e es =>
      simp [hes] at h
      unfold hasKey
      simp [h]

theorem unprepEvict_refines {s : State κ} {o : OState κ} {c : Nat} {cl : Caller κ} {id : Id} (hI : Inv s) (hR : Rel s o)
    (hS : SInv s) (hc : s.callers[c]? = some cl) (hpc : cl.pc = .answered (.unprep id)) :
    ∃ o', Obs.run o (unprepEvict s cl id).2 = some o' ∧ Inv (unprepEvict s cl id).1 ∧ Rel (unprepEvict s cl id).1 o' ∧
      SInv (unprepEvict s cl id).1 ∧ (unprepEvict s cl id).1.callers = s.callers := by
  unfold unprepEvict
  cases huk : unprepKey s cl id with
  | none => exact ⟨o, rfl, hI, hR, hS, rfl⟩
  | some k =>
    obtain ⟨ocl, q1, q2, _, q4⟩ := hR.call c cl hc
    rw [hpc] at q4
    have q4' : ocl.pc = .awaiting (.unprep id) := q4
    obtain ⟨o', h1, h2, h3, h4⟩ := evictIfMatch_refines k id hI hR
      (List.any_eq_true.2 ⟨ocl, List.mem_of_getElem? q1, by rw [q2, unprepKey_hasKey s cl id k huk, q4']; simp⟩)
    exact ⟨o', h1, h2, h3, sinv_evictIfMatch hS k id, h4⟩

/-- A caller at `start` whose next entry's key is not cached publishes a flight for it. The new flight, its cache entry
    and the caller's pc change together (no part of the update keeps `Inv` without the others); the specification sees
    nothing: the flight is neither answered nor removed, and the credit of its key moves from "not cached" to "a PREPARE
    not yet at the server". -/
theorem publish_refines {s : State κ} {o : OState κ} {c : Nat} {cl : Caller κ} {e : κ × Nat} (hI : Inv s) (hR : Rel s o)
    (hS : SInv s) (hc : s.callers[c]? = some cl) (hpc : cl.pc = .start) (he : cl.entries[cl.got.length]? = some e)
    (hck : s.cache e.1 = none) :
    let s' : State κ :=
      { s with cache := fun k' => if k' = e.1 then some s.flights.length else s.cache k',
               flights := s.flights ++ [{ key := e.1, ans := none, done := false, removed := false, spawned := false }],
               callers := s.callers.set c { cl with pc := .won s.flights.length } }
    Inv s' ∧ Rel s' o ∧ SInv s' := by
  intro s'
  have hok := hI.callers c cl hc
  have hp := hok.pcs
  rw [hpc] at hp
  have hmono := flmono_append s.flights { key := e.1, ans := none, done := false, removed := false, spawned := false }
  have hban : cl.banned s.flights.length = false := hok.not_banned (by unfold isRemovedL; simp)
  -- the callers that older flights rest on keep their records: c is at `start` and accounts for no flight
  have hother : ∀ {c0 : Nat} {cl0 : Caller κ} {f : Nat}, s.callers[c0]? = some cl0 → Owns cl0.pc f ∨ cl0.pc = .won f →
      s'.callers[c0]? = some cl0 := by
    intro c0 cl0 f h0 hp0
    refine (List.getElem?_set_ne fun h => ?_).trans h0
    subst h
    rw [hc] at h0; injection h0 with h0; subst h0
    exact not_owns (.inl hpc) (hp0.elim id Or.inl)
  refine ⟨⟨?cached, ?_, ?_, ?_, ?callers, ?_, ?_⟩, ?rel, sinv_append hS _ rfl rfl rfl⟩
  case cached =>
    intro k f hcf
    by_cases hk : k = e.1
    · simp [s', hk] at hcf
      subst hcf
      exact ⟨_, List.getElem?_concat_length, hk.symm, rfl⟩
    · simp [s', hk] at hcf
      obtain ⟨fl, h1, h2, h3⟩ := hI.cached k f hcf
      exact ⟨fl, getElem?_append_of _ h1, h2, h3⟩
  case callers =>
    intro c' x hx
    rcases getElem?_set_cases hx with ⟨_, h2⟩ | ⟨_, h2⟩
    · subst h2
      refine ⟨hok.ne, fun f hf => isRemovedL_mono hmono f (hok.ban f hf), ?_⟩
      exact ⟨hp.1, gotOK_mono hmono _ _ _ hp.2, _, e, List.getElem?_concat_length, he, rfl, hban⟩
    · exact callerOK_mono hmono x (hI.callers c' x h2)
  case rel =>  -- first the flight and the cache, then the caller
    have hR1 : Rel { s with cache := s'.cache, flights := s'.flights } o := by
      refine ⟨hR.ncall, hR.call, fun f => ?_, hR.known, fun k => ?_, hR.canc, hR.strict⟩
      · rw [hR.flight f]
        unfold absFlight
        rcases Nat.lt_trichotomy f s.flights.length with hlt | rfl | hgt
        · rw [List.getElem?_append_left hlt]
        · simp [s']
        · rw [List.getElem?_eq_none (Nat.le_of_lt hgt), List.getElem?_eq_none (by simp [s']; omega)]
      · show o.credit k = unann (s.flights ++ [_]) k + _
        rw [hR.credit k, unann_append]
        by_cases hk : k = e.1
        · subst hk; simp [hck, s']
        · have : ¬ e.1 = k := fun h => hk h.symm
          simp [hk, this, s']
    exact rel_updCaller_same (cl' := { cl with pc := .won s.flights.length }) hR1 hc rfl rfl fun p hp' => by
      rw [hpc] at hp'; exact hp'
  -- what `Inv` says of every flight, field by field (`uncached`, `doneAns`, `failRem`, `waiter`, `unspawned`): first for an
  -- older flight, then for the one just published
  all_goals
    intro f y hy
    rcases getElem?_snoc_cases hy with ⟨_, h2⟩ | ⟨rfl, rfl⟩
  · intro hr  -- `uncached`
    have hcx := hI.uncached f y h2 hr
    exact (if_neg fun h => by rw [h, hck] at hcx; cases hcx).trans hcx
  · exact fun _ => if_pos rfl
  · exact hI.doneAns f y h2  -- `doneAns`
  · exact nofun
  · exact hI.failRem f y h2  -- `failRem`
  · exact nofun
  · intro ha  -- `waiter`
    obtain ⟨c0, cl0, h0, hk0, hp0⟩ := hI.waiter f y h2 ha
    exact ⟨c0, cl0, hother h0 (.inl hp0), hk0, hp0⟩
  · exact fun _ => ⟨c, _, getElem?_set_of _ hc, hasKey_of_getElem? he, Or.inl rfl⟩
  · intro hsp  -- `unspawned`
    obtain ⟨c0, cl0, h0, hp0⟩ := hI.unspawned f y h2 hsp
    exact ⟨c0, cl0, hother h0 (.inr hp0), hp0⟩
  · exact fun _ => ⟨c, _, getElem?_set_of _ hc, rfl⟩

/-- One step of the machine is matched by the specification reading the step's events: by cases on `PConn.Step`. Caller
    moves go through `inv_updCaller*` / `rel_updCaller*`, with the specification's own step given as an `Obs.Step`
    constructor; what the specification sees of a flight through `removeKey_refines` (evict, failing completion,
    UNPREPARED) and `srvPrepare_refines`; `miss` publishes a flight (new flight, cache entry and caller at once). -/
theorem step_refines {s s' : State κ} {o : OState κ} {a : Action κ} {evs : List (Ev κ)} (hI : Inv s) (hR : Rel s o)
    (hS : SInv s)
    (h : PConn.step s a = some (s', evs)) : ∃ o', Obs.run o evs = some o' ∧ Inv s' ∧ Rel s' o' ∧ SInv s' := by
  match Step_of_step h with
  | .call (es := es) b hes =>
    refine ⟨{ o with callers := o.callers ++ [{ entries := es, pc := .active, banned := removedNow o }] }, ?_, ?_, ?_, hS⟩
    · exact Obs.run_one (.start hR.ncall.symm hes)
    · refine ⟨hI.cached, hI.uncached, hI.doneAns, hI.failRem, ?_, ?_, ?_⟩
      · intro c cl hc
        rcases getElem?_snoc_cases hc with ⟨_, h2⟩ | ⟨_, h2⟩
        · exact hI.callers c cl h2
        · subst h2
          exact ⟨hes, fun f hf => hf, List.length_pos_iff.2 hes, gotOK_nil ..⟩
      · intro f fl hf ha
        obtain ⟨c0, cl0, h0, hk0, hp0⟩ := hI.waiter f fl hf ha
        exact ⟨c0, cl0, getElem?_append_of _ h0, hk0, hp0⟩
      · intro f fl hf ha
        obtain ⟨c0, cl0, h0, hp0⟩ := hI.unspawned f fl hf ha
        exact ⟨c0, cl0, getElem?_append_of _ h0, hp0⟩
    · refine ⟨by simp [hR.ncall], ?_, hR.flight, hR.known, hR.credit, hR.canc, hR.strict⟩
      intro c cl hc
      rcases getElem?_snoc_cases hc with ⟨h1, h2⟩ | ⟨h1, h2⟩
      · obtain ⟨ocl, g1, g2⟩ := hR.call c cl h2
        have hlt : c < o.callers.length := by rw [hR.ncall]; exact h1
        exact ⟨ocl, (List.getElem?_append_left hlt).trans g1, g2⟩
      · subst h2
        refine ⟨{ entries := es, pc := .active, banned := removedNow o }, ?_, rfl, removedNow_eq hR, rfl⟩
        rw [h1, ← hR.ncall]
        exact List.getElem?_concat_length
  | .hit (c := c) (cl := cl) (e := e) (f := f) hc hpc he hck =>
    have hok := hI.callers c cl hc
    have hp := hok.pcs
    rw [hpc] at hp
    obtain ⟨fl, hf, hk, hr⟩ := hI.cached e.1 f hck
    have hban : cl.banned f = false := hok.not_banned (by unfold isRemovedL; simp [hf, hr])
    exact ⟨o, rfl, inv_updCaller_free hI hc ⟨hok.ne, hok.ban, hp.1, hp.2, fl, e, hf, he, hk, hban⟩ rfl (fun _ => not_owns (.inl hpc)),
      rel_updCaller_same hR hc rfl rfl (fun p hp' => by rw [hpc] at hp'; exact hp'), hS⟩
  | .miss hc hpc he hck =>
    obtain ⟨q1, q2, q3⟩ := publish_refines hI hR hS hc hpc he hck
    exact ⟨o, rfl, q1, q2, q3⟩
  | .spawn (c := c) (cl := cl) (f := f) (fl := fl) hc hpc hf =>
    have hlt : f < s.flights.length := (List.getElem?_eq_some_iff.1 hf).1
    obtain ⟨hI1, hR1⟩ := setFlight_same f fl { fl with spawned := true } hI hR hf rfl rfl rfl
      (fun hd => hI.doneAns f fl hf hd) (fun hd ha => hI.failRem f fl hf hd ha) (fun h => by cases h)
    have hc1 : ({ s with flights := s.flights.set f { fl with spawned := true } } : State κ).callers[c]? = some cl := hc
    have hok := hI1.callers c cl hc1
    have hp := hok.pcs
    rw [hpc] at hp
    refine ⟨o, rfl, inv_updCaller hI1 hc1 ⟨hok.ne, hok.ban, hp⟩ rfl ?_ ?_, rel_updCaller_same hR1 hc1 rfl rfl ?_,
      sinv_set hS f fl { fl with spawned := true } hf (fun h => Or.inr h) id rfl rfl⟩
    · intro f' fl' hw _ _
      have := owns_eq (.inl hpc) hw; subst this
      exact Or.inr (Or.inl rfl)
    · intro f' fl' hw hf' hsp
      rw [hpc] at hw; injection hw with hw; subst hw
      rw [List.getElem?_set] at hf'
      simp [hlt] at hf'
      subst hf'; cases hsp
    · intro p hp'; rw [hpc] at hp'; exact hp'
  | .evict hst _ =>
    obtain ⟨o', q⟩ := removeKey_refines _ hI hR (fun h => absurd h hst)
    exact ⟨o', q.1, q.2.1, q.2.2, fun h => by rw [removeKey_strict] at h; exact absurd h hst⟩
  | .srvPrepare (f := f) (fl := fl) r hf ha =>
    obtain ⟨o', q⟩ := srvPrepare_refines f fl r hI hR hf ha.1
    exact ⟨o', q.1, q.2.1, q.2.2, sinv_set hS f fl { fl with ans := some r } hf (fun h => Or.inr h) id rfl rfl⟩
  | .completeOk (f := f) (fl := fl) hf ha _ =>
    obtain ⟨q1, q2⟩ := setDone_refines f fl hI hR hf (by rw [ha]; simp) (by rw [ha]; intro h; cases h)
    exact ⟨o, rfl, q1, q2, sinv_setDone hS f⟩
  | .completeFail (f := f) (fl := fl) hf ha hd =>
    have hd' := Bool.of_not_eq_true hd
    have hj : s.strict = true → ∀ g, s.cache fl.key = some g → justified o fl.key g = true := by
      intro hst g hg
      have hc := hI.uncached f fl hf (sinv_not_removed hS hst hf hd')
      rw [hc] at hg; injection hg with hg; subst hg
      exact justified_iff.2 ⟨_, (hR.flight f).trans (absFlight_ans hf (by rw [ha]; simp)), .inl ha⟩
    obtain ⟨o', h1, h2, h3⟩ := removeKey_refines fl.key hI hR hj
    obtain ⟨fl1, g1, g2, g3⟩ := removeKey_marks f fl hI hf
    obtain ⟨q1, q2⟩ := setDone_refines f fl1 h2 h3 g1 (by rw [g2 (by rw [ha]; simp), ha]; simp) (fun _ => g3)
    exact ⟨o', h1, q1, q2, sinv_complete_fail hI hS f fl hf hd'⟩
  | .obsFail (c := c) (cl := cl) (f := f) (fl := fl) (e := e) _ w hd ha =>
    obtain ⟨_, _, hk, hb⟩ := waiting_facts hI w
    have hok := hI.callers c cl w.hc
    obtain ⟨ocl, q1, q2, q3, q4⟩ := hR.call c cl w.hc
    rw [w.hpc] at q4
    have ho : o.flights f = some ⟨fl.key, some none, true⟩ := by
      rw [hR.flight f, absFlight_ans w.hf (by rw [ha]; simp), ha, hI.failRem f fl w.hf hd ha]
    have hkey : hasKey ocl.entries fl.key = true := by rw [q2, hk]; exact hasKey_of_getElem? w.he
    exact ⟨_, Obs.run_one (.ret q1 ⟨⟨q4, by rw [q3]; exact hb⟩, _, ho, hkey, rfl, rfl⟩),
      inv_updWaiter hI w.hc w.hpc w.hf (ha ▸ Option.some_ne_none _) ⟨hok.ne, hok.ban, trivial⟩ rfl,
      rel_updCaller { ocl with pc := .returned } hR w.hc q2 q3 rfl, hS⟩
  | .obsCount (c := c) (cl := cl) (f := f) (fl := fl) (e := e) (id := id) (nc := nc) _ w _ ha hne =>
    obtain ⟨_, _, hk, hb⟩ := waiting_facts hI w
    have hok := hI.callers c cl w.hc
    obtain ⟨ocl, q1, q2, q3, q4⟩ := hR.call c cl w.hc
    rw [w.hpc] at q4
    have ho : o.flights f = some ⟨fl.key, some (some (id, nc)), fl.removed⟩ := by
      rw [hR.flight f, absFlight_ans w.hf (by rw [ha]; simp), ha]
    have hmis : countMismatch o ocl = true :=
      countMismatch_iff.2 ⟨e, q2 ▸ List.mem_of_getElem? w.he, f, hR.known f (by rw [ho]; simp), q3 ▸ hb, _, id, nc, ho, hk, rfl,
        Ne.symm hne⟩
    exact ⟨_, Obs.run_one (.ret q1 ⟨q4, hmis⟩),
      inv_updWaiter hI w.hc w.hpc w.hf (ha ▸ Option.some_ne_none _) ⟨hok.ne, hok.ban, trivial⟩ rfl,
      rel_updCaller { ocl with pc := .returned } hR w.hc q2 q3 rfl, hS⟩
  | .obsExec (c := c) (cl := cl) (f := f) a w _ ha hlen =>
    have hgot := observe_next_ok hI w ha
    have hok := hI.callers c cl w.hc
    obtain ⟨ocl, q1, q2, q3, q4⟩ := hR.call c cl w.hc
    rw [w.hpc] at q4
    have hoke : okEntries o ocl.banned ocl.entries ((cl.got ++ [f]).map (idOf s)) = true := by
      rw [q2, q3]; exact okEntries_of_gotOK hR _ _ _ hgot hlen
    exact ⟨_, Obs.run_one (.exec q1 hoke (.inl ⟨q4, rfl⟩)),
      inv_updWaiter hI w.hc w.hpc w.hf (ha ▸ Option.some_ne_none _) ⟨hok.ne, fun g hg => hg, trivial⟩ rfl,
      rel_updCaller { ocl with pc := .awaiting a, banned := removedNow o } hR w.hc q2 (removedNow_eq hR) rfl, hS⟩
  | .obsMore (c := c) (cl := cl) (f := f) _ w _ ha hlen =>
    have hgot := observe_next_ok hI w ha
    obtain ⟨h1, _, _, _⟩ := waiting_facts hI w
    have hok := hI.callers c cl w.hc
    have hlt : (cl.got ++ [f]).length < cl.entries.length := by
      rw [List.length_append, List.length_singleton] at hlen ⊢; omega
    exact ⟨o, rfl, inv_updWaiter hI w.hc w.hpc w.hf (ha ▸ Option.some_ne_none _) ⟨hok.ne, hok.ban, hlt, hgot⟩ rfl,
      rel_updCaller_same hR w.hc rfl rfl (fun p hp => by rw [w.hpc] at hp; exact hp), hS⟩
  | .finishRet (c := c) (cl := cl) hao hc hpc =>
    have hok := hI.callers c cl hc
    obtain ⟨ocl, q1, q2, q3, q4⟩ := hR.call c cl hc
    rw [hpc] at q4
    refine ⟨_, ?_, inv_updCaller_free hI hc ⟨hok.ne, hok.ban, trivial⟩ rfl (fun _ => not_owns (.inr (.inl ⟨_, hpc⟩))),
      rel_updCaller { ocl with pc := .returned } hR hc q2 q3 rfl, hS⟩
    -- `ok` and `err` alike: the specification's `ret` checks that the caller awaits exactly this answer
    rcases hao with ⟨rfl, rfl⟩ | ⟨rfl, rfl⟩ <;> exact Obs.run_one (.ret q1 q4)
  | .finishUnprep (c := c) (cl := cl) (id := id) hc hpc =>
    obtain ⟨o', h1, h2, h3, h5, h4⟩ := unprepEvict_refines hI hR hS hc hpc
    have hc' : (unprepEvict s cl id).1.callers[c]? = some cl := by rw [h4]; exact hc
    have hok := h2.callers c cl hc'
    refine ⟨o', h1, inv_updCaller_free h2 hc' ⟨hok.ne, hok.ban, List.length_pos_iff.2 hok.ne, gotOK_nil ..⟩ rfl
      (fun _ => not_owns (.inr (.inl ⟨_, hpc⟩))), rel_updCaller_same h3 hc' rfl rfl ?_, h5⟩
    intro p hp
    rw [hpc] at hp
    have hp' : p = .awaiting (.unprep id) := hp
    subst hp'
    rfl
  | .cancel (c := c) hlt =>
    exact ⟨_, Obs.run_one (.cancel (hR.ncall ▸ hlt)),
      ⟨hI.cached, hI.uncached, hI.doneAns, hI.failRem, hI.callers, hI.waiter, hI.unspawned⟩,
      ⟨hR.ncall, hR.call, hR.flight, hR.known, hR.credit, congrArg (fun g c' => decide (c' = c) || g c') hR.canc, hR.strict⟩, hS⟩
  | .abandon (c := c) (cl := cl) hc hcan hpc =>
    have hok := hI.callers c cl hc
    obtain ⟨ocl, q1, q2, q3, q4⟩ := hR.call c cl hc
    have hrun : ocl.pc.running = true := by
      rcases hpc with ⟨f, hpc⟩ | ⟨a, hpc⟩ <;> rw [hpc] at q4
      · exact live_running q4
      · have q4' : ocl.pc = .awaiting a := q4
        rw [q4']; rfl
    have hoc : o.cancelled c = true := by rw [hR.canc]; exact hcan
    refine ⟨_, Obs.run_one (.ret q1 ⟨hoc, hrun⟩),
      inv_updCaller hI hc ⟨hok.ne, hok.ban, trivial⟩ rfl (fun _ _ _ _ _ => Or.inr (Or.inr rfl)) ?_,
      rel_updCaller { ocl with pc := .abandoned ocl.pc.live } hR hc q2 q3 rfl, hS⟩
    intro f' fl' hw
    rcases hpc with ⟨f, hpc⟩ | ⟨a, hpc⟩ <;> (rw [hpc] at hw; cases hw)
  | .abandonLate (c := c) (cl := cl) w hcan _ ha hlen =>
    have hgot := observe_next_ok hI w ha
    have hok := hI.callers c cl w.hc
    obtain ⟨ocl, q1, q2, q3, q4⟩ := hR.call c cl w.hc
    rw [w.hpc] at q4
    have q4' : ocl.pc.live = true := q4
    have hoc : o.cancelled c = true := by rw [hR.canc]; exact hcan
    refine ⟨{ o with callers := o.callers.set c { ocl with pc := .abandoned true } }, ?_,
      inv_updWaiter hI w.hc w.hpc w.hf (ha ▸ Option.some_ne_none _) ⟨hok.ne, hok.ban, hlen, hgot⟩ rfl,
      rel_updCaller { ocl with pc := .abandoned true } hR w.hc q2 q3 rfl, hS⟩
    exact (Obs.run_one (.ret (out := .ctxErr) q1 ⟨hoc, live_running q4'⟩)).trans (by simp only [setPc, q4'])
  | .srvLate (c := c) (cl := cl) a hc hpc =>
    have hok := hI.callers c cl hc
    have hp := hok.pcs
    rw [hpc] at hp
    obtain ⟨ocl, q1, q2, q3, q4⟩ := hR.call c cl hc
    rw [hpc] at q4
    have hoke : okEntries o ocl.banned ocl.entries (cl.got.map (idOf s)) = true := by
      rw [q2, q3]; exact okEntries_of_gotOK hR _ _ _ hp.2 hp.1
    exact ⟨_, Obs.run_one (.exec q1 hoke (.inr ⟨q4, rfl⟩)),
      inv_updCaller_free hI hc ⟨hok.ne, fun g hg => hg, trivial⟩ rfl (fun _ => not_owns (.inr (.inr hpc))),
      rel_updCaller { ocl with pc := .abandoned false, banned := removedNow o } hR hc q2 (removedNow_eq hR) rfl, hS⟩

theorem run_induction {P : List (Action κ) → State κ → State κ → List (Ev κ) → Prop} (nil : ∀ s, P [] s s [])
    (cons : ∀ {s a s1 e1 as s2 e2}, PConn.step s a = some (s1, e1) → PConn.run s1 as = some (s2, e2) → P as s1 s2 e2 →
      P (a :: as) s s2 (e1 ++ e2))
    (as : List (Action κ)) (s s' : State κ) (evs : List (Ev κ)) (h : PConn.run s as = some (s', evs)) : P as s s' evs := by
  fun_induction PConn.run s as generalizing s' evs with
  | case1 s => cases h; exact nil s
  | case2 s a as hs => cases h
  | case3 s a as s1 e1 hs hr => cases h
  | case4 s a as s1 e1 hs s2 e2 hr ih => cases h; exact cons hs hr (ih _ _ hr)

theorem run_refines : ∀ (as : List (Action κ)) (s s' : State κ) (o : OState κ) (evs : List (Ev κ)),
    Inv s → Rel s o → SInv s → PConn.run s as = some (s', evs) →
      ∃ o', Obs.run o evs = some o' ∧ Inv s' ∧ Rel s' o' ∧ SInv s' := by
  intro as s s' o evs hI hR hS h
  refine run_induction (P := fun _ s s' evs => ∀ o, Inv s → Rel s o → SInv s →
    ∃ o', Obs.run o evs = some o' ∧ Inv s' ∧ Rel s' o' ∧ SInv s') ?_ ?_ as s s' evs h o hI hR hS
  · exact fun s o hI hR hS => ⟨o, rfl, hI, hR, hS⟩
  · intro s a s1 e1 as s2 e2 hs _ ih o hI hR hS
    obtain ⟨o1, g1, g2, g3, g4⟩ := step_refines hI hR hS hs
    obtain ⟨o2, k1, k2, k3, k4⟩ := ih o1 g2 g3 g4
    exact ⟨o2, obs_isRun.append_iff.mpr ⟨o1, g1, k1⟩, k2, k3, k4⟩

theorem inv_init (b : Bool) : Inv (PConn.initB b : State κ) := by
  refine ⟨?_, ?_, ?_, ?_, ?_, ?_, ?_⟩ <;> intro a c h <;> simp [PConn.initB] at h

theorem rel_init (b : Bool) : Rel (PConn.initB b : State κ) (Obs.initB b : OState κ) := by
  refine ⟨rfl, ?_, ?_, ?_, ?_, rfl, rfl⟩
  · intro c cl h; simp [PConn.initB] at h
  · intro f; simp [Obs.initB, PConn.initB, absFlight]
  · intro f h; simp [Obs.initB] at h
  · intro k; simp [Obs.initB, PConn.initB, unann]

omit [DecidableEq κ] in
theorem sinv_init (b : Bool) : SInv (PConn.initB b : State κ) := by
  intro _ f fl h; simp [PConn.initB] at h

/-- reachable states satisfy the invariant, and the specification accepts the trace — with a cache that may purge
    for capacity (`b = false`) and with one that never does (`b = true`: every removal is justified) -/
theorem reachable {b : Bool} {as : List (Action κ)} {s : State κ} {tr : List (Ev κ)} (h : PConn.run (PConn.initB b) as = some (s, tr)) :
    ∃ o, Obs.run (Obs.initB b) tr = some o ∧ Inv s ∧ Rel s o := by
  obtain ⟨o, h1, h2, h3, _⟩ := run_refines as _ _ _ _ (inv_init b) (rel_init b) (sinv_init b) h
  exact ⟨o, h1, h2, h3⟩

theorem run_append (as bs : List (PConn.Action κ)) (s s1 s2 : PConn.State κ) (e1 e2 : List (Ev κ))
    (h1 : PConn.run s as = some (s1, e1)) (h2 : PConn.run s1 bs = some (s2, e2)) :
    PConn.run s (as ++ bs) = some (s2, e1 ++ e2) := by
  refine run_induction (P := fun as s s1 e1 => ∀ s2 e2, PConn.run s1 bs = some (s2, e2) →
    PConn.run s (as ++ bs) = some (s2, e1 ++ e2)) ?_ ?_ as s s1 e1 h1 s2 e2 h2
  · exact fun s s2 e2 h2 => h2
  · intro s a s' ev as s'' ev' hs _ ih s2 e2 h2
    simp only [List.cons_append, PConn.run, hs, ih s2 e2 h2, List.append_assoc]

theorem run_single (s s' : PConn.State κ) (a : PConn.Action κ) (e : List (Ev κ)) (h : PConn.step s a = some (s', e)) :
    PConn.run s [a] = some (s', e) := by
  simp [PConn.run, h]

theorem unprepEvict_strict (s : PConn.State κ) (cl : Caller κ) (id : Id) : (unprepEvict s cl id).1.strict = s.strict := by
  unfold unprepEvict; split
  · exact evictIfMatch_strict ..
  · rfl

theorem step_strict (p p' : PConn.State κ) (a : PConn.Action κ) (evs : List (Ev κ))
    (h : PConn.step p a = some (p', evs)) : p'.strict = p.strict := by
  cases Step_of_step h
  case evict => exact removeKey_strict ..
  case completeOk => exact setDone_strict ..
  case completeFail => exact (setDone_strict ..).trans (removeKey_strict ..)
  case finishUnprep => exact unprepEvict_strict ..
  all_goals rfl

theorem run_strict (as : List (PConn.Action κ)) (p p' : PConn.State κ) (evs : List (Ev κ))
    (h : PConn.run p as = some (p', evs)) : p'.strict = p.strict :=
  run_induction (P := fun _ p p' _ => p'.strict = p.strict) (fun _ => rfl)
    (fun hs _ ih => ih.trans (step_strict _ _ _ _ hs)) as p p' evs h

end C14Conn
