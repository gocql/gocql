import Proofs.C14Prepare
import Proofs.C14Key
import Proofs.C14Stmt
import Proofs.C14Conn
import Proofs.C14Obs
import Proofs.C14Live
import Proofs.C14ConnLRU
/-!
# C14 — prepared statements (property theorems; sequential + logical core, and the session tier)

Models: `Model/LRU.lean` (internal/lru/lru.go), `Model/Prepare.lean` (prepared_cache.go, conn.go
prepareStatement / evictPreparedID). "∀ schedule" = every finite list of actions accepted by `step`
(one action = one critical section of the cache mutex, or one flight completion).
-/
namespace C14
open LRU Prepare

/-- **LRU refines a finite map.** For every capacity and every sequence of Add/Get/Remove/RemoveOldest
    from the empty cache: keys are unique and `len ≤ cap` (cap > 0; cap = 0 is unbounded, as coded);
    Get returns the map's value and changes no binding; Remove deletes exactly its key; Add binds its key
    (cap ≥ 0), changes no other binding when the key was present, and otherwise purges nothing or — on a
    full cache — exactly the least recently used entry (the back of the recency list). -/
theorem C14_lru_refines_map {κ α : Type} [DecidableEq κ] (cap : Int) (ops : List (Op κ α)) :
    let c := (LRU.new cap : Cache κ α).run ops
    c.keys.Nodup ∧ c.cap = cap ∧ (0 < cap → (c.len : Int) ≤ cap) ∧
    (∀ k k', (c.get k).1 = c.find k ∧ (c.get k).2.find k' = c.find k') ∧
    (∀ k k', (c.remove k).1 = (c.find k).isSome ∧
             (c.remove k).2.1.find k' = if k' = k then none else c.find k') ∧
    (∀ k v, 0 ≤ cap → (c.add k v).1.find k = some v) ∧
    (∀ k v, (c.find k).isSome → (c.add k v).2 = [] ∧ ∀ k', k' ≠ k → (c.add k v).1.find k' = c.find k') ∧
    (∀ k v, (c.add k v).2 = [] ∨
            (c.find k = none ∧ cap ≠ 0 ∧ (c.len : Int) + 1 > cap ∧
             (c.add k v).2 = (((k, v) :: c.items).getLast?).toList)) := by
  intro c
  have hinv : c.Inv := (run_inv (LRU.new cap : Cache κ α) (inv_new cap) ops).1
  have hcap' : c.cap = cap := (run_inv (LRU.new cap : Cache κ α) (inv_new cap) ops).2
  refine ⟨hinv.nodup, hcap', fun h => by have := hinv.bound (by omega); omega, fun k k' => get_find c k k',
    fun k k' => remove_find c k k', fun k v h => add_find_same c k v (by omega), fun k v h => add_hit c k v h, ?_⟩
  intro k v
  have := add_evicts_lru c k v
  rw [hcap'] at this
  exact this

/-- non-vacuity / test: capacity 2, the least recently USED (not inserted) key goes -/
example :
    let c := (LRU.new 2 : Cache Nat Nat).run [.add 1 10, .add 2 20, .get 1, .add 3 30]
    c.items = [(3, 30), (1, 10)] := by decide

/-! ## The cache key as a function of (host id, keyspace, statement text)

One cache entry per statement is what "an execution is never sent with an id belonging to a different statement" needs
from the key. `keyFor` is the code after the repair of KF-C14-1 (decimal byte lengths of host id and keyspace, each
followed by '/', then the concatenation): injective for ALL byte strings, no excluded class. Nothing is identified:
not whitespace, not letter case, not a trailing semicolon, not unicode normalisation forms, not a moved
host|keyspace or keyspace|text border — the key determines the three byte strings. `keyForOld` is the plain
concatenation the code used before; the regression examples about it are at the end of this section. -/

/-- **The cache key is injective.** Two (host id, keyspace, statement text) triples with the same key are the
    same triple — for all byte strings ('/' , digits, NULs inside host ids / keyspaces / texts included). -/
theorem C14_keyFor_injective (h₁ k₁ s₁ h₂ k₂ s₂ : List UInt8)
    (he : keyFor h₁ k₁ s₁ = keyFor h₂ k₂ s₂) : h₁ = h₂ ∧ k₁ = k₂ ∧ s₁ = s₂ := by
  unfold keyFor at he
  simp only [List.append_assoc, List.singleton_append] at he
  obtain ⟨a, b⟩ := C14Key.split_at_sep _ _ _ _ _ (C14Key.slash_not_in_dec _) (C14Key.slash_not_in_dec _) he
  obtain ⟨c, d⟩ := C14Key.split_at_sep _ _ _ _ _ (C14Key.slash_not_in_dec _) (C14Key.slash_not_in_dec _) b
  exact C14Key.keyForOld_inj_of_len _ _ _ _ _ _ (C14Key.dec_inj a) (C14Key.dec_inj c) (by simpa [keyForOld] using d)

/-- one keyspace: host and text are determined -/
theorem C14_key_injective (h₁ h₂ ks s₁ s₂ : List UInt8)
    (he : keyFor h₁ ks s₁ = keyFor h₂ ks s₂) : h₁ = h₂ ∧ s₁ = s₂ :=
  have ⟨a, _, c⟩ := C14_keyFor_injective h₁ ks s₁ h₂ ks s₂ he
  ⟨a, c⟩

/-- as a statement about triples: `keyOf` is injective -/
theorem C14_keyOf_injective (t₁ t₂ : Triple) (he : keyOf t₁ = keyOf t₂) : t₁ = t₂ := by
  obtain ⟨a, b, c⟩ := C14_keyFor_injective _ _ _ _ _ _ he
  cases t₁; cases t₂; simp_all

/-- **Op `keypair` is spec-backed, for every pair.** The model of the code (`sameKey`: the two keys are equal
    strings) answers exactly as the specification (`sameStmt`: the two triples are the same statement). -/
theorem C14_keypair_spec (t₁ t₂ : Triple) : sameKey t₁ t₂ = sameStmt t₁ t₂ := by
  unfold sameKey sameStmt
  by_cases e : t₁ = t₂
  · subst e; simp
  · have : keyOf t₁ ≠ keyOf t₂ := fun he => e (C14_keyOf_injective t₁ t₂ he)
    simp [e, this]

/-- non-vacuity of the near-collisions the harness generates: whitespace runs, letter case, a trailing
    semicolon, NFC / NFD forms of 'é' and a NUL byte all give different keys; so do a moved keyspace|text border,
    a moved host|keyspace border, and what a join with the separator '/' or with a digit would identify -/
example :
    sameKey ⟨[1], [2], [0x61, 0x20, 0x62]⟩ ⟨[1], [2], [0x61, 0x20, 0x20, 0x62]⟩ = false ∧
    sameKey ⟨[1], [2], [0x61]⟩ ⟨[1], [2], [0x41]⟩ = false ∧
    sameKey ⟨[1], [2], [0x61]⟩ ⟨[1], [2], [0x61, 0x3b]⟩ = false ∧
    sameKey ⟨[1], [2], [0xc3, 0xa9]⟩ ⟨[1], [2], [0x65, 0xcc, 0x81]⟩ = false ∧
    sameKey ⟨[1], [2], [0x61]⟩ ⟨[1], [2], [0x61, 0x00]⟩ = false ∧
    sameKey ⟨[0x68], [0x61], [0x62, 0x58]⟩ ⟨[0x68], [0x61, 0x62], [0x58]⟩ = false ∧
    sameKey ⟨[0x68], [0x61], [0x58]⟩ ⟨[0x68, 0x61], [], [0x58]⟩ = false ∧
    sameKey ⟨[0x68], [0x61], [0x2f, 0x58]⟩ ⟨[0x68], [0x61, 0x2f], [0x58]⟩ = false ∧
    sameKey ⟨[0x31], [0x30, 0x2f], [0x58]⟩ ⟨[0x31, 0x30], [0x2f], [0x58]⟩ = false ∧
    sameKey ⟨[0x68], [0x61], [0x62, 0x58]⟩ ⟨[0x68], [0x61], [0x62, 0x58]⟩ = true := by decide

/-- the key text itself, byte for byte (op `keyfor`): "1/1/habX" and "1/2/habX";
    a 36-byte host id gives the prefix "36/" -/
example : keyFor [0x68] [0x61] [0x62, 0x58] = [0x31, 0x2f, 0x31, 0x2f, 0x68, 0x61, 0x62, 0x58] ∧
    keyFor [0x68] [0x61, 0x62] [0x58] = [0x31, 0x2f, 0x32, 0x2f, 0x68, 0x61, 0x62, 0x58] ∧
    (keyFor (List.replicate 36 0x30) [] []).take 5 = [0x33, 0x36, 0x2f, 0x30, 0x2f] := by decide

/-! ### Regression examples about the OLD key (`keyForOld`: `hostID + keyspace + statement`, KF-C14-1, repaired)

Not part of the model of the code that exists; they record why the plain concatenation had to go, and are the
Lean side of the replay `keypair 68 61 6258 68 6162 58` (answered `same` by an unrepaired tree). -/

/-- every triple with a non-empty keyspace shared its OLD key with a DIFFERENT triple -/
example {α : Type} (h k s : List α) (hk : k ≠ []) :
    keyForOld h k s = keyForOld h [] (k ++ s) ∧ (h, k, s) ≠ (h, [], k ++ s) ∧
    keyForOld h k s = keyForOld (h ++ k) [] s ∧ (h, k, s) ≠ (h ++ k, [], s) :=
  ⟨C14Key.keyForOld_move_ks h k s, fun e => hk (by injection e with _ e; injection e),
   C14Key.keyForOld_move_host h k s, fun e => hk (by injection e with _ e; injection e)⟩

/-- the concrete witness: ("h","a","bX") and ("h","ab","X") shared the OLD key and do not share the key -/
example :
    keyForOld [0x68] [0x61] [0x62, 0x58] = keyForOld [0x68] [0x61, 0x62] [(0x58 : UInt8)] ∧
    keyFor [0x68] [0x61] [0x62, 0x58] ≠ keyFor [0x68] [0x61, 0x62] [0x58] := by decide

/-- with the OLD key an executor of B = ("h","ab","X") was handed the flight published for A = ("h","a","bX")
    (hit on flight 0, one PREPARE in the log) -/
example :
    (run (init 1000 : State (List UInt8)) [.lookup (keyForOld [0x68] [0x61] [0x62, 0x58]), .complete 0 (some [0xAA]),
        .lookup (keyForOld [0x68] [0x61, 0x62] [0x58])]).map
      (fun s => (s.cache.find (keyForOld [0x68] [0x61, 0x62] [0x58]), s.flights.length, outcome s 0)) =
      some (some 0, 1, some (.ok [0xAA])) := by decide

/-- **Single flight.** For every cache size and every schedule: the number of PREPAREs caused for a key
    equals the number of times its entry left the cache (capacity eviction, failure, UNPREPARED) plus
    one if it is cached now. Hence `#PREPARE(k) ≤ 1 + #evictions(k) + #failures(k) + #unprepared(k)`,
    and a key whose entry never left the cache was prepared at most once, however many executors
    looked it up and whenever they did. -/
theorem C14_single_flight {κ : Type} [DecidableEq κ] (cap : Int) (as : List (Action κ)) (s : State κ)
    (h : run (init cap) as = some s) (k : κ) :
    prepares s.log k = removals s.log k + (if k ∈ s.cache.keys then 1 else 0) ∧
    prepares s.log k ≤ 1 + removals s.log k ∧
    (removals s.log k = 0 → prepares s.log k ≤ 1) := by
  have g := run_good (init cap) s as (good_init cap) h
  have h1 := g.count k
  rw [g.lru.nodup.count] at h1
  refine ⟨h1, ?_, ?_⟩ <;> (split at h1 <;> omega)

/-- ten executors of the same statement, any interleaving with the completion: one PREPARE -/
example :
    (run (init 1000 : State Nat) ([.lookup 7, .lookup 7, .lookup 7, .complete 0 (some [1]), .lookup 7, .lookup 7])).map
      (fun s => prepares s.log 7) = some 1 := by decide

/-- **Failures are not cached; no stale or foreign flight.** In every reachable state every cached
    entry (k ↦ f) refers to an existing flight that was created for exactly the key k and has not
    failed — so a lookup after a failed PREPARE misses or finds a different flight, an id handed out
    for k comes from a PREPARE of k — and `evictPreparedID` never dereferences a flight without a
    prepared statement (`crashed = false`). -/
theorem C14_failure_not_cached {κ : Type} [DecidableEq κ] (cap : Int) (as : List (Action κ)) (s : State κ)
    (h : run (init cap) as = some s) :
    (∀ e ∈ s.cache.items, ∃ fl, s.flights[e.2]? = some fl ∧ fl.key = e.1 ∧ fl.status ≠ .failed) ∧
    s.crashed = false :=
  have g := run_good (init cap) s as (good_init cap) h
  ⟨g.entries, g.noCrash⟩

/-- **Waiters observe the flight's outcome.** Once a flight is done its outcome never changes (a
    completion is accepted only for an in-flight flight), so every waiter of a failed flight reads the
    failure and every waiter of a successful one reads the same id, whenever it looks. -/
theorem C14_outcome_stable {κ : Type} [DecidableEq κ] (s s' : State κ) (a : Action κ) (f : Nat) (st : Status)
    (hs : step s a = some s') (ho : outcome s f = some st) (hd : st ≠ .inflight) :
    outcome s' f = some st := by
  unfold outcome at ho ⊢
  rcases step_flights s s' a hs with h | ⟨k, _, h⟩ | ⟨g, fl, st', hg, hinf, h⟩ <;> rw [h]
  · exact ho
  · cases hf : s.flights[f]? with
    | none => rw [hf] at ho; cases ho
    | some fl => rw [List.getElem?_append_left (List.getElem?_eq_some_iff.1 hf).1]; exact ho
  · -- the flight that gets its status was in flight, f is not
    have hne : g ≠ f := by
      intro e; subst e
      rw [hg] at ho; injection ho with ho
      exact hd (ho ▸ hinf)
    rw [List.getElem?_set_ne hne]; exact ho

/-- **Re-prepare.** An UNPREPARED answer carrying the cached id evicts the entry (so the retry's lookup
    misses, see `C14_miss_prepares`); with a different id the entry is kept. -/
theorem C14_reprepare {κ : Type} [DecidableEq κ] (s : State κ) (k : κ) (f : Nat) (id id' : List UInt8)
    (hf : s.cache.find k = some f) (ho : outcome s f = some (.ok id)) :
    (∃ s', step s (.unprepared k id) = some s' ∧ s'.cache.find k = none) ∧
    (id' ≠ id → ∃ s', step s (.unprepared k id') = some s' ∧ s'.cache.find k = some f) := by
  have hget : s.cache.get k = (some f, { s.cache with items := (k, f) :: without k s.cache.items }) := by
    simp [Cache.get, hf]
  have hst : (s.flights[f]?).map (·.status) = some (Status.ok id) := ho
  constructor
  · refine ⟨_, by simp only [step, hget, hst, if_true]; rfl, ?_⟩
    exact ((remove_find _ k k).2).trans (by simp)
  · intro hne
    refine ⟨_, by simp only [step, hget, hst, hne, if_false]; rfl, ?_⟩
    exact find_cons_same k f _

/-- a lookup that misses publishes a new flight, i.e. causes exactly one more PREPARE for that key -/
theorem C14_miss_prepares {κ : Type} [DecidableEq κ] (s : State κ) (k : κ) (hf : s.cache.find k = none) :
    ∃ s', step s (.lookup k) = some s' ∧ prepares s'.log k = prepares s.log k + 1 ∧
          s'.flights.length = s.flights.length + 1 ∧ outcome s' s.flights.length = some .inflight := by
  have hget : s.cache.get k = (none, s.cache) := by simp [Cache.get, hf]
  refine ⟨_, by simp only [step, hget]; rfl, ?_, by simp, by simp [outcome]⟩
  simp [prepares, List.countP_append, cntI_map k .evicted (fun _ _ => rfl), Event.isInsert]

/-- UNPREPARED → evict → retry prepares again and gets the new id: a concrete schedule -/
example :
    (run (init 10 : State Nat) [.lookup 1, .complete 0 (some [0xAA]), .lookup 1, .unprepared 1 [0xAA],
                                .lookup 1, .complete 1 (some [0xBB]), .lookup 1]).map
      (fun s => (prepares s.log 1, s.cache.find 1, outcome s 1)) = some (2, some 1, some (.ok [0xBB])) := by decide

/-- a failed PREPARE is not remembered: the next lookup prepares again -/
example :
    (run (init 10 : State Nat) [.lookup 1, .lookup 1, .complete 0 none, .lookup 1]).map
      (fun s => (prepares s.log 1, s.cache.find 1, outcome s 0)) = some (2, some 1, some .failed) := by decide

/-! ## Statement level: whose text was PREPAREd for the flight an executor is handed

Property ("an execution is never sent with an id/metadata belonging to a different statement"), for every cache
size and every schedule of lookups / completions / UNPREPARED answers over ARBITRARY triples. Key equality ⇒ statement
identity comes from `C14_keyOf_injective` (the repaired key), not from a hypothesis. -/

/-- **Ids belong to the statement.** In every reachable state, for every triple t: the flight cached under the key
    of t was published by a lookup of t itself, and it is t's text that the flight's goroutine PREPAREd. -/
theorem C14_id_belongs_stmt (cap : Int) (as : List TAction) (x : TState)
    (h : trun (tinit cap) as = some x) (t : Triple) (f : Nat) (hf : x.flightOf t = some f) :
    x.sent[f]? = some t := by
  have hI := C14Stmt.trun_inv as (tinit cap) x (C14Stmt.tinv_init cap) h
  have hr := C14Stmt.trun_run as (tinit cap) x h
  obtain ⟨fl, h1, h2, _⟩ := (run_good (init cap) x.s _ (good_init cap) hr).entries _ (find_some_mem x.s.cache (keyOf t) f hf)
  obtain ⟨t', h3, h4⟩ := hI.text f fl h1
  rw [h3, C14_keyOf_injective t' t (h4.trans h2)]

/-- the pair that collided before the repair: A = ("h","a","bX") is executed and PREPAREd (id 0xAA); an executor
    of B = ("h","ab","X") now MISSES, publishes its own flight 1 and its own text is PREPAREd -/
example :
    let A : Triple := ⟨[0x68], [0x61], [0x62, 0x58]⟩
    let B : Triple := ⟨[0x68], [0x61, 0x62], [0x58]⟩
    (trun (tinit 1000) [.lookup A, .complete 0 (some [0xAA]), .lookup B]).map
      (fun x => (x.flightOf A, x.flightOf B, x.sent, outcome x.s 1, prepares x.s.log (keyOf B))) =
      some (some 0, some 1, [A, B], some .inflight, 1) := by decide

/-- non-vacuity: near-colliding texts (one space / two spaces inside a literal) get their own flights and texts -/
example :
    let A : Triple := ⟨[1], [2], [0x27, 0x61, 0x20, 0x62, 0x27]⟩
    let B : Triple := ⟨[1], [2], [0x27, 0x61, 0x20, 0x20, 0x62, 0x27]⟩
    (trun (tinit 1000) [.lookup A, .complete 0 (some [0xAA]), .lookup B, .complete 1 (some [0xBB]), .lookup A]).map
      (fun x => (x.flightOf A, x.flightOf B, x.sent)) = some (some 0, some 1, [A, B]) := by decide

/-! ## Session tier: executions on real connections (`PConn`), for every schedule

`PConn` (Model/Prepare.lean): any number of callers (queries and batches), the flights' goroutines, the
scripted server (any answers), capacity evictions at any time. A schedule is any list of actions accepted by
`PConn.step`; its trace is the list of observable events (`Ev`). `Obs` is the observable-level
specification that also judges the histories recorded on real Sessions (op `trace`). -/
section Conn
open PConn Obs C14Conn C14Obs C14Live
variable {κ : Type} [DecidableEq κ] {b : Bool}

/-- **Every schedule is accepted by the specification** — in particular no schedule contains a `crash`
    (nil dereference in evictPreparedID) and every enabledness condition of `Obs` holds
    at every event of every schedule. -/
theorem C14_conn_refines (as : List (PConn.Action κ)) (s : PConn.State κ) (tr : List (Ev κ))
    (h : PConn.run (PConn.initB b) as = some (s, tr)) : ∃ o, Obs.run (Obs.initB b) tr = some o := by
  obtain ⟨o, h1, _, _⟩ := reachable h
  exact ⟨o, h1⟩

theorem before_event {as : List (PConn.Action κ)} {s : PConn.State κ} {pre post : List (Ev κ)} {e : Ev κ}
    (h : PConn.run (PConn.initB b) as = some (s, pre ++ e :: post)) :
    ∃ o1 o2, Obs.run (Obs.initB b) pre = some o1 ∧ Hist pre o1 ∧ Obs.step o1 e = some o2 :=
  let ⟨_, ho⟩ := C14_conn_refines as s _ h
  accepted_before ho

/-- **Ids belong to the statement (and are not superseded).** Whenever, in any schedule, the server receives
    an EXECUTE / BATCH frame of call c: the call was started with entries `es`, the frame carries one id per
    entry, and the j-th id was returned by the server for a PREPARE of exactly the j-th entry's key (host,
    keyspace, statement), with as many bind columns as that entry has bound values (`e.2`), by a flight that
    had not left the cache when the call started / sent its previous frame. -/
theorem C14_id_belongs (as : List (PConn.Action κ)) (s : PConn.State κ) (pre post : List (Ev κ)) (c : Nat) (ids : List Id) (a : XAns)
    (h : PConn.run (PConn.initB b) as = some (s, pre ++ Ev.exec c ids a :: post)) :
    ∃ b es, Ev.start c b es ∈ pre ∧ ids.length = es.length ∧
      ∀ (j : Nat) (e : κ × Nat) (id : Id), es[j]? = some e → ids[j]? = some id →
        ∃ f, Ev.prep f e.1 (some (id, e.2)) ∈ pre ∧ removedBefore pre c f = false := by
  obtain ⟨o1, o2, _, hH, hs⟩ := before_event h
  match Obs.Step_of_step hs with
  | .exec (cl := cl) hc hk _ =>
    obtain ⟨b, hb⟩ := hH.start c cl hc
    obtain ⟨hl, hall⟩ := okEntries_sound hH cl.banned cl.entries ids hk
    refine ⟨b, cl.entries, hb, hl, ?_⟩
    intro j e id he hid
    obtain ⟨f, h1, h2⟩ := hall j e id he hid
    refine ⟨f, h1, ?_⟩
    unfold removedBefore
    rw [← hH.ban c cl hc]; exact h2

/-- **An id and the bind metadata used with it are one token, injectively.** `PConn.token id sig` (one length
    byte, the id, the value widths) determines both the prepared id and the widths, for ids shorter than 256 bytes:
    so "the frame's token was returned by a PREPARE of that statement" (`C14_id_belongs`, `C14_metadata_belongs`)
    says that BOTH the id and the metadata the values were encoded with are that PREPARE's. -/
theorem C14_token_injective (i₁ s₁ i₂ s₂ : List UInt8) (h₁ : i₁.length < 256) (h₂ : i₂.length < 256)
    (h : PConn.token i₁ s₁ = PConn.token i₂ s₂) : i₁ = i₂ ∧ s₁ = s₂ := by
  unfold PConn.token at h
  injection h with hl ha
  have hn : i₁.length = i₂.length := by
    rw [← UInt8.toNat_ofNat_of_lt' h₁, ← UInt8.toNat_ofNat_of_lt' h₂, hl]
  exact List.append_inj ha hn

/-- the two fields can be read back from a token -/
theorem C14_untoken_token (i s : List UInt8) (h : i.length < 256) : PConn.untoken (PConn.token i s) = (i, s) := by
  unfold PConn.token PConn.untoken
  simp [UInt8.toNat_ofNat_of_lt' h]

/-- **Bind metadata belongs to the statement.** Whenever, in any schedule, the server receives a frame of call c
    whose j-th prepared entry carries the id `id` with values encoded to the widths `sig`: a PREPARE of exactly
    the j-th entry's key (host, keyspace, statement) was answered with that very id AND column types of those very
    widths (and as many columns as the entry has bound values), by a flight that had not left the cache when the
    call started / sent its previous frame - and any PREPARE answer (id', sig') that yields the same token is that
    answer. So values are never encoded with the metadata of another statement's, host's or keyspace's PREPARE, nor
    with the metadata of a superseded PREPARE of the same statement. -/
theorem C14_metadata_belongs (as : List (PConn.Action κ)) (s : PConn.State κ) (pre post : List (Ev κ)) (c : Nat) (ids : List Id) (a : XAns)
    (h : PConn.run (PConn.initB b) as = some (s, pre ++ Ev.exec c ids a :: post)) :
    ∃ b es, Ev.start c b es ∈ pre ∧ ids.length = es.length ∧
      ∀ (j : Nat) (e : κ × Nat) (id sig : List UInt8), es[j]? = some e → ids[j]? = some (PConn.token id sig) → id.length < 256 →
        ∃ f, Ev.prep f e.1 (some (PConn.token id sig, e.2)) ∈ pre ∧ removedBefore pre c f = false ∧
          ∀ id' sig', id'.length < 256 → PConn.token id' sig' = PConn.token id sig → id' = id ∧ sig' = sig := by
  obtain ⟨b', es, h1, h2, h3⟩ := C14_id_belongs as s pre post c ids a h
  refine ⟨b', es, h1, h2, ?_⟩
  intro j e id sig he hid hlen
  obtain ⟨f, hf, hr⟩ := h3 j e _ he hid
  exact ⟨f, hf, hr, fun id' sig' hl' ht => C14_token_injective id' sig' id sig hl' hlen ht⟩

/-- non-vacuity: the PREPARE of statement 7 answers id [1] with one int column (width 4); an EXECUTE that carries
    id [1] and a 4-byte value is accepted, one whose value was encoded to 8 bytes (the metadata of some other
    PREPARE) is rejected, and so is the id of another statement with the right width -/
example : (Obs.run (Obs.init : OState Nat) [.start 0 false [(7, 1)], .prep 0 7 (some (PConn.token [1] [4], 1)),
    .exec 0 [PConn.token [1] [4]] .ok, .ret 0 .ok]).isSome = true := by decide
example : (Obs.run (Obs.init : OState Nat) [.start 0 false [(7, 1)], .prep 0 7 (some (PConn.token [1] [4], 1)),
    .exec 0 [PConn.token [1] [8]] .ok]).isNone = true := by decide
example : (Obs.run (Obs.init : OState Nat) [.start 0 false [(7, 1)], .start 1 false [(8, 1)], .prep 0 7 (some (PConn.token [1] [4], 1)),
    .prep 1 8 (some (PConn.token [2] [4], 1)), .exec 0 [PConn.token [2] [4]] .ok]).isNone = true := by decide

/-! ### several hosts: one Query value executed on more than one host

The cache key is (host, keyspace, statement): with `κ = η × σ` (host × statement-in-keyspace) the machine above IS the
multi-host machine - every call runs on the host its entries name, `prep f (h, st) r` is a PREPARE that HOST h received.
One `Query` value whose executions go to different hosts (the pages of a paged iteration, the attempts of a
RetryNextHost policy, speculative attempts) is several calls of this machine, one per execution, each on its own host:
nothing the driver keeps on the Query value itself may stand in for the host-keyed cache. -/

/-- **Ids belong to the HOST that receives them.** Whenever, in any schedule over hosts η, host `hst` receives an
    EXECUTE / BATCH of a call: every id in it was returned, for exactly that statement, by a PREPARE that THIS host
    received (and that had not left the cache when the call started / sent its previous frame) - never by a PREPARE
    another host answered, whatever else executes the same statement text elsewhere at the same time. -/
theorem C14_id_belongs_host {η σ : Type} [DecidableEq η] [DecidableEq σ]
    (as : List (PConn.Action (η × σ))) (s : PConn.State (η × σ)) (pre post : List (Ev (η × σ))) (c : Nat) (ids : List Id) (a : XAns)
    (h : PConn.run (PConn.initB b) as = some (s, pre ++ Ev.exec c ids a :: post)) :
    ∃ bt es, Ev.start c bt es ∈ pre ∧ ids.length = es.length ∧
      ∀ (j : Nat) (hst : η) (st : σ) (n : Nat) (id : Id), es[j]? = some ((hst, st), n) → ids[j]? = some id →
        ∃ f, Ev.prep f (hst, st) (some (id, n)) ∈ pre ∧ removedBefore pre c f = false := by
  obtain ⟨bt, es, h1, h2, h3⟩ := C14_id_belongs as s pre post c ids a h
  exact ⟨bt, es, h1, h2, fun j hst st n id he hid => h3 j ((hst, st), n) id he hid⟩

/-- ... so, when no two hosts ever issue the same id (every real cluster: ids are digests over host-local state at best;
    the scripted hosts: by construction), an id that reaches host `hst` in a frame is an id that ONLY `hst` has issued:
    every PREPARE answer anywhere in the history that carries it was received by `hst`. An execution on a second host
    with what the Query learnt on the first is therefore not a behaviour of the machine. -/
theorem C14_no_foreign_host_id {η σ : Type} [DecidableEq η] [DecidableEq σ]
    (as : List (PConn.Action (η × σ))) (s : PConn.State (η × σ)) (pre post : List (Ev (η × σ))) (c : Nat) (ids : List Id) (a : XAns)
    (h : PConn.run (PConn.initB b) as = some (s, pre ++ Ev.exec c ids a :: post))
    (hdis : ∀ f f' h₁ h₂ st₁ st₂ id n₁ n₂, Ev.prep f (h₁, st₁) (some (id, n₁)) ∈ pre → Ev.prep f' (h₂, st₂) (some (id, n₂)) ∈ pre → h₁ = h₂) :
    ∃ bt es, Ev.start c bt es ∈ pre ∧
      ∀ (j : Nat) (hst : η) (st : σ) (n : Nat) (id : Id), es[j]? = some ((hst, st), n) → ids[j]? = some id →
        ∀ f' h' st' n', Ev.prep f' (h', st') (some (id, n')) ∈ pre → h' = hst := by
  obtain ⟨bt, es, h1, _, h3⟩ := C14_id_belongs_host as s pre post c ids a h
  refine ⟨bt, es, h1, ?_⟩
  intro j hst st n id he hid f' h' st' n' hp
  obtain ⟨f, hf, _⟩ := h3 j hst st n id he hid
  exact hdis f' f h' hst st' st id n' n hp hf

/-- non-vacuity (hosts 0 and 1, statement 7): the first page of a Query is executed on host 0 (PREPARE there: id [1]), the
    second on host 1 - accepted when host 1 is sent its own PREPARE and the EXECUTE carries the id host 1 issued ([2]);
    rejected when the EXECUTE to host 1 carries host 0's id (what a Query that remembers its prepared statement sends),
    even if host 1 has meanwhile prepared the statement for somebody else -/
example : (Obs.run (Obs.init : OState (Nat × Nat)) [.start 0 false [((0, 7), 1)], .prep 0 (0, 7) (some ([1], 1)), .exec 0 [[1]] .ok, .ret 0 .ok,
    .start 1 false [((1, 7), 1)], .prep 1 (1, 7) (some ([2], 1)), .exec 1 [[2]] .ok, .ret 1 .ok]).isSome = true := by decide
example : (Obs.run (Obs.init : OState (Nat × Nat)) [.start 0 false [((0, 7), 1)], .prep 0 (0, 7) (some ([1], 1)), .exec 0 [[1]] .ok, .ret 0 .ok,
    .start 1 false [((1, 7), 1)], .exec 1 [[1]] (.unprep [1])]).isNone = true := by decide
example : (Obs.run (Obs.init : OState (Nat × Nat)) [.start 0 false [((0, 7), 1)], .prep 0 (0, 7) (some ([1], 1)), .start 1 false [((1, 7), 1)],
    .prep 1 (1, 7) (some ([2], 1)), .exec 0 [[1]] .ok, .ret 0 .ok, .start 2 false [((1, 7), 1)], .exec 2 [[1]] .ok]).isNone = true := by decide

/-- **Single flight on connections.** In every schedule and at every point of it, the number of PREPAREs the
    server has received for a key is at most one more than the number of times an entry of that key left the
    cache (capacity eviction, failed PREPARE, UNPREPARED): with no removal, one PREPARE however many
    executors there are. -/
theorem C14_single_flight_conn (as : List (PConn.Action κ)) (s : PConn.State κ) (pre post : List (Ev κ))
    (h : PConn.run (PConn.initB b) as = some (s, pre ++ post)) (k : κ) :
    prepCount k pre ≤ rmCount k pre + 1 := by
  obtain ⟨o, ho⟩ := C14_conn_refines as s _ h
  obtain ⟨o1, h1, _⟩ := obs_isRun.append_iff.mp ho
  have := (hist_of_run h1).credit k
  omega

/-- **A failed PREPARE is reported, not remembered.** Whenever a call returns the failure of PREPARE f: f is
    a PREPARE of a statement of that call which the server answered with an error; the entry had already left
    the cache when the failure was reported (a failed flight is never published as done); and it had not yet
    left the cache when the call started / sent its previous frame (the failure is never served to an
    execution that began after it was known). -/
theorem C14_failure_not_cached_conn (as : List (PConn.Action κ)) (s : PConn.State κ) (pre post : List (Ev κ)) (c f : Nat)
    (h : PConn.run (PConn.initB b) as = some (s, pre ++ Ev.ret c (.prepErr f) :: post)) :
    ∃ k b es, Ev.start c b es ∈ pre ∧ hasKey es k = true ∧ Ev.prep f k none ∈ pre ∧ Ev.rm k f ∈ pre ∧
      removedBefore pre c f = false := by
  obtain ⟨o1, o2, _, hH, hs⟩ := before_event h
  match Obs.Step_of_step hs with
  | .ret (cl := cl) hc hq =>
    obtain ⟨hp, fl, hf, hq⟩ := hq
    obtain ⟨b, hb⟩ := hH.start c cl hc
    refine ⟨fl.key, b, cl.entries, hb, hq.1, hH.prep f fl none hf hq.2.1, hH.rm f fl hf hq.2.2, ?_⟩
    unfold removedBefore
    rw [← hH.ban c cl hc]; exact hp.2

/-- the call's batch flag `bt` is independent of the machine's mode `b` -/
theorem failure_not_served_later (as : List (PConn.Action κ)) (s : PConn.State κ) (p1 p2 post : List (Ev κ)) (c c' f : Nat)
    (bt : Bool) (es : List (κ × Nat))
    (h : PConn.run (PConn.initB b) as = some (s, p1 ++ Ev.start c bt es :: (p2 ++ Ev.ret c (.prepErr f) :: post))) :
    Ev.ret c' (.prepErr f) ∉ p1 := by
  intro hmem
  -- the earlier report: f had left the cache before it
  obtain ⟨q1, q2, hq⟩ := List.append_of_mem hmem
  have h1 : PConn.run (PConn.initB b) as = some (s, q1 ++ Ev.ret c' (.prepErr f) :: (q2 ++ Ev.start c bt es :: (p2 ++ Ev.ret c (.prepErr f) :: post))) := by
    rw [h, hq]; simp
  obtain ⟨k, _, _, _, _, _, hrm, _⟩ := C14_failure_not_cached_conn as s _ _ c' f h1
  have hrm1 : Ev.rm k f ∈ p1 := by rw [hq]; exact List.mem_append_left _ hrm
  -- the later report
  have h2 : PConn.run (PConn.initB b) as = some (s, (p1 ++ Ev.start c bt es :: p2) ++ Ev.ret c (.prepErr f) :: post) := by
    rw [h]; simp
  obtain ⟨_, _, _, _, _, _, _, hnb⟩ := C14_failure_not_cached_conn as s _ _ c f h2
  rw [removedBefore_of_rm_before_start p1 p2 c f k bt es hrm1] at hnb
  cases hnb

/-- … hence: once the failure of PREPARE f has been reported to somebody, no execution that starts later is
    ever given that failure — the next execution prepares again. -/
theorem C14_failure_not_served_later (as : List (PConn.Action κ)) (s : PConn.State κ) (p1 p2 post : List (Ev κ)) (c c' f : Nat)
    (b : Bool) (es : List (κ × Nat))
    (h : PConn.run (PConn.initB b) as = some (s, p1 ++ Ev.start c b es :: (p2 ++ Ev.ret c (.prepErr f) :: post))) :
    Ev.ret c' (.prepErr f) ∉ p1 :=
  failure_not_served_later as s p1 p2 post c c' f b es h

/-- **Value count.** A call returns the value-count error only if one of its entries has a different number
    of bound values than the bind columns of a PREPARE answer for that entry's statement … -/
theorem C14_value_count (as : List (PConn.Action κ)) (s : PConn.State κ) (pre post : List (Ev κ)) (c : Nat)
    (h : PConn.run (PConn.initB b) as = some (s, pre ++ Ev.ret c .countErr :: post)) :
    ∃ b es e f id nc, Ev.start c b es ∈ pre ∧ e ∈ es ∧ Ev.prep f e.1 (some (id, nc)) ∈ pre ∧ nc ≠ e.2 := by
  obtain ⟨o1, o2, _, hH, hs⟩ := before_event h
  match Obs.Step_of_step hs with
  | .ret (cl := cl) hc hp =>
    obtain ⟨b, hb⟩ := hH.start c cl hc
    obtain ⟨e, he, f, _, _, fl, id, nc, hf, hk, ha, hne⟩ := countMismatch_iff.1 hp.2
    exact ⟨b, cl.entries, e, f, id, nc, hb, he, hk ▸ hH.prep f fl _ hf ha, hne⟩

/-- … and conversely a waiter whose entry has the wrong number of bound values returns that error and sends
    nothing (the step emits the return and no frame). -/
theorem C14_value_count_step (s : PConn.State κ) (c f : Nat) (cl : Caller κ) (fl : PConn.Flight κ) (e : κ × Nat) (id : Id) (nc : Nat) (a : XAns)
    (hc : s.callers[c]? = some cl) (hpc : cl.pc = .waiting f) (hf : s.flights[f]? = some fl)
    (he : cl.entries[cl.got.length]? = some e) (hd : fl.done = true) (ha : fl.ans = some (some (id, nc))) (hne : e.2 ≠ nc) :
    ∃ s', PConn.step s (.observe c a) = some (s', [Ev.ret c .countErr]) :=
  ⟨_, step_of_Step (.obsCount a ⟨hc, hpc, hf, he⟩ hd ha hne)⟩

/-- **A call that returned sends nothing more**: no second result ever; no frame — except that a call which
    returned its CONTEXT error may have written one frame just before its context fired, which then reaches the
    server after the return (`C14_late_frame_once`: at most one). -/
theorem C14_nothing_after_return (as : List (PConn.Action κ)) (s : PConn.State κ) (pre post : List (Ev κ)) (c : Nat) (out : Outcome)
    (h : PConn.run (PConn.initB b) as = some (s, pre ++ Ev.ret c out :: post)) :
    ∀ e ∈ post, (∀ out', e ≠ Ev.ret c out') ∧ (out ≠ .ctxErr → ∀ ids a, e ≠ Ev.exec c ids a) := by
  obtain ⟨o, ho⟩ := C14_conn_refines as s _ h
  obtain ⟨o1, o2, _, h2, hrest⟩ := run_split ho
  obtain ⟨cl, g1, g2, g3⟩ := after_return h2
  intro e he
  have := (finished_stays c post o2 o cl hrest g1 g2).1 e he
  exact ⟨this.1, fun hne => this.2 (g3 hne)⟩

/-- after a call returned (whatever it returned) the server receives at most ONE more frame of it -/
theorem C14_late_frame_once (as : List (PConn.Action κ)) (s : PConn.State κ) (pre p1 p2 : List (Ev κ)) (c : Nat) (out : Outcome)
    (ids : List Id) (a : XAns)
    (h : PConn.run (PConn.initB b) as = some (s, pre ++ Ev.ret c out :: (p1 ++ Ev.exec c ids a :: p2))) :
    ∀ e ∈ p2, ∀ ids' a', e ≠ Ev.exec c ids' a' := by
  obtain ⟨o, ho⟩ := C14_conn_refines as s _ h
  obtain ⟨o1, o2, _, h2, hrest⟩ := run_split ho
  obtain ⟨cl, g1, g2, _⟩ := after_return h2
  exact (finished_stays c _ o2 o cl hrest g1 g2).2 p1 p2 ids a rfl

/-- **A context error is returned only to a call whose own context is done**: whenever a call returns
    `context.Canceled` / `DeadlineExceeded`, that call was started and ITS context had become done before —
    never because of some other caller's context (the PREPARE runs on the connection's context). -/
theorem C14_ctx_error_only_if_cancelled (as : List (PConn.Action κ)) (s : PConn.State κ) (pre post : List (Ev κ)) (c : Nat)
    (h : PConn.run (PConn.initB b) as = some (s, pre ++ Ev.ret c .ctxErr :: post)) :
    Ev.cancel c ∈ pre ∧ ∃ b es, Ev.start c b es ∈ pre := by
  obtain ⟨o1, o2, _, hH, hs⟩ := before_event h
  match Obs.Step_of_step hs with
  | .ret (cl := cl) hc hp =>
    obtain ⟨b, hb⟩ := hH.start c cl hc
    exact ⟨hH.canc c hp.1, b, cl.entries, hb⟩

/-- **No schedule crashes** (the nil dereference in evictPreparedID is unreachable). -/
theorem C14_no_crash (as : List (PConn.Action κ)) (s : PConn.State κ) (tr : List (Ev κ))
    (h : PConn.run (PConn.initB b) as = some (s, tr)) : Ev.crash ∉ tr := by
  intro hmem
  obtain ⟨q1, q2, hq⟩ := List.append_of_mem hmem
  rw [hq] at h
  obtain ⟨o1, o2, _, _, hs⟩ := before_event h
  exact nomatch Obs.Step_of_step hs

/-- **No orphan flight.** In every reachable state of every schedule (any callers cancelled at any points), every
    flight that is not done — whether its entry is still cached or not — has an agent whose next step on it is
    enabled: (1) its goroutine has not been started yet: the caller g that published it is still inside
    `prepareStatement` (pc `won`; from there it can do nothing but start the goroutine, see
    `C14_winner_cannot_leave`); (2) started, PREPARE not yet at the server: the server can receive it — it was sent
    on the CONNECTION's context, whatever became of the publishing caller; (3) answered: the flight's goroutine
    completes it (on failure removing the key first). So an in-flight entry is never left to nobody: it is completed
    (and, if it failed, removed) — every later execution that finds it gets its outcome (`C14_no_caller_stuck`). -/
theorem C14_no_orphan_flight (as : List (PConn.Action κ)) (s : PConn.State κ) (tr : List (Ev κ))
    (h : PConn.run (PConn.initB b) as = some (s, tr)) (f : Nat) (fl : PConn.Flight κ) (hf : s.flights[f]? = some fl)
    (hd : fl.done = false) :
    (fl.spawned = false ∧ ∃ g gl, s.callers[g]? = some gl ∧ gl.pc = .won f ∧ (PConn.step s (.spawn g)).isSome = true) ∨
    (fl.spawned = true ∧ fl.ans = none ∧ ∀ r, (PConn.step s (.srvPrepare f r)).isSome = true) ∨
    (fl.spawned = true ∧ fl.ans ≠ none ∧ (PConn.step s (.complete f)).isSome = true) := by
  obtain ⟨_, _, hI, _⟩ := reachable h
  cases hsp : fl.spawned with
  | false =>
    obtain ⟨g, gl, hg, hgp⟩ := hI.unspawned f fl hf hsp
    exact Or.inl ⟨rfl, g, gl, hg, hgp, (Step.spawn hg hgp hf).isSome⟩
  | true =>
    cases ha : fl.ans with
    | none =>
      exact Or.inr (Or.inl ⟨rfl, rfl, fun r => (Step.srvPrepare r hf ⟨ha, hsp⟩).isSome⟩)
    | some r =>
      have hd : ¬ fl.done = true := by simp [hd]
      refine Or.inr (Or.inr ⟨rfl, by simp, ?_⟩)
      cases r with
      | some p => exact (Step.completeOk hf ha hd).isSome
      | none => exact (Step.completeFail hf ha hd).isSome

/-- **No execution is ever stuck, with caller contexts** (what makes a `hang` — watchdog expiry with every frame
    answered and a goroutine blocked inside gocql — a violation): in every reachable state of every schedule —
    cancellations of any callers at any points included — for every call that has not returned, the driver's next
    action of that call is enabled (lookup; start the goroutine of the flight it published; observe the finished
    flight; act on the answer to its frame), or it waits for a flight whose own next action is enabled: the
    publishing caller g starting the flight's goroutine, the server's answer to the PREPARE, the completion by the
    flight's goroutine. Whether the caller's own context is done plays no role. -/
theorem C14_no_caller_stuck (as : List (PConn.Action κ)) (s : PConn.State κ) (tr : List (Ev κ))
    (h : PConn.run (PConn.initB b) as = some (s, tr)) (c : Nat) (cl : Caller κ) (hc : s.callers[c]? = some cl)
    (hp : cl.pc ≠ .returned ∧ cl.pc ≠ .abandoned ∧ cl.pc ≠ .lagging) :
    ∃ a, (PConn.step s a).isSome = true ∧
      (a = .lookup c ∨ a = .spawn c ∨ a = .observe c .ok ∨ a = .finish c ∨
        ∃ f, cl.pc = .waiting f ∧ ((∃ g, a = .spawn g) ∨ a = .srvPrepare f none ∨ a = .complete f)) := by
  obtain ⟨_, _, hI, _⟩ := reachable h
  have hok := hI.callers c cl hc
  have hpcs := hok.pcs
  cases hpc : cl.pc with
  | returned => exact absurd hpc hp.1
  | abandoned => exact absurd hpc hp.2.1
  | lagging => exact absurd hpc hp.2.2
  | start =>
    rw [hpc] at hpcs
    have hlt := hpcs.1
    have he : cl.entries[cl.got.length]? = some cl.entries[cl.got.length] := by simp [hlt]
    cases hck : s.cache (cl.entries[cl.got.length]).1 with
    | none => exact ⟨.lookup c, (Step.miss hc hpc he hck).isSome, Or.inl rfl⟩
    | some g => exact ⟨.lookup c, (Step.hit hc hpc he hck).isSome, Or.inl rfl⟩
  | won f =>
    rw [hpc] at hpcs
    obtain ⟨_, _, fl, e, hf, _, _, _⟩ := hpcs
    exact ⟨.spawn c, (Step.spawn hc hpc hf).isSome, Or.inr (Or.inl rfl)⟩
  | answered a =>
    refine ⟨.finish c, ?_, Or.inr (Or.inr (Or.inr (Or.inl rfl)))⟩
    match a, hpc with
    | .ok, hpc => exact (Step.finishRet (.inl ⟨rfl, rfl⟩) hc hpc).isSome
    | .err, hpc => exact (Step.finishRet (.inr ⟨rfl, rfl⟩) hc hpc).isSome
    | .unprep _, hpc => exact (Step.finishUnprep hc hpc).isSome
  | waiting f =>
    rw [hpc] at hpcs
    obtain ⟨hlt, _, fl, e, hf, he, _, _⟩ := hpcs
    by_cases hd : fl.done = true
    · exact ⟨.observe c .ok, observe_enabled .ok ⟨hc, hpc, hf, he⟩ hd (hI.doneAns f fl hf hd), Or.inr (Or.inr (Or.inl rfl))⟩
    -- otherwise the flight's own next step
    rcases C14_no_orphan_flight as s tr h f fl hf (Bool.of_not_eq_true hd) with ⟨_, g, _, _, _, h⟩ | ⟨_, _, h⟩ | ⟨_, _, h⟩
    · exact ⟨.spawn g, h, Or.inr (Or.inr (Or.inr (Or.inr ⟨f, rfl, Or.inl ⟨g, rfl⟩⟩)))⟩
    · exact ⟨.srvPrepare f none, h none, Or.inr (Or.inr (Or.inr (Or.inr ⟨f, rfl, Or.inr (Or.inl rfl)⟩)))⟩
    · exact ⟨.complete f, h, Or.inr (Or.inr (Or.inr (Or.inr ⟨f, rfl, Or.inr (Or.inr rfl)⟩)))⟩

/-- **With a cache that never purges for capacity, an entry leaves the cache only because its PREPARE failed or the
    server lost the statement.** In every schedule of the machine without capacity evictions (MaxPreparedStmts 0, or
    at least the number of distinct keys), whenever flight f's entry of key k leaves the cache: the server had
    answered PREPARE f of k with an error; or it had answered it PREPARED (id, n) and a call c that was started with
    an entry of k has received an UNPREPARED answer carrying exactly that id. In particular no entry is ever removed
    because some caller's context is done, nor while its PREPARE is still on its way — so, with
    `C14_single_flight_conn`, #PREPARE(k) ≤ 1 + #failed PREPAREs(k) + #UNPREPARED-evictions(k). -/
theorem C14_removal_justified (as : List (PConn.Action κ)) (s : PConn.State κ) (pre post : List (Ev κ)) (k : κ) (f : Nat)
    (h : PConn.run (PConn.initB true) as = some (s, pre ++ Ev.rm k f :: post)) :
    Ev.prep f k none ∈ pre ∨
    ∃ id n c ids bt es, Ev.prep f k (some (id, n)) ∈ pre ∧ Ev.exec c ids (.unprep id) ∈ pre ∧
      Ev.start c bt es ∈ pre ∧ hasKey es k = true := by
  obtain ⟨o1, o2, h1, hH, hs⟩ := before_event h
  have hst : o1.strict = true := obs_run_strict pre _ o1 h1
  match Obs.Step_of_step hs with
  | .rm hj x hx =>
    have hjt : justified o1 k f = true := by
      cases hx' : justified o1 k f with
      | true => rfl
      | false => exact absurd ⟨hst, hx'⟩ hj
    obtain ⟨fl, hf, hwhy⟩ := justified_iff.1 hjt
    have hk : fl.key = k := by
      rcases hx with ⟨hf', _⟩ | ⟨fl', hf', ⟨hk, _⟩, _⟩ <;> rw [hf] at hf' <;> cases hf'
      exact hk
    subst hk
    rcases hwhy with ha | ⟨id, n, ha, cl, hmem, hpc, hkey⟩
    · exact .inl (hH.prep f fl none hf ha)
    · obtain ⟨c, hc⟩ := List.getElem?_of_mem hmem
      obtain ⟨ids, hx⟩ := hH.await c cl _ hc hpc
      obtain ⟨bt, hb⟩ := hH.start c cl hc
      exact .inr ⟨id, n, c, ids, bt, cl.entries, hH.prep f fl _ hf ha, hx, hb, hkey⟩

/-- **Every flight is completed by its own agents.** From every reachable state of every schedule and for every
    flight (cached or not): at most three further steps, each the start of a goroutine, the server receiving PREPARE f
    or the completion of f (`Agent f`; the witness: the publishing caller starts f's goroutine, then these two) — no
    lookup, observation or return of any caller, and no caller's context needs to be live — make it done, with an answer recorded. By `C14_no_orphan_flight` each of these steps is enabled
    whenever it is the next one, in whatever order the rest of the system moves. -/
theorem C14_flight_completes (as : List (PConn.Action κ)) (s : PConn.State κ) (tr : List (Ev κ))
    (h : PConn.run (PConn.initB b) as = some (s, tr)) (f : Nat) (fl : PConn.Flight κ) (hf : s.flights[f]? = some fl) :
    ∃ (as' : List (PConn.Action κ)) (s' : PConn.State κ) (tr' : List (Ev κ)) (fl' : PConn.Flight κ),
      as'.length ≤ 3 ∧ (∀ a ∈ as', Agent f a) ∧ PConn.run s as' = some (s', tr') ∧
      s'.flights[f]? = some fl' ∧ fl'.done = true ∧ fl'.ans ≠ none := by
  obtain ⟨_, _, hI, _⟩ := reachable h
  exact stage1 s hI f fl hf

/-- **Every execution that finds an entry gets its outcome.** From every reachable state in which call c waits for
    flight f (it found the entry, or published it): after those at most three steps of the flight's agents — which
    leave c where it is — c's own next action is enabled: it reads the finished flight (the PREPARE's failure, the
    value-count error, or it goes on to its next entry / sends its frame). Together with `C14_no_orphan_flight`:
    no execution waits for ever behind an entry, whatever happened to the context of the caller that published it. -/
theorem C14_waiter_gets_outcome (as : List (PConn.Action κ)) (s : PConn.State κ) (tr : List (Ev κ))
    (h : PConn.run (PConn.initB b) as = some (s, tr)) (c f : Nat) (cl : Caller κ) (hc : s.callers[c]? = some cl)
    (hpc : cl.pc = .waiting f) :
    ∃ (as' : List (PConn.Action κ)) (s' : PConn.State κ) (tr' : List (Ev κ)),
      as'.length ≤ 3 ∧ (∀ a ∈ as', Agent f a) ∧ PConn.run s as' = some (s', tr') ∧
      s'.callers[c]? = some cl ∧ (PConn.step s' (.observe c .ok)).isSome = true := by
  obtain ⟨_, _, hI, _⟩ := reachable h
  have hpcs := (hI.callers c cl hc).pcs
  rw [hpc] at hpcs
  obtain ⟨_, _, fl, e, hf, he, _, _⟩ := hpcs
  obtain ⟨as', s', tr', fl', g1, g2, g3, g4, g5, g6⟩ := stage1 s hI f fl hf
  have hc' := agents_keep_waiter hpc as' s s' tr' g2 g3 hc
  exact ⟨as', s', tr', g1, g2, g3, hc', observe_enabled .ok ⟨hc', hpc, g4, he⟩ g5 g6⟩

/-- the caller that published a flight cannot leave `prepareStatement` before it has started the flight's
    goroutine: with pc `won` neither the context-error returns nor any other action of that caller is enabled,
    only `spawn` — whether or not its context is done -/
theorem C14_winner_cannot_leave (s : PConn.State κ) (c f : Nat) (cl : Caller κ) (a : XAns)
    (hc : s.callers[c]? = some cl) (hpc : cl.pc = .won f) :
    PConn.step s (.abandon c) = none ∧ PConn.step s (.abandonLate c) = none ∧ PConn.step s (.lookup c) = none ∧
    PConn.step s (.observe c a) = none ∧ PConn.step s (.finish c) = none ∧ PConn.step s (.srvLate c a) = none := by
  refine ⟨?_, ?_, ?_, ?_, ?_, ?_⟩ <;> simp [PConn.step, hc, hpc]

/-- **A caller whose context is done can return its context error** wherever the code selects on `ctx.Done()`
    (waiting for a flight; waiting for the answer to its frame) — and doing so touches neither the cache nor any
    flight: what it leaves behind is owned as before (`C14_no_orphan_flight` holds in the state after). -/
theorem C14_cancelled_can_return (s : PConn.State κ) (c : Nat) (cl : Caller κ)
    (hc : s.callers[c]? = some cl) (hcan : s.cancelled c = true)
    (hpc : (∃ f, cl.pc = .waiting f) ∨ (∃ a, cl.pc = .answered a)) :
    ∃ s', PConn.step s (.abandon c) = some (s', [Ev.ret c .ctxErr]) ∧ s'.cache = s.cache ∧ s'.flights = s.flights := by
  exact ⟨_, step_of_Step (.abandon hc hcan hpc), rfl, rfl⟩

/-- **Re-prepared when lost, on connections.** A query whose EXECUTE was answered UNPREPARED with the id of the cached,
    completed PREPARE of its statement: acting on the answer removes exactly that entry from the cache (event `rm k f`), and the
    retry's lookup then MISSES and publishes a new flight (number `flights.length`) that the caller itself must start
    (pc `won`) - i.e. the driver prepares again; by `C14_id_belongs` the frame it sends afterwards carries an id
    returned by a PREPARE of that statement which had not left the cache when it sent the previous frame, and by
    `C14_waiter_gets_outcome` / `C14_no_caller_stuck` it gets there. (`C14_reprepare` is the same fact about the
    sequential cache protocol.) -/
theorem C14_reprepare_conn (s : PConn.State κ) (c f : Nat) (cl : Caller κ) (fl : PConn.Flight κ) (k : κ) (nv : Nat) (id : Id) (n : Nat)
    (hc : s.callers[c]? = some cl) (hq : cl.batch = false) (hes : cl.entries = [(k, nv)])
    (hpc : cl.pc = .answered (.unprep id)) (hk : s.cache k = some f) (hf : s.flights[f]? = some fl)
    (hd : fl.done = true) (ha : fl.ans = some (some (id, n))) :
    ∃ s1, PConn.step s (.finish c) = some (s1, [Ev.rm k f]) ∧ s1.cache k = none ∧
      ∃ s2, PConn.step s1 (.lookup c) = some (s2, []) ∧ s2.cache k = some s.flights.length ∧
        s2.flights.length = s.flights.length + 1 ∧
        (s2.callers[c]?).map (·.pc) = some (PC.won s.flights.length) := by
  have hclt : c < s.callers.length := (List.getElem?_eq_some_iff.1 hc).1
  let s0 : PConn.State κ := { s with cache := fun k' => if k' = k then none else s.cache k',
                                     flights := s.flights.set f { fl with removed := true } }
  have hue : unprepEvict s cl id = (s0, [Ev.rm k f]) := by
    simp [unprepEvict, unprepKey, hq, hes, evictIfMatch, removeKey, hk, hf, hd, ha, s0]
  have h1 := step_of_Step (.finishUnprep hc hpc)
  rw [hue] at h1
  have hc1 : (setCaller s0 c { cl with got := [], pc := .start }).callers[c]? = some { cl with got := [], pc := .start } :=
    List.getElem?_set_self hclt
  have h2 := step_of_Step (.miss (e := (k, nv)) hc1 rfl (by simp [hes]) (by simp [setCaller, s0]))
  exact ⟨_, h1, by simp [setCaller, s0], _, h2, by simp [setCaller, s0], by simp [setCaller, s0], by simp [setCaller, hclt, s0]⟩

/-- ... and an UNPREPARED answer carrying ANOTHER id than the cached PREPARE's leaves the entry where it is: nothing is
    removed and the retry's lookup finds the same flight again. -/
theorem C14_unprepared_other_id_conn (s : PConn.State κ) (c f : Nat) (cl : Caller κ) (fl : PConn.Flight κ) (k : κ) (nv : Nat) (id id' : Id) (n : Nat)
    (hc : s.callers[c]? = some cl) (hq : cl.batch = false) (hes : cl.entries = [(k, nv)])
    (hpc : cl.pc = .answered (.unprep id)) (hk : s.cache k = some f) (hf : s.flights[f]? = some fl)
    (hd : fl.done = true) (ha : fl.ans = some (some (id', n))) (hne : id ≠ id') :
    ∃ s1, PConn.step s (.finish c) = some (s1, []) ∧ s1.cache = s.cache ∧ s1.flights = s.flights ∧
      ∃ s2, PConn.step s1 (.lookup c) = some (s2, []) ∧ s2.cache = s.cache ∧
        (s2.callers[c]?).map (·.pc) = some (PC.waiting f) := by
  have hclt : c < s.callers.length := (List.getElem?_eq_some_iff.1 hc).1
  have hue : unprepEvict s cl id = (s, []) := by
    simp [unprepEvict, unprepKey, hq, hes, evictIfMatch, hk, hf, hd, ha, hne]
  have h1 := step_of_Step (.finishUnprep hc hpc)
  rw [hue] at h1
  refine ⟨_, h1, rfl, rfl, ?_⟩
  have hc1 : (setCaller s c { cl with got := [], pc := .start }).callers[c]? = some { cl with got := [], pc := .start } :=
    List.getElem?_set_self hclt
  have h2 := step_of_Step (.hit (e := (k, nv)) hc1 rfl (by simp [hes]) hk)
  exact ⟨_, h2, rfl, by simp [setCaller, hclt]⟩

/-! ### the connection-level machine with the REAL cache (`PLru`: internal/lru instead of a finite map + environment evictions) -/

/-- **Every schedule of the machine with the real LRU cache is a schedule of `PConn`** (the LRU's purges being
    `PConn`'s `evict` actions) **with the same trace** - so the specification accepts it, and every theorem of this
    section about `PConn` schedules (ids and metadata belong to the statement, single flight, failures not cached,
    value count, contexts, no crash, ...) holds for every interleaving of executions over the real cache, for every
    capacity (0 = unbounded, 1, ..., negative as coded). -/
theorem C14_conn_lru_refines (cap : Int) (as : List (PLru.Action κ)) (s : PLru.State κ) (tr : List (Ev κ))
    (h : PLru.run (PLru.init cap) as = some (s, tr)) :
    (∃ as' : List (PConn.Action κ), PConn.run PConn.init as' = some (s.p, tr)) ∧
    ∃ o, Obs.run (Obs.init : OState κ) tr = some o := by
  obtain ⟨_, _, _, as', h'⟩ := C14ConnLRU.reach h
  exact ⟨⟨as', h'⟩, C14_conn_refines (b := false) as' s.p tr h'⟩

/-- **The cache never exceeds its configured size, in any interleaving** - callers, flights' goroutines, server answers,
    cancellations and UNPREPARED evictions interleaved arbitrarily over the real LRU: keys are unique, a positive
    capacity is respected at every point, and the LRU holds exactly the entries of the finite-map cache the other
    theorems speak about (same key ↦ same flight), so an entry purged while its PREPARE is in flight is an `evict` of
    `PConn` and nothing else ever leaves. -/
theorem C14_conn_lru_bound (cap : Int) (as : List (PLru.Action κ)) (s : PLru.State κ) (tr : List (Ev κ))
    (h : PLru.run (PLru.init cap) as = some (s, tr)) :
    s.lru.keys.Nodup ∧ s.lru.cap = cap ∧ (0 < cap → (s.lru.len : Int) ≤ cap) ∧ ∀ k, s.p.cache k = s.lru.find k := by
  obtain ⟨hL, hS, hc, _⟩ := C14ConnLRU.reach h
  exact ⟨hL.nodup, hc, fun hp => by have := hL.bound (by rw [hc]; exact hp); rw [hc] at this; exact this, hS⟩

/-- **The machine with the real cache refuses no step**: in every reachable state, whatever the finite-map machine
    can do next (any caller's lookup, spawn, observe, finish, abort; any flight's completion; any server answer) the
    machine over the real LRU can do too - in particular a lookup that misses on a full cache always finds the LRU's
    victim in the cache and purges it. So `PLru` is `PConn` with the evictions DETERMINED by the LRU, nothing less. -/
theorem C14_conn_lru_progress (cap : Int) (as : List (PLru.Action κ)) (s : PLru.State κ) (tr : List (Ev κ))
    (h : PLru.run (PLru.init cap) as = some (s, tr)) (a : PLru.Action κ)
    (ha : (PConn.step s.p a.toP).isSome = true) : (PLru.step s a).isSome = true := by
  obtain ⟨hL, hS, _, as', h'⟩ := C14ConnLRU.reach h
  have hst : s.p.strict = false := by rw [C14Conn.run_strict as' _ _ _ h']; rfl
  exact C14ConnLRU.step_progress s a hL hS hst ha

/-- non-vacuity: cache of ONE entry, two statements. Call 0 publishes the flight of statement 7; call 1 looks up
    statement 8: the LRU purges 7 while its PREPARE is still in flight (R:7:0), both PREPAREs are answered, both
    calls execute with their own ids; then call 2 executes 7 again: not cached, a second PREPARE of 7 (flight 2)
    purges 8. The cache holds one entry at the end. -/
example :
    ((PLru.run (PLru.init 1 : PLru.State Nat)
      [.call false [(7, 1)], .lookup 0, .call false [(8, 1)], .lookup 1, .spawn 0, .spawn 1,
       .srvPrepare 0 (some ([1], 1)), .srvPrepare 1 (some ([2], 1)), .complete 0, .complete 1,
       .observe 0 .ok, .observe 1 .ok, .finish 0, .finish 1,
       .call false [(7, 1)], .lookup 2, .spawn 2, .srvPrepare 2 (some ([3], 1)), .complete 2, .observe 2 .ok, .finish 2]).map
        fun r => (r.2, r.1.lru.items)) =
    some ([.start 0 false [(7, 1)], .start 1 false [(8, 1)], .rm 7 0, .prep 0 7 (some ([1], 1)), .prep 1 8 (some ([2], 1)),
           .exec 0 [[1]] .ok, .exec 1 [[2]] .ok, .ret 0 .ok, .ret 1 .ok,
           .start 2 false [(7, 1)], .rm 8 1, .prep 2 7 (some ([3], 1)), .exec 2 [[3]] .ok, .ret 2 .ok], [(7, 2)]) := by decide

/-- a hit promotes: capacity 2, statements 7 and 8 cached, 7 executed again, then 9 arrives: 8 (least recently USED) goes -/
example :
    ((PLru.run (PLru.init 2 : PLru.State Nat)
      [.call false [(7, 0)], .lookup 0, .spawn 0, .srvPrepare 0 (some ([1], 0)), .complete 0, .observe 0 .ok, .finish 0,
       .call false [(8, 0)], .lookup 1, .spawn 1, .srvPrepare 1 (some ([2], 0)), .complete 1, .observe 1 .ok, .finish 1,
       .call false [(7, 0)], .lookup 2, .observe 2 .ok, .finish 2,
       .call false [(9, 0)], .lookup 3]).map fun r => r.1.lru.items) = some [(9, 2), (7, 0)] := by decide

/-- there is no environment eviction in this machine, and UNPREPARED with the cached id removes the entry from the LRU -/
example :
    ((PLru.run (PLru.init 2 : PLru.State Nat)
      [.call false [(7, 0)], .lookup 0, .spawn 0, .srvPrepare 0 (some ([1], 0)), .complete 0, .observe 0 (.unprep [1]), .finish 0]).map
        fun r => (r.2, r.1.lru.items)) =
    some ([.start 0 false [(7, 0)], .prep 0 7 (some ([1], 0)), .exec 0 [[1]] (.unprep [1]), .rm 7 0], []) := by decide

/-- two executions of one uncached statement, one PREPARE, both execute with its id -/
example :
    (PConn.run (PConn.init : PConn.State Nat)
      [.call false [(7, 1)], .call false [(7, 1)], .lookup 0, .lookup 1, .spawn 0, .srvPrepare 0 (some ([0xAA], 1)), .complete 0,
       .observe 1 .ok, .observe 0 .ok, .finish 0, .finish 1]).map (·.2) =
    some [.start 0 false [(7, 1)], .start 1 false [(7, 1)], .prep 0 7 (some ([0xAA], 1)), .exec 1 [[0xAA]] .ok,
          .exec 0 [[0xAA]] .ok, .ret 0 .ok, .ret 1 .ok] := by decide

/-- UNPREPARED: evict, prepare again, execute with the new id; a failing PREPARE is reported to both
    waiters after its entry left the cache; a wrong value count sends nothing -/
example :
    (PConn.run (PConn.init : PConn.State Nat)
      [.call false [(7, 1)], .lookup 0, .spawn 0, .srvPrepare 0 (some ([0xAA], 1)), .complete 0, .observe 0 (.unprep [0xAA]), .finish 0,
       .lookup 0, .spawn 0, .call false [(7, 1)], .lookup 1, .srvPrepare 1 none, .complete 1, .observe 0 .ok, .observe 1 .ok,
       .call false [(7, 2)], .lookup 2, .spawn 2, .srvPrepare 2 (some ([0xAB], 1)), .complete 2, .observe 2 .ok]).map (·.2) =
    some [.start 0 false [(7, 1)], .prep 0 7 (some ([0xAA], 1)), .exec 0 [[0xAA]] (.unprep [0xAA]), .rm 7 0,
          .start 1 false [(7, 1)], .prep 1 7 none, .rm 7 1, .ret 0 (.prepErr 1), .ret 1 (.prepErr 1),
          .start 2 false [(7, 2)], .prep 2 7 (some ([0xAB], 1)), .ret 2 .countErr] := by decide

/-- the histories the seeded defects produce are rejected by the specification: a failure reported while its
    entry is still cached (close(done) before remove), a failure served to a later execution, a hang -/
example : (Obs.run (Obs.init : OState Nat) [.start 0 false [(7, 1)], .prep 0 7 none, .ret 0 (.prepErr 0)]).isNone = true := by decide
example : (Obs.run (Obs.init : OState Nat) [.start 0 false [(7, 1)], .prep 0 7 none, .rm 7 0, .ret 0 (.prepErr 0),
    .start 1 false [(7, 1)], .ret 1 (.prepErr 0)]).isNone = true := by decide
example : (Obs.run (Obs.init : OState Nat) [.start 0 false [(7, 1)], .prep 0 7 none, .hang 0]).isNone = true := by decide
/-- a second PREPARE while the entry is cached; an id of another statement; a wrong value count on the wire -/
example : (Obs.run (Obs.init : OState Nat) [.start 0 false [(7, 1)], .start 1 false [(7, 1)], .prep 0 7 (some ([1], 1)),
    .prep 1 7 (some ([2], 1))]).isNone = true := by decide
example : (Obs.run (Obs.init : OState Nat) [.start 0 false [(7, 1)], .start 1 false [(8, 1)], .prep 0 7 (some ([1], 1)),
    .prep 1 8 (some ([2], 1)), .exec 0 [[2]] .ok]).isNone = true := by decide
example : (Obs.run (Obs.init : OState Nat) [.start 0 false [(7, 2)], .prep 0 7 (some ([1], 1)), .exec 0 [[1]] .ok]).isNone = true := by decide

/-- the winner's context is done before it even looks the statement up: it publishes the flight, starts the
    goroutine, returns its context error; the PREPARE reaches the server after that; a later execution with a live
    context finds the entry and executes with the id — one PREPARE, nobody stuck -/
example :
    (PConn.run (PConn.init : PConn.State Nat)
      [.call false [(7, 1)], .cancel 0, .lookup 0, .spawn 0, .abandon 0, .call false [(7, 1)], .lookup 1,
       .srvPrepare 0 (some ([0xAA], 1)), .complete 0, .observe 1 .ok, .finish 1]).map (·.2) =
    some [.start 0 false [(7, 1)], .cancel 0, .ret 0 .ctxErr, .start 1 false [(7, 1)], .prep 0 7 (some ([0xAA], 1)),
          .exec 1 [[0xAA]] .ok, .ret 1 .ok] := by decide

/-- a caller at pc `won` cannot return: the schedule in which the cancelled winner gives up BEFORE starting the
    goroutine (the behaviour of an early `ctx.Err()` return placed after `execIfMissing`) is not a schedule -/
example :
    (PConn.run (PConn.init : PConn.State Nat) [.call false [(7, 1)], .cancel 0, .lookup 0, .abandon 0]).isNone = true := by decide

/-- a waiter whose context fires while the PREPARE is at the server returns its context error; the winner and a
    later caller are served; the frame a cancelled caller had just written arrives after its return -/
example :
    (PConn.run (PConn.init : PConn.State Nat)
      [.call false [(7, 1)], .lookup 0, .spawn 0, .call false [(7, 1)], .lookup 1, .cancel 1, .abandon 1,
       .srvPrepare 0 (some ([0xAA], 1)), .complete 0, .cancel 0, .abandonLate 0, .srvLate 0 .ok]).map (·.2) =
    some [.start 0 false [(7, 1)], .start 1 false [(7, 1)], .cancel 1, .ret 1 .ctxErr, .prep 0 7 (some ([0xAA], 1)),
          .cancel 0, .ret 0 .ctxErr, .exec 0 [[0xAA]] .ok] := by decide

/-- the specification rejects: a context error to a call whose context is live (e.g. the PREPARE run on the
    winner's context and its failure handed to the waiters); the history an orphaned entry produces (the cancelled
    winner returns, the next execution never does); a second late frame; a frame after a result -/
example : (Obs.run (Obs.init : OState Nat) [.start 0 false [(7, 1)], .start 1 false [(7, 1)], .cancel 0, .ret 0 .ctxErr,
    .ret 1 .ctxErr]).isNone = true := by decide
example : (Obs.run (Obs.init : OState Nat) [.start 0 false [(7, 1)], .cancel 0, .ret 0 .ctxErr, .start 1 false [(7, 1)],
    .hang 1]).isNone = true := by decide
example : (Obs.run (Obs.init : OState Nat) [.start 0 false [(7, 1)], .prep 0 7 (some ([1], 1)), .cancel 0, .ret 0 .ctxErr,
    .exec 0 [[1]] .ok, .exec 0 [[1]] .ok]).isNone = true := by decide
example : (Obs.run (Obs.init : OState Nat) [.start 0 false [(7, 1)], .prep 0 7 (some ([1], 1)), .exec 0 [[1]] .ok, .ret 0 .ok,
    .exec 0 [[1]] .ok]).isNone = true := by decide
/-- … and accepts the PREPARE that arrives after the cancelled winner has returned -/
example : (Obs.run (Obs.init : OState Nat) [.start 0 false [(7, 1)], .cancel 0, .ret 0 .ctxErr,
    .prep 0 7 (some ([1], 1))]).isSome = true := by decide

/-- a cache that never purges: the entry of a flight whose PREPARE is still on its way cannot leave the cache — the
    history in which a cancelled caller "cleans up" the in-flight entry (and the next execution prepares again) is
    rejected by the strict specification, accepted by the lax one (where it could have been a capacity eviction) -/
example : (Obs.run (Obs.initB true : OState Nat) [.start 0 false [(7, 1)], .start 1 false [(7, 1)], .cancel 1, .rm 7 0]).isNone = true := by decide
example : (Obs.run (Obs.initB true : OState Nat) [.start 0 false [(7, 1)], .prep 0 7 (some ([1], 1)), .start 1 false [(7, 1)], .cancel 1,
    .rm 7 0, .ret 1 .ctxErr]).isNone = true := by decide
example : (Obs.run (Obs.initB false : OState Nat) [.start 0 false [(7, 1)], .prep 0 7 (some ([1], 1)), .start 1 false [(7, 1)], .cancel 1,
    .rm 7 0, .ret 1 .ctxErr]).isSome = true := by decide
/-- … and it accepts the two legitimate removals: the failed PREPARE, the UNPREPARED answer with the cached id -/
example : (Obs.run (Obs.initB true : OState Nat) [.start 0 false [(7, 1)], .prep 0 7 none, .rm 7 0, .ret 0 (.prepErr 0),
    .start 1 false [(7, 1)], .prep 1 7 (some ([1], 1)), .exec 1 [[1]] (.unprep [1]), .rm 7 1]).isSome = true := by decide
/-- the strict machine has no capacity eviction -/
example : (PConn.run (PConn.initB true : PConn.State Nat) [.call false [(7, 1)], .lookup 0, .evict 7]).isNone = true := by decide

end Conn

end C14
