import Proofs.C12Bytes
import Model.Marshal
/-!
# C12: collection framing — list / set elements and tuple fields (structural step: element theorems as hypotheses)

The length fields; `consItem`, the one step all loops and `wrapSeq` share (`*_cons`); the steps under `AllOK` / `FieldsOK`.
-/
namespace C12Coll
open ValueSpec Marshal C12Bytes

/-- "the element is marshalled as the specification says": a nil encoding exactly for null, otherwise the spec bytes -/
def ElemOK (p : Nat) (et : CqlTy) (v : GoVal) (c : CqlVal) : Prop :=
  (marshal p et v = .ok none ∧ c.isNull = true) ∨
  (∃ b, marshal p et v = .ok (some b) ∧ c.isNull = false ∧ specEnc p et c = some b)

inductive AllOK (p : Nat) (et : CqlTy) : List GoVal → List CqlVal → Prop
  | nil : AllOK p et [] []
  | cons {v c vs cs} : ElemOK p et v c → AllOK p et vs cs → AllOK p et (v :: vs) (c :: cs)

theorem collSize_v3 (n : Nat) (h : n < 2^31) : collSize 3 n = some (tcEnc 4 n) := by
  have : ¬ ((n:Int) > 2147483647) := by omega
  simp [collSize, this, encInt_eq, tcEnc_toS32]

theorem collSize_eq (p : Nat) (hp : p ≥ 3) (n : Int) : collSize p n = collSize 3 n := by
  have h1 : p > 2 := by omega
  simp [collSize, h1]

theorem collItem_null_v3 : collItem 3 none = some [255, 255, 255, 255] := by decide

/-- a pointer, nil or not: what `marshal`, `interp`, `documented`, `excluded` look through before anything else -/
def isPtr : GoVal → Bool
  | .nilptr | .ptr _ => true
  | _ => false

theorem marshal_scalarTy (p : Nat) {t : CqlTy} (ht : Marshal.CqlTy.isScalar t = true) {g : GoVal}
    (hg : isPtr g = false) : marshal p t g = marshalScalar t g := by
  rw [marshal.eq_def]
  split
  · cases hg
  · cases hg
  · cases t <;> first | rfl | cases ht

theorem collSize_v2 (p : Nat) (hp : p ≤ 2) (n : Nat) :
    collSize p n = if n ≤ 65535 then some (beBytes 2 n) else none := by
  have h1 : ¬ p > 2 := by omega
  simp only [collSize, h1, if_false]
  by_cases h : n ≤ 65535
  · have : ¬ ((n:Int) > 65535) := by omega
    rw [if_neg this, if_pos h, encShort_toS16 n (by omega)]
  · have : ((n:Int) > 65535) := by omega
    rw [if_pos this, if_neg h]

theorem collSize_count (p : Nat) (n : Nat) : collSize p (n:Int) = countFrame p n := by
  by_cases hp : p ≥ 3
  · have hp2 : p > 2 := by omega
    simp only [collSize, countFrame, hp2, hp, if_true]
    by_cases h : n < 2^31
    · rw [if_neg (by omega), if_pos h, encInt_nat n (by omega)]
    · rw [if_pos (by omega), if_neg h]
  · rw [collSize_v2 p (by omega)]
    simp only [countFrame, hp, if_false]
    by_cases h : n ≤ 65535
    · rw [if_pos h, if_pos (by omega)]
    · rw [if_neg h, if_neg (by omega)]

theorem collItem_some (p : Nat) (b : Bytes) : collItem p (some b) = elemFrame p (some b) := by
  by_cases hp : p ≥ 3
  · have hp2 : p > 2 := by omega
    simp only [collItem, collSize, elemFrame, hp2, hp, if_true]
    by_cases h : b.length < 2^31
    · rw [if_neg (by omega), if_pos h, encInt_eq, tcEnc_toS32]; rfl
    · rw [if_pos (by omega), if_neg h]; rfl
  · simp only [collItem, collSize_v2 p (by omega), elemFrame, hp, if_false]
    by_cases h : b.length ≤ 65535
    · rw [if_pos h, if_pos (by omega)]; rfl
    · rw [if_neg h, if_neg (by omega)]; rfl

theorem collItem_none (p : Nat) (hp : p ≥ 3) : collItem p none = some [255, 255, 255, 255] := by
  rw [collItem, if_pos (by omega), collSize_eq p hp]; rfl

/-! ## the step all loops share

marshalList, marshalMap, marshalTuple and marshalUDT each walk their items the same way: marshal the item, write it
with `f` (a collection item with its length, a field through appendBytes), put that in front of what the rest gives;
the first failure ends the walk.  `wrapSeq` puts the count in front in the same way. -/

def consItem (f : Option Bytes → Option Bytes) (r rr : MRes) : MRes :=
  match r with
  | .ok item => (match f item with
      | none => .err
      | some e => (match rr with
          | .ok (some rest) => .ok (some (e ++ rest))
          | other => other))
  | other => other

theorem consItem_ok {f : Option Bytes → Option Bytes} {r rr : MRes} {ob : Option Bytes} (h : consItem f r rr = .ok ob) :
    ∃ item e orest, r = .ok item ∧ f item = some e ∧ rr = .ok orest ∧ ob = orest.map (e ++ ·) := by
  unfold consItem at h
  cases r with
  | ok item =>
    simp only [] at h
    cases hf : f item with
    | none => rw [hf] at h; cases h
    | some e =>
      rw [hf] at h
      rcases rr with (_ | rest) | _ | _ | _ <;> cases h <;> exact ⟨_, _, _, rfl, hf, rfl, rfl⟩
  | _ => cases h

theorem consItem_some {f : Option Bytes → Option Bytes} {r rr : MRes} {b : Bytes} (h : consItem f r rr = .ok (some b)) :
    ∃ item e rest, r = .ok item ∧ f item = some e ∧ rr = .ok (some rest) ∧ b = e ++ rest := by
  obtain ⟨item, e, orest, hr, hf, hrr, ho⟩ := consItem_ok h
  cases orest with
  | none => cases ho
  | some rest => cases ho; exact ⟨item, e, rest, hr, hf, hrr, rfl⟩

theorem consItem_ne_none {f : Option Bytes → Option Bytes} {r rr : MRes} (h : rr ≠ .ok none) :
    consItem f r rr ≠ .ok none := fun hc => by
  obtain ⟨_, _, orest, _, _, hrr, ho⟩ := consItem_ok hc
  cases orest with
  | none => exact h hrr
  | some _ => cases ho

theorem marshalElems_cons (p : Nat) (et : CqlTy) (v : GoVal) (vs : List GoVal) :
    marshalElems p et (v :: vs) = consItem (collItem p) (marshal p et v) (marshalElems p et vs) := by
  rw [marshalElems]
  unfold consItem
  generalize marshal p et v = r
  cases r with
  | ok item => simp only []; generalize collItem p item = o; cases o <;> rfl
  | _ => rfl

theorem marshalPairs_cons (p : Nat) (kt vt : CqlTy) (k v : GoVal) (r : List (GoVal × GoVal)) :
    marshalPairs p kt vt ((k, v) :: r) =
      consItem (collItem p) (marshal p kt k) (consItem (collItem p) (marshal p vt v) (marshalPairs p kt vt r)) := by
  rw [marshalPairs]
  unfold consItem
  generalize marshal p kt k = rk
  cases rk with
  | ok ki =>
    simp only []
    generalize collItem p ki = ok
    cases ok with
    | none => rfl
    | some ke =>
      simp only []
      generalize marshal p vt v = rv
      cases rv with
      | ok vi =>
        simp only []
        generalize collItem p vi = ov
        cases ov with
        | none => rfl
        | some ve => rcases marshalPairs p kt vt r with (_ | rest) | _ | _ | _ <;> simp only [List.append_assoc]
      | _ => rfl
  | _ => rfl

theorem marshalTupleIfaces_cons (p : Nat) (t : CqlTy) (ts : List CqlTy) (v : GoVal) (vs : List GoVal) :
    marshalTupleIfaces p (t :: ts) (v :: vs) = consItem (fun item => some (appendBytes item))
      (if v.isNil = true then .ok none else marshal p t v) (marshalTupleIfaces p ts vs) := by
  rw [marshalTupleIfaces]; unfold consItem
  generalize (if v.isNil = true then MRes.ok none else marshal p t v) = r
  cases r <;> rfl

theorem marshalTupleFields_cons (p : Nat) (t : CqlTy) (ts : List CqlTy) (v : GoVal) (vs : List GoVal) :
    marshalTupleFields p (t :: ts) (v :: vs) = consItem (fun item => some (appendBytes item))
      (if v.isNilPtr = true then .ok none else marshal p t v) (marshalTupleFields p ts vs) := by
  rw [marshalTupleFields]; unfold consItem
  generalize (if v.isNilPtr = true then MRes.ok none else marshal p t v) = r
  cases r <;> rfl

theorem wrapSeq_eq (p n : Nat) (r : MRes) : wrapSeq p n r = consItem (fun _ => collSize p n) (.ok none) r := by
  unfold wrapSeq consItem
  simp only []
  generalize collSize p n = o
  cases o <;> rfl

/-- `seqItems` (marshalUDT's walk) has one more case, a rest that is the nil slice, which does not occur -/
theorem seqItems_step (f : Option Bytes → Option Bytes) (r : MRes) (rs : List MRes) :
    seqItems f (r :: rs) ≠ .ok none ∧
      (seqItems f rs ≠ .ok none → seqItems f (r :: rs) = consItem f r (seqItems f rs)) := by
  simp only [seqItems, consItem]
  generalize seqItems f rs = rr
  cases r with
  | ok item =>
    simp only []
    generalize f item = o
    cases o with
    | none => exact ⟨nofun, fun _ => rfl⟩
    | some e => rcases rr with (_ | rest) | _ | _ | _ <;> exact ⟨nofun, fun h => by first | rfl | exact absurd rfl h⟩
  | _ => exact ⟨nofun, fun _ => rfl⟩

theorem seqItems_ne_none (f : Option Bytes → Option Bytes) : ∀ rs, seqItems f rs ≠ .ok none
  | [] => nofun
  | r :: rs => (seqItems_step f r rs).1

theorem seqItems_cons (f : Option Bytes → Option Bytes) (r : MRes) (rs : List MRes) :
    seqItems f (r :: rs) = consItem f r (seqItems f rs) := (seqItems_step f r rs).2 (seqItems_ne_none f rs)

theorem marshalElems_ne_none (p : Nat) (et : CqlTy) : ∀ vs, marshalElems p et vs ≠ .ok none
  | [] => nofun
  | v :: vs => by rw [marshalElems_cons]; exact consItem_ne_none (marshalElems_ne_none p et vs)

theorem marshalPairs_ne_none (p : Nat) (kt vt : CqlTy) : ∀ kvs, marshalPairs p kt vt kvs ≠ .ok none
  | [] => nofun
  | (k, v) :: r => by
    rw [marshalPairs_cons]; exact consItem_ne_none (consItem_ne_none (marshalPairs_ne_none p kt vt r))

theorem marshalTupleFields_ne_none (p : Nat) : ∀ ts vs, marshalTupleFields p ts vs ≠ .ok none
  | [], _ => by simp [marshalTupleFields]
  | _ :: _, [] => by simp [marshalTupleFields]
  | t :: ts, v :: vs => by
    rw [marshalTupleFields_cons]; exact consItem_ne_none (marshalTupleFields_ne_none p ts vs)

theorem wrapSeq_ne_none {p n : Nat} {r : MRes} (h : r ≠ .ok none) : wrapSeq p n r ≠ .ok none := by
  rw [wrapSeq_eq]; exact consItem_ne_none h

theorem wrapSeq_ok {p n : Nat} {r : MRes} {b : Bytes} (h : wrapSeq p n r = .ok (some b)) :
    ∃ c body, countFrame p n = some c ∧ r = .ok (some body) ∧ b = c ++ body := by
  rw [wrapSeq_eq, collSize_count] at h
  obtain ⟨_, c, body, _, hc, hr, hb⟩ := consItem_some h
  exact ⟨c, body, hc, hr, hb⟩

theorem wrapTuple_ok {ts : List CqlTy} {r : MRes} {b : Bytes} (h : wrapTuple ts r = .ok (some b)) : r = .ok (some b) := by
  unfold wrapTuple at h
  split at h
  · cases h
  · exact h

theorem AllOK_length {p : Nat} {et : CqlTy} {vs : List GoVal} {cs : List CqlVal} (h : AllOK p et vs cs) :
    vs.length = cs.length := by
  induction h with
  | nil => rfl
  | cons _ _ ih => simp [ih]

/-- marshalList's loop over the elements writes exactly the specification's element frames — 4-byte length and −1 for
    null from protocol 3, 2-byte unsigned length before (`hnn`: that framing has no null) — given that every element
    is marshalled as the specification says -/
theorem marshalElems_spec (p : Nat) (et : CqlTy) :
    ∀ (vs : List GoVal) (cs : List CqlVal) (body : Bytes),
      AllOK p et vs cs → (p ≤ 2 → ∀ c ∈ cs, c.isNull = false) →
      marshalElems p et vs = .ok (some body) → specEncElems p et cs = some body := by
  intro vs cs body hf
  induction hf generalizing body with
  | nil => intro _ h; cases h; rfl
  | @cons v c vs cs' hv hrest ih =>
    intro hnn h
    obtain ⟨item, e, rest, hm, hc, hr, rfl⟩ := consItem_some ((marshalElems_cons p et v vs).symm.trans h)
    have ih := ih rest (fun hp c hc => hnn hp c (List.mem_cons_of_mem _ hc)) hr
    have he : elemOrNull p c.isNull (specEnc p et c) = some e := by
      rcases hv with ⟨hm', hnull⟩ | ⟨b, hm', hnn', hs⟩ <;> rw [hm'] at hm <;> cases hm
      · have hp : p ≥ 3 := by
          refine Nat.le_of_not_lt fun hp => ?_
          rw [hnn (by omega) c List.mem_cons_self] at hnull
          cases hnull
        rw [collItem_none p hp] at hc
        cases hc
        simp [elemOrNull, hnull, elemFrame, hp]
      · rw [collItem_some] at hc
        simp [elemOrNull, hnn', hs, hc]
    simp [specEncElems, he, ih]

theorem marshalList_spec (p : Nat) (et : CqlTy) (vs : List GoVal) (cs : List CqlVal) (b : Bytes)
    (hall : AllOK p et vs cs) (hnn : p ≤ 2 → ∀ c ∈ cs, c.isNull = false)
    (h : wrapSeq p vs.length (marshalElems p et vs) = .ok (some b)) :
    specEnc p (.list et) (.list cs) = some b := by
  obtain ⟨c, body, hc, hr, rfl⟩ := wrapSeq_ok h
  rw [AllOK_length hall] at hc
  simp [specEnc, hc, marshalElems_spec p et vs cs body hall hnn hr]

/-! ## tuples: every field through appendBytes (after the repairs of KF-C12-6 / KF-C12-7) -/

def FieldOK (p : Nat) (viaIface : Bool) (t : CqlTy) (v : GoVal) (c : CqlVal) : Prop :=
  (viaIface = true ∧ v = .nil ∧ c.isNull = true) ∨
  (marshal p t v = .ok none ∧ c.isNull = true) ∨
  (∃ b, marshal p t v = .ok (some b) ∧ b.length < 2^31 ∧ c.isNull = false ∧ specEnc p t c = some b)

inductive FieldsOK (p : Nat) (viaIface : Bool) : List CqlTy → List GoVal → List CqlVal → Prop
  | nil : FieldsOK p viaIface [] [] []
  | cons {t v c ts vs cs} : FieldOK p viaIface t v c → FieldsOK p viaIface ts vs cs →
      FieldsOK p viaIface (t :: ts) (v :: vs) (c :: cs)

theorem appendBytes_null : appendBytes none = [255, 255, 255, 255] := by decide

theorem appendBytes_some (b : Bytes) : appendBytes (some b) = tcEnc 4 b.length ++ b := by
  simp [appendBytes, encInt_eq, tcEnc_toS32]

theorem marshal_nil_not_some (p : Nat) (t : CqlTy) (b : Bytes) : marshal p t .nil ≠ .ok (some b) := by
  cases t <;> simp [marshal, marshalScalar, marshalVarcharColumn, marshalIntColumn, marshalVarintColumn]

theorem isNil_eq {v : GoVal} (h : v.isNil = true) : v = .nil := by
  cases v <;> simp [GoVal.isNil] at h ⊢
theorem isNilPtr_eq {v : GoVal} (h : v.isNilPtr = true) : v = .nilptr := by
  cases v <;> simp [GoVal.isNilPtr] at h ⊢

/-- one step of marshalTuple's loop, both source shapes (`sel` = the test that writes −1 without calling Marshal:
    `elem == nil` for []interface{}, a nil pointer field otherwise): the field's `[bytes]` in front of the rest -/
theorem field_step {p : Nat} {viaIface : Bool} {t : CqlTy} {ts : List CqlTy} {v : GoVal} {c : CqlVal} {cs : List CqlVal}
    {rr : MRes} {body : Bytes} (hf : FieldOK p viaIface t v c)
    (sel : GoVal → Bool) (hsel : ∀ v, sel v = true → (viaIface = true ∧ v = .nil) ∨ v = .nilptr)
    (hnil : viaIface = true → sel .nil = true)
    (ih : ∀ rest, rr = .ok (some rest) → specEncFields p ts cs = some rest)
    (h : consItem (fun item => some (appendBytes item)) (if sel v = true then MRes.ok none else marshal p t v) rr =
      .ok (some body)) :
    specEncFields p (t :: ts) (c :: cs) = some body := by
  have key : ∀ item, (if sel v = true then MRes.ok none else marshal p t v) = .ok item →
      fieldOrNull c.isNull (specEnc p t c) = some (appendBytes item) := by
    intro item hi
    rcases hf with ⟨hvi, hv, hc⟩ | ⟨hm, hc⟩ | ⟨b, hm, hl, hc, hs⟩
    · subst hv
      rw [if_pos (hnil hvi)] at hi
      cases hi
      simp [fieldOrNull, hc, bytesFrame, appendBytes_null]
    · have : item = none := by
        split at hi
        · cases hi; rfl
        · rw [hm] at hi; cases hi; rfl
      subst this
      simp [fieldOrNull, hc, bytesFrame, appendBytes_null]
    · have : ¬ sel v = true := by
        intro hs'
        rcases hsel v hs' with ⟨_, hv⟩ | hv
        · subst hv; exact marshal_nil_not_some p t b hm
        · subst hv; simp [marshal] at hm
      rw [if_neg this, hm] at hi
      cases hi
      simp [fieldOrNull, hc, hs, hl, bytesFrame, appendBytes_some]
  obtain ⟨item, e, rest, hi, he, hr, rfl⟩ := consItem_some h
  cases he
  simp [specEncFields, key item hi, ih rest hr]

theorem marshalTupleIfaces_spec (p : Nat) (ts : List CqlTy) (vs : List GoVal) (cs : List CqlVal) (body : Bytes)
    (hf : FieldsOK p true ts vs cs) (h : marshalTupleIfaces p ts vs = .ok (some body)) : specEncFields p ts cs = some body := by
  induction hf generalizing body with
  | nil => cases h; rfl
  | cons hv _ ih =>
    rw [marshalTupleIfaces_cons] at h
    exact field_step hv GoVal.isNil (fun v hv => .inl ⟨rfl, isNil_eq hv⟩) (fun _ => rfl) ih h

theorem marshalTupleFields_spec (p : Nat) (ts : List CqlTy) (vs : List GoVal) (cs : List CqlVal) (body : Bytes)
    (hf : FieldsOK p false ts vs cs) (h : marshalTupleFields p ts vs = .ok (some body)) : specEncFields p ts cs = some body := by
  induction hf generalizing body with
  | nil => cases h; rfl
  | cons hv _ ih =>
    rw [marshalTupleFields_cons] at h
    exact field_step hv GoVal.isNilPtr (fun v hv => .inr (isNilPtr_eq hv)) (fun h => by cases h) ih h

theorem FieldsOK_length {p : Nat} {vi : Bool} {ts : List CqlTy} {vs : List GoVal} {cs : List CqlVal}
    (h : FieldsOK p vi ts vs cs) : vs.length = ts.length := by
  induction h with
  | nil => rfl
  | cons _ _ ih => simp [ih]
end C12Coll
