import Model.UuidGen
import Proofs.C19Time
import Proofs.Common
/-! The generator over a stream of clock readings (`genRun`): a time-UUID depends on its timestamp modulo 2^60 and
    its clock modulo 2^14 and on nothing else (`with_eq_iff`); `gens`, the run written with `uuidFromTime`; step `i` of a
    run in closed form (`genRun_get`); readings and ticks, the driver's stepped clock; the invariant of the driver's
    duplicate search (`BInv`, `firstDupAux_spec`). -/
namespace Uuid

theorem mod_pow_div_mod (t k j n : Nat) (h : k + j ≤ n) : t % 2 ^ n / 2 ^ k % 2 ^ j = t / 2 ^ k % 2 ^ j := by
  rw [show n = k + (n - k) by omega, Nat.pow_add, Nat.mod_mul_right_div_self,
    Nat.mod_mod_of_dvd _ (Nat.pow_dvd_pow 2 (by omega))]

theorem bits_congr {t1 t2 n : Nat} (h : t1 % 2 ^ n = t2 % 2 ^ n) (k j : Nat) (hk : k + j ≤ n) :
    t1 / 2 ^ k % 2 ^ j = t2 / 2 ^ k % 2 ^ j := by
  rw [← mod_pow_div_mod t1 k j n hk, h, mod_pow_div_mod t2 k j n hk]

theorem tbyte_mod (t k j : Nat) (hj : j ≤ 8) : (tbyte t k).toNat % 2 ^ j = t / 2 ^ k % 2 ^ j := by
  rw [tbyte_toNat]; exact Nat.mod_mod_of_dvd _ (Nat.pow_dvd_pow 2 hj)

theorem tbyte_bits_congr {t1 t2 n : Nat} (h : t1 % 2 ^ n = t2 % 2 ^ n) (k j : Nat) (hj : j ≤ 8) (hk : k + j ≤ n) :
    (tbyte t1 k).toNat % 2 ^ j = (tbyte t2 k).toNat % 2 ^ j := by
  rw [tbyte_mod _ _ _ hj, tbyte_mod _ _ _ hj, bits_congr h k j hk]

theorem tbyte_congr {t1 t2 n : Nat} (h : t1 % 2 ^ n = t2 % 2 ^ n) (k : Nat) (hk : k + 8 ≤ n) :
    tbyte t1 k = tbyte t2 k :=
  UInt8.toNat_inj.mp (by rw [tbyte_toNat, tbyte_toNat]; exact bits_congr h k 8 hk)

theorem stamp_congr (x y m s : UInt8) (k i : Nat) (hm : m.toNat = 2 ^ k - 1) (hs : s.toNat = 1 <<< i) (hki : k ≤ i)
    (h : x.toNat % 2 ^ k = y.toNat % 2 ^ k) : (x &&& m) ||| s = (y &&& m) ||| s :=
  UInt8.toNat_inj.mp (by rw [stamp_toNat x m s k i hm hs hki, stamp_toNat y m s k i hm hs hki, h])

/-- converse of `with_inj` (same node): the UUID depends on the timestamp only modulo 2^60 and on the clock
    only modulo 2^14 — every byte is a bit range below bit 60 of the one, below bit 14 of the other -/
theorem with_congr (t1 t2 c1 c2 : Nat) (nd : List UInt8)
    (ht : t1 % 2 ^ 60 = t2 % 2 ^ 60) (hc : c1 % 2 ^ 14 = c2 % 2 ^ 14) :
    timeUUIDWith t1 c1 nd = timeUUIDWith t2 c2 nd := by
  have b6 := stamp_congr (tbyte t1 56) (tbyte t2 56) 0x0F 0x10 4 4 rfl rfl (by decide)
    (tbyte_bits_congr ht 56 4 (by decide) (by decide))
  -- `UInt8.ofNat (c >>> 8)` is `tbyte c 8` unfolded, which is how the bit-range lemma applies to it
  have b8 := stamp_congr (UInt8.ofNat (c1 >>> 8)) (UInt8.ofNat (c2 >>> 8)) 0x3F 0x80 6 7 rfl rfl (by decide)
    (tbyte_bits_congr hc 8 6 (by decide) (by decide))
  have b9 : UInt8.ofNat c1 = UInt8.ofNat c2 := tbyte_congr hc 0 (by decide)
  unfold timeUUIDWith
  rw [tbyte_congr ht 24 (by decide), tbyte_congr ht 16 (by decide), tbyte_congr ht 8 (by decide),
    tbyte_congr ht 0 (by decide), tbyte_congr ht 40 (by decide), tbyte_congr ht 32 (by decide),
    tbyte_congr ht 48 (by decide), b6, b8, b9]

theorem with_eq_iff (t1 t2 c1 c2 : Nat) (nd : List UInt8) :
    timeUUIDWith t1 c1 nd = timeUUIDWith t2 c2 nd ↔ t1 % 2 ^ 60 = t2 % 2 ^ 60 ∧ c1 % 2 ^ 14 = c2 % 2 ^ 14 :=
  ⟨with_inj _ _ _ _ _ _, fun h => with_congr _ _ _ _ _ h.1 h.2⟩

/-- the UUIDs handed out by successive atomic increments starting from counter value `c`, one per reading in the
    list (`Model/UuidGen.genRun` with `timeUUID` unfolded: `genRun_eq_gens`) -/
def gens (hw : List UInt8) : Nat → List (Int × Nat) → List (List UInt8)
  | _, [] => []
  | c, tm :: tms => (uuidFromTime c hw tm.1 tm.2).1 :: gens hw (uuidFromTime c hw tm.1 tm.2).2 tms

theorem genRun_eq_gens (hw : List UInt8) (tms : List (Int × Nat)) : ∀ c, genRun hw c tms = gens hw c tms := by
  induction tms with
  | nil => intro c; rfl
  | cons tm tms ih => intro c; simp only [genRun, gens, timeUUID, ih]

theorem genRun_length (hw : List UInt8) (tms : List (Int × Nat)) : ∀ c, (genRun hw c tms).length = tms.length := by
  induction tms with
  | nil => intro c; rfl
  | cons tm tms ih => intro c; simp only [genRun, List.length_cons, ih]

theorem genRun_get (hw : List UInt8) (tms : List (Int × Nat)) : ∀ (c i : Nat) (hi : i < tms.length),
    (genRun hw c tms)[i]'(by rw [genRun_length]; exact hi) =
      timeUUIDWith (bits64 (getTimestamp tms[i].1 tms[i].2)) ((c + 1 + i) % 2 ^ 32) hw := by
  induction tms with
  | nil => intro c i hi; cases hi
  | cons tm tms ih =>
    intro c i hi
    cases i with
    | zero => simp [genRun, timeUUID, uuidFromTime]
    | succ i =>
      simp only [genRun, List.getElem_cons_succ]
      rw [ih _ i (by simpa using hi)]
      simp only [timeUUID, uuidFromTime]
      congr 1
      simp only [Nat.reducePow]; omega

/-- order of wall-clock readings `(seconds, nanoseconds)` -/
def readingLe (a b : Int × Nat) : Prop := a.1 < b.1 ∨ (a.1 = b.1 ∧ a.2 ≤ b.2)

theorem tick_exact (now : Int × Nat) (h : Representable now.1 now.2) :
    (tick now : Int) = (now.1 - timeBase) * 10000000 + (now.2 / 100 : Nat) := by
  obtain ⟨hb, hlt⟩ := bits64_getTimestamp now.1 now.2 h
  unfold tick
  rw [Nat.mod_eq_of_lt hlt]
  exact hb

theorem tick_mono (a b : Int × Nat) (ha : Representable a.1 a.2) (hb : Representable b.1 b.2)
    (h : readingLe a b) : tick a ≤ tick b := by
  have ea := tick_exact a ha
  have eb := tick_exact b hb
  obtain ⟨_, ha2, _⟩ := ha
  obtain ⟨_, hb2, _⟩ := hb
  unfold readingLe at h
  simp only [timeBase] at *
  omega

theorem timestamp_timeUUID (c : Nat) (hw : List UInt8) (now : Int × Nat) :
    timestamp (timeUUID c hw now).1 = tick now :=
  timestamp_with_mod ..

theorem rfcTs_timeUUID (c : Nat) (hw : List UInt8) (now : Int × Nat) :
    Spec.rfcTimestamp (timeUUID c hw now).1 = tick now :=
  rfcTimestamp_with_mod ..

theorem stepped_repr (sec : Int) (nsec every stepns k : Nat) (hs : timeBase ≤ sec)
    (hlt : (sec - timeBase) * 10000000 + ((nsec + k / every * stepns) / 100 : Nat) < 2 ^ 60) :
    Representable (steppedClock sec nsec every stepns k).1 (steppedClock sec nsec every stepns k).2 ∧
    (tick (steppedClock sec nsec every stepns k) : Int) =
      (sec - timeBase) * 10000000 + ((nsec + k / every * stepns) / 100 : Nat) := by
  generalize hx : nsec + k / every * stepns = x at hlt
  have hr : Representable (steppedClock sec nsec every stepns k).1 (steppedClock sec nsec every stepns k).2 := by
    simp only [steppedClock, unixNorm, hx, Representable, timeBase] at *
    omega
  refine ⟨hr, ?_⟩
  rw [tick_exact _ hr]
  simp only [steppedClock, unixNorm, hx, timeBase]
  omega

theorem stepped_mono (nsec every stepns : Nat) {i j : Nat} (h : i ≤ j) :
    (nsec + i / every * stepns) / 100 ≤ (nsec + j / every * stepns) / 100 :=
  Nat.div_le_div_right (Nat.add_le_add_left (Nat.mul_le_mul_right _ (Nat.div_le_div_right h)) _)

theorem stepped_advance (nsec every stepns i : Nat) (he : 0 < every) (hs : 100 ≤ stepns) :
    (nsec + i / every * stepns) / 100 + 1 ≤ (nsec + (i + every) / every * stepns) / 100 := by
  rw [Nat.add_div_right i he, Nat.add_mul, Nat.one_mul, ← Nat.add_div_right _ (by decide : 0 < 100)]
  exact Nat.div_le_div_right (by omega)

theorem clockKey_lt (u : List UInt8) : clockKey u < 16384 := by
  unfold clockKey
  rw [or_shl _ 8 _ (byteAt u 9).toNat_lt, low6_eq_mod]
  have := (byteAt u 9).toNat_lt
  omega

/-- the bucket table indexes exactly the prefix `pre`: every entry `(u, i)` says `pre[i] = u`, and every position of
    `pre` is entered under its element's clock key -/
structure BInv (pre : List (List UInt8)) (bk : Array (List (List UInt8 × Nat))) : Prop where
  size : bk.size = 16384
  sound : ∀ b e, e ∈ bk.getD b [] → pre[e.2]? = some e.1
  complete : ∀ m (h : m < pre.length), (pre[m], m) ∈ bk.getD (clockKey pre[m]) []

theorem BInv.push {pre : List (List UInt8)} {bk : Array (List (List UInt8 × Nat))} (inv : BInv pre bk)
    (u : List UInt8) :
    BInv (pre ++ [u]) (bk.setIfInBounds (clockKey u) ((u, pre.length) :: bk.getD (clockKey u) [])) := by
  have hb : clockKey u < bk.size := by rw [inv.size]; exact clockKey_lt u
  have old : ∀ b e, e ∈ bk.getD b [] → (pre ++ [u])[e.2]? = some e.1 := fun b e he => by
    have hs := inv.sound b e he
    rw [List.getElem?_append_left (List.getElem?_eq_some_iff.mp hs).1, hs]
  refine ⟨by simp [inv.size], fun b e he => ?_, fun m hm => ?_⟩
  · simp only [getD_setIfInBounds, hb, and_true] at he
    by_cases hbb : b = clockKey u
    · rw [if_pos hbb] at he
      rcases List.mem_cons.mp he with rfl | he
      · simp
      · exact old _ e he
    · rw [if_neg hbb] at he
      exact old b e he
  · simp only [getD_setIfInBounds, hb, and_true]
    rcases Nat.lt_or_ge m pre.length with hlt | hge
    · rw [show (pre ++ [u])[m] = pre[m] from List.getElem_append_left hlt]
      have := inv.complete m hlt
      by_cases hk : clockKey pre[m] = clockKey u
      · rw [if_pos hk]; exact List.mem_cons_of_mem _ (hk ▸ this)
      · rw [if_neg hk]; exact this
    · obtain rfl : m = pre.length := by simp at hm; omega
      simp

theorem firstDupAux_spec (us : List (List UInt8)) : ∀ (pre : List (List UInt8)) (bk : Array (List (List UInt8 × Nat))),
    BInv pre bk → pre.Pairwise (· ≠ ·) →
    (∀ i j, firstDupAux us pre.length bk = some (i, j) →
        i < j ∧ ∃ u, (pre ++ us)[i]? = some u ∧ (pre ++ us)[j]? = some u) ∧
    (firstDupAux us pre.length bk = none → (pre ++ us).Pairwise (· ≠ ·)) := by
  induction us with
  | nil =>
    intro pre bk _ hp
    exact ⟨by intro i j h; simp [firstDupAux] at h, by intro _; simpa using hp⟩
  | cons u us ih =>
    intro pre bk inv hp
    cases hf : (bk.getD (clockKey u) []).find? (fun e => e.1 == u) with
    | some e =>
      have hs := inv.sound _ e (List.mem_of_find?_eq_some hf)
      have heq : e.1 = u := by simpa using List.find?_some hf
      have hlt := (List.getElem?_eq_some_iff.mp hs).1
      refine ⟨fun i j h => ?_, fun h => by simp only [firstDupAux, hf] at h; cases h⟩
      simp only [firstDupAux, hf, Option.some.injEq, Prod.mk.injEq] at h
      obtain ⟨rfl, rfl⟩ := h
      exact ⟨hlt, u, by rw [List.getElem?_append_left hlt, hs, heq], by simp⟩
    | none =>
      -- `u` is new: an equal earlier element would sit in `u`'s bucket
      have hfresh : ∀ v ∈ pre, v ≠ u := by
        intro v hv h
        obtain ⟨m, hm, rfl⟩ := List.getElem_of_mem hv
        have := List.find?_eq_none.mp hf _ (h ▸ inv.complete m hm)
        simp at this
      have := ih (pre ++ [u]) _ (inv.push u)
        (List.pairwise_append.mpr ⟨hp, List.pairwise_singleton _ _, fun a ha b hb => List.mem_singleton.mp hb ▸ hfresh a ha⟩)
      simp only [List.length_append, List.length_singleton, List.append_assoc, List.singleton_append] at this
      simp only [firstDupAux, hf]
      exact this

end Uuid
