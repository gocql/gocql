import Proofs.C16ViewBatch
/-! status events as effects on the view; effects on different hosts commute -/
namespace C16
open Ring ClusterView

/-- what one coalesced status event does, given the ring (which status events never change) -/
inductive Eff | none | refresh | crash | fill (h : RHost) | mark (h : RHost) | takeDown (h : RHost)

def effectOf (env : Env) (r : Ring.Ring) (e : Nat × Change) : Eff :=
  match e.2, r.getHostByIP e.1 with
  | .up, (_, false) => .refresh
  | .up, (some h, true) => if env.filter h then .none else .fill h
  | .down, (some h, true) => if env.filter h then .mark h else .takeDown h
  | .other, _ | .down, (_, false) => .none
  | _, (none, true) => .crash

def Eff.host : Eff → Option RHost
  | .fill h => some h
  | .mark h => some h
  | .takeDown h => some h
  | _ => Option.none

def Eff.poolOp : Eff → POp
  | .fill h => .add h
  | .takeDown h => .rm h.id
  | _ => .id
def Eff.taOp (env : Env) : Eff → LOp
  | .fill h => if env.tokenAware then .add h else .id
  | _ => .id
def Eff.locOp (env : Env) : Eff → LOp
  | .fill h => if env.isLocal h then .add h else .id
  | .takeDown h => if env.isLocal h then .rm (cAddr h) else .id
  | _ => .id
def Eff.remOp (env : Env) : Eff → LOp
  | .fill h => if env.isLocal h then .id else .add h
  | .takeDown h => if env.isLocal h then .id else .rm (cAddr h)
  | _ => .id
def Eff.downOp : Eff → Option Nat
  | .mark h => some h.obj
  | .takeDown h => some h.obj
  | _ => Option.none
def Eff.req : Eff → Nat
  | .refresh => 1
  | _ => 0
def Eff.isCrash : Eff → Bool
  | .crash => true
  | _ => false

def applyEff (env : Env) (v : View) (f : Eff) : View :=
  { ring := v.ring
    pools := f.poolOp.app v.pools
    pol := ⟨(f.taOp env).app v.pol.ta, (f.locOp env).app v.pol.loc, (f.remOp env).app v.pol.rem⟩
    down := downApp f.downOp v.down
    refreshReq := v.refreshReq + f.req
    crashed := v.crashed || f.isCrash }

/-- a panic ends the handler: nothing is applied once crashed -/
def applyG (env : Env) (v : View) (f : Eff) : View := if v.crashed then v else applyEff env v f

theorem policy_add_eq (env : Env) (p : Policy) (h : RHost) :
    p.add env h = ⟨(Eff.taOp env (.fill h)).app p.ta, (Eff.locOp env (.fill h)).app p.loc, (Eff.remOp env (.fill h)).app p.rem⟩ := by
  simp only [Policy.add, Policy.fbAdd, Eff.taOp, Eff.locOp, Eff.remOp]
  cases env.tokenAware <;> cases env.isLocal h <;> simp [LOp.app]

theorem policy_dn_eq (env : Env) (p : Policy) (h : RHost) :
    p.dn env h = ⟨(Eff.taOp env (.takeDown h)).app p.ta, (Eff.locOp env (.takeDown h)).app p.loc,
      (Eff.remOp env (.takeDown h)).app p.rem⟩ := by
  simp only [Policy.dn, Policy.fbRemove, Eff.taOp, Eff.locOp, Eff.remOp]
  cases env.isLocal h <;> simp [LOp.app]

section
-- on a given effect the components of `applyEff` evaluate
attribute [local simp] applyEff Eff.poolOp Eff.taOp Eff.locOp Eff.remOp Eff.downOp Eff.req Eff.isCrash POp.app LOp.app downApp

theorem applyEff_none (env : Env) (v : View) : applyEff env v .none = v := by
  cases v; simp
theorem applyEff_refresh (env : Env) (v : View) : applyEff env v .refresh = { v with refreshReq := v.refreshReq + 1 } := by
  cases v; simp
theorem applyEff_crash (env : Env) (v : View) : applyEff env v .crash = { v with crashed := true } := by
  cases v; simp
theorem applyEff_fill (env : Env) (v : View) (h : RHost) : applyEff env v (.fill h) = v.startPoolFill env h := by
  cases v; simp [View.startPoolFill, policy_add_eq]
theorem applyEff_mark (env : Env) (v : View) (h : RHost) :
    applyEff env v (.mark h) = { v with down := h.obj :: v.down.filter (· != h.obj) } := by
  cases v; simp
theorem applyEff_takeDown (env : Env) (v : View) (h : RHost) :
    applyEff env v (.takeDown h) =
      { v with down := h.obj :: v.down.filter (· != h.obj), pol := v.pol.dn env h, pools := erase v.pools h.id } := by
  cases v; simp [policy_dn_eq]
end

/-- `handleNodeUp` / `handleNodeDown` apply the effect the by-address lookup and the filter decide on -/
theorem nodeUp_eq (env : Env) (v : View) (a : Nat) :
    v.nodeUp env a = applyEff env v (effectOf env v.ring (a, .up)) := by
  unfold View.nodeUp effectOf
  rcases v.ring.getHostByIP a with ⟨_ | h, _ | _⟩
  · exact (applyEff_refresh env v).symm
  · exact (applyEff_crash env v).symm
  · exact (applyEff_refresh env v).symm
  · show (if env.filter h then v else _) = applyEff env v (if env.filter h then .none else .fill h)
    split
    · exact (applyEff_none env v).symm
    · exact (applyEff_fill env v h).symm

theorem nodeDown_eq (env : Env) (v : View) (a : Nat) :
    v.nodeDown env a = applyEff env v (effectOf env v.ring (a, .down)) := by
  unfold View.nodeDown effectOf
  rcases v.ring.getHostByIP a with ⟨_ | h, _ | _⟩
  · exact (applyEff_none env v).symm
  · exact (applyEff_crash env v).symm
  · exact (applyEff_none env v).symm
  · show (if env.filter h then _ else _) = applyEff env v (if env.filter h then .mark h else .takeDown h)
    split
    · exact (applyEff_mark env v h).symm
    · exact (applyEff_takeDown env v h).symm

theorem status_eq (env : Env) (v : View) (e : Nat × Change) :
    v.status env e = applyG env v (effectOf env v.ring e) := by
  obtain ⟨a, c⟩ := e
  unfold View.status applyG
  split
  · rfl
  · cases c
    · exact nodeUp_eq env v a
    · exact nodeDown_eq env v a
    · exact (applyEff_none env v).symm

theorem applyG_ring (env : Env) (v : View) (f : Eff) : (applyG env v f).ring = v.ring := by
  unfold applyG; split <;> rfl

theorem applyG_congr (env : Env) (f : Eff) {v w : View} (h : Same v w) : Same (applyG env v f) (applyG env w f) := by
  unfold applyG
  rw [← h.crashed]
  by_cases hc : v.crashed = true
  · simp only [hc, ↓reduceIte]; exact h
  · have hc' : v.crashed = false := by simpa using hc
    simp only [hc', Bool.false_eq_true, ↓reduceIte]
    exact ⟨h.ring, f.poolOp.congr h.pools, (f.taOp env).congr h.ta, (f.locOp env).congr h.loc, (f.remOp env).congr h.rem,
      fun x => by simp only [applyEff, mem_downApp]; rw [h.down x],
      by simp only [applyEff]; rw [h.req], by simp only [applyEff]; rw [h.crashed]⟩

/-- two effects are independent: neither is a panic and, when both act on a host, the hosts have
different ids and different connect addresses -/
structure Indep (f g : Eff) : Prop where
  left : f.isCrash = false
  right : g.isCrash = false
  apart : ∀ h1 h2, f.host = some h1 → g.host = some h2 → h1.id ≠ h2.id ∧ cAddr h1 ≠ cAddr h2

theorem Indep.symm {f g : Eff} (h : Indep f g) : Indep g f :=
  ⟨h.right, h.left, fun h1 h2 e1 e2 => ⟨fun e => (h.apart h2 h1 e2 e1).1 e.symm, fun e => (h.apart h2 h1 e2 e1).2 e.symm⟩⟩

theorem poolOp_key (f : Eff) (k : Nat) (hk : f.poolOp.key = some k) : ∃ h, f.host = some h ∧ k = h.id := by
  cases f <;> simp [Eff.poolOp, POp.key, Eff.host] at hk ⊢ <;> exact hk.symm

/-- the policy lists are keyed by connect address: every list operation of an effect acts on the connect address
of the effect's host -/
theorem lop_key (env : Env) (f : Eff) (k : Nat)
    (hk : (f.taOp env).key = some k ∨ (f.locOp env).key = some k ∨ (f.remOp env).key = some k) :
    ∃ h, f.host = some h ∧ cAddr h = k := by
  cases f with
  | fill h =>
    refine ⟨h, rfl, ?_⟩
    simp only [Eff.taOp, Eff.locOp, Eff.remOp] at hk
    revert hk
    cases env.tokenAware <;> cases env.isLocal h <;> simp [LOp.key]
  | takeDown h =>
    refine ⟨h, rfl, ?_⟩
    simp only [Eff.taOp, Eff.locOp, Eff.remOp] at hk
    revert hk
    cases env.isLocal h <;> simp [LOp.key]
  | _ => simp [Eff.taOp, Eff.locOp, Eff.remOp, LOp.key] at hk

theorem applyEff_crashed (env : Env) (v : View) (f : Eff) (hf : f.isCrash = false) : (applyEff env v f).crashed = v.crashed := by
  simp [applyEff, hf]

theorem applyG_comm (env : Env) (v : View) (f g : Eff) (hi : Indep f g) :
    Same (applyG env (applyG env v f) g) (applyG env (applyG env v g) f) := by
  unfold applyG
  by_cases hc : v.crashed = true
  · simp only [hc, ↓reduceIte]; exact Same.refl v
  · have hc' : v.crashed = false := by simpa using hc
    simp only [hc', Bool.false_eq_true, ↓reduceIte, applyEff_crashed env v f hi.left, applyEff_crashed env v g hi.right]
    have kk : ∀ {k1 k2 : Nat}, (∃ h, f.host = some h ∧ cAddr h = k1) → (∃ h, g.host = some h ∧ cAddr h = k2) → k1 ≠ k2 := by
      rintro k1 k2 ⟨h1, e1, rfl⟩ ⟨h2, e2, rfl⟩
      exact (hi.apart h1 h2 e1 e2).2
    refine ⟨rfl, ?_, ?_, ?_, ?_, ?_, ?_, ?_⟩
    · exact POp.comm f.poolOp g.poolOp v.pools (by
        intro k1 k2 e1 e2
        obtain ⟨h1, a1, rfl⟩ := poolOp_key f k1 e1
        obtain ⟨h2, a2, rfl⟩ := poolOp_key g k2 e2
        exact (hi.apart h1 h2 a1 a2).1)
    · exact LOp.comm (f.taOp env) (g.taOp env) v.pol.ta (fun k1 k2 e1 e2 => kk (lop_key env f k1 (.inl e1)) (lop_key env g k2 (.inl e2)))
    · exact LOp.comm (f.locOp env) (g.locOp env) v.pol.loc
        (fun k1 k2 e1 e2 => kk (lop_key env f k1 (.inr (.inl e1))) (lop_key env g k2 (.inr (.inl e2))))
    · exact LOp.comm (f.remOp env) (g.remOp env) v.pol.rem
        (fun k1 k2 e1 e2 => kk (lop_key env f k1 (.inr (.inr e1))) (lop_key env g k2 (.inr (.inr e2))))
    · intro x
      simp only [applyEff, mem_downApp]
      constructor
      · rintro (h | h | h)
        · exact Or.inr (Or.inl h)
        · exact Or.inl h
        · exact Or.inr (Or.inr h)
      · rintro (h | h | h)
        · exact Or.inr (Or.inl h)
        · exact Or.inl h
        · exact Or.inr (Or.inr h)
    · simp only [applyEff]; omega
    · simp only [applyEff, hi.left, hi.right]

end C16
