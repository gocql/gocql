import Proofs.C08Exhaust
import Proofs.C08Lin
/-!
# C08 — stream ids are unique while in use, never 0 or out of range, and all get used

Model: `Model/Streams.lean` (`tstep` = one atomic operation of one thread of
internal/streams/streams.go; `step`/`run` = the k-thread machine; `getStream`/`clear` = the
sequential big-step semantics derived from `tstep`).

"∀ schedule" = for every list of actions `as` accepted by `run` (every action enabled, and the
client protocol of the property respected: `Clear(id)` is called only by a holder of `id`, who
gives the id up at the call). All theorems are generic in the number of words `n > 0`
(n = 2: protocol ≤ 2, 128 ids; n = 512: protocol > 2, 32768 ids) and in the number of threads `k`.
-/
namespace C08
open Streams

/-- ∀ schedule: the bit of the reserved id 0 stays set; every id handed out is in 1..NumStreams-1
    (and a failing `GetStream` returns `0, false`). -/
theorem C08_reserved_and_range (n k : Nat) (hn : 0 < n) (s : State) (h : Reachable n k s) :
    bitAt s.sh.words 0 = true ∧
    (∀ id, id ∈ s.held → 1 ≤ id ∧ id < 64 * n) ∧
    (∀ a s' id ok, legal s a = true → step s a = some (s', some (.stream id ok)) →
        (ok = true → 1 ≤ id ∧ id < 64 * n) ∧ (ok = false → id = 0)) := by
  obtain ⟨hI, hlen⟩ := reachable_inv hn h
  refine ⟨hI.reserved, ?_, ?_⟩
  · intro id hid
    have := hI.heldOk id hid
    rw [hlen] at this; exact ⟨this.1, this.2.1⟩
  · intro a s' id ok hl hs
    have := (inv_step hI hl hs).2
    cases ok
    · simp only [retOk] at this; simp [this]
    · simp only [retOk] at this
      rw [hlen] at this; simp [this.1, this.2]

/-- ∀ schedule: the ids handed out and not given back are pairwise distinct, their bits are set, and
    an id that `GetStream` returns is not held by anybody at that moment. -/
theorem C08_unique (n k : Nat) (hn : 0 < n) (s : State) (h : Reachable n k s) :
    s.held.Nodup ∧
    (∀ id, id ∈ s.held → bitAt s.sh.words id = true) ∧
    (∀ a s' id, legal s a = true → step s a = some (s', some (.stream id true)) →
        id ∉ s.held ∧ s'.held = id :: s.held ∧ s'.held.Nodup) := by
  obtain ⟨hI, _⟩ := reachable_inv hn h
  refine ⟨hI.heldNodup, fun id hid => (hI.heldOk id hid).2.2, ?_⟩
  intro a s' id hl hs
  have hI' := (inv_step hI hl hs).1
  -- the ghost update of `exec`
  have hheld : s'.held = id :: s.held := by
    obtain ⟨t, pc0, pc, held, ht, rfl, hr, _, _, h⟩ := step_cases hs
    -- only the add of `GetStream` answers with an id, and no call starts there
    obtain rfl := tstep_stream hr.symm
    rcases h with ⟨op, _, _, hop, _⟩ | ⟨_, _, _, rfl⟩
    · cases op <;> cases hop
    · rfl
  have hnd := hI'.heldNodup
  rw [hheld] at hnd
  exact ⟨(List.nodup_cons.mp hnd).1, hheld, hheld ▸ hnd⟩

/-- ∀ schedule: `inuse + (#threads between successful CAS and add in GetStream)
    − (#threads between successful CAS and add in Clear) = popcount − 1`; `inuse` is never negative
    (so `Clear` never panics); and when no call is in progress `Available()` is exactly the number of
    free ids and `inuse` the number of ids handed out. -/
theorem C08_count (n k : Nat) (hn : 0 < n) (s : State) (h : Reachable n k s) :
    s.sh.inuse + (s.threads.countP isG7 : Nat) - (s.threads.countP isC11 : Nat)
        = (countBelow (bitAt s.sh.words) (64 * n) : Nat) - 1 ∧
    0 ≤ s.sh.inuse ∧
    ((∀ pc, pc ∈ s.threads → pc = .idle) →
        s.sh.inuse = s.held.length ∧
        available s.sh = ((64 * n - countBelow (bitAt s.sh.words) (64 * n) : Nat) : Int) ∧
        available s.sh = ((64 * n - 1 - s.held.length : Nat) : Int)) := by
  obtain ⟨hI, hlen⟩ := reachable_inv hn h
  have hc := hI.count
  have hi := hI.inuse
  have hs := countP_split s.threads
  rw [hlen] at hc
  have hle := countBelow_le (bitAt s.sh.words) (64 * n)
  -- the equation: `count` − `inuse` of `Inv`, with the four thread counts related by `countP_split`; `0 ≤ inuse`: `Inv.inuse` alone
  refine ⟨by omega, by omega, ?_⟩
  intro hq
  have h1 := countP_idle (f := inClear) rfl hq
  have h2 := countP_idle (f := isOwner) rfl hq
  simp only [available, hlen]
  refine ⟨by omega, by omega, by omega⟩

/-- ∀ schedule: no call panics, `Clear` by a holder never reports "already cleared" -/
theorem C08_no_panic (n k : Nat) (hn : 0 < n) (s : State) (h : Reachable n k s) :
    ∀ a s' r, legal s a = true → step s a = some (s', some r) →
      r ≠ .crashNegative ∧ r ≠ .crashIndex ∧ r ≠ .cleared false := by
  obtain ⟨hI, _⟩ := reachable_inv hn h
  intro a s' r hl hs
  have := (inv_step hI hl hs).2
  refine ⟨?_, ?_, ?_⟩ <;> (intro heq; subst heq; simp [retOk] at this)

/-- used sequentially without release, a fresh generator hands out `NumStreams − 1` pairwise
    distinct ids, all in `1..NumStreams-1`, then reports exhaustion (with `Available() = 0`);
    for every number of words (both capacities). -/
theorem C08_sequential_all_ids (n : Nat) (hn : 0 < n) :
    ∃ ids : List Nat, ids.length = 64 * n - 1 ∧ ids.Nodup ∧ (∀ id, id ∈ ids → 1 ≤ id ∧ id < 64 * n) ∧
      (getMany (64 * n - 1) (init n)).1 = ids.map (fun id => some (.stream id true)) ∧
      (getStream (getMany (64 * n - 1) (init n)).2).2 = some (.stream 0 false) ∧
      available (getMany (64 * n - 1) (init n)).2 = 0 := by
  obtain ⟨ids, h1, h2, h3⟩ := seqInv_getMany hn (64 * n - 1) (init n) [] (seqInv_init n hn) (by simp)
  simp only [List.append_nil] at h3
  have hnd : ids.Nodup := (List.reverse_perm ids).nodup_iff.mp h3.nodup
  refine ⟨ids, h1, hnd, ?_, h2, ?_, ?_⟩
  · intro id hid
    have := h3.heldOk id (by simpa using hid)
    exact ⟨this.1, this.2.1⟩
  · exact ((seqInv_get hn h3).2 (by simp [h1])).1
  · have := h3.inuse
    simp only [available, h3.len, this, List.length_reverse, h1]
    omega

/-- sequential `Clear`: it returns true iff it flipped the bit (with the counter at zero the
    decrement panics instead — after having flipped the bit); afterwards the bit is clear and no
    other bit changed; a second `Clear` returns false and changes nothing. -/
theorem C08_clear_reports (sh : Shared) (id : Nat) (hid : id < 64 * sh.words.length) :
    ((clear sh id).2 = some (.cleared false) ↔ bitAt sh.words id = false) ∧
    (bitAt sh.words id = true → 0 < sh.inuse → (clear sh id).2 = some (.cleared true)) ∧
    (bitAt sh.words id = true → (clear sh id).1.inuse = sh.inuse - 1) ∧
    (bitAt sh.words id = false → (clear sh id).1 = sh) ∧
    (∀ x, bitAt (clear sh id).1.words x = (!decide (x = id) && bitAt sh.words x)) ∧
    clear (clear sh id).1 id = ((clear sh id).1, some (.cleared false)) := by
  have hlt : id / 64 < sh.words.length := by omega
  cases hb : bitAt sh.words id
  · have h := clear_miss sh id hb
    rw [h]
    refine ⟨by simp, by simp, by simp, by simp, ?_, ?_⟩
    · intro x
      by_cases hx : x = id
      · subst hx; simp [hb]
      · simp [hx]
    · exact h
  · have h := clear_inuse sh id hb
    have hbits : ∀ x, bitAt (clrBit sh.words id) x = (!decide (x = id) && bitAt sh.words x) :=
      fun x => bitAt_clrBit _ _ _ hlt
    rw [h]
    refine ⟨?_, ?_, by simp, by simp, hbits, ?_⟩
    · simp only []
      split <;> simp
    · intro _ hpos
      have : ¬ sh.inuse - 1 < 0 := by omega
      simp [this]
    · exact clear_miss _ _ (by simp [hbits])

/-- `GetStream` never reports exhaustion while some id stays free for the whole duration of the
    call. The caller is looked at in isolation: its k-th atomic operation acts on `env[k]`, an
    ARBITRARY shared state with `n` words (whatever the other goroutines did in between). If the call
    returns `0, false` then every id was in use at one of those moments. (Lock-freedom only: while a
    free id keeps being snatched away the caller may retry for ever — `threadRun` then has no result.) -/
theorem C08_no_false_exhaustion (n : Nat) (hn : 0 < n) (env : List Shared)
    (hlen : ∀ sh, sh ∈ env → sh.words.length = n)
    (h : (threadRun (startPC .get) env).2 = some (.stream 0 false)) :
    ∀ id, id < 64 * n → ∃ sh, sh ∈ env ∧ bitAt sh.words id = true :=
  threadRun_exhausted (G := fun id => ∃ sh, sh ∈ env ∧ bitAt sh.words id = true) hn env .g1
    (fun sh hsh => ⟨hlen sh hsh, fun _ hb => ⟨sh, hsh, hb⟩⟩) trivial h

/-- contrapositive: an id that is free at every step of the call makes the call not fail -/
theorem C08_no_false_exhaustion_contra (n : Nat) (hn : 0 < n) (env : List Shared)
    (hlen : ∀ sh, sh ∈ env → sh.words.length = n) (id : Nat) (hid : id < 64 * n)
    (hfree : ∀ sh, sh ∈ env → bitAt sh.words id = false) :
    (threadRun (startPC .get) env).2 ≠ some (.stream 0 false) := by
  intro h
  obtain ⟨sh, hm, hb⟩ := C08_no_false_exhaustion n hn env hlen h id hid
  rw [hfree sh hm] at hb; cases hb

/-- no false exhaustion as a statement about the MACHINE, ∀ schedule of ALL threads, NO client protocol, from
    ANY state `s0` (any bitset, counter, offset word; other threads anywhere inside their calls): thread `t` calls
    `GetStream` (`s0 → s1`), then an arbitrary schedule `as` of all threads runs (`runVis`: every thread may start
    and perform any calls — acquisitions, releases of any id, double releases —; `t` itself only continues its
    call), and the next atomic operation of `t` returns `0, false`. Then every id `< NumStreams` was in use in one
    of the machine states visited between the call and its return (`vis` = the state in front of every action,
    `s2` = the state in front of the returning operation): an id that stayed free for the whole duration of the
    call does not exist. -/
theorem C08_no_false_exhaustion_run (s0 s1 s2 s3 : State) (hn : 0 < s0.sh.words.length) (t : Nat)
    (r0 : Option Ret) (as : List Action) (vis : List State)
    (hcall : step s0 (.start t .get) = some (s1, r0))
    (hns : ∀ a, a ∈ as → startsCall t a = false)
    (hrun : runVis s1 as = some (s2, vis))
    (hret : step s2 (.step t) = some (s3, some (.stream 0 false))) :
    ∀ id, id < 64 * s0.sh.words.length → ∃ s, s ∈ vis ++ [s2] ∧ bitAt s.sh.words id = true := by
  intro id hid
  -- the call: load of the offset word, nothing changes
  have h1 : s1.threads[t]? = some (.g2 s0.sh.offset) ∧ s1.sh = s0.sh := by
    obtain ⟨u, _, pc, held, hu, rfl, _, _, _, ⟨op, h, _, rfl, _⟩ | ⟨h, _⟩⟩ := step_cases hcall
    · cases h; exact ⟨getElem?_set_of _ hu, rfl⟩
    · cases h
  exact run_exhausted (G := fun id => ∃ s, s ∈ vis ++ [s2] ∧ bitAt s.sh.words id = true) hn as s1 s2 s3 vis
    (.g2 s0.sh.offset) h1.1 trivial (by rw [h1.2]) hns hrun hret (fun s hs _ hb => ⟨s, hs, hb⟩) id hid

/-- contrapositive: an id that is free in every machine state between the call and the returning operation
    makes the call not report exhaustion -/
theorem C08_no_false_exhaustion_run_contra (s0 s1 s2 s3 : State) (hn : 0 < s0.sh.words.length) (t : Nat)
    (r0 r : Option Ret) (as : List Action) (vis : List State)
    (hcall : step s0 (.start t .get) = some (s1, r0))
    (hns : ∀ a, a ∈ as → startsCall t a = false)
    (hrun : runVis s1 as = some (s2, vis))
    (hret : step s2 (.step t) = some (s3, r))
    (id : Nat) (hid : id < 64 * s0.sh.words.length)
    (hfree : ∀ s, s ∈ vis ++ [s2] → bitAt s.sh.words id = false) :
    r ≠ some (.stream 0 false) := by
  intro hr; subst hr
  obtain ⟨s, hm, hb⟩ := C08_no_false_exhaustion_run s0 s1 s2 s3 hn t r0 as vis hcall hns hrun hret id hid
  rw [hfree s hm] at hb; cases hb

/-! ### what does NOT hold on the unchanged code: `Available()` while calls are in progress

Full statement of the property text ("the available count always equals the number of
non-reserved ids not handed out"):
  `∀ reachable s, available s.sh = 64 * n - 1 - s.held.length`.
It holds when no call is in progress (`C08_count`, third part = the `_partial` form with the
excluding hypothesis "all threads idle"). In general it is off by the number of `Clear` calls that
have cleared their bit but not yet decremented the counter minus the number of `GetStream` calls that
have set their bit but not yet incremented it (`C08_count`, first part) and can even be negative: -/

def oneGet (t : Nat) : List Action := [.start t .get, .step t, .step t, .step t, .step t]

/-- 128-id generator, 2 goroutines: goroutine 0 acquires all 127 ids, calls `Clear(1)` and is
    pre-empted between the CAS and the decrement; goroutine 1 acquires id 1. -/
def cexAvailable : List Action :=
  (List.replicate 126 (oneGet 0)).flatten ++ oneGet 0 ++ [.step 0] ++ [.start 0 (.clear 1), .step 0]
    ++ oneGet 1 ++ [.step 1]

/-- … now 127 ids are handed out (0 free) and `Available()` = -1 -/
theorem C08_cex_available_transient :
    (run (initState 2 2) cexAvailable).map (fun s => (s.held.length, available s.sh)) = some (127, -1) := by
  -- 644 actions: evaluated by the kernel alone (no axiom; plain `decide` evaluates once more in the elaborator)
  decide +kernel

/-! ## WITHOUT the client protocol

`runAny ok` runs a schedule in which every thread may call `GetStream`, `Available` and `Clear(id)` of
ANY id at ANY time (double / stale / racing releases of one id, ids that were never handed out, the
reserved id 0, ids beyond the capacity); `ok` restricts the actions (`anyAct`: no restriction).
Events: `got id` = a `GetStream` call returned `id, true`; `released id` = a `Clear(id)` call that
flipped the bit of `id` from 1 to 0 returned (`true`, or the 'negative streams inuse' panic). -/

/-- ∀ schedule, NO protocol, no exclusion: `inuse + #(GetStream between CAS and add) − #(Clear between
    CAS and add) = popcount − 1`; when no call is in progress `Available()` is exactly the number of
    zero bits of the bitset. -/
theorem C08_count_any (n k : Nat) (hn : 0 < n) (as : List Action) (s : State) (evs : List Ev)
    (h : runAny anyAct (initState n k) [] as = some (s, evs)) :
    s.sh.inuse + (s.threads.countP isG7 : Nat) - (s.threads.countP isC11 : Nat)
        = (countBelow (bitAt s.sh.words) (64 * n) : Nat) - 1 ∧
    ((∀ pc, pc ∈ s.threads → pc = .idle) →
        available s.sh = ((64 * n : Nat) : Int) - (countBelow (bitAt s.sh.words) (64 * n) : Nat)) := by
  have hlen : s.sh.words.length = n := by
    rw [(runAny_length anyAct as _ _ _ _ h).1]; simp [initState, length_init]
  have hA := invA_runAny anyAct as _ _ _ _ (invN_init n k hn).1.a h
  have hc := hA.count
  rw [hlen] at hc
  refine ⟨by omega, fun hq => ?_⟩
  rw [countP_idle (f := isG7) rfl hq, countP_idle (f := isC11) rfl hq] at hc
  simp only [available, hlen]
  omega

/-- ∀ schedule, NO protocol, no exclusion: the in-use counter stays within `-(k+1) .. NumStreams-1+k` for `k`
    goroutines (it is `popcount − 1` corrected by the calls between their CAS and their add), so the `int32` of the
    code never wraps for either capacity and any realistic number of goroutines (below 2^31 − 32768): modelling it
    as an unbounded `Int` loses nothing. -/
theorem C08_counter_fits_int32 (n k : Nat) (hn : 0 < n) (as : List Action) (s : State) (evs : List Ev)
    (h : runAny anyAct (initState n k) [] as = some (s, evs)) :
    -(k : Int) - 1 ≤ s.sh.inuse ∧ s.sh.inuse ≤ ((64 * n : Nat) : Int) - 1 + k ∧
    (64 * n ≤ 32768 → k ≤ 2147450879 → -2147483648 ≤ s.sh.inuse ∧ s.sh.inuse ≤ 2147483647) := by
  have hc := (C08_count_any n k hn as s evs h).1
  have hk : s.threads.length = k := by
    rw [(runAny_length anyAct as _ _ _ _ h).2]; simp [initState]
  have h1 : s.threads.countP isG7 ≤ k := hk ▸ List.countP_le_length
  have h2 : s.threads.countP isC11 ≤ k := hk ▸ List.countP_le_length
  have h3 := countBelow_le (bitAt s.sh.words) (64 * n)
  refine ⟨by omega, by omega, fun _ _ => ⟨by omega, by omega⟩⟩

/-- ∀ schedule, NO protocol, no exclusion, from ANY state without calls in progress (fresh or pre-filled):
    for every id `x`
      #(`Clear(x)` calls that returned true) + #(`Clear(x)` between CAS and add) + [bit x]
        = #(`GetStream` calls that returned x) + #(`GetStream` calls that have set bit x and are about to
          return x) + [bit x initially];
    hence the successful releases of `x` never exceed its acquisitions (+1 if `x` was in use initially):
    of several racing `Clear(x)` at most one per acquisition returns true (double release reports false),
    and when no call is in progress the equation holds without the in-progress terms. -/
theorem C08_release_conservation (s0 : State) (hn : 0 < s0.sh.words.length)
    (hidle : ∀ pc, pc ∈ s0.threads → pc = .idle) (as : List Action) (s : State) (evs : List Ev)
    (h : runAny anyAct s0 [] as = some (s, evs)) (x : Nat) :
    evs.count (.released x) + s.threads.countP (c11x x) + b2n (bitAt s.sh.words x)
      = evs.count (.got x) + s.threads.countP (g7x x) + b2n (bitAt s0.sh.words x) ∧
    evs.count (.released x) ≤ evs.count (.got x) + s.threads.countP (g7x x) + b2n (bitAt s0.sh.words x) ∧
    ((∀ pc, pc ∈ s.threads → pc = .idle) →
      evs.count (.released x) + b2n (bitAt s.sh.words x) = evs.count (.got x) + b2n (bitAt s0.sh.words x)) := by
  have hA := invA_runAny anyAct as _ _ _ _ (invA_start s0 hn hidle) h
  have hc := hA.cons x
  refine ⟨hc, by omega, fun hq => ?_⟩
  rw [countP_idle (f := g7x x) (by simp [g7x]) hq, countP_idle (f := c11x x) (by simp [c11x]) hq] at hc
  omega

/-- `Clear` of an id whose bit is clear returns false and changes nothing (first load and every
    re-load after a failed CAS); beyond the capacity it returns false and changes nothing (fix of KF-C08-3);
    and the only steps of a `Clear` call that change the shared state are the successful CAS — whose
    compare value has the bit set (`localA`) — and the decrement after it. -/
theorem C08_clear_noop (sh : Shared) (id : Nat) :
    (id / 64 < sh.words.length → bitAt sh.words id = false →
        tstep sh (.c8 id) = (sh, .idle, some (.cleared false)) ∧
        tstep sh (.c10 id) = (sh, .idle, some (.cleared false))) ∧
    (¬ id / 64 < sh.words.length → tstep sh (.c8 id) = (sh, .idle, some (.cleared false))) ∧
    (tstep sh (.c8 id)).1 = sh ∧ (tstep sh (.c10 id)).1 = sh ∧
    (∀ b, sh.words.getD (bucketOffset id) 0 ≠ b → tstep sh (.c9 id b) = (sh, .c10 id, none)) := by
  refine ⟨fun hlt hb => ?_, fun hlt => ?_, ?_, ?_, fun b hb => ?_⟩
  · exact ⟨(clearLoad_miss (.inl rfl) hb).1, (clearLoad_miss (.inr rfl) hb).1⟩
  · exact (clearLoad_miss (.inl rfl) (bitAt_oob _ _ hlt)).1
  · simp only [tstep]
    split
    · split <;> rfl
    · rfl
  · simp only [tstep]
    split <;> rfl
  · simp only [tstep, hb, ↓reduceIte]

/-- ∀ schedule, NO protocol, in which `Clear(0)` is not called: the bit of the reserved id stays set and
    every id handed out is in `1..NumStreams-1`. -/
theorem C08_reserved_and_range_any (n k : Nat) (hn : 0 < n) (as : List Action) (s : State) (evs : List Ev)
    (h : runAny noClear0 (initState n k) [] as = some (s, evs)) :
    bitAt s.sh.words 0 = true ∧ ∀ id, Ev.got id ∈ evs → 1 ≤ id ∧ id < 64 * n := by
  have hN := runAny_induct (fun _ _ _ _ _ hI ha hs => invN_step hI ha hs) as _ _ _ _ (invN_init n k hn).1 h
  exact ⟨hN.b.reserved, hN.b.gotOk⟩

/-! Full statement of "releasing is harmless / no call panics" without the protocol:
  `∀ schedule (runAny anyAct), no step returns crashNegative, and 0 ≤ inuse`.
It does NOT hold on the unchanged code, in two exactly delimited cases:
  1. `Clear(0)` is called (`noClear0`): the reserved bit is cleared, the counter goes to −1
     (`C08_cex_clear_reserved`);
  2. the CAS of a `Clear(x)` succeeds while a `GetStream` call has set the bit of `x` again but has not
     returned yet (`rogueCAS`; only a double / stale release racing the re-acquisition of the id does
     that): the bit of an id that is being handed out is cleared, the counter is decremented before it
     was incremented (`C08_cex_double_release_negative`).
The `_partial` form excludes exactly these two kinds of actions (`calm`). -/

/-- ∀ schedule, NO protocol, without the two excluded kinds of actions: the counter never goes negative
    and no call panics with 'negative streams inuse'. -/
theorem C08_no_negative_partial (n k : Nat) (hn : 0 < n) (as : List Action) (s : State) (evs : List Ev)
    (h : runAny calm (initState n k) [] as = some (s, evs)) :
    0 ≤ s.sh.inuse ∧
    ∀ a s' r, calm s a = true → step s a = some (s', r) → r ≠ some .crashNegative := by
  obtain ⟨hN, hC⟩ := runAny_induct (P := fun s evs => InvN n _ s evs ∧ InvC s.sh s.threads)
    (fun s _ a _ _ hI ha hs => ⟨invN_step hI.1 (calm_noClear0 s a ha) hs, (invC_step hI.1 hI.2 ha hs).1⟩)
    as _ _ _ _ (invN_init n k hn) h
  refine ⟨?_, fun a s' r hok hs => (invC_step hN hC hok hs).2⟩
  have := inuse_ge hN.a (by rw [hN.len]; exact hN.b) hC
  omega

/-- the values returned by the actions of a schedule -/
def retsOf : State → List Action → List (Option Ret)
  | _, [] => []
  | s, a :: as =>
    match step s a with
    | some (s', r) => r :: retsOf s' as
    | none => []

/-- 128-id generator, 3 goroutines. Goroutine 0 acquires ids 1 and 64 and releases 64 (id 1 in use,
    counter 1). Goroutine 1 calls `Clear(1)` and loads the word (bit set). Goroutine 0 calls `Clear(1)`:
    true, counter 0. Goroutine 2 calls `GetStream`; its CAS sets the bit of id 1 again; it is parked in
    front of the increment. -/
def cexDouble : List Action :=
  oneGet 0 ++ oneGet 0 ++ [.start 0 (.clear 64), .step 0, .step 0]
    ++ [.start 1 (.clear 1)]
    ++ [.start 0 (.clear 1), .step 0, .step 0]
    ++ [.start 2 .get, .step 2, .step 2, .step 2]

set_option maxRecDepth 100000 in
/-- … now the CAS of goroutine 1 (the double release) succeeds on the same word value (excluded case 2),
    its decrement panics with 'negative streams inuse'; goroutine 2 then returns id 1 although the bit
    of id 1 is clear and `Available()` = 127 = NumStreams − 1. -/
theorem C08_cex_double_release_negative :
    (runAny anyAct (initState 2 3) [] cexDouble).map (fun p => rogueCAS p.1 (.step 1)) = some true ∧
    (retsOf (initState 2 3) (cexDouble ++ [.step 1, .step 1, .step 2])).drop cexDouble.length
      = [none, some .crashNegative, some (.stream 1 true)] ∧
    (runAny anyAct (initState 2 3) [] (cexDouble ++ [.step 1, .step 1, .step 2])).map
      (fun p => (bitAt p.1.sh.words 1, available p.1.sh)) = some (false, 127) := by
  decide

/-- excluded case 1, sequentially: `Clear(0)` on a fresh 128-id generator clears the reserved bit and
    panics (counter −1, `Available()` = 128); the next `GetStream` hands out id 0. -/
theorem C08_cex_clear_reserved :
    seqTrace (init 2) [.clear 0, .get] =
      [(.clear 0, some .crashNegative, 128), (.get, some (.stream 0 true), 127)] := by
  decide

/-! ### `Clear` of something that is not an id of the generator (KF-C08-3, repaired)

The repaired code (`if stream < 0 || stream >= s.NumStreams { return false }`) satisfies the full statement: -/

/-- `Clear` of ANY argument outside `0..NumStreams-1` — negative (`clearNeg`, every `k`) or `≥ NumStreams` —, in
    EVERY state: answers false and changes nothing (no bit, not the counter, not the offset word); as a step of the
    concurrent machine it leaves the shared state alone and returns at once. -/
theorem C08_clear_out_of_range (sh : Shared) :
    (∀ k, clearNeg sh k = (sh, some (.cleared false))) ∧
    (∀ id, 64 * sh.words.length ≤ id →
      clear sh id = (sh, some (.cleared false)) ∧ tstep sh (.c8 id) = (sh, .idle, some (.cleared false))) := by
  refine ⟨fun _ => rfl, fun id hid => ?_⟩
  have hr : ¬ id / 64 < sh.words.length := by omega
  exact ⟨clear_miss sh id (bitAt_oob _ _ hr), (clearLoad_miss (.inl rfl) (bitAt_oob _ _ hr)).1⟩

/-- non-vacuity: one id handed out; `Clear(-1)`, `Clear(-64)`, `Clear(128)`, `Clear(100000)` answer false and
    `Available()` stays 126 -/
example : (hTrace (init 2) [.op .get, .clearNeg 1, .clearNeg 64, .op (.clear 128), .op (.clear 100000)]).map
      (fun r => (r.2.1, r.2.2)) =
    [(some (.stream 1 true), 126), (some (.cleared false), 126), (some (.cleared false), 126),
     (some (.cleared false), 126), (some (.cleared false), 126)] := by decide

/-- sequential use, ALL sequences of `GetStream` / `Clear(id)` (any id ≠ 0: held, free, released twice,
    beyond the capacity) / `Available`, both capacities: every answer is allowed by the abstract id-set
    specification `specStep` — an id handed out is in `1..NumStreams-1` and was free; `GetStream` fails
    only when all `NumStreams-1` ids are handed out; `Clear` returns whether the id was handed out (false,
    nothing changes, beyond the capacity) — and after EVERY op `Available()` = `NumStreams-1-#handed
    out`. (`seqMon` is the fused form the driver runs.) -/
theorem C08_sequential_spec (n : Nat) (hn : 0 < n) (ops : List Op) (hops : ∀ op, op ∈ ops → op ≠ .clear 0) :
    specCheck (64 * n) (specInit (64 * n)) (seqTrace (init n) ops) = true ∧
    seqMon (64 * n) (init n) (specInit (64 * n)).tbl 0 ops = true := by
  -- an op sequence is a history without presets
  have h := specInv_runH hn (ops.map .op)
    (fun h => by obtain ⟨o, ho, e⟩ := List.mem_map.mp h; cases e; exact hops _ ho rfl)
    (init n) (specInit (64 * n)).tbl 0 (specInv_init n hn)
  rw [hTrace_map_op] at h
  exact ⟨h, by rw [seqMon_eq]; exact h⟩

/-! ### any history: every value of the rotating offset word; the counter is never consulted by `GetStream` -/

/-- The word scan of `GetStream`, for EVERY value `o` of the offset word (all 2^32) and every number of
    words `nb` (1 ≤ nb ≤ 2^31; the code has 2 and 512):
    (1) the uint32 computation of the code (`scanPos32`: `(i + (o+1)%nb) % nb`, the increment wrapping at
        2^32) is the `Nat` expression `tstep` uses — in particular for `o = 2^32-1`, `2^31-1`;
    (2) the word index stays inside the bitset;
    (3) the scan `i = 0..nb-1` visits every word exactly once (some `i` reaches it, and only one). -/
theorem C08_scan_every_word_once (nb o : UInt32) (h0 : 0 < nb.toNat) (hmax : nb.toNat ≤ 2147483648) :
    (∀ i, i < nb.toNat →
        (scanPos32 nb o (UInt32.ofNat i)).toNat = (i + nextOffset nb.toNat o.toNat) % nb.toNat) ∧
    (∀ i, i < nb.toNat → (scanPos32 nb o (UInt32.ofNat i)).toNat < nb.toNat) ∧
    (∀ pos, pos < nb.toNat → ∃ i, i < nb.toNat ∧ (scanPos32 nb o (UInt32.ofNat i)).toNat = pos ∧
        ∀ i', i' < nb.toNat → (scanPos32 nb o (UInt32.ofNat i')).toNat = pos → i' = i) := by
  have hoff := nextOffset_lt h0 o.toNat
  have e := scanPos32_toNat nb o h0 hmax
  refine ⟨e, ?_, ?_⟩
  · intro i hi; rw [e i hi]; exact Nat.mod_lt _ h0
  · intro pos hpos
    obtain ⟨i, hi, hp⟩ := rot_surj hoff hpos
    refine ⟨i, hi, by rw [e i hi]; exact hp, ?_⟩
    intro i' hi' hp'
    rw [e i' hi'] at hp'
    exact rot_inj hi' hi hoff (by rw [hp', hp])

/-- A complete `GetStream` (running alone: sequentially, or inside a window in which the other goroutines are
    parked in the middle of their calls — e.g. a `Clear` between its CAS and its decrement, when the counter
    still counts an id whose bit is already clear) succeeds whenever some id is free in the bitset, for EVERY
    value of the in-use counter and EVERY value of the offset word: it consults neither to decide. -/
theorem C08_getstream_any_counter_any_offset (sh : Shared) (hn : 0 < sh.words.length)
    (x : Nat) (hx : x < 64 * sh.words.length) (hfree : bitAt sh.words x = false) :
    ∃ id, id < 64 * sh.words.length ∧ bitAt sh.words id = false ∧
      (getStream sh).2 = some (.stream id true) ∧ (getStream sh).1.words = setBit sh.words id ∧
      (getStream sh).1.inuse = sh.inuse + 1 := by
  rcases getStream_spec sh hn with ⟨id, h1, h2, h3⟩ | ⟨h1, _⟩
  · exact ⟨id, h1, h2, by rw [h3], by rw [h3], by rw [h3]⟩
  · rw [h1 x hx] at hfree; cases hfree

/-- sequential use, ALL histories: all sequences of `GetStream` / `Clear(id)` (id ≠ 0) / `Available` in which
    the offset word is set to ARBITRARY values between the calls (the state the word has after any number of
    past calls, e.g. 2^32 − k), both capacities: every answer is allowed by the abstract id-set specification
    and `Available()` = `NumStreams-1-#handed out` after every op. (`seqMonH` is the fused form the driver
    runs for `smon` lines.) -/
theorem C08_sequential_spec_any_history (n : Nat) (hn : 0 < n) (ops : List HOp) (hops : HOp.op (.clear 0) ∉ ops) :
    specCheck (64 * n) (specInit (64 * n)) (hTrace (init n) ops) = true ∧
    seqMonH (64 * n) (init n) (specInit (64 * n)).tbl 0 ops = true := by
  have h := specInv_runH hn ops hops (init n) (specInit (64 * n)).tbl 0 (specInv_init n hn)
  exact ⟨h, by rw [seqMonH_eq]; exact h⟩

/-! ### linearization of the concurrent machine to the abstract id-set specification

Full statement of the design (property id `C08_refines_spec`, DESIGN section 6; not a Lean name): "the concurrent object is
linearizable to the abstract id set".
It does NOT hold for every operation of the unchanged code: a failing `GetStream` has no linearization point (it
saw every id in use, but at different moments — the property only asks for `C08_no_false_exhaustion`), and
`Available()` reads a counter that lags behind the bitset (`C08_cex_available_transient`). The `_partial` form
below covers every other call — `GetStream` returning an id, `Clear` returning true or false (beyond the capacity:
false) — for ALL schedules and WITHOUT the client protocol (any goroutine may release any id ≠ 0 at any time). -/

/-- ∀ schedule, NO client protocol (`Clear(0)` excluded): the calls with a linearization point (`lpOf`: the
    successful CAS of `GetStream` / of `Clear`, the load of `Clear` that sees the bit clear, `Clear` beyond the
    capacity), taken in the order of their linearization points with the answers they return (`C08_lp_answers`),
    form a history the sequential specification `specStep` accepts from the empty set — every id handed out was
    free and in `1..NumStreams-1`, every successful release was of an id handed out, every `false` release of a
    free id — and the specification's set at the end is the bitset without the reserved bit, its cardinality the
    number of set bits − 1. -/
theorem C08_linearizable_partial (n k : Nat) (hn : 0 < n) (as : List Action) (s : State)
    (lin : List (Op × Option Ret)) (h : runLin noClear0 (initState n k) as = some (s, lin)) :
    ∃ st, specAccepts (64 * n) (specInit (64 * n)) lin = some st ∧
      (∀ id, id < 64 * n → st.tbl.getD id false = (decide (id ≠ 0) && bitAt s.sh.words id)) ∧
      countBelow (bitAt s.sh.words) (64 * n) = 1 + st.cnt := by
  have hL0 : LinInv n (initState n k).sh.words (specInit (64 * n)).tbl 0 := (specInv_init n hn).lin
  obtain ⟨st, h1, hL⟩ := lin_run hn as (initState n k) s lin _ [] _ _ (invN_init n k hn).1 hL0 h
  exact ⟨st, h1, hL.tblOk, hL.count⟩

/-- the answer of a call is the answer of its linearization point, and the linearization point is an atomic
    operation of the call itself (so it lies between call and return): a `Clear` load that makes the call return
    `r` linearizes `(Clear id, r)`; a word CAS of `GetStream` that succeeds (changes the shared state) linearizes
    `(GetStream, id)` and leaves the thread in front of the increment after which it returns exactly `id, true`; a
    CAS of `Clear(id)` that succeeds linearizes `(Clear id, true)` and leaves the thread in front of the decrement
    after which it returns true (or panics 'negative streams inuse' — excluded cases, `C08_no_negative_partial`). -/
theorem C08_lp_answers (sh : Shared) :
    (∀ id r, (tstep sh (.c8 id)).2.2 = some r → lpOf sh (.c8 id) = [(.clear id, some r)]) ∧
    (∀ id r, (tstep sh (.c10 id)).2.2 = some r → lpOf sh (.c10 id) = [(.clear id, some r)]) ∧
    (∀ off i j b, (lpOf sh (.g5 off i j b) ≠ [] ∨ (tstep sh (.g5 off i j b)).1 ≠ sh) →
        ∃ id, lpOf sh (.g5 off i j b) = [(.get, some (.stream id true))] ∧ (tstep sh (.g5 off i j b)).2.1 = .g7 id ∧
          ∀ sh', (tstep sh' (.g7 id)).2.2 = some (.stream id true)) ∧
    (∀ id b, (lpOf sh (.c9 id b) ≠ [] ∨ (tstep sh (.c9 id b)).1 ≠ sh) →
        lpOf sh (.c9 id b) = [(.clear id, some (.cleared true))] ∧ (tstep sh (.c9 id b)).2.1 = .c11 id ∧
          ∀ sh', (tstep sh' (.c11 id)).2.2 = some (.cleared true) ∨ (tstep sh' (.c11 id)).2.2 = some .crashNegative) := by
  have load : ∀ id pc r, pc = .c8 id ∨ pc = .c10 id → (tstep sh pc).2.2 = some r → lpOf sh pc = [(.clear id, some r)] :=
    fun id pc r hpc h => by
      cases hb : bitAt sh.words id
      · rw [(clearLoad_miss hpc hb).1] at h
        cases h; exact (clearLoad_miss hpc hb).2
      · rw [(clearLoad_hit hpc hb).1] at h; cases h
  refine ⟨fun id r => load id _ r (.inl rfl), fun id r => load id _ r (.inr rfl), ?_, ?_⟩
  · intro off i j b h
    by_cases hc : sh.words.getD ((i + off) % sh.words.length) 0 = b
    · exact ⟨streamFromBucket ((i + off) % sh.words.length) j, by simp only [lpOf, hc, ↓reduceIte],
        by simp only [tstep, hc, ↓reduceIte], fun _ => rfl⟩
    · rcases h with h | h <;> exact (h (by simp only [lpOf, tstep, hc, ↓reduceIte])).elim
  · intro id b h
    by_cases hc : sh.words.getD (bucketOffset id) 0 = b
    · refine ⟨by simp only [lpOf, hc, ↓reduceIte], by simp only [tstep, hc, ↓reduceIte], fun sh' => ?_⟩
      simp only [tstep]
      split
      · exact Or.inr rfl
      · exact Or.inl rfl
    · rcases h with h | h <;> exact (h (by simp only [lpOf, tstep, hc, ↓reduceIte])).elim

/-- counterexample to the full statement: a failing `GetStream` with no linearization point. 128-id generator,
    only id 64 free: thread 0 scans word 0 while only id 64 (word 1) is free, then thread 1 releases id 1 and
    acquires id 64, then thread 0 scans word 1 (`linCexSched`): it reports exhaustion although at EVERY moment of its
    call some id was free — no single moment at which the sequential specification would allow `0, false`. -/
def linCexState : State :=
  { sh := { words := [allOnes, allOnes &&& ~~~ mask 64], inuse := 126, offset := 1 },
    threads := [.idle, .idle], held := [] }
def linCexSched : List Action :=
  [.start 0 .get, .step 0, .step 0,                       -- thread 0: offset load, offset CAS, word 0 loaded: full
   .start 1 (.clear 1), .step 1, .step 1,                 -- thread 1: Clear(1) → true (id 1 free, word 0)
   .start 1 .get, .step 1, .step 1, .step 1, .step 1,     -- thread 1: GetStream → 64 (its scan starts at word 1)
   .step 0]                                               -- thread 0: word 1 loaded: full → 0, false

theorem C08_cex_failing_get_not_linearizable :
    retsOf linCexState linCexSched =
      [none, none, none, none, none, some (.cleared true), none, none, none, none, some (.stream 64 true),
       some (.stream 0 false)] ∧
    -- at every moment of the run at least one non-reserved id is free
    ((runVis linCexState linCexSched).map (fun p => (p.2 ++ [p.1]).all (fun s =>
        decide (countBelow (bitAt s.sh.words) 128 < 128)))) = some true := by
  decide +kernel

theorem cap_of_proto (proto : Nat) : 0 < wordsOfProto proto ∧ 64 * wordsOfProto proto = specCap proto := by
  unfold wordsOfProto specCap
  by_cases h : proto ≤ 2
  · rw [if_neg (by omega), if_pos h]; decide
  · rw [if_pos (by omega), if_neg h]; decide

/-- for EVERY protocol version the generator `New(protocol)` builds (`wordsOfProto` words) has exactly the capacity
    the property prescribes (`specCap`: 128 ids for v1-2, 32768 ids for v3+, written from the property text):
    `NumStreams`, and `Available()` of the fresh generator = 127 / 32767. -/
theorem C08_capacity_by_protocol (proto : Nat) :
    0 < wordsOfProto proto ∧ (init (wordsOfProto proto)).numStreams = specCap proto ∧
    available (init (wordsOfProto proto)) = ((specCap proto - 1 : Nat) : Int) ∧
    (proto ≤ 2 → specCap proto = 128) ∧ (2 < proto → specCap proto = 32768) := by
  obtain ⟨hn, hc⟩ := cap_of_proto proto
  have h0 : (init (wordsOfProto proto)).inuse = 0 := rfl
  refine ⟨hn, by rw [Shared.numStreams, length_init, hc], ?_, fun h => if_pos h, fun h => if_neg (by omega)⟩
  simp only [available, length_init, hc, h0]
  omega

/-- ∀ protocol version, ∀ schedule (client protocol): every id handed out is in 1..127 for v1-2 and in 1..32767 for
    v3+ — the range of the PROTOCOL VERSION, not of whatever bitset the generator happens to have. -/
theorem C08_range_by_protocol (proto k : Nat) (s : State) (h : Reachable (wordsOfProto proto) k s) :
    (∀ id, id ∈ s.held → 1 ≤ id ∧ id < specCap proto ∧ (proto ≤ 2 → id ≤ 127) ∧ (2 < proto → id ≤ 32767)) ∧
    (∀ a s' id, legal s a = true → step s a = some (s', some (.stream id true)) →
        1 ≤ id ∧ id < specCap proto ∧ (proto ≤ 2 → id ≤ 127) ∧ (2 < proto → id ≤ 32767)) := by
  obtain ⟨hn, hc⟩ := cap_of_proto proto
  obtain ⟨_, hheld, hstep⟩ := C08_reserved_and_range (wordsOfProto proto) k hn s h
  have key : ∀ id, 1 ≤ id ∧ id < 64 * wordsOfProto proto →
      1 ≤ id ∧ id < specCap proto ∧ (proto ≤ 2 → id ≤ 127) ∧ (2 < proto → id ≤ 32767) := by
    intro id ⟨h1, h2⟩
    rw [hc] at h2
    have h3 := h2
    unfold specCap at h3
    exact ⟨h1, h2, fun hp => by rw [if_pos hp] at h3; omega, fun hp => by rw [if_neg (by omega)] at h3; omega⟩
  exact ⟨fun id hid => key id (hheld id hid), fun a s' id hl hs => key id ((hstep a s' id true hl hs).1 rfl)⟩

/-- sequential use, ALL histories (offset presets included), EVERY protocol version: the model of `New(protocol)`
    satisfies the abstract id-set specification instantiated with the capacity of the protocol version
    (`specCap`). This is what the driver runs for `smon <proto> …` lines; the harness judges the real code by the
    same specification with the same, protocol-given capacity. -/
theorem C08_sequential_spec_by_protocol (proto : Nat) (ops : List HOp) (hops : HOp.op (.clear 0) ∉ ops) :
    specCheck (specCap proto) (specInit (specCap proto)) (hTrace (init (wordsOfProto proto)) ops) = true ∧
    seqMonH (specCap proto) (init (wordsOfProto proto)) (specInit (specCap proto)).tbl 0 ops = true := by
  obtain ⟨hn, hc⟩ := cap_of_proto proto
  rw [← hc]
  exact C08_sequential_spec_any_history (wordsOfProto proto) hn ops hops

/-- the capacities: protocol 2 is the last small one, protocol 3 the first large one; the specification with the
    capacity of protocol 2 rejects an id above 127 -/
example : specCap 2 = 128 ∧ specCap 3 = 32768 ∧ wordsOfProto 2 = 2 ∧ wordsOfProto 3 = 512 ∧
    specCheck (specCap 2) (specInit (specCap 2)) [(.get, some (.stream 128 true), 126)] = false := by decide

/-- the scan across the wrap of the offset word: offset = 2^32-1, two words: the scan starts at word 0 -/
example : scanPos32 2 4294967295 0 = 0 ∧ scanPos32 2 4294967295 1 = 1 ∧
    scanPos32 512 4294967294 0 = 511 ∧ scanPos32 512 4294967294 1 = 0 := by decide

/-- a history with the offset word at 2^32-1: the model hands out id 1 (word 0), then id 64 (word 1) -/
example : (hTrace (init 2) [.setOffset 4294967295, .op .get, .op .get]).map (fun r => r.2.1) =
    [some (.stream 1 true), some (.stream 64 true)] := by decide

/-- the window of `C08_getstream_any_counter_any_offset`: all 127 ids handed out, a `Clear(1)` between its CAS
    and its decrement (bit clear, counter still 127): a complete `GetStream` returns id 1 -/
example : let sh : Shared := { words := [allOnes &&& ~~~ mask 1, allOnes], inuse := 127, offset := 1 }
    (getStream sh).2 = some (.stream 1 true) := by decide

/-- the hypothesis of `C08_no_false_exhaustion` is satisfiable: a full generator -/
example : let full : Shared := { words := [allOnes, allOnes], inuse := 127, offset := 1 }
    (threadRun (startPC .get) [full, full, full, full]).2 = some (.stream 0 false) := by decide

/-- the hypotheses of `C08_no_false_exhaustion_run` are satisfiable: 128-id generator, id 127 free; thread 2 calls
    `GetStream` (its scan starts at word 0, which is full); thread 1 calls `GetStream`, scans from word 1 and its CAS takes
    id 127; thread 2 loads word 0, then word 1, both full, and reports exhaustion (`fexSched`) -/
def fexState : State :=
  { sh := { words := [allOnes, allOnes &&& ~~~ mask 127], inuse := 126, offset := 1 },
    threads := [.idle, .idle, .idle], held := [] }
def fexSched : List Action := [.step 2, .start 1 .get, .step 1, .step 1, .step 1, .step 2]

example : (∀ a, a ∈ fexSched → startsCall 2 a = false) ∧
    ((step fexState (.start 2 .get)).bind (fun p => (runVis p.1 fexSched).bind (fun q =>
      (step q.1 (.step 2)).map (fun x => (q.2.length, x.2))))) = some (6, some (.stream 0 false)) := by
  decide

/-- `C08_sequential_spec` is not vacuous: the specification rejects a false exhaustion and a wrong
    `Clear` result -/
example : specCheck 8 (specInit 8) [(.get, some (.stream 0 false), 7)] = false ∧
    specCheck 8 (specInit 8) [(.clear 5, some (.cleared true), 7)] = false ∧
    specCheck 8 (specInit 8) [(.get, some (.stream 3 true), 6), (.get, some (.stream 3 true), 5)] = false ∧
    specCheck 8 (specInit 8) [(.get, some (.stream 3 true), 6), (.clear 3, some (.cleared true), 7),
      (.clear 3, some (.cleared false), 7)] = true := by decide

set_option maxRecDepth 100000 in
/-- `C08_linearizable_partial` on the schedule of the excluded double release (allowed here: only `Clear(0)` is
    excluded): the linearization is get 1, get 64, release 64, release 1, get 1 (re-acquisition), release 1 (the
    stale double release, successful because the id was handed out again) — accepted by the specification -/
example : (runLin noClear0 (initState 2 3) (cexDouble ++ [.step 1])).map (fun p => p.2) =
    some [(.get, some (.stream 1 true)), (.get, some (.stream 64 true)), (.clear 64, some (.cleared true)),
          (.clear 1, some (.cleared true)), (.get, some (.stream 1 true)), (.clear 1, some (.cleared true))] := by
  decide

set_option maxRecDepth 100000 in
/-- … and the specification rejects a history in which an id is handed out twice without a release in between -/
example : (specAccepts 128 (specInit 128) [(.get, some (.stream 5 true)), (.get, some (.stream 5 true))]).isSome = false ∧
    (specAccepts 128 (specInit 128) [(.get, some (.stream 5 true)), (.clear 5, some (.cleared true)),
      (.get, some (.stream 5 true))]).isSome = true := by decide

/-- `C08_counter_fits_int32`: the lower bound is approached — after the excluded double release the counter is −1 -/
example : (runAny anyAct (initState 2 3) [] (cexDouble ++ [.step 1, .step 1])).map (fun p => p.1.sh.inuse) = some (-1) := by
  decide

/-- the schedules of `C08_no_negative_partial` include racing double releases: two goroutines `Clear(1)` -/
example : (runAny calm (initState 2 2) [] (oneGet 0 ++ [.start 0 (.clear 1), .start 1 (.clear 1), .step 0, .step 1,
    .step 0, .step 1])).isSome = true := by decide

/-- the machine runs: two threads race for ids on the 128-id generator -/
example : (run (initState 2 2) [.start 0 .get, .start 1 .get, .step 0, .step 1, .step 1, .step 1, .step 0]).isSome = true := by
  decide

end C08
