import Proofs.C12Varint
/-!
# C12: encBigInt2C (marshal.go:1224, big.Int → two's complement) is the specification's varint, for every integer

`encBigInt2C` is what marshalDecimal writes after the 4-byte scale (it does NOT go through marshalVarint's trimming
loop) and what marshalVarint starts from for a *big.Int.  The specification (`specVarint`) is the SHORTEST two's
complement form.  Proved here: the two are the same byte string for every `n : Int` — in particular at the
boundaries −2^(8k−1) (−128, −32768, …), where `n.BitLen()` is a multiple of 8 and the code has to strip one 0xFF.
-/
namespace C12BigInt
open ValueSpec Marshal C12Bytes C12Varint

theorem beNat_natBytes (m : Nat) : beNat (natBytes m) = m := by
  fun_induction natBytes m
  case case1 => rfl
  case case2 m hm ih => rw [beNat_snoc, ih, byteOfNat_toNat]; omega

/-- `big.Int.Bytes()` has no leading zero byte: its length is the least `L` with `m < 256^L` -/
theorem natBytes_length_le_iff (m L : Nat) : (natBytes m).length ≤ L ↔ m < 256 ^ L := by
  fun_induction natBytes m generalizing L
  case case1 => have := pow256_pos L; simp; omega
  case case2 m hm ih =>
    cases L with
    | zero => simp; omega
    | succ L' =>
      have := ih L'
      rw [Nat.pow_succ, List.length_append]
      simp only [List.length_singleton]
      generalize 256 ^ L' = P at *
      omega

/-- `big.Int.Bytes()` of a number with `K + 1` base-256 digits is its `K + 1` big-endian bytes -/
theorem natBytes_eq_beBytes {m K : Nat} (h1 : 256 ^ K ≤ m) (h2 : m < 256 ^ (K + 1)) : natBytes m = beBytes (K + 1) m := by
  have hl : (natBytes m).length = K + 1 :=
    Nat.le_antisymm ((natBytes_length_le_iff m _).mpr h2)
      (Nat.lt_of_not_le fun h => absurd ((natBytes_length_le_iff m _).mp h) (by omega))
  have := BE.beBytes_beNat (natBytes m)
  rwa [beNat_natBytes, hl, eq_comm] at this

/-- minimality and value of a byte string whose first byte is not redundant, in the form the case analysis needs -/
theorem spec_of (e : Bytes) (n : Int) (hm : minimalTC e = true) (hv : tcDec e = n) : e = specVarint n := by
  rw [← hv]; exact (specVarint_tcDec e hm).symm

theorem encBigInt2C_pos (n : Int) (hn : n > 0) : encBigInt2C n = specVarint n := by
  obtain ⟨m, rfl⟩ : ∃ m : Nat, n = m := ⟨n.toNat, by omega⟩
  have hbe := beNat_natBytes m
  have hlen := natBytes_length_le_iff m
  unfold encBigInt2C
  rw [if_neg (by omega), if_pos hn]
  simp only [Int.toNat_natCast]
  -- the code's choice — a 0 in front when the top bit is set — is one turn of the trimming loop on `0 :: Bytes()`
  refine Eq.trans (b := trimTC (0 :: natBytes m)) ?_ (by rw [trimTC_spec _ (by simp), tcDec_cons 0, hbe]; simp)
  · generalize natBytes m = b at hbe hlen
    cases b with
    | nil => rw [beNat_nil] at hbe; omega
    | cons x r =>
      have hx0 : x ≠ 0 := by
        rintro rfl
        have hr := beNat_lt r
        have := (hlen r.length).mpr (by rw [← hbe, beNat_cons]; simpa using hr)
        simp at this; omega
      have h0 : (0:UInt8).toNat = 0 := rfl
      have hff : (255:UInt8).toNat = 255 := rfl
      rw [trimTC_cons]
      dsimp only
      by_cases h128 : x.toNat ≥ 128
      · rw [if_pos h128, if_pos (by simp [minimalTC, h0]; omega)]
      · rw [if_neg h128, if_neg (by simp [minimalTC, h0]; omega), trimTC_head hx0 (fun h => by rw [h, hff] at h128; omega)]

theorem encBigInt2C_neg (n : Int) (hn : n < 0) : encBigInt2C n = specVarint n := by
  obtain ⟨a, rfl⟩ : ∃ a : Nat, n = -(a:Int) := ⟨n.natAbs, by omega⟩
  -- 2^(bitLen a − 1) ≤ a < 2^(bitLen a); K + 1 = bitLen a / 8 + 1 is the number of bytes the code takes
  have hlt := (bitLen_le_iff a _).mp (Nat.le_refl _)
  have hge : ¬ a < 2 ^ (bitLen a - 1) := fun h => by
    have := (bitLen_le_iff a _).mpr h
    have := (bitLen_le_iff a 0).mp
    omega
  unfold encBigInt2C
  rw [if_neg (by omega), if_neg (by omega)]
  simp only [Int.natAbs_neg, Int.natAbs_natCast]
  generalize hK : bitLen a / 8 = K
  have hup : 2 * a < 256 ^ (K + 1) := by
    have : 2 ^ (bitLen a + 1) ≤ 2 ^ ((K + 1) * 8) := Nat.pow_le_pow_right (by decide) (by omega)
    rw [BE.pow2_mul8, Nat.pow_succ] at this
    omega
  have hfit : fitsS (K + 1) (-(a:Int)) = true := by
    simp only [fitsS_iff, ← cast_pow256]; omega
  have hb : natBytes (-(a:Int) + (2:Int) ^ ((K + 1) * 8)).toNat = tcEnc (K + 1) (-(a:Int)) := by
    rw [BE.two_pow_mul8, tcEnc_neg _ _ (by rw [← cast_pow256]; omega) (by omega)]
    have e : 256 ^ (K + 1) = 256 ^ K * 256 := Nat.pow_succ ..
    rw [← cast_pow256]
    exact natBytes_eq_beBytes (by omega) (by omega)
  rw [hb]
  have hval := BE.tcDec_tcEnc (K + 1) _ (Nat.le_add_left 1 K) hfit
  have hlen := tcEnc_length (K + 1) (-(a:Int))
  generalize tcEnc (K + 1) (-(a:Int)) = b at hval hlen
  match b, hlen with
  | [x], _ => exact spec_of _ _ rfl hval
  | x :: y :: r, hlen =>
    have hx128 := tcDec_neg_head x (y :: r) (by omega)
    dsimp only
    by_cases hs : x = 255 ∧ y.toNat ≥ 128
    · rw [if_pos hs]
      obtain ⟨rfl, hy⟩ := hs
      have hval' : tcDec (y :: r) = -(a:Int) := (tcDec_ff_ext y r hy).symm.trans hval
      refine spec_of _ _ ?_ hval'
      cases r with
      | nil => rfl
      | cons z r' =>
        -- one more redundant byte would mean that the number fits K − 1 bytes: bitLen would have given a smaller K
        rw [minimalTC_iff, hval', Bool.eq_false_iff]
        intro hf
        simp only [fitsS_iff, ← cast_pow256] at hf
        have hlo : 2 ^ ((z :: r').length * 8 + 7) ≤ 2 ^ (bitLen a - 1) :=
          Nat.pow_le_pow_right (by decide) (by simp at hlen ⊢; omega)
        rw [Nat.pow_add, BE.pow2_mul8] at hlo
        generalize 256 ^ (z :: r').length = Q at hf hlo
        omega
    · rw [if_neg hs]
      refine spec_of _ _ ?_ hval
      simp only [minimalTC, Bool.not_eq_true', decide_eq_false_iff_not]
      rintro (⟨h0, _⟩ | ⟨hff, hy⟩)
      · omega
      · exact hs ⟨UInt8.toNat_inj.mp (by simpa using hff), hy⟩

/-- marshal.go encBigInt2C = the specification's varint (shortest two's complement), for EVERY integer -/
theorem encBigInt2C_spec (n : Int) : encBigInt2C n = specVarint n := by
  by_cases h0 : n = 0
  · subst h0
    rw [specVarint]; simp [encBigInt2C, byteOfNat]
  · by_cases hp : n > 0
    · exact encBigInt2C_pos n hp
    · exact encBigInt2C_neg n (by omega)

/-- marshalVarint on a big.Int writes the specification's varint (shortest two's complement): the trimming loop finds
    nothing to trim -/
theorem marshalVarintBig_spec (n : Int) : marshalVarintBig n = specVarint n := by
  unfold marshalVarintBig
  rw [encBigInt2C_spec, trimTC_spec _ (specVarint_ne_nil n), tcDec_specVarint]

end C12BigInt
