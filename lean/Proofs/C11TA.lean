import Model.Policies
/-! The token-aware generator `taSeq` = replica phases (`taHead`) followed by the fallback minus what was used; at the end the
equations of `TA.pickSeq` / `TA.pickScan`. -/
namespace C11
open Policies

theorem mem_minusUsed (used fb : List Host) (x : Host) :
    x ∈ minusUsed used fb ↔ x ∈ fb ∧ x ∉ used := by
  -- arms of `minusUsed`, here and below: nothing left | the head was offered before | the head is offered
  fun_induction minusUsed used fb
  · simp
  · rename_i used h r hc ih
    have hc' : h ∈ used := by simpa using hc
    rw [ih, List.mem_cons]
    exact ⟨fun ⟨h1, h2⟩ => ⟨Or.inr h1, h2⟩, fun ⟨h1, h2⟩ => ⟨h1.resolve_left (fun e => h2 (e ▸ hc')), h2⟩⟩
  · rename_i used h r hc ih
    have hc' : h ∉ used := by simpa using hc
    rw [List.mem_cons, ih, List.mem_cons, List.mem_cons]
    by_cases hx : x = h
    · subst hx; simp [hc']
    · simp [hx]

theorem minusUsed_congr (fb : List Host) : ∀ u1 u2 : List Host, (∀ x, x ∈ u1 ↔ x ∈ u2) → minusUsed u1 fb = minusUsed u2 fb := by
  induction fb with
  | nil => intro _ _ _; rfl
  | cons a r ih =>
    intro u1 u2 h
    have hc : u1.contains a = u2.contains a := by
      rw [Bool.eq_iff_iff]
      simp only [List.contains_eq_mem, decide_eq_true_eq]
      exact h a
    unfold minusUsed
    rw [hc, ih u1 u2 h, ih (a :: u1) (a :: u2) (fun x => by simp only [List.mem_cons, h x])]

theorem minusUsed_nodup (used fb : List Host) : (minusUsed used fb).Nodup := by
  fun_induction minusUsed used fb
  · exact List.nodup_nil
  · rename_i ih; exact ih
  · rename_i ih
    exact List.nodup_cons.mpr ⟨fun hm => ((mem_minusUsed _ _ _).mp hm).2 List.mem_cons_self, ih⟩

theorem minusUsed_sublist (used fb : List Host) : (minusUsed used fb).Sublist fb := by
  fun_induction minusUsed used fb
  · exact List.Sublist.refl _
  · rename_i ih; exact ih.cons _
  · rename_i ih; exact ih.cons_cons _

theorem remoteWalk_full (up : Nat → Bool) (bs : List (List Host)) :
    remoteWalk up bs = bs.flatten.filter (fun h => up h.id) := by
  induction bs with
  | nil => simp [remoteWalk]
  | cons b rest ih =>
    unfold remoteWalk
    rw [List.flatten_cons, List.filter_append, ih]

theorem mem_bucket (tier : Host → Nat) (m : Nat) (reps : List Host) (x : Host)
    (hx : x ∈ (remoteBuckets tier m reps).flatten) : x ∈ reps ∧ 1 ≤ tier x ∧ tier x ≤ m := by
  simp only [remoteBuckets, List.mem_flatten, List.mem_map, List.mem_range] at hx
  obtain ⟨l, ⟨t, ht, rfl⟩, hx⟩ := hx
  rw [List.mem_filter] at hx
  have : tier x = t + 1 := by simpa using hx.2
  exact ⟨hx.1, by omega, by omega⟩

theorem buckets_nodup (tier : Host → Nat) (m : Nat) (reps : List Host) (hn : reps.Nodup) :
    (remoteBuckets tier m reps).flatten.Nodup := by
  unfold List.Nodup
  rw [List.pairwise_flatten]
  constructor
  · intro l hl
    simp only [remoteBuckets, List.mem_map] at hl
    obtain ⟨t, _, rfl⟩ := hl
    exact List.Sublist.nodup List.filter_sublist hn
  · simp only [remoteBuckets]
    rw [List.pairwise_map]
    refine List.Pairwise.imp ?_ (List.pairwise_lt_range (n := m))
    intro t1 t2 hlt x hx y hy e
    subst e
    rw [List.mem_filter] at hx hy
    have h1 : tier x = t1 + 1 := by simpa using hx.2
    have h2 : tier x = t2 + 1 := by simpa using hy.2
    omega

theorem mem_localReplicas (tier : Host → Nat) (up : Nat → Bool) (reps : List Host) (x : Host) :
    x ∈ localReplicas tier up reps ↔ x ∈ reps ∧ tier x = 0 ∧ up x.id = true := by
  simp [localReplicas, List.mem_filter]

theorem mem_taHead (tier : Host → Nat) (m : Nat) (up : Nat → Bool) (nl : Bool) (reps : List Host) (x : Host)
    (hx : x ∈ taHead tier m up nl reps) : x ∈ reps ∧ up x.id = true := by
  unfold taHead at hx
  rw [List.mem_append] at hx
  rcases hx with hx | hx
  · rw [mem_localReplicas] at hx; exact ⟨hx.1, hx.2.2⟩
  · split at hx
    · have := hx
      rw [remoteWalk_full] at this
      rw [List.mem_filter] at this
      exact ⟨(mem_bucket tier m reps x this.1).1, this.2⟩
    · simp at hx

theorem taHead_nodup (tier : Host → Nat) (m : Nat) (up : Nat → Bool) (nl : Bool) (reps : List Host)
    (hn : reps.Nodup) : (taHead tier m up nl reps).Nodup := by
  unfold taHead
  rw [List.nodup_append]
  refine ⟨List.Sublist.nodup List.filter_sublist hn, ?_, ?_⟩
  · split
    · rw [remoteWalk_full]
      exact List.Sublist.nodup List.filter_sublist (buckets_nodup tier m reps hn)
    · exact List.nodup_nil
  · intro a ha b hb e
    subst e
    rw [mem_localReplicas] at ha
    split at hb
    · have := hb
      rw [remoteWalk_full] at this
      rw [List.mem_filter] at this
      have := (mem_bucket tier m reps a this.1).2.1
      omega
    · simp at hb

theorem mem_append_minusUsed (hd fb : List Host) (x : Host) : x ∈ hd ++ minusUsed hd fb ↔ x ∈ hd ∨ x ∈ fb := by
  rw [List.mem_append, mem_minusUsed]
  by_cases h : x ∈ hd
  · exact ⟨fun _ => Or.inl h, fun _ => Or.inl h⟩
  · exact ⟨fun hx => hx.elim Or.inl (fun a => Or.inr a.1), fun hx => hx.elim Or.inl (fun a => Or.inr ⟨a, h⟩)⟩

theorem nodup_append_minusUsed (hd fb : List Host) (hn : hd.Nodup) : (hd ++ minusUsed hd fb).Nodup :=
  List.nodup_append.mpr ⟨hn, minusUsed_nodup _ _, fun _ ha b hb e => ((mem_minusUsed _ _ b).mp hb).2 (e ▸ ha)⟩

theorem taSeq_nodup (tier : Host → Nat) (m : Nat) (up : Nat → Bool) (nl : Bool) (reps fb : List Host)
    (hn : reps.Nodup) : (taSeq tier m up nl reps fb).Nodup :=
  nodup_append_minusUsed _ _ (taHead_nodup tier m up nl reps hn)

theorem mem_taSeq_of_fallback (tier : Host → Nat) (m : Nat) (up : Nat → Bool) (nl : Bool) (reps fb : List Host)
    (x : Host) (hx : x ∈ fb) : x ∈ taSeq tier m up nl reps fb :=
  (mem_append_minusUsed _ _ x).mpr (Or.inr hx)

theorem taSeq_up (tier : Host → Nat) (m : Nat) (up : Nat → Bool) (nl : Bool) (reps fb : List Host)
    (hfb : ∀ x ∈ fb, up x.id = true) (x : Host) (hx : x ∈ taSeq tier m up nl reps fb) : up x.id = true :=
  ((mem_append_minusUsed _ _ x).mp hx).elim (fun h => (mem_taHead tier m up nl reps x h).2) (hfb x)

theorem taHead_eq_specHead (tier : Host → Nat) (m : Nat) (up : Nat → Bool) (nl : Bool) (reps : List Host) :
    taHead tier m up nl reps = specHead tier m up nl reps := by
  unfold taHead specHead localReplicas
  cases nl
  · simp
  · simp only [if_true]
    rw [remoteWalk_full up _, List.range_succ_eq_map, List.map_cons, List.flatten_cons]
    congr 1
    simp only [remoteBuckets, List.map_map]
    generalize List.range m = ts
    induction ts with
    | nil => simp
    | cons t r ih =>
      simp only [List.map_cons, List.flatten_cons, List.filter_append, ih, List.filter_filter, Function.comp]
      congr 1
      apply List.filter_congr
      intro x _
      simp [Bool.and_comm]

theorem minusUsed_eq_filter (used fb : List Host) (hn : fb.Nodup) :
    minusUsed used fb = fb.filter (fun h => !used.contains h) := by
  fun_induction minusUsed used fb
  · rfl
  · rename_i used a r hc ih
    rw [ih (List.nodup_cons.mp hn).2, List.filter_cons_of_neg (by rw [hc]; exact Bool.false_ne_true)]
  · rename_i used a r hc ih
    rw [ih (List.nodup_cons.mp hn).2, List.filter_cons_of_pos (by simpa using hc)]
    congr 1
    apply List.filter_congr
    intro x hx
    have : x ≠ a := fun e => (List.nodup_cons.mp hn).1 (e ▸ hx)
    simp [this]

theorem mem_specHead (tier : Host → Nat) (m : Nat) (up : Nat → Bool) (nl : Bool) (reps : List Host) (x : Host) :
    x ∈ specHead tier m up nl reps ↔
      x ∈ reps ∧ tier x < (if nl then m + 1 else 1) ∧ up x.id = true := by
  unfold specHead
  simp only [List.mem_flatten, List.mem_map, List.mem_range]
  constructor
  · rintro ⟨l, ⟨t, ht, rfl⟩, hx⟩
    rw [List.mem_filter] at hx
    have h2 : tier x = t ∧ up x.id = true := by simpa using hx.2
    exact ⟨hx.1, by omega, h2.2⟩
  · rintro ⟨h1, h2, h3⟩
    refine ⟨_, ⟨tier x, h2, rfl⟩, ?_⟩
    rw [List.mem_filter]
    exact ⟨h1, by simp [h3]⟩

/-- which hosts the replica phases offer does not depend on the order of the replica list (the shuffle) -/
theorem taHead_contains_perm (tier : Host → Nat) (m : Nat) (up : Nat → Bool) (nl : Bool) (r1 r2 : List Host)
    (hp : r1.Perm r2) (x : Host) :
    (taHead tier m up nl r1).contains x = (taHead tier m up nl r2).contains x := by
  rw [taHead_eq_specHead, taHead_eq_specHead, Bool.eq_iff_iff]
  simp only [List.contains_eq_mem, decide_eq_true_eq, mem_specHead, hp.mem_iff]

theorem headOf_contains_perm (t : TA) (up : Nat → Bool) (σ1 σ2 : List Host → List Host)
    (h1 : ∀ l, (σ1 l).Perm l) (h2 : ∀ l, (σ2 l).Perm l) (rk : Option (Nat × Nat)) (x : Host) :
    (t.headOf up σ1 rk).contains x = (t.headOf up σ2 rk).contains x := by
  fun_cases TA.headOf t up σ1 rk <;> simp only [TA.headOf, *]
  rename_i l ft _
  split
  · exact taHead_contains_perm _ _ _ _ _ _ ((h1 l).trans (h2 l).symm) x
  · rfl

theorem headOf_up (t : TA) (up : Nat → Bool) (σ : List Host → List Host) (rk : Option (Nat × Nat)) :
    ∀ x ∈ t.headOf up σ rk, up x.id = true := by
  intro x hx
  cases rk with
  | none => cases hx
  | some kt =>
    obtain ⟨ks, tok⟩ := kt
    simp only [TA.headOf] at hx
    split at hx
    · exact (mem_taHead _ _ _ _ _ x hx).2
    · cases hx

/-! ### the equations of `TA.pickSeq` / `TA.pickScan`: by the replica list of the query (`repsOf`; `pickSeq_eq`, `pickScan_eq`), as
replica phases ++ fallback part (`pickScan_parts`), and as the fallback's scan seen through the replica phases (`viaHead`) -/

/-- the replica list `Pick` works with for a query (after shuffling); `none` = the query is handed to the
fallback policy as it is (no routing key, no token ring, or empty ring and no replica table) -/
def repsOf (t : TA) (σ : List Host → List Host) (rk : Option (Nat × Nat)) : Option (List Host) :=
  match rk with
  | none => none
  | some (ks, tok) =>
    match t.replicasFor ks tok with
    | .hosts l ft => some (if ft && t.shuffle then σ l else l)
    | _ => none

theorem pickSeq_eq (t : TA) (up : Nat → Bool) (σ : List Host → List Host) (rk : Option (Nat × Nat)) :
    t.pickSeq up σ rk = .seq (match repsOf t σ rk with
      | none => t.pol.pickSeq up
      | some r => taSeq t.pol.tier t.pol.maxTier up t.nonlocal r (t.pol.pickSeq up)) := by
  fun_cases TA.pickSeq t up σ rk <;> simp only [repsOf, *]

theorem pickScan_eq (t : TA) (up : Nat → Bool) (σ : List Host → List Host) (rk : Option (Nat × Nat)) :
    t.pickScan up σ rk = match repsOf t σ rk with
      | none => t.pol.pickScan up
      | some r => taScan t.pol.tier t.pol.maxTier up t.nonlocal r (t.pol.pickScan up) := by
  fun_cases TA.pickScan t up σ rk <;> simp only [repsOf, *]

theorem pickScan_parts (t : TA) (up : Nat → Bool) (σ : List Host → List Host) (rk : Option (Nat × Nat)) :
    t.pickScan up σ rk = ⟨t.headOf up σ rk ++ (t.fbPart up σ rk).offered, (t.fbPart up σ rk).crashed⟩ := by
  fun_cases TA.pickScan t up σ rk <;> simp only [TA.headOf, TA.fbPart, *] <;> rfl

/-- the fallback iterator `F` as seen through a token-aware iterator whose replica phases offered `used`, or as it is -/
def viaHead (routed : Bool) (used : List Host) (F : Scan) : Scan :=
  if routed then ⟨used ++ minusUsed used F.offered, F.crashed⟩ else F

theorem mem_viaHead (routed : Bool) (used : List Host) (F : Scan) (x : Host) :
    x ∈ (viaHead routed used F).offered ↔ (routed = true ∧ x ∈ used) ∨ x ∈ F.offered := by
  cases routed
  · exact ⟨Or.inr, fun h => h.elim (fun a => nomatch a.1) id⟩
  · exact (mem_append_minusUsed used F.offered x).trans ⟨fun h => h.imp_left (⟨rfl, ·⟩), fun h => h.imp_left (·.2)⟩

theorem viaHead_nodup (routed : Bool) (used : List Host) (F : Scan) (hu : used.Nodup) (hF : F.offered.Nodup) :
    (viaHead routed used F).offered.Nodup := by
  cases routed
  · exact hF
  · exact nodup_append_minusUsed used F.offered hu

theorem viaHead_crashed (routed : Bool) (used : List Host) (F : Scan) : (viaHead routed used F).crashed = F.crashed := by
  cases routed <;> rfl

theorem pickScan_viaHead (t : TA) (up : Nat → Bool) (σ : List Host → List Host) (rk : Option (Nat × Nat)) :
    t.pickScan up σ rk = viaHead (repsOf t σ rk).isSome (t.headOf up σ rk) (t.pol.pickScan up) := by
  fun_cases TA.pickScan t up σ rk <;> simp only [repsOf, TA.headOf, *] <;> rfl

end C11
