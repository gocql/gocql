import Proofs.C14Prepare
import Proofs.C14Key
/-!
# C14 — statement level: whose text was PREPAREd for the flight an executor is handed

The statement-level machine `tstep` is the key-level machine on the keys of the triples (`tstep_key`, `trun_run`) plus
the list `sent`; `TInv`: every flight has a recorded triple, and the flight's cache key is that triple's key.
-/
namespace C14Stmt
open LRU Prepare

theorem tIsRun : IsRun tstep trun :=
  ⟨fun _ => rfl, fun x a as => by rw [trun]; cases tstep x a <;> rfl⟩

theorem tstep_key {x x' : TState} {a : TAction} (h : tstep x a = some x') : step x.s a.key = some x'.s := by
  unfold tstep at h
  cases hk : step x.s a.key with
  | none => simp [hk] at h
  | some s' => simp only [hk] at h; cases h; rfl

theorem trun_run : ∀ (as : List TAction) (x x' : TState), trun x as = some x' →
    run x.s (as.map TAction.key) = some x'.s
  | [], x, x', h => by rw [tIsRun.nil] at h; cases h; rfl
  | a :: as, x, x', h => by
    obtain ⟨x1, hs, h⟩ := tIsRun.cons_iff.mp h
    exact isRun.cons_iff.mpr ⟨x1.s, tstep_key hs, trun_run as x1 x' h⟩

structure TInv (x : TState) : Prop where
  len : x.sent.length = x.s.flights.length
  text : ∀ (f : Nat) (fl : Flight (List UInt8)), x.s.flights[f]? = some fl → ∃ t, x.sent[f]? = some t ∧ keyOf t = fl.key

theorem tinv_init (cap : Int) : TInv (tinit cap) := by
  refine ⟨rfl, ?_⟩
  intro f fl h
  simp [tinit, init] at h

theorem tstep_inv (x x' : TState) (a : TAction) (hI : TInv x) (h : tstep x a = some x') : TInv x' := by
  obtain ⟨hl, hk⟩ := hI
  unfold tstep at h
  cases hs : step x.s a.key with
  | none => simp [hs] at h
  | some s' =>
    simp only [hs] at h
    injection h with h; subst h
    rcases step_flights x.s s' a.key hs with he | ⟨k, ha, he⟩ | ⟨f, fl, st, hf, _, he⟩
    · -- flights unchanged: sent unchanged
      have hsent : a.sentAfter x.sent (decide (s'.flights.length ≠ x.s.flights.length)) = x.sent := by
        cases a <;> simp [TAction.sentAfter, he]
      rw [hsent]
      exact ⟨by rw [hl, he], fun f fl hfl => hk f fl (he ▸ hfl)⟩
    · -- a new flight: its text is the looked-up triple's
      cases a with
      | lookup t =>
        simp only [TAction.key, Action.lookup.injEq] at ha
        have hne : decide (s'.flights.length ≠ x.s.flights.length) = true := by rw [he]; simp
        simp only [TAction.sentAfter, hne, if_true]
        refine ⟨by rw [he]; simp [hl], ?_⟩
        intro f fl hfl
        rw [he] at hfl
        rcases getElem?_snoc_cases hfl with ⟨_, hfl⟩ | ⟨rfl, rfl⟩
        · obtain ⟨t', h1, h2⟩ := hk f fl hfl
          exact ⟨t', getElem?_append_of _ h1, h2⟩
        · exact ⟨t, by rw [← hl]; exact List.getElem?_concat_length, ha⟩
      | complete g r => simp [TAction.key] at ha
      | unprepared t id => simp [TAction.key] at ha
    · -- a status update: keys and texts unchanged
      have hlen : s'.flights.length = x.s.flights.length := by rw [he]; simp
      have hsent : a.sentAfter x.sent (decide (s'.flights.length ≠ x.s.flights.length)) = x.sent := by
        cases a <;> simp [TAction.sentAfter, hlen]
      rw [hsent]
      refine ⟨by rw [hl, hlen], ?_⟩
      intro g fl' hfl
      rw [he] at hfl
      rcases getElem?_set_cases hfl with ⟨rfl, rfl⟩ | ⟨_, hfl⟩
      · exact hk f fl hf
      · exact hk g fl' hfl

theorem trun_inv (as : List TAction) (x x' : TState) : TInv x → trun x as = some x' → TInv x' :=
  tIsRun.inv tstep_inv

end C14Stmt
