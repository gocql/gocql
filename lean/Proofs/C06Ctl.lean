import Model.CtlBeat
import Model.EvDeb
import Proofs.Common
/-! The two small machines of C06: the invariant of controlConn.close() against the heartbeat loop (`Model/CtlBeat.lean`) and of
    the event debouncer's flusher (`Model/EvDeb.lean`). -/

namespace CtlBeat

/-- the heartbeat goroutine has started and has not returned -/
def live (h : Hb) : Prop := h = .sel ∨ h = .inflight ∨ h = .reconn

structure Inv (st : St) : Prop where
  started_live : st.state = .started → live st.hb
  sending : st.cl = .sending → live st.hb ∧ st.state = .closing
  begun : st.state ≠ .starting → st.hb ≠ .notStarted
  closing_cl : st.state = .closing → st.cl ≠ .idle

theorem inv_init : Inv init := by constructor <;> simp [init]

theorem inv_step (st st' : St) (a : Act) (h : Inv st) (hs : step st a = some st') : Inv st' := by
  obtain ⟨h1, h2, h3, h4⟩ := h
  revert hs
  fun_cases step st a <;> intro hs <;> cases hs <;> constructor <;> grind [live]

theorem isRun : IsRun step run := ⟨fun _ => rfl, fun s a as => by rw [run]; cases step s a <;> rfl⟩

theorem inv_reach {as : List Act} {st : St} (h : run init as = some st) : Inv st :=
  isRun.inv inv_step inv_init h

end CtlBeat

namespace EvDeb

/-- the flusher of the code that exists is never inside the handler -/
theorem inv_step (st st' : St) (a : Act) (h : st.fl ≠ .inCallback) (hs : step st a = some st') : st'.fl ≠ .inCallback := by
  revert hs
  fun_cases step st a <;> intro hs <;> cases hs <;> simp_all

theorem isRun : IsRun step run := ⟨fun _ => rfl, fun s a as => by rw [run]; cases step s a <;> rfl⟩

theorem inv_reach {as : List Act} {st : St} (h : run init as = some st) : st.fl ≠ .inCallback :=
  isRun.inv inv_step (by simp [init]) h

end EvDeb
