import Model.Mux
import Model.MuxOwn
import Model.MuxExec
import Model.MuxPool
import Proofs.Common
/-! What the invariant proofs of the multiplexer machines (`Mux`, `MuxOwn`, `MuxExec`, `MuxPipe`, `MuxPool`) share. Their states
    are maps `Nat → _` written at one index by each action (`upd`). A field of an invariant that holds index by index is kept
    by `forall_update`; a field that links two maps is re-proved by `upd_from` from hand-picked instances of the old fields.
    An action writes a few components of the state and a field of the invariant reads a few: a field that reads nothing
    that was written is the old field as it stands (`{ h with .. }`), so each lemma names only the fields the action can
    disturb, and what each of them rests on. (`{ h' with }` with no field re-reads an invariant `h'` at a state that
    differs from its own only in components no field reads.)
    After `fun_cases step …`, `caseN` is the N-th alternative of `step` in the order of its definition (the action is named in the
    comment after it); the refusing alternatives go by `cases hs`. -/

/-- A field of the invariant after a step, from the instances of the old invariant that were put into the context just
    before: `upd` is opened into "at the written point / elsewhere". The instances are given by hand because letting
    `grind` find them among the quantified fields costs many times more. -/
macro "upd_from " t:term : tactic =>
  `(tactic| (have := $t; simp only [Mux.upd, MuxOwn.upd, MuxOwn.closeWith, MuxExec.upd, MuxPool.upd]; grind))
