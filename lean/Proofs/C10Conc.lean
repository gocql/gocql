import Model.PlacementConc
import Proofs.Common
/-!
Two goroutines, each running ONE critical section under the mutex, in any interleaving: the shared state
at the end is that of one of the two serial orders.  (The machine is `Model/PlacementConc.lean`'s: two goroutines, sections of
micro-steps; `C11Conc.cow_linearizable` is the counterpart for `n` goroutines over the copy-on-write machine `Policies.Cow`.)
-/
namespace C10Conc
open PlacementConc

variable {σ L : Type}

theorem thr_set_same (m : Mach σ L) (x : Bool) (t : Thr σ L) : (setThr m x t).thr x = t := by simp [setThr]
theorem thr_set_other (m : Mach σ L) (x : Bool) (t : Thr σ L) : (setThr m x t).thr (!x) = m.thr (!x) := by
  cases x <;> simp [setThr]
theorem sh_set (m : Mach σ L) (x : Bool) (t : Thr σ L) : (setThr m x t).sh = m.sh := rfl

theorem exec_cons (f : Micro σ L) (fs : List (Micro σ L)) (st : σ × L) : exec (f :: fs) st = exec fs (f st.1 st.2) := rfl

/-- state after goroutine `x`'s mutator alone, and after the other one following it -/
def S1 (s : σ) (l0 : L) (P : Bool → List (Micro σ L)) (x : Bool) : σ := (exec (P x) (s, l0)).1
def S2 (s : σ) (l0 : L) (P : Bool → List (Micro σ L)) (x : Bool) : σ := (exec (P (!x)) (S1 s l0 P x, l0)).1

def Fresh (P : Bool → List (Micro σ L)) (l0 : L) (m : Mach σ L) (z : Bool) : Prop :=
  m.thr z = ⟨[P z], false, l0⟩
def Fin (m : Mach σ L) (z : Bool) : Prop := ∃ l, m.thr z = ⟨[], false, l⟩
def Hold (m : Mach σ L) (z : Bool) (goal : σ) : Prop :=
  ∃ r l, m.thr z = ⟨[r], true, l⟩ ∧ (exec r (m.sh, l)).1 = goal

/-- what is reachable: nobody started; `x` is inside its section and the other has not started; `x` is through and the
other has not started / is inside / is through -/
inductive Inv (s : σ) (l0 : L) (P : Bool → List (Micro σ L)) (m : Mach σ L) : Prop
  | idle (hf : ∀ z, Fresh P l0 m z) (hs : m.sh = s)
  | first (x : Bool) (hh : Hold m x (S1 s l0 P x)) (hfo : Fresh P l0 m (!x))
  | between (x : Bool) (hfx : Fin m x) (hfo : Fresh P l0 m (!x)) (hs : m.sh = S1 s l0 P x)
  | second (x : Bool) (hfx : Fin m x) (hh : Hold m (!x) (S2 s l0 P x))
  | done (x : Bool) (hfx : Fin m x) (hfo : Fin m (!x)) (hs : m.sh = S2 s l0 P x)

theorem bool_cases (x y : Bool) : y = x ∨ y = !x := by cases x <;> cases y <;> simp

theorem step_fin (m : Mach σ L) (y : Bool) (h : Fin m y) : step m y = m := by
  obtain ⟨l, hl⟩ := h
  simp [step, hl]

/-- a step of a fresh goroutine while the other one holds the mutex changes nothing (blocked) -/
theorem step_blocked (m : Mach σ L) (y : Bool) (p : List (Micro σ L)) (l0 : L) (hy : m.thr y = ⟨[p], false, l0⟩)
    (ho : (m.thr (!y)).holding = true) : step m y = m := by
  simp [step, hy, ho]

/-- a fresh goroutine takes the free mutex -/
theorem step_lock (m : Mach σ L) (y : Bool) (p : List (Micro σ L)) (l0 : L) (hy : m.thr y = ⟨[p], false, l0⟩)
    (ho : (m.thr (!y)).holding = false) : step m y = setThr m y ⟨[p], true, l0⟩ := by
  simp [step, hy, ho]

/-- a goroutine inside its section: next micro-step, or unlock at the end; what it is heading for is kept -/
theorem step_hold (m : Mach σ L) (y : Bool) (goal : σ) (h : Hold m y goal) :
    (Hold (step m y) y goal ∧ (step m y).thr (!y) = m.thr (!y)) ∨
    (Fin (step m y) y ∧ (step m y).thr (!y) = m.thr (!y) ∧ (step m y).sh = goal) := by
  obtain ⟨r, l, hl, hg⟩ := h
  cases r with
  | nil =>
    right
    have : step m y = setThr m y ⟨[], false, l⟩ := by simp [step, hl]
    rw [this]
    exact ⟨⟨l, thr_set_same _ _ _⟩, thr_set_other _ _ _, by rw [sh_set]; exact hg⟩
  | cons f fs =>
    left
    have : step m y = { setThr m y ⟨[fs], true, (f m.sh l).2⟩ with sh := (f m.sh l).1 } := by simp [step, hl]
    rw [this]
    refine ⟨⟨fs, (f m.sh l).2, by simp [setThr], ?_⟩, by cases y <;> simp [setThr]⟩
    simpa [exec_cons] using hg

theorem inv_step (s : σ) (l0 : L) (P : Bool → List (Micro σ L)) (m : Mach σ L) (y : Bool)
    (h : Inv s l0 P m) : Inv s l0 P (step m y) := by
  cases h with
  | idle hf hs =>
    -- nobody started: y takes the mutex
    have ho : (m.thr (!y)).holding = false := by rw [hf (!y)]
    rw [step_lock m y (P y) l0 (hf y) ho]
    refine .first y ⟨P y, l0, thr_set_same _ _ _, ?_⟩ ?_
    · rw [sh_set, hs]; rfl
    · unfold Fresh; rw [thr_set_other]; exact hf (!y)
  | first x hh hfo =>
    rcases bool_cases x y with rfl | rfl
    · rcases step_hold m y _ hh with ⟨h1, h2⟩ | ⟨h1, h2, h3⟩
      · exact .first y h1 (by unfold Fresh at *; rw [h2]; exact hfo)
      · exact .between y h1 (by unfold Fresh at *; rw [h2]; exact hfo) h3
    · obtain ⟨r, l, hl, hg⟩ := hh
      rw [step_blocked m (!x) (P (!x)) l0 hfo (by simp [hl])]
      exact .first x ⟨r, l, hl, hg⟩ hfo
  | between x hfx hfo hs =>
    rcases bool_cases x y with rfl | rfl
    · rw [step_fin m y hfx]; exact .between y hfx hfo hs
    · obtain ⟨l, hl⟩ := hfx
      have ho : (m.thr (!(!x))).holding = false := by simp [hl]
      rw [step_lock m (!x) (P (!x)) l0 hfo ho]
      refine .second x ⟨l, ?_⟩ ⟨P (!x), l0, thr_set_same _ _ _, ?_⟩
      · have := thr_set_other m (!x) ⟨[P (!x)], true, l0⟩
        simp only [Bool.not_not] at this
        rw [this]; exact hl
      · rw [sh_set, hs]; rfl
  | second x hfx hh =>
    rcases bool_cases x y with rfl | rfl
    · rw [step_fin m y hfx]; exact .second y hfx hh
    · obtain ⟨l, hl⟩ := hfx
      rcases step_hold m (!x) _ hh with ⟨h1, h2⟩ | ⟨h1, h2, h3⟩ <;> simp only [Bool.not_not] at h2
      · exact .second x ⟨l, by rw [h2]; exact hl⟩ h1
      · exact .done x ⟨l, by rw [h2]; exact hl⟩ h1 h3
  | done x hfx hfo hs =>
    have : step m y = m := by
      rcases bool_cases x y with rfl | rfl
      · exact step_fin m y hfx
      · exact step_fin m (!x) hfo
    rw [this]; exact .done x hfx hfo hs

/-- two goroutines, one critical section each, ANY schedule: once both are through, the shared state is that of
one of the two serial orders -/
theorem mutex_serial (s : σ) (l0 : L) (P : Bool → List (Micro σ L)) (sched : List Bool)
    (hd : ∀ z, ((run (start s l0 (fun x => [P x])) sched).thr z).secs = []) :
    (run (start s l0 (fun x => [P x])) sched).sh = S2 s l0 P false ∨
    (run (start s l0 (fun x => [P x])) sched).sh = S2 s l0 P true := by
  have h0 : Inv s l0 P (start s l0 (fun x => [P x])) := .idle (fun z => rfl) rfl
  have h : Inv s l0 P (run (start s l0 (fun x => [P x])) sched) :=
    foldl_inv (Inv s l0 P) step (fun m y h => inv_step s l0 P m y h) sched _ h0
  generalize run (start s l0 (fun x => [P x])) sched = m at h hd
  cases h with
  | idle hf _ => have := hd false; rw [hf false] at this; cases this
  | first x hh _ => obtain ⟨r, l, hl, _⟩ := hh; have := hd x; rw [hl] at this; cases this
  | between x _ hfo _ => have := hd (!x); rw [hfo] at this; cases this
  | second x _ hh => obtain ⟨r, l, hl, _⟩ := hh; have := hd (!x); rw [hl] at this; cases this
  | done x _ _ hs =>
    cases x
    · exact Or.inl hs
    · exact Or.inr hs

end C10Conc
