import Proofs.C01Upd
/-! The multiplexing machine `Model/Mux.lean`: what a step does, as a relation (`Step`); its inductive invariant; a finished
    call keeps its outcome. -/
namespace Mux

inductive Step (st : St) : Act → St → Prop
  | acquire (c s : Nat) : st.pc c = .idle → st.owner s = none → 1 ≤ s → s < st.cap → st.closed = false →
      Step st (.acquire c s) { st with owner := upd st.owner s (some c), pc := upd st.pc c (.acquired s) }
  | noStreams (c : Nat) : st.pc c = .idle → Step st (.noStreams c) { st with pc := upd st.pc c (.done .noStreams) }
  | buildFail (c s : Nat) : st.pc c = .acquired s →
      Step st (.buildFail c) { st with owner := upd st.owner s none, pc := upd st.pc c (.done .buildErr),
                                        clears := upd st.clears c (st.clears c + 1) }
  | writeCancelled (c s : Nat) : st.pc c = .acquired s →
      Step st (.writeCancelled c) { st with owner := upd st.owner s none, pc := upd st.pc c (.done .ctxErr),
                                             clears := upd st.clears c (st.clears c + 1) }
  | writeFailed (c s : Nat) : st.pc c = .acquired s →
      Step st (.writeFailed c) { st with pc := upd st.pc c (.done .writeErr), abandoned := upd st.abandoned c true,
                                          closed := true }
  | wrote (c s : Nat) : st.pc c = .acquired s →
      Step st (.wrote c) { st with wire := upd st.wire s (.pending c), pc := upd st.pc c (.waiting s) }
  | answer (s k w c : Nat) : st.wire s = .pending c →
      Step st (.answer s k w) { st with wire := upd st.wire s (.answered c k w), sent := upd st.sent c (some (k, w)) }
  | stray (s : Nat) : st.wire s = .none → st.owner s = none → Step st (.stray s) st
  | event : Step st .event st
  | handOver (s c k w d : Nat) : st.wire s = .answered c k w → st.closed = false → st.owner s = some d →
      st.pc d = .waiting s →
      Step st (.deliver s) { st with wire := upd st.wire s .none, owner := upd st.owner s none,
                                      pc := upd st.pc d (.done (.resp c k w)), clears := upd st.clears d (st.clears d + 1) }
  | handGone (s c k w d : Nat) : st.wire s = .answered c k w → st.closed = false → st.owner s = some d →
      st.pc d ≠ .waiting s →
      Step st (.deliver s) { st with wire := upd st.wire s .none, owner := upd st.owner s none,
                                      clears := upd st.clears d (st.clears d + 1) }
  | discard (s c k w : Nat) : st.wire s = .answered c k w → st.closed = false → st.owner s = none →
      Step st (.deliver s) { st with wire := upd st.wire s .none }
  | timeout (c s : Nat) : st.pc c = .waiting s →
      Step st (.timeout c) { st with pc := upd st.pc c (.done .timeout), abandoned := upd st.abandoned c true }
  | cancel (c s : Nat) : st.pc c = .waiting s →
      Step st (.cancel c) { st with pc := upd st.pc c (.done .ctxErr), abandoned := upd st.abandoned c true }
  | connDone (c s : Nat) : st.pc c = .waiting s → st.closed = true →
      Step st (.connDone c) { st with pc := upd st.pc c (.done .connClosed), abandoned := upd st.abandoned c true }
  | close : Step st .close { st with closed := true }

theorem step_iff {st st' : St} {a : Act} : step st a = some st' ↔ Step st a st' := by
  constructor
  · intro hs
    revert hs
    -- `constructor` finds the rule by the resulting STATE: of the three for `deliver` only one unifies with it
    fun_cases step st a <;> intro hs <;> cases hs <;> constructor <;> first | assumption | (simp_all; done)
  · intro h
    cases h <;> simp_all [step]

theorem Step.isSome {st st' : St} {a : Act} (h : Step st a st') : (step st a).isSome = true := by
  rw [step_iff.2 h]; rfl

structure Inv (st : St) : Prop where
  own_pc : ∀ s c, st.owner s = some c → st.clears c = 0 ∧ 1 ≤ s ∧ s < st.cap ∧
    (st.pc c = .acquired s ∨ st.pc c = .waiting s ∨ (st.abandoned c = true ∧ ∃ o, st.pc c = .done o))
  wire_own : ∀ s, st.wire s = .none ∨
    ∃ c, (st.wire s = .pending c ∨ ∃ k w, st.wire s = .answered c k w) ∧ st.owner s = some c ∧ st.pc c ≠ .acquired s
  /-- before its frame is written a call holds its id and the server side holds nothing for it -/
  acq_ok : ∀ c s, st.pc c = .acquired s → st.owner s = some c ∧ st.wire s = .none
  clears_le : ∀ c, st.clears c ≤ 1
  idle_clears : ∀ c, st.pc c = .idle → st.clears c = 0
  /-- a response was taken by the call whose request it answers, which released its id and got what the server sent -/
  resp_ok : ∀ d c k w, st.pc d = .done (.resp c k w) → c = d ∧ st.clears d = 1 ∧ st.sent c = some (k, w)
  own_unique : ∀ s s' c, st.owner s = some c → st.owner s' = some c → s = s'
  ans_sent : ∀ s c k w, st.wire s = .answered c k w → st.sent c = some (k, w)
  /-- a waiting call holds its id; on an open connection what it waits for is still outstanding -/
  wait_ok : ∀ c s, st.pc c = .waiting s → st.owner s = some c ∧ (st.closed = false → st.wire s ≠ .none)
  /-- … and an id stays reserved for a call that has gone only while its request / response is outstanding -/
  done_wire : ∀ s c o, st.owner s = some c → st.pc c = .done o → st.closed = false → st.wire s ≠ .none

theorem inv_init (cap : Nat) : Inv (init cap) := by
  constructor <;> simp [init]

/-- closeWithError -/
theorem Inv.shut {st : St} (h : Inv st) : Inv { st with closed := true } :=
  { h with
    wait_ok := fun c s hc => ⟨(h.wait_ok c s hc).1, fun hcl => by simp at hcl⟩
    done_wire := fun _ _ _ _ _ hc => by simp at hc }

/-- a call stops waiting (or never gets to wait) with an outcome that is no response; its id stays reserved. On an open
    connection only a waiting call does so, and what it waited for is still outstanding. -/
theorem Inv.giveUp {st : St} (h : Inv st) (c : Nat) (o : Outcome) (hno : ∀ a k w, o ≠ .resp a k w)
    (hw : st.closed = false → ∃ s, st.pc c = .waiting s) :
    Inv { st with pc := upd st.pc c (.done o), abandoned := upd st.abandoned c true } :=
  { h with
    own_pc := fun s c => by upd_from h.own_pc s c
    wire_own := fun s => by upd_from h.wire_own s
    acq_ok := fun c s => by upd_from h.acq_ok c s
    idle_clears := fun c => by upd_from h.idle_clears c
    resp_ok := fun d c k w => by upd_from h.resp_ok d c k w
    wait_ok := fun c s => by upd_from h.wait_ok c s
    done_wire := fun s' c' o' ho hp hcl => by
      by_cases e : c' = c
      · obtain ⟨s, hs⟩ := hw hcl
        subst e
        exact h.own_unique s s' c' (h.wait_ok c' s hs).1 ho ▸ (h.wait_ok c' s hs).2 hcl
      · exact h.done_wire s' c' o' ho (by simpa only [upd, if_neg e] using hp) hcl }

/-- the exits of exec before anything was written: the id is released -/
theorem Inv.unwritten {st : St} (h : Inv st) (c s : Nat) (hc : st.pc c = .acquired s) (o : Outcome)
    (hno : ∀ a k w, o ≠ .resp a k w) :
    Inv { st with owner := upd st.owner s none, pc := upd st.pc c (.done o),
                  clears := upd st.clears c (st.clears c + 1) } := by
  have ⟨ho, hw⟩ := h.acq_ok c s hc
  have hk := h.own_pc s c ho
  exact { h with
    own_pc := fun s c => by upd_from h.own_pc s c
    wire_own := fun s => by upd_from h.wire_own s
    acq_ok := fun c s => by upd_from h.acq_ok c s
    clears_le := fun c => by upd_from h.clears_le c
    idle_clears := fun c => by upd_from h.idle_clears c
    resp_ok := fun d c k w => by upd_from h.resp_ok d c k w
    own_unique := fun s s' c => by upd_from h.own_unique s s' c
    wait_ok := fun c s => by upd_from h.wait_ok c s
    done_wire := fun s' c' o => by have := h.own_unique s s' c'; upd_from h.done_wire s' c' o }

/-- recv hands the response on `s₀` to the call `d₀` registered for it -/
theorem Inv.handOver {st : St} (h : Inv st) (s₀ d₀ c₀ k₀ w₀ : Nat) (hw : st.wire s₀ = .answered c₀ k₀ w₀)
    (hd : st.owner s₀ = some d₀) :
    Inv { st with wire := upd st.wire s₀ .none, owner := upd st.owner s₀ none,
                  pc := upd st.pc d₀ (.done (.resp c₀ k₀ w₀)), clears := upd st.clears d₀ (st.clears d₀ + 1) } := by
  have hwo := h.wire_own s₀
  have hs' := h.ans_sent s₀ c₀ k₀ w₀ hw
  have hk := h.own_pc s₀ d₀ hd
  exact { h with
    own_pc := fun s c => by have := h.own_unique s s₀ c; upd_from h.own_pc s c
    wire_own := fun s => by upd_from h.wire_own s
    acq_ok := fun c s => by upd_from h.acq_ok c s
    clears_le := fun c => by upd_from h.clears_le c
    idle_clears := fun c => by upd_from h.idle_clears c
    resp_ok := fun d c k w => by upd_from h.resp_ok d c k w
    own_unique := fun s s' c => by upd_from h.own_unique s s' c
    ans_sent := fun s c k w => by upd_from h.ans_sent s c k w
    wait_ok := fun c s => by upd_from h.wait_ok c s
    done_wire := fun s c o => by have := h.own_unique s s₀ c; upd_from h.done_wire s c o }

/-- the call registered for `s₀` has gone: recv releases the id itself -/
theorem Inv.handGone {st : St} (h : Inv st) (s₀ d₀ c₀ k₀ w₀ : Nat) (hw : st.wire s₀ = .answered c₀ k₀ w₀)
    (hd : st.owner s₀ = some d₀) (hp : st.pc d₀ ≠ .waiting s₀) :
    Inv { st with wire := upd st.wire s₀ .none, owner := upd st.owner s₀ none,
                  clears := upd st.clears d₀ (st.clears d₀ + 1) } := by
  have hwo := h.wire_own s₀
  have hk := h.own_pc s₀ d₀ hd
  exact { h with
    own_pc := fun s c => by have := h.own_unique s s₀ c; upd_from h.own_pc s c
    wire_own := fun s => by upd_from h.wire_own s
    acq_ok := fun c s => by upd_from h.acq_ok c s
    clears_le := fun c => by upd_from h.clears_le c
    idle_clears := fun c => by upd_from h.idle_clears c
    resp_ok := fun d c k w => by upd_from h.resp_ok d c k w
    own_unique := fun s s' c => by upd_from h.own_unique s s' c
    ans_sent := fun s c k w => by upd_from h.ans_sent s c k w
    wait_ok := fun c s => by upd_from h.wait_ok c s
    done_wire := fun s c o => by upd_from h.done_wire s c o }

/-- a frame is discarded: nobody holds its id, or the connection is closed -/
theorem Inv.discard {st : St} (h : Inv st) (s₀ : Nat) (hf : st.owner s₀ = none ∨ st.closed = true) :
    Inv { st with wire := upd st.wire s₀ .none } :=
  { h with
    wire_own := fun s => by upd_from h.wire_own s
    acq_ok := fun c s => by upd_from h.acq_ok c s
    ans_sent := fun s c k w => by upd_from h.ans_sent s c k w
    wait_ok := fun c s => by upd_from h.wait_ok c s
    done_wire := fun s c o => by upd_from h.done_wire s c o }

theorem Step.inv {st st' : St} {a : Act} (hs : Step st a st') (h : Inv st) : Inv st' := by
  cases hs with
  | acquire c₀ s₀ hc ho h1 h2 hcl =>
    have hi := h.idle_clears c₀ hc
    have hw := h.wire_own s₀
    exact { h with
      own_pc := fun s c => by upd_from h.own_pc s c
      wire_own := fun s => by upd_from h.wire_own s
      acq_ok := fun c s => by upd_from h.acq_ok c s
      idle_clears := fun c => by upd_from h.idle_clears c
      resp_ok := fun d c k w => by upd_from h.resp_ok d c k w
      own_unique := fun s s' c => by have := h.own_pc s c; have := h.own_pc s' c; upd_from h.own_unique s s' c
      wait_ok := fun c s => by upd_from h.wait_ok c s
      done_wire := fun s c o => by upd_from h.done_wire s c o }
  | noStreams c₀ hc =>
    exact { h with
      own_pc := fun s c => by upd_from h.own_pc s c
      wire_own := fun s => by upd_from h.wire_own s
      acq_ok := fun c s => by upd_from h.acq_ok c s
      idle_clears := fun c => by upd_from h.idle_clears c
      resp_ok := fun d c k w => by upd_from h.resp_ok d c k w
      wait_ok := fun c s => by upd_from h.wait_ok c s
      done_wire := fun s c o => by have := h.own_pc s c; upd_from h.done_wire s c o }
  | buildFail c₀ s₀ hc | writeCancelled c₀ s₀ hc => exact h.unwritten c₀ s₀ hc _ (by simp)
  | writeFailed c₀ s₀ hc => exact { h.shut.giveUp c₀ _ (by simp) (by simp) with }
  | wrote c₀ s₀ hc =>
    have ⟨ho, hw⟩ := h.acq_ok c₀ s₀ hc
    have hk := h.own_pc s₀ c₀ ho
    exact { h with
      own_pc := fun s c => by upd_from h.own_pc s c
      wire_own := fun s => by upd_from h.wire_own s
      acq_ok := fun c s => by have := h.wait_ok c s; upd_from h.acq_ok c s
      idle_clears := fun c => by upd_from h.idle_clears c
      resp_ok := fun d c k w => by upd_from h.resp_ok d c k w
      ans_sent := fun s c k w => by upd_from h.ans_sent s c k w
      wait_ok := fun c s => by upd_from h.wait_ok c s
      done_wire := fun s c o => by upd_from h.done_wire s c o }
  | answer s₀ k₀ w₀ c₀ hc =>
    have hk := h.wire_own s₀
    exact { h with
      wire_own := fun s => by upd_from h.wire_own s
      acq_ok := fun c s => by upd_from h.acq_ok c s
      ans_sent := fun s c k w => by have := h.wire_own s; have := h.own_unique s s₀ c; upd_from h.ans_sent s c k w
      resp_ok := fun d c k w => by have := h.own_pc s₀ c; upd_from h.resp_ok d c k w
      wait_ok := fun c s => by upd_from h.wait_ok c s
      done_wire := fun s c o => by upd_from h.done_wire s c o }
  | stray | event => exact h
  | handOver s₀ c₀ k₀ w₀ d₀ hw _ hd _ => exact h.handOver s₀ d₀ c₀ k₀ w₀ hw hd
  | handGone s₀ c₀ k₀ w₀ d₀ hw _ hd hp => exact h.handGone s₀ d₀ c₀ k₀ w₀ hw hd hp
  | discard s₀ c₀ k₀ w₀ _ _ ho => exact h.discard s₀ (.inl ho)
  | timeout c₀ s₀ hc | cancel c₀ s₀ hc | connDone c₀ s₀ hc => exact h.giveUp c₀ _ (by simp) fun _ => ⟨s₀, hc⟩
  | close => exact h.shut

theorem inv_step (st st' : St) (a : Act) (h : Inv st) (hs : step st a = some st') : Inv st' :=
  (step_iff.1 hs).inv h

theorem isRun : IsRun step run := ⟨fun _ => rfl, fun s a as => by rw [run]; cases step s a <;> rfl⟩

theorem inv_reach {cap : Nat} {as : List Act} {st : St} (h : run (init cap) as = some st) : Inv st :=
  isRun.inv inv_step (inv_init cap) h

theorem Step.done {st st' : St} {a : Act} (hs : Step st a st') {c : Nat} {o : Outcome} (hd : st.pc c = .done o) :
    st'.pc c = .done o := by
  cases hs <;> first | exact hd | (simp only [upd]; grind)

theorem done_step (st st' : St) (a : Act) (c : Nat) (o : Outcome) (hd : st.pc c = .done o)
    (hs : step st a = some st') : st'.pc c = .done o :=
  (step_iff.1 hs).done hd

end Mux
