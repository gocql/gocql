import Proofs.C07Inv
/-!
# C07 — frames are written whole (property theorems)

Model: `Model/Writer.lean` (conn.go: deadlineContextWriter, writeCoalescer, exec's reaction to a
write error). The transport takes one socket Write in PIECES (`enter ; piece* ; endWrite`) with any other
action in between; what keeps frames whole is the modelled mechanism (one-slot semaphore / single flusher).
The theorems quantify over every action list (every number of writers, every interleaving, every piece
size, every cut position, every cancellation point, both writers); those about wire and semaphore of the reachable states
assume the serialised machine.
-/
namespace C07
open Writer

/-- `flush` reports to each writer of a coalesced batch exactly its share: whole iff its last byte is
    below the byte count of the vectored write. -/
theorem C07_attribution (ls : List Nat) (hpos : ∀ l ∈ ls, 0 < l) (n : Nat) :
    attrib ls n = Spec.attrib ls n 0 :=
  attrib_eq_spec ls hpos n 0

theorem C07_attribution_sum (ls : List Nat) (n : Nat) (h : n ≤ ls.foldr (· + ·) 0) :
    ((attrib ls n).map (·.1)).foldr (· + ·) 0 = n :=
  (attrib_sum ls n).trans (Nat.min_eq_left h)

theorem C07_attribution_ok_is_whole (ls : List Nat) (n i : Nat) (r : Nat × Bool)
    (h : (attrib ls n)[i]? = some r) (hok : r.2 = true) : ls[i]? = some r.1 := by
  fun_induction attrib ls n generalizing i
  case case1 => simp at h
  case case2 l ls n hl ih =>
    cases i with
    | zero => cases Option.some.inj h; rfl
    | succ i => exact ih i h
  case case3 l ls n hl ih =>
    -- reported cut: not `ok`
    cases i with
    | zero => cases Option.some.inj h; cases hok
    | succ i => exact ih i h

example : attrib [10, 20, 30] 25 = [(10, true), (15, false), (0, false)] := by decide

/-- **mutual exclusion** (the semaphore / the single flusher): in every reachable state at most one writer's
    buffer is inside the socket Write. -/
theorem C07_single_writer_in_socket (cfg : Cfg) (hser : cfg.serialised = true) (as : List Act) (s : St)
    (h : run cfg init as = some s) (w w' a b : Nat) (hw : s.pc w = .inWrite a) (hw' : s.pc w' = .inWrite b) :
    w = w' := by
  have inv := inv_reach cfg hser h
  have h1 := inv.mutex w a hw
  have h2 := inv.mutex w' b hw'
  rw [h1] at h2
  exact Option.some.inj h2

/-- **frames are never interleaved**, whatever the transport does inside Write: in every reachable state the
    byte stream the transport received (`s.wire`, pieces in arrival order) is the concatenation of
    prefixes of DISTINCT frames, each starting at byte 0 of its frame and not longer than it. -/
theorem C07_frames_not_interleaved (cfg : Cfg) (hser : cfg.serialised = true) (as : List Act) (s : St)
    (h : run cfg init as = some s) :
    ∃ cs : List Chunk, s.wire.flatMap Piece.bytes = cs.flatMap Chunk.bytes ∧
      (∀ c ∈ cs, c.start = 0 ∧ 0 < c.n ∧ c.n ≤ cfg.lens c.id) ∧ (cs.map (·.id)).Nodup := by
  have inv := inv_reach cfg hser h
  refine ⟨(glue s.wire).reverse, (glue_bytes s.wire).symm, fun c hc => inv.sock.acc.chunk (List.mem_reverse.mp hc), ?_⟩
  rw [List.map_reverse]
  exact (List.reverse_perm _).nodup_iff.mpr inv.sock.acc.nodup

/-- the same as a decidable check (what the driver's monitor evaluates on real byte streams) -/
theorem C07_framed (cfg : Cfg) (hser : cfg.serialised = true) (as : List Act) (s : St)
    (h : run cfg init as = some s) : framed cfg.lens (glue s.wire) = true :=
  (inv_reach cfg hser h).sock.acc.framed

/-! ### the monitor's online check of a byte stream (`Writer.scan`, used by the driver on `trace2` lines) -/

/-- soundness of the monitor w.r.t. the machine: it accepts the byte stream of every reachable state (so a
    rejected stream is not a behaviour of the model: no false alarm relative to the model) … -/
theorem C07_monitor_accepts_reachable (cfg : Cfg) (hser : cfg.serialised = true) (as : List Act) (s : St)
    (h : run cfg init as = some s) : scan cfg.lens s.wire = some (glue s.wire) :=
  run_with (inv_step cfg hser) (scan_step cfg hser) (inv_init cfg) rfl h

/-- … what it accepts is framed (distinct frame prefixes, each from byte 0: not interleaved) … -/
theorem C07_monitor_accept_means_framed (lens : Nat → Nat) (wire : List Piece) (cs : List Chunk)
    (h : scan lens wire = some cs) : cs = glue wire ∧ (wire ≠ [] → framed lens cs = true) :=
  scanFrom_some lens wire [] cs h

/-- … and a rejection names a prefix of the byte stream that is not framed (the concrete failing history) -/
theorem C07_monitor_reject_means_unframed_prefix (lens : Nat → Nat) (wire : List Piece)
    (h : scan lens wire = none) : ∃ pre, pre <+: wire ∧ framed lens (glue pre) = false :=
  scanFrom_none lens wire [] h

/-- clause `bytes-after-return`: once a request has returned, its control state is final and no byte of its
    frame reaches the wire any more -/
theorem C07_no_bytes_after_return (cfg : Cfg) (hser : cfg.serialised = true) (as bs : List Act) (s s' : St)
    (h : run cfg init as = some s) (w n : Nat) (ok : Bool) (hd : s.pc w = .done n ok)
    (h' : run cfg s bs = some s') :
    s'.pc w = .done n ok ∧ s'.wire.filter (·.id = w) = s.wire.filter (·.id = w) :=
  run_with (batch_step cfg) done_step (batch_reach cfg h) ⟨hd, rfl⟩ h'

/-- the semaphore is NECESSARY: the same machine without it (`serialised := false`) interleaves two frames
    on a transport that takes a Write in pieces, while both writers are told `n == len, err == nil`. -/
theorem C07_cex_without_semaphore :
    ∃ s, run { lens := fun _ => 10, coalesce := false, serialised := false } init cexScheduleNoSem = some s ∧
      s.wire = [⟨1, 0, 4⟩, ⟨2, 0, 10⟩, ⟨1, 4, 6⟩] ∧ framed (fun _ => 10) (glue s.wire) = false ∧
      s.pc 1 = .wrote 10 true ∧ s.pc 2 = .wrote 10 true := by
  refine ⟨_, rfl, ?_, ?_, ?_, ?_⟩ <;> decide

/-- … and that schedule is not a behaviour of the serialised machine -/
theorem C07_semaphore_blocks_second_writer :
    run { lens := fun _ => 10, coalesce := false } init cexScheduleNoSem = none := by decide

/-- **whole frames**: in every reachable state every chunk on the wire is a prefix of a distinct frame, and
    an incomplete one implies that its Write is still in progress, or the writer that was cut is on its way to
    `closeWithError` (which nothing can block), or the connection is closing (`c.closed` set: a caller is
    inside closeWithError — and can finish, `C07_closing_progress` — or the socket is closed). -/
theorem C07_whole_frames (cfg : Cfg) (hser : cfg.serialised = true) (as : List Act) (s : St)
    (h : run cfg init as = some s) :
    (∀ c ∈ glue s.wire, c.start = 0 ∧ c.n ≤ cfg.lens c.id) ∧ ((glue s.wire).map (·.id)).Nodup ∧
    (∀ c ∈ glue s.wire, c.n < cfg.lens c.id →
      s.closing = true ∨ s.pc c.id = .inWrite c.n ∨ s.pc c.id = .wrote c.n false ∨ s.pc c.id = .failing c.n) := by
  have inv := inv_reach cfg hser h
  refine ⟨fun c hc => ?_, inv.sock.acc.nodup, fun c hc hlt => ?_⟩
  · exact ⟨(inv.sock.acc.chunk hc).1, (inv.sock.acc.chunk hc).2.2⟩
  · -- `c.n` is what the control state of the frame's writer says was sent: positive and short of the frame
    obtain ⟨_, hpos, hn⟩ := inv.sock.acc.acct c hc
    rw [hn] at hpos hlt ⊢
    exact (inv.closing.res c.id).torn hpos hlt

/-- clause `torn-but-open` (evaluated at the check points `i` of a trace: socket open, nobody inside
    closeWithError, i.e. not closing, and — at quiescence — no caller between its failed write and
    closeWithError): every incomplete frame on the wire is one whose Write is still in progress. -/
theorem C07_quiescent_open_means_whole (cfg : Cfg) (hser : cfg.serialised = true) (as : List Act) (s : St)
    (h : run cfg init as = some s) (hopen : s.closing = false)
    (hq : ∀ w n, s.pc w ≠ .wrote n false ∧ s.pc w ≠ .failing n) :
    ∀ c ∈ glue s.wire, c.n < cfg.lens c.id → s.pc c.id = .inWrite c.n := by
  intro c hc hlt
  rcases (C07_whole_frames cfg hser as s h).2.2 c hc hlt with h1 | h1 | h1 | h1
  · rw [hopen] at h1; cases h1
  · exact h1
  · exact absurd h1 (hq c.id c.n).1
  · exact absurd h1 (hq c.id c.n).2

theorem C07_torn_writer_progress (cfg : Cfg) (s : St) (w n : Nat) (h : s.pc w = .wrote n false) :
    ∃ s1 s2, step cfg s (.ret w) = some s1 ∧ step cfg s1 (.close w) = some s2 ∧ s2.closing = true :=
  ⟨_, _, (Step.retFailed h).to_step, (Step.close setPc_same).to_step, rfl⟩

/-- a connection that is closing has its socket closed already, or a `Close()` from outside that is between its
    `cancel()` and its `c.close()`, or a caller inside closeWithError; either can close the socket (`cancel()`, then
    `c.close()`; in the model nothing blocks these steps; in the code they wait only for writers that finish) -/
theorem C07_closing_progress (cfg : Cfg) (hser : cfg.serialised = true) (as : List Act) (s : St)
    (h : run cfg init as = some s) (hc : s.closing = true) :
    s.closed = true ∨ (∃ s1, step cfg s .shutdown = some s1 ∧ s1.closed = true) ∨
      ∃ w s1, run cfg s [.cancelCtx w, .closeFinish w] = some s1 ∧ s1.closed = true := by
  have inv := inv_reach cfg hser h
  rcases inv.closing.closerEx hc with h1 | h1 | ⟨w, n, hw⟩
  · exact Or.inl h1
  · exact Or.inr (Or.inl ⟨_, rfl, rfl⟩)
  · have h2 := (Step.closeFinish (cfg := cfg) (s := { s with quit := true }) hw rfl).to_step
    exact .inr (.inr ⟨w, _,
      (isRun cfg).cons_iff.mpr ⟨_, (Step.cancelCtx hw).to_step, (isRun cfg).cons_iff.mpr ⟨_, h2, rfl⟩⟩, rfl⟩)

/-- a caller is told its write succeeded only if its whole frame is on the wire (in one piece, once) -/
theorem C07_success_means_whole (cfg : Cfg) (hser : cfg.serialised = true) (as : List Act) (s : St)
    (h : run cfg init as = some s) (w n : Nat) (hpos : 0 < cfg.lens w)
    (hok : s.pc w = .wrote n true ∨ s.pc w = .done n true) : ⟨w, 0, cfg.lens w⟩ ∈ glue s.wire := by
  have inv := inv_reach cfg hser h
  have hsent : (s.pc w).sent = cfg.lens w := by
    rcases hok with e | e <;> rw [e]
    · exact inv.closing.at e rfl
    · exact (inv.closing.at e).1 rfl
  exact hsent ▸ inv.sock.acc.mem w (hsent ▸ hpos)

/-- a request whose context ended before writing began leaves no bytes: no piece on the wire is its -/
theorem C07_cancel_before_start_no_bytes (cfg : Cfg) (hser : cfg.serialised = true) (as : List Act) (s : St)
    (h : run cfg init as = some s) (w : Nat) (hc : s.pc w = .cancelled ∨ s.pc w = .done 0 false) :
    ∀ p ∈ s.wire, p.id ≠ w := by
  refine (inv_reach cfg hser h).sock.acc.no_bytes ?_
  rcases hc with e | e <;> rw [e] <;> rfl

/-- once the connection is closed nothing more reaches the wire -/
theorem C07_nothing_after_close (cfg : Cfg) : ∀ (as : List Act) (s s' : St),
    s.closed = true → run cfg s as = some s' → s'.wire = s.wire ∧ s'.closed = true := fun _ s _ hc hr =>
  (isRun cfg).inv (P := fun t => t.wire = s.wire ∧ t.closed = true)
    (fun _ _ _ ⟨hw, hc⟩ hs =>
      ⟨((step_wire hs).resolve_right fun ⟨_, _, _, _, ho, _⟩ => absurd hc (ne_true_of_eq_false ho)).trans hw,
       (step_flags hs).1 hc⟩) ⟨rfl, hc⟩ hr

/-- the schedule of known finding KF-C07-1, direct writer (`cexScheduleD` of `Model/Writer.lean`) -/
def cexSchedule : List Act := cexScheduleD

/-- FULL STATEMENT (fails on the unchanged code): "after a partial write no further frame is written on
    that connection", i.e. in every reachable state only the NEWEST chunk on the wire may be incomplete
    (`onlyLastTorn`). Counterexample (known finding KF-C07-1, replayed on the real code): writer 1's write
    is cut after 4 of 10 bytes; it releases the semaphore / the flusher takes the next batch before writer
    1 has closed the socket (it is inside `closeWithError`, which first tells the outstanding calls and is held
    up by exactly those writers); writer 2's complete frame follows the torn one on a socket that is not closed. -/
theorem C07_cex_frame_after_partial :
    ∃ s, run { lens := fun _ => 10, coalesce := false } init cexSchedule = some s ∧
      s.wire = [⟨1, 0, 4⟩, ⟨2, 0, 10⟩] ∧ s.closed = false ∧ onlyLastTorn (fun _ => 10) (glue s.wire) = false := by
  refine ⟨_, rfl, ?_, ?_, ?_⟩ <;> decide

/-- the same with the coalescing writer: the next flush is written behind the torn frame -/
theorem C07_cex_frame_after_partial_coalesced :
    ∃ s, run { lens := fun _ => 10, coalesce := true } init
        [.submit 1, .enqueue 1, .tick, .enter 1, .submit 2, .piece 1 4, .endWrite 1 false, .enqueue 2, .tick,
         .ret 1, .close 1, .enter 2, .piece 2 10, .endWrite 2 true] = some s ∧
      s.wire = [⟨1, 0, 4⟩, ⟨2, 0, 10⟩] ∧ s.closed = false ∧ onlyLastTorn (fun _ => 10) (glue s.wire) = false := by
  refine ⟨_, rfl, ?_, ?_, ?_⟩ <;> decide

/-- proved part: the frame-after-partial can only be written BEFORE the close; combined with
    `C07_whole_frames` (torn ⇒ closing, or Write in progress, or the writer is about to close) and
    `C07_nothing_after_close`. -/
theorem C07_nothing_after_partial_partial (cfg : Cfg) (as bs : List Act) (s s' : St)
    (_h : run cfg init as = some s) (hc : s.closed = true) (h' : run cfg s bs = some s') :
    s'.wire = s.wire := (C07_nothing_after_close cfg bs s s' hc h').1

/-- non-vacuity: a coalesced flush of three frames, the second cut inside, everything accounted for -/
example : ∃ s, run { lens := fun w => 10 * w, coalesce := true } init
    [.submit 1, .submit 2, .submit 3, .enqueue 1, .enqueue 2, .enqueue 3, .tick, .enter 1, .piece 1 3, .piece 1 7,
     .endWrite 1 true, .enter 2, .piece 2 5, .endWrite 2 false, .ret 1, .ret 2, .ret 3, .close 3, .close 2, .cancelCtx 3, .closeFinish 3] = some s ∧
    glue s.wire = [⟨2, 0, 5⟩, ⟨1, 0, 10⟩] ∧ s.pc 1 = .done 10 true ∧ s.pc 2 = .done 5 false ∧
    s.pc 3 = .done 0 false ∧ s.closed = true := by
  refine ⟨_, rfl, ?_, ?_, ?_, ?_, ?_⟩ <;> decide


/-! ### the shutdown leg: `quit` closes (`c.cancel()`) BEFORE the socket closes (`c.close()`)

The flags `St.quit` / `St.gone` / `St.ext` and the actions of this leg are described at the head of `Model/Writer.lean`. -/

/-- a Write that ends with an error leaves the writer idle: the semaphore is released / the rest of the batch is failed
    and the flusher is back at its select. (From here `C07_nothing_after_torn_partial` applies.) -/
theorem C07_torn_end_is_idle (cfg : Cfg) (hser : cfg.serialised = true) (hq : cfg.flushOnQuit = false) (as : List Act)
    (s s' : St) (h : run cfg init as = some s) (w : Nat) (hs : step cfg s (.endWrite w false) = some s') :
    s'.owner = none ∧ s'.flushing = false := by
  have hb := batch_reach cfg h
  cases Step.of_step hs with
  | endWrite _ _ =>
    refine ⟨rfl, ?_⟩
    -- the coalescer ends its flush; the direct writer never has one
    cases hc : cfg.coalesce
    · simpa [hc] using (hb.dirIdle hc).1
    · simp

/-- FULL STATEMENT (fails on the unchanged code, known finding KF-C07-1): "after a partial write no further frame is
    written on that connection": from a state in which a Write has just ended torn, NO continuation adds a byte.
    Counterexamples: `C07_cex_frame_after_partial` (the next semaphore holder) / `_coalesced` (the next timer tick).
    PROVED PART, all schedules: the ONLY actions that can bring further bytes are those two — the flusher taking a timer
    tick, a direct writer acquiring the semaphore (`Act.takesNext`, exactly the excluded condition of KF-C07-1). In
    particular the whole shutdown leg, in any order and any number of times — `cancelCtx`, `shutQuit`, `flusherQuit` with a
    non-empty queue, `quit w` of waiting and of queued writers, cancellations, new submissions, enqueues, returns,
    `close`, `closeFinish`, `shutdown` — writes nothing: requests enqueued between a torn flush and quit are failed,
    not flushed. (With the variant disposition `flushOnQuit` this is false: `C07_cex_last_flush_on_quit`.) -/
theorem C07_nothing_after_torn_partial (cfg : Cfg) (hser : cfg.serialised = true) (hq : cfg.flushOnQuit = false)
    (as bs : List Act) (s s' : St) (h : run cfg init as = some s) (hidle : s.owner = none ∧ s.flushing = false)
    (hk : ∀ a ∈ bs, a.takesNext cfg.coalesce = false) (h' : run cfg s bs = some s') : s'.wire = s.wire :=
  (run_with_of (inv_step cfg hser) (idle_step hq) hk (inv_reach cfg hser h) ⟨rfl, hidle⟩ h').1

/-- the same as a statement about the shape of the byte stream: whole frames, then at most one frame prefix, which is the
    very last thing — and it stays the very last thing through the shutdown -/
theorem C07_stream_is_frames_then_at_most_one_prefix_partial (cfg : Cfg) (hser : cfg.serialised = true)
    (hq : cfg.flushOnQuit = false) (as bs : List Act) (s s' : St) (h : run cfg init as = some s)
    (hidle : s.owner = none ∧ s.flushing = false) (ht : onlyLastTorn cfg.lens (glue s.wire) = true)
    (hk : ∀ a ∈ bs, a.takesNext cfg.coalesce = false) (h' : run cfg s bs = some s') :
    framed cfg.lens (glue s'.wire) = true ∧ onlyLastTorn cfg.lens (glue s'.wire) = true := by
  have hw := C07_nothing_after_torn_partial cfg hser hq as bs s s' h hidle hk h'
  rw [hw]
  exact ⟨C07_framed cfg hser as s h, ht⟩

/-- the flusher's quit branch (conn.go as it is): nothing is written, no request changes state yet, the queue is
    handed over to the per-writer `(0, io.EOF)` deliveries, the flusher is gone -/
theorem C07_quit_disposition (cfg : Cfg) (hq : cfg.flushOnQuit = false) (s s' : St)
    (hs : step cfg s .flusherQuit = some s') :
    s'.wire = s.wire ∧ s'.pc = s.pc ∧ s'.queue = s.queue ∧ s'.gone = true ∧ s.quit = true ∧ s.flushing = false := by
  cases Step.of_step hs with
  | flusherQuit hg _ => exact ⟨rfl, rfl, rfl, rfl, hg.2.1, hg.2.2.1⟩
  | flusherQuitFlush _ hf => rw [hq] at hf; cases hf

/-- coalescer: once the flusher has taken its quit branch NOTHING is ever written again, whatever happens afterwards
    (there is no last flush) -/
theorem C07_nothing_written_after_flusher_quit (cfg : Cfg) (hser : cfg.serialised = true) (hq : cfg.flushOnQuit = false)
    (hc : cfg.coalesce = true) (as bs : List Act) (s s' : St) (h : run cfg init as = some s) (hg : s.gone = true)
    (h' : run cfg s bs = some s') : s'.wire = s.wire :=
  (run_with (inv_step cfg hser) (gone_step hq hc) (inv_reach cfg hser h) ⟨rfl, hg⟩ h').1

/-- every queued writer gets its outcome on shutdown: when the flusher is gone, a writer that is still enqueued is in the
    queue the flusher serves (never lost, never in a batch), and its delivery `(0, io.EOF)` is enabled and writes nothing -/
theorem C07_no_writer_left_behind (cfg : Cfg) (hser : cfg.serialised = true) (hq : cfg.flushOnQuit = false)
    (as : List Act) (s : St) (h : run cfg init as = some s) (hg : s.gone = true) (w : Nat) (hw : s.pc w = .queued) :
    w ∈ s.queue ∧ ∃ s', step cfg s (.quit w) = some s' ∧ s'.pc w = .wrote 0 false ∧ s'.wire = s.wire := by
  have hb := batch_reach cfg h
  have hnt : w ∉ s.todo := by rw [hb.idleTodo (hb.goneIdle hq hg)]; nofun
  exact ⟨((hb.queued w).mp hw).resolve_right hnt, _, (Step.quit (.inr ⟨hg, hw, hnt⟩)).to_step, setPc_same, rfl⟩

/-- an outcome "connection closed" `(0, io.EOF / ErrConnectionClosed)` is handed out only when quit is closed, and the
    writer that gets it has no byte on the wire -/
theorem C07_quit_outcome_means_quit (cfg : Cfg) (hser : cfg.serialised = true) (hq : cfg.flushOnQuit = false)
    (as : List Act) (s s' : St) (h : run cfg init as = some s) (w : Nat) (hs : step cfg s (.quit w) = some s') :
    s.quit = true ∧ s'.pc w = .wrote 0 false ∧ s'.wire = s.wire ∧ ∀ p ∈ s.wire, p.id ≠ w := by
  cases Step.of_step hs with
  | quit hg =>
    refine ⟨hg.elim (·.1) fun h1 => (batch_reach cfg h).goneQuit h1.1, setPc_same, rfl,
      (inv_reach cfg hser h).sock.acc.no_bytes ?_⟩
    rcases hg with ⟨_, e⟩ | ⟨_, e, _⟩ <;> rw [e] <;> rfl

/-- a caller parked in writeContext's first select (waiting for the semaphore / for the flusher to take its request) can
    leave as soon as quit is closed, with `(0, closed)` and without a byte: nobody is left parked there by a shutdown -/
theorem C07_waiting_sees_quit (cfg : Cfg) (s : St) (w : Nat) (hq : s.quit = true) (hw : s.pc w = .waiting) :
    ∃ s', step cfg s (.quit w) = some s' ∧ s'.pc w = .wrote 0 false ∧ s'.wire = s.wire := by
  exact ⟨_, (Step.quit (.inl ⟨hq, hw⟩)).to_step, setPc_same, rfl⟩

/-- every caller gets exactly ONE outcome: once `writeContext`'s result `(n, err == nil)` is determined it never changes,
    whatever happens afterwards (ticks, quit, the flusher's quit branch, the socket closing, ...) -/
theorem C07_outcome_final (cfg : Cfg) (hser : cfg.serialised = true) (as bs : List Act) (s s' : St)
    (h : run cfg init as = some s) (w : Nat) (o : Nat × Bool) (ho : (s.pc w).outcome = some o)
    (h' : run cfg s bs = some s') : (s'.pc w).outcome = some o :=
  run_with (batch_step cfg) outcome_step (batch_reach cfg h) ho h'

/-- the byte count of an outcome is exactly what is on the wire of that frame: one chunk of `n` bytes from byte 0, or
    nothing when `n = 0` -/
theorem C07_outcome_counts_sent (cfg : Cfg) (hser : cfg.serialised = true) (as : List Act) (s : St)
    (h : run cfg init as = some s) (w n : Nat) (ok : Bool) (ho : (s.pc w).outcome = some (n, ok)) :
    (∀ c ∈ glue s.wire, c.id = w → c.start = 0 ∧ c.n = n) ∧ (0 < n → ∃ c ∈ glue s.wire, c.id = w) := by
  have inv := inv_reach cfg hser h
  have hsent := Pc.outcome_sent ho
  refine ⟨fun c hc hid => ?_, fun hpos => ⟨_, inv.sock.acc.mem w (hsent ▸ hpos), rfl⟩⟩
  obtain ⟨h0, _, hn⟩ := inv.sock.acc.acct c hc
  rw [hid, hsent] at hn
  exact ⟨h0, hn⟩

/-- the variant "one last flush on quit" (`flushOnQuit := true`: the flusher's quit branch calls `flush` instead of failing
    its queue). Writer 1's flush is torn after 4 of 10 bytes; writer 2 is enqueued afterwards; no timer tick; `Close()`
    closes quit (the socket is still open: `cancel()` precedes `c.close()`); the flusher's last flush puts frame 2 BEHIND
    the torn frame and writer 2 is told `(10, nil)`. No action after the torn Write "takes the next one": the hypothesis of
    `C07_nothing_after_torn_partial` holds and its conclusion fails. -/
def cexLastFlushPre : List Act := [.submit 1, .enqueue 1, .tick, .enter 1, .piece 1 4, .endWrite 1 false]
def cexLastFlushPost : List Act :=
  [.ret 1, .submit 2, .enqueue 2, .shutQuit, .flusherQuit, .enter 2, .piece 2 10, .endWrite 2 true, .ret 2]

theorem C07_cex_last_flush_on_quit :
    ∃ s0 s, run { lens := fun _ => 10, coalesce := true, flushOnQuit := true } init cexLastFlushPre = some s0 ∧
      s0.owner = none ∧ s0.flushing = false ∧ s0.wire = [⟨1, 0, 4⟩] ∧
      (∀ a ∈ cexLastFlushPost, a.takesNext true = false) ∧
      run { lens := fun _ => 10, coalesce := true, flushOnQuit := true } s0 cexLastFlushPost = some s ∧
      s.wire = [⟨1, 0, 4⟩, ⟨2, 0, 10⟩] ∧ s.quit = true ∧ s.closed = false ∧ s.pc 2 = .done 10 true ∧
      onlyLastTorn (fun _ => 10) (glue s.wire) = false := by
  refine ⟨_, _, rfl, ?_, ?_, ?_, ?_, rfl, ?_, ?_, ?_, ?_, ?_⟩ <;> decide

/-- ... and that history is not a behaviour of the machine with conn.go's disposition: after the flusher's quit branch
    frame 2 cannot enter the socket ... -/
theorem C07_last_flush_not_in_model :
    run { lens := fun _ => 10, coalesce := true } init (cexLastFlushPre ++ cexLastFlushPost) = none := by decide

/-- ... what it has instead: writer 2 is told `(0, io.EOF)` and the torn frame stays the last thing on the wire -/
theorem C07_quit_fails_queued_after_torn :
    ∃ s, run { lens := fun _ => 10, coalesce := true } init
        (cexLastFlushPre ++ [.ret 1, .submit 2, .enqueue 2, .shutQuit, .flusherQuit, .quit 2, .ret 2, .shutdown]) = some s ∧
      s.wire = [⟨1, 0, 4⟩] ∧ s.pc 2 = .failing 0 ∧ s.pc 1 = .failing 4 ∧ s.gone = true ∧ s.closed = true := by
  refine ⟨_, rfl, ?_, ?_, ?_, ?_, ?_⟩ <;> decide

/-- non-vacuity, direct writer: quit closes while writer 1 is inside the socket and writers 2, 3 wait for the semaphore;
    they get `(0, closed)`, writer 1's Write is cut, nothing follows -/
example : ∃ s, run { lens := fun _ => 10, coalesce := false } init
    [.submit 1, .submit 2, .submit 3, .enter 1, .piece 1 4, .shutQuit, .quit 2, .quit 3, .endWrite 1 false, .ret 2, .ret 1,
     .shutdown] = some s ∧
    s.wire = [⟨1, 0, 4⟩] ∧ s.pc 2 = .failing 0 ∧ s.pc 3 = .wrote 0 false ∧ s.closed = true := by
  refine ⟨_, rfl, ?_, ?_, ?_, ?_⟩ <;> decide

/-- non-vacuity, coalescer: quit closes in the middle of a flush of [1, 2] while 3 waits to be enqueued: the vectored
    write goes on (frame 2 is written after quit: the flush in progress, not the shutdown leg), 3 gets `(0, io.EOF)`, then the
    flusher takes its quit branch -/
example : ∃ s, run { lens := fun _ => 10, coalesce := true } init
    [.submit 1, .submit 2, .enqueue 1, .enqueue 2, .tick, .enter 1, .piece 1 10, .submit 3, .shutQuit, .quit 3, .endWrite 1 true,
     .enter 2, .piece 2 10, .endWrite 2 true, .flusherQuit, .shutdown] = some s ∧
    s.wire = [⟨1, 0, 10⟩, ⟨2, 0, 10⟩] ∧ s.pc 3 = .wrote 0 false ∧ s.pc 2 = .wrote 10 true ∧ s.gone = true := by
  refine ⟨_, rfl, ?_, ?_, ?_, ?_⟩ <;> decide

/-! ### the semaphore is held exactly while a Write is in progress (cancellation at the select: `S<w>` scenarios)

A caller whose context has ALREADY ENDED when it reaches writeContext's first select (Conn.exec checks `ctx.Err()` up front,
but the context can end between that check and the select) is one `submit w` followed by whatever the select takes:
`cancel w` (it leaves with `(0, ctx.Err())`) or `enter w` / `enqueue w` (the semaphore / the hand-over won: it writes like
anybody else). Either way the mechanism is left intact: -/

/-- the semaphore (coalescer: "the buffer the flusher is writing") is held by `w` IF AND ONLY IF the frame of `w` is inside
    the socket Write — in every reachable state, both writers. A writer that returned early, with or without an error, never
    keeps it, and nobody is inside the Write without holding it. -/
theorem C07_semaphore_held_only_inside_write (cfg : Cfg) (hser : cfg.serialised = true) (as : List Act) (s : St)
    (h : run cfg init as = some s) (w : Nat) : s.owner = some w ↔ ∃ off, s.pc w = .inWrite off := by
  constructor
  · exact (batch_reach cfg h).ownerIn w
  · rintro ⟨off, ho⟩
    exact (inv_reach cfg hser h).mutex w off ho

/-- a writer whose outcome is determined (it left through `ctx.Done()`, through `quit`, or with the result of its Write)
    does not hold the semaphore -/
theorem C07_outcome_holds_no_semaphore (cfg : Cfg) (as : List Act) (s : St) (h : run cfg init as = some s) (w : Nat)
    (o : Nat × Bool) (ho : (s.pc w).outcome = some o) : s.owner ≠ some w := by
  intro hw
  obtain ⟨off, hp⟩ := (batch_reach cfg h).ownerIn w hw
  rw [hp] at ho
  simp [Pc.outcome] at ho

/-- the semaphore is never lost: while no Write is in progress it is free, so a caller waiting in the direct writer's
    select can take it (nobody is parked there for ever because an earlier caller left without releasing) -/
theorem C07_free_when_no_write_in_progress (cfg : Cfg) (hc : cfg.coalesce = false) (as : List Act) (s : St)
    (h : run cfg init as = some s) (hno : ∀ x off, s.pc x ≠ .inWrite off) (w : Nat) (hw : s.pc w = .waiting) :
    s.owner = none ∧ ∃ s', step cfg s (.enter w) = some s' ∧ s'.pc w = .inWrite 0 ∧ s'.owner = some w ∧ s'.wire = s.wire := by
  have hfree : s.owner = none := by
    cases ho : s.owner with
    | none => rfl
    | some x =>
      obtain ⟨off, hp⟩ := (batch_reach cfg h).ownerIn x ho
      exact absurd hp (hno x off)
  exact ⟨hfree, _, (Step.enter ⟨fun _ => hfree, .inl ⟨hc, hw⟩⟩).to_step, setPc_same, rfl, rfl⟩

/-- a caller that leaves the first select through `ctx.Done()` takes nothing with it: no byte, not the semaphore, no slot
    in the flusher's queue or batch; every other writer is where it was -/
theorem C07_cancelled_leaves_nothing (cfg : Cfg) (s s' : St) (w : Nat) (hs : step cfg s (.cancel w) = some s') :
    s.pc w = .waiting ∧ s'.pc w = .cancelled ∧ s'.wire = s.wire ∧ s'.owner = s.owner ∧ s'.queue = s.queue ∧
      s'.todo = s.todo ∧ s'.flushing = s.flushing ∧ ∀ x, x ≠ w → s'.pc x = s.pc x := by
  cases Step.of_step hs with
  | cancel hw => exact ⟨hw, setPc_same, rfl, rfl, rfl, rfl, rfl, fun x hx => setPc_other hx⟩

/-- non-vacuity: writer 1's context has ended when it reaches the select and the select takes `ctx.Done()`; writers 2, 3
    then write one after the other (3 cannot enter while 2 is half out) -/
example : ∃ s, run { lens := fun _ => 10, coalesce := false } init
    [.submit 1, .cancel 1, .submit 2, .enter 2, .ret 1, .piece 2 4, .submit 3, .piece 2 6, .endWrite 2 true, .enter 3,
     .piece 3 10, .endWrite 3 true] = some s ∧
    s.wire = [⟨2, 0, 4⟩, ⟨2, 4, 6⟩, ⟨3, 0, 10⟩] ∧ s.pc 1 = .done 0 false ∧ s.owner = none := by
  refine ⟨_, rfl, ?_, ?_, ?_⟩ <;> decide

/-- ... the history of a writer whose early return releases the semaphore a second time (writer 3 enters while writer 2
    is half out) is not a behaviour of the machine -/
example : run { lens := fun _ => 10, coalesce := false } init
    [.submit 1, .cancel 1, .submit 2, .enter 2, .ret 1, .piece 2 4, .submit 3, .enter 3] = none := by decide

/-- ... and the other branch of the select: the semaphore wins although the context has ended; the frame is written whole -/
example : ∃ s, run { lens := fun _ => 10, coalesce := false } init
    [.submit 1, .enter 1, .submit 2, .piece 1 10, .endWrite 1 true, .ret 1, .enter 2] = some s ∧
    s.pc 1 = .done 10 true ∧ s.owner = some 2 := by
  refine ⟨_, rfl, ?_, ?_⟩ <;> decide

/-- **the coalescing writer adds no byte stream**: every schedule of the machine (in particular of the coalescing writer:
    enqueue, flush timer, batches of any size, result fan-out, the flusher's quit branch, in any interleaving) is matched
    by a schedule of the DIRECT writer with the same frame lengths - the projection of the schedule itself on
    `submit / enter / piece / endWrite` - that reaches the same wire, piece by piece, with the same semaphore holder and,
    for every writer that has not yet left, the same position (not arrived / Write not begun / `off` bytes out). -/
theorem C07_coalescer_refines_direct (cfg : Cfg) (as : List Act) (s : St) (h : run cfg init as = some s) :
    ∃ s', run cfg.direct init (wireActs as) = some s' ∧ s'.wire = s.wire ∧ s'.owner = s.owner ∧
      (s.closed = false → s'.closed = false) ∧ ∀ w off, s.pc w = .inWrite off → s'.pc w = .inWrite off := by
  obtain ⟨s', hr, hsim⟩ := sim_run cfg as init s init (batch_init cfg) sim_init h
  exact ⟨s', hr, hsim.wire, hsim.owner, hsim.open_, fun _ _ hw => hsim.at hw⟩

/-- **and it loses none**: every schedule of the direct writer is matched by a schedule of the coalescing writer (each
    acquisition of the semaphore becomes `enqueue ; tick ; enter`: a batch of one) with the same wire -/
theorem C07_direct_refines_coalescer (cfg : Cfg) (hser : cfg.serialised = true) (hc : cfg.coalesce = false)
    (as : List Act) (s : St) (h : run cfg init as = some s) :
    ∃ s', run cfg.coalescing init (as.flatMap coActs) = some s' ∧ s'.wire = s.wire ∧ s'.owner = s.owner ∧
      (s.closed = false → s'.closed = false) := by
  obtain ⟨s', hr, hsim⟩ := sim'_run cfg hser hc as init s init sim'_init h
  exact ⟨s', hr, hsim.sim.wire, hsim.sim.owner, hsim.sim.open_⟩

/-- so the two writers have EXACTLY the same reachable byte streams, for every assignment of frame lengths: whatever is
    proved about the wire of one machine (framing, non-interleaving, what the monitor accepts) holds for the other -/
theorem C07_same_byte_streams (lens : Nat → Nat) (wire : List Piece) :
    (∃ as s, run { lens := lens, coalesce := true } init as = some s ∧ s.wire = wire) ↔
    (∃ as s, run { lens := lens, coalesce := false } init as = some s ∧ s.wire = wire) := by
  constructor
  · rintro ⟨as, s, h, hw⟩
    obtain ⟨s', hr, hw', _⟩ := C07_coalescer_refines_direct _ as s h
    exact ⟨wireActs as, s', hr, hw'.trans hw⟩
  · rintro ⟨as, s, h, hw⟩
    obtain ⟨s', hr, hw', _⟩ := C07_direct_refines_coalescer _ rfl rfl as s h
    exact ⟨as.flatMap coActs, s', hr, hw'.trans hw⟩

/-- non-vacuity: a coalesced flush of three frames with the second one cut, and its projection on the direct writer -/
example : ∃ s s', run { lens := fun w => 10 * w, coalesce := true } init
    [.submit 1, .submit 2, .submit 3, .enqueue 1, .enqueue 2, .enqueue 3, .tick, .enter 1, .piece 1 3, .piece 1 7,
     .endWrite 1 true, .enter 2, .piece 2 5, .endWrite 2 false, .ret 1, .ret 2, .ret 3, .close 3] = some s ∧
    run { lens := fun w => 10 * w, coalesce := false } init
    [.submit 1, .submit 2, .submit 3, .enter 1, .piece 1 3, .piece 1 7, .endWrite 1 true, .enter 2, .piece 2 5,
     .endWrite 2 false] = some s' ∧ s'.wire = s.wire ∧ s.wire = [⟨1, 0, 3⟩, ⟨1, 3, 7⟩, ⟨2, 0, 5⟩] := by
  refine ⟨_, _, rfl, rfl, ?_, ?_⟩ <;> decide

example : wireActs [.submit 1, .enqueue 1, .tick, .enter 1, .piece 1 3, .cancel 2, .endWrite 1 true, .ret 1, .shutdown] =
    [.submit 1, .enter 1, .piece 1 3, .endWrite 1 true] := rfl

example : [Act.submit 1, .enter 1, .piece 1 3, .endWrite 1 false, .ret 1, .close 1].flatMap coActs =
    [.submit 1, .enqueue 1, .tick, .enter 1, .piece 1 3, .endWrite 1 false] := rfl

/-- LITERAL READING of "a request whose context ended before writing began leaves no bytes" (proposed finding KF-C07-2): in
    the state right after `submit 1` - where, the context having ended, `cancel 1` is enabled - `enter 1` is enabled as well
    (Go's select chooses at random among ready cases) and leads to the whole frame on the wire with outcome `(len, nil)`.
    What holds for all schedules is the reading BY OUTCOME, `C07_cancel_before_start_no_bytes`: a writer that is told
    `(0, ctx.Err())` has no byte on the wire. -/
theorem C07_cex_select_may_prefer_semaphore :
    ∃ s0 s, run { lens := fun _ => 10, coalesce := false } init [.submit 1] = some s0 ∧
      (step { lens := fun _ => 10, coalesce := false } s0 (.cancel 1)).isSome = true ∧
      run { lens := fun _ => 10, coalesce := false } s0 [.enter 1, .piece 1 10, .endWrite 1 true] = some s ∧
      s.wire = [⟨1, 0, 10⟩] ∧ s.pc 1 = .wrote 10 true := by
  refine ⟨_, _, rfl, ?_, rfl, ?_, ?_⟩ <;> decide

/-! ### a fault BEFORE byte 0: `SetWriteDeadline` fails inside the critical section / at the head of `flush` (`D` scenarios) -/

/-- the direct writer then returns `(0, err)` and releases the semaphore; the coalescer's `flush` hands `(0, err)` to EVERY
    buffer of the batch and is back at its select. Observably this is a Write that ends with an error before its first byte:
    nothing reaches the wire, nobody of the batch is left without a result, and the batch is gone. -/
theorem C07_failure_before_first_byte (cfg : Cfg) (s s1 s2 : St) (w : Nat) (hpos : 0 < cfg.lens w)
    (h1 : step cfg s (.enter w) = some s1) (h2 : step cfg s1 (.endWrite w false) = some s2) :
    s2.wire = s.wire ∧ s2.pc w = .wrote 0 false ∧ s2.owner = none ∧
      (cfg.coalesce = true → (∀ x ∈ s.todo, s2.pc x = .wrote 0 false) ∧ s2.todo = [] ∧ s2.flushing = false) := by
  cases Step.of_step h1 with
  | enter _ =>
    cases Step.of_step h2 with
    | endWrite hw' _ =>
      cases setPc_same.symm.trans hw'
      -- `0` bytes out is not the whole (non-empty) frame, so also the count-based attribution reports a failure
      have hne : (0 == cfg.lens w) = false := beq_false_of_ne (Nat.ne_of_lt hpos)
      refine ⟨rfl, ?_, rfl, fun hc => ⟨fun x hx => ?_, ?_, ?_⟩⟩
      · simp [setPc_same, hne]
      · dsimp only
        by_cases e : x = w
        · subst e; simp [setPc_same, hne]
        · rw [setPc_other e]
          simp only [hc, Bool.true_and, Bool.not_false, if_true]
          rw [setMany_mem (by simp [List.mem_filter, hx, e])]
      · simp [hc]
      · simp [hc]

/-- non-vacuity: a flush of [1, 2] whose deadline cannot be armed; 3 is flushed afterwards -/
example : ∃ s, run { lens := fun _ => 10, coalesce := true } init
    [.submit 1, .submit 2, .enqueue 1, .enqueue 2, .tick, .enter 2, .endWrite 2 false, .ret 1, .ret 2, .submit 3, .enqueue 3,
     .tick, .enter 3, .piece 3 10, .endWrite 3 true] = some s ∧
    s.wire = [⟨3, 0, 10⟩] ∧ s.pc 1 = .failing 0 ∧ s.pc 2 = .failing 0 ∧ s.pc 3 = .wrote 10 true := by
  refine ⟨_, rfl, ?_, ?_, ?_, ?_⟩ <;> decide

/-- result fan-out of `flush` is complete: whenever the flusher is back at its select (no flush in progress), no writer is
    left inside a batch - a writer that still waits for a result is one the flusher has not taken yet (it is in the queue
    of the NEXT flush, or will be failed by the quit branch: `C07_no_writer_left_behind`) -/
theorem C07_flush_hands_every_result (cfg : Cfg) (hser : cfg.serialised = true) (hq : cfg.flushOnQuit = false)
    (as : List Act) (s : St) (h : run cfg init as = some s) (hf : s.flushing = false) (w : Nat) (hw : s.pc w = .queued) :
    w ∈ s.queue ∧ s.todo = [] := by
  have hb := batch_reach cfg h
  have htodo := hb.idleTodo hf
  exact ⟨((hb.queued w).mp hw).resolve_right (by rw [htodo]; simp), htodo⟩

/-- non-vacuity: 3 is enqueued while the flush of [1, 2] is cut; after the flush 1 and 2 have their results, 3 is queued -/
example : ∃ s, run { lens := fun _ => 10, coalesce := true } init
    [.submit 1, .submit 2, .submit 3, .enqueue 1, .enqueue 2, .tick, .enter 1, .piece 1 4, .endWrite 1 false, .enqueue 3] = some s ∧
    s.flushing = false ∧ s.pc 1 = .wrote 4 false ∧ s.pc 2 = .wrote 0 false ∧ s.pc 3 = .queued ∧ s.queue = [3] := by
  refine ⟨_, rfl, ?_, ?_, ?_, ?_, ?_⟩ <;> decide

/-! ### frame size is a parameter: nothing above depends on it; the two writers differ in ONE size-independent detail -/

/-- the coalescer attributes the result of the vectored write by BYTE COUNT (`flush`): a buffer all of whose bytes
    the transport took is reported `(len, nil)` to its writer even when that Write returned an error as well … -/
theorem C07_coalescer_counts_bytes (cfg : Cfg) (hc : cfg.coalesce = true) (s s' : St) (w : Nat) (ok : Bool)
    (hw : s.pc w = .inWrite (cfg.lens w)) (hs : step cfg s (.endWrite w ok) = some s') :
    s'.pc w = .wrote (cfg.lens w) true := by
  cases Step.of_step hs with
  | endWrite hw' _ =>
    cases hw.symm.trans hw'
    exact setPc_same.trans (by simp [hc])

/-- … which is what the attribution loop computes for that buffer (`attrib`, proved equal to its positional
    specification): whole iff all its bytes are below the byte count … -/
theorem C07_attribution_head (l off : Nat) (ls : List Nat) (h : off ≤ l) :
    (attrib (l :: ls) off).head? = some (off, decide (off = l)) := by
  simp only [attrib]
  split
  · have : off = l := by omega
    subst this; simp
  · have : off ≠ l := by omega
    simp [this]

/-- … while the direct writer hands the result of its one Write through unchanged -/
theorem C07_direct_hands_result_through (cfg : Cfg) (hc : cfg.coalesce = false) (s s' : St) (w off : Nat) (ok : Bool)
    (hw : s.pc w = .inWrite off) (hs : step cfg s (.endWrite w ok) = some s') :
    s'.pc w = .wrote off ok := by
  cases Step.of_step hs with
  | endWrite hw' _ =>
    cases hw.symm.trans hw'
    exact setPc_same.trans (by simp [hc])

/-- non-vacuity with frames at the 4 KiB boundary: direct writer, frames of 4095 / 4096 / 4097 bytes; the 4096-byte
    frame goes out in pieces (up to the boundary minus one, one byte, nothing more) while the others wait -/
example : ∃ s, run { lens := fun w => 4094 + w, coalesce := false } init
    [.submit 2, .submit 1, .submit 3, .enter 2, .piece 2 4095, .piece 2 1, .endWrite 2 true, .enter 3, .piece 3 9,
     .piece 3 4087, .piece 3 1, .endWrite 3 true, .enter 1, .piece 1 4095, .endWrite 1 true, .ret 1, .ret 2, .ret 3] = some s ∧
    glue s.wire = [⟨1, 0, 4095⟩, ⟨3, 0, 4097⟩, ⟨2, 0, 4096⟩] ∧ s.pc 2 = .done 4096 true ∧ s.closed = false := by
  refine ⟨_, rfl, ?_, ?_, ?_⟩ <;> decide

/-- a second writer cannot enter while the 4096-byte frame is half out (semaphore), whatever its size -/
example : run { lens := fun w => 4094 + w, coalesce := false } init
    [.submit 2, .submit 1, .enter 2, .piece 2 2048, .enter 1] = none := by decide

/-- coalescer: a 4096-byte frame and a small one in one flush, the large one cut at byte 4095 (deadline): the small
    one behind it fails with 0 bytes, nothing of it reaches the wire -/
example : ∃ s, run { lens := fun w => if w = 1 then 4096 else 64, coalesce := true } init
    [.submit 1, .submit 2, .enqueue 1, .enqueue 2, .tick, .enter 1, .piece 1 4095, .endWrite 1 false, .ret 1, .ret 2,
     .close 1, .close 2, .cancelCtx 1, .closeFinish 1] = some s ∧
    glue s.wire = [⟨1, 0, 4095⟩] ∧ s.pc 1 = .done 4095 false ∧ s.pc 2 = .done 0 false ∧ s.closed = true := by
  refine ⟨_, rfl, ?_, ?_, ?_, ?_⟩ <;> decide

/-- coalescer: the transport took all 4096 bytes and reported an error as well: the writer is told success, the
    error is dropped (nobody behind it in the flush), the connection stays open and the next flush is written -/
example : ∃ s, run { lens := fun w => if w = 1 then 4096 else 64, coalesce := true } init
    [.submit 1, .enqueue 1, .tick, .enter 1, .piece 1 4096, .endWrite 1 false, .ret 1, .submit 2, .enqueue 2, .tick,
     .enter 2, .piece 2 64, .endWrite 2 true, .ret 2] = some s ∧
    glue s.wire = [⟨2, 0, 64⟩, ⟨1, 0, 4096⟩] ∧ s.pc 1 = .done 4096 true ∧ s.pc 2 = .done 64 true ∧ s.closed = false := by
  refine ⟨_, rfl, ?_, ?_, ?_, ?_⟩ <;> decide

end C07
