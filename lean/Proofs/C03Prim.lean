/- The primitive notations of the protocol ([byte], [short], [int], [long], [string], [bytes], lists, maps, optional fields),
   each in both directions: the specification's reader reads back what the model's writer writes, and whatever it reads
   satisfies the Boolean predicate `Expressible` uses for that notation. `Field` names the triple reader / writer / predicate;
   lists, pairs and maps are built from it. Flag words as sums of `b2n` are read bit by bit (`bits8`). -/
import Model.FrameSpec
import Model.FrameWrite
import Proofs.Bytes
namespace C03
open FrameSpec FrameWrite

theorem byteOf_toNat (n : Nat) (h : n < 256) : (byteOf n).toNat = n := BE.toNat_ofNat_lt h

theorem rdByte_byteOf (n : Nat) (r : Bytes) (h : n < 256) : rdByte (byteOf n :: r) = some (n, r) := by
  simp [rdByte, byteOf_toNat n h]

theorem rdByte_post {bs : Bytes} {n : Nat} {r : Bytes} (h : rdByte bs = some (n, r)) : n < 256 := by
  cases bs with
  | nil => cases h
  | cons b t => cases h; exact b.toNat_lt

theorem wShort_eq (n : Nat) : wShort n = ValueSpec.beBytes 2 n := (BE.beBytes_two n).symm

theorem wUInt_eq (n : Nat) : wUInt n = ValueSpec.beBytes 4 n := (BE.beBytes_four n).symm

/-- `uint16(n)`: a count or length above 65535 is written modulo 65536 -/
theorem wShort_mod (n : Nat) : wShort n = wShort (n % 65536) := by
  rw [wShort_eq, wShort_eq]; exact BE.beBytes_congr (k := 2) (by simp)

theorem rdShort_be (b r : Bytes) (h : b.length = 2) : rdShort (b ++ r) = some (ValueSpec.beNat b, r) := by
  match b, h with
  | [x, y], _ => rw [BE.beNat_two]; rfl

theorem rdUInt_be (b r : Bytes) (h : b.length = 4) : rdUInt (b ++ r) = some (ValueSpec.beNat b, r) := by
  match b, h with
  | [x, y, z, w], _ => rw [BE.beNat_four]; rfl

theorem rdShort_wShort (n : Nat) (r : Bytes) (h : n < 65536) : rdShort (wShort n ++ r) = some (n, r) := by
  rw [wShort_eq, rdShort_be _ _ (BE.beBytes_length 2 n), BE.beNat_beBytes_lt (k := 2) h]

theorem rdShort_post {bs : Bytes} {n : Nat} {r : Bytes} (h : rdShort bs = some (n, r)) : n < 65536 := by
  match bs, h with
  | a :: b :: t, h => cases h; have := a.toNat_lt; have := b.toNat_lt; omega

theorem rdUInt_wUInt_mod (n : Nat) (r : Bytes) : rdUInt (wUInt n ++ r) = some (n % 4294967296, r) := by
  rw [wUInt_eq, rdUInt_be _ _ (BE.beBytes_length 4 n), BE.beNat_beBytes]

theorem rdUInt_wUInt (n : Nat) (r : Bytes) (h : n < 4294967296) : rdUInt (wUInt n ++ r) = some (n, r) := by
  rw [rdUInt_wUInt_mod, Nat.mod_eq_of_lt h]

theorem rdUInt_post {bs : Bytes} {n : Nat} {r : Bytes} (h : rdUInt bs = some (n, r)) : n < 4294967296 := by
  match bs, h with
  | a :: b :: c :: d :: t, h =>
    cases h; have := a.toNat_lt; have := b.toNat_lt; have := c.toNat_lt; have := d.toNat_lt; omega

theorem rdInt_wInt (z : Int) (r : Bytes) (h1 : -2147483648 ≤ z) (h2 : z < 2147483648) :
    rdInt (wInt z ++ r) = some (z, r) := by
  have : (z % 4294967296).toNat % 4294967296 = (z % 4294967296).toNat := by omega
  simp only [rdInt, wInt, rdUInt_wUInt_mod, this]
  exact congrArg (fun v => some (v, r)) (BE.wrap_emod 4294967296 rfl z (by omega) (by omega))

theorem rdInt_wUInt (n : Nat) (r : Bytes) (h : n < 2147483648) : rdInt (wUInt n ++ r) = some ((n : Int), r) := by
  have := rdInt_wInt (n : Int) r (by omega) (by omega)
  have e : ((n : Int) % 4294967296).toNat = n := by omega
  simpa [wInt, e] using this

theorem byteOf_congr (a b : Nat) (h : a % 256 = b % 256) : byteOf a = byteOf b := BE.ofNat_congr h

theorem rdInt_post {bs : Bytes} {z : Int} {r : Bytes} (h : rdInt bs = some (z, r)) : isInt32 z = true := by
  revert h
  fun_cases rdInt bs <;> intro h <;> cases h
  have := rdUInt_post ‹rdUInt bs = some _›
  simp only [isInt32, Bool.and_eq_true, decide_eq_true_eq]
  split <;> omega

theorem takeN_append (s r : Bytes) : takeN s.length (s ++ r) = some (s, r) := by
  simp [takeN]

theorem takeN_post {n : Nat} {bs t r : Bytes} (h : takeN n bs = some (t, r)) : t.length = n := by
  unfold takeN at h
  simp only at h
  split at h
  · rename_i hl; cases h; exact hl
  · cases h

/-- an `[int]` n ≥ 0 followed by n bytes: their number fits an `[int]` -/
theorem takeN_int_post {bs r b r' : Bytes} {n : Int} (hn : rdInt bs = some (n, r)) (ht : takeN n.toNat r = some (b, r')) :
    fitsInt b = true := by
  have hi := rdInt_post hn
  have := takeN_post ht
  simp only [isInt32, Bool.and_eq_true, decide_eq_true_eq] at hi
  simp only [fitsInt, decide_eq_true_eq]; omega

/-- a notation of the format: `rd` reads back what `w` writes for every value with `ok`, and whatever `rd` reads has `ok`
    (so `ok` is exactly the range of the reader) -/
structure Field {α : Type} (rd : Bytes → Option (α × Bytes)) (w : α → Bytes) (ok : α → Bool) : Prop where
  inv : ∀ x r, ok x = true → rd (w x ++ r) = some (x, r)
  post : ∀ {bs x r}, rd bs = some (x, r) → ok x = true

theorem fShort : Field rdShort wShort isShort :=
  ⟨fun n r h => rdShort_wShort n r (by simpa [isShort] using h), fun h => by simp [isShort, rdShort_post h]⟩

theorem fInt : Field rdInt wInt isInt32 :=
  ⟨fun z r h => by
    simp only [isInt32, Bool.and_eq_true, decide_eq_true_eq] at h; exact rdInt_wInt z r h.1 h.2,
   rdInt_post⟩

theorem fLong : Field rdLong wLong isInt64 where
  inv z r h := by
    simp only [isInt64, Bool.and_eq_true, decide_eq_true_eq] at h
    simp only [rdLong, wLong, List.append_assoc, rdUInt_wUInt_mod]
    have : (z % 18446744073709551616).toNat / 4294967296 % 4294967296 * 4294967296 +
        (z % 18446744073709551616).toNat % 4294967296 = (z % 18446744073709551616).toNat := by omega
    simp only [this]
    exact congrArg (fun v => some (v, r)) (BE.wrap_emod 18446744073709551616 rfl z (by omega) (by omega))
  post {bs} _ _ h := by
    revert h
    fun_cases rdLong bs <;> intro h <;> cases h
    have := rdUInt_post ‹rdUInt bs = some _›; have := rdUInt_post ‹rdUInt _ = some (_, _)›
    simp only [isInt64, Bool.and_eq_true, decide_eq_true_eq]
    split <;> omega

theorem fString : Field rdString wString fitsShort where
  inv s r h := by
    have : s.length < 65536 := by simp [fitsShort] at h; omega
    simp only [rdString, wString, List.append_assoc, rdShort_wShort _ _ this, takeN_append]
  post {bs} _ _ h := by
    revert h
    fun_cases rdString bs <;> intro h
    · have := rdShort_post ‹rdShort bs = some _›; have := takeN_post h
      simp only [fitsShort, decide_eq_true_eq]; omega
    · cases h

theorem fLongString : Field rdLongString wLongString fitsInt where
  inv s r h := by
    have h2 : (s.length : Int) < 2147483648 := by simp [fitsInt] at h; omega
    have h1 : -2147483648 ≤ (s.length : Int) := by omega
    simp only [rdLongString, wLongString, List.append_assoc, rdInt_wInt _ _ h1 h2]
    simp [takeN_append]
  post {bs} _ _ h := by
    revert h
    fun_cases rdLongString bs <;> intro h
    · cases h
    · exact takeN_int_post ‹rdInt bs = some _› h
    · cases h

theorem fBytes : Field rdBytes wBytes (optAll fitsInt) where
  inv ob r h := by
    cases ob with
    | none => simp [rdBytes, wBytes, rdInt_wInt]
    | some s =>
      have h2 : (s.length : Int) < 2147483648 := by simp [optAll, fitsInt] at h; omega
      have h1 : -2147483648 ≤ (s.length : Int) := by omega
      simp only [rdBytes, wBytes, List.append_assoc, rdInt_wInt _ _ h1 h2]
      simp [takeN_append]
  post {bs} _ _ h := by
    revert h
    fun_cases rdBytes bs <;> intro h <;> cases h
    · rfl
    · exact takeN_int_post ‹rdInt bs = some _› ‹takeN _ _ = some _›

theorem rdList_flatMap {α β : Type} (rd : Bytes → Option (β × Bytes)) (enc : α → Bytes) (f : α → β)
    (xs : List α) (r : Bytes) (h : ∀ x ∈ xs, ∀ r, rd (enc x ++ r) = some (f x, r)) :
    rdList rd xs.length (xs.flatMap enc ++ r) = some (xs.map f, r) := by
  induction xs with
  | nil => simp [rdList]
  | cons x xs ih =>
    have hx := h x (by simp)
    have ih' := ih (fun y hy => h y (by simp [hy]))
    simp only [List.length_cons, List.flatMap_cons, List.append_assoc, rdList, hx, ih', List.map_cons]

theorem rdCounted_flatMap {α β : Type} (rd : Bytes → Option (β × Bytes)) (enc : α → Bytes) (f : α → β)
    (xs : List α) (r : Bytes) (hn : xs.length ≤ 65535)
    (h : ∀ x ∈ xs, ∀ r, rd (enc x ++ r) = some (f x, r)) :
    rdCounted rd (wShort xs.length ++ (xs.flatMap enc ++ r)) = some (xs.map f, r) := by
  have : xs.length < 65536 := by omega
  simp only [rdCounted, rdShort_wShort _ _ this, rdList_flatMap rd enc f xs r h]

theorem rdList_post {α : Type} (rd : Bytes → Option (α × Bytes)) (P : α → Prop)
    (hrd : ∀ {bs x r}, rd bs = some (x, r) → P x) (n : Nat) (bs : Bytes) (xs : List α) (r : Bytes)
    (h : rdList rd n bs = some (xs, r)) : xs.length = n ∧ ∀ x ∈ xs, P x := by
  fun_induction rdList rd n bs generalizing xs r with
  | case1 => cases h; simp
  | case2 n bs x r1 h1 ys r2 h2 ih =>
    cases h
    obtain ⟨hl, hp⟩ := ih ys r2 h2
    exact ⟨by simp [hl], fun y hy => by
      rcases List.mem_cons.mp hy with rfl | m
      · exact hrd h1
      · exact hp y m⟩
  | case3 => cases h
  | case4 => cases h

theorem rdCounted_post {α : Type} (rd : Bytes → Option (α × Bytes)) (P : α → Prop)
    (hrd : ∀ {bs x r}, rd bs = some (x, r) → P x) {bs : Bytes} {xs : List α} {r : Bytes}
    (h : rdCounted rd bs = some (xs, r)) : xs.length ≤ 65535 ∧ ∀ x ∈ xs, P x := by
  revert h
  fun_cases rdCounted rd bs <;> intro h
  · have := rdShort_post ‹rdShort bs = some _›
    obtain ⟨hl, hp⟩ := rdList_post rd P hrd _ _ xs r h
    exact ⟨by omega, hp⟩
  · cases h

section
variable {α β : Type} {rd : Bytes → Option (α × Bytes)} {w : α → Bytes} {ok : α → Bool}
  {rd' : Bytes → Option (β × Bytes)} {w' : β → Bytes} {ok' : β → Bool}

theorem Field.pair (F : Field rd w ok) (F' : Field rd' w' ok') :
    Field (rdPair rd rd') (fun p => w p.1 ++ w' p.2) (fun p => ok p.1 && ok' p.2) where
  inv p r h := by
    simp only [Bool.and_eq_true] at h
    simp only [rdPair, List.append_assoc, F.inv _ _ h.1, F'.inv _ _ h.2]
  post {bs} _ _ h := by
    revert h
    fun_cases rdPair rd rd' bs <;> intro h <;> cases h
    simp [F.post ‹rd bs = some _›, F'.post ‹rd' _ = some _›]

/-- a `[short]` n followed by n items -/
theorem Field.counted (F : Field rd w ok) :
    Field (rdCounted rd) (fun xs => wShort xs.length ++ xs.flatMap w) (fun l => decide (l.length ≤ 65535) && l.all ok) where
  inv xs r h := by
    simp only [Bool.and_eq_true, decide_eq_true_eq, List.all_eq_true] at h
    simpa using rdCounted_flatMap rd w id xs r h.1 (fun x hx r => F.inv x r (h.2 x hx))
  post h := by
    obtain ⟨hl, hp⟩ := rdCounted_post rd (fun x => ok x = true) F.post h
    simp only [hl, decide_true, Bool.true_and]
    exact List.all_eq_true.mpr hp

/-- an optional field, written under a condition `c` of the Go code and announced by the flag `decide c` -/
theorem Field.opt_inv (F : Field rd w ok) (c : Prop) [Decidable c] (x : α) (r : Bytes)
    (h : optAll ok (if c then some x else none) = true) :
    rdOpt (decide c) rd ((if c then w x else []) ++ r) = some (if c then some x else none, r) := by
  by_cases hc : c
  · rw [if_pos hc] at h; simp [rdOpt, hc, F.inv x r h]
  · simp [rdOpt, hc]

theorem Field.opt_post (F : Field rd w ok) {c : Bool} {bs : Bytes} {o : Option α} {r : Bytes}
    (h : rdOpt c rd bs = some (o, r)) : o.isSome = c ∧ optAll ok o = true := by
  revert h
  fun_cases rdOpt c rd bs <;> intro h <;> cases h
  · exact ⟨‹c = true›.symm, F.post ‹rd bs = some _›⟩
  · exact ⟨by simpa using ‹¬ c = true›, rfl⟩

end

theorem fStringList : Field rdStringList wStringList (fun l => decide (l.length ≤ 65535) && l.all fitsShort) :=
  fString.counted

theorem fStringMap : Field rdStringMap wStringMap
    (fun m => decide (m.length ≤ 65535) && m.all fun kv => fitsShort kv.1 && fitsShort kv.2) :=
  (fString.pair fString).counted

theorem fBytesMap : Field rdBytesMap wBytesMap
    (fun m => decide (m.length ≤ 65535) && m.all fun kv => fitsShort kv.1 && optAll fitsInt kv.2) :=
  (fString.pair fBytes).counted

/-! ## flag words: a sum of flags `b2n bᵢ 2^i` read bit by bit -/

theorem b2n_mul (b : Bool) (n : Nat) : b2n b n = n * b2n b 1 := by cases b <;> simp [b2n]

theorem b2n_false (n : Nat) : b2n false n = 0 := rfl

theorem b2n_le (b : Bool) (n : Nat) : b2n b n ≤ n := by cases b <;> simp [b2n]

theorem bit_low (b : Bool) (m : Nat) : bit (b2n b 1 + 2 * m) 0 = b := by
  cases b <;> simp [bit, b2n] <;> omega

/-- the flags word of PREPARE in v5 has one flag: it is bit 0, and the word is below 2 -/
theorem bit_b2n_1 (c : Bool) : bit (b2n c 1) 0 = c ∧ b2n c 1 < 2 := by cases c <;> decide

theorem bit_high (b : Bool) (m k : Nat) : bit (b2n b 1 + 2 * m) (k + 1) = bit m k := by
  have : (b2n b 1 + 2 * m) / 2 = m := by cases b <;> simp [b2n] <;> omega
  simp only [bit, Nat.pow_succ, Nat.mul_comm _ 2, ← Nat.div_div_eq_div_mul, this]

theorem bits8 (b0 b1 b2 b3 b4 b5 b6 b7 : Bool) :
    let fl := b2n b0 0x01 + b2n b1 0x02 + b2n b2 0x04 + b2n b3 0x08 + b2n b4 0x10 + b2n b5 0x20 + b2n b6 0x40 + b2n b7 0x80
    fl < 256 ∧ bit fl 0 = b0 ∧ bit fl 1 = b1 ∧ bit fl 2 = b2 ∧ bit fl 3 = b3 ∧ bit fl 4 = b4 ∧ bit fl 5 = b5 ∧
      bit fl 6 = b6 ∧ bit fl 7 = b7 := by
  intro fl
  -- Horner form: each flag is the lowest place of what remains
  have e : fl = b2n b0 1 + 2 * (b2n b1 1 + 2 * (b2n b2 1 + 2 * (b2n b3 1 + 2 * (b2n b4 1 + 2 * (b2n b5 1 +
      2 * (b2n b6 1 + 2 * (b2n b7 1 + 2 * 0))))))) := by
    simp only [fl, b2n_mul _ 0x02, b2n_mul _ 0x04, b2n_mul _ 0x08, b2n_mul _ 0x10, b2n_mul _ 0x20, b2n_mul _ 0x40,
      b2n_mul _ 0x80]
    omega
  refine ⟨?_, ?_⟩
  · have := b2n_le b0 0x01; have := b2n_le b1 0x02; have := b2n_le b2 0x04; have := b2n_le b3 0x08
    have := b2n_le b4 0x10; have := b2n_le b5 0x20; have := b2n_le b6 0x40; have := b2n_le b7 0x80
    omega
  · rw [e]; simp only [bit_high, bit_low, and_self]

end C03
