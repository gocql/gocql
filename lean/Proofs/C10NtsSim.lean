import Proofs.C10NtsSpec
/-! networkTopology.replicaMap's inner loop WITH its seen-host check against Cassandra's walk over the same ring
positions, in one simulation (`nts_sim`): the code's state after the distinct hosts met so far (`sh`) against Cassandra's
state after all positions so far (`Sim`).  A host met for the first time: the loop body is made of micro-steps — take the
host, record its rack, drain the skipped list, or put the host on it — each against Cassandra's (`sim_add`, `sim_rack`,
`sim_drain`, `sim_skip`; `drainSk_eq`: Cassandra's drain loop is the code's `take`).  Meeting a host again is a no-op for the
code; for Cassandra it is one up to the host being put on a skipped list although it already is a replica
(`sim_revisit`), which the drain passes over.  At the end `C10.univ_of`: the hosts of a ring satisfy `Univ` with the code's `dcRacks`
and Cassandra's topology of that ring. -/
namespace C10NtsSim
open Placement C10Simple C10Nts C10NtsNodup C10NtsSpec

/-- the hosts `U` that can occur on the walk, and the two descriptions of the topology -/
structure Univ (c : NtsCfg) (tp : Spec.Topo) (U : List Host) : Prop where
  racksEq : ∀ d, tp.racksIn d = (c.racks d).length
  rackKnown : ∀ x ∈ U, x.rack ∈ c.racks x.dc
  nodes : ∀ p : List Host, p.Nodup → (∀ x ∈ p, x ∈ U) → ∀ d,
    (p.filter (fun x => decide (x.dc = d))).length ≤ tp.nodesIn d
  keys : (c.rfs.map (·.1)).Nodup
  tot : c.totalRF = (c.rfs.map (·.2)).sum

/-- the code's state `st` after the distinct hosts `sh` against Cassandra's state `sst` after all positions so far.
Cassandra's skipped lists may also hold hosts that already are replicas; `skip` is guarded because neither side reads a
skipped list again once all racks of its datacenter have been seen. -/
structure Sim (c : NtsCfg) (sh : List Host) (st : NtsSt) (sst : Spec.St) : Prop where
  reps : sst.replicas = st.replicas
  dcr : ∀ d, sst.dcReplicas d = st.replicas.filter (fun x => decide (x.dc = d))
  seen : ∀ d, sst.seenRacks d = st.seen d
  skip : ∀ d, (st.seen d).length ≠ (c.racks d).length →
    (sst.skipped d).filter (fun x => decide (x ∉ st.replicas)) = st.skipped d
  sk : ∀ d, ∀ x ∈ sst.skipped d, x ∈ sh ∧ x.dc = d
  snd : ∀ d, (st.seen d).Nodup
  ssub : ∀ d, ∀ r ∈ st.seen d, r ∈ c.racks d

theorem sim_init (c : NtsCfg) : Sim c [] ntsInit Spec.init :=
  ⟨rfl, by intro d; simp [ntsInit, Spec.init], fun _ => rfl, by intro d _; simp [ntsInit, Spec.init],
   by intro d x hx; simp [Spec.init] at hx, by intro d; simp [ntsInit], by intro d r hr; simp [ntsInit] at hr⟩

theorem Sim.mono {c : NtsCfg} {sh sh' : List Host} {st : NtsSt} {sst : Spec.St} (r : Sim c sh st sst)
    (h : ∀ x ∈ sh, x ∈ sh') : Sim c sh' st sst :=
  ⟨r.reps, r.dcr, r.seen, r.skip, fun d x hx => ⟨h x (r.sk d x hx).1, (r.sk d x hx).2⟩, r.snd, r.ssub⟩

/-- replicas taken in a step are not on Cassandra's skipped lists that are still read -/
theorem filter_not_mem_append (l R ext : List Host) (h : ∀ x ∈ l, x ∉ ext) :
    l.filter (fun x => decide (x ∉ R ++ ext)) = l.filter (fun x => decide (x ∉ R)) :=
  List.filter_congr fun x hx => by simp [h x hx]

/-- Cassandra's drain of a list some of whose members already are replicas = the code's `take` on the others -/
theorem drainSk_eq (tp : Spec.Topo) (rf : Nat → Nat) (dc : Nat) : ∀ (sk : List Host) (s : Spec.St) (F : List Host),
    F = sk.filter (fun x => decide (x ∉ s.replicas)) →
    (∀ x ∈ sk, x ∈ s.replicas ↔ x ∈ s.dcReplicas dc) → F.Nodup →
    (s.dcReplicas dc).length + F.length ≤ tp.nodesIn dc →
    Spec.drainSk tp rf dc s sk =
      { s with replicas := s.replicas ++ F.take (min F.length (rf dc - (s.dcReplicas dc).length)),
               dcReplicas := upd s.dcReplicas dc
                 (s.dcReplicas dc ++ F.take (min F.length (rf dc - (s.dcReplicas dc).length))) } := by
  intro sk
  induction sk with
  | nil => intro s F hF _ _ _; subst hF; simp [Spec.drainSk, upd_self]
  | cons x xs ih =>
    intro s F hF hiff hnd hlen
    by_cases hs : Spec.sufficient tp rf s dc = true
    · rw [drain_suff tp rf dc s hs]
      have hz : min F.length (rf dc - (s.dcReplicas dc).length) = 0 := by rw [sufficient_iff] at hs; omega
      rw [hz]; simp [upd_self]
    · have hlt : (s.dcReplicas dc).length < rf dc := by rw [sufficient_iff] at hs; omega
      rw [drain_go tp rf dc s x xs hs]
      by_cases hx : x ∈ s.replicas
      · rw [setAdd_of_mem _ _ hx, setAdd_of_mem _ _ ((hiff x (List.mem_cons_self ..)).mp hx), upd_self]
        exact ih s F (by rw [hF]; simp [hx]) (fun y hy => hiff y (List.mem_cons_of_mem _ hy)) hnd hlen
      · have hxd : x ∉ s.dcReplicas dc := fun h => hx ((hiff x (List.mem_cons_self ..)).mpr h)
        have hF' : F = x :: xs.filter (fun x => decide (x ∉ s.replicas)) := by rw [hF]; simp [hx]
        subst hF'
        rw [List.nodup_cons] at hnd
        have hxs : x ∉ xs := fun h => hnd.1 (List.mem_filter.mpr ⟨h, by simpa using hx⟩)
        -- the host just taken is not met again on the rest of the list
        have hf2 : xs.filter (fun y => decide (y ∉ s.replicas ++ [x])) = xs.filter (fun y => decide (y ∉ s.replicas)) :=
          filter_not_mem_append _ _ _ fun y hy hh => hxs (List.mem_singleton.mp hh ▸ hy)
        rw [setAdd_new _ _ hx, setAdd_new _ _ hxd,
          ih { s with dcReplicas := upd s.dcReplicas dc (s.dcReplicas dc ++ [x]), replicas := s.replicas ++ [x] } _
            hf2.symm (fun y hy => by simp only [upd_same, List.mem_append, hiff y (List.mem_cons_of_mem _ hy)]) hnd.2
            (by simp only [upd_same, List.length_append, List.length_cons, List.length_nil] at hlen ⊢; omega)]
        have hm : min ((xs.filter (fun x => decide (x ∉ s.replicas))).length + 1) (rf dc - (s.dcReplicas dc).length)
            = min (xs.filter (fun x => decide (x ∉ s.replicas))).length (rf dc - ((s.dcReplicas dc).length + 1)) + 1 := by
          omega
        simp only [upd_same, upd_upd, List.length_append, List.length_cons, List.length_nil, Nat.zero_add, hm,
          List.take_succ_cons, List.append_assoc, List.singleton_append]

/-- the code does nothing when it meets a host again; Cassandra's step keeps the relation -/
theorem sim_revisit (c : NtsCfg) (tp : Spec.Topo) (U sh : List Host) (h : Host) (st : NtsSt) (sst : Spec.St)
    (u : Univ c tp U) (w : Walked c U sh st) (hm : h ∈ sh) (r : Sim c sh st sst) :
    Sim c sh st (Spec.step tp (c.rfs.map (·.1)) (rfOf c.rfs) sst h) := by
  have hcnt : (sst.dcReplicas h.dc).length = st.inDC h.dc := by rw [r.dcr, w.good.cnt]
  rcases spec_step_cases tp (c.rfs.map (·.1)) (rfOf c.rfs) sst h with
    ⟨_, e⟩ | ⟨_, hsuf, ⟨hc, e⟩ | ⟨hn, hr, e⟩ | ⟨hn, hr, e⟩⟩
  · rw [e]; exact r
  all_goals
    have hlt : st.inDC h.dc < rfOf c.rfs h.dc := by
      have : ¬ Spec.sufficient tp (rfOf c.rfs) sst h.dc = true := by rw [hsuf]; simp
      rw [sufficient_iff, hcnt] at this; omega
    obtain ⟨hrack, hcase⟩ := w.vis h hm hlt
    rw [r.seen, u.racksEq] at *
  · -- all racks seen: the host already is a replica
    have hrep : h ∈ st.replicas := hcase.resolve_right (fun hh => hh.1 hc)
    have : stAdd sst h = sst := by
      simp only [stAdd]
      rw [setAdd_of_mem _ _ (r.reps ▸ hrep),
        setAdd_of_mem _ _ (by rw [r.dcr]; exact List.mem_filter.mpr ⟨hrep, by simp⟩), upd_self]
    rw [e, this]; exact r
  · by_cases hsk : h ∈ sst.skipped h.dc
    · have : stSkip sst h = sst := by simp only [stSkip, setAdd_of_mem _ _ hsk, upd_self]
      rw [e, this]; exact r
    · have hrep : h ∈ st.replicas := by
        rcases hcase with hh | ⟨hh1, hh2⟩
        · exact hh
        · rw [← r.skip _ hh1] at hh2
          exact absurd (List.mem_filter.mp hh2).1 hsk
      rw [e]
      have : [h].filter (fun x => decide (x ∉ st.replicas)) = [] := by simp [hrep]
      exact ⟨r.reps, r.dcr, r.seen,
        forall_update (P := fun d (l : List Host) => (st.seen d).length ≠ (c.racks d).length →
          l.filter (fun x => decide (x ∉ st.replicas)) = st.skipped d) r.skip h.dc
          (fun hnd => by rw [setAdd_new _ _ hsk, List.filter_append, this, List.append_nil]; exact r.skip _ hnd),
        forall_update (P := fun d l => ∀ x ∈ l, x ∈ sh ∧ x.dc = d) r.sk h.dc
          (fun x hx => (List.mem_append.mp (setAdd_new _ _ hsk ▸ hx)).elim (r.sk _ x)
            (fun hx => List.mem_singleton.mp hx ▸ ⟨hm, rfl⟩)), r.snd, r.ssub⟩
  · exact absurd hrack hr

/-- the relation reads the replicas, the seen racks and the skipped lists of the code's state only -/
theorem Sim.of_eq {c : NtsCfg} {sh : List Host} {st st' : NtsSt} {sst : Spec.St} (r : Sim c sh st sst)
    (h1 : st'.replicas = st.replicas) (h2 : st'.seen = st.seen) (h3 : st'.skipped = st.skipped) : Sim c sh st' sst := by
  obtain ⟨a1, a2, a3, a4, a5, a6, a7⟩ := r
  exact ⟨by rw [h1]; exact a1, by rw [h1]; exact a2, by rw [h2]; exact a3, by rw [h1, h2, h3]; exact a4, a5,
    by rw [h2]; exact a6, by rw [h2]; exact a7⟩

theorem Sim.dcr_append {c : NtsCfg} {sh : List Host} {st : NtsSt} {sst : Spec.St} (r : Sim c sh st sst) (k : Nat)
    (ext : List Host) (hext : ∀ x ∈ ext, x.dc = k) :
    ∀ d, (if d = k then sst.dcReplicas k ++ ext else sst.dcReplicas d) =
      (st.replicas ++ ext).filter (fun x => decide (x.dc = d)) :=
  forall_update' (P := fun d l => l = (st.replicas ++ ext).filter (fun x => decide (x.dc = d)))
    (by rw [List.filter_append, ← r.dcr, List.filter_eq_self.mpr (fun x hx => by simp [hext x hx])])
    (fun d hd => by
      rw [List.filter_append, ← r.dcr, List.filter_eq_nil_iff.mpr (fun x hx => by rw [hext x hx]; simpa using Ne.symm hd),
        List.append_nil])

/-- `replicas = append(replicas, h)` against `replicas.add(h)` -/
theorem sim_add {c : NtsCfg} {sh : List Host} {st : NtsSt} {sst : Spec.St} (r : Sim c sh st sst) (h : Host)
    (hnew : h ∉ sh) (hnr : h ∉ st.replicas) :
    Sim c (sh ++ [h]) { st with replicas := st.replicas ++ [h] } (stAdd sst h) := by
  refine ⟨?_, ?_, r.seen, ?_, fun d x hx => ⟨List.mem_append_left _ (r.sk d x hx).1, (r.sk d x hx).2⟩, r.snd, r.ssub⟩
  · show setAdd sst.replicas h = st.replicas ++ [h]
    rw [r.reps, setAdd_new _ _ hnr]
  · show ∀ d, upd sst.dcReplicas h.dc (setAdd (sst.dcReplicas h.dc) h) d = _
    rw [setAdd_new _ _ (fun hx => hnr (List.mem_filter.mp (r.dcr _ ▸ hx)).1)]
    exact r.dcr_append h.dc [h] (by simp)
  · intro d hnd
    show (sst.skipped d).filter (fun x => decide (x ∉ st.replicas ++ [h])) = st.skipped d
    rw [filter_not_mem_append _ _ _ (fun x hx hh => hnew (by rw [← List.mem_singleton.mp hh]; exact (r.sk d x hx).1))]
    exact r.skip d hnd

/-- a rack seen for the first time is recorded on both sides -/
theorem sim_rack {c : NtsCfg} {sh : List Host} {st : NtsSt} {sst : Spec.St} (r : Sim c sh st sst) (dc rack : Nat)
    (hs : rack ∉ st.seen dc) (hr : rack ∈ c.racks dc) (hinc : (st.seen dc).length ≠ (c.racks dc).length) :
    Sim c sh { st with seen := upd st.seen dc (st.seen dc ++ [rack]) }
      { sst with seenRacks := upd sst.seenRacks dc (setAdd (sst.seenRacks dc) rack) } := by
  exact ⟨r.reps, r.dcr,
    forall_update₂ (P := fun _ a b => a = b) r.seen dc (by rw [r.seen, setAdd_new _ _ hs]),
    forall_update (P := fun d (s : List Nat) => s.length ≠ (c.racks d).length →
      (sst.skipped d).filter (fun x => decide (x ∉ st.replicas)) = st.skipped d) r.skip dc (fun _ => r.skip dc hinc),
    r.sk, forall_update (P := fun _ s => List.Nodup s) r.snd dc (nodup_snoc (r.snd _) hs),
    forall_update (P := fun d s => ∀ x ∈ s, x ∈ c.racks d) r.ssub dc
      (fun x hx => (List.mem_append.mp hx).elim (r.ssub _ x) (fun hx => List.mem_singleton.mp hx ▸ hr))⟩

/-- once all racks of `dc` have been seen: Cassandra's drain of its skipped list against the code's `take`.  Neither side
reads the skipped list of `dc` again, so the code's state `st'` after the drain may hold anything there. -/
theorem sim_drain {c : NtsCfg} {sh : List Host} {st st' : NtsSt} {sst : Spec.St} (tp : Spec.Topo) (r : Sim c sh st sst)
    (dc : Nat) (hcomp : (st.seen dc).length = (c.racks dc).length)
    (hF : (sst.skipped dc).filter (fun x => decide (x ∉ st.replicas)) = st.skipped dc)
    (hnd : (st.skipped dc).Nodup) (hlen : (sst.dcReplicas dc).length + (st.skipped dc).length ≤ tp.nodesIn dc)
    (hR : st'.replicas = st.replicas ++ (st.skipped dc).take
      (min (st.skipped dc).length (rfOf c.rfs dc - (sst.dcReplicas dc).length)))
    (hS : st'.seen = st.seen) (hK : ∀ d, d ≠ dc → st'.skipped d = st.skipped d) :
    Sim c sh st' (Spec.drainSk tp (rfOf c.rfs) dc sst (sst.skipped dc)) := by
  have hdc : ∀ x ∈ st.skipped dc, x.dc = dc := by
    intro x hx
    rw [← hF] at hx
    exact (r.sk dc x (List.mem_filter.mp hx).1).2
  rw [drainSk_eq tp (rfOf c.rfs) dc (sst.skipped dc) sst (st.skipped dc) (by rw [r.reps, hF])
    (fun x hx => by rw [r.reps, r.dcr]; simp only [List.mem_filter, (r.sk dc x hx).2, decide_true, and_true]) hnd hlen]
  -- `T`: the skipped hosts taken, all of datacenter `dc`
  generalize hT : (st.skipped dc).take (min (st.skipped dc).length (rfOf c.rfs dc - (sst.dcReplicas dc).length)) = T at hR ⊢
  have htk : ∀ x ∈ T, x.dc = dc := fun x hx => hdc x (List.mem_of_mem_take (hT ▸ hx))
  refine ⟨by rw [hR, ← r.reps], ?_, by rw [hS]; exact r.seen, ?_, r.sk, by rw [hS]; exact r.snd, by rw [hS]; exact r.ssub⟩
  · rw [hR]; exact r.dcr_append dc T htk
  · intro d hnd'
    rw [hS] at hnd'
    have hd : d ≠ dc := fun e => hnd' (e ▸ hcomp)
    show (sst.skipped d).filter _ = _
    rw [hK d hd, hR, filter_not_mem_append _ _ _ (fun x hx hh => hd ((r.sk d x hx).2.symm.trans (htk x hh)))]
    exact r.skip d hnd'

/-- `skippedHosts = append(skippedHosts, h)` against `skippedDcEndpoints.add(h)` -/
theorem sim_skip {c : NtsCfg} {sh : List Host} {st : NtsSt} {sst : Spec.St} (r : Sim c sh st sst) (h : Host)
    (hnew : h ∉ sh) (hnr : h ∉ st.replicas) : Sim c (sh ++ [h]) (stC st h) (stSkip sst h) := by
  have hsk : h ∉ sst.skipped h.dc := fun hx => hnew (r.sk _ h hx).1
  refine ⟨r.reps, r.dcr, r.seen,
    forall_update₂ (P := fun d (a b : List Host) => (st.seen d).length ≠ (c.racks d).length →
      a.filter (fun x => decide (x ∉ st.replicas)) = b) r.skip h.dc (fun hne => ?_),
    forall_update (P := fun d l => ∀ x ∈ l, x ∈ sh ++ [h] ∧ x.dc = d)
      (fun d x hx => ⟨List.mem_append_left _ (r.sk d x hx).1, (r.sk d x hx).2⟩) h.dc (fun x hx => ?_), r.snd, r.ssub⟩
  · rw [setAdd_new _ _ hsk, List.filter_append, r.skip _ hne]
    simp [hnr]
  · rcases List.mem_append.mp (setAdd_new _ _ hsk ▸ hx) with hx | hx
    · exact ⟨List.mem_append_left _ (r.sk _ x hx).1, (r.sk _ x hx).2⟩
    · rw [List.mem_singleton.mp hx]; exact ⟨by simp, rfl⟩

theorem sim_new (c : NtsCfg) (tp : Spec.Topo) (U sh : List Host) (h : Host) (st : NtsSt) (sst : Spec.St)
    (u : Univ c tp U) (w : Walked c U sh st) (hU : h ∈ U) (hnew : h ∉ sh) (r : Sim c sh st sst) :
    Sim c (sh ++ [h]) (ntsStep c st h) (Spec.step tp (c.rfs.map (·.1)) (rfOf c.rfs) sst h) := by
  obtain ⟨hnd, hsub, g, j, _⟩ := w
  have hmono : Sim c (sh ++ [h]) st sst := r.mono (fun x hx => List.mem_append_left _ hx)
  have hnr : h ∉ st.replicas := fun hx => hnew (j.rp h hx)
  have hcnt : ∀ d, (sst.dcReplicas d).length = st.inDC d := by intro d; rw [r.dcr d, g.cnt d]
  have hr : h.rack ∈ c.racks h.dc := u.rackKnown h hU
  -- when the body acts: Cassandra knows the datacenter, which still lacks replicas, and `h` is a node of it not yet counted
  have act : Active c st h → h.dc ∈ c.rfs.map (·.1) ∧ Spec.sufficient tp (rfOf c.rfs) sst h.dc = false ∧
      st.inDC h.dc + (st.skipped h.dc).length + 1 ≤ tp.nodesIn h.dc := by
    intro a
    have hcount : st.inDC h.dc + (st.skipped h.dc).length + 1 ≤ tp.nodesIn h.dc := by
      have h1 := count_le c sh st g j h.dc
      have h2 := u.nodes (sh ++ [h]) (nodup_snoc hnd hnew)
        (fun x hx => (List.mem_append.mp hx).elim (hsub x) (fun hx => by simp at hx; exact hx ▸ hU)) h.dc
      simp only [List.filter_append, List.length_append, List.filter_cons, decide_true, if_true,
        List.length_cons, List.filter_nil, List.length_nil] at h2
      omega
    refine ⟨List.mem_map.mpr ⟨_, rfOf_mem c.rfs h.dc a.pos, rfl⟩, ?_, hcount⟩
    have := a.lt
    simp only [Spec.sufficient, hcnt, ge_iff_le, decide_eq_false_iff_not]; omega
  apply ntsStep_elim c st h (motive := fun st' => Sim c (sh ++ [h]) st' (Spec.step tp (c.rfs.map (·.1)) (rfOf c.rfs) sst h))
  case skip =>
    rintro (h0 | heq | hn)
    · rw [spec_step_rf0 tp c.rfs sst h h0]; exact hmono
    · rw [spec_step_skip tp _ _ sst h (Or.inr (by rw [sufficient_iff, hcnt]; omega))]; exact hmono
    · exact absurd hr hn
  case overflow => exact fun hgt => absurd (g.le h.dc) (Nat.not_le.mpr hgt)
  case sameRack =>
    intro a hs hcomp
    obtain ⟨hmem, hsuf, _⟩ := act a
    rw [spec_step_A tp _ _ sst h hmem hsuf (by rw [r.seen, u.racksEq]; exact hcomp)]
    exact (sim_add r h hnew hnr).of_eq rfl rfl rfl
  case newRack =>
    intro a hs
    obtain ⟨hmem, hsuf, hcount⟩ := act a
    -- new rack: take the host, record the rack, and drain if that was the last rack
    -- (a duplicate-free list of known racks that misses one is shorter than the list of all racks)
    have hncomp : (st.seen h.dc).length ≠ (c.racks h.dc).length := fun heq =>
      hs (nodup_subset_covers _ _ (r.snd _) (r.ssub _) (by omega) h.rack hr)
    have r2 : Sim c (sh ++ [h])
        { st with replicas := st.replicas ++ [h], seen := upd st.seen h.dc (st.seen h.dc ++ [h.rack]) } (st1 sst h) :=
      sim_rack (sim_add r h hnew hnr) h.dc h.rack hs hr hncomp
    rw [spec_step_B tp _ _ sst h hmem hsuf (by rw [r.seen, u.racksEq]; exact hncomp) (by rw [r.seen]; exact hs)]
    have hl : ((st1 sst h).dcReplicas h.dc).length = st.inDC h.dc + 1 := by
      have := r2.dcr h.dc
      rw [show (st1 sst h).dcReplicas h.dc = _ from this, List.filter_append, List.length_append, g.cnt]; simp
    unfold stNew drainCount
    have hlen1 : ((st1 sst h).seenRacks h.dc).length = (st.seen h.dc).length + 1 := by
      rw [show (st1 sst h).seenRacks h.dc = _ from r2.seen h.dc]; simp [upd_same]
    rw [hlen1, u.racksEq]
    by_cases h5 : (st.seen h.dc).length + 1 = (c.racks h.dc).length
    · rw [if_pos h5, if_pos h5]
      refine sim_drain tp r2 h.dc (by simp only [upd_same, List.length_append, List.length_singleton]; exact h5)
        ?_ (j.snd _) (by rw [hl]; show _ + (st.skipped h.dc).length ≤ _; omega) (by rw [hl]; simp [stB]) rfl
        (fun d hd => by simp only [stB, upd_other _ _ _ _ hd])
      show (sst.skipped h.dc).filter (fun x => decide (x ∉ st.replicas ++ [h])) = st.skipped h.dc
      rw [filter_not_mem_append _ _ _ (fun x hx hh => hnew (by rw [← List.mem_singleton.mp hh]; exact (r.sk _ x hx).1))]
      exact r.skip _ hncomp
    · rw [if_neg h5, if_neg h5]
      exact r2.of_eq (by simp [stB]) rfl (by simp only [stB, List.drop_zero, upd_self])
  case otherRack =>
    intro a hs hncomp
    obtain ⟨hmem, hsuf, _⟩ := act a
    rw [spec_step_C tp _ _ sst h hmem hsuf (by rw [r.seen, u.racksEq]; exact hncomp) (by rw [r.seen]; exact hs)]
    exact sim_skip r h hnew hnr

/-- the code's loop with its seen-host check and Cassandra's walk over the same positions yield the same replicas -/
theorem nts_sim (c : NtsCfg) (tp : Spec.Topo) (U : List Host) (u : Univ c tp U) (l sh : List Host) (st : NtsSt)
    (sst : Spec.St) : (∀ x ∈ l, x ∈ U) → Walked c U sh st → Sim c sh st sst →
    (ntsWalk c st sh l).replicas = (Spec.walk tp (c.rfs.map (·.1)) (rfOf c.rfs) sst l).replicas := by
  fun_induction ntsWalk c st sh l generalizing sst with
  | case1 => exact fun _ _ r => r.reps.symm
  | case2 st sh h rest hc => exact fun _ w _ => absurd hc (by rw [w.good.nocrash]; exact Bool.false_ne_true)
  | case3 st sh h rest _ _ hm ih =>
    intro hl w r
    rw [spec_walk_cons]
    exact ih _ (fun x hx => hl x (List.mem_cons_of_mem _ hx)) w (sim_revisit c tp U sh h st sst u w hm r)
  | case4 st sh h rest _ _ hm ih =>
    intro hl w r
    have hU := hl h List.mem_cons_self
    rw [spec_walk_cons]
    exact ih _ (fun x hx => hl x (List.mem_cons_of_mem _ hx)) (w.step h hU (u.rackKnown h hU) hm)
      (sim_new c tp U sh h st sst u w hU hm r)
  | case5 st sh h rest _ hM =>
    -- the code's loop stops: every keyspace datacenter has its rf replicas, so Cassandra's stops too
    intro _ w r
    rw [spec_walk_stop, r.reps]
    have hall := model_stop c st w.good u.keys u.tot hM
    rw [List.all_eq_true]
    intro d hd
    obtain ⟨p, hp, rfl⟩ := List.mem_map.mp hd
    rw [sufficient_iff, r.dcr, w.good.cnt, hall p hp, rfOf_of_mem c.rfs u.keys p.1 p.2 hp]
    exact Nat.min_le_right _ _

end C10NtsSim

namespace C10
open Placement C10Simple C10Nts C10NtsSim

/-- the hosts of the ring, with the code's `dcRacks` and Cassandra's topology of the same ring -/
theorem univ_of (rfs : List (Nat × Nat)) (ring : List Entry) (hkeys : (rfs.map (·.1)).Nodup) :
    Univ (cfgOf rfs ring) (Spec.topoOf ring) (ring.map (·.2)) := by
  refine ⟨?_, fun x hx => rack_known rfs _ x hx, ?_, hkeys, rfl⟩
  · intro d
    simp only [Spec.topoOf, cfgOf, mkCfg]
    apply List.Perm.length_eq
    rw [List.perm_ext_iff_of_nodup (nodup_firsts _) (nodup_toSet _)]
    intro r
    rw [mem_firsts, mem_toSet]
    simp only [List.mem_map, List.mem_filter, decide_eq_true_eq, mem_firsts]
  · intro p hp hsub d
    simp only [Spec.topoOf]
    refine (List.Sublist.nodup List.filter_sublist hp).length_le_of_subset ?_
    intro x hx
    rw [List.mem_filter] at hx ⊢
    exact ⟨(mem_firsts _ x).mpr (hsub x hx.1), hx.2⟩

end C10
