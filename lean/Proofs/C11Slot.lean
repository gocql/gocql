import Model.Policies
import Proofs.C11Iter
import Proofs.C11Ops
import Proofs.C11TA
import Proofs.C11Rot
/-! ONE invariant of a live iterator (`Slot`), for any schedule of `Pick`s, iterator calls and whatever else happens to
the policy in between. With the lists fixed it is `IterOk` (`slot_iterOk`); with the lists changing it is what
Proofs/C11IterTopo.lean reads its theorem off. -/
namespace C11
open Policies

/-- a live iterator at every moment, `Q` being any predicate that holds of every policy state of the run: the hosts of
its replica phases are those of its `Pick` (in a state `tP` of the run); either it is still in them, or its fallback
iterator exists and what it has offered and will offer is the fallback policy's scan in ONE state `tL` of the run, seen
through `used` -/
def Slot (up : Nat → Bool) (Q : TA → Prop) (g : GSlot) : Prop :=
  ∃ tP, Q tP ∧ g.it.used = tP.headOf up g.σ g.rk ∧
    ((g.it.fb = none ∧ (repsOf tP g.σ g.rk).isSome = true ∧ g.it.given ++ g.it.head = g.it.used) ∨
     (∃ sc tL, g.it.fb = some sc ∧ g.it.head = [] ∧ Q tL ∧
        (⟨g.it.given ++ sc.offered, sc.crashed⟩ : Scan) =
          viaHead (repsOf tP g.σ g.rk).isSome g.it.used (tL.pol.pickScan up)))

theorem open_slot (up : Nat → Bool) (Q : TA → Prop) (t : TA) (hq : Q t)
    (σ : List Host → List Host) (rk : Option (Nat × Nat)) : Slot up Q ⟨(t.openIter up σ rk).2, σ, rk⟩ := by
  refine ⟨t, hq, ?_⟩
  fun_cases TA.openIter t up σ rk <;> simp only [repsOf, TA.headOf, *]
  -- no routing key, no ring, empty ring: the fallback iterator exists at once; a replica list: not yet
  · exact ⟨rfl, Or.inr ⟨_, t, rfl, rfl, hq, rfl⟩⟩
  · exact ⟨rfl, Or.inr ⟨_, t, rfl, rfl, hq, rfl⟩⟩
  · exact ⟨rfl, Or.inr ⟨_, t, rfl, rfl, hq, rfl⟩⟩
  · exact ⟨rfl, Or.inl ⟨trivial, rfl, rfl⟩⟩

/-- a call of an iterator that has left its replica phases, in closed form: `sc` is its fallback iterator - created now,
with the fallback policy's `Pick`, if there is none -; the call returns the head of `sc` and goes on with its tail
(the lazy iterator's counterpart is `fbCall` in Proofs/C11Lazy.lean) -/
theorem nextIter_fb (t : TA) (up : Nat → Bool) (it : Iter) (h : it.head = []) :
    let sc : Scan := it.fb.getD ⟨minusUsed it.used (t.pol.pickScan up).offered, (t.pol.pickScan up).crashed⟩
    t.nextIter up it = (if it.fb.isSome then t else { t with pol := t.pol.bump },
      { it with fb := some ⟨sc.offered.tail, sc.crashed⟩, given := it.given ++ sc.offered.take 1 }, expectedNext sc) := by
  obtain ⟨given, head, used, fb⟩ := it
  cases h
  cases fb with
  | some sc =>
    obtain ⟨off, cr⟩ := sc
    cases off <;> simp [TA.nextIter, expectedNext]
  | none =>
    simp only [TA.nextIter, Option.getD_none]
    generalize minusUsed used (t.pol.pickScan up).offered = off
    cases off <;> simp [expectedNext]

theorem take_one_append_tail {α : Type} (g l : List α) : (g ++ l.take 1) ++ l.tail = g ++ l := by
  cases l <;> simp

theorem next_slot (up : Nat → Bool) (Q : TA → Prop) (t : TA) (hq : Q t) (g : GSlot)
    (hg : Slot up Q g) : Slot up Q { g with it := (t.nextIter up g.it).2.1 } := by
  obtain ⟨it, σ, rk⟩ := g
  obtain ⟨given, head, used, fb⟩ := it
  obtain ⟨tP, hP, hu, hg⟩ := hg
  simp only at hu hg
  refine ⟨tP, hP, ?_⟩
  cases head with
  | cons x r =>
    simp only [TA.nextIter]
    refine ⟨hu, ?_⟩
    rcases hg with ⟨h1, h2, h3⟩ | ⟨sc, tL, _, h2, _⟩
    · exact Or.inl ⟨h1, h2, by rw [List.append_assoc]; exact h3⟩
    · cases h2
  | nil =>
    rw [nextIter_fb t up _ rfl]
    rcases hg with ⟨h1, h2, h3⟩ | ⟨sc, tL, h1, _, h3, h4⟩
    · -- the fallback policy's Pick happens now, in state t
      subst h1
      rw [List.append_nil] at h3
      subst h3
      exact ⟨hu, Or.inr ⟨_, t, rfl, rfl, hq, by simp only [Option.getD_none, take_one_append_tail]; rw [h2]; rfl⟩⟩
    · subst h1
      exact ⟨hu, Or.inr ⟨_, tL, rfl, rfl, h3, by simp only [Option.getD_some, take_one_append_tail]; exact h4⟩⟩

/-- with the lists fixed (every state of the run is `t0` up to the counter) this is `IterOk` -/
theorem slot_iterOk (up : Nat → Bool) (t0 : TA) (g : GSlot) (hg : Slot up (fun t => ∃ c, t = t0.withCtr c) g) :
    IterOk up t0 g := by
  obtain ⟨_, ⟨c', rfl⟩, hu, hg⟩ := hg
  rcases hg with ⟨h1, h2, h3⟩ | ⟨sc, _, h1, h2, ⟨c, rfl⟩, h4⟩
  · refine Or.inr ⟨h1, ?_⟩
    cases hrk : g.rk with
    | none => rw [hrk] at h2; cases h2
    | some kt =>
      obtain ⟨ks, tok⟩ := kt
      rw [hrk] at h2 hu
      simp only [repsOf, TA.headOf, withCtr_replicasFor] at h2 hu
      cases hr : t0.replicasFor ks tok with
      | noRing => rw [hr] at h2; cases h2
      | emptyRing => rw [hr] at h2; cases h2
      | hosts l ft =>
        rw [hr] at hu
        exact ⟨ks, tok, l, ft, rfl, hr, hu, h3⟩
  · have e : (⟨g.it.given ++ sc.offered, sc.crashed⟩ : Scan) = (t0.withCtr c).pickScan up g.σ g.rk := by
      rw [h4, pickScan_viaHead, hu, headOf_withCtr, headOf_withCtr]
      rfl
    exact Or.inl ⟨c, sc, h1, h2, (Scan.mk.inj e).1, Scan.mk.inj e |>.2⟩

theorem openIter_eq (t : TA) (up : Nat → Bool) (σ : List Host → List Host) (rk : Option (Nat × Nat)) :
    (t.openIter up σ rk).1 = t ∨ (t.openIter up σ rk).1 = { t with pol := t.pol.bump } := by
  -- arms: no routing key | no ring | empty ring (the fallback policy's `Pick` happens at once) | a replica list (not yet)
  fun_cases TA.openIter t up σ rk
  · exact Or.inr rfl
  · exact Or.inr rfl
  · exact Or.inr rfl
  · exact Or.inl rfl

theorem nextIter_eq (t : TA) (up : Nat → Bool) (it : Iter) :
    (t.nextIter up it).1 = t ∨ (t.nextIter up it).1 = { t with pol := t.pol.bump } := by
  cases h : it.head with
  | cons x r => exact Or.inl (by simp only [TA.nextIter, h])
  | nil =>
    rw [nextIter_fb t up it h]
    cases it.fb
    · exact Or.inr rfl
    · exact Or.inl rfl

theorem istep_eq (up : Nat → Bool) (st : TA × (Nat → Option GSlot)) (o : IOp) :
    (istep up st o).1 = st.1 ∨ (istep up st o).1 = { st.1 with pol := st.1.pol.bump } := by
  cases o with
  | openI k σ rk => exact openIter_eq st.1 up σ rk
  | nextI k =>
    simp only [istep]
    cases st.2 k with
    | none => exact Or.inl rfl
    | some g => exact nextIter_eq st.1 up g.it
  | pick σ rk limit => exact pick_eq st.1 up σ rk limit

/-- what one call returns, read off the iterator afterwards -/
theorem nextIter_result (t : TA) (up : Nat → Bool) (it : Iter) :
    (∀ x, (t.nextIter up it).2.2 = .host x → (t.nextIter up it).2.1.given = it.given ++ [x]) ∧
    ((t.nextIter up it).2.2 = .done →
      (t.nextIter up it).2.1.given = it.given ∧ (t.nextIter up it).2.1.head = [] ∧
        ∃ sc, (t.nextIter up it).2.1.fb = some sc ∧ sc.offered = [] ∧ sc.crashed = false) := by
  cases h : it.head with
  | cons y r =>
    simp only [TA.nextIter, h]
    exact ⟨fun x hx => (by cases hx; rfl), fun hd => nomatch hd⟩
  | nil =>
    rw [nextIter_fb t up it h]
    generalize it.fb.getD _ = sc
    obtain ⟨off, cr⟩ := sc
    cases off with
    | cons y r => exact ⟨fun x hx => (by cases hx; rfl), fun hd => nomatch hd⟩
    | nil =>
      cases cr with
      | true => exact ⟨fun x hx => (nomatch hx), fun hd => nomatch hd⟩
      | false => exact ⟨fun x hx => (nomatch hx), fun _ => ⟨List.append_nil _, h, _, rfl, rfl, rfl⟩⟩

theorem slot_run (up : Nat → Bool) (Q : TA → Prop) (hQ : ∀ st o, Q st.1 → Q (istep up st o).1) (ops : List IOp)
    (st : TA × (Nat → Option GSlot)) (h1 : Q st.1) (h2 : ∀ k g, st.2 k = some g → Slot up Q g) :
    Q (ops.foldl (istep up) st).1 ∧ ∀ k g, (ops.foldl (istep up) st).2 k = some g → Slot up Q g :=
  foldl_inv (fun st => Q st.1 ∧ ∀ k g, st.2 k = some g → Slot up Q g) (istep up)
    (fun st o h => ⟨hQ st o h.1, istep_slots up _ st o (fun σ rk => open_slot up Q st.1 h.1 σ rk)
      (fun g hg => next_slot up Q st.1 h.1 g hg) h.2⟩) ops st ⟨h1, h2⟩

end C11
