import Model.Ring
import Proofs.C16Ring
/-! the diff part of refreshRing (repaired: removals first, then additions) — the id sets and the stored objects -/
namespace C16
open Ring

theorem addIfMissing_existed (r : Ring.Ring) (h : RHost) :
    (r.addIfMissing h).2.2 = true ↔ h.id ∈ keys r.byId := by
  fun_cases Ring.addIfMissing r h with
  | case1 e he => simp [lookup_mem_keys _ _ _ he]                 -- stored
  | case2 hn => simp [(lookup_eq_none _ _).mp hn]                -- new

def acceptedIds (filter : RHost → Bool) (reported : List RHost) : List Nat :=
  (reported.filter (fun h => !filter h)).map (·.id)

theorem keys_reportedMap (filter : RHost → Bool) (reported : List RHost) :
    keys (reportedMap filter reported) = acceptedIds filter reported := by
  simp [keys, reportedMap, acceptedIds, List.map_map, Function.comp_def]

theorem mem_acceptedIds (filter : RHost → Bool) (reported : List RHost) (id : Nat) :
    id ∈ acceptedIds filter reported ↔ ∃ h ∈ reported, filter h = false ∧ h.id = id := by
  simp only [acceptedIds, List.mem_map, List.mem_filter, Bool.not_eq_eq_eq_not, Bool.not_true, and_assoc]

theorem lookup_map_id (l : List RHost) (id : Nat) :
    lookup (l.map (fun x => (x.id, x))) id = l.find? (fun h => h.id == id) := by
  unfold lookup
  rw [List.find?_map, Option.map_map]
  exact Option.map_id'

/-! ### pass 1: the hosts that are gone are removed -/

theorem lookup_removeAll (prev : List (Nat × RHost)) : ∀ (r : Ring.Ring) (id : Nat),
    lookup (removeAll r prev).byId id = if id ∈ prev.map (·.2.id) then none else lookup r.byId id := by
  induction prev with
  | nil => intro r id; rfl
  | cons p t ih =>
    intro r id
    show lookup (removeAll (r.remove p.2.id).1 t).byId id = _
    rw [ih, lookup_remove, List.map_cons]
    by_cases h2 : id ∈ t.map (·.2.id)
    · rw [if_pos h2, if_pos (List.mem_cons_of_mem _ h2)]
    · rw [if_neg h2]
      by_cases h1 : id = p.2.id
      · rw [if_pos h1, if_pos (h1 ▸ List.mem_cons_self)]
      · rw [if_neg h1, if_neg fun h => (List.mem_cons.mp h).elim h1 h2]

/-- the hosts removed by pass 1 -/
def goneOf (r : Ring.Ring) (filter : RHost → Bool) (reported : List RHost) : List (Nat × RHost) :=
  r.byId.filter (fun e => !stays (reportedMap filter reported) e)

theorem stays_iff (rep : List (Nat × RHost)) (e : Nat × RHost) :
    stays rep e = true ↔ ∃ h, lookup rep e.1 = some h ∧ h.caddr = e.2.caddr ∧ h.addr = e.2.addr := by
  unfold stays
  cases lookup rep e.1 with
  | none => exact ⟨fun h => (nomatch h), fun ⟨_, h, _⟩ => (nomatch h)⟩
  | some x => simp only [Bool.and_eq_true, beq_iff_eq, Option.some.injEq, exists_eq_left']

theorem removeAll_preserves (P : Ring.Ring → Prop) (hrm : ∀ r k, P r → P (r.remove k).1)
    (prev : List (Nat × RHost)) : ∀ r, P r → P (removeAll r prev) := by
  induction prev with
  | nil => intro r hp; exact hp
  | cons p t ih => intro r hp; exact ih _ (hrm r p.2.id hp)

/-- the object of `id` after pass 1 -/
def kept (r : Ring.Ring) (filter : RHost → Bool) (reported : List RHost) (id : Nat) : Option RHost :=
  if id ∈ (goneOf r filter reported).map (·.2.id) then none else lookup r.byId id

theorem lookup_pass1 (r : Ring.Ring) (filter : RHost → Bool) (reported : List RHost) (id : Nat) :
    lookup (removeAll r (goneOf r filter reported)).byId id = kept r filter reported id :=
  lookup_removeAll _ r id

theorem kept_stays (r : Ring.Ring) (hw : WF r.byId) (filter : RHost → Bool) (reported : List RHost) (id : Nat) (s : RHost)
    (h : kept r filter reported id = some s) :
    lookup r.byId id = some s ∧ ∃ x, lookup (reportedMap filter reported) id = some x ∧ x.caddr = s.caddr ∧ x.addr = s.addr := by
  unfold kept at h
  split at h
  · cases h
  · next hg =>
    refine ⟨h, (stays_iff _ (id, s)).mp ?_⟩
    have hm := find_key_mem h
    cases hs : stays (reportedMap filter reported) (id, s) with
    | true => rfl
    | false => exact absurd (List.mem_map.mpr ⟨(id, s), List.mem_filter.mpr ⟨hm, by simp [hs]⟩, hw _ hm⟩) hg

theorem pass1_matched (r : Ring.Ring) (hw : WF r.byId) (hn : (keys r.byId).Nodup) (filter : RHost → Bool)
    (reported : List RHost) (e : Nat × RHost) (he : e ∈ (removeAll r (goneOf r filter reported)).byId) :
    ∃ y ∈ reported.filter (fun h => !filter h), y.id = e.1 ∧ y.caddr = e.2.caddr ∧ y.addr = e.2.addr := by
  have hl : lookup _ e.1 = some e.2 :=
    find_key_of_mem (removeAll_preserves (fun r => (keys r.byId).Nodup) (fun r k h => knodup_remove r h k) _ r hn) he
  rw [lookup_pass1] at hl
  obtain ⟨x, hl, hc, had⟩ := (kept_stays r hw filter reported e.1 e.2 hl).2
  -- an entry of the `reported` map is an accepted reported host, under its own id
  obtain ⟨y, hy, hyx⟩ := List.mem_map.mp (find_key_mem hl)
  obtain ⟨h1, h2⟩ := Prod.mk.inj hyx
  subst h2
  exact ⟨y, hy, h1, hc, had⟩

/-! ### pass 2: the accepted hosts that are missing are added -/

theorem addStep_ring (st : Ring.Ring × List RHost) (h : RHost) : (addStep st h).1 = (st.1.addIfMissing h).1 := by
  unfold addStep
  cases hl : lookup st.1.byId h.id with
  | none => rw [addIfMissing_of_none _ h hl]
  | some e => rw [addIfMissing_of_some _ h e hl]

theorem foldl_addStep_ring (l : List RHost) : ∀ (st : Ring.Ring × List RHost),
    (l.foldl addStep st).1 = l.foldl (fun r h => (r.addIfMissing h).1) st.1 :=
  fun _ => (List.foldl_hom (·.1) fun st h => (addStep_ring st h).symm).symm

theorem lookup_addIfMissing (r : Ring.Ring) (h : RHost) (k : Nat) :
    lookup (r.addIfMissing h).1.byId k =
      match lookup r.byId k with
      | some s => some s
      | none => if h.id = k then some h else none := by
  cases hl : lookup r.byId h.id with
  | some e =>
    rw [addIfMissing_of_some r h e hl]
    cases hk : lookup r.byId k with
    | some s => rfl
    | none => exact (if_neg fun e' => by rw [e', hk] at hl; cases hl).symm
  | none =>
    rw [addIfMissing_of_none r h hl]
    by_cases hk : h.id = k
    · subst hk; rw [lookup_put_self, hl, if_pos rfl]
    · rw [lookup_put_ne _ _ _ _ (Ne.symm hk), if_neg hk]
      cases lookup r.byId k <;> rfl

theorem addIfMissing_stored (r : Ring.Ring) (h : RHost) (hw : WF r.byId) :
    lookup (r.addIfMissing h).1.byId (r.addIfMissing h).2.1.id = some (r.addIfMissing h).2.1 := by
  cases hl : lookup r.byId h.id with
  | some e =>
    rw [addIfMissing_of_some r h e hl]
    show lookup r.byId e.id = some e
    rw [hw _ (find_key_mem hl)]; exact hl
  | none => rw [addIfMissing_of_none r h hl]; exact lookup_put_self _ _ _

theorem lookup_addAll (l : List RHost) : ∀ (r : Ring.Ring) (id : Nat),
    lookup (l.foldl (fun r h => (r.addIfMissing h).1) r).byId id =
      match lookup r.byId id with
      | some s => some s
      | none => lookup (l.map (fun h => (h.id, h))) id := by
  induction l with
  | nil => intro r id; show lookup r.byId id = _; cases lookup r.byId id <;> rfl
  | cons h t ih =>
    intro r id
    rw [List.foldl_cons, List.map_cons, ih, lookup_addIfMissing, lookup_cons]
    cases lookup r.byId id with
    | some s => rfl
    | none =>
      dsimp only
      by_cases hk : h.id = id
      · rw [if_pos hk, if_pos hk]
      · rw [if_neg hk, if_neg hk]

theorem refresh_ring (r : Ring.Ring) (filter : RHost → Bool) (reported : List RHost) :
    (r.refresh filter reported).1 =
      (reported.filter (fun h => !filter h)).foldl (fun r h => (r.addIfMissing h).1) (removeAll r (goneOf r filter reported)) := by
  unfold Ring.refresh goneOf
  dsimp only
  rw [foldl_addStep_ring]

/-- `lookup` finds the FIRST accepted row of an id: host ids may be reported twice, the diff loop adds the first and
finds the id present at the second -/
theorem lookup_refresh (r : Ring.Ring) (filter : RHost → Bool) (reported : List RHost) (id : Nat) :
    lookup (r.refresh filter reported).1.byId id =
      match kept r filter reported id with
      | some s => some s
      | none => lookup (reportedMap filter reported) id := by
  rw [refresh_ring, lookup_addAll, lookup_pass1]
  rfl

theorem kept_none_of_new (r : Ring.Ring) (hw : WF r.byId) (filter : RHost → Bool) (reported : List RHost) (s : RHost)
    (hs : lookup (r.refresh filter reported).1.byId s.id = some s) (hnew : lookup r.byId s.id ≠ some s) :
    kept r filter reported s.id = none := by
  rw [lookup_refresh] at hs
  cases hk : kept r filter reported s.id with
  | none => rfl
  | some x => rw [hk] at hs; cases hs; exact absurd (kept_stays r hw filter reported s.id s hk).1 hnew

theorem refresh_preserves (P : Ring.Ring → Prop) (hadd : ∀ r h, P r → P (r.addIfMissing h).1)
    (hrm : ∀ r k, P r → P (r.remove k).1) (r : Ring.Ring) (hp : P r) (filter : RHost → Bool) (reported : List RHost) :
    P (r.refresh filter reported).1 := by
  rw [refresh_ring]
  exact foldl_inv P _ hadd _ _ (removeAll_preserves P hrm _ r hp)

end C16
