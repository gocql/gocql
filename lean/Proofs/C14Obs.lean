import Proofs.C14Step
import Proofs.Common
/-!
# C14, session tier: what acceptance by the observable-level specification `Obs` means for a trace.
Pure reasoning about `Obs`; the connection-level machine does not occur here.
-/
namespace C14Obs
open PConn Obs

variable {κ : Type} [DecidableEq κ]

/-- trace bookkeeping: which flights have left the cache so far (`rem`), and, per call, which had left it
    when the call started or sent its last frame (`ban`) -/
structure Scan where
  rem : Nat → Bool
  ban : Nat → Nat → Bool

def scanStep (sc : Scan) : Ev κ → Scan
  | .rm _ f => { sc with rem := fun g => if g = f then true else sc.rem g }
  | .start c _ _ => { sc with ban := fun c' => if c' = c then sc.rem else sc.ban c' }
  | .exec c _ _ => { sc with ban := fun c' => if c' = c then sc.rem else sc.ban c' }
  | _ => sc

def scan (tr : List (Ev κ)) : Scan := tr.foldl scanStep ⟨fun _ => false, fun _ _ => false⟩

/-- flight f had already left the cache when call c started / sent its previous frame -/
def removedBefore (tr : List (Ev κ)) (c f : Nat) : Bool := (scan tr).ban c f

omit [DecidableEq κ] in
theorem scan_append (tr evs : List (Ev κ)) : scan (tr ++ evs) = evs.foldl scanStep (scan tr) := by
  unfold scan; rw [List.foldl_append]

omit [DecidableEq κ] in
theorem scan_snoc (tr : List (Ev κ)) (e : Ev κ) : scan (tr ++ [e]) = scanStep (scan tr) e := scan_append tr [e]

/-- What the specification state `o` remembers of the trace `tr` that led to it: the removed flags and ban lists are
    those `scan tr` computes; every answer, removal, call, cancellation and awaited frame recorded in `o` is an event of
    `tr`; `credit` is `1 + #rm − #prep` per key. -/
structure Hist (tr : List (Ev κ)) (o : OState κ) : Prop where
  rem    : ∀ f, removedNow o f = (scan tr).rem f
  ban    : ∀ (c : Nat) (ocl : OCaller κ), o.callers[c]? = some ocl → ocl.banned = (scan tr).ban c
  prep   : ∀ (f : Nat) (fl : OFlight κ) (r : PAns), o.flights f = some fl → fl.ans = some r → Ev.prep f fl.key r ∈ tr
  rm     : ∀ (f : Nat) (fl : OFlight κ), o.flights f = some fl → fl.removed = true → Ev.rm fl.key f ∈ tr
  start  : ∀ (c : Nat) (ocl : OCaller κ), o.callers[c]? = some ocl → ∃ b, Ev.start c b ocl.entries ∈ tr
  credit : ∀ k, prepCount k tr + o.credit k = rmCount k tr + 1
  canc   : ∀ c, o.cancelled c = true → Ev.cancel c ∈ tr
  await  : ∀ (c : Nat) (ocl : OCaller κ) (a : XAns), o.callers[c]? = some ocl → ocl.pc = .awaiting a → ∃ ids, Ev.exec c ids a ∈ tr

theorem hist_init (b : Bool) : Hist ([] : List (Ev κ)) (Obs.initB b : OState κ) := by
  refine ⟨fun f => rfl, ?_, ?_, ?_, ?_, fun k => rfl, ?_, ?_⟩
  · intro c ocl h; simp [Obs.initB] at h
  · intro f fl r h; simp [Obs.initB] at h
  · intro f fl h; simp [Obs.initB] at h
  · intro c ocl h; simp [Obs.initB] at h
  · intro c h; simp [Obs.initB] at h
  · intro c ocl a h; simp [Obs.initB] at h

theorem prepCount_snoc (k : κ) (tr : List (Ev κ)) (e : Ev κ) :
    prepCount k (tr ++ [e]) = prepCount k tr + (match e with | .prep _ k' _ => if k' = k then 1 else 0 | _ => 0) := by
  unfold prepCount
  rw [List.countP_append, List.countP_singleton]
  cases e with
  | prep _ k' _ => simp only [decide_eq_true_eq]
  | _ => rfl

theorem rmCount_snoc (k : κ) (tr : List (Ev κ)) (e : Ev κ) :
    rmCount k (tr ++ [e]) = rmCount k tr + (match e with | .rm k' _ => if k' = k then 1 else 0 | _ => 0) := by
  unfold rmCount
  rw [List.countP_append, List.countP_singleton]
  cases e with
  | rm k' _ => simp only [decide_eq_true_eq]
  | _ => rfl

theorem hist_keep {tr : List (Ev κ)} {o : OState κ} (e : Ev κ) (hH : Hist tr o) {c : Nat} {ocl : OCaller κ}
    (h : o.callers[c]? = some ocl) :
    (∃ b, Ev.start c b ocl.entries ∈ tr ++ [e]) ∧ ∀ a, ocl.pc = .awaiting a → ∃ ids, Ev.exec c ids a ∈ tr ++ [e] := by
  refine ⟨?_, fun a hpa => ?_⟩
  · obtain ⟨b, hb⟩ := hH.start c ocl h
    exact ⟨b, List.mem_append_left _ hb⟩
  · obtain ⟨ids, hi⟩ := hH.await c ocl a h hpa
    exact ⟨ids, List.mem_append_left _ hi⟩

/-- `start`, `exec`, `ret` and `cancel` leave the flights alone: what is to be shown is what `Hist` says of each caller
    and of the cancelled contexts -/
theorem hist_callers {tr : List (Ev κ)} {o : OState κ} (e : Ev κ) (cs : List (OCaller κ)) (cn : Nat → Bool) (hH : Hist tr o)
    (hrem : (scanStep (scan tr) e).rem = (scan tr).rem)
    (hpr : ∀ k, prepCount k [e] = 0 ∧ rmCount k [e] = 0)
    (hcs : ∀ (c : Nat) (ocl : OCaller κ), cs[c]? = some ocl →
      ocl.banned = (scanStep (scan tr) e).ban c ∧ (∃ b, Ev.start c b ocl.entries ∈ tr ++ [e]) ∧
        ∀ a, ocl.pc = .awaiting a → ∃ ids, Ev.exec c ids a ∈ tr ++ [e])
    (hcn : ∀ c, cn c = true → Ev.cancel c ∈ tr ++ [e]) :
    Hist (tr ++ [e]) { o with callers := cs, cancelled := cn } := by
  refine ⟨fun f => ?_, fun c ocl h => ?_, fun f fl r h1 h2 => List.mem_append_left _ (hH.prep f fl r h1 h2),
    fun f fl h1 h2 => List.mem_append_left _ (hH.rm f fl h1 h2), fun c ocl h => (hcs c ocl h).2.1, fun k => ?_,
    hcn, fun c ocl a h hpa => (hcs c ocl h).2.2 a hpa⟩
  · rw [scan_snoc, hrem]; exact hH.rem f
  · rw [scan_snoc]; exact (hcs c ocl h).1
  · show prepCount k (tr ++ [e]) + o.credit k = rmCount k (tr ++ [e]) + 1
    have := hH.credit k
    have := hpr k
    unfold prepCount rmCount at *
    rw [List.countP_append, List.countP_append]; omega

/-- `prep` and `rm` replace the record of one flight and adjust the credit; callers and contexts stay -/
theorem hist_setFlight {tr : List (Ev κ)} {o : OState κ} (e : Ev κ) (f : Nat) (nfl : OFlight κ) (known' : List Nat)
    (credit' : κ → Nat) (hH : Hist tr o)
    (hrem : ∀ g, (scanStep (scan tr) e).rem g = if g = f then nfl.removed else (scan tr).rem g)
    (hban : (scanStep (scan tr) e).ban = (scan tr).ban)
    (hprep : ∀ r, nfl.ans = some r → Ev.prep f nfl.key r ∈ tr ++ [e])
    (hrm : nfl.removed = true → Ev.rm nfl.key f ∈ tr ++ [e])
    (hcredit : ∀ k, prepCount k (tr ++ [e]) + credit' k = rmCount k (tr ++ [e]) + 1) :
    Hist (tr ++ [e]) { o with flights := fun g => if g = f then some nfl else o.flights g, known := known', credit := credit' } := by
  refine ⟨fun g => ?_, fun c ocl hx => ?_, fun g fl r (h1 : (if g = f then some nfl else o.flights g) = some fl) h2 => ?_,
    fun g fl (h1 : (if g = f then some nfl else o.flights g) = some fl) h2 => ?_, fun c ocl hx => ?_, hcredit,
    fun c h => List.mem_append_left _ (hH.canc c h), fun c ocl a h1 h2 => ?_⟩
  · rw [scan_snoc, hrem g, ← hH.rem g]
    unfold removedNow
    by_cases hg : g = f
    · simp only [hg, if_true]
    · simp only [hg, if_false]
  · rw [scan_snoc, hban]; exact hH.ban c ocl hx
  · by_cases hg : g = f
    · rw [if_pos hg] at h1; injection h1 with h1; subst h1; exact hg ▸ hprep r h2
    · rw [if_neg hg] at h1; exact List.mem_append_left _ (hH.prep g fl r h1 h2)
  · by_cases hg : g = f
    · rw [if_pos hg] at h1; injection h1 with h1; subst h1; exact hg ▸ hrm h2
    · rw [if_neg hg] at h1; exact List.mem_append_left _ (hH.rm g fl h1 h2)
  · obtain ⟨b, hb⟩ := hH.start c ocl hx
    exact ⟨b, List.mem_append_left _ hb⟩
  · obtain ⟨ids, hi⟩ := hH.await c ocl a h1 h2
    exact ⟨ids, List.mem_append_left _ hi⟩

theorem hist_step {tr : List (Ev κ)} {o o' : OState κ} {e : Ev κ} (hH : Hist tr o) (h : Obs.step o e = some o') :
    Hist (tr ++ [e]) o' := by
  match Obs.Step_of_step h with
  | .start (c := c) (b := b) (es := es) hc1 _ =>
    refine hist_callers _ _ _ hH rfl (fun _ => ⟨rfl, rfl⟩) (fun c' ocl hx => ?_)
      fun c h => List.mem_append_left _ (hH.canc c h)
    rcases getElem?_snoc_cases hx with ⟨hlt, hx⟩ | ⟨hi, rfl⟩
    · exact ⟨(hH.ban c' ocl hx).trans (if_neg (by omega)).symm, hist_keep _ hH hx⟩
    · refine ⟨?_, ⟨b, (hi.trans hc1.symm) ▸ List.mem_concat_self⟩, fun a hpa => nomatch hpa⟩
      simp only [scanStep]
      rw [if_pos (hi.trans hc1.symm)]
      funext f; exact hH.rem f
  | .prep (f := f) (k := k) (r := r) hcr _ x hx =>
    -- a `prep` event leaves the scan as it is; the flight's `removed` flag is the one recorded for f
    have hxr : x.removed = removedNow o f := by
      rcases hx with ⟨hf, rfl⟩ | ⟨fl, hf, _, rfl⟩ <;> simp [removedNow, hf]
    refine hist_setFlight _ f x _ _ hH (fun g => ?_) rfl (fun r' hr => ?_) (fun hr => ?_) (fun k' => ?_)
    · by_cases hg : g = f
      · rw [if_pos hg, hg, hxr, hH.rem f]; rfl
      · rw [if_neg hg]; rfl
    · rcases hx with ⟨_, rfl⟩ | ⟨fl, _, hk, rfl⟩ <;> (injection hr with hr; subst hr)
      · exact List.mem_concat_self
      · exact hk.1 ▸ List.mem_concat_self
    · rcases hx with ⟨_, rfl⟩ | ⟨fl, hf, _, rfl⟩
      · cases hr
      · exact List.mem_append_left _ (hH.rm f fl hf hr)
    · rw [prepCount_snoc, rmCount_snoc]
      have := hH.credit k'
      by_cases hk : k' = k
      · subst hk; simp only [if_true]; omega
      · have : ¬ k = k' := fun e => hk e.symm
        simp only [hk, this, if_false]; exact hH.credit k'
  | .rm (k := k) (f := f) _ x hx =>
    have hxr : x.removed = true := by rcases hx with ⟨_, rfl⟩ | ⟨fl, _, _, rfl⟩ <;> rfl
    refine hist_setFlight _ f x _ _ hH (fun g => by rw [hxr]; rfl) rfl (fun r hr => ?_) (fun _ => ?_) (fun k' => ?_)
    · rcases hx with ⟨_, rfl⟩ | ⟨fl, hf, _, rfl⟩
      · cases hr
      · exact List.mem_append_left _ (hH.prep f fl r hf hr)
    · rcases hx with ⟨_, rfl⟩ | ⟨fl, _, hk, rfl⟩
      · exact List.mem_concat_self
      · exact hk.1 ▸ List.mem_concat_self
    · rw [prepCount_snoc, rmCount_snoc]
      have := hH.credit k'
      by_cases hk : k' = k
      · subst hk; simp only [if_true]; omega
      · have : ¬ k = k' := fun e => hk e.symm
        simp only [hk, this, if_false]; exact hH.credit k'
  | .exec (c := c) (ids := ids) (a := a) (cl := cl) (pc := pc) hc _ hpc =>
    refine hist_callers _ _ _ hH rfl (fun _ => ⟨rfl, rfl⟩) (fun c' ocl hx => ?_)
      fun c h => List.mem_append_left _ (hH.canc c h)
    rcases getElem?_set_cases hx with ⟨rfl, rfl⟩ | ⟨h1, h2⟩
    · refine ⟨?_, (hist_keep _ hH hc).1, fun a' hpa => ⟨ids, ?_⟩⟩
      · simp only [scanStep, if_true]
        funext f; exact hH.rem f
      · rcases hpc with ⟨_, rfl⟩ | ⟨_, rfl⟩ <;> cases hpa
        exact List.mem_concat_self
    · exact ⟨(hH.ban c' ocl h2).trans (if_neg (Ne.symm h1)).symm, hist_keep _ hH h2⟩
  | .ret (c := c) (out := out) (cl := cl) hc _ =>
    refine hist_callers _ _ _ hH rfl (fun _ => ⟨rfl, rfl⟩) (fun c' ocl hx => ?_)
      fun c h => List.mem_append_left _ (hH.canc c h)
    rcases getElem?_set_cases hx with ⟨rfl, rfl⟩ | ⟨_, h2⟩
    · exact ⟨hH.ban c cl hc, (hist_keep _ hH hc).1, fun a hpa => by cases out <;> cases hpa⟩
    · exact ⟨hH.ban c' ocl h2, hist_keep _ hH h2⟩
  | .cancel (c := c) _ =>
    refine hist_callers _ _ _ hH rfl (fun _ => ⟨rfl, rfl⟩)
      (fun c' ocl hx => ⟨hH.ban c' ocl hx, hist_keep _ hH hx⟩) fun c' hc' => ?_
    simp only [Bool.or_eq_true, decide_eq_true_eq] at hc'
    rcases hc' with rfl | hc'
    · exact List.mem_concat_self
    · exact List.mem_append_left _ (hH.canc c' hc')

theorem obs_isRun : IsRun (Obs.step (κ := κ)) Obs.run :=
  ⟨fun _ => rfl, fun o e es => by rw [Obs.run]; cases Obs.step o e <;> rfl⟩

theorem hist_run : ∀ (evs : List (Ev κ)) (tr : List (Ev κ)) (o o' : OState κ), Hist tr o → Obs.run o evs = some o' →
    Hist (tr ++ evs) o'
  | [], tr, o, o', hH, h => by
    simp only [Obs.run] at h; injection h with h; subst h; simpa using hH
  | e :: evs, tr, o, o', hH, h => by
    obtain ⟨o1, hs, h⟩ := obs_isRun.cons_iff.mp h
    simpa using hist_run evs (tr ++ [e]) o1 o' (hist_step hH hs) h

theorem run_split {o o' : OState κ} {pre post : List (Ev κ)} {e : Ev κ} (h : Obs.run o (pre ++ e :: post) = some o') :
    ∃ o1 o2, Obs.run o pre = some o1 ∧ Obs.step o1 e = some o2 ∧ Obs.run o2 post = some o' := by
  obtain ⟨o1, h1, h⟩ := obs_isRun.append_iff.mp h
  obtain ⟨o2, h2, h3⟩ := obs_isRun.cons_iff.mp h
  exact ⟨o1, o2, h1, h2, h3⟩

theorem hist_of_run {b : Bool} {tr : List (Ev κ)} {o : OState κ} (h : Obs.run (Obs.initB b) tr = some o) : Hist tr o := by
  simpa using hist_run tr [] (Obs.initB b) o (hist_init b) h

theorem accepted_before {b : Bool} {pre post : List (Ev κ)} {e : Ev κ} {o : OState κ}
    (h : Obs.run (Obs.initB b) (pre ++ e :: post) = some o) :
    ∃ o1 o2, Obs.run (Obs.initB b) pre = some o1 ∧ Hist pre o1 ∧ Obs.step o1 e = some o2 := by
  obtain ⟨o1, o2, h1, h2, _⟩ := run_split h
  exact ⟨o1, o2, h1, hist_of_run h1, h2⟩

theorem justifies_iff {o : OState κ} {b : Nat → Bool} {k : κ} {n : Nat} {id : Id} {f : Nat} :
    justifies o b k n id f = true ↔
      b f = false ∧ ∃ fl, o.flights f = some fl ∧ fl.key = k ∧ fl.ans = some (some (id, n)) := by
  unfold justifies
  cases o.flights f <;> simp

theorem countMismatch_iff {o : OState κ} {cl : OCaller κ} :
    countMismatch o cl = true ↔ ∃ e ∈ cl.entries, ∃ f ∈ o.known, cl.banned f = false ∧
      ∃ fl id nc, o.flights f = some fl ∧ fl.key = e.1 ∧ fl.ans = some (some (id, nc)) ∧ nc ≠ e.2 := by
  unfold countMismatch
  simp only [List.any_eq_true, Bool.and_eq_true, Bool.not_eq_true']
  refine exists_congr fun e => and_congr_right fun _ => exists_congr fun f => and_congr_right fun _ => and_congr_right fun _ => ?_
  cases o.flights f with
  | none => simp only [Bool.false_eq_true, reduceCtorEq, false_and, exists_const, exists_false]
  | some fl =>
    rcases hfa : fl.ans with _ | _ | ⟨id, nc⟩ <;>
      simp only [hfa, ne_eq, decide_not, Bool.and_eq_true, Bool.and_false, Bool.false_eq_true, decide_eq_true_eq,
        Bool.not_eq_eq_eq_not, Bool.not_true, decide_eq_false_iff_not, Option.some.injEq, exists_and_left, exists_eq_left',
        reduceCtorEq, Prod.mk.injEq, false_and, exists_const, and_false, and_congr_right_iff]
    exact fun _ => ⟨fun h => ⟨_, _, ⟨rfl, rfl⟩, h⟩, fun ⟨_, _, ⟨_, e⟩, h⟩ => e ▸ h⟩

theorem justified_iff {o : OState κ} {k : κ} {f : Nat} :
    justified o k f = true ↔ ∃ fl, o.flights f = some fl ∧
      (fl.ans = some none ∨ ∃ id n, fl.ans = some (some (id, n)) ∧
        ∃ cl ∈ o.callers, cl.pc = .awaiting (.unprep id) ∧ hasKey cl.entries k = true) := by
  unfold justified
  cases o.flights f with
  | none => simp only [Bool.false_eq_true, reduceCtorEq, false_and, exists_false]
  | some fl =>
    rcases hfa : fl.ans with _ | _ | ⟨id, n⟩ <;>
      simp only [hfa, List.any_eq_true, Bool.and_eq_true, decide_eq_true_eq, Bool.false_eq_true, Option.some.injEq,
        exists_and_right, exists_and_left, exists_eq_left', exists_eq', reduceCtorEq, Prod.mk.injEq, exists_const, false_and,
        and_true, or_self, or_false, false_or]

/-- each id of an accepted frame was returned, with the entry's value count, by a PREPARE of the entry's key, by a flight
    not in `b` -/
theorem okEntries_sound {tr : List (Ev κ)} {o : OState κ} (hH : Hist tr o) (b : Nat → Bool) :
    ∀ (es : List (κ × Nat)) (ids : List Id), okEntries o b es ids = true →
      ids.length = es.length ∧ ∀ (j : Nat) (e : κ × Nat) (id : Id), es[j]? = some e → ids[j]? = some id →
        ∃ f, Ev.prep f e.1 (some (id, e.2)) ∈ tr ∧ b f = false
  | [], [], _ => ⟨rfl, fun j e id h => by simp at h⟩
  | [], _ :: _, h => by simp [okEntries] at h
  | _ :: _, [], h => by simp [okEntries] at h
  | e0 :: es, id0 :: ids, h => by
    simp only [okEntries, Bool.and_eq_true] at h
    obtain ⟨h1, h2⟩ := h
    obtain ⟨hl, hrec⟩ := okEntries_sound hH b es ids h2
    refine ⟨by simp [hl], ?_⟩
    intro j e id he hid
    cases j with
    | zero =>
      simp at he hid; subst he; subst hid
      obtain ⟨f, _, hj⟩ := List.any_eq_true.1 h1
      obtain ⟨hb, fl, hf, hk, ha⟩ := justifies_iff.1 hj
      exact ⟨f, hk ▸ hH.prep f fl _ hf ha, hb⟩
    | succ j =>
      simp at he hid
      exact hrec j e id he hid

omit [DecidableEq κ] in
theorem scanStep_rem (sc : Scan) (e : Ev κ) (f : Nat) (h1 : sc.rem f = true) : (scanStep sc e).rem f = true := by
  cases e with
  | rm k g =>
    simp only [scanStep]
    by_cases hg : f = g <;> simp [hg, h1]
  | _ => exact h1

omit [DecidableEq κ] in
theorem scanStep_keeps (sc : Scan) (e : Ev κ) (c f : Nat) (h1 : sc.rem f = true) (h2 : sc.ban c f = true) :
    (scanStep sc e).rem f = true ∧ (scanStep sc e).ban c f = true := by
  refine ⟨scanStep_rem sc e f h1, ?_⟩
  cases e with
  | start c' b es =>
    simp only [scanStep]
    by_cases hc : c = c' <;> simp [hc, h1, h2]
  | exec c' ids a =>
    simp only [scanStep]
    by_cases hc : c = c' <;> simp [hc, h1, h2]
  | _ => exact h2

omit [DecidableEq κ] in
theorem scan_rem_of_mem (f : Nat) (k : κ) (tr : List (Ev κ)) (h : Ev.rm k f ∈ tr) : (scan tr).rem f = true := by
  obtain ⟨p, q, rfl⟩ := List.append_of_mem h
  rw [show p ++ Ev.rm k f :: q = (p ++ [Ev.rm k f]) ++ q by simp, scan_append]
  refine foldl_inv (fun sc => sc.rem f = true) scanStep (fun sc e h => scanStep_rem sc e f h) q _ ?_
  rw [scan_snoc]; simp [scanStep]

omit [DecidableEq κ] in
theorem removedBefore_of_rm_before_start (p1 p2 : List (Ev κ)) (c f : Nat) (k : κ) (b : Bool) (es : List (κ × Nat))
    (h : Ev.rm k f ∈ p1) : removedBefore (p1 ++ Ev.start c b es :: p2) c f = true := by
  unfold removedBefore
  have h1 := scan_rem_of_mem f k p1 h
  have : p1 ++ Ev.start c b es :: p2 = (p1 ++ [Ev.start c b es]) ++ p2 := by simp
  rw [this, scan_append]
  refine (foldl_inv (fun sc => sc.rem f = true ∧ sc.ban c f = true) scanStep (fun sc e h => scanStep_keeps sc e c f h.1 h.2)
    p2 _ ⟨?_, ?_⟩).2
  · rw [scan_snoc]; exact scanStep_rem _ _ _ h1
  · rw [scan_snoc]; simp [scanStep, h1]

theorem obs_step_strict {o o' : OState κ} {e : Ev κ} (h : Obs.step o e = some o') : o'.strict = o.strict := by
  cases Obs.Step_of_step h <;> rfl

theorem obs_run_strict (evs : List (Ev κ)) (o o' : OState κ) (h : Obs.run o evs = some o') : o'.strict = o.strict :=
  obs_isRun.inv (P := fun x => x.strict = o.strict) (fun _ _ _ hp hs => (obs_step_strict hs).trans hp) rfl h

theorem live_running {pc : OPC} (h : pc.live = true) : pc.running = true := by
  cases pc with
  | active => rfl
  | awaiting a => rfl
  | returned => simp [OPC.live] at h
  | abandoned l => simp [OPC.live] at h

/-- what is still to come of a call: frames and a return (2); the one frame it had written when it gave up on its
    context (1); nothing (0) -/
def rank : OPC → Nat
  | .active | .awaiting _ => 2
  | .abandoned true => 1
  | _ => 0

theorem rank_of_running {pc : OPC} (h : pc.running = true) : rank pc = 2 := by
  cases pc <;> first | rfl | cases h

theorem rank_abandoned_le (l : Bool) : rank (.abandoned l) ≤ 1 := by cases l <;> decide

/-- The rank of a call only falls. A return needs rank 2 and leaves at most 1 (0 unless it is the context error); a
    frame needs rank at least 1 and, at rank 1, leaves 0. -/
theorem step_rank {o o1 : OState κ} {x : Ev κ} {c : Nat} {cl : OCaller κ} (hs : Obs.step o x = some o1)
    (hc : o.callers[c]? = some cl) :
    ∃ cl1, o1.callers[c]? = some cl1 ∧ rank cl1.pc ≤ rank cl.pc ∧
      (∀ out, x = Ev.ret c out → rank cl.pc = 2 ∧ rank cl1.pc ≤ 1 ∧ (out ≠ .ctxErr → rank cl1.pc = 0)) ∧
      (∀ ids a, x = Ev.exec c ids a → 1 ≤ rank cl.pc ∧ (rank cl.pc = 1 → rank cl1.pc = 0)) := by
  have hlt : c < o.callers.length := (List.getElem?_eq_some_iff.1 hc).1
  match Obs.Step_of_step hs with
  | .start .. => exact ⟨cl, (List.getElem?_append_left hlt).trans hc, Nat.le_refl _, nofun, nofun⟩
  | .prep .. | .rm .. | .cancel .. => exact ⟨cl, hc, Nat.le_refl _, nofun, nofun⟩
  | .exec (c := c') hc' _ hpc =>
    by_cases hcc : c' = c
    · subst hcc
      rw [hc] at hc'; cases hc'
      refine ⟨_, List.getElem?_set_self hlt, ?_, nofun, fun _ _ _ => ?_⟩ <;> rcases hpc with ⟨hl, rfl⟩ | ⟨hl, rfl⟩
      · exact Nat.le_of_eq (rank_of_running (live_running hl)).symm
      · rw [hl]; exact Nat.zero_le _
      · rw [rank_of_running (live_running hl)]; exact ⟨by decide, fun h => absurd h (by decide)⟩
      · rw [hl]; exact ⟨Nat.le_refl _, fun _ => rfl⟩
    · exact ⟨cl, (List.getElem?_set_ne hcc).trans hc, Nat.le_refl _, nofun, fun _ _ h => absurd (by cases h; rfl) hcc⟩
  | .ret (c := c') (out := out) hc' hq =>
    by_cases hcc : c' = c
    · subst hcc
      rw [hc] at hc'; cases hc'
      have h2 : rank cl.pc = 2 := by
        cases out <;> simp only [] at hq
        · rw [hq]; rfl
        · rw [hq]; rfl
        · exact rank_of_running (live_running hq.1.1)
        · exact rank_of_running (live_running hq.1)
        · exact rank_of_running hq.2
      refine ⟨_, List.getElem?_set_self hlt, ?_, fun out' h => ?_, nofun⟩
      · rw [h2]; cases out <;> first | exact Nat.zero_le _ | exact Nat.le_succ_of_le (rank_abandoned_le _)
      · cases h
        refine ⟨h2, ?_, fun hne => ?_⟩
        · cases out <;> first | exact Nat.zero_le _ | exact rank_abandoned_le _
        · cases out <;> first | rfl | exact absurd rfl hne
    · exact ⟨cl, (List.getElem?_set_ne hcc).trans hc, Nat.le_refl _, fun _ h => absurd (by cases h; rfl) hcc, nofun⟩

/-- a call that has returned (a result, or its context error: rank at most 1) never returns again, and the server
    receives no further frame of it — except the one frame that a caller which gave up on its context had just written,
    after which its rank is 0 -/
theorem finished_stays (c : Nat) : ∀ (evs : List (Ev κ)) (o o' : OState κ) (cl : OCaller κ),
    Obs.run o evs = some o' → o.callers[c]? = some cl → rank cl.pc ≤ 1 →
    (∀ e ∈ evs, (∀ out, e ≠ Ev.ret c out) ∧ (rank cl.pc = 0 → ∀ ids a, e ≠ Ev.exec c ids a)) ∧
    ∀ (p1 p2 : List (Ev κ)) (ids : List Id) (a : XAns), evs = p1 ++ Ev.exec c ids a :: p2 →
      ∀ e ∈ p2, ∀ ids' a', e ≠ Ev.exec c ids' a'
  | [], _, _, _, _, _, _ => ⟨nofun, fun p1 _ _ _ h => by cases p1 <;> cases h⟩
  | x :: evs, o, o', cl, h, hc, hp => by
    obtain ⟨o1, hs, h⟩ := obs_isRun.cons_iff.mp h
    obtain ⟨cl1, g1, g2, g3, g4⟩ := step_rank hs hc
    obtain ⟨ih1, ih2⟩ := finished_stays c evs o1 o' cl1 h g1 (Nat.le_trans g2 hp)
    refine ⟨fun e he => ?_, fun p1 p2 ids a hsplit => ?_⟩
    · rcases List.mem_cons.1 he with rfl | he
      · exact ⟨fun out hx => absurd ((g3 out hx).1 ▸ hp) (by decide), fun h0 ids a hx => absurd (h0 ▸ (g4 ids a hx).1) (by decide)⟩
      · exact ⟨(ih1 e he).1, fun h0 => (ih1 e he).2 (Nat.le_zero.1 (h0 ▸ g2))⟩
    · cases p1 with
      | nil =>
        cases hsplit
        have h0 : rank cl1.pc = 0 := (g4 ids a rfl).2 (Nat.le_antisymm hp (g4 ids a rfl).1)
        exact fun e he => (ih1 e he).2 h0
      | cons y p1 =>
        cases hsplit
        exact ih2 p1 p2 ids a rfl

theorem after_return {o1 o2 : OState κ} {c : Nat} {out : Outcome} (h2 : Obs.step o1 (Ev.ret c out) = some o2) :
    ∃ cl, o2.callers[c]? = some cl ∧ rank cl.pc ≤ 1 ∧ (out ≠ .ctxErr → rank cl.pc = 0) := by
  match Obs.Step_of_step h2 with
  | .ret hc _ =>
    obtain ⟨cl, g1, _, g3, _⟩ := step_rank h2 hc
    exact ⟨cl, g1, (g3 out rfl).2⟩

end C14Obs
