import Proofs.C13Conc
/-! Cancellation in the interleaving machine (`ExecutorConc.MC`, `stepC`): what a step does (`MoveC`, `stepC_moveC`),
    so that facts about every schedule are case proofs over four moves (`runC_preserves`); a step on a context that
    is done sends nothing; while the caller has no result nothing has completed and nothing is cancelled (`Waiting`);
    the invariants of the plain machine carry over (`runC_lift`); and the statement's consistency level under
    concurrent executions (`MK`, `runK_level`) stays among the levels the policy can set. -/
namespace ExecutorConc
open Executor

theorem step_deaden_sent (pol : Option Policy) (m : M) (a : Act) : (step pol m (deaden a)).sent = m.sent := by
  -- `deaden a` is an `abort` or a `complete`, and their moves are not the one that sends
  have key : ∀ b, (∀ i, b ≠ .launch i ∧ b ≠ .decide i) → (step pol m b).sent = m.sent := by
    intro b hb
    refine step_cases (P := fun m' => m'.sent = m.sent) rfl fun m' mv => ?_
    cases mv with
    | request _ _ _ ha =>
      rcases ha with rfl | rfl
      · exact absurd rfl (hb _).1
      · exact absurd rfl (hb _).2
    | _ => rfl
  exact key _ (by cases a <;> simp [deaden])

/-- what a step of `executeQuery` with its executions does, when it does anything -/
inductive MoveC (pol : Option Policy) (c : MC) : MC → Prop
  | callerCancel : MoveC pol c { c with callerDone := true, execDone := true, result := c.result <|> some (.res .logical) }
  | execCancel : c.result.isSome = true → MoveC pol c { c with execDone := true }
  /-- a step of an execution whose context is done -/
  | dead (a : Act) : c.attDone = true → MoveC pol c { c with m := step pol c.m (deaden a) }
  /-- a step of an execution on a live context: the first value returned is the caller's -/
  | live (a : Act) : c.attDone = false → (∀ i, a ≠ .abort i) →
      MoveC pol c { c with m := step pol c.m a, result := if c.execDone then c.result else (c.result <|> returned pol c.m a) }

theorem stepC_moveC (pol : Option Policy) (c : MC) (a : ActC) : stepC pol c a = c ∨ MoveC pol c (stepC pol c a) := by
  -- the cases are the arms of `stepC`, in order
  fun_cases stepC pol c a
  case case1 => exact .inr .callerCancel
  case case2 h => exact .inr (.execCancel h)
  -- `execCancel` before there is a result, an `abort` on a live context: nothing happens
  case case3 | case5 => exact .inl rfl
  case case4 a h => exact .inr (.dead a h)
  case case6 hd a hab => exact .inr (.live a (by simpa using hd) hab)

theorem runC_preserves {pol : Option Policy} {P : MC → Prop} (hP : ∀ c c', MoveC pol c c' → P c → P c') :
    ∀ (sched : List ActC) (c : MC), P c → P (runC pol c sched) :=
  foldl_moves (R := fun c _ c' => MoveC pol c c') (stepC_moveC pol) fun c _ c' => hP c c'

theorem returned_none_done (pol : Option Policy) (m : M) (a : Act) (hab : ∀ i, a ≠ .abort i)
    (h : returned pol m a = none) : wsum wD (step pol m a).exs = wsum wD m.exs := by
  have set_eq : ∀ {i : Nat} {x y : Ex}, m.exs[i]? = some y → wD y = 0 → wD x = 0 →
      wsum wD (m.exs.set i x) = wsum wD m.exs := by
    intro i x y hy hD hx
    have := wsum_set wD m.exs i x y hy
    omega
  refine step_cases (P := fun m' => wsum wD m'.exs = wsum wD m.exs) rfl fun m' mv => ?_
  cases mv with
  | finish _ _ _ hret => exact absurd h (hret hab)
  | request _ hy hl => exact set_eq hy hl.weights.2 rfl
  | count r hy => exact set_eq hy rfl rfl
  | dead => exact absurd rfl (hab _)

/-- as long as the caller has no result: neither context is done and no execution has returned -/
structure Waiting (c : MC) : Prop where
  caller : c.callerDone = false
  exec : c.execDone = false
  none_done : wsum wD c.m.exs = 0

theorem waiting_init (c0 hosts e : Nat) : Waiting (initC c0 hosts e) :=
  ⟨rfl, rfl, by simp [initC, init, wsum_replicate_idle wD rfl]⟩

theorem runC_waiting (pol : Option Policy) :
    ∀ (sched : List ActC) (c : MC), (c.result = none → Waiting c) →
      (runC pol c sched).result = none → Waiting (runC pol c sched) :=
  runC_preserves (P := fun c => c.result = none → Waiting c) fun c _ mv hi h => by
    cases mv with
    | callerCancel => cases hr : c.result <;> simp [hr] at h
    | execCancel hs => exact absurd hs (by simp [show c.result = none from h])
    | dead a hd =>
      -- a context that is done means the caller has a result
      have w := hi h
      simp [MC.attDone, w.caller, w.exec] at hd
    | live a hd hab =>
      have hr : c.result = none := by
        cases hr : c.result with
        | none => rfl
        | some r => simp [hr] at h
      have w := hi hr
      have h' : returned pol c.m a = none := by simpa [w.exec, hr] using h
      exact ⟨w.caller, w.exec, (returned_none_done pol c.m a hab h').trans w.none_done⟩

theorem runC_lift {pol : Option Policy} {P : M → Prop} (hP : ∀ m a m', Move pol m a m' → P m → P m') :
    ∀ (sched : List ActC) (c : MC), P c.m → P (runC pol c sched).m :=
  runC_preserves (P := fun c => P c.m) fun c _ mv h => by
    have st : ∀ a, P (step pol c.m a) := fun a => step_cases h fun _ mv => hP _ _ _ mv h
    cases mv with
    | dead a => exact st _
    | live a => exact st a
    | _ => exact h

theorem runC_acc (pol : Option Policy) (c0 e : Nat) :
    ∀ (sched : List ActC) (c : MC), Acc c0 e c.m → Acc c0 e (runC pol c sched).m :=
  runC_lift fun _ _ _ mv => mv.acc

theorem runK_c (pol : Option Policy) (sched : List ActC) (k : MK) : (runK pol k sched).c = runC pol k.c sched :=
  (List.foldl_hom MK.c fun _ _ => rfl).symm

/-! A set `L` of levels that contains every level the policy's `Attempt` can set: if the statement starts in `L`,
    every request carries a level in `L` and the statement stays in `L`. -/

theorem consAfter_level (pol : Option Policy) (L : Nat → Prop)
    (hL : ∀ p n x, pol = some p → p.newCons n = some x → L x) (k : MK) (a : ActC) (h : L k.cons) :
    L (consAfter pol k a) := by
  fun_cases consAfter pol k a
  -- the policy `p` licenses the retry of the deciding execution: the level it sets, if it sets one
  case case1 i p _ _ _ _ =>
    cases hn : p.newCons k.c.m.cnt with
    | none => exact h
    | some x => exact hL p _ x rfl hn
  all_goals exact h

theorem stepK_level (pol : Option Policy) (L : Nat → Prop)
    (hL : ∀ p n x, pol = some p → p.newCons n = some x → L x) (k : MK) (a : ActC)
    (h : (∀ x ∈ k.reqCons, L x) ∧ L k.cons) :
    (∀ x ∈ (stepK pol k a).reqCons, L x) ∧ L (stepK pol k a).cons := by
  have h1 := consAfter_level pol L hL k a h.2
  refine ⟨fun x hx => ?_, h1⟩
  simp only [stepK] at hx
  split at hx
  · rcases List.mem_cons.mp hx with e | e
    · rw [e]; exact h1
    · exact h.1 x e
  · exact h.1 x hx

theorem runK_level (pol : Option Policy) (L : Nat → Prop)
    (hL : ∀ p n x, pol = some p → p.newCons n = some x → L x) :
    ∀ (sched : List ActC) (k : MK), ((∀ x ∈ k.reqCons, L x) ∧ L k.cons) →
      (∀ x ∈ (runK pol k sched).reqCons, L x) ∧ L (runK pol k sched).cons :=
  foldl_inv _ (stepK pol) (stepK_level pol L hL)

end ExecutorConc
