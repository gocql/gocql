import Model.RoutingCache
import Proofs.Common
/-!
# C09 — the routing-key info cache is transparent on every safe history, and bounded

The history machine: a cache is `Coherent` when every entry is what a computation would leave now (`Fresh`). A use that
misses has one normal form (`routingKeyInfoC_miss`: the oldest entry may go, the statement's entry stands in front exactly
when the outcome is kept); from it one safe step answers what the specification answers, or the no-connection error, and
keeps coherence (`step_safe`), and every step keeps the bound (`step_bounded`).
`namespace Conc`: concurrent first uses of one statement (owner and waiters of the inflight entry) answer what the
specification without a cache answers, by a simulation (`Conc.Rel`: a cached entry is `Fresh`).
-/
namespace RoutingCache
open Routing
variable {τ ν : Type}

/-- what a finished computation leaves in the cache for a statement, given what the server / schema say now -/
def entryOK (stmts : List (Stmt τ)) (p : Nat × Entry τ) : Prop :=
  match stmts[p.1]? with
  | none => False
  | some st =>
    match routingKeyInfo st.md st.schema with
    | .info i => p.2 = .info i
    | .none => p.2 = .nothing
    | _ => False

def Coherent (s : State τ) : Prop := ∀ p ∈ s.lru, entryOK s.stmts p

theorem lookup_some {k : Nat} {l : LRU τ} {e : Entry τ} (h : lookup k l = some e) : (k, e) ∈ l :=
  find_key_mem h

theorem lookup_eq_none {k : Nat} {l : LRU τ} : lookup k l = none ↔ ∀ p ∈ l, p.1 ≠ k := by
  simp only [lookup, Option.map_eq_none_iff, List.find?_eq_none, isKey, beq_iff_eq]

/-- `Add` of a key the cache does not hold: the new entry in front of the old ones, the oldest dropped when they
    would be more than `MaxEntries` -/
theorem add_miss {max k : Nat} {e : Entry τ} {l : LRU τ} (hl : lookup k l = none) :
    ∃ l', add max k e l = (k, e) :: l' ∧ l' ⊆ l ∧ (max ≠ 0 → l.length ≤ max → l'.length < max) := by
  unfold add
  rw [hl]
  simp only
  split
  · rename_i h
    cases l with
    | nil => simp at h
    | cons a t =>
      refine ⟨(a :: t).dropLast, List.dropLast_cons_cons, List.dropLast_subset _, fun hm hle => ?_⟩
      simp only [List.length_dropLast, List.length_cons] at hle ⊢
      omega
  · rename_i h
    refine ⟨l, rfl, List.Subset.refl l, fun hm hle => ?_⟩
    simp [hm] at h
    omega

theorem remove_head (k : Nat) (e : Entry τ) (t : LRU τ) : remove k ((k, e) :: t) = t := by
  unfold remove; rw [List.eraseP_cons_of_pos]; simp [isKey]

theorem setEntry_of_ne {k : Nat} {e : Entry τ} {l : LRU τ} (h : ∀ p ∈ l, p.1 ≠ k) : setEntry k e l = l := by
  unfold setEntry
  rw [List.map_congr_left (g := id), List.map_id]
  intro p hp
  rw [if_neg (by simpa [isKey] using h p hp)]; rfl

theorem routingKeyInfoC_hit {s : State τ} {k : Nat} {e : Entry τ} (hl : lookup k s.lru = some e) :
    routingKeyInfoC s k = (entryOut e, { s with lru := (k, e) :: remove k s.lru }) := by
  rw [routingKeyInfoC, hl]

/-- a first use of statement `k`: the oldest entry may go (`l'` is what stays of the cache), and `k`'s entry stands in
    front exactly when the outcome is kept -/
theorem routingKeyInfoC_miss {s : State τ} {k : Nat} {st : Stmt τ} (hl : lookup k s.lru = none)
    (hst : s.stmts[k]? = some st) :
    ∃ l', l' ⊆ s.lru ∧ (s.max ≠ 0 → s.lru.length ≤ s.max → l'.length < s.max) ∧
      routingKeyInfoC s k =
        if !s.up then (.errNoConn, { s with lru := l' })
        else match routingKeyInfo st.md st.schema with
          | .info i => (.info i, { s with lru := (k, .info i) :: l' })
          | .none => (.nothing, { s with lru := (k, .nothing) :: l' })
          | .errMeta => (.errMeta, { s with lru := l' })
          | .crash => (.crash, { s with lru := (k, .nothing) :: l' }) := by
  obtain ⟨l', hadd, hsub, hlen⟩ := add_miss (max := s.max) (e := Entry.nothing) hl
  refine ⟨l', hsub, hlen, ?_⟩
  have hne : ∀ p ∈ l', p.1 ≠ k := fun p hp => lookup_eq_none.mp hl p (hsub hp)
  have hset : ∀ e, setEntry k e ((k, .nothing) :: l') = (k, e) :: l' := fun e => by
    rw [setEntry, List.map_cons, if_pos (by simp [isKey]), ← setEntry, setEntry_of_ne hne]
  rw [routingKeyInfoC, hl]
  simp only [hst, hadd, remove_head, hset]
  cases routingKeyInfo st.md st.schema <;> rfl

/-- what a finished computation leaves in the cache for the statement `st`; `entryOK stmts p` says this of the entry
    `p.2` for the statement numbered `p.1` (`entryOK_iff`) -/
def Fresh (st : Stmt τ) (e : Entry τ) : Prop :=
  match routingKeyInfo st.md st.schema with
  | .info i => e = .info i
  | .none => e = .nothing
  | _ => False

theorem entryOK_iff {stmts : List (Stmt τ)} {p : Nat × Entry τ} {st : Stmt τ} (h : stmts[p.1]? = some st) :
    entryOK stmts p ↔ Fresh st p.2 := by
  unfold entryOK Fresh; rw [h]

theorem Fresh.cases {st : Stmt τ} {e : Entry τ} (h : Fresh st e) :
    (∃ i, routingKeyInfo st.md st.schema = .info i ∧ e = .info i) ∨
    (routingKeyInfo st.md st.schema = .none ∧ e = .nothing) := by
  revert h
  fun_cases Fresh st e with
  | case1 i hr => exact fun h => .inl ⟨i, hr, h⟩
  | case2 hr => exact fun h => .inr ⟨hr, h⟩
  | case3 => nofun

theorem Fresh.keyOut {st : Stmt τ} {e : Entry τ} (h : Fresh st e) (enc : τ → ν → Enc) (vals : List ν) :
    keyOut enc vals (entryOut e) = .res (getRoutingKey enc st.md st.schema vals) := by
  rcases h.cases with ⟨i, hr, rfl⟩ | ⟨hr, rfl⟩ <;> simp [getRoutingKey, hr, entryOut, RoutingCache.keyOut]

/-- a goroutine of the concurrent model reads off a fresh entry what a new computation answers -/
theorem Fresh.entryKey {st : Stmt τ} {e : Entry τ} (h : Fresh st e) (enc : τ → ν → Enc)
    (vals : List ν) : Conc.entryKey enc vals e = .res (getRoutingKey enc st.md st.schema vals) := by
  rcases h.cases with ⟨i, hr, rfl⟩ | ⟨hr, rfl⟩ <;> simp [getRoutingKey, hr, Conc.entryKey]

theorem routingKeyInfoC_frame (s : State τ) (k : Nat) :
    (routingKeyInfoC s k).2.stmts = s.stmts ∧ (routingKeyInfoC s k).2.up = s.up ∧
    (routingKeyInfoC s k).2.max = s.max := by
  -- every arm returns `s` or `{ s with lru := … }`
  fun_cases routingKeyInfoC s k <;> exact ⟨rfl, rfl, rfl⟩

theorem step_stmts (enc : τ → ν → Enc) (s : State τ) (st : Step τ ν) :
    (step enc s st).2.stmts = Spec.stmtsAfter s.stmts st := by
  -- by definition of `step`, except for a use, which is `routingKeyInfoC`
  cases st <;> first | rfl | exact (routingKeyInfoC_frame s _).1

theorem step_up (enc : τ → ν → Enc) (s : State τ) (st : Step τ ν) :
    (step enc s st).2.up = Spec.upAfter s.up st := by
  -- as `step_stmts`
  cases st <;> first | rfl | exact (routingKeyInfoC_frame s _).2.1

/-- a use finds the info cached or a connection to compute it -/
def connected (s : State τ) : Step τ ν → Bool
  | .use k _ => s.up || (lookup k s.lru).isSome
  | _ => true

/-- ONE safe step from a coherent state leaves a coherent state and answers what the specification (no cache) answers -
    or, when the info is neither cached nor a connection at hand to compute it, the error -/
theorem step_safe (enc : τ → ν → Enc) (s : State τ) (st : Step τ ν) (hc : Coherent s) (hs : safeStep s st = true) :
    (step enc s st).1 = (if connected s st = true then Spec.stepOut enc s.stmts st else some .errNoConn) ∧
    Coherent (step enc s st).2 := by
  cases st with
  | setMax n => exact ⟨rfl, fun p hp => hc p (List.mem_of_mem_take hp)⟩
  | change k st' =>
    refine ⟨rfl, fun p hp => ?_⟩
    simp only [safeStep, Option.isNone_iff_eq_none] at hs
    have := hc p hp
    simp only [step] at hp ⊢
    unfold entryOK at this ⊢
    rwa [List.getElem?_set_ne (Ne.symm (lookup_eq_none.mp hs p hp))]
  | use k vals =>
    simp only [safeStep] at hs
    cases hst : s.stmts[k]? with
    | none => simp [hst] at hs
    | some st0 =>
      simp only [hst, Bool.not_eq_true', crashes] at hs
      simp only [step, Spec.stepOut, hst, connected]
      cases hl : lookup k s.lru with
      | some e =>
        have hok := hc _ (lookup_some hl)
        rw [routingKeyInfoC_hit hl]
        refine ⟨by simp [((entryOK_iff hst).mp hok).keyOut], fun p hp => ?_⟩
        rcases List.mem_cons.mp hp with rfl | hp
        · exact hok
        · exact hc p (List.mem_of_mem_eraseP hp)
      | none =>
        obtain ⟨l', hsub, -, heq⟩ := routingKeyInfoC_miss hl hst
        -- what stays of the cache was coherent, and a new entry in front of it is fresh
        have hold : ∀ p ∈ l', entryOK s.stmts p := fun p hp => hc p (hsub hp)
        have hnew : ∀ e, Fresh st0 e → ∀ p ∈ (k, e) :: l', entryOK s.stmts p := fun e h p hp =>
          (List.mem_cons.mp hp).elim (fun h' => h' ▸ (entryOK_iff (p := (k, e)) hst).mpr h) (hold p)
        rw [heq]
        cases s.up with
        | false => exact ⟨rfl, hold⟩
        | true =>
          simp only [Bool.not_true, Bool.false_eq_true, if_false, Bool.true_or, if_true]
          cases hr : routingKeyInfo st0.md st0.schema with
          | crash => simp [hr] at hs
          | info i => exact ⟨by simp [keyOut, getRoutingKey, hr], hnew _ (by simp [Fresh, hr])⟩
          | none => exact ⟨by simp [keyOut, getRoutingKey, hr], hnew _ (by simp [Fresh, hr])⟩
          | errMeta => exact ⟨by simp [keyOut, getRoutingKey, hr], hold⟩
  | _ => exact ⟨rfl, hc⟩

theorem lookup_none_of {k : Nat} {l : LRU τ} (h : ∀ p ∈ l, p.1 ≠ k) : lookup k l = none := lookup_eq_none.mpr h

theorem step_accepts (enc : τ → ν → Enc) (s : State τ) (st : Step τ ν) (hc : Coherent s) (hs : safeStep s st = true) :
    Spec.accepts enc s.stmts s.up st (step enc s st).1 = true ∧ Coherent (step enc s st).2 := by
  obtain ⟨ho, hc'⟩ := step_safe enc s st hc hs
  refine ⟨?_, hc'⟩
  rw [ho, Spec.accepts]
  split
  · simp
  · -- only a use can lack a connection
    cases st <;> simp_all [connected, Spec.isUse]

theorem length_hit {k : Nat} {e : Entry τ} {l : LRU τ} (hl : lookup k l = some e) :
    ((k, e) :: remove k l).length = l.length := by
  have hm := lookup_some hl
  have : (remove k l).length = l.length - 1 := by
    unfold remove
    exact List.length_eraseP_of_mem hm (by simp [isKey])
  have hpos : 0 < l.length := List.length_pos_of_mem hm
  simp [this]; omega

theorem step_bounded (enc : τ → ν → Enc) (s : State τ) (st : Step τ ν) (hb : s.max ≠ 0 → s.lru.length ≤ s.max) :
    (step enc s st).2.max ≠ 0 → (step enc s st).2.lru.length ≤ (step enc s st).2.max := by
  cases st with
  | setMax n =>
    intro _
    simp only [step, trim, List.length_take]
    omega
  | use k vals =>
    simp only [step]
    rw [(routingKeyInfoC_frame s k).2.2]
    intro hm
    cases hl : lookup k s.lru with
    | some e => rw [routingKeyInfoC_hit hl, length_hit hl]; exact hb hm
    | none =>
      cases hst : s.stmts[k]? with
      | none => rw [routingKeyInfoC, hl]; simp only [hst]; exact hb hm
      | some st0 =>
        obtain ⟨l', -, hlen, heq⟩ := routingKeyInfoC_miss hl hst
        have := hlen hm (hb hm)
        rw [heq]
        split
        · exact Nat.le_of_lt this
        · -- the statement's entry in front of `l'`, or `l'` alone: `l'.length < max` gives either
          split <;> first | exact this | exact Nat.le_of_lt this
  | _ => exact hb

namespace Conc

/-- the simulation between the code's state (has the server answered PREPARE, the inflight cache entry) and the
    specification's (the same flag, the goroutines in flight): an owner is pending only while the statement is not
    prepared, and its goroutines are the ones in flight; a cached entry is fresh and nobody waits -/
def Rel (st : Stmt τ) : Bool × CState τ ν → Bool × List (Nat × List ν) → Prop
  | (p, .idle), (p', infl) => p = p' ∧ infl = []
  | (p, .pending o ws), (p', infl) => p = false ∧ p' = false ∧ infl = o :: ws
  | (p, .cached e), (p', infl) => p = true ∧ p' = true ∧ infl = [] ∧ Fresh st e

/-- the owner's computation answers every goroutine with the key of ITS values, and leaves a fresh entry (or none) -/
theorem compute_spec (enc : τ → ν → Enc) (st : Stmt τ) (hcr : crashes st = false) (gs : List (Nat × List ν)) :
    (compute enc st gs).1 = gs.map (fun p => (p.1, COut.res (getRoutingKey enc st.md st.schema p.2))) ∧
    Rel st (true, (compute enc st gs).2) (true, ([] : List (Nat × List ν))) := by
  unfold compute crashes at *
  cases hr : routingKeyInfo st.md st.schema with
  | crash => simp [hr] at hcr
  | info i => simp [getRoutingKey, hr, Rel, Fresh]
  | none => simp [getRoutingKey, hr, Rel, Fresh]
  | errMeta => simp [getRoutingKey, hr, Rel]

theorem step_rel (enc : τ → ν → Enc) (st : Stmt τ) (hcr : crashes st = false)
    (s : Bool × CState τ ν) (t : Bool × List (Nat × List ν)) (e : Ev ν) (h : Rel st s t) :
    (step enc st s e).1 = (Spec.step enc st t e).1 ∧ Rel st (step enc st s e).2 (Spec.step enc st t e).2 := by
  obtain ⟨p, cs⟩ := s
  obtain ⟨p', infl⟩ := t
  cases cs with
  | idle =>
    obtain ⟨rfl, rfl⟩ := h
    cases e with
    | go g vals =>
      cases p with
      | false => simp [step, Spec.step, Rel]
      | true =>
        obtain ⟨h1, h2⟩ := compute_spec enc st hcr [(g, vals)]
        simp only [step, Spec.step]
        exact ⟨by simpa using h1, h2⟩
    | ansOk => cases p <;> simp [step, Spec.step, Rel]
    | ansFail => cases p <;> simp [step, Spec.step, Rel]
  | pending o ws =>
    obtain ⟨rfl, rfl, rfl⟩ := h
    cases e with
    | go g vals => simp [step, Spec.step, Rel]
    | ansOk =>
      simp only [step, Spec.step]
      exact compute_spec enc st hcr (o :: ws)
    | ansFail => simp [step, Spec.step, Rel]
  | cached en =>
    obtain ⟨rfl, rfl, rfl, hf⟩ := h
    cases e with
    | go g vals =>
      simp only [step, Spec.step]
      exact ⟨by rw [hf.entryKey], rfl, rfl, rfl, hf⟩
    | ansOk => exact ⟨by simp [step, Spec.step], by simpa [step, Spec.step, Rel] using hf⟩
    | ansFail => exact ⟨by simp [step, Spec.step], by simpa [step, Spec.step, Rel] using hf⟩

theorem run_spec (enc : τ → ν → Enc) (st : Stmt τ) (hcr : crashes st = false) (evs : List (Ev ν)) :
    ∀ (s : Bool × CState τ ν) (t : Bool × List (Nat × List ν)), Rel st s t →
      run enc st s evs = Spec.run enc st t evs := by
  induction evs with
  | nil => intro s t _; rfl
  | cons e rest ih =>
    intro s t h
    obtain ⟨h1, h2⟩ := step_rel enc st hcr s t e h
    simp only [run, Spec.run]
    rw [h1, ih _ _ h2]

end Conc

end RoutingCache
