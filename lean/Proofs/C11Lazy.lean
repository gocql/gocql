import Proofs.C11
/-! # C11 — the iterator with the up/down state read at every call (`Policies.LIter`)

The state of a host object may change between two calls of an iterator (a node goes down while a query is being
retried on the next host). The code reads `h.IsUp()` at the call that reaches `h`. The theorems here are stated for
ARBITRARY sequences of calls in which EVERY call sees an arbitrary policy state and an arbitrary up/down assignment
(so any interleaving with AddHost / RemoveHost / HostUp / HostDown / state changes / other picks is an instance).
One call is read through `nextL_queue`: the first queued replica (`q1 ++ q2`) that is up now, or else the fallback stage
`fbCall`, whose result, remaining positions and `given` are those of ONE `scanPos`; the proofs below and in
Proofs/C11LazyRef.lean use these two and the facts about `scanPos`, not the definition of `TA.nextL`. -/
namespace C11
open Policies

theorem scanPos_host (up : Nat → Bool) (used : List Host) (ps : List (Option Host)) (x : Host)
    (h : (scanPos up used ps).1 = .host x) : up x.id = true ∧ x ∉ used := by
  -- arms of `scanPos`, here and below: no position left | a nil position (panic) | the host is returned | it is skipped
  fun_induction scanPos up used ps
  · cases h
  · cases h
  · cases h; simpa using ‹(up _ && !used.contains _) = true›
  · rename_i ih; exact ih h

/-- the fallback stage of a call, in closed form: the walk goes on over the positions of the fallback iterator - created
now, with the fallback policy's `Pick`, if there is none - and the call returns what the walk finds (the eager
iterator's counterpart is `nextIter_fb` in Proofs/C11Slot.lean) -/
def fbCall (t : TA) (up : Nat → Bool) (it : LIter) : TA × LIter × Next :=
  let r := scanPos up (if it.plain then [] else it.given) (it.fb.getD t.pol.positions)
  (if it.fb.isSome then t else { t with pol := t.pol.bump },
   { it with q1 := [], q2 := [], fb := some r.2, given := match r.1 with | .host x => it.given ++ [x] | _ => it.given },
   r.1)

theorem fbCall_result (t : TA) (up : Nat → Bool) (it : LIter) :
    (fbCall t up it).2.2 = (scanPos up (if it.plain then [] else it.given) (it.fb.getD t.pol.positions)).1 := rfl

theorem fbCall_iter (t : TA) (up : Nat → Bool) (it : LIter) :
    (fbCall t up it).2.1 = { it with
      q1 := [], q2 := [], fb := some (scanPos up (if it.plain then [] else it.given) (it.fb.getD t.pol.positions)).2,
      given := match (fbCall t up it).2.2 with | .host x => it.given ++ [x] | _ => it.given } := rfl

/-- one call: the first replica still queued (`q1 ++ q2`: tier 0, then the farther tiers) that is up now is returned and
the queue goes on behind it; if there is none the fallback stage runs -/
theorem nextL_queue (t : TA) (up : Nat → Bool) (it : LIter) :
    (∀ x r, (it.q1 ++ it.q2).dropWhile (fun h => !up h.id) = x :: r → ∃ q1' q2', q1' ++ q2' = r ∧
      t.nextL up it = (t, { it with q1 := q1', q2 := q2', given := it.given ++ [x] }, .host x)) ∧
    ((it.q1 ++ it.q2).dropWhile (fun h => !up h.id) = [] → t.nextL up it = fbCall t up it) := by
  rw [List.dropWhile_append]
  unfold TA.nextL
  cases h1 : it.q1.dropWhile (fun h => !up h.id) with
  | cons y s =>
    refine ⟨fun x r e => ?_, fun e => nomatch e⟩
    cases e
    exact ⟨s, it.q2, rfl, rfl⟩
  | nil =>
    simp only [List.isEmpty_nil, if_true]
    cases h2 : it.q2.dropWhile (fun h => !up h.id) with
    | cons y s =>
      refine ⟨fun x r e => ?_, fun e => nomatch e⟩
      cases e
      exact ⟨[], s, rfl, rfl⟩
    | nil =>
      refine ⟨fun x r e => (nomatch e), fun _ => ?_⟩
      unfold fbCall
      -- both sides take apart the same `scanPos`, over the fallback positions that exist or are created now
      cases it.fb <;> simp only [Option.getD, Option.isSome]
      all_goals
        generalize scanPos up _ _ = p
        obtain ⟨e, rest⟩ := p
        cases e <;> rfl

/-- ONLY UP HOSTS, at the moment of the call: whatever the policy state `t` and the up/down assignment `up` at a
call of the iterator, a host it returns is up NOW, was not offered by this iterator before, and is appended to what
the iterator has offered -/
theorem C11_lazy_iterator_only_up (t : TA) (up : Nat → Bool) (it : LIter) (x : Host)
    (h : (t.nextL up it).2.2 = .host x) :
    up x.id = true ∧ (t.nextL up it).2.1.given = it.given ++ [x] := by
  cases hq : (it.q1 ++ it.q2).dropWhile (fun h => !up h.id) with
  | cons y r =>
    obtain ⟨q1', q2', _, e⟩ := (nextL_queue t up it).1 y r hq
    have hy := List.head_dropWhile_not (fun h : Host => !up h.id) (l := it.q1 ++ it.q2) (hq ▸ List.cons_ne_nil y r)
    simp only [hq, List.head_cons, Bool.not_eq_false'] at hy
    rw [e] at h ⊢
    cases h
    exact ⟨hy, rfl⟩
  | nil =>
    rw [(nextL_queue t up it).2 hq] at h ⊢
    exact ⟨(scanPos_host up _ _ x h).1, by rw [fbCall_iter, h]⟩

def LzInv (it : LIter) : Prop := (it.given ++ (it.q1 ++ it.q2)).Nodup

theorem nextL_plain (t : TA) (up : Nat → Bool) (it : LIter) : (t.nextL up it).2.1.plain = it.plain := by
  cases hq : (it.q1 ++ it.q2).dropWhile (fun h => !up h.id) with
  | cons y r => obtain ⟨_, _, _, e⟩ := (nextL_queue t up it).1 y r hq; rw [e]
  | nil => rw [(nextL_queue t up it).2 hq, fbCall_iter]

theorem LzInv_next (t : TA) (up : Nat → Bool) (it : LIter) (hpl : it.plain = false) (hi : LzInv it) :
    LzInv (t.nextL up it).2.1 := by
  unfold LzInv at hi ⊢
  cases hq : (it.q1 ++ it.q2).dropWhile (fun h => !up h.id) with
  | cons y r =>
    obtain ⟨q1', q2', e', e⟩ := (nextL_queue t up it).1 y r hq
    have hs : (y :: r).Sublist (it.q1 ++ it.q2) := hq ▸ List.dropWhile_sublist _
    rw [e]
    show ((it.given ++ [y]) ++ (q1' ++ q2')).Nodup
    rw [e', List.append_assoc]
    exact (hs.append_left it.given).nodup hi
  | nil =>
    have hg : it.given.Nodup := (List.nodup_append.mp hi).1
    rw [(nextL_queue t up it).2 hq, fbCall_iter]
    show ((match (fbCall t up it).2.2 with | .host x => it.given ++ [x] | _ => it.given) ++ []).Nodup
    rw [List.append_nil]
    cases hr : (fbCall t up it).2.2 with
    | host x =>
      have hx := (scanPos_host up _ _ x hr).2
      rw [hpl] at hx
      exact List.nodup_append.mpr ⟨hg, by simp, fun a ha b hb e => hx (List.mem_singleton.mp hb ▸ e ▸ ha)⟩
    | _ => exact hg

/-! a query handed to the fallback policy as it is: the iterator is the fallback policy's own, which keeps no `used`
map - what it offers is a subsequence of the hosts at the positions of its ONE snapshot -/

theorem scanPos_nil_sub (up : Nat → Bool) (ps : List (Option Host)) (x : Host) (h : (scanPos up [] ps).1 = .host x) :
    (x :: (scanPos up [] ps).2.filterMap id).Sublist (ps.filterMap id) := by
  fun_induction scanPos up [] ps
  · cases h
  · cases h
  · cases h; simp
  · rename_i ih; simpa using (ih h).trans (List.sublist_cons_self _ _)

theorem scanPos_rest_sub (up : Nat → Bool) (used : List Host) (ps : List (Option Host)) :
    ((scanPos up used ps).2.filterMap id).Sublist (ps.filterMap id) := by
  fun_induction scanPos up used ps
  · simp
  · simp
  · simp
  · rename_i ih; simpa using ih.trans (List.sublist_cons_self _ _)

def PlainInv (P : List Host) (it : LIter) : Prop :=
  it.plain = true ∧ it.q1 = [] ∧ it.q2 = [] ∧ ∃ ps, it.fb = some ps ∧ (it.given ++ ps.filterMap id).Sublist P

theorem PlainInv_next (P : List Host) (t : TA) (up : Nat → Bool) (it : LIter) (hi : PlainInv P it) :
    PlainInv P (t.nextL up it).2.1 := by
  obtain ⟨h1, h2, h3, ps, h4, h5⟩ := hi
  rw [(nextL_queue t up it).2 (by rw [h2, h3]; rfl), fbCall_iter, fbCall_result]
  simp only [h1, h4, if_true, Option.getD_some]
  refine ⟨rfl, rfl, rfl, _, rfl, ?_⟩
  cases hr : (scanPos up [] ps).1 with
  | host x =>
    simp only [List.append_assoc, List.singleton_append]
    exact ((scanPos_nil_sub up ps x hr).append_left it.given).trans h5
  | _ => exact ((scanPos_rest_sub up [] ps).append_left it.given).trans h5

theorem runScan_true (l : List (Option Host)) (h : (runScan (fun _ => true) l).crashed = false) :
    (runScan (fun _ => true) l).offered = l.filterMap id := by
  fun_induction runScan (fun _ => true) l
  · rfl
  · cases h
  · rename_i ih; simp only [List.filterMap_cons, id_eq]; rw [ih h]
  · rename_i hc _; cases hc rfl

theorem positions_eq (p : Pol) (hb : Pol.below p) : p.positions.filterMap id = p.pickSeq (fun _ => true) := by
  have hs : runScan (fun _ => true) p.positions = ⟨p.pickSeq (fun _ => true), false⟩ := pickScan_small p _ hb
  rw [← runScan_true _ (by rw [hs]), hs]

/-- below the counter bound the hosts at the positions of the fallback policy's next iterator are pairwise different -/
theorem positions_nodup (p : Pol) (hp : Inv p) (hb : Pol.below p) : (p.positions.filterMap id).Nodup :=
  positions_eq p hb ▸ pickSeq_nodup p hp _

theorem openL_reps (t : TA) (σ : List Host → List Host) (rk : Option (Nat × Nat)) :
    (t.openL σ rk).2 = match repsOf t σ rk with
      | none => ⟨[], [], [], some t.pol.positions, true⟩
      | some r => ⟨[], localReplicas t.pol.tier (fun _ => true) r,
          if t.nonlocal then remoteWalk (fun _ => true) (remoteBuckets t.pol.tier t.pol.maxTier r) else [], none, false⟩ := by
  fun_cases TA.openL t σ rk <;> simp only [repsOf, *] <;> rfl

/-- NO HOST TWICE, whatever happens between the calls: an iterator opened by `Pick` in ANY policy state `t0` on a replica
list without duplicates (tables with duplicate-free lists, the shuffle a permutation), then called any number of times,
EVERY call in an arbitrary policy state and under an arbitrary up/down assignment of the host objects (any
interleaving with topology calls, state changes and other iterators), never offers a host twice. (For a query handed
to the fallback policy as it is the iterator is `roundRobbin`'s own - no `used` map -: there the hosts at the positions
of its one snapshot must be pairwise different, which `positions_nodup` gives below the counter bound of KF-C11-3.) -/
theorem C11_lazy_iterator_no_host_twice (t0 : TA) (σ : List Host → List Host) (hσ : ∀ l, (σ l).Perm l)
    (rk : Option (Nat × Nat)) (hrep : ∀ e ∈ t0.replicas, ∀ f ∈ e.2, f.2.Nodup)
    (hpos : (t0.pol.positions.filterMap id).Nodup) (calls : List (TA × (Nat → Bool))) :
    (calls.foldl (fun it c => (c.1.nextL c.2 it).2.1) (t0.openL σ rk).2).given.Nodup := by
  rw [openL_reps]
  cases h : repsOf t0 σ rk with
  | none =>
    obtain ⟨_, _, _, ps, _, hsub⟩ := foldl_inv (PlainInv (t0.pol.positions.filterMap id)) (fun it c => (c.1.nextL c.2 it).2.1)
      (fun it c => PlainInv_next _ c.1 c.2 it) calls ⟨[], [], [], some t0.pol.positions, true⟩
      ⟨rfl, rfl, rfl, t0.pol.positions, rfl, by simp⟩
    exact (List.nodup_append.mp (hsub.nodup hpos)).1
  | some r =>
    have hn := taHead_nodup t0.pol.tier t0.pol.maxTier (fun _ => true) t0.nonlocal r (repsOf_nodup t0 σ hσ rk hrep r h)
    exact (List.nodup_append.mp (foldl_inv (fun it => it.plain = false ∧ LzInv it) (fun it c => (c.1.nextL c.2 it).2.1)
      (fun it c h => ⟨(nextL_plain c.1 c.2 it).trans h.1, LzInv_next c.1 c.2 it h.1 h.2⟩) calls
      ⟨[], localReplicas t0.pol.tier (fun _ => true) r,
        if t0.nonlocal then remoteWalk (fun _ => true) (remoteBuckets t0.pol.tier t0.pol.maxTier r) else [], none, false⟩
      ⟨rfl, hn⟩).2).1

/-- non-vacuity, and what the eager model cannot say: replicas a (local rack), c; iterator opened with everything up;
a is returned; then c goes DOWN before the second call and d before the third: neither is offered although both were
up at the `Pick`; b (up throughout) is; a is not offered again by the fallback phase -/
example :
    let it0 := (cexTAok.openL id (some (0, 50))).2
    let s1 := cexTAok.nextL (fun _ => true) it0
    let s2 := s1.1.nextL (fun i => i != 3) s1.2.1
    let s3 := s2.1.nextL (fun i => i != 3 && i != 4) s2.2.1
    s1.2.2 = .host cexA' ∧ s2.2.2 = .host cexB' ∧ s3.2.2 = .done ∧ s3.2.1.given = [cexA', cexB'] := by
  decide

theorem mem_dropWhile_of_not {α : Type} (p : α → Bool) (l : List α) (x : α) (hx : x ∈ l) (hp : p x = false) :
    x ∈ l.dropWhile p := by
  induction l with
  | nil => cases hx
  | cons a t ih =>
    rw [List.dropWhile_cons]
    split
    · rename_i hpa
      rcases List.mem_cons.mp hx with e | e
      · subst e; rw [hp] at hpa; cases hpa
      · exact ih e
    · exact hx

theorem scanPos_done (up : Nat → Bool) (used : List Host) (ps : List (Option Host))
    (h : (scanPos up used ps).1 = .done) : ∀ y, some y ∈ ps → up y.id = true → y ∈ used := by
  fun_induction scanPos up used ps <;> intro y hy hu
  · cases hy
  · cases h
  · cases h
  · rename_i hc ih
    rcases List.mem_cons.mp hy with e | e
    · cases e; simpa [hu] using hc
    · exact ih h y e hu

theorem scanPos_host_rest (up : Nat → Bool) (used : List Host) (ps : List (Option Host)) (x : Host)
    (h : (scanPos up used ps).1 = .host x) :
    ∀ y, some y ∈ ps → up y.id = true → y ∈ used ∨ y = x ∨ some y ∈ (scanPos up used ps).2 := by
  fun_induction scanPos up used ps <;> intro y hy hu
  · cases h
  · cases h
  · cases h
    rcases List.mem_cons.mp hy with e | e
    · cases e; exact Or.inr (Or.inl rfl)
    · exact Or.inr (Or.inr e)
  · rename_i hc ih
    rcases List.mem_cons.mp hy with e | e
    · cases e; exact Or.inl (by simpa [hu] using hc)
    · exact ih h y e hu

def runLR (it : LIter) : List (TA × (Nat → Bool)) → LIter × List Next
  | [] => (it, [])
  | c :: r => ((runLR (c.1.nextL c.2 it).2.1 r).1, (c.1.nextL c.2 it).2.2 :: (runLR (c.1.nextL c.2 it).2.1 r).2)

/-- where a host that must still be offered is: offered already, among the replicas still to be looked at, at a
position of the fallback iterator still to be looked at - or the fallback iterator does not exist yet -/
def Pending (it : LIter) (h : Host) : Prop :=
  h ∈ it.given ∨ h ∈ it.q1 ∨ h ∈ it.q2 ∨ (∃ ps, it.fb = some ps ∧ some h ∈ ps) ∨ it.fb = none

theorem pending_next (t : TA) (up : Nat → Bool) (it : LIter) (h : Host) (hu : up h.id = true)
    (hl : some h ∈ t.pol.positions) (hk : Pending it h) (hnp : (t.nextL up it).2.2 ≠ .panic) :
    Pending (t.nextL up it).2.1 h ∧ ((t.nextL up it).2.2 = .done → h ∈ (t.nextL up it).2.1.given) := by
  have hdw : h ∈ it.q1 ++ it.q2 → h ∈ (it.q1 ++ it.q2).dropWhile (fun x => !up x.id) :=
    fun hm => mem_dropWhile_of_not _ _ h hm (by simp [hu])
  cases hq : (it.q1 ++ it.q2).dropWhile (fun h => !up h.id) with
  | cons y r =>
    -- a queued replica is returned: `h` is it, or stays queued
    obtain ⟨q1', q2', e', e⟩ := (nextL_queue t up it).1 y r hq
    rw [e]
    refine ⟨?_, fun hd => nomatch hd⟩
    have key : h ∈ it.q1 ++ it.q2 → Pending { it with q1 := q1', q2 := q2', given := it.given ++ [y] } h := by
      intro hm
      have := hdw hm
      rw [hq, ← e'] at this
      rcases List.mem_cons.mp this with e1 | e1
      · exact Or.inl (by rw [e1]; simp)
      · exact (List.mem_append.mp e1).elim (fun a => Or.inr (Or.inl a)) (fun a => Or.inr (Or.inr (Or.inl a)))
    rcases hk with hk | hk | hk | hk | hk
    · exact Or.inl (List.mem_append_left _ hk)
    · exact key (List.mem_append_left _ hk)
    · exact key (List.mem_append_right _ hk)
    · exact Or.inr (Or.inr (Or.inr (Or.inl hk)))
    · exact Or.inr (Or.inr (Or.inr (Or.inr hk)))
  | nil =>
    -- the fallback stage: the positions walked now contain `h` unless it was offered
    have hq' : h ∉ it.q1 ++ it.q2 := fun hm => by have := hdw hm; rw [hq] at this; cases this
    have hpos : h ∈ it.given ∨ some h ∈ it.fb.getD t.pol.positions := by
      rcases hk with hk | hk | hk | ⟨ps, hps, hm⟩ | hk
      · exact Or.inl hk
      · exact absurd (List.mem_append_left _ hk) hq'
      · exact absurd (List.mem_append_right _ hk) hq'
      · right; rw [hps]; exact hm
      · right; rw [hk]; exact hl
    have hused : h ∈ (if it.plain = true then [] else it.given) → h ∈ it.given := fun e => by
      split at e
      · cases e
      · exact e
    rw [(nextL_queue t up it).2 hq] at hnp ⊢
    rw [fbCall_iter]
    cases hr : (fbCall t up it).2.2 with
    | host x =>
      refine ⟨?_, fun hd => nomatch hd⟩
      rcases hpos with hg | hm
      · exact Or.inl (List.mem_append_left _ hg)
      · rcases scanPos_host_rest up _ _ x hr h hm hu with e | e | e
        · exact Or.inl (List.mem_append_left _ (hused e))
        · exact Or.inl (by rw [e]; simp)
        · exact Or.inr (Or.inr (Or.inr (Or.inl ⟨_, rfl, e⟩)))
    | panic => exact absurd hr hnp
    | done =>
      have hg : h ∈ it.given := hpos.elim id (fun hm => hused (scanPos_done up _ _ hr h hm hu))
      exact ⟨Or.inl hg, fun _ => hg⟩

/-- COMPLETENESS WHILE STATES AND LISTS CHANGE: an iterator (any iterator `Pick` can return: `fb = none`, or its
fallback positions contain `h`) is called any number of times, every call in an arbitrary policy state and under an
arbitrary up/down assignment, no call panics, and the LAST call returns nil. Then every host `h` that during the whole
life of the iterator was up at every call and stood at a position of the fallback policy's lists in the state of every
call (it stayed listed and up - whatever was added, removed, reported or changed state around it) HAS BEEN OFFERED. -/
theorem C11_lazy_iterator_complete (it0 : LIter) (calls : List (TA × (Nat → Bool))) (last : TA × (Nat → Bool)) (h : Host)
    (h0 : Pending it0 h)
    (hall : ∀ c ∈ calls ++ [last], c.2 h.id = true ∧ some h ∈ c.1.pol.positions)
    (hnp : ∀ r ∈ (runLR it0 (calls ++ [last])).2, r ≠ .panic)
    (hend : (runLR it0 (calls ++ [last])).2.getLast? = some .done) :
    h ∈ (runLR it0 (calls ++ [last])).1.given := by
  induction calls generalizing it0 with
  | nil =>
    simp only [List.nil_append, runLR] at hnp hend ⊢
    have hc := hall last (by simp)
    have hr : (last.1.nextL last.2 it0).2.2 = .done := by simpa using hend
    exact (pending_next last.1 last.2 it0 h hc.1 hc.2 h0 (by rw [hr]; simp)).2 hr
  | cons c r ih =>
    simp only [List.cons_append, runLR] at hnp hend ⊢
    have hc := hall c (by simp)
    have hn1 : (c.1.nextL c.2 it0).2.2 ≠ .panic := hnp _ (by simp)
    have hp := (pending_next c.1 c.2 it0 h hc.1 hc.2 h0 hn1).1
    apply ih _ hp (fun d hd => hall d (by simp at hd ⊢; exact Or.inr hd))
      (fun x hx => hnp x (List.mem_cons_of_mem _ hx))
    have hne : (runLR (c.1.nextL c.2 it0).2.1 (r ++ [last])).2 ≠ [] := by
      cases r <;> simp [runLR]
    rw [List.getLast?_cons_of_ne_nil hne] at hend
    exact hend

/-- every host the fallback policy knows stands at a position of its next iterator (below the counter bound) -/
theorem known_position (p : Pol) (hp : Inv p) (hb : Pol.below p) (h : Host) (hk : known p h) : some h ∈ p.positions := by
  have hm : h ∈ p.positions.filterMap id := positions_eq p hb ▸ (mem_pickSeq p hp _ h).mpr ⟨hk, rfl⟩
  obtain ⟨a, ha, e⟩ := List.mem_filterMap.mp hm
  exact (show a = some h from e) ▸ ha

/-- non-vacuity of the completeness theorem: replicas a, c; c goes down after the first call and d is REMOVED from
the lists before the iterator reaches its fallback phase; b stays up and listed: it is offered, the last call returns nil -/
example :
    let it0 := (cexTAok.openL id (some (0, 50))).2
    let t1 := cexTAok.apply (.remove cexD')
    let r := runLR it0 [(cexTAok, fun _ => true), (t1, fun i => i != 3), (t1, fun i => i != 3)]
    r.2 = [.host cexA', .host cexB', .done] ∧ r.1.given = [cexA', cexB'] ∧ Pending it0 cexB' ∧
      some cexB' ∈ cexTAok.pol.positions ∧ some cexB' ∈ t1.pol.positions := by
  refine ⟨by decide, by decide, Or.inr (Or.inr (Or.inr (Or.inr rfl))), by decide, by decide⟩

end C11
