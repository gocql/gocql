import Model.Pipe
import Proofs.Common
/-!
  The connect pipeline of one host (`Pipe` of `Model/Pipe.lean`). `PInv` is the invariant of ONE pool object: connections, connects
  in flight and connects still to be started stay within the size; the ghost socket count is the connections plus the sockets of
  the connects in flight; a closed pool holds no connection. One lemma per pool operation says that it keeps `PInv` and neither
  closes nor reopens the pool (`Keeps` for the operations that return the number of connects to start; `Keeps.map` lifts the
  rest). `HInv` lifts this to the host: the registered pool and every retired one, which is closed; `route_inv` is the lifting
  for an operation routed to whichever pool it is defined on. The properties ask about `p ∈ h.pools` (registered or retired):
  `HInv.pinv`, `HInv.closed_of_sess` are that view.
-/
namespace C17Pipe
open Pipe

theorem takeAtt_spec (l : List Att) (k : Nat) (a : Att) (l' : List Att) (h : takeAtt l k = some (a, l')) :
    l.length = l'.length + 1 ∧ sockSum l = a.sock + sockSum l' := by
  fun_induction takeAtt l k generalizing a l'
  case case1 | case4 => cases h                                       -- no attempt with that id
  case case2 => cases h; simp [sockSum]                               -- it is the head
  case case3 hc ih => cases h; have := ih _ _ hc; simp [sockSum]; omega   -- it is in the tail

theorem sock_le_one (a : Att) : a.sock ≤ 1 := by unfold Att.sock; split <;> omega

theorem mkAtts_length : ∀ (n m : Nat), (mkAtts n m).length = m
  | _, 0 => rfl
  | n, m + 1 => by simp [mkAtts, mkAtts_length (n + 1) m]

theorem sockSum_append : ∀ (l m : List Att), sockSum (l ++ m) = sockSum l + sockSum m
  | [], m => by simp [sockSum]
  | a :: l, m => by simp [sockSum, sockSum_append l m]; omega

theorem sockSum_mkAtts : ∀ (n m : Nat), sockSum (mkAtts n m) = 0
  | _, 0 => rfl
  | n, m + 1 => by simp [mkAtts, sockSum, sockSum_mkAtts (n + 1) m, Att.sock]

structure PInv (size : Nat) (p : Pool) : Prop where
  bound : p.conns.length + p.att.length + p.rest ≤ size
  idle : p.filling = false → p.att = [] ∧ p.rest = 0
  ghost : p.opened = p.conns.length + sockSum p.att
  closedEmpty : p.closed = true → p.conns = []

theorem PInv.closed {size : Nat} {p : Pool} (h : PInv size p) (hc : p.closed = true) :
    p.conns = [] ∧ p.opened = sockSum p.att :=
  have h0 := h.closedEmpty hc
  ⟨h0, by simpa [h0] using h.ghost⟩

theorem pinv_new (size : Nat) : PInv size Pool.new := by
  constructor <;> simp [Pool.new, sockSum]

theorem pinv_startFill (size : Nat) (p : Pool) (n : Nat) (h : PInv size p) (hc1 : p.closed = false)
    (hc2 : p.filling = false) (hc3 : p.conns.length < size) : PInv size (Pool.startFill size p n).1 := by
  obtain ⟨h1, h2, h3, h4⟩ := h
  have ⟨ha, hr⟩ := h2 hc2
  fun_cases Pool.startFill size p n
  -- an empty pool: the first connect synchronously, the rest later
  case case1 h0 =>
    constructor
    · simp [ha, h0]; omega
    · simp
    · simp [ha, h0, sockSum, Att.sock] at h3 ⊢; exact h3
    · intro hcl; simp [hc1] at hcl
  -- otherwise what is missing, all at once
  case case2 =>
    constructor
    · simp [ha, mkAtts_length]; omega
    · simp
    · simp [ha, sockSum_mkAtts, sockSum] at h3 ⊢; exact h3
    · intro hcl; simp [hc1] at hcl

theorem pinv_fill (size : Nat) (p : Pool) (n : Nat) (h : PInv size p) : PInv size (Pool.fill size p n).1 := by
  fun_cases Pool.fill size p n
  case case1 => exact h                                               -- closed, filling or full: nothing happens
  case case2 hc =>
    simp only [Bool.or_eq_true, decide_eq_true_eq, not_or, Bool.not_eq_true, Nat.not_le] at hc
    exact pinv_startFill size p n h hc.1.1 hc.1.2 hc.2

theorem pinv_pend (size : Nat) (p : Pool) (k : Nat) (h : PInv size p) : PInv size { p with pend := k } :=
  ⟨h.bound, h.idle, h.ghost, h.closedEmpty⟩

theorem pinv_fillCheck (size : Nat) (p : Pool) (h : PInv size p) : PInv size (Pool.fillCheck size p) := by
  fun_cases Pool.fillCheck size p
  case case1 => exact h
  case case2 => exact pinv_pend size p _ h

theorem fill_closed (size : Nat) (p : Pool) (n : Nat) : (Pool.fill size p n).1.closed = p.closed := by
  fun_cases Pool.fill size p n
  case case1 => rfl
  case case2 => fun_cases Pool.startFill size p n <;> rfl

def Keeps (size : Nat) (f : Pool → Option (Pool × Nat)) : Prop :=
  ∀ p p' m, PInv size p → f p = some (p', m) → PInv size p' ∧ p'.closed = p.closed

theorem Keeps.map {size : Nat} {g : Pool → Option Pool}
    (h : ∀ p p', PInv size p → g p = some p' → PInv size p' ∧ p'.closed = p.closed) : Keeps size fun p => (g p).map (·, 0) :=
  fun p _ _ hp hs => have ⟨q, hq, e⟩ := Option.map_eq_some_iff.mp hs; (Prod.mk.inj e).1 ▸ h p q hp hq

theorem pinv_fillGo (size n : Nat) : Keeps size (Pool.fillGo size · n) := by
  intro p p' m h hs; dsimp only at hs
  revert hs; fun_cases Pool.fillGo size p n <;> intro hs
  case case1 => cases hs                                              -- no fill() waits for the write lock
  case case2 =>
    injection hs with hs
    have h1 := pinv_fill size _ n (pinv_pend size p (p.pend - 1) h)
    have h2 := fill_closed size { p with pend := p.pend - 1 } n
    rw [hs] at h1 h2
    exact ⟨h1, h2⟩

theorem next_ne_dial (c : Cfg) (s s' : Stage) (h : next c s = some s') : s' ≠ .dial := by
  rintro rfl
  revert h; fun_cases next c s <;> simp [afterHs]     -- rule by rule: `opt`, `st`, `au _`, `use` or nothing

theorem sock_of_last {c : Cfg} {a : Att} (h : next c a.stage = none) : a.sock = 1 := by
  unfold Att.sock; split <;> simp_all [next]

/-- only a running filler has connects in flight -/
theorem PInv.filling {size : Nat} {p : Pool} (h : PInv size p) {k : Nat} {a : Att} {l : List Att}
    (ht : takeAtt p.att k = some (a, l)) : p.filling = true := by
  cases hf : p.filling with
  | true => rfl
  | false => rw [(h.idle hf).1] at ht; simp [takeAtt] at ht

/-- `go connectMany(rest)`: the connects still to be started become connects in flight that have no socket yet -/
theorem pinv_spawn (size : Nat) (q : Pool) (n : Nat) (h : PInv size q) :
    PInv size { q with att := mkAtts n q.rest ++ q.att, rest := 0 } where
  bound := by have := h.bound; simp [mkAtts_length]; omega
  idle := fun hf => by simp [h.idle hf, mkAtts]
  ghost := by have := h.ghost; simp [sockSum_append, sockSum_mkAtts]; omega
  closedEmpty := h.closedEmpty

theorem pinv_ok (c : Cfg) (size k n : Nat) : Keeps size (Pool.ok c · k n) := by
  intro p p' m h hs; dsimp only at hs
  have ⟨h1, h2, h3, h4⟩ := h
  -- unfolded by hand: `fun_cases` would leave the `let` of `Pool.ok` as a local definition
  unfold Pool.ok at hs
  split at hs
  · simp at hs                                                        -- no attempt with that id
  · rename_i a l ht
    have ⟨tl, ts⟩ := takeAtt_spec _ _ _ _ ht
    have hfill := h.filling ht
    have hs1 := sock_le_one a
    split at hs
    -- a further round trip `s'`: the attempt goes on, with a socket
    · rename_i s' hn
      injection hs with hs; injection hs with hs _; subst hs
      refine ⟨⟨?_, ?_, ?_, h4⟩, rfl⟩
      · simp; omega
      · simp [hfill]
      · have hs' : ({ a with stage := s' } : Att).sock = 1 := by
          unfold Att.sock; simp [next_ne_dial c _ _ hn]
        have hsd : a.sock = 0 ∨ a.sock = 1 := by omega
        simp [sockSum, hs']; omega
    -- it was the last one: connect() reaches the append
    · rename_i hn
      have hsock := sock_of_last hn
      by_cases hcl : p.closed = true
      -- the pool was closed meanwhile: not appended
      · have ⟨hc0, hg⟩ := h.closed hcl
        simp only [if_pos hcl] at hs
        have hq : PInv size { p with att := l, opened := p.opened - 1 } :=
          ⟨by simp; omega, by simp [hfill], by simp [hc0]; omega, fun _ => hc0⟩
        split at hs <;> (injection hs with hs; injection hs with hs _; subst hs)
        · exact ⟨pinv_spawn size _ n hq, rfl⟩                        -- the synchronous connect: the rest is started
        · exact ⟨hq, rfl⟩
      -- the pool is open: appended
      · simp only [if_neg hcl] at hs
        have hq : PInv size { p with att := l, conns := p.conns ++ [k] } :=
          ⟨by simp; omega, by simp [hfill], by simp at h3 ⊢; omega, fun hc => absurd hc hcl⟩
        split at hs <;> (injection hs with hs; injection hs with hs _; subst hs)
        · exact ⟨pinv_spawn size _ n hq, rfl⟩
        · exact ⟨hq, rfl⟩

theorem pinv_fail (size k : Nat) (p p' : Pool) (h : PInv size p) (hs : Pool.fail p k = some p') :
    PInv size p' ∧ p'.closed = p.closed := by
  have ⟨h1, h2, h3, h4⟩ := h
  revert hs; fun_cases Pool.fail p k <;> intro hs <;> cases hs
  case case2 a l ht =>
    have ⟨tl, ts⟩ := takeAtt_spec _ _ _ _ ht
    have hfill := h.filling ht
    refine ⟨⟨?_, ?_, ?_, h4⟩, rfl⟩
    · simp; split <;> omega
    · simp [hfill]
    · simp; omega

theorem pinv_stop (size : Nat) (p p' : Pool) (h : PInv size p) (hs : Pool.stop p = some p') :
    PInv size p' ∧ p'.closed = p.closed := by
  obtain ⟨h1, h2, h3, h4⟩ := h
  revert hs; fun_cases Pool.stop p <;> intro hs <;> cases hs
  case case1 hc =>
    simp only [Bool.and_eq_true, List.isEmpty_iff] at hc
    refine ⟨⟨?_, ?_, ?_, h4⟩, rfl⟩
    · simp; omega
    · intro _; simp [hc.2]
    · simpa using h3

theorem pinv_close (size : Nat) (p : Pool) (h : PInv size p) : PInv size p.close ∧ p.close.closed = true := by
  obtain ⟨h1, h2, h3, h4⟩ := h
  fun_cases Pool.close p
  case case1 hc => exact ⟨⟨h1, h2, h3, h4⟩, hc⟩                        -- closed already
  case case2 =>
    refine ⟨⟨?_, h2, ?_, ?_⟩, rfl⟩
    · simp; omega
    · simp; omega
    · simp

theorem pinv_connError (size k n : Nat) : Keeps size (Pool.connError size · k n) := by
  intro p p' m h hs; dsimp only at hs
  obtain ⟨h1, h2, h3, h4⟩ := h
  revert hs; fun_cases Pool.connError size p k n <;> intro hs
  case case2 => cases hs                                              -- not a connection of an open pool
  case case1 hc =>
    simp only [Bool.and_eq_true, Bool.not_eq_eq_eq_not, Bool.not_true, List.contains_iff_mem] at hc
    injection hs with hs
    have hmem := hc.2
    have hlen : (p.conns.erase k).length = p.conns.length - 1 := List.length_erase_of_mem hmem
    have hpos : 0 < p.conns.length := List.length_pos_of_mem hmem
    have hq : PInv size { p with conns := p.conns.erase k, opened := p.opened - 1 } := by
      refine ⟨?_, h2, ?_, ?_⟩
      · simp [hlen]; omega
      · simp [hlen]; omega
      · intro hcl; simp [hc.1] at hcl
    have := pinv_fill size _ n hq
    have hcl := fill_closed size { p with conns := p.conns.erase k, opened := p.opened - 1 } n
    rw [hs] at this hcl
    exact ⟨this, hcl⟩

/-- `n` is the configured pool size, which no step changes -/
structure HInv (n : Nat) (h : Host) : Prop where
  size : h.cfg.size = n
  cur : ∀ p, h.cur = some p → PInv n p
  old : ∀ p ∈ h.old, PInv n p ∧ p.closed = true
  sess : h.sessClosed = true → h.cur = none

theorem HInv.setCur {n : Nat} {h : Host} (hi : HInv n h) {p q : Pool} (hc : h.cur = some p) (hq : PInv n q) (k : Nat) :
    HInv n { h with cur := some q, nextId := k } :=
  ⟨hi.size, fun r hr => by cases hr; exact hq, hi.old, fun hsc => by simp [hi.sess hsc] at hc⟩

/-- removeHost / Session.Close: the registered pool is closed and moves to the pool objects nobody can reach any more -/
theorem HInv.retire {n : Nat} {h : Host} (hi : HInv n h) {p : Pool} (hc : h.cur = some p) (b : Bool) :
    HInv n { h with cur := none, old := p.close :: h.old, sessClosed := b } := by
  refine ⟨hi.size, nofun, fun q hq => ?_, fun _ => rfl⟩
  rcases List.mem_cons.mp hq with rfl | hq
  · exact pinv_close _ p (hi.cur p hc)
  · exact hi.old q hq

theorem firstOk_inv (P : Pool → Prop) (f : Pool → Option (Pool × Nat))
    (hf : ∀ p p' n, P p → f p = some (p', n) → P p') (ps ps' : List Pool) (n : Nat) (hall : ∀ p ∈ ps, P p)
    (h : firstOk f ps = some (ps', n)) : ∀ p ∈ ps', P p := by
  fun_induction firstOk f ps generalizing ps' n <;> cases h
  -- the operation is defined on the head
  case case2 q qs q' m hq =>
    intro p hp
    rcases List.mem_cons.mp hp with rfl | hp
    · exact hf q _ m (hall q (List.mem_cons_self ..)) hq
    · exact hall p (List.mem_cons_of_mem _ hp)
  -- … on a pool of the tail
  case case3 q qs _ qs' m hq ih =>
    intro p hp
    rcases List.mem_cons.mp hp with rfl | hp
    · exact hall _ (List.mem_cons_self ..)
    · exact ih qs' m (fun x hx => hall x (List.mem_cons_of_mem _ hx)) hq p hp

theorem route_inv {n : Nat} (h h' : Host) (f : Pool → Option (Pool × Nat)) (hf : Keeps n f)
    (hi : HInv n h) (hs : h.route f = some h') : HInv n h' := by
  have ⟨i0, i1, i2, i3⟩ := hi
  -- the operation goes to a retired pool: it stays closed
  have old_case : ∀ h', h.routeOld f = some h' → HInv n h' := by
    intro h' hs
    revert hs; fun_cases Host.routeOld h f <;> intro hs <;> cases hs
    case case1 ps m hfo =>
      refine ⟨i0, i1, ?_, i3⟩
      exact firstOk_inv (fun p => PInv n p ∧ p.closed = true) f
        (fun p p' m hp hfp => by
          have := hf p p' m hp.1 hfp
          exact ⟨this.1, by rw [this.2]; exact hp.2⟩) h.old ps m i2 hfo
  revert hs; fun_cases Host.route h f <;> intro hs
  case case1 p hc p' m hfp => cases hs; exact hi.setCur hc (hf p _ m (i1 p hc) hfp).1 _     -- … to the registered pool
  case case2 | case3 => exact old_case h' hs

theorem fillCur_inv {n : Nat} (h : Host) (hi : HInv n h) : HInv n h.fillCur := by
  obtain rfl := hi.size
  fun_cases Host.fillCur h
  case case1 p hc _ => exact hi.setCur hc (pinv_fill _ _ _ (hi.cur p hc)) _
  case case2 => exact hi

theorem hinv_init (c : Cfg) (hpos : 0 < c.size) : HInv c.size (Host.init c) := by
  refine ⟨rfl, ?_, ?_, ?_⟩
  · intro p hp
    simp [Host.init] at hp; subst hp
    constructor <;> simp [mkAtts_length, sockSum_mkAtts]
    omega
  · intro p hp; simp [Host.init] at hp
  · intro hs; simp [Host.init] at hs

theorem hinv_step {n : Nat} (h h' : Host) (a : Act) (hi : HInv n h) (hs : h.step a = some h') : HInv n h' := by
  obtain rfl := hi.size
  revert hs; fun_cases Host.step h a <;> intro hs
  -- an operation of one pool, routed to the pool it is defined on
  case case1 k => exact route_inv h h' _ (pinv_ok h.cfg _ k h.nextId) hi hs           -- ok k
  case case2 k => exact route_inv h h' _ (Keeps.map (pinv_fail _ k)) hi hs            -- fail k
  case case3 => exact route_inv h h' _ (Keeps.map (pinv_stop _)) hi hs                -- stop
  case case4 k => exact route_inv h h' _ (pinv_connError _ k h.nextId) hi hs          -- err k
  case case8 => exact route_inv h h' _ (pinv_fillGo _ h.nextId) hi hs                 -- fillGo
  all_goals cases hs
  -- nothing happens: no pool is registered (fillCheck, down, pclose), or the session is closed (up)
  case case7 | case9 | case13 | case15 => exact hi
  case case18 => exact ⟨rfl, hi.cur, hi.old, hi.sess⟩                                 -- scancel
  -- Pick, addHost of a registered host: `go pool.fill()`
  case case5 | case10 => exact fillCur_inv _ hi
  case case6 p hc => exact hi.setCur hc (pinv_fillCheck _ p (hi.cur p hc)) _        -- fillCheck
  -- addHost of an unregistered host: a new pool, filled
  case case11 hns hc =>
    exact fillCur_inv _ ⟨rfl, fun q hq => by simp at hq; subst hq; exact pinv_new _, hi.old, fun hsc => absurd hsc hns⟩
  case case12 p hc | case16 p hc => exact hi.retire hc _                              -- removeHost, Session.Close
  case case14 p hc => exact hi.setCur hc (pinv_close _ p (hi.cur p hc)).1 _           -- hostConnPool.Close
  case case17 hc => exact ⟨rfl, by intro q hq; simp [hc] at hq, hi.old, fun _ => hc⟩  -- Session.Close, nothing registered

theorem isRun : IsRun Host.step Host.run := ⟨fun _ => rfl, fun g a as => by rw [Host.run]; cases g.step a <;> rfl⟩

theorem hinv_run {n : Nat} : ∀ (as : List Act) (h h' : Host), HInv n h → h.run as = some h' → HInv n h' :=
  fun _ _ _ => isRun.inv hinv_step

theorem mem_pools (h : Host) (p : Pool) (hp : p ∈ h.pools) : h.cur = some p ∨ p ∈ h.old := by
  unfold Host.pools at hp
  rcases List.mem_append.mp hp with hp | hp
  · left; split at hp <;> simp_all
  · right; exact hp

theorem HInv.pinv {n : Nat} {h : Host} (hi : HInv n h) {p : Pool} (hp : p ∈ h.pools) : PInv n p := by
  rcases mem_pools h p hp with hc | ho
  · exact hi.cur p hc
  · exact (hi.old p ho).1

theorem HInv.closed_of_sess {n : Nat} {h : Host} (hi : HInv n h) (hsc : h.sessClosed = true) {p : Pool} (hp : p ∈ h.pools) :
    PInv n p ∧ p.closed = true := by
  rcases mem_pools h p hp with hc | ho
  · rw [hi.sess hsc] at hc; cases hc
  · exact hi.old p ho

end C17Pipe
