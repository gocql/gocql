import Proofs.C08Inv
/-! C08: the step functions characterised once — the j-loop over a loaded word (`firstClear_*`, `afterLoad_cases`, `tstep_g4`),
the load of `Clear` (`clearLoad_miss`, `clearLoad_hit`), one atomic operation of a thread (`tstep_kinds`: a quiet step or
one of four effects), one action of the machine (`step_cases`) — and, from these, that every protocol-respecting action
keeps `Inv` and returns a sane value (`inv_step`, `retOk`), hence every reachable state has `Inv` (`run_induct`,
`reachable_inv`). The vocabulary of the invariants without protocol is defined here because `QuietStep` speaks of it:
`isG7`, `isC11`, `localA`, `quiet`, `nz` (and `countP_split`, which relates their counts to those of `Inv`). -/
namespace C08
open Streams

theorem firstClear_eq (b : Word) (j : Nat) :
    firstClear b j = (List.range' j (64 - j)).find? fun k => !b.getLsbD (streamOffset k) := by
  simp only [firstClear, and_mask_eq_zero]

theorem firstClear_some {b : Word} {j j' : Nat} (h : firstClear b j = some j') :
    j ≤ j' ∧ j' < 64 ∧ b.getLsbD (streamOffset j') = false := by
  obtain ⟨h1, h2, _⟩ := List.find?_range'_eq_some.mp (firstClear_eq b j ▸ h)
  rw [List.mem_range'_1] at h2
  exact ⟨h2.1, by omega, by simpa using h1⟩

theorem firstClear_skipped {b : Word} {j j' k : Nat} (h : firstClear b j = some j') (h1 : j ≤ k) (h2 : k < j') :
    b.getLsbD (streamOffset k) = true := by
  have := (List.find?_range'_eq_some.mp (firstClear_eq b j ▸ h)).2.2 k h1 h2
  rwa [Bool.not_not] at this

theorem firstClear_none {b : Word} {j : Nat} (h : firstClear b j = none) (j' : Nat) (h1 : j ≤ j') (h2 : j' < 64) :
    b.getLsbD (streamOffset j') = true := by
  have := List.find?_range'_eq_none.mp (firstClear_eq b j ▸ h) j' h1 (by omega)
  rwa [Bool.not_not] at this

theorem allOnes_bit (j : Nat) : allOnes.getLsbD (streamOffset j) = true := by
  have := streamOffset_lt j
  unfold allOnes
  rw [BitVec.getLsbD_allOnes]; simp [this]

theorem firstClear_allOnes (j : Nat) : firstClear allOnes j = none := by
  rw [firstClear_eq, List.find?_eq_none]
  intro k _; simp [allOnes_bit]

/-- The j-loop over a loaded word value `b` from bit `j` on passes set bits only and stops in front of the first
    clear bit `j2` (the CAS comes next), or runs off the word (`j2 = 64`). -/
theorem afterLoad_cases (n off i j : Nat) (b : Word) :
    ∃ j2, (∀ j', j ≤ j' → j' < j2 → b.getLsbD (streamOffset j') = true) ∧
      ((j2 < 64 ∧ b.getLsbD (streamOffset j2) = false ∧ afterLoad n off i j b = (.g5 off i j2 b, none))
        ∨ (j2 = 64 ∧ afterLoad n off i j b = nextWord n off i)) := by
  unfold afterLoad
  cases h : firstClear b j with
  | some j2 => exact ⟨j2, fun _ => firstClear_skipped h, .inl ⟨(firstClear_some h).2.1, (firstClear_some h).2.2, rfl⟩⟩
  | none => exact ⟨64, firstClear_none h, .inr ⟨rfl, rfl⟩⟩

/-- the test `bucket == MaxUint64` of the word load is a short cut: a full word runs the j-loop off the word too -/
theorem tstep_g4 (sh : Shared) (off i : Nat) :
    tstep sh (.g4 off i) = (sh, afterLoad sh.words.length off i 0 (sh.words.getD ((i + off) % sh.words.length) 0)) := by
  simp only [tstep]
  split
  · rename_i h
    rw [h, afterLoad, firstClear_allOnes]
  · rfl

def scanPc (pc : PC) : Prop := owns pc = none ∧ inClear pc = false ∧ localOk pc

theorem nextWord_spec (n off i : Nat) :
    scanPc (nextWord n off i).1 ∧ ((nextWord n off i).2 = none ∨ (nextWord n off i).2 = some (.stream 0 false)) := by
  unfold nextWord
  split <;> simp [scanPc, owns, inClear, localOk]

theorem afterLoad_spec (n off i j : Nat) (b : Word) :
    scanPc (afterLoad n off i j b).1 ∧
      ((afterLoad n off i j b).2 = none ∨ (afterLoad n off i j b).2 = some (.stream 0 false)) := by
  obtain ⟨j2, _, ⟨h64, hbit, e⟩ | ⟨_, e⟩⟩ := afterLoad_cases n off i j b <;> rw [e]
  · exact ⟨⟨rfl, rfl, hbit, h64⟩, .inl rfl⟩
  · exact nextWord_spec n off i

/-- The load of `Clear(id)` — the first one, or the re-load after a failed CAS — that sees the bit clear (or `id` is
    beyond the bitset): the call answers false, nothing changes, and this load is its linearization point. -/
theorem clearLoad_miss {sh : Shared} {id : Nat} {pc : PC} (hpc : pc = .c8 id ∨ pc = .c10 id)
    (hb : bitAt sh.words id = false) :
    tstep sh pc = (sh, .idle, some (.cleared false)) ∧ lpOf sh pc = [(.clear id, some (.cleared false))] := by
  rcases hpc with rfl | rfl
  · by_cases h : bucketOffset id < sh.words.length
    · simp only [tstep, lpOf, h, clear_test, hb, ↓reduceIte, and_self]
    · simp only [tstep, lpOf, h, ↓reduceIte, and_self]
  · simp only [tstep, lpOf, clear_test, hb, ↓reduceIte, and_self]

/-- … that sees the bit set: the CAS on the loaded value comes next -/
theorem clearLoad_hit {sh : Shared} {id : Nat} {pc : PC} (hpc : pc = .c8 id ∨ pc = .c10 id)
    (hb : bitAt sh.words id = true) :
    tstep sh pc = (sh, .c9 id (sh.words.getD (bucketOffset id) 0), none) ∧ lpOf sh pc = [] := by
  have h : bucketOffset id < sh.words.length := bitAt_lt hb
  rcases hpc with rfl | rfl <;> simp only [tstep, lpOf, h, clear_test, hb, ↓reduceIte, Bool.true_eq_false, and_self]

theorem bitAt_of_word {ws : List Word} {id : Nat} {b : Word} (h : ws.getD (bucketOffset id) 0 = b) :
    bitAt ws id = b.getLsbD (streamOffset id) := h ▸ rfl

def isG7 : PC → Bool
  | .g7 _ => true
  | _ => false
def isC11 : PC → Bool
  | .c11 _ => true
  | _ => false

/-- thread-local facts that hold without any protocol -/
def localA (n : Nat) : PC → Prop
  | .g5 _ _ j b => b.getLsbD (streamOffset j) = false ∧ j < 64
  | .g7 id => id < 64 * n
  | .c9 id b => b.getLsbD (streamOffset id) = true ∧ id / 64 < n
  | .c10 id => id / 64 < n
  | _ => True

theorem localA_ok {n : Nat} {pc : PC} (h : localA n pc) : localOk pc := by
  cases pc <;> first | exact h | trivial

def quiet (pc : PC) : Prop := isG7 pc = false ∧ isC11 pc = false

/-- the ids a thread is handing out / clearing are not the reserved id -/
def nz : PC → Prop
  | .g7 id => id ≠ 0
  | .c8 id => id ≠ 0
  | .c9 id _ => id ≠ 0
  | .c10 id => id ≠ 0
  | _ => True

theorem scanPc_spec {pc : PC} (h : scanPc pc) (n : Nat) : quiet pc ∧ localA n pc ∧ nz pc := by
  obtain ⟨ho, hc, hl⟩ := h
  cases pc <;> first | exact ⟨⟨rfl, rfl⟩, hl, trivial⟩ | contradiction

/-- An atomic operation with result `res` that touches neither the bitset nor the counter: it goes from a quiet pc to
    a quiet pc, carries the thread-local facts along, and either stays inside what the thread is doing (same owned id,
    nothing linearized, no answer but `0, false` or `Available`) or is the load of a `Clear(id)` that sees the bit
    clear (or `id` beyond the capacity): the call answers false, and that load is its linearization point. -/
structure QuietStep (sh : Shared) (pc : PC) (res : Shared × PC × Option Ret) : Prop where
  words : res.1.words = sh.words
  inuse : res.1.inuse = sh.inuse
  src : quiet pc
  dst : quiet res.2.1
  ok : localOk res.2.1
  loc : localA sh.words.length pc → localA sh.words.length res.2.1
  nz : nz pc → nz res.2.1
  kind : (owns res.2.1 = owns pc ∧ inClear res.2.1 = inClear pc ∧ lpOf sh pc = [] ∧
      (res.2.2 = none ∨ res.2.2 = some (.stream 0 false) ∨ res.2.2 = some (.avail (available sh))))
    ∨ ∃ id, owns pc = some id ∧ bitAt sh.words id = false ∧ lpOf sh pc = [(.clear id, some (.cleared false))] ∧
        res.2.2 = some (.cleared false)

/-- What ONE atomic operation of a thread can be: a quiet step, or one of the four that change bitset or counter — the
    successful CAS of `GetStream` (`acquire`), its add (`ret`), the successful CAS of `Clear` (`release`), its add
    (`decrement`). For the two CAS: the `tstep` equation and the linearized pair `lpOf` (for the adds `tstep` reduces by
    `rfl`, `lpOf` is `[]`). -/
inductive Kind (sh : Shared) : PC → Prop
  | quiet {pc : PC} (hq : QuietStep sh pc (tstep sh pc)) : Kind sh pc
  | acquire {off i j : Nat} {b : Word} (id : Nat) (hlt : id < 64 * sh.words.length) (hfree : bitAt sh.words id = false)
      (hlp : lpOf sh (.g5 off i j b) = [(.get, some (.stream id true))])
      (e : tstep sh (.g5 off i j b) = ({ sh with words := setBit sh.words id }, .g7 id, none)) : Kind sh (.g5 off i j b)
  | ret (id : Nat) : Kind sh (.g7 id)
  | release (id : Nat) {b : Word} (h : sh.words.getD (bucketOffset id) 0 = b)
      (hlp : lpOf sh (.c9 id b) = [(.clear id, some (.cleared true))])
      (e : tstep sh (.c9 id b) = ({ sh with words := clrBit sh.words id }, .c11 id, none)) : Kind sh (.c9 id b)
  | decrement (id : Nat) : Kind sh (.c11 id)

/-- every atomic operation, in a state with a word and at a pc whose local fact holds, is of one of these kinds -/
theorem tstep_kinds (sh : Shared) (pc : PC) (hn : 0 < sh.words.length) (hloc : localOk pc) : Kind sh pc := by
  have scan : ∀ {pc' r}, scanPc pc → lpOf sh pc = [] → tstep sh pc = (sh, pc', r) → scanPc pc' →
      (r = none ∨ r = some (.stream 0 false)) → QuietStep sh pc (tstep sh pc) := fun hs hlp e hs' hr => by
    rw [e]
    exact ⟨rfl, rfl, (scanPc_spec hs 0).1, (scanPc_spec hs' 0).1, hs'.2.2, fun _ => (scanPc_spec hs' _).2.1,
      fun _ => (scanPc_spec hs' 0).2.2,
      .inl ⟨hs'.1.trans hs.1.symm, hs'.2.1.trans hs.2.1.symm, hlp, hr.elim .inl fun h => .inr (.inl h)⟩⟩
  have clr : ∀ id, pc = .c8 id ∨ pc = .c10 id → QuietStep sh pc (tstep sh pc) := fun id hpc => by
    cases hb : bitAt sh.words id
    · obtain ⟨e, hlp⟩ := clearLoad_miss hpc hb
      rw [e]
      rcases hpc with rfl | rfl <;> exact ⟨rfl, rfl, ⟨rfl, rfl⟩, ⟨rfl, rfl⟩, trivial, fun _ => trivial, fun _ => trivial,
        .inr ⟨id, rfl, hb, hlp, rfl⟩⟩
    · obtain ⟨e, hlp⟩ := clearLoad_hit hpc hb
      rw [e]
      rcases hpc with rfl | rfl <;> exact ⟨rfl, rfl, ⟨rfl, rfl⟩, ⟨rfl, rfl⟩, trivial, fun _ => ⟨hb, bitAt_lt hb⟩, fun h => h,
        .inl ⟨rfl, rfl, hlp, .inl rfl⟩⟩
  cases pc with
  | idle | g1 | g3 => exact .quiet (scan ⟨rfl, rfl, trivial⟩ rfl rfl ⟨rfl, rfl, trivial⟩ (.inl rfl))
  | a12 =>
    exact .quiet ⟨rfl, rfl, ⟨rfl, rfl⟩, ⟨rfl, rfl⟩, trivial, fun _ => trivial, fun _ => trivial,
      .inl ⟨rfl, rfl, rfl, .inr (.inr rfl)⟩⟩
  | g2 o =>
    refine .quiet ?_
    simp only [tstep]
    split <;> exact ⟨rfl, rfl, ⟨rfl, rfl⟩, ⟨rfl, rfl⟩, trivial, fun _ => trivial, fun _ => trivial,
      .inl ⟨rfl, rfl, rfl, .inl rfl⟩⟩
  | g4 off i =>
    have hs := afterLoad_spec sh.words.length off i 0 (sh.words.getD ((i + off) % sh.words.length) 0)
    exact .quiet (scan ⟨rfl, rfl, trivial⟩ rfl (tstep_g4 sh off i) hs.1 hs.2)
  | g6 off i j =>
    exact .quiet (scan ⟨rfl, rfl, trivial⟩ rfl rfl (afterLoad_spec _ _ _ _ _).1 (afterLoad_spec _ _ _ _ _).2)
  | g5 off i j b =>
    by_cases h : sh.words.getD ((i + off) % sh.words.length) 0 = b
    · have hpos : (i + off) % sh.words.length < sh.words.length := Nat.mod_lt _ hn
      refine .acquire (streamFromBucket ((i + off) % sh.words.length) j) ?_ ?_ ?_ ?_
      · have := hloc.2; unfold streamFromBucket; omega
      · exact (bitAt_word _ _ _ hloc.2).trans (h ▸ hloc.1)
      · simp only [lpOf, h, ↓reduceIte]
      · simp only [tstep, h, ↓reduceIte, streamFromBucket]
        rw [setBit_word _ _ _ hloc.2, h]
    · exact .quiet (scan (pc' := .g6 off i j) ⟨rfl, rfl, hloc⟩ (by simp only [lpOf, h, ↓reduceIte])
        (by simp only [tstep, h, ↓reduceIte]) ⟨rfl, rfl, trivial⟩ (.inl rfl))
  | g7 id => exact .ret id
  | c8 id => exact .quiet (clr id (.inl rfl))
  | c10 id => exact .quiet (clr id (.inr rfl))
  | c9 id b =>
    by_cases h : sh.words.getD (bucketOffset id) 0 = b
    · subst h
      exact .release id rfl (by simp only [lpOf, ↓reduceIte]) (by simp only [tstep, ↓reduceIte]; rfl)
    · refine .quiet ?_
      rw [show tstep sh (.c9 id b) = (sh, .c10 id, none) by simp only [tstep, h, ↓reduceIte]]
      exact ⟨rfl, rfl, ⟨rfl, rfl⟩, ⟨rfl, rfl⟩, trivial, fun h => h.2, fun h => h,
        .inl ⟨rfl, rfl, by simp only [lpOf, h, ↓reduceIte], .inl rfl⟩⟩
  | c11 id => exact .decrement id

theorem tstep_stream {sh : Shared} {pc : PC} {id : Nat} (h : (tstep sh pc).2.2 = some (.stream id true)) : pc = .g7 id := by
  have scan : ∀ off i j, (afterLoad sh.words.length off i j (sh.words.getD ((i + off) % sh.words.length) 0)).2 ≠
      some (.stream id true) := fun off i j h => by
    rcases (afterLoad_spec _ off i j _).2 with e | e <;> rw [e] at h <;> cases h
  cases pc with
  | g7 x => cases h; rfl
  | g4 off i => rw [tstep_g4] at h; exact absurd h (scan off i 0)
  | g6 off i j => exact absurd h (scan off i j)
  | _ =>
    -- the other pcs answer nothing, `Clear`'s answers, or `Available`'s: every branch of their `if`s
    revert h
    simp only [tstep]
    (repeat' split) <;> simp

/-- what a returned value may be in a protocol-respecting run -/
def retOk (sh : Shared) : Option Ret → Prop
  | some (.stream id true) => 1 ≤ id ∧ id < 64 * sh.words.length
  | some (.stream id false) => id = 0
  | some (.cleared b) => b = true
  | some (.avail v) => v = available sh
  | some .crashIndex => False
  | some .crashNegative => False
  | none => True

theorem exec_noget (s : State) (t : Nat) (pc : PC) (held : List Nat)
    (h : ∀ id, (tstep s.sh pc).2.2 ≠ some (.stream id true)) :
    exec s t pc held =
      ({ sh := (tstep s.sh pc).1, threads := s.threads.set t (tstep s.sh pc).2.1, held := held }, (tstep s.sh pc).2.2) := by
  dsimp only [exec]
  split
  · next id hr => exact absurd hr (h id)
  · rfl

theorem inv_exec {s : State} (hI : Inv s) {t : Nat} {pc : PC} (ht : s.threads[t]? = some pc) :
    Inv (exec s t pc s.held).1 ∧ retOk s.sh (exec s t pc s.held).2 := by
  cases tstep_kinds s.sh pc hI.npos (hI.locals t pc ht) with
  | quiet hq =>
    rcases hq.kind with ⟨ho, hc, _, hr⟩ | ⟨id, ho, hb, _⟩
    · rw [exec_noget _ _ _ _ (by rcases hr with h | h | h <;> simp [h])]
      refine ⟨inv_local hI ht _ hq.words hq.inuse ho hc hq.ok, ?_⟩
      rcases hr with h | h | h <;> rw [h] <;> first | trivial | rfl
    · -- a miss of `Clear(id)`, but the caller holds the id: its bit is set
      rw [(hI.ownOk t pc id ht ho).2.2.1] at hb; cases hb
  | acquire id hlt hfree _ e =>
    rw [exec_noget _ _ _ _ (by simp [e]), e]
    exact ⟨inv_acquire hI ht rfl rfl hlt hfree, trivial⟩
  | ret id =>
    obtain ⟨a1, a2, _⟩ := hI.ownOk t _ id ht rfl
    exact ⟨inv_return hI ht, a1, a2⟩
  | release id _ _ e =>
    rw [exec_noget _ _ _ _ (by simp [e]), e]
    exact ⟨inv_release hI ht, trivial⟩
  | decrement id =>
    obtain ⟨h1, h2⟩ := inv_decrement hI ht
    have e : tstep s.sh (.c11 id) = ({ s.sh with inuse := s.sh.inuse - 1 }, .idle, some (.cleared true)) := by
      simp only [tstep, h2, ↓reduceIte]
    rw [exec_noget _ _ _ _ (by simp [e]), e]
    exact ⟨h1, rfl⟩

theorem tstep_length (sh : Shared) (pc : PC) : (tstep sh pc).1.words.length = sh.words.length := by
  -- every branch of `tstep` returns `sh`, or `sh` with a field other than `words` changed, or `words.set _ _`
  fun_cases tstep sh pc <;> simp

/-- `exec` only looks at the shared state and at the slot `t` it overwrites -/
theorem exec_congr (s : State) (t : Nat) (pc x : PC) (held held' : List Nat) :
    exec { sh := s.sh, threads := s.threads.set t x, held := held' } t pc held = exec s t pc held := by
  simp [exec, List.set_set]

/-- every enabled action is ONE `tstep` of some thread `t` (a call first moves the idle thread to `startPC op`
    and, for `Clear(id)`, takes `id` out of the held list); its event and its linearized pair are those of the pc -/
theorem step_cases {s s' : State} {a : Action} {r : Option Ret} (hs : step s a = some (s', r)) :
    ∃ t pc0 pc held, s.threads[t]? = some pc0 ∧ s' = (exec s t pc held).1 ∧ r = (tstep s.sh pc).2.2 ∧
      evOf s a = evOfPC pc ∧ linOf s a = lpOf s.sh pc ∧
      ((∃ op, a = .start t op ∧ pc0 = .idle ∧ pc = startPC op ∧
          held = match op with | .clear id => s.held.erase id | _ => s.held)
        ∨ (a = .step t ∧ pc0 = pc ∧ pc ≠ .idle ∧ held = s.held)) := by
  revert hs
  fun_cases step s a <;> intro hs <;> cases hs
  case case1 t op hidle => exact ⟨t, _, _, _, hidle, rfl, rfl, by cases op <;> rfl, rfl, .inl ⟨op, rfl, rfl, rfl, rfl⟩⟩
  case case4 t pc hpc hne =>
    exact ⟨t, _, _, _, hpc, rfl, rfl, by simp only [evOf, hpc], by simp only [linOf, hpc], .inr ⟨rfl, rfl, hne, rfl⟩⟩

theorem inv_step {s s' : State} {a : Action} {r : Option Ret} (hI : Inv s) (hl : legal s a = true)
    (hs : step s a = some (s', r)) : Inv s' ∧ retOk s.sh r := by
  obtain ⟨t, pc0, pc, held, ht, rfl, rfl, _, _, ⟨op, rfl, rfl, rfl, rfl⟩ | ⟨rfl, rfl, _, rfl⟩⟩ := step_cases hs
  · -- the call itself, then the first atomic operation
    have key : ∀ held, Inv { sh := s.sh, threads := s.threads.set t (startPC op), held := held } →
        Inv (exec s t (startPC op) held).1 ∧ retOk s.sh (tstep s.sh (startPC op)).2.2 := fun held h1 => by
      have h2 := inv_exec h1 (getElem?_set_of _ ht)
      rwa [exec_congr] at h2
    cases op with
    | clear id => exact key _ (inv_call_clear hI ht (by simpa [legal] using hl))
    | get => exact key _ (inv_local hI ht s.sh rfl rfl rfl rfl trivial)
    | avail => exact key _ (inv_local hI ht s.sh rfl rfl rfl rfl trivial)
  · exact inv_exec hI ht

theorem step_length {s s' : State} {a : Action} {r : Option Ret} (hs : step s a = some (s', r)) :
    s'.sh.words.length = s.sh.words.length ∧ s'.threads.length = s.threads.length := by
  obtain ⟨t, _, pc, held, _, rfl, _⟩ := step_cases hs
  exact ⟨by simp only [exec]; exact tstep_length s.sh pc, by simp [exec]⟩

theorem run_induct {P : State → Prop}
    (hstep : ∀ s a s' r, P s → legal s a = true → step s a = some (s', r) → P s') (as : List Action) (s s' : State)
    (hP : P s) (h : run s as = some s') : P s' := by
  fun_induction run s as with
  | case1 s => cases h; exact hP
  | case2 s a as hl s1 r hs ih => exact ih (hstep _ _ _ _ hP hl hs) h
  | case3 | case4 => cases h

/-- a state reached by some schedule from `New` with `n` words and `k` threads -/
def Reachable (n k : Nat) (s : State) : Prop := ∃ as, run (initState n k) as = some s

theorem reachable_inv {n k : Nat} (hn : 0 < n) {s : State} (h : Reachable n k s) :
    Inv s ∧ s.sh.words.length = n := by
  obtain ⟨as, h⟩ := h
  exact run_induct (P := fun s => Inv s ∧ s.sh.words.length = n)
    (fun _ _ _ _ hP hl hs => ⟨(inv_step hP.1 hl hs).1, (step_length hs).1.trans hP.2⟩) as _ _
    ⟨inv_init n k hn, length_init n⟩ h

theorem countP_split (l : List PC) :
    l.countP isOwner + l.countP isC11 = l.countP inClear + l.countP isG7 := by
  induction l with
  | nil => rfl
  | cons pc l ih =>
    -- per pc: `g7` counts on both sides as owner / `isG7`, `c8`–`c10` as owner / `inClear`, `c11` as `isC11` / `inClear`
    cases pc <;> simp [List.countP_cons, isOwner, owns, isC11, inClear, isG7] <;> omega

end C08
