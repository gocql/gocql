import Proofs.C07Batch
/-!
  Refinement between the two writer machines of `Model/Writer.lean`, as far as the BYTE STREAM is concerned, in both
  directions (`sim_run`, `sim'_run`). The relation also says how many bytes of each frame are out, so what is proved about
  wire, semaphore and control states of the direct writer is inherited by every machine (`Proofs/C07Inv.lean`).
-/
namespace Writer

/-- the actions that matter for the wire of the direct writer: a request arrives, its Write begins, bytes, the Write ends -/
def Act.isWire : Act → Bool
  | .submit _ | .enter _ | .piece _ _ | .endWrite _ _ => true
  | _ => false

def wireActs (as : List Act) : List Act := as.filter Act.isWire

/-- the same machine with the direct writer -/
def Cfg.direct (cfg : Cfg) : Cfg := { cfg with coalesce := false }

/-- control state of a writer in the abstract (direct) machine, as determined by the concrete one: not yet arrived /
    arrived and its Write has not begun (waiting for the semaphore, for the hand-over, enqueued, in a batch) / inside the
    Write with `off` bytes out; once the concrete writer has left the select or its Write has ended, as many bytes out.
    `Sim'` uses it the other way round, with the direct machine on the left, where `queued` does not occur. -/
def posRel (c d : Pc) : Prop :=
  match c with
  | .idle => d = .idle
  | .waiting => d = .waiting
  | .queued => d = .waiting
  | .inWrite off => d = .inWrite off
  | p => d.sent = p.sent

theorem posRel.sent {c d : Pc} (h : posRel c d) : d.sent = c.sent := by
  -- before its Write has ended the relation determines `d`; afterwards it is this equation
  cases c <;> first | exact h | (have e : d = _ := h; subst e; rfl)

structure Sim (c d : St) : Prop where
  wire : d.wire = c.wire
  owner : d.owner = c.owner
  open_ : c.closed = false → d.closed = false
  pcs : ∀ w, posRel (c.pc w) (d.pc w)

theorem Sim.at {c d : St} {x : Nat} {p : Pc} (h : Sim c d) (e : c.pc x = p) : posRel p (d.pc x) := e ▸ h.pcs x

theorem sim_init : Sim init init := ⟨rfl, rfl, id, fun _ => rfl⟩

theorem posRel_left {c d : Nat → Pc} (h : ∀ w, posRel (c w) (d w)) {x : Nat} {v : Pc} (hv : posRel v (d x)) :
    ∀ w, posRel (setPc c x v w) (d w) :=
  forall_update' (P := fun w (p : Pc) => posRel p (d w)) hv fun w _ => h w

theorem posRel_both {c d : Nat → Pc} (h : ∀ w, posRel (c w) (d w)) {x : Nat} {v v' : Pc} (hv : posRel v v') :
    ∀ w, posRel (setPc c x v w) (setPc d x v' w) :=
  forall_update' (P := fun w (p : Pc) => posRel p (setPc d x v' w)) (by rw [setPc_same]; exact hv)
    fun w e => by rw [setPc_other e]; exact h w

theorem run_one {cfg : Cfg} {s s' : St} {a : Act} (h : Step cfg s a s') : run cfg s [a] = some s' :=
  (isRun cfg).cons_iff.mpr ⟨s', h.to_step, rfl⟩

/-- an action that does not touch the socket leaves the other machine where it is -/
theorem sim_stutter {cfg : Cfg} {c c' d : St} {a : Act} (h : Sim c d) (ha : a.isWire = false)
    (hs : step cfg c a = some c') : Sim c' d := by
  have ⟨hw, ho, hop, hp⟩ := h
  cases Step.of_step hs with
  | submit _ | enter _ | piece _ _ | endWrite _ _ => cases ha
  | enqueue hg => exact ⟨hw, ho, hop, posRel_left hp (h.at hg.2.1 : posRel .waiting _)⟩
  | cancel hx | retCancelled hx | retOk hx | retFailed hx => exact ⟨hw, ho, hop, posRel_left hp (h.at hx).sent⟩
  | quit hg =>
    exact ⟨hw, ho, hop, hg.elim (fun h1 => posRel_left hp (h.at h1.2).sent) fun h2 => posRel_left hp (h.at h2.2.1).sent⟩
  | close hx => exact ⟨hw, ho, hop, posRel_left hp (by split <;> exact (h.at hx).sent)⟩
  | closeFinish hx _ => exact ⟨hw, ho, nofun, posRel_left hp (h.at hx).sent⟩
  | shutdown => exact ⟨hw, ho, nofun, hp⟩
  | _ => exact ⟨hw, ho, hop, hp⟩

/-- one step of the concrete machine (either writer) is matched by its projection on the direct machine: an action on the
    wire by the same action, any other by the empty schedule -/
theorem sim_step (cfg : Cfg) (c c' d : St) (a : Act) (hb : Batch cfg c) (h : Sim c d) (hs : step cfg c a = some c') :
    ∃ d', run cfg.direct d (wireActs [a]) = some d' ∧ Sim c' d' := by
  have ⟨hw, ho, hop, hp⟩ := h
  cases Step.of_step hs with
  | submit hx => exact ⟨_, run_one (.submit (h.at hx)), hw, ho, hop, posRel_both hp rfl⟩
  | @enter x hg =>
    have hd : d.pc x = .waiting := hg.2.elim (fun h1 => h.at h1.2) fun h2 => h.at h2.2.1
    exact ⟨_, run_one (.enter ⟨fun hser => ho.trans (hg.1 hser), .inl ⟨rfl, hd⟩⟩), hw, rfl, hop, posRel_both hp rfl⟩
  | piece hx hg =>
    exact ⟨_, run_one (.piece (h.at hx) ⟨hg.1, hg.2.1, hop hg.2.2⟩), congrArg (· ++ _) hw, ho, hop, posRel_both hp rfl⟩
  | @endWrite x ok off hx hg =>
    refine ⟨_, run_one (.endWrite (h.at hx) hg), hw, rfl, hop, posRel_both (fun w => ?_) rfl⟩
    split
    · by_cases hm : w ∈ c.todo
      · -- failed with its batch: it was `queued`, so in the direct machine it waits for the semaphore, nothing out
        rw [setMany_mem hm]; exact (h.at ((hb.queued w).mpr (.inr hm))).sent
      · rw [setMany_not_mem hm]; exact hp w
    · exact hp w
  | _ => exact ⟨d, rfl, sim_stutter ⟨hw, ho, hop, hp⟩ rfl hs⟩

theorem wireActs_eq_flatMap (as : List Act) : wireActs as = as.flatMap fun a => wireActs [a] := by
  induction as with
  | nil => rfl
  | cons a as ih => rw [List.flatMap_cons, ← ih]; exact List.filter_append [a] as

theorem sim_run (cfg : Cfg) (as : List Act) (c c' d : St) (hb : Batch cfg c) (h : Sim c d) (hr : run cfg c as = some c') :
    ∃ d', run cfg.direct d (wireActs as) = some d' ∧ Sim c' d' :=
  have ⟨d', hd, _, h'⟩ := wireActs_eq_flatMap as ▸ (isRun cfg).sim (isRun _) (R := fun c d => Batch cfg c ∧ Sim c d)
    (fun c c' d a ⟨hb, h⟩ hs => have ⟨d', hd, h'⟩ := sim_step cfg c c' d a hb h hs
      ⟨d', hd, batch_step cfg c c' a hb hs, h'⟩) ⟨hb, h⟩ hr
  ⟨d', hd, h'⟩

def Cfg.coalescing (cfg : Cfg) : Cfg := { cfg with coalesce := true }

/-- `enter w` of the direct writer = the flusher receives the request, its timer fires, the Write of the (only) buffer of
    the batch begins -/
def coActs : Act → List Act
  | .submit w => [.submit w]
  | .enter w => [.enqueue w, .tick, .enter w]
  | .piece w k => [.piece w k]
  | .endWrite w ok => [.endWrite w ok]
  | _ => []

/-- `Sim` the other way round, and the coalescing machine is at its select whenever the semaphore of the direct machine is
    free: nothing queued, no batch -/
structure Sim' (d c : St) : Prop where
  sim : Sim d c
  todo : c.todo = []
  queue : c.queue = []
  gone : c.gone = false
  fl : c.owner = none → c.flushing = false

theorem sim'_init : Sim' init init := ⟨sim_init, rfl, rfl, rfl, fun _ => rfl⟩

theorem sim'_step (cfg : Cfg) (hser : cfg.serialised = true) (hc : cfg.coalesce = false) (d d' c : St) (a : Act) (h : Sim' d c)
    (hs : step cfg d a = some d') : ∃ c', run cfg.coalescing c (coActs a) = some c' ∧ Sim' d' c' := by
  have ⟨⟨hw, ho, hop, hp⟩, htd, hqu, hgo, hfl⟩ := h
  cases Step.of_step hs with
  | submit hx =>
    exact ⟨_, run_one (.submit (h.sim.at hx)), ⟨hw, ho, hop, posRel_both hp rfl⟩, htd, hqu, hgo, hfl⟩
  | @enter x hg =>
    have hcw : c.pc x = .waiting := hg.2.elim (fun h1 => h.sim.at h1.2) fun h2 => absurd h2.1 (ne_true_of_eq_false hc)
    have hfree : c.owner = none := ho.trans (hg.1 hser)
    have hflf := hfl hfree
    have h1 := (Step.enqueue (cfg := cfg.coalescing) ⟨rfl, hcw, hflf, hgo⟩).to_step
    have h2 := (Step.tick (cfg := cfg.coalescing) (s := { c with pc := setPc c.pc x .queued, queue := c.queue ++ [x] })
      ⟨rfl, hflf, by simp, hgo⟩).to_step
    have h3 := (Step.enter (cfg := cfg.coalescing) (w := x)
      (s := { c with pc := setPc c.pc x .queued, flushing := true, todo := c.queue ++ [x], queue := [] })
      ⟨fun _ => hfree, .inr ⟨rfl, setPc_same, rfl, by simp⟩⟩).to_step
    exact ⟨_, (isRun _).cons_iff.mpr ⟨_, h1, (isRun _).cons_iff.mpr ⟨_, h2, (isRun _).cons_iff.mpr ⟨_, h3, rfl⟩⟩⟩,
      ⟨hw, rfl, hop,
        forall_update' (P := fun w (p : Pc) => posRel p (setPc (setPc c.pc x .queued) x (.inWrite 0) w)) (by rw [setPc_same]; rfl)
          fun w e => by rw [setPc_other e, setPc_other e]; exact hp w⟩,
      by simp [hqu], rfl, hgo, nofun⟩
  | piece hx hg =>
    exact ⟨_, run_one (.piece (h.sim.at hx) ⟨hg.1, hg.2.1, hop hg.2.2⟩), ⟨congrArg (· ++ _) hw, ho, hop, posRel_both hp rfl⟩,
      htd, hqu, hgo, hfl⟩
  | @endWrite x ok off hx hg =>
    refine ⟨_, run_one (.endWrite (h.sim.at hx) hg), ⟨hw, rfl, hop, posRel_both (fun w => ?_) rfl⟩, ?_, hqu, hgo, fun _ => ?_⟩
    · -- nothing is behind the buffer in a batch of one, and the direct writer has no batch
      rw [htd, setMany_nil]
      simp only [hc, Bool.false_and, Bool.false_eq_true, if_false, ite_self]
      exact hp w
    · simp [htd]
    · simp [htd, Cfg.coalescing]
  | _ => exact ⟨c, rfl, sim_stutter ⟨hw, ho, hop, hp⟩ rfl hs, htd, hqu, hgo, hfl⟩

theorem sim'_run (cfg : Cfg) (hser : cfg.serialised = true) (hc : cfg.coalesce = false) (as : List Act) (d d' c : St)
    (h : Sim' d c) (hr : run cfg d as = some d') :
    ∃ c', run cfg.coalescing c (as.flatMap coActs) = some c' ∧ Sim' d' c' :=
  (isRun cfg).sim (isRun _) (sim'_step cfg hser hc) h hr

end Writer
