import Model.Placement
import Proofs.C10Lookup
/-!
The ordered partitioner.  Go's string order, the hexadecimal rendering is strictly monotone for it,
`sort.Search` depends only on the predicate's values, binary search = first token ≥ key on a ring ascending by bytes
(`C10Lookup.sortSearch_findIdx` with `lexLt` as the order).
-/
namespace C10Ordered
open Placement C10Lookup

theorem lexLt_cons (a b : Nat) (as bs : List Nat) :
    lexLt (a :: as) (b :: bs) = true ↔ a < b ∨ (a = b ∧ lexLt as bs = true) := by
  simp [lexLt]

theorem lexLt_nil_right (a : List Nat) : lexLt a [] = false := by cases a <;> rfl

theorem lexLt_iff_lt : ∀ a b : List Nat, lexLt a b = true ↔ a < b
  | _, [] => by simp [lexLt]
  | [], _ :: _ => by simp [lexLt]
  | a :: as, b :: bs => by
    rw [List.cons_lt_cons_iff, ← lexLt_iff_lt as bs]; simp [lexLt]

theorem lexLt_trans (a b c : List Nat) (h1 : lexLt a b = true) (h2 : lexLt b c = true) : lexLt a c = true :=
  (lexLt_iff_lt a c).mpr (List.lt_trans ((lexLt_iff_lt a b).mp h1) ((lexLt_iff_lt b c).mp h2))

theorem lexLt_asymm (a b : List Nat) (h : lexLt a b = true) : lexLt b a = false :=
  Bool.not_eq_true _ ▸ fun hba => List.lt_asymm ((lexLt_iff_lt a b).mp h) ((lexLt_iff_lt b a).mp hba)

theorem hexDigit_lt (x y : Nat) (hx : x < 16) (hy : y < 16) : Spec.hexDigit x < Spec.hexDigit y ↔ x < y := by
  unfold Spec.hexDigit; split <;> split <;> omega

theorem hexDigit_eq (x y : Nat) (hx : x < 16) (hy : y < 16) : Spec.hexDigit x = Spec.hexDigit y ↔ x = y := by
  unfold Spec.hexDigit; split <;> split <;> omega

def IsBytes (l : List Nat) : Prop := ∀ x ∈ l, x < 256

theorem hex_lexLt : ∀ a b : List Nat, IsBytes a → IsBytes b →
    (lexLt (Spec.hexOf a) (Spec.hexOf b) = true ↔ lexLt a b = true)
  | a, [], _, _ => by simp [Spec.hexOf, lexLt_nil_right]
  | [], b :: bs, _, _ => by simp [Spec.hexOf, lexLt]
  | a :: as, b :: bs, ha, hb => by
    have ha' : a < 256 := ha a (by simp)
    have hb' : b < 256 := hb b (by simp)
    have ih := hex_lexLt as bs (fun x hx => ha x (by simp [hx])) (fun x hx => hb x (by simp [hx]))
    simp only [Spec.hexOf]
    rw [lexLt_cons, lexLt_cons, lexLt_cons, ih]
    rw [hexDigit_lt _ _ (by omega) (by omega), hexDigit_eq _ _ (by omega) (by omega),
      hexDigit_lt _ _ (by omega) (by omega), hexDigit_eq _ _ (by omega) (by omega)]
    -- a byte is its two nibbles in order: the first bytes compare as the pairs (high nibble, low nibble)
    constructor
    · rintro (h | ⟨h1, h | ⟨h2, h3⟩⟩)
      · left; omega
      · left; omega
      · right; exact ⟨by omega, h3⟩
    · rintro (h | ⟨h1, h3⟩)
      · by_cases hq : a / 16 < b / 16
        · left; exact hq
        · right; exact ⟨by omega, Or.inl (by omega)⟩
      · right; exact ⟨by omega, Or.inr ⟨by omega, h3⟩⟩

theorem searchLoop_congr (f g : Nat → Bool) (n : Nat) (h : ∀ i, i < n → f i = g i) :
    ∀ fuel i j, j ≤ n → searchLoop f fuel i j = searchLoop g fuel i j := by
  intro fuel
  induction fuel with
  | zero => intro i j _; rfl
  | succ fuel ih =>
    intro i j hj
    unfold searchLoop
    by_cases hlt : i < j
    · simp only [hlt, if_true]
      rw [h ((i + j) / 2) (by omega), ih _ _ hj, ih _ _ (by omega)]
    · simp [hlt]

theorem sortSearch_congr (f g : Nat → Bool) (n : Nat) (h : ∀ i, i < n → f i = g i) :
    sortSearch n f = sortSearch n g :=
  searchLoop_congr f g n h n 0 n (Nat.le_refl _)

def SortedO {β : Type} (l : List (List Nat × β)) : Prop := l.Pairwise (fun a b => lexLt a.1 b.1 = true)

theorem oTokAt_eq {β : Type} (l : List (List Nat × β)) (i : Nat) (h : i < l.length) : oTokAt l i = l[i].1 := by
  simp [oTokAt, List.getElem?_eq_getElem h]

/-- on a ring ascending by token, `GetHostForToken`'s index = first token ≥ t, else 0 -/
theorem lookupIdxO_eq {β : Type} (l : List (List Nat × β)) (t : List Nat) (hs : SortedO l) :
    lookupIdxO l t = Spec.ownerIdxO l t := by
  unfold lookupIdxO Spec.ownerIdxO
  have := sortSearch_findIdx l (fun e => !lexLt e.1 t) (fun i => !(lexLt (oTokAt l i) t))
    (by intro i h; simp only [oTokAt_eq l i h])
    (by
      intro a b hab hb ha
      have hlt := (List.pairwise_iff_getElem.mp hs) a b (by omega) hb hab
      cases hbt : lexLt l[b].1 t with
      | false => rfl
      | true =>
        have := lexLt_trans _ _ _ hlt hbt
        simp only [this] at ha
        cases ha)
  simp only [this]
  exact wrap_eq _ _

def rendered (ring : List OEntry) : List OEntry := ring.map (fun e => (Spec.hexOf e.1, e.2))

theorem lookupIdxO_rendered (ring : List OEntry) (key : List Nat)
    (hag : ∀ e ∈ ring, lexLt (Spec.hexOf e.1) key = lexLt e.1 key) :
    lookupIdxO (rendered ring) key = lookupIdxO ring key := by
  unfold lookupIdxO rendered
  rw [List.length_map]
  rw [sortSearch_congr _ (fun i => !(lexLt (oTokAt ring i) key)) ring.length]
  intro i hi
  have h1 : oTokAt (ring.map (fun e => (Spec.hexOf e.1, e.2))) i = Spec.hexOf ring[i].1 := by
    simp [oTokAt, List.getElem?_eq_getElem hi]
  rw [h1, oTokAt_eq ring i hi, hag _ (List.getElem_mem hi)]

theorem sortO_of_sorted (l : List OEntry) (hs : SortedO l) : l.foldr insertEntryO [] = l :=
  foldr_ins_of_pairwise insertEntryO (fun e x => (!lexLt x.1 e.1) = true) (fun _ => rfl) (fun _ _ _ => rfl) l
    (hs.imp (fun h => by rw [lexLt_asymm _ _ h]; rfl))

theorem sortedO_rendered (ring : List OEntry) (hs : SortedO ring) (hb : ∀ e ∈ ring, IsBytes e.1) :
    SortedO (rendered ring) := by
  unfold SortedO rendered at *
  rw [List.pairwise_map]
  exact hs.imp_of_mem (fun ha hb' h => (hex_lexLt _ _ (hb _ ha) (hb _ hb')).mpr h)

end C10Ordered
