import Model.TlsAuthSess
import Model.TlsAuthDial
import Model.TlsAuthHist
import Proofs.C20Auth
/-! Runs of attempts over one shared object: the connections of a session over its `*ConnConfig` (`sessRun`), the dials
    of a dialer over its `*tls.Config` (`dialSeq`), the sessions of a process over whatever a derivation keeps
    (`histRun`), the `Challenge` calls over the buffers handed out (`chalRun`).  One idea each time: a step that only
    reads the shared object (or puts its result where no earlier one is) makes the run the `map` of the single
    attempts; the variants that write (`initPinned`, `wrapPinned`, `deriveCached`, `placePooled`) are the
    counterexamples of `Proofs/C20.lean`. -/
namespace TlsAuth

/-! ### connections of one session (`Model/TlsAuthSess.lean`) -/

/-- a `Conn.init` that leaves THIS configuration object alone makes every connection of the session a function of
    the configuration, the host and the node's answers alone (the object never becomes another one, so nothing is
    asked of `init` on other configurations) -/
theorem sessRun_readonly (init : AuthCfg → Nat → List SFrame → AuthCfg × Trace) (cfg : AuthCfg)
    (hro : ∀ h fs, (init cfg h fs).1 = cfg) (ds : List Dial) :
    sessRun init cfg ds = ds.map (fun d => (init cfg d.host d.fs).2) ∧ sessFinal init cfg ds = cfg := by
  induction ds with
  | nil => exact ⟨rfl, rfl⟩
  | cons d ds ih =>
    have hs : (sessStep init cfg d).1 = cfg := by
      simp only [sessStep]
      cases d.via <;> simp [hro]
    simp only [sessRun, sessFinal, hs, List.map_cons]
    exact ⟨by rw [ih.1]; rfl, ih.2⟩

theorem firstToken_mem (l : List Sent) (t : List UInt8) (h : firstToken l = some t) : Sent.authResponse t ∈ l := by
  fun_induction firstToken l <;> simp_all

theorem observe_connect_node (cfg : AuthCfg) (host : Nat) (n : Spec.Node) :
    observe (connect cfg host n.script) = Spec.expectFor cfg host n := by
  simp only [connect_eq, Spec.expectFor]
  generalize Spec.credentials cfg host = r
  cases n with
  | noauth => rcases r with _ | _ | _ <;> rfl
  | auth cls =>
    -- the provider failed / no credentials for the host / password / a script that is empty / one with a first round
    rcases r with _ | _ | p | ⟨_ | ⟨⟨resp, fail, last⟩, rs⟩, sf⟩
    · rfl
    · rfl
    · simp only [Spec.Node.script, handshake_pw]
      cases approve cls p.allowed <;> rfl
    · rfl
    · cases fail <;> cases last <;> cases sf <;> rfl

/-! ### dials of one dialer (`Model/TlsAuthDial.lean`) -/

theorem dialDefault_readonly (wrap : Wrap) (hro : ∀ t a, (wrap t a).1 = t) (trust : Signer → Bool) (cb : Bool)
    (tls : Option OutCfg) (d : DialTry) : (dialDefault wrap trust cb tls d).1 = tls := by
  fun_cases dialDefault wrap trust cb tls d
  case case5 => exact congrArg some (hro _ _)   -- a TLS dial: `wrap` leaves the config alone
  all_goals rfl

theorem dialSeq_readonly (wrap : Wrap) (hro : ∀ t a, (wrap t a).1 = t) (trust : Signer → Bool) (cb : Bool)
    (tls : Option OutCfg) (ds : List DialTry) :
    dialSeq wrap trust cb tls ds = ds.map (fun d => (dialDefault wrap trust cb tls d).2) ∧
    dialFinal wrap trust cb tls ds = tls := by
  induction ds with
  | nil => exact ⟨rfl, rfl⟩
  | cons d ds ih =>
    simp only [dialSeq, dialFinal, dialDefault_readonly wrap hro, List.map_cons]
    exact ⟨by rw [ih.1], ih.2⟩

/-- the dials of a session are the single dials: there is ONE observation per dial try, the same whenever and in
    whatever company the try is made -/
theorem dialAll_ok {c : DialCfg} {ds : List DialTry} {obs : List DialObs} (h : dialAll c ds = .ok obs) :
    ∃ f : DialTry → DialObs, obs = ds.map f ∧ ∀ d, dialHost c d = .ok (f d) := by
  simp only [dialAll, dialHost] at h ⊢
  cases hc : connConfig c with
  | error e => rw [hc] at h; cases h
  | ok k =>
    rw [hc] at h
    cases k <;> cases h
    · exact ⟨_, rfl, fun _ => rfl⟩
    · exact ⟨_, (dialSeq_readonly wrapCode (fun _ _ => rfl) _ _ _ ds).1, fun _ => rfl⟩

/-- `connConfig` does not look at the `Dialer` field except to pass it on -/
theorem connConfig_dialer (c : DialCfg) (b : Bool) :
    connConfig { c with dialer := b } =
      (match connConfig c with
       | .ok (.dflt _ t) => .ok (.dflt b t)
       | r => r) := by
  fun_cases connConfig c <;> simp_all [connConfig]

/-! ### sessions of one process, tokens held across `Challenge` calls (`Model/TlsAuthHist.lean`) -/

/-- a derivation whose RESULT does not depend on the process-wide state gives every session the result of its own
    option values, whatever the state does -/
theorem histRun_stateless {σ : Type} (derive : Derive σ) (f : SslOpts → Except TlsErr OutCfg)
    (hf : ∀ s o, (derive s o).2 = f o) (s : σ) (os : List SslOpts) : histRun derive s os = os.map f := by
  induction os generalizing s with
  | nil => rfl
  | cons o os ih => simp only [histRun, hf, List.map_cons, ih]

theorem held_fresh (h : Heap) (vs : List (Option View)) (t : List UInt8) (hv : ∀ w, some w ∈ vs → w.buf < h.length) :
    held (h ++ [t], vs ++ [some ⟨h.length, t.length⟩]) = held (h, vs) ++ [some t] ∧
    ∀ w, some w ∈ vs ++ [some ⟨h.length, t.length⟩] → w.buf < (h ++ [t]).length := by
  constructor
  · have hold : ∀ o ∈ vs, o.map (Heap.read (h ++ [t])) = o.map (Heap.read h) := by
      rintro (_ | w) ho
      · rfl
      · simp [Heap.read, List.getD_eq_getElem?_getD, List.getElem?_append_left (hv w ho)]
    simp [held, List.map_congr_left hold, Heap.read, List.getD_eq_getElem?_getD]
  · intro w hw
    rcases List.mem_append.mp hw with hw | hw
    · have := hv w hw; simp; omega
    · simp at hw; simp [hw]

theorem chalRun_fresh (cs : List ChalCall) (h : Heap) (vs : List (Option View))
    (hv : ∀ w, some w ∈ vs → w.buf < h.length) :
    held (chalRun placeCode h vs cs) = held (h, vs) ++ cs.map (fun c => challenge c.1 c.2) := by
  fun_induction chalRun placeCode h vs cs with
  | case1 => simp
  | case2 h vs p cls cs hc ih =>   -- the call is refused: no buffer, the caller holds nothing
    rw [ih fun w hw => hv w (by simpa using hw)]
    simp [held, hc]
  | case3 h vs p cls cs t hc ih =>   -- a token: it goes into a buffer of its own
    obtain ⟨e, hv'⟩ := held_fresh h vs t hv
    simp only [placeCode, Heap.put] at ih ⊢
    rw [ih hv', e, List.map_cons, hc, List.append_assoc, List.singleton_append]

end TlsAuth
