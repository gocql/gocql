/- Every message kind is read back (ERROR with every code, RESULT kinds, EVENT). Each lemma splits by the shape of the value, turns
   `hw` into the clauses of that shape and evaluates the reader on the encoding (the `simp only` set of C04Prim); a step that fails
   names the constructor in the `case` tag of its message. -/
import Proofs.C04Meta
namespace C04
open FrameRead RespSpec

theorem readErrorMap_ok (m : List (FrameRead.Bytes × Nat)) (r : FrameRead.Bytes)
    (hn : m.length < 2147483648) (ha : m.all (fun ac => isAddr ac.1 && isShort ac.2) = true)
    (hd : (m.map (fun ac => ipKey ac.1)).Nodup) :
    readErrorMap (eInt m.length ++ m.flatMap (fun ac => eInetAddr ac.1 ++ eShort ac.2) ++ r)
      = .ok (m.map (fun ac => (ipKey ac.1, ac.2)), r) := by
  simp only [List.all_eq_true, Bool.and_eq_true, isShort, decide_eq_true_eq] at ha
  have := readN_flatMap (do let ip ← readInetAdressOnly; let c ← readShort; pure (ipKey ip, c))
    (fun ac : FrameRead.Bytes × Nat => eInetAddr ac.1 ++ eShort ac.2) (fun ac => (ipKey ac.1, ac.2)) m
    (fun x hx r' => by
      simp only [List.append_assoc, bind_eval, andThen_ok, pure_apply, readInetAdressOnly_e, readShort_eShort, ha x hx])
  simp only [readErrorMap, List.append_assoc, bind_eval, andThen_ok, pure_apply, readInt_eInt_nat, hn, Int.toNat_natCast,
    this]
  rw [mapOfList_nodup _ (by simpa [List.map_map, Function.comp_def] using hd)]

theorem readFailures_ok (v : Nat) (f : Failures) (r : FrameRead.Bytes) (hw : wfFailures v f = true) :
    readFailures v (eFailures f ++ r) = .ok (viewFailures f, r) := by
  cases f
  all_goals simp only [wfFailures, Bool.and_eq_true, decide_eq_true_eq, ← Nat.not_lt] at hw
  all_goals simp only [readFailures, eFailures, hw, if_true, if_false, bind_eval, andThen_ok,
    pure_apply, readInt_eInt, readErrorMap_ok, viewFailures, List.length_map]

theorem code_isInt32 {v : Nat} (e : ErrBody) (hw : wfErr v e = true) : isInt32 (e.code : Int) = true := by
  cases e <;> try (simp [ErrBody.code, isInt32])
  case simple c =>
    simp [wfErr, simpleCodes] at hw
    rcases hw with h | h | h | h | h | h | h | h | h | h <;> simp [h]

theorem ofNat8_bne_zero (n : Nat) (h : n < 256) : (UInt8.ofNat n != 0) = (n != 0) := by
  have : UInt8.ofNat n = 0 ↔ n = 0 := by
    rw [← UInt8.toNat_inj, BE.toNat_ofNat_lt h]; rfl
  rw [Bool.eq_iff_iff, bne_iff_ne, bne_iff_ne, Ne, Ne, this]

/- After the case split the first `simp only` evaluates the `switch` of parseErrorFrame on each concrete code and
   unfolds the encoding; the second reads the fields back one after the other. -/
theorem parseErrorFrame_ok (v : Nat) (msg : FrameRead.Bytes) (e : ErrBody) (r : FrameRead.Bytes)
    (hm : fitsShort msg = true) (hw : wfErr v e = true) :
    parseErrorFrame v (eInt e.code ++ (eString msg ++ (eErrBody e ++ r)))
      = .ok (.error e.code msg (viewErr e), r) := by
  unfold parseErrorFrame
  rw [bind_ok (readInt_eInt _ _ (code_isInt32 e hw)), bind_ok (readString_eString msg _ hm)]
  cases e <;> simp (config := { decide := true }) only [ErrBody.code, ↓reduceIte, eErrBody, readConsistency,
    List.append_assoc, List.nil_append, wfErr, isShort, Bool.and_eq_true, decide_eq_true_eq] at hw ⊢
  case simple c =>
    simp [simpleCodes] at hw
    rcases hw with h | h | h | h | h | h | h | h | h | h <;> subst h <;>
      simp (config := { decide := true }) only [↓reduceIte] <;> rfl
  all_goals simp only [bind_eval, andThen_ok, pure_apply, isShort, decide_eq_true_eq, readShort_eShort, readInt_eInt,
    readString_eString, readByte_eByte, readFailures_ok, readStringList_eStringList, readShortBytes_eString, hw, viewErr,
    ofNat8_bne_zero]

/- v1/v2: `<change><keyspace><table>`; v3+: `<change_type><target>`, the `switch` on the target name, then the options.
   A target that the version cannot carry contradicts `hw`. -/
theorem parseSchemaChange_ok (v : Nat) (sc : SchemaChange) (r : FrameRead.Bytes)
    (hw : wfSchemaChange v sc = true) :
    parseResultSchemaChange v (eSchemaChange v sc ++ r) = .ok (viewSchemaChange sc, r) := by
  unfold parseResultSchemaChange
  by_cases h2 : v ≤ 2 <;> cases sc
  all_goals simp only [eSchemaChange, h2, if_true, if_false, List.append_assoc, wfSchemaChange,
      Bool.and_eq_true, Bool.or_eq_true, decide_eq_true_eq, gt_iff_lt, ← Nat.not_le, not_true_eq_false, false_and,
      false_or] at hw ⊢
  all_goals simp (config := { decide := true }) only [bind_eval, andThen_ok, pure_apply, readString_eString,
    readStringList_eStringList, hw, ↓reduceIte, viewSchemaChange]

theorem parseResultRows_ok (m : Meta) (n : Nat) (r : FrameRead.Bytes) (hm : wfMeta m = true) (hn : n < 2147483648) :
    parseResultRows (eMeta m ++ (eInt n ++ r)) = .ok (.resultRows (viewMeta m) n, r) := by
  simp only [parseResultRows, bind_eval, andThen_ok, pure_apply, parseResultMetadata_ok, readInt_eInt_nat, hm, hn,
    Int.natCast_nonneg, Int.not_lt.mpr, if_false]

theorem parseResultPrepared_ok (v : Nat) (id : FrameRead.Bytes) (pk : List Nat) (req : Meta) (resp : Option Meta)
    (r : FrameRead.Bytes) (hw : wfResult v (.prepared id pk req resp) = true) :
    parseResultPrepared v (eString id ++ (ePreparedMeta v pk req ++
        ((match (generalizing := false) resp with | some m => eMeta m | none => []) ++ r)))
      = .ok (viewBody v (.result (.prepared id pk req resp)), r) := by
  cases resp
  all_goals simp only [wfResult, Bool.and_eq_true, decide_eq_true_eq, ← Nat.not_lt] at hw
  all_goals simp only [parseResultPrepared, List.nil_append, bind_eval, andThen_ok, pure_apply, readShortBytes_eString,
    parsePreparedMetadata_ok, parseResultMetadata_ok, hw, if_true, if_false, viewBody]

theorem parseResultFrame_ok (v : Nat) (res : Result) (r : FrameRead.Bytes)
    (hw : wfResult v res = true) :
    parseResultFrame v (eResult v res ++ r)
      = .ok (viewBody v (.result res), restOfBody (.result res) ++ r) := by
  unfold parseResultFrame
  cases res with
  | void => simp +decide only [eResult, bind_eval, andThen_ok, readInt_eInt, ↓reduceIte]; rfl
  | rows m rs =>
    have h : wfMeta m = true ∧ rs.length < 2147483648 := by simpa [wfResult] using hw
    simp +decide only [eResult, List.append_assoc, bind_eval, andThen_ok, readInt_eInt, ↓reduceIte]
    exact parseResultRows_ok m rs.length _ h.1 h.2
  | setKeyspace ks =>
    have h : fitsShort ks = true := by simpa [wfResult] using hw
    simp +decide only [eResult, List.append_assoc, bind_eval, andThen_ok, pure_apply, readInt_eInt, readString_eString, h, ↓reduceIte]
    rfl
  | prepared id pk req resp =>
    simp +decide only [eResult, List.append_assoc, bind_eval, andThen_ok, readInt_eInt, ↓reduceIte]
    exact parseResultPrepared_ok v id pk req resp r hw
  | schemaChange sc =>
    simp +decide only [eResult, List.append_assoc, bind_eval, andThen_ok, readInt_eInt, ↓reduceIte]
    exact parseSchemaChange_ok v sc r (by simpa [wfResult] using hw)

theorem parseEventFrame_ok (v : Nat) (e : Event) (r : FrameRead.Bytes) (hw : wfEvent v e = true) :
    parseEventFrame v (eEvent v e ++ r) = .ok (viewBody v (.event e), r) := by
  unfold parseEventFrame
  cases e
  all_goals simp only [wfEvent, Bool.and_eq_true] at hw
  all_goals simp +decide only [eEvent, List.append_assoc, bind_eval, andThen_ok, pure_apply, readString_eString, readInet_e,
    parseSchemaChange_ok, hw, ↓reduceIte, viewBody]

end C04
