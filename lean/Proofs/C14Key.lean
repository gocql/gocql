import Model.Prepare
/-!
# C14 — the cache key as a function of (host id, keyspace, statement text)

`keyFor` (prepared_cache.go, after the repair of KF-C14-1) prefixes the plain concatenation with the decimal
lengths of host id and keyspace, each followed by '/': injective without any hypothesis (`C14_keyFor_injective`, from the lemmas here).
`keyForOld` (the plain concatenation the code used before) is injective on triples whose host-id and
keyspace LENGTHS agree (`keyForOld_inj_of_len`) — that lemma is what the length prefix reduces to.
-/
namespace C14Key
open Prepare

theorem keyForOld_inj_of_len {α : Type} (h₁ k₁ s₁ h₂ k₂ s₂ : List α)
    (hh : h₁.length = h₂.length) (hk : k₁.length = k₂.length)
    (he : keyForOld h₁ k₁ s₁ = keyForOld h₂ k₂ s₂) : h₁ = h₂ ∧ k₁ = k₂ ∧ s₁ = s₂ := by
  unfold keyForOld at he
  rw [List.append_assoc, List.append_assoc] at he
  obtain ⟨a, b⟩ := List.append_inj he hh
  obtain ⟨c, d⟩ := List.append_inj b hk
  exact ⟨a, c, d⟩

theorem keyForOld_move_ks {α : Type} (h k s : List α) : keyForOld h k s = keyForOld h [] (k ++ s) := by
  simp [keyForOld]

theorem keyForOld_move_host {α : Type} (h k s : List α) : keyForOld h k s = keyForOld (h ++ k) [] s := by
  simp [keyForOld]

theorem split_at_sep {α : Type} (sep : α) :
    ∀ (a a' r r' : List α), sep ∉ a → sep ∉ a' → a ++ sep :: r = a' ++ sep :: r' → a = a' ∧ r = r'
  | [], [], _, _, _, _, h => by simpa using h
  | [], x :: a', _, _, _, h2, h => by
    simp only [List.nil_append, List.cons_append, List.cons.injEq] at h
    exact absurd (h.1 ▸ List.mem_cons_self) h2
  | x :: a, [], _, _, h1, _, h => by
    simp only [List.nil_append, List.cons_append, List.cons.injEq] at h
    exact absurd (h.1 ▸ List.mem_cons_self) h1
  | x :: a, y :: a', r, r', h1, h2, h => by
    simp only [List.cons_append, List.cons.injEq] at h
    have := split_at_sep sep a a' r r' (fun m => h1 (List.mem_cons_of_mem _ m))
      (fun m => h2 (List.mem_cons_of_mem _ m)) h.2
    exact ⟨by rw [h.1, this.1], this.2⟩

/-- a decimal digit survives the trip through a byte and is not '/' (0x2f) -/
theorem digit_roundtrip (c : Char) (hc : c.isDigit = true) :
    Char.ofNat (UInt8.ofNat c.toNat).toNat = c ∧ UInt8.ofNat c.toNat ≠ 0x2f := by
  have h48 : 48 ≤ c.toNat ∧ c.toNat ≤ 57 := by
    simp only [Char.isDigit, Bool.and_eq_true, decide_eq_true_eq] at hc
    obtain ⟨a, b⟩ := hc
    have a' : (48 : UInt32).toNat ≤ c.val.toNat := UInt32.le_iff_toNat_le.1 a
    have b' : c.val.toNat ≤ (57 : UInt32).toNat := UInt32.le_iff_toNat_le.1 b
    exact ⟨a', b'⟩
  have hm : (UInt8.ofNat c.toNat).toNat = c.toNat := by
    rw [UInt8.toNat_ofNat']; omega
  refine ⟨?_, ?_⟩
  · rw [hm]; exact Char.ofNat_toNat c
  · intro h
    have : (UInt8.ofNat c.toNat).toNat = (0x2f : UInt8).toNat := by rw [h]
    rw [hm] at this
    have : c.toNat = 47 := this
    omega

theorem dec_map_back (n : Nat) : (dec n).map (fun b => Char.ofNat b.toNat) = Nat.toDigits 10 n := by
  unfold dec
  rw [List.map_map]
  conv => rhs; rw [← List.map_id (Nat.toDigits 10 n)]
  apply List.map_congr_left
  intro c hc
  exact (digit_roundtrip c (Nat.isDigit_of_mem_toDigits (by decide) (by decide) hc)).1

theorem dec_inj {m n : Nat} (h : dec m = dec n) : m = n := by
  have := congrArg (List.map fun b => Char.ofNat b.toNat) h
  rw [dec_map_back, dec_map_back] at this
  have h2 := congrArg (fun l => Nat.ofDigitChars 10 l 0) this
  simpa [Nat.ofDigitChars_ten_toDigits] using h2

theorem slash_not_in_dec (n : Nat) : (0x2f : UInt8) ∉ dec n := by
  intro h
  unfold dec at h
  obtain ⟨c, hc, he⟩ := List.mem_map.1 h
  exact (digit_roundtrip c (Nat.isDigit_of_mem_toDigits (by decide) (by decide) hc)).2 he

/-- the key is the two length prefixes followed by the old key -/
theorem keyFor_eq_prefix_old (h k s : List UInt8) :
    keyFor h k s = dec h.length ++ [0x2f] ++ (dec k.length ++ [0x2f] ++ keyForOld h k s) := rfl

end C14Key
