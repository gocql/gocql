/-
C03 — request frames on the wire are exactly what the CQL protocol specifies.

Model  : FrameWrite.encodeReq  (gocql's frame builders, frame.go, byte for byte, Go-shaped input)
Spec   : FrameSpec.decodeReq   (independent decoder written from the protocol documents v1..v5)
         FrameSpec.Expressible (which logical requests a protocol version can carry)
`FrameWrite.ask` maps the builder's Go struct to the logical request that was asked for.
-/
import Proofs.C03Frame
import Proofs.C03Reject
import Proofs.C03Cex
import Proofs.C03Handshake
import Proofs.C03HsCache
namespace C03
open FrameSpec FrameWrite

/-- **C03_roundtrip.** For every protocol version 1..5, tracing on or off, every stream id in the
    version's range, every request (of any of the eight kinds, with any number of values / batch
    entries) that the version can express: if the builder produces a frame `bs`, the independent
    decoder reads back — from `bs` followed by any further bytes `rest` — exactly the version, the
    tracing flag, the stream id, the request that was asked for, and leaves exactly `rest`
    (so the header's length field equals the body that follows, and the opcode is the request's). -/
theorem C03_roundtrip (v : Nat) (tracing : Bool) (stream now : Int) (g : GReq) (bs rest : Bytes)
    (hv1 : 1 ≤ v) (hv5 : v ≤ 5) (hs : StreamInRange v stream)
    (hx : Expressible v (ask now g) = true)
    (he : encodeReq v tracing stream now g = .ok bs) :
    decodeReq (bs ++ rest) = some ⟨v, tracing, stream, ask now g, rest⟩ :=
  roundtrip_plain v tracing stream now g bs rest hv1 hv5 hs hx he

/-- a frame that is produced never exceeds the protocol's 256 MiB limit -/
theorem C03_frame_size (v : Nat) (tracing : Bool) (stream now : Int) (g : GReq) (bs : Bytes)
    (he : encodeReq v tracing stream now g = .ok bs) : bs.length ≤ maxFrameSize := by
  obtain ⟨_, _, body, _, hsz, rfl⟩ := encodeReq_ok he
  simp only [wHeader, wUInt, List.length_append, List.length_cons, List.length_nil] at hsz ⊢
  split at hsz <;> rename_i hv <;> simp only [hv, if_true, if_false, List.length_cons, List.length_nil] <;> omega

/-- **C03_decoded_expressible.** Whatever the specification decoder reads out of any byte string is a
    request of a version 1..5 which that version can express (so `Expressible` is not stricter than
    the wire format: it is exactly the decoder's range, together with C03_roundtrip). -/
theorem C03_decoded_expressible (bs : Bytes) (d : Decoded) (h : decodeReq bs = some d) :
    1 ≤ d.version ∧ d.version ≤ 5 ∧ Expressible d.version d.req = true :=
  decodeReqC_post _ (decodeReq_eq_C bs ▸ h)

/-- no byte string at all decodes to a request the version cannot express -/
theorem C03_inexpressible_never_decodes (v : Nat) (req : Req) (hx : Expressible v req = false)
    (bs : Bytes) (tr : Bool) (s : Int) (rest : Bytes) : decodeReq bs ≠ some ⟨v, tr, s, req, rest⟩ := by
  intro h
  have := (C03_decoded_expressible _ _ h).2.2
  simp only at this
  rw [hx] at this; cases this

/-- **C03_rejected_iff.** The builders refuse a request (panic in the caller's goroutine or error, nothing
    is sent) exactly when it carries a custom payload below v4, a keyspace below v5 (v2+ QUERY/EXECUTE,
    any PREPARE), or a named value inside a BATCH from v3 — for every version, every request. -/
theorem C03_rejected_iff (v : Nat) (tracing : Bool) (stream now : Int) (g : GReq) :
    (∃ e, encodeReq v tracing stream now g = .error e ∧ e ≠ .frameTooBig) ↔ Rejectable v (ask now g) = true := by
  unfold Rejectable encodeReq
  rw [tooManyR_ask]
  cases h : tooManyG g
  · simp only [Bool.false_eq_true, if_false, Bool.or_false]
    exact encodeReq0_rejects_iff v tracing stream now g
  · simp only [if_true, Bool.or_true, iff_true]
    exact ⟨_, rfl, by simp⟩

/-- what can happen to a request handed to the builders: a frame, the size limit, or one of the refusals -/
theorem encodeReq_cases (v : Nat) (tracing : Bool) (stream now : Int) (g : GReq) :
    (∃ bs, encodeReq v tracing stream now g = .ok bs) ∨ encodeReq v tracing stream now g = .error .frameTooBig ∨
    (Rejectable v (ask now g) = true ∧ ∃ e, encodeReq v tracing stream now g = .error e ∧ e ≠ .frameTooBig) := by
  cases he : encodeReq v tracing stream now g with
  | ok bs => exact .inl ⟨bs, rfl⟩
  | error e =>
    by_cases hne : e = .frameTooBig
    · exact .inr (.inl (hne ▸ rfl))
    · exact .inr (.inr ⟨(C03_rejected_iff v tracing stream now g).mp ⟨e, he, hne⟩, e, rfl, hne⟩)

/-- every rejected request is indeed inexpressible in the version: rejection is never spurious — including
    the two count refusals (more than 65535 bound values / batch entries) -/
theorem C03_rejected_inexpressible (v : Nat) (req : Req) (h : Rejectable v req = true) :
    Expressible v req = false := by
  simp only [Rejectable, Bool.or_eq_true] at h
  rcases h with h | h
  · exact rejected0_inexpressible v req h
  · apply Bool.eq_false_iff.mpr
    intro hE
    rw [expressible_not_tooManyR v req hE] at h; cases h

/-- an expressible request is never rejected by a panic or the named-values error: the only
    failure left is ErrFrameTooBig (more than 256 MiB) -/
theorem C03_expressible_built (v : Nat) (tracing : Bool) (stream now : Int) (g : GReq)
    (hv1 : 1 ≤ v) (hv5 : v ≤ 5) (hx : Expressible v (ask now g) = true) :
    (∃ bs, encodeReq v tracing stream now g = .ok bs) ∨ encodeReq v tracing stream now g = .error .frameTooBig := by
  -- whatever is refused for another reason than its size is inexpressible (C03_rejected_iff,
  -- C03_rejected_inexpressible); the bounds on the version play no part
  rcases encodeReq_cases v tracing stream now g with h | h | ⟨hr, _⟩
  · exact .inl h
  · exact .inr h
  · rw [C03_rejected_inexpressible v _ hr] at hx; cases hx

/-- **C03_inexpressible_rejected_partial.** The property's last sentence ("a request that cannot be
    expressed in the negotiated version is never sent in a malformed form") in the form that holds
    of the unchanged code: an inexpressible request *of the rejectable kinds* is refused.
    Full statement (FALSE on the unchanged code, see the counterexample theorems below):
      `Expressible v (ask now g) = false → ∃ e, encodeReq v tracing stream now g = .error e`. -/
theorem C03_inexpressible_rejected_partial (v : Nat) (tracing : Bool) (stream now : Int) (g : GReq)
    (_hx : Expressible v (ask now g) = false) (hr : Rejectable v (ask now g) = true) :
    ∃ e, encodeReq v tracing stream now g = .error e ∧ e ≠ .frameTooBig :=
  (C03_rejected_iff v tracing stream now g).mpr hr

/-- **C03_gap_malformed.** Exactly the remaining inexpressible requests are the violations: each is
    built without complaint (unless larger than 256 MiB), and the bytes that go out do not decode
    to what was asked — under no tracing flag, stream id or continuation. -/
theorem C03_gap_malformed (v : Nat) (tracing : Bool) (stream now : Int) (g : GReq)
    (hx : Expressible v (ask now g) = false) (hr : Rejectable v (ask now g) = false) :
    encodeReq v tracing stream now g = .error .frameTooBig ∨
    ∃ bs, encodeReq v tracing stream now g = .ok bs ∧
      ∀ tr s rest, decodeReq (bs ++ rest) ≠ some ⟨v, tr, s, ask now g, rest⟩ := by
  rcases encodeReq_cases v tracing stream now g with ⟨bs, h⟩ | h | ⟨hr', _⟩
  · exact .inr ⟨bs, h, fun tr s rest => C03_inexpressible_never_decodes v _ hx _ tr s rest⟩
  · exact .inl h
  · rw [hr] at hr'; cases hr'

/-- **C03_outcome_judged.** Both clauses of the property as ONE judgement of what happens to a request
    handed to a connection (`judge`: sent → must be expressible and decode to exactly what was asked;
    inexpressible → must not be sent; the known gaps excluded by ¬ Rejectable): for every version 1..5,
    tracing flag, in-range stream id and EVERY request of the eight kinds (any values, any positional /
    named pattern over the values of any batch entry), the outcome of the model of the builders is judged
    `ok`, `refusedOk` or `gap` — never `sentInexpressible`, `differs`, `undecodable` or
    `refusedExpressible` (apart from frames over 256 MiB, which are refused). -/
theorem C03_outcome_judged (eqv : Req → Req → Bool) (hrefl : ∀ r, eqv r r = true)
    (v : Nat) (tracing : Bool) (stream now : Int) (g : GReq)
    (hv1 : 1 ≤ v) (hv5 : v ≤ 5) (hs : StreamInRange v stream) :
    judge eqv v tracing (ask now g) (outcomeOf (encodeReq v tracing stream now g)) = .ok ∨
    judge eqv v tracing (ask now g) (outcomeOf (encodeReq v tracing stream now g)) = .refusedOk ∨
    judge eqv v tracing (ask now g) (outcomeOf (encodeReq v tracing stream now g)) = .gap ∨
    encodeReq v tracing stream now g = .error .frameTooBig := by
  cases hx : Expressible v (ask now g) with
  | true =>
    rcases C03_expressible_built v tracing stream now g hv1 hv5 hx with ⟨bs, hb⟩ | hb
    · left
      have hr := C03_roundtrip v tracing stream now g bs [] hv1 hv5 hs hx hb
      simp only [List.append_nil] at hr
      simp [hb, outcomeOf, judge, hx, hr, hrefl]
    · right; right; right; exact hb
  | false =>
    cases hr : Rejectable v (ask now g) with
    | true =>
      obtain ⟨e, he, _⟩ := (C03_rejected_iff v tracing stream now g).mpr hr
      right; left
      simp [he, outcomeOf, judge, hx, hr]
    | false =>
      right; right; left
      cases he : encodeReq v tracing stream now g <;> simp [outcomeOf, judge, hx, hr]

/-- the other direction, on the wire: whatever frame goes out for an inexpressible request of the refused
    kinds (e.g. a BATCH from v3 with a name on ANY value of ANY entry — first, later, some, all) is a
    violation, and so is silence about an expressible one -/
theorem C03_sent_inexpressible_bad (eqv : Req → Req → Bool) (v : Nat) (tracing : Bool) (want : Req) (f : Bytes)
    (hx : Expressible v want = false) (hr : Rejectable v want = true) :
    judge eqv v tracing want (.sent f) = .sentInexpressible := by
  simp [judge, hx, hr]

/-! ## counterexamples: inexpressible requests the unchanged builders send anyway (DESIGN section 7, row D14)

Each is confirmed on the real code (the `enc` op of the differential run reproduces the bytes).
Format: the request is not expressible, is not rejected, the bytes that go out, what they mean. At the end of the section the
truncation `uint16(len(x))` itself (`C03_cex_short_wraps`) and the two count refusals (KF-C03-5 / KF-C03-6: refused, nothing sent). -/

/-- the full last sentence of the property is false of the unchanged code -/
theorem C03_cex_inexpressible_not_rejected :
    ¬ (∀ v tracing stream now g, Expressible v (ask now g) = false →
        ∃ e, encodeReq v tracing stream now g = .error e) := by
  intro h
  obtain ⟨e, he⟩ := h 3 false 1 0 cexUnset (by decide)
  have : encodeReq 3 false 1 0 cexUnset =
      .ok [3, 0, 0, 1, 10, 0, 0, 0, 12, 0, 1, 171, 0, 1, 1, 0, 1, 255, 255, 255, 254] := rfl
  rw [this] at he; cases he

/-- UnsetValue under protocol 3: written as length -2, which a v3 server reads as NULL (a tombstone
    is written where the application asked for "leave the column alone") -/
theorem C03_cex_unset_below_v4 :
    Expressible 3 (ask 0 cexUnset) = false ∧ Rejectable 3 (ask 0 cexUnset) = false ∧
    encodeReq 3 false 1 0 cexUnset =
      .ok [3, 0, 0, 1, 10, 0, 0, 0, 12, 0, 1, 171, 0, 1, 1, 0, 1, 255, 255, 255, 254] ∧
    (decodeReq [3, 0, 0, 1, 10, 0, 0, 0, 12, 0, 1, 171, 0, 1, 1, 0, 1, 255, 255, 255, 254]).map (·.req) =
      some (Req.execute [0xab] (noParams 1 [⟨none, Val.null⟩]) []) :=
  ⟨by decide, by decide, rfl, by decide⟩

/-- a name on a value other than the first is silently dropped (only values[0].name is looked at) -/
theorem C03_cex_name_dropped :
    Expressible 4 (ask 0 cexNameLater) = false ∧ Rejectable 4 (ask 0 cexNameLater) = false ∧
    encodeReq 4 false 1 0 cexNameLater =
      .ok [4, 0, 0, 1, 10, 0, 0, 0, 18, 0, 1, 171, 0, 1, 1, 0, 2, 0, 0, 0, 1, 1, 0, 0, 0, 1, 2] ∧
    (decodeReq [4, 0, 0, 1, 10, 0, 0, 0, 18, 0, 1, 171, 0, 1, 1, 0, 2, 0, 0, 0, 1, 1, 0, 0, 0, 1, 2]).map (·.req) =
      some (Req.execute [0xab] (noParams 1 [⟨none, Val.bytes [1]⟩, ⟨none, Val.bytes [2]⟩]) []) :=
  ⟨by decide, by decide, rfl, by decide⟩

/-- first value named, second positional: the names flag is set and the second value goes out
    under the empty name -/
theorem C03_cex_mixed_names :
    Expressible 4 (ask 0 cexNameFirst) = false ∧ Rejectable 4 (ask 0 cexNameFirst) = false ∧
    encodeReq 4 false 1 0 cexNameFirst =
      .ok [4, 0, 0, 1, 10, 0, 0, 0, 23, 0, 1, 171, 0, 1, 65, 0, 2, 0, 1, 110, 0, 0, 0, 1, 1, 0, 0, 0, 0, 0, 1, 2] ∧
    (decodeReq [4, 0, 0, 1, 10, 0, 0, 0, 23, 0, 1, 171, 0, 1, 65, 0, 2, 0, 1, 110, 0, 0, 0, 1, 1, 0, 0, 0, 0, 0, 1,
        2]).map (·.req) =
      some (Req.execute [0xab] (noParams 1 [⟨some [0x6e], Val.bytes [1]⟩, ⟨some [], Val.bytes [2]⟩]) []) :=
  ⟨by decide, by decide, rfl, by decide⟩

/-- named values under protocol 2 (and 1): the names are silently dropped -/
theorem C03_cex_named_below_v3 :
    Expressible 2 (ask 0 cexNamed) = false ∧ Rejectable 2 (ask 0 cexNamed) = false ∧
    encodeReq 2 false 1 0 cexNamed = .ok [2, 0, 1, 10, 0, 0, 0, 13, 0, 1, 171, 0, 1, 1, 0, 1, 0, 0, 0, 1, 1] ∧
    (decodeReq [2, 0, 1, 10, 0, 0, 0, 13, 0, 1, 171, 0, 1, 1, 0, 1, 0, 0, 0, 1, 1]).map (·.req) =
      some (Req.execute [0xab] (noParams 1 [⟨none, Val.bytes [1]⟩]) []) :=
  ⟨by decide, by decide, rfl, by decide⟩

/-- timestamp (and serial consistency) of a BATCH under protocol 2: silently dropped -/
theorem C03_cex_batch_timestamp_v2 :
    Expressible 2 (ask 0 cexBatchTs) = false ∧ Rejectable 2 (ask 0 cexBatchTs) = false ∧
    encodeReq 2 false 1 0 cexBatchTs = .ok [2, 0, 1, 13, 0, 0, 0, 13, 0, 0, 1, 0, 0, 0, 0, 1, 120, 0, 0, 0, 1] ∧
    (decodeReq [2, 0, 1, 13, 0, 0, 0, 13, 0, 0, 1, 0, 0, 0, 0, 1, 120, 0, 0, 0, 1]).map (·.req) =
      some (Req.batch 0 [BStmt.query [0x78] []] 1 none none none []) :=
  ⟨by decide, by decide, rfl, by decide⟩

/-- timestamp of a QUERY under protocol 2: silently dropped -/
theorem C03_cex_query_timestamp_v2 :
    Expressible 2 (ask 0 cexQueryTs) = false ∧ Rejectable 2 (ask 0 cexQueryTs) = false ∧
    encodeReq 2 false 1 0 cexQueryTs = .ok [2, 0, 1, 7, 0, 0, 0, 8, 0, 0, 0, 1, 120, 0, 1, 0] ∧
    (decodeReq [2, 0, 1, 7, 0, 0, 0, 8, 0, 0, 0, 1, 120, 0, 1, 0]).map (·.req) =
      some (Req.query [0x78] (noParams 1 []) []) :=
  ⟨by decide, by decide, rfl, by decide⟩

/-- bound values of a QUERY under protocol 1: silently dropped -/
theorem C03_cex_query_values_v1 :
    Expressible 1 (ask 0 cexQueryValue) = false ∧ Rejectable 1 (ask 0 cexQueryValue) = false ∧
    encodeReq 1 false 1 0 cexQueryValue = .ok [1, 0, 1, 7, 0, 0, 0, 7, 0, 0, 0, 1, 120, 0, 1] ∧
    (decodeReq [1, 0, 1, 7, 0, 0, 0, 7, 0, 0, 0, 1, 120, 0, 1]).map (·.req) =
      some (Req.query [0x78] (noParams 1 []) []) :=
  ⟨by decide, by decide, rfl, by decide⟩

set_option maxRecDepth 20000 in
/-- page size 2^31: `int32(pageSize)` wraps, -2^31 goes out -/
theorem C03_cex_page_size_wraps :
    Expressible 4 (ask 0 cexPageSize) = false ∧ Rejectable 4 (ask 0 cexPageSize) = false ∧
    encodeReq 4 false 1 0 cexPageSize =
      .ok [4, 0, 0, 1, 7, 0, 0, 0, 12, 0, 0, 0, 1, 120, 0, 1, 4, 128, 0, 0, 0] ∧
    (decodeReq [4, 0, 0, 1, 7, 0, 0, 0, 12, 0, 0, 0, 1, 120, 0, 1, 4, 128, 0, 0, 0]).map (·.req) =
      some (Req.query [0x78] { noParams 1 [] with pageSize := some (-2147483648) } []) :=
  ⟨by decide, by decide, rfl, by decide⟩

/-- BATCH and AUTH_RESPONSE do not exist in protocol 1; the builders emit them all the same
    (Conn.executeBatch refuses v1 before calling the builder; AUTH_RESPONSE has no such guard) -/
theorem C03_cex_v1_opcodes :
    encodeReq 1 false 1 0 (cexManyStmts 0) = .ok [1, 0, 1, 13, 0, 0, 0, 5, 0, 0, 0, 0, 1] ∧
    decodeReq [1, 0, 1, 13, 0, 0, 0, 5, 0, 0, 0, 0, 1] = none ∧
    encodeReq 1 false 1 0 (.authResponse none) = .ok [1, 0, 1, 15, 0, 0, 0, 4, 255, 255, 255, 255] ∧
    decodeReq [1, 0, 1, 15, 0, 0, 0, 4, 255, 255, 255, 255] = none :=
  ⟨rfl, by decide, rfl, by decide⟩

/-- the counts and short-string lengths are truncated to 16 bits by `uint16(len(x))` -/
theorem C03_cex_short_wraps (s : Bytes) (h : s.length = 65536) :
    wShort 65536 = [0, 0] ∧ wShort 65537 = [0, 1] ∧ wString s = [0, 0] ++ s := by
  have e1 : wShort 65536 = [0, 0] := wShort_mod 65536
  exact ⟨e1, wShort_mod 65537, by simp only [wString, h, e1]⟩

/-- a request that fails the builders' count checks is refused with `tooMany` before anything is written, is
    inexpressible, and is of the refused kinds -/
theorem tooMany_refused (v : Nat) (tracing : Bool) (stream now : Int) (g : GReq) (ht : tooManyG g = true) :
    Expressible v (ask now g) = false ∧ Rejectable v (ask now g) = true ∧
    encodeReq v tracing stream now g = .error .tooMany := by
  have hr : Rejectable v (ask now g) = true := by simp only [Rejectable, tooManyR_ask, ht, Bool.or_true]
  exact ⟨C03_rejected_inexpressible v _ hr, hr, by simp [encodeReq, ht]⟩

/-- REGRESSION (KF-C03-5, repaired): more than 65535 bound values — any number, no upper bound — is refused
    before anything is written; the request is inexpressible and now of the refused kinds. Before the repair
    the count went out modulo 65536 (this was the counterexample C03_cex_too_many_values). -/
theorem C03_cex_too_many_values (n : Nat) (hn : 65535 < n) (v : Nat) (tracing : Bool) (stream : Int) :
    Expressible v (ask 0 (cexMany n)) = false ∧ Rejectable v (ask 0 (cexMany n)) = true ∧
    encodeReq v tracing stream 0 (cexMany n) = .error .tooMany :=
  tooMany_refused v tracing stream 0 _ (by simp [tooManyG, cexMany, p0]; omega)

/-- REGRESSION (KF-C03-6, repaired): more than 65535 batch entries — likewise refused -/
theorem C03_cex_too_many_batch_entries (n : Nat) (hn : 65535 < n) (v : Nat) (tracing : Bool) (stream : Int) :
    Expressible v (ask 0 (cexManyStmts n)) = false ∧ Rejectable v (ask 0 (cexManyStmts n)) = true ∧
    encodeReq v tracing stream 0 (cexManyStmts n) = .error .tooMany :=
  tooMany_refused v tracing stream 0 _ (by simp [tooManyG, cexManyStmts]; omega)

/-- a prepared id (any `[short bytes]` / `[string]`: keyspace, value name, event, option) longer
    than 65535 bytes: all bytes are written behind a length that says `len mod 65536`
    (`hn2` only keeps the frame under the 256 MiB limit, so that it is built at all) -/
theorem C03_cex_short_string_too_long (id : Bytes) (hn : 65535 < id.length) (hn2 : id.length ≤ 1000000) :
    Expressible 4 (ask 0 (cexLongId id)) = false ∧ Rejectable 4 (ask 0 (cexLongId id)) = false ∧
    ∃ bs, encodeReq 4 false 1 0 (cexLongId id) = .ok bs ∧
      ∀ tr s rest, decodeReq (bs ++ rest) ≠ some ⟨4, tr, s, ask 0 (cexLongId id), rest⟩ := by
  have hx : Expressible 4 (ask 0 (cexLongId id)) = false := by
    have : ¬ id.length ≤ 65535 := by omega
    simp [Expressible, ask, cexLongId, fitsShort, this]
  have hr : Rejectable 4 (ask 0 (cexLongId id)) = false := by
    simp [Rejectable, Rejectable0, tooManyR, ask, cexLongId, askParams, p0]
  refine ⟨hx, hr, ?_⟩
  rcases C03_gap_malformed 4 false 1 0 (cexLongId id) hx hr with h | h
  · exfalso
    simp only [encodeReq, show tooManyG (cexLongId id) = false by simp [tooManyG, cexLongId, p0], Bool.false_eq_true,
      if_false] at h
    unfold encodeReq0 at h
    simp only [cexLongId, payloadOf, wBody, p0] at h
    simp [wPayload, wQueryParams, wString, wShort, wFlags, maxFrameSize, queryFlags, namesFlag, b2n] at h
    omega
  · exact h

/-! ## compression on / off (the framing around the algorithm; the algorithms themselves are C18) -/

/-- **C03_roundtrip_compressed.** With ANY compressor configured whose decompression undoes its
    compression (and whose output for a frame-sized input fits the length field): for every version
    1..5, tracing flag, in-range stream id and every expressible request of the eight kinds, the frame
    the builder produces — header flag 0x01 set and the bytes after the header = Encode(custom payload ++
    message body), length field = the compressed size; STARTUP and OPTIONS left uncompressed — is read
    back by the compression-aware specification decoder as exactly the version, tracing flag, stream id
    and request that was asked for, leaving exactly the bytes that follow. -/
theorem C03_roundtrip_compressed (enc : Bytes → Bytes) (dec : Bytes → Option Bytes)
    (hinv : ∀ b, dec (enc b) = some b)
    (hsize : ∀ b, b.length ≤ maxFrameSize → (enc b).length < 2147483648)
    (v : Nat) (tracing : Bool) (stream now : Int) (g : GReq) (bs rest : Bytes)
    (hv1 : 1 ≤ v) (hv5 : v ≤ 5) (hs : StreamInRange v stream)
    (hx : Expressible v (ask now g) = true)
    (he : encodeReqC (some enc) v tracing stream now g = .ok bs) :
    decodeReqC dec (bs ++ rest) = some ⟨v, tracing, stream, ask now g, rest⟩ :=
  roundtrip_C (some enc) dec (fun _ h => Option.some.inj h ▸ hinv) (fun _ h => Option.some.inj h ▸ hsize)
    v tracing stream now g bs rest hv1 hv5 hs hx he

/-- **C03_compress_flag_iff.** Which frames carry the compression flag: exactly those built with a
    compressor configured, other than STARTUP and OPTIONS — for every version, request and compressor. -/
theorem C03_compress_flag_iff (comp : Option (Bytes → Bytes)) (v : Nat) (tracing : Bool) (stream now : Int) (g : GReq)
    (bs : Bytes) (he : encodeReqC comp v tracing stream now g = .ok bs) :
    ∃ a f r, bs = a :: f :: r ∧ (f.toNat % 2 = 1 ↔ (comp.isSome = true ∧ compressible g = true)) := by
  obtain ⟨b0, b1, hfl1⟩ := headerFlags_even v tracing g
  have hodd : (byteOf (headerFlags v tracing g + 1)).toNat % 2 = 1 := by
    rw [byteOf_toNat _ hfl1]; simpa [bit] using b1
  have heven : ¬ (byteOf (headerFlags v tracing g)).toNat % 2 = 1 := by
    rw [byteOf_toNat _ (by omega)]; simpa [bit] using b0
  obtain ⟨_, _, body, _, _, rfl⟩ := encodeReqC_ok he
  cases comp with
  | none => exact ⟨_, _, _, rfl, by simp [wire, heven]⟩
  | some enc =>
    rw [wire_some]
    by_cases hc : compressible g = true
    · simp only [hc, if_true]; exact ⟨_, _, _, rfl, by simp [hodd]⟩
    · simp only [hc]; exact ⟨_, _, _, rfl, by simp [heven]⟩

/-- **C03_map_order_irrelevant.** The STARTUP options and the custom payload are Go maps, written
    in whatever order the runtime iterates them. For two iteration orders of the same request
    (`mapEquiv`: everything equal, the map entries a permutation) both frames decode, to the same
    version / tracing / stream, and to requests that are equal as maps — and equal to what was asked. -/
theorem C03_map_order_irrelevant (v : Nat) (tracing : Bool) (stream now : Int) (g1 g2 : GReq) (bs1 bs2 : Bytes)
    (hv1 : 1 ≤ v) (hv5 : v ≤ 5) (hs : StreamInRange v stream)
    (hperm : mapEquiv (ask now g1) (ask now g2))
    (hx : Expressible v (ask now g1) = true)
    (he1 : encodeReq v tracing stream now g1 = .ok bs1) (he2 : encodeReq v tracing stream now g2 = .ok bs2) :
    ∃ d1 d2, decodeReq bs1 = some d1 ∧ decodeReq bs2 = some d2 ∧
      d1.version = d2.version ∧ d1.tracing = d2.tracing ∧ d1.stream = d2.stream ∧ d1.rest = d2.rest ∧
      mapEquiv d1.req d2.req ∧ d1.req = ask now g1 := by
  have hx2 : Expressible v (ask now g2) = true := by rw [← expressible_mapEquiv v _ _ hperm]; exact hx
  have r1 := C03_roundtrip v tracing stream now g1 bs1 [] hv1 hv5 hs hx he1
  have r2 := C03_roundtrip v tracing stream now g2 bs2 [] hv1 hv5 hs hx2 he2
  simp only [List.append_nil] at r1 r2
  exact ⟨_, _, r1, r2, rfl, rfl, rfl, rfl, hperm, rfl⟩

/-! ## multi-step exchanges: handshake, authentication rounds, USE, REGISTER, PREPARE → EXECUTE

Model  : Handshake.step / modelReqs / encodeAll (conn.go: startupCoordinator.options / startup /
         authenticateHandshake, UseKeyspace, registerEvents, prepareStatement / executeQuery → the
         frame builders of FrameWrite)
Spec   : Handshake.specReqs — a pure function from (configuration, authenticator as a function of the
         challenge history, plan, the peer's answers) to the logical requests due, decoded from the
         wire by FrameSpec.decodeReq. -/

section Hs
open Handshake

/-- **C03_hs_requests.** For every configuration, every authenticator chain (any function from the
    challenge history to a reply), every plan and EVERY list of peer answers (any length, any order,
    protocol-conforming or not): the requests the model of conn.go writes — the Go structs handed to
    the frame builders — ask for exactly the logical requests of the specification, in the same order,
    with the same "body compressed" marks. -/
theorem C03_hs_requests (cfg : Config) (au : Authn) (now : Int) (answers : List PeerAnswer) :
    (modelReqs cfg au answers).map (fun p => (ask now p.1, p.2)) = specReqs cfg au answers := by
  have h := (run_sim cfg au now answers (Handshake.init cfg) ⟨rfl, rfl⟩).1
  simp only [modelReqs, specReqs, List.map_cons]
  exact congrArg (List.cons _) h

/-- where the exchange ends (handshake abandoned / a request of the plan failed / plan finished /
    waiting for an answer) and the calls of Authenticator.Success — exactly once, with the token of
    AUTH_SUCCESS, iff the last reply came with a challenger — are those of the specification -/
theorem C03_hs_outcome (cfg : Config) (au : Authn) (answers : List PeerAnswer) :
    toSpec (final cfg au (Handshake.init cfg) answers) = specFinal cfg au .options answers ∧
    (final cfg au (Handshake.init cfg) answers).successArgs = specSuccess cfg au .options answers := by
  have h := run_sim cfg au 0 answers (Handshake.init cfg) ⟨rfl, rfl⟩
  refine ⟨h.2.1, ?_⟩
  rw [h.2.2]; rfl

/-- **C03_hs_frames.** The bytes: for every peer script, if the model's frames `frames` go out on
    the streams `streams` (in range), and every request the specification lists is expressible in the
    version, then the k-th frame decodes — by the independent decoder, after undoing the negotiated
    (identity) compression exactly where the specification says compression is in effect — to
    version, no tracing, stream k, the k-th request of the specification, nothing left over; for all k,
    and there are exactly as many frames as requests due. -/
theorem C03_hs_frames (cfg : Config) (au : Authn) (now : Int) (answers : List PeerAnswer)
    (streams : List Int) (frames : List Bytes) (hv1 : 1 ≤ cfg.v) (hv5 : cfg.v ≤ 5)
    (hs : ∀ s ∈ streams, StreamInRange cfg.v s)
    (hx : ∀ r ∈ specReqs cfg au answers, Expressible cfg.v r.1 = true)
    (he : encodeAll cfg.v now streams (modelReqs cfg au answers) = some frames) :
    expectAll cfg.v streams (specReqs cfg au answers) frames := by
  rw [← C03_hs_requests cfg au now answers]
  apply encodeAll_expect cfg.v now hv1 hv5 streams _ frames hs _ he
  intro p hp
  apply hx (ask now p.1, p.2)
  rw [← C03_hs_requests cfg au now answers]
  exact List.mem_map.mpr ⟨p, hp, rfl⟩

/-- **C03_hs_auth_token_round.** Request k+2 of an exchange SUPPORTED, AUTHENTICATE cls, then
    challenges c₁ c₂ … is AUTH_RESPONSE with the token the authenticator chain produces for the
    history (cls, c₁ … c_k) — for every k, every authenticator, as long as the chain carries on
    (a challenger came with each earlier reply, no error). -/
theorem C03_hs_auth_token_round (cfg : Config) (au : Authn) (m : List (Bytes × List Bytes)) (cls : Bytes)
    (cs : List (Option Bytes)) (more : List PeerAnswer) (k : Nat) (hk : k ≤ cs.length)
    (hA : cfg.hasAuth = true) (h0 : au.challenge [some cls] ≠ .fail)
    (hc : ∀ i, i < k → nextOf (au.challenge (some cls :: cs.take i)) = true ∧
                       au.challenge (some cls :: cs.take (i + 1)) ≠ .fail) :
    (specReqs cfg au (.supported m :: .authenticate cls :: (cs.map PeerAnswer.authChallenge ++ more)))[k + 2]? =
      some (Req.authResponse (tokenOf (au.challenge (some cls :: cs.take k))), negotiated cfg m) := by
  have hstep : specStep cfg au (.startup (negotiated cfg m)) (.authenticate cls) =
      (.auth (negotiated cfg m) [some cls], some (Req.authResponse (tokenOf (au.challenge [some cls])), negotiated cfg m), none) := by
    simp only [specStep]; rw [if_pos ⟨hA, h0⟩]
  have hstep0 : specStep cfg au .options (.supported m) =
      (.startup (negotiated cfg m), some (specStartup cfg m, false), none) := rfl
  cases k with
  | zero => simp [specReqs, specRun, hstep0, hstep]
  | succ k =>
    -- `ChainOk` counts the rounds from the first challenge on, `hc` from the AUTHENTICATE: one index apart
    have := specRun_auth_round cfg au (negotiated cfg m) cs [some cls] k more (by omega) (by
      intro i hi
      simpa using hc i (by omega))
    simpa [specReqs, specRun, hstep0, hstep] using this

/-- the same on the wire: frame k+2 of the model decodes to the AUTH_RESPONSE carrying
    `au.challenge (cls, c₁ … c_k)`'s token -/
theorem C03_hs_auth_frame_round (cfg : Config) (au : Authn) (now : Int) (m : List (Bytes × List Bytes)) (cls : Bytes)
    (cs : List (Option Bytes)) (more : List PeerAnswer) (k : Nat) (hk : k ≤ cs.length)
    (streams : List Int) (frames : List Bytes) (hv1 : 1 ≤ cfg.v) (hv5 : cfg.v ≤ 5)
    (hs : ∀ s ∈ streams, StreamInRange cfg.v s)
    (hx : ∀ r ∈ specReqs cfg au (.supported m :: .authenticate cls :: (cs.map PeerAnswer.authChallenge ++ more)),
      Expressible cfg.v r.1 = true)
    (he : encodeAll cfg.v now streams
      (modelReqs cfg au (.supported m :: .authenticate cls :: (cs.map PeerAnswer.authChallenge ++ more))) = some frames)
    (hA : cfg.hasAuth = true) (h0 : au.challenge [some cls] ≠ .fail)
    (hc : ∀ i, i < k → nextOf (au.challenge (some cls :: cs.take i)) = true ∧
                       au.challenge (some cls :: cs.take (i + 1)) ≠ .fail) :
    ∃ s f, streams[k + 2]? = some s ∧ frames[k + 2]? = some f ∧
      decodeZ (negotiated cfg m) f =
        some ⟨cfg.v, false, s, Req.authResponse (tokenOf (au.challenge (some cls :: cs.take k))), []⟩ :=
  expectAll_get cfg.v _ _ _ (C03_hs_frames cfg au now _ streams frames hv1 hv5 hs hx he) (k + 2) _ _
    (C03_hs_auth_token_round cfg au m cls cs more k hk hA h0 hc)

/-! ### the prepared-statement cache across executions, and UNPREPARED → re-PREPARE

But for `C03_hs_execute_id_from_peer` these speak of what the specification lists (`specRun`, `specReqs`); they hold of the requests the
model of conn.go writes through `C03_hs_requests`. -/

/-- **C03_hs_execute_id_from_peer.** For every configuration, authenticator, plan and EVERY peer script
    (protocol-conforming or not, any number of executions of the same or of different statements, any
    number of UNPREPARED errors): an EXECUTE the model of conn.go (executeQuery + the session's
    prepared-statement cache) ever writes carries an id that the peer handed out in a PREPARED answer of
    this very exchange — never an invented, truncated or stale-from-elsewhere id. -/
theorem C03_hs_execute_id_from_peer (cfg : Config) (au : Authn) (answers : List PeerAnswer) (id : Bytes) (p : GParams)
    (pl : GPayload) (z : Bool) (h : (GReq.execute id p pl, z) ∈ modelReqs cfg au answers) :
    ∃ n, PeerAnswer.prepared id n ∈ answers := by
  have hm : (ask 0 (GReq.execute id p pl), z) ∈ specReqs cfg au answers :=
    C03_hs_requests cfg au 0 answers ▸ List.mem_map.mpr ⟨_, h, rfl⟩
  exact (specReqs_ok (fun i => ∃ n, PeerAnswer.prepared i n ∈ answers) cfg au answers (fun i n hmem => ⟨n, hmem⟩) _ hm).1

/-- **C03_hs_cache_hit.** Wherever in a plan a statement is prepared and executed, and the next action
    executes the same statement again (other consistency, other values of the same number): the requests
    are EXECUTE id, EXECUTE id — no second PREPARE, the id of the PREPARED answer both times, each
    with its own values. For every state of the exchange, every continuation. -/
theorem C03_hs_cache_hit (cfg : Config) (au : Authn) (z : Bool) (curKs : Bytes) (known : Known) (stmt : Bytes)
    (cons cons2 : Nat) (vals vals2 : List (Option Bytes)) (rest : List Action) (id : Bytes) (more : List PeerAnswer)
    (hn : vals2.length = vals.length) :
    specRun cfg au (.prep z curKs known stmt cons vals (.exec stmt cons2 vals2 :: rest))
        (.prepared id vals.length :: .void :: more) =
      (specExecute cfg curKs id cons vals, z) :: (specExecute cfg curKs id cons2 vals2, z) ::
        specRun cfg au (.exe z curKs (((curKs, stmt), (id, vals.length)) :: known) stmt cons2 vals2 rest) more := by
  simp [specRun, specStep, specNext, specExec, hn]

/-- **C03_hs_unprepared_reprepare.** An EXECUTE answered by ERROR Unprepared naming the known id of the
    statement: the next requests are PREPARE of that very statement (with the per-request keyspace of the
    version) and then EXECUTE with the id of the NEW PREPARED answer and the same consistency and values —
    whatever else is known, wherever in the plan. -/
theorem C03_hs_unprepared_reprepare (cfg : Config) (au : Authn) (z : Bool) (curKs : Bytes) (known : Known) (stmt : Bytes)
    (cons : Nat) (vals : List (Option Bytes)) (rest : List Action) (id : Bytes) (n0 : Nat) (id2 : Bytes)
    (more : List PeerAnswer) (hk : known.lookup (curKs, stmt) = some (id, n0)) :
    specRun cfg au (.exe z curKs known stmt cons vals rest) (.unprepared id :: .prepared id2 vals.length :: more) =
      (specPrepare cfg.v curKs stmt, z) :: (specExecute cfg curKs id2 cons vals, z) ::
        specRun cfg au (.exe z curKs (((curKs, stmt), (id2, vals.length)) :: known.filter (fun e => e.1 != (curKs, stmt)))
          stmt cons vals rest) more := by
  have hf : specForget known (curKs, stmt) id = known.filter (fun e => e.1 != (curKs, stmt)) := by
    simp [specForget, hk]
  simp [specRun, specStep, hf, specExec, lookup_filter_ne]

/-- an UNPREPARED that names ANOTHER id says nothing about the known one: the EXECUTE is repeated
    unchanged (conn.go: evictPreparedID compares the ids; a conforming server never answers so) -/
theorem C03_hs_unprepared_other_id (cfg : Config) (au : Authn) (z : Bool) (curKs : Bytes) (known : Known) (stmt : Bytes)
    (cons : Nat) (vals : List (Option Bytes)) (rest : List Action) (id uid : Bytes) (more : List PeerAnswer)
    (hk : known.lookup (curKs, stmt) = some (id, vals.length)) (hne : id ≠ uid) :
    specRun cfg au (.exe z curKs known stmt cons vals rest) (.unprepared uid :: more) =
      (specExecute cfg curKs id cons vals, z) :: specRun cfg au (.exe z curKs known stmt cons vals rest) more := by
  have hf : specForget known (curKs, stmt) uid = known := by simp [specForget, hk, hne]
  simp [specRun, specStep, hf, specExec, hk]

/-- **C03_hs_execute_from_plan.** For every configuration, authenticator, plan and EVERY peer script: an
    EXECUTE that is due is the execution of an `exec` action of the plan — its consistency, its values
    (null / bytes as given, positional, in order), skip-metadata as configured, the per-request keyspace
    of the version, nothing else set, no custom payload; however often the statement was executed
    before and however many UNPREPARED rounds were needed. -/
theorem C03_hs_execute_from_plan (cfg : Config) (au : Authn) (answers : List PeerAnswer) (id : Bytes) (p : QParams)
    (pl : Payload) (z : Bool) (h : (Req.execute id p pl, z) ∈ specReqs cfg au answers) :
    ∃ stmt cons vals curKs, Action.exec stmt cons vals ∈ cfg.plan ∧
      Req.execute id p pl = specExecute cfg curKs id cons vals :=
  (specReqs_ok (fun _ => True) cfg au answers (fun _ _ _ => trivial) _ h).2

/-- every PREPARE that is due carries the statement text of an `exec` action of the plan, unchanged -/
theorem C03_hs_prepare_from_plan (cfg : Config) (au : Authn) (answers : List PeerAnswer) (stmt : Bytes) (ks : Option Bytes)
    (pl : Payload) (z : Bool) (h : (Req.prepare stmt ks pl, z) ∈ specReqs cfg au answers) :
    ∃ cons vals curKs, Action.exec stmt cons vals ∈ cfg.plan ∧ Req.prepare stmt ks pl = specPrepare cfg.v curKs stmt :=
  (specReqs_ok (fun _ => True) cfg au answers (fun _ _ _ => trivial) _ h).2

end Hs

/-- a v4 EXECUTE with named values, an unset value, page size, paging state, serial consistency,
    timestamp, tracing and a two-entry custom payload (the request of the examples below) -/
def exRich : GReq :=
  .execute [1, 2, 3]
    ⟨6, true, [⟨[0x61], false, some [9]⟩, ⟨[0x62], true, none⟩, ⟨[0x63], false, none⟩], 5000, [7, 7], 8, true, -1, []⟩
    [([0x6b], some [1]), ([0x6c], none)]

example : Expressible 4 (ask 0 exRich) = true := by decide
example : StreamInRange 4 32767 := ⟨by decide, by decide⟩
example : ∃ bs, encodeReq 4 true 32767 0 exRich = .ok bs ∧
    decodeReq bs = some ⟨4, true, 32767, ask 0 exRich, []⟩ := by
  obtain ⟨bs, h⟩ | h := C03_expressible_built 4 true 32767 0 exRich (by omega) (by omega) (by decide)
  · refine ⟨bs, h, ?_⟩
    have := C03_roundtrip 4 true 32767 0 exRich bs [] (by omega) (by omega) ⟨by decide, by decide⟩ (by decide) h
    simpa using this
  · have hok : (encodeReq 4 true 32767 0 exRich).toOption.isSome = true := by decide
    rw [h] at hok; cases hok
example : Rejectable 3 (ask 0 exRich) = true := by decide
example : mapEquiv (Req.startup [([1], [2]), ([3], [4])]) (Req.startup [([3], [4]), ([1], [2])]) :=
  List.Perm.swap _ _ _

/-! non-vacuity of the judgement: a v4 BATCH whose entry has a positional first value and a NAMED later one -/
def exBatchLaterNamed : GReq :=
  .batch 0 [⟨[7], [], [⟨[], false, some [1]⟩, ⟨[0x62], false, some [2]⟩]⟩] 1 0 false 0 []
example : Expressible 4 (ask 0 exBatchLaterNamed) = false ∧ Rejectable 4 (ask 0 exBatchLaterNamed) = true := by decide
example : judge (fun a b => a == b) 4 false (ask 0 exBatchLaterNamed) (outcomeOf (encodeReq 4 false 1 0 exBatchLaterNamed)) = .refusedOk := by
  decide
example : judge (fun a b => a == b) 4 true (ask 0 (.register [[0x41]])) (outcomeOf (encodeReq 4 true 5 0 (.register [[0x41]]))) = .ok := by decide

/-! non-vacuity of the compression theorems: the toy algorithm of the harness (FrameWrite.toyEnc: marker byte,
    every byte xor 0x5A) satisfies the hypotheses -/
theorem toy_inv (b : Bytes) : toyDec (toyEnc b) = some b := by
  simp only [toyEnc, toyDec, List.map_map, Option.some.injEq]
  have : ((fun x : UInt8 => x ^^^ 0x5A) ∘ fun x => x ^^^ 0x5A) = id := by
    funext x; simp [UInt8.xor_assoc]
  rw [this, List.map_id]

example : ∃ bs, encodeReqC (some toyEnc) 4 true 32767 0 exRich = .ok bs ∧
    decodeReqC toyDec bs = some ⟨4, true, 32767, ask 0 exRich, []⟩ ∧ decodeReq bs = none := by
  refine ⟨_, rfl, ?_, by decide⟩
  have := C03_roundtrip_compressed toyEnc toyDec toy_inv (by intro b hb; simp [toyEnc]; unfold maxFrameSize at hb; omega)
    4 true 32767 0 exRich _ [] (by omega) (by omega) ⟨by decide, by decide⟩ (by decide) rfl
  simpa using this

/-! non-vacuity of the handshake theorems: a v4 connection with a compressor the peer offers, a
    three-round authenticator whose token is `t` ++ the latest challenge, then USE, REGISTER,
    PREPARE → EXECUTE with the id of the PREPARED answer -/
section HsExample
open Handshake

def hsExAuth : Authn := ⟨fun hist => .reply (some ([0x74] ++ (hist.getLast?.join).getD [])) true, fun _ _ => true⟩
def hsExCfg : Config := ⟨4, [0x33], [0x64], [0x31], some [0x7a], true, 1, true,
  [.useKs [0x6b], .register true false true, .exec [0x73] 6 [some [1], none]], id⟩
def hsExAnswers : List PeerAnswer :=
  [.supported [(kCompression, [[0x7a]])], .authenticate [0x63], .authChallenge (some [0x41]), .authChallenge none,
   .authSuccess (some [0x5a]), .setKeyspace, .ready, .prepared [9, 9] 2, .void]

example : (specReqs hsExCfg hsExAuth hsExAnswers).length = 9 := by decide
example : (specReqs hsExCfg hsExAuth hsExAnswers)[3]? = some (Req.authResponse (some [0x74, 0x41]), true) := by decide
example : (specReqs hsExCfg hsExAuth hsExAnswers)[4]? = some (Req.authResponse (some [0x74]), true) := by decide
example : (specReqs hsExCfg hsExAuth hsExAnswers)[8]? =
    some (Req.execute [9, 9] ⟨6, true, [⟨none, Val.bytes [1]⟩, ⟨none, Val.null⟩], none, none, none, none, none⟩ [], true) := by decide
example : specFinal hsExCfg hsExAuth .options hsExAnswers = .stop .finished := by decide
example : specSuccess hsExCfg hsExAuth .options hsExAnswers = [some [0x5a]] := by decide
example : (specReqs hsExCfg hsExAuth hsExAnswers).all (fun r => Expressible 4 r.1) = true := by decide
example : ∃ frames, encodeAll 4 0 [0, 0, 0, 0, 0, 0, 0, 0, 0] (modelReqs hsExCfg hsExAuth hsExAnswers) = some frames ∧ frames.length = 9 := by
  refine ⟨_, rfl, ?_⟩
  decide

/-- the hypotheses of C03_hs_auth_token_round / C03_hs_auth_frame_round hold for this authenticator, any k -/
example (cls : Bytes) (cs : List (Option Bytes)) (i : Nat) :
    nextOf (hsExAuth.challenge (some cls :: cs.take i)) = true ∧
    hsExAuth.challenge (some cls :: cs.take (i + 1)) ≠ .fail := ⟨rfl, by simp [hsExAuth]⟩

/-! non-vacuity of the cache theorems: a statement executed twice, then lost by the server -/
def hsExCfg2 : Config := ⟨4, [0x33], [0x64], [0x31], none, false, 1, true,
  [.exec [0x73] 6 [some [1]], .exec [0x73] 2 [none]], id⟩
def hsExAnswers2 : List PeerAnswer :=
  [.supported [], .ready, .prepared [9] 1, .void, .unprepared [9], .prepared [8, 8] 1, .void]

example : (specReqs hsExCfg2 hsExAuth hsExAnswers2).map (·.1) =
    [Req.options, Req.startup [(kCql, [0x33]), (kName, [0x64]), (kVersion, [0x31])],
     Req.prepare [0x73] none [],
     Req.execute [9] ⟨6, true, [⟨none, Val.bytes [1]⟩], none, none, none, none, none⟩ [],
     Req.execute [9] ⟨2, true, [⟨none, Val.null⟩], none, none, none, none, none⟩ [],
     Req.prepare [0x73] none [],
     Req.execute [8, 8] ⟨2, true, [⟨none, Val.null⟩], none, none, none, none, none⟩ []] := by decide
example : specFinal hsExCfg2 hsExAuth .options hsExAnswers2 = .stop .finished := by decide
example : (GReq.execute [8, 8] (execParams hsExCfg2 [] 2 [none]) [], false) ∈ modelReqs hsExCfg2 hsExAuth hsExAnswers2 := by
  decide
example : ∃ n, PeerAnswer.prepared [8, 8] n ∈ hsExAnswers2 :=
  C03_hs_execute_id_from_peer hsExCfg2 hsExAuth hsExAnswers2 [8, 8] (execParams hsExCfg2 [] 2 [none]) [] false (by decide)
example : ∃ stmt cons vals curKs, Action.exec stmt cons vals ∈ hsExCfg2.plan ∧
    Req.execute [8, 8] ⟨2, true, [⟨none, Val.null⟩], none, none, none, none, none⟩ [] = specExecute hsExCfg2 curKs [8, 8] cons vals :=
  C03_hs_execute_from_plan hsExCfg2 hsExAuth hsExAnswers2 _ _ _ false (by decide)
end HsExample

end C03
