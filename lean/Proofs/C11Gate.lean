import Model.Policies
/-! The GATED schedule of a burst (op `gburst`): every call takes its snapshot and builds its new
list while all the others are in progress too, then they publish one after the other. Under the mutex discipline
of the unchanged code only the holder of the mutex can take a snapshot, so the schedule degenerates into a
sequential one (covered by `cow_linearizable`, all schedules). For the variant that loads and copies OUTSIDE the
mutex (`locked = false`) this schedule is DECISIVE for any number of calls, any update functions and any list:
the published value is the last publisher's update of the ORIGINAL snapshot - every other call is lost. -/
namespace C11
open Policies Policies.Cow

variable {σ : Type}

/-- the gated schedule of `n` calls: all load, all copy, then each locks, stores, unlocks -/
def gatedSched (n : Nat) : List Nat :=
  List.range n ++ List.range n ++ (List.range n).flatMap (fun i => [i, i, i])

theorem run_append (b : Bool) (n : Nat) (fs : Nat → σ → σ) (s : Sys σ) (a c : List Nat) :
    run b n fs s (a ++ c) = run b n fs (run b n fs s a) c := by
  unfold run; rw [List.foldl_append]

/-- a SWEEP over the calls `0 … k-1`: block `i` of the schedule moves call `i`, and only it, from where it stood to
`after i`, leaves the mutex free and the shared value at `sh (i + 1)` -/
theorem sweep (n : Nat) (fs : Nat → σ → σ) (blk : Nat → List Nat) (after : Nat → Pc σ) (sh : Nat → σ) (s0 : Sys σ)
    (h0 : s0.shared = sh 0 ∧ s0.mu = none)
    (hblk : ∀ i s, i < n → s.shared = sh i → s.mu = none → s.pcs i = s0.pcs i →
      (run false n fs s (blk i)).shared = sh (i + 1) ∧ (run false n fs s (blk i)).mu = none ∧
      ∀ j, (run false n fs s (blk i)).pcs j = if j = i then after i else s.pcs j)
    (k : Nat) (hk : k ≤ n) :
    let s := run false n fs s0 ((List.range k).flatMap blk)
    s.shared = sh k ∧ s.mu = none ∧ ∀ j, s.pcs j = if j < k then after j else s0.pcs j := by
  induction k with
  | zero => exact ⟨h0.1, h0.2, fun j => by simp [run]⟩
  | succ k ih =>
    obtain ⟨h1, h2, h3⟩ := ih (Nat.le_of_succ_le hk)
    rw [List.range_succ, List.flatMap_append, run_append]
    simp only [List.flatMap_cons, List.flatMap_nil, List.append_nil]
    obtain ⟨p1, p2, p3⟩ := hblk k _ (by omega) h1 h2 (by rw [h3 k]; simp)
    refine ⟨p1, p2, fun j => ?_⟩
    rw [p3 j]
    by_cases hj : j = k
    · subst hj; simp
    · rw [if_neg hj, h3 j]
      by_cases hlt : j < k
      · simp [hlt, Nat.lt_succ_of_lt hlt]
      · have : ¬ j < k + 1 := by omega
        simp [hlt, this]

/-- the three steps lock / store / unlock of call `k` -/
theorem publish (n : Nat) (fs : Nat → σ → σ) (s : Sys σ) (k : Nat) (hk : k < n) (v : σ)
    (hm : s.mu = none) (hp : s.pcs k = Pc.waiting v) :
    let s' := run false n fs s [k, k, k]
    s'.shared = v ∧ s'.mu = none ∧ ∀ j, s'.pcs j = if j = k then Pc.done else s.pcs j := by
  have hkn : ¬ n ≤ k := by omega
  simp only [run, List.foldl_cons, List.foldl_nil]
  have e1 : step false n fs s k = { s with mu := some k, pcs := fun j => if j = k then Pc.computed v else s.pcs j } := by
    simp [step, hkn, hp, hm]
  rw [e1]
  have e2 : step false n fs { s with mu := some k, pcs := fun j => if j = k then Pc.computed v else s.pcs j } k =
      { shared := v, mu := some k,
        pcs := fun j => if j = k then Pc.stored else (if j = k then Pc.computed v else s.pcs j) } := by
    simp [step, hkn]
  rw [e2]
  simp only [step, hkn, if_false, if_true]
  refine ⟨by trivial, by trivial, fun j => ?_⟩
  by_cases hj : j = k <;> simp [hj]

/-- the gated schedule without the mutex discipline: all `n + 1` calls return, and the published value is the LAST
publisher's update of the original value - the effect of every other call is lost -/
theorem gated_unlocked (n : Nat) (fs : Nat → σ → σ) (x : σ) :
    let s := run false (n + 1) fs (init x) (gatedSched (n + 1))
    s.allDone (n + 1) = true ∧ s.shared = fs n x ∧ s.mu = none := by
  intro s
  have hA := sweep (n + 1) fs (fun i => [i]) (fun _ => Pc.loaded x) (fun _ => x) (init x) ⟨rfl, rfl⟩
    (fun i s hi h1 h2 h3 => by
      have hkn : ¬ n + 1 ≤ i := by omega
      have : s.pcs i = Pc.idle := h3
      simp only [run, List.foldl_cons, List.foldl_nil, step, hkn, if_false, this, Bool.false_eq_true, h1]
      exact ⟨trivial, h2, fun j => trivial⟩) (n + 1) (Nat.le_refl _)
  rw [List.flatMap_singleton'] at hA
  have hB := sweep (n + 1) fs (fun i => [i]) (fun i => Pc.waiting (fs i x)) (fun _ => x) _ ⟨hA.1, hA.2.1⟩
    (fun i s hi h1 h2 h3 => by
      have hkn : ¬ n + 1 ≤ i := by omega
      have : s.pcs i = Pc.loaded x := by rw [h3, hA.2.2 i, if_pos hi]
      simp only [run, List.foldl_cons, List.foldl_nil, step, hkn, if_false, this, Bool.false_eq_true]
      exact ⟨h1, h2, fun j => trivial⟩) (n + 1) (Nat.le_refl _)
  rw [List.flatMap_singleton'] at hB
  have hC := sweep (n + 1) fs (fun i => [i, i, i]) (fun _ => Pc.done) (fun k => match k with | 0 => x | m + 1 => fs m x) _
    ⟨hB.1, hB.2.1⟩
    (fun i s hi _ h2 h3 => publish (n + 1) fs s i hi (fs i x) h2 (by rw [h3, hB.2.2 i, if_pos hi]))
    (n + 1) (Nat.le_refl _)
  have hs : s = run false (n + 1) fs (run false (n + 1) fs (run false (n + 1) fs (init x) (List.range (n + 1)))
      (List.range (n + 1))) ((List.range (n + 1)).flatMap (fun i => [i, i, i])) := by
    show run false (n + 1) fs (init x) (gatedSched (n + 1)) = _
    unfold gatedSched
    rw [run_append, run_append]
  rw [hs]
  refine ⟨?_, hC.1, hC.2.1⟩
  unfold Sys.allDone
  rw [List.all_eq_true]
  intro i hi
  rw [List.mem_range] at hi
  rw [hC.2.2 i]
  simp [hi, Pc.isDone]

end C11
