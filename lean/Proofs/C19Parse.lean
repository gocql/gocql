import Model.Uuid
/-! What `parseLoop` does on printed bytes (`parseLoop_hexBytes`), what `print u` is made of, and the language `parseLoop`
    accepts (`parseLoop_iff`). -/
namespace Uuid

theorem hexVal_hexDigit : ∀ n, n < 16 → hexVal (hexDigit n) = some n := by decide

theorem hexDigit_ne_hyphen : ∀ n, n < 16 → hexDigit n ≠ '-' := by decide

def nibbles : List UInt8 → List Nat
  | [] => []
  | b :: bs => b.toNat / 16 :: b.toNat % 16 :: nibbles bs

theorem nibbles_length (bs : List UInt8) : (nibbles bs).length = 2 * bs.length := by
  induction bs with
  | nil => rfl
  | cons b bs ih => simp [nibbles, ih]; omega

theorem nibbles_append (as bs : List UInt8) : nibbles (as ++ bs) = nibbles as ++ nibbles bs := by
  induction as with
  | nil => rfl
  | cons a as ih => simp [nibbles, ih]

theorem pack_nibbles (bs : List UInt8) : pack (nibbles bs) = bs := by
  induction bs with
  | nil => rfl
  | cons b bs ih =>
    simp only [nibbles, pack, ih]
    congr 1
    apply UInt8.toNat_inj.mp
    have := b.toNat_lt
    simp [UInt8.toNat_ofNat']
    omega

theorem parseLoop_hyphen (rest : List Char) (acc : List Nat) (h : acc.length % 2 = 0) :
    parseLoop ('-' :: rest) acc = parseLoop rest acc := by
  simp [parseLoop, h]

theorem parseLoop_digit (n : Nat) (hn : n < 16) (rest : List Char) (acc : List Nat) (h : acc.length < 32) :
    parseLoop (hexDigit n :: rest) acc = parseLoop rest (acc ++ [n]) := by
  simp [parseLoop, hexDigit_ne_hyphen n hn, hexVal_hexDigit n hn, h]

theorem hexBytes_eq (bs : List UInt8) : hexBytes bs = (nibbles bs).map hexDigit := by
  induction bs <;> simp_all [hexBytes, hexByte, nibbles]

theorem nibbles_lt (bs : List UInt8) : ∀ n ∈ nibbles bs, n < 16 := by
  induction bs with
  | nil => simp [nibbles]
  | cons b bs ih => have := b.toNat_lt; simp only [nibbles, List.forall_mem_cons]; exact ⟨by omega, by omega, ih⟩

theorem parseLoop_digits : ∀ (ds : List Nat) (rest : List Char) (acc : List Nat), (∀ n ∈ ds, n < 16) →
    acc.length + ds.length ≤ 32 → parseLoop (ds.map hexDigit ++ rest) acc = parseLoop rest (acc ++ ds)
  | [], _, _, _, _ => by simp
  | d :: ds, rest, acc, hd, h => by
    rw [List.forall_mem_cons] at hd
    simp only [List.length_cons] at h
    rw [List.map_cons, List.cons_append, parseLoop_digit d hd.1 _ _ (by omega),
      parseLoop_digits ds rest _ hd.2 (by simp; omega), List.append_assoc]; rfl

theorem parseLoop_hexBytes (bs : List UInt8) (rest : List Char) (acc : List Nat) (h : acc.length + 2 * bs.length ≤ 32) :
    parseLoop (hexBytes bs ++ rest) acc = parseLoop rest (acc ++ nibbles bs) := by
  rw [hexBytes_eq, parseLoop_digits _ _ _ (nibbles_lt bs) (by rw [nibbles_length]; exact h)]

theorem list16 (u : List UInt8) (h : u.length = 16) :
    ∃ b0 b1 b2 b3 b4 b5 b6 b7 b8 b9 b10 b11 b12 b13 b14 b15,
      u = [b0, b1, b2, b3, b4, b5, b6, b7, b8, b9, b10, b11, b12, b13, b14, b15] := by
  -- peel off up to 17 elements; every shape but the one with exactly 16 contradicts `h`
  rcases u with _|⟨b0,_|⟨b1,_|⟨b2,_|⟨b3,_|⟨b4,_|⟨b5,_|⟨b6,_|⟨b7,_|⟨b8,_|
    ⟨b9,_|⟨b10,_|⟨b11,_|⟨b12,_|⟨b13,_|⟨b14,_|⟨b15,_|⟨b16,r⟩⟩⟩⟩⟩⟩⟩⟩⟩⟩⟩⟩⟩⟩⟩⟩⟩ <;>
    simp at h
  exact ⟨_, _, _, _, _, _, _, _, _, _, _, _, _, _, _, _, rfl⟩

theorem hexBytes_length (bs : List UInt8) : (hexBytes bs).length = 2 * bs.length := by
  rw [hexBytes_eq, List.length_map, nibbles_length]

theorem print_chars (u : List UInt8) : ∀ c ∈ print u, c = '-' ∨ ∃ n : Fin 16, c = hexDigit n.val := by
  have hb : ∀ bs : List UInt8, ∀ c ∈ hexBytes bs, ∃ n : Fin 16, c = hexDigit n.val := fun bs c hc => by
    rw [hexBytes_eq] at hc
    obtain ⟨n, hn, rfl⟩ := List.mem_map.mp hc
    exact ⟨⟨n, nibbles_lt bs n hn⟩, rfl⟩
  intro c hc
  simp only [print, List.mem_append, List.mem_cons] at hc
  -- five groups of bytes with a hyphen between them
  rcases hc with (((hc | hc | hc) | hc | hc) | hc | hc) | hc | hc
  · exact Or.inr (hb _ c hc)
  · exact Or.inl hc
  · exact Or.inr (hb _ c hc)
  · exact Or.inl hc
  · exact Or.inr (hb _ c hc)
  · exact Or.inl hc
  · exact Or.inr (hb _ c hc)
  · exact Or.inl hc
  · exact Or.inr (hb _ c hc)

theorem hexVal_isSome_iff (c : Char) : (hexVal c).isSome = Spec.isHex c := by
  fun_cases hexVal c <;> simp_all [Spec.isHex]

theorem hexVal_hyphen : hexVal '-' = none := by decide

/-- hyphens only where an even number of digits precedes them -/
def HyphensOk (n : Nat) (s : List Char) : Prop :=
  ∀ pre post, s = pre ++ '-' :: post → (n + (Spec.digitsOf pre).length) % 2 = 0

theorem digitsOf_hyphen (cs : List Char) : Spec.digitsOf ('-' :: cs) = Spec.digitsOf cs := by simp [Spec.digitsOf]

theorem digitsOf_cons {c : Char} (hc : c ≠ '-') (cs : List Char) : Spec.digitsOf (c :: cs) = c :: Spec.digitsOf cs := by
  simp [Spec.digitsOf, hc]

theorem hyphensOk_hyphen (n : Nat) (cs : List Char) : HyphensOk n ('-' :: cs) ↔ n % 2 = 0 ∧ HyphensOk n cs := by
  constructor
  · intro h
    refine ⟨by simpa [Spec.digitsOf] using h [] cs rfl, fun pre post e => ?_⟩
    simpa [digitsOf_hyphen] using h ('-' :: pre) post (by rw [e]; rfl)
  · rintro ⟨h0, h⟩ pre post e
    rcases List.cons_eq_append_iff.mp e with ⟨rfl, _⟩ | ⟨pre', rfl, e'⟩
    · simpa [Spec.digitsOf] using h0
    · simpa [digitsOf_hyphen] using h pre' post e'

theorem hyphensOk_cons {c : Char} (hc : c ≠ '-') (n : Nat) (cs : List Char) :
    HyphensOk n (c :: cs) ↔ HyphensOk (n + 1) cs := by
  constructor
  · intro h pre post e
    have := h (c :: pre) post (by rw [e]; rfl)
    rw [digitsOf_cons hc, List.length_cons] at this
    omega
  · intro h pre post e
    rcases List.cons_eq_append_iff.mp e with ⟨rfl, e'⟩ | ⟨pre', rfl, e'⟩
    · exact absurd (List.cons.inj e').1.symm hc
    · have := h pre' post e'
      rw [digitsOf_cons hc, List.length_cons]
      omega

theorem parseLoop_iff (s : List Char) : ∀ (acc r : List Nat),
    parseLoop s acc = some r ↔
      ((∀ c ∈ s, c = '-' ∨ Spec.isHex c = true) ∧ acc.length + (Spec.digitsOf s).length = 32 ∧
        HyphensOk acc.length s ∧ r = acc ++ digitVals s) := by
  induction s with
  | nil =>
    intro acc r
    simp [parseLoop, Spec.digitsOf, digitVals, HyphensOk]
    intro _; exact eq_comm
  | cons c cs ih =>
    intro acc r
    rw [List.forall_mem_cons]
    by_cases hc : c = '-'
    · subst hc
      rw [hyphensOk_hyphen, digitVals, digitsOf_hyphen, ← digitVals]
      by_cases hev : acc.length % 2 = 0
      · simp [parseLoop, hev, ih]
      · simp [parseLoop, hev, hexVal_hyphen]
    · have hx := hexVal_isSome_iff c
      rw [hyphensOk_cons hc, digitVals, digitsOf_cons hc, List.filterMap_cons, ← digitVals]
      cases hv : hexVal c with
      | none => simp [parseLoop, hc, hv, ← hx]
      | some d =>
        rw [hv] at hx
        by_cases hlt : acc.length < 32
        · simp [parseLoop, hc, hv, hlt, ih, ← hx, Nat.add_assoc, Nat.add_comm 1]
        · simp [parseLoop, hc, hv, hlt]
          omega
end Uuid
