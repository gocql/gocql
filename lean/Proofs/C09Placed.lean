import Model.MurmurPlaced
import Proofs.C09Murmur
/-!
  The hash of a key AS IT LIES IN MEMORY (`Murmur.Placed`: unsafe 16-byte loads at the address of `data[n*16]`,
  tail bytes by address) is the hash of the key's bytes (`Murmur.murmur3H1` of the view) — for every backing
  memory, every offset (alignment), whatever lies before / behind the key.
-/
namespace Murmur.Placed

theorem view_length (s : Slice) (h : s.wf) : s.view.length = s.len := by
  unfold Slice.view Slice.wf at *
  simp [List.length_take, List.length_drop]; omega

theorem load64_in_view (s : Slice) (a : Nat) (h : a + 8 ≤ s.len) :
    load64 s.mem (s.off + a) = le64 ((s.view.drop a).take 8) := by
  unfold load64 Slice.view
  rw [List.drop_take, List.drop_drop, List.take_take]
  have : min 8 (s.len - a) = 8 := by omega
  rw [this]

-- the right side has the shape `Murmur.bodyLoopG` unfolds to (block `i` cut out first, then its halves)
theorem getBlock_in_view (s : Slice) (i : Nat) (h : i*16 + 16 ≤ s.len) :
    getBlock s i =
      (le64 (((s.view.drop (i*16)).take 16).take 8), le64 ((((s.view.drop (i*16)).take 16).drop 8).take 8)) := by
  unfold getBlock
  rw [Murmur.take8_take16, Murmur.drop8_take16, List.drop_drop]
  rw [load64_in_view s (i*16) (by omega)]
  have e : s.off + i*16 + 8 = s.off + (i*16 + 8) := by omega
  rw [e, load64_in_view s (i*16+8) (by omega)]

section generic
variable (mix : W × W → W → W → W × W)

theorem bodyLoopG_eq (s : Slice) (nB : Nat) (hB : nB*16 ≤ s.len) :
    ∀ (fuel : Nat) (h : W × W), fuel ≤ nB →
      bodyLoopG mix s nB fuel h = Murmur.bodyLoopG mix s.view nB fuel h := by
  intro fuel
  induction fuel with
  | zero => intro h _; rfl
  | succ f ih =>
    intro h hle
    have hi : (nB - (f+1)) * 16 + 16 ≤ s.len := by omega
    rw [bodyLoopG, Murmur.bodyLoopG, getBlock_in_view s _ hi]
    exact ih _ (by omega)
end generic

theorem tbAt_eq (s : Slice) (base i : Nat) (h : base + i < s.len) :
    tbAt s base i = Murmur.tb (s.view.drop base) i := by
  unfold tbAt Murmur.tb Slice.at Slice.view
  congr 1
  simp only [List.getD_eq_getElem?_getD, List.getElem?_drop, List.getElem?_take]
  simp [h]

/-- **the placed hash is the hash of the view**: for every backing memory, offset, length -/
theorem murmur3H1_eq_view (s : Slice) (h : s.wf) : murmur3H1 s = Murmur.murmur3H1 s.view := by
  unfold murmur3H1 murmurG Murmur.murmur3H1 Murmur.bodyLoop
  simp only [view_length s h]
  rw [bodyLoopG_eq mixBlock s (s.len / 16) (by omega) (s.len / 16) _ (Nat.le_refl _)]
  have hrd : ∀ i, i < s.len % 16 → tbAt s (s.len / 16 * 16) i = Murmur.tb (s.view.drop (s.len / 16 * 16)) i :=
    fun i hi => tbAt_eq s _ i (by omega)
  rw [tailK1R_eq_arms, tailK2R_eq_arms, arms_congr hrd, arms_congr hrd, ← tailK1_eq_arms, ← tailK2_eq_arms]

theorem place_wf (pre key post : List UInt8) (spare : Nat) : (place pre key post spare).wf := by
  simp [place, Slice.wf]

theorem place_view (pre key post : List UInt8) (spare : Nat) : (place pre key post spare).view = key := by
  simp [place, Slice.view]

theorem routingKey_view (cs : List Slice) : (routingKey cs).view = Token.routingKey (cs.map Slice.view) := by
  unfold routingKey Token.routingKey
  match cs with
  | [] => simp [Slice.view]
  | [c] => simp
  | c :: d :: r => simp [Slice.view]

theorem routingKey_wf (cs : List Slice) (h : ∀ c ∈ cs, c.wf) : (routingKey cs).wf := by
  unfold routingKey
  match cs with
  | [] => simp [Slice.wf]
  | [c] => exact h c (by simp)
  | c :: d :: r => simp [Slice.wf]

end Murmur.Placed
