import Model.Placement
import Proofs.C10Nts
import Proofs.C10NtsNodup
/-! What the simulation of networkTopology.replicaMap's inner loop against Cassandra's NetworkTopologyStrategy
(`C10NtsSim.nts_sim`) needs of either side: the hosts counted by a state fit into the prefix walked (`count_le`), Cassandra's
step case by case (`stAdd`/`stSkip`/`st1`/`stNew`, `spec_step_cases`), and what
the two loop conditions mean (`model_stop`, `spec_walk_cons`).  The closing `namespace C10SpecDedup` holds `DrainFacts`, the frame of a
drain as a record: a fixed name that nothing in the development uses (`C10NtsSim.drainSk_eq` states the drain as one equation). -/
namespace C10NtsSpec
open Placement C10Simple C10Nts C10NtsNodup

/-- pigeonhole: a duplicate-free `s ⊆ r` at least as long as `r` covers `r`
(otherwise `s` would fit into `r` without the missing element, `List.Nodup.length_le_of_subset`) -/
theorem nodup_subset_covers {α : Type} [DecidableEq α] (s r : List α) (hnd : s.Nodup) (hsub : ∀ x ∈ s, x ∈ r)
    (hlen : r.length ≤ s.length) : ∀ x ∈ r, x ∈ s := by
  intro x hx
  apply Classical.byContradiction
  intro hxs
  have := hnd.length_le_of_subset (l₂ := r.erase x) (fun y hy =>
    (List.mem_erase_of_ne (fun (e : y = x) => hxs (e ▸ hy))).mpr (hsub y hy))
  rw [List.length_erase_of_mem hx] at this
  have := List.length_pos_of_mem hx
  omega

/-- replicas of the DC plus its skipped hosts are distinct hosts of the walked prefix -/
theorem count_le (c : NtsCfg) (pre : List Host) (st : NtsSt) (g : Good c st) (j : J pre st) (d : Nat) :
    st.inDC d + (st.skipped d).length ≤ (pre.filter (fun x => decide (x.dc = d))).length := by
  have hnd : (st.replicas.filter (fun x => decide (x.dc = d)) ++ st.skipped d).Nodup := by
    rw [List.nodup_append]
    refine ⟨List.Sublist.nodup List.filter_sublist j.rnd, j.snd d, ?_⟩
    intro a ha b hb e
    subst e
    exact j.dis d a hb (List.mem_filter.mp ha).1
  have := hnd.length_le_of_subset (l₂ := pre.filter (fun x => decide (x.dc = d))) (by
    intro x hx
    rw [List.mem_append] at hx
    rw [List.mem_filter]
    rcases hx with hx | hx
    · exact ⟨j.rp x (List.mem_filter.mp hx).1, (List.mem_filter.mp hx).2⟩
    · exact ⟨j.sp d x hx, by simpa using g.skdc d x hx⟩)
  rw [List.length_append, g.cnt d] at this
  exact this

theorem spec_step_skip (tp : Spec.Topo) (dcs : List Nat) (rf : Nat → Nat) (sst : Spec.St) (h : Host)
    (hc : h.dc ∉ dcs ∨ Spec.sufficient tp rf sst h.dc = true) : Spec.step tp dcs rf sst h = sst := by
  unfold Spec.step
  simp only [hc, if_true]

theorem sufficient_iff (tp : Spec.Topo) (rf : Nat → Nat) (sst : Spec.St) (d : Nat) :
    Spec.sufficient tp rf sst d = true ↔ min (tp.nodesIn d) (rf d) ≤ (sst.dcReplicas d).length := by
  simp [Spec.sufficient]

/-- Cassandra passes over a host whose datacenter has rf 0 or is not among the keyspace's options -/
theorem spec_step_rf0 (tp : Spec.Topo) (rfs : List (Nat × Nat)) (sst : Spec.St) (h : Host) (h0 : rfOf rfs h.dc = 0) :
    Spec.step tp (rfs.map (·.1)) (rfOf rfs) sst h = sst :=
  spec_step_skip tp _ _ sst h (Or.inr ((sufficient_iff tp _ sst h.dc).mpr (by rw [h0]; omega)))

def stAdd (s : Spec.St) (ep : Host) : Spec.St :=
  { s with dcReplicas := upd s.dcReplicas ep.dc (setAdd (s.dcReplicas ep.dc) ep),
           replicas := setAdd s.replicas ep }

def stSkip (s : Spec.St) (ep : Host) : Spec.St :=
  { s with skipped := upd s.skipped ep.dc (setAdd (s.skipped ep.dc) ep) }

/-- state after taking `h` for a new rack -/
def st1 (sst : Spec.St) (h : Host) : Spec.St :=
  { sst with dcReplicas := upd sst.dcReplicas h.dc (setAdd (sst.dcReplicas h.dc) h),
             replicas := setAdd sst.replicas h,
             seenRacks := upd sst.seenRacks h.dc (setAdd (sst.seenRacks h.dc) h.rack) }

/-- `st1` followed by the drain when the last rack has just been seen -/
def stNew (tp : Spec.Topo) (rf : Nat → Nat) (s : Spec.St) (ep : Host) : Spec.St :=
  if ((st1 s ep).seenRacks ep.dc).length = tp.racksIn ep.dc
  then Spec.drainSk tp rf ep.dc (st1 s ep) ((st1 s ep).skipped ep.dc) else st1 s ep

theorem spec_step_A (tp : Spec.Topo) (dcs : List Nat) (rf : Nat → Nat) (sst : Spec.St) (h : Host)
    (h1 : h.dc ∈ dcs) (h2 : Spec.sufficient tp rf sst h.dc = false)
    (h3 : (sst.seenRacks h.dc).length = tp.racksIn h.dc) :
    Spec.step tp dcs rf sst h = stAdd sst h := by
  unfold Spec.step stAdd
  simp [h1, h2, h3, sadd_eq]

theorem spec_step_C (tp : Spec.Topo) (dcs : List Nat) (rf : Nat → Nat) (sst : Spec.St) (h : Host)
    (h1 : h.dc ∈ dcs) (h2 : Spec.sufficient tp rf sst h.dc = false)
    (h3 : (sst.seenRacks h.dc).length ≠ tp.racksIn h.dc) (h4 : h.rack ∈ sst.seenRacks h.dc) :
    Spec.step tp dcs rf sst h = stSkip sst h := by
  unfold Spec.step stSkip
  simp [h1, h2, h3, h4, sadd_eq]

theorem spec_step_B (tp : Spec.Topo) (dcs : List Nat) (rf : Nat → Nat) (sst : Spec.St) (h : Host)
    (h1 : h.dc ∈ dcs) (h2 : Spec.sufficient tp rf sst h.dc = false)
    (h3 : (sst.seenRacks h.dc).length ≠ tp.racksIn h.dc) (h4 : h.rack ∉ sst.seenRacks h.dc) :
    Spec.step tp dcs rf sst h = stNew tp rf sst h := by
  unfold Spec.step
  simp only [h1, not_true_eq_false, h2, Bool.false_eq_true, or_self, if_false, h3, h4]
  rfl

theorem spec_step_cases (tp : Spec.Topo) (dcs : List Nat) (rf : Nat → Nat) (s : Spec.St) (ep : Host) :
    ((ep.dc ∉ dcs ∨ Spec.sufficient tp rf s ep.dc = true) ∧ Spec.step tp dcs rf s ep = s) ∨
    (ep.dc ∈ dcs ∧ Spec.sufficient tp rf s ep.dc = false ∧
      (((s.seenRacks ep.dc).length = tp.racksIn ep.dc ∧ Spec.step tp dcs rf s ep = stAdd s ep) ∨
       ((s.seenRacks ep.dc).length ≠ tp.racksIn ep.dc ∧ ep.rack ∈ s.seenRacks ep.dc ∧
          Spec.step tp dcs rf s ep = stSkip s ep) ∨
       ((s.seenRacks ep.dc).length ≠ tp.racksIn ep.dc ∧ ep.rack ∉ s.seenRacks ep.dc ∧
          Spec.step tp dcs rf s ep = stNew tp rf s ep))) := by
  by_cases h1 : ep.dc ∈ dcs
  · by_cases h2 : Spec.sufficient tp rf s ep.dc = true
    · exact Or.inl ⟨Or.inr h2, spec_step_skip tp dcs rf s ep (Or.inr h2)⟩
    · have h2' : Spec.sufficient tp rf s ep.dc = false := by simpa using h2
      right
      refine ⟨h1, h2', ?_⟩
      by_cases h3 : (s.seenRacks ep.dc).length = tp.racksIn ep.dc
      · exact Or.inl ⟨h3, spec_step_A tp dcs rf s ep h1 h2' h3⟩
      · by_cases h4 : ep.rack ∈ s.seenRacks ep.dc
        · exact Or.inr (Or.inl ⟨h3, h4, spec_step_C tp dcs rf s ep h1 h2' h3 h4⟩)
        · exact Or.inr (Or.inr ⟨h3, h4, spec_step_B tp dcs rf s ep h1 h2' h3 h4⟩)
  · exact Or.inl ⟨Or.inl h1, spec_step_skip tp dcs rf s ep (Or.inl h1)⟩

theorem drain_suff (tp : Spec.Topo) (rf : Nat → Nat) (dc : Nat) (s : Spec.St)
    (h : Spec.sufficient tp rf s dc = true) : ∀ l, Spec.drainSk tp rf dc s l = s := by
  intro l
  cases l with
  | nil => rfl
  | cons a r => simp [Spec.drainSk, h]

theorem drain_go (tp : Spec.Topo) (rf : Nat → Nat) (dc : Nat) (s : Spec.St) (x : Host) (xs : List Host)
    (h : ¬ Spec.sufficient tp rf s dc = true) :
    Spec.drainSk tp rf dc s (x :: xs) =
      Spec.drainSk tp rf dc { s with dcReplicas := upd s.dcReplicas dc (setAdd (s.dcReplicas dc) x),
                                     replicas := setAdd s.replicas x } xs := by
  rw [Spec.drainSk, if_neg h]; rfl

theorem rfOf_of_mem (rfs : List (Nat × Nat)) (hk : (rfs.map (·.1)).Nodup) (d v : Nat) (hm : (d, v) ∈ rfs) :
    rfOf rfs d = v := by
  obtain ⟨s, t, rfl⟩ := List.append_of_mem hm
  rw [List.map_append, List.nodup_append] at hk
  have : (s ++ (d, v) :: t).lookup d = some v :=
    List.lookup_eq_some_iff.mpr ⟨s, t, rfl, fun p hp => bne_iff_ne.mpr (fun e =>
      hk.2.2 d (e ▸ List.mem_map.mpr ⟨p, hp, rfl⟩) d (List.mem_map.mpr ⟨(d, v), List.mem_cons_self .., rfl⟩) rfl)⟩
  rw [rfOf, this]
  rfl

theorem length_filter_mem_cons (k : Nat) (ks : List Nat) (hk : k ∉ ks) : ∀ R : List Host,
    (R.filter (fun x => decide (x.dc ∈ k :: ks))).length
      = (R.filter (fun x => decide (x.dc = k))).length + (R.filter (fun x => decide (x.dc ∈ ks))).length
  | [] => rfl
  | x :: R => by
    have ih := length_filter_mem_cons k ks hk R
    rw [List.filter_cons, List.filter_cons, List.filter_cons]
    by_cases h1 : x.dc = k
    · simp only [h1, hk, List.mem_cons_self, decide_true, decide_false, if_true, Bool.false_eq_true, if_false,
        List.length_cons]
      omega
    · by_cases h2 : x.dc ∈ ks
      · have hm : x.dc ∈ k :: ks := List.mem_cons_of_mem _ h2
        simp only [hm, h1, h2, decide_true, decide_false, if_true, Bool.false_eq_true, if_false, List.length_cons]
        omega
      · have hm : x.dc ∉ k :: ks := fun h => (List.mem_cons.mp h).elim h1 h2
        simp only [hm, h1, h2, decide_false, Bool.false_eq_true, if_false]
        exact ih

theorem sum_filter_keys_eq : ∀ (ks : List Nat), ks.Nodup → ∀ R : List Host,
    (ks.map (fun k => (R.filter (fun x => decide (x.dc = k))).length)).sum
      = (R.filter (fun x => decide (x.dc ∈ ks))).length
  | [], _, R => by rw [List.filter_eq_nil_iff.mpr (fun x _ => by simp)]; rfl
  | k :: ks, hk, R => by
    rw [List.nodup_cons] at hk
    rw [List.map_cons, List.sum_cons, sum_filter_keys_eq ks hk.2 R, length_filter_mem_cons k ks hk.1 R]

theorem sum_map_le {α : Type} (l : List α) (f g : α → Nat) (h : ∀ a ∈ l, f a ≤ g a) :
    (l.map f).sum ≤ (l.map g).sum := by
  induction l with
  | nil => simp
  | cons a r ih =>
    have := h a (List.mem_cons_self ..)
    have := ih (fun b hb => h b (List.mem_cons_of_mem _ hb))
    simp only [List.map_cons, List.sum_cons]
    omega

/-- terms bounded one by one whose sum reaches the sum of the bounds equal their bounds -/
theorem eq_of_le_of_sum_le (f : Nat → Nat) : ∀ (l : List (Nat × Nat)), (∀ p ∈ l, f p.1 ≤ p.2) →
    (l.map (·.2)).sum ≤ (l.map (fun p => f p.1)).sum → ∀ p ∈ l, f p.1 = p.2
  | [], _, _, p, hp => by cases hp
  | a :: r, hle, hsum, p, hp => by
    have ha := hle a (List.mem_cons_self ..)
    have hr : ∀ p ∈ r, f p.1 ≤ p.2 := fun p hp => hle p (List.mem_cons_of_mem _ hp)
    have hler := sum_map_le r (fun p => f p.1) (·.2) hr
    simp only [List.map_cons, List.sum_cons] at hsum
    rcases List.mem_cons.mp hp with e | hp
    · subst e; omega
    · exact eq_of_le_of_sum_le f r hr (by omega) p hp

/-- the counters of the keyspace's datacenters add up to the number of replicas: every replica is in a datacenter with
rf > 0, and the counters count the replicas per datacenter -/
theorem sum_inDC (c : NtsCfg) (st : NtsSt) (g : Good c st) (hk : (c.rfs.map (·.1)).Nodup) :
    (c.rfs.map (fun p => st.inDC p.1)).sum = st.replicas.length := by
  have hdc : ∀ x ∈ st.replicas, x.dc ∈ c.rfs.map (·.1) := by
    intro x hx
    have h1 : 0 < (st.replicas.filter (fun y => decide (y.dc = x.dc))).length :=
      List.length_pos_of_mem (List.mem_filter.mpr ⟨hx, by simp⟩)
    rw [g.cnt] at h1
    have h2 := g.le x.dc
    exact List.mem_map.mpr ⟨_, rfOf_mem c.rfs x.dc (by omega), rfl⟩
  have := sum_filter_keys_eq (c.rfs.map (·.1)) hk st.replicas
  rw [List.filter_eq_self.mpr (fun x hx => decide_eq_true (hdc x hx)), List.map_map] at this
  rw [← this]
  congr 1
  apply List.map_congr_left
  intro p _
  simp only [Function.comp]
  rw [g.cnt]

/-- `haveRF` is false whenever the loop condition consults it: its final `return true` is unreachable -/
theorem haveRF_dead (c : NtsCfg) (st : NtsSt) (g : Good c st) (hk : (c.rfs.map (·.1)).Nodup)
    (htot : c.totalRF = (c.rfs.map (·.2)).sum) (hlt : st.replicas.length < c.totalRF) : haveRF c st = false := by
  cases h : haveRF c st with
  | false => rfl
  | true =>
    exfalso
    unfold haveRF at h
    simp only [Bool.and_eq_true, List.all_eq_true, beq_iff_eq] at h
    -- `haveRF` says every counter equals its rf; the counters add up to the number of replicas
    have hsum := sum_inDC c st g hk
    rw [← List.map_congr_left (fun p hp => h.2 p hp), ← htot] at hsum
    omega

/-- when the code's loop condition stops the walk, every keyspace DC has exactly rf replicas -/
theorem model_stop (c : NtsCfg) (st : NtsSt) (g : Good c st) (hk : (c.rfs.map (·.1)).Nodup)
    (htot : c.totalRF = (c.rfs.map (·.2)).sum)
    (hstop : ¬ (st.replicas.length < c.totalRF ∧ haveRF c st = false)) :
    ∀ p ∈ c.rfs, st.inDC p.1 = p.2 := by
  have hlen : c.totalRF ≤ st.replicas.length :=
    Nat.le_of_not_lt fun hlt => hstop ⟨hlt, haveRF_dead c st g hk htot hlt⟩
  have hle : ∀ p ∈ c.rfs, st.inDC p.1 ≤ p.2 := by
    intro p hp
    have := g.le p.1
    rwa [rfOf_of_mem c.rfs hk p.1 p.2 hp] at this
  exact eq_of_le_of_sum_le st.inDC c.rfs hle (by rw [sum_inDC c st g hk, ← htot]; exact hlen)

theorem spec_walk_stop (tp : Spec.Topo) (dcs : List Nat) (rf : Nat → Nat) (sst : Spec.St)
    (h : dcs.all (fun dc => Spec.sufficient tp rf sst dc) = true) : ∀ l, Spec.walk tp dcs rf sst l = sst := by
  intro l
  cases l with
  | nil => rfl
  | cons a r => simp [Spec.walk, h]

/-- Cassandra's loop condition only saves work: a step in a state where every datacenter is satisfied changes nothing -/
theorem spec_walk_cons (tp : Spec.Topo) (dcs : List Nat) (rf : Nat → Nat) (s : Spec.St) (ep : Host) (rest : List Host) :
    Spec.walk tp dcs rf s (ep :: rest) = Spec.walk tp dcs rf (Spec.step tp dcs rf s ep) rest := by
  by_cases hS : dcs.all (fun dc => Spec.sufficient tp rf s dc) = true
  · have : Spec.step tp dcs rf s ep = s := by
      apply spec_step_skip
      by_cases hd : ep.dc ∈ dcs
      · exact Or.inr (List.all_eq_true.mp hS _ hd)
      · exact Or.inl hd
    rw [this, spec_walk_stop tp dcs rf s hS, spec_walk_stop tp dcs rf s hS]
  · rw [Spec.walk, if_neg hS]

end C10NtsSpec

namespace C10SpecDedup
open Placement C10Nts C10NtsSpec

/-- what a drain of `sk` from state `s` (datacenter `dc`) leaves in its result `r` -/
structure DrainFacts (tp : Spec.Topo) (rf : Nat → Nat) (dc : Nat) (s r : Spec.St) (sk : List Host) : Prop where
  seen : r.seenRacks = s.seenRacks
  skipped : r.skipped = s.skipped
  other : ∀ d, d ≠ dc → r.dcReplicas d = s.dcReplicas d
  rmono : ∀ x ∈ s.replicas, x ∈ r.replicas
  dmono : ∀ x ∈ s.dcReplicas dc, x ∈ r.dcReplicas dc
  len : (s.dcReplicas dc).length ≤ (r.dcReplicas dc).length
  exhaust : Spec.sufficient tp rf r dc = false → ∀ x ∈ sk, x ∈ r.replicas ∧ x ∈ r.dcReplicas dc
  src : ∀ x ∈ r.replicas, x ∈ s.replicas ∨ (x ∈ sk ∧ x ∈ r.dcReplicas dc)

end C10SpecDedup
