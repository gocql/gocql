import Proofs.C07Machine
/-!
  The invariant of EVERY configuration about the flusher's queue and batch, its flags and the semaphore holder (`Batch`):
  who is `queued` is exactly who is in the queue or in the batch, whoever holds the semaphore is inside the socket Write, and
  queue and batch are never both in use. On it rests that every writer follows its control-flow graph (`step_next`), so a
  result, once determined, is final (`done_step`, `outcome_step`).
-/
namespace Writer

structure Batch (cfg : Cfg) (s : St) : Prop where
  /-- no queued writer is lost, and nobody else is in the flusher's queue or in the batch being flushed -/
  queued : ∀ w, s.pc w = .queued ↔ w ∈ s.queue ∨ w ∈ s.todo
  ownerIn : ∀ w, s.owner = some w → ∃ off, s.pc w = .inWrite off
  idleTodo : s.flushing = false → s.todo = []
  queueIdle : s.flushing = true → s.queue = []
  /-- coalescer: a buffer is inside the socket Write only during a flush -/
  ownFl : cfg.coalesce = true → ∀ w, s.owner = some w → s.flushing = true
  /-- the only clause that needs conn.go's disposition of the queue on quit (the variant starts a last flush) -/
  goneIdle : cfg.flushOnQuit = false → s.gone = true → s.flushing = false
  goneQuit : s.gone = true → s.quit = true
  dirIdle : cfg.coalesce = false → s.flushing = false ∧ s.gone = false

theorem Batch.disj {cfg : Cfg} {s : St} (h : Batch cfg s) : ∀ w ∈ s.queue, w ∉ s.todo := by
  intro w hq ht
  cases hf : s.flushing
  · rw [h.idleTodo hf] at ht; cases ht
  · rw [h.queueIdle hf] at hq; cases hq

theorem Batch.idle_of_gone {cfg : Cfg} {s : St} (h : Batch cfg s) (hq : cfg.flushOnQuit = false) (hc : cfg.coalesce = true)
    (hg : s.gone = true) : s.owner = none ∧ s.flushing = false := by
  have hfl := h.goneIdle hq hg
  refine ⟨?_, hfl⟩
  cases ho : s.owner with
  | none => rfl
  | some w => exact absurd (h.ownFl hc w ho) (ne_true_of_eq_false hfl)

theorem queued_move {pc : Nat → Pc} {q t : List Nat} (h : ∀ x, pc x = .queued ↔ x ∈ q ∨ x ∈ t) {w : Nat} {v : Pc}
    (hw : pc w ≠ .queued) (hv : v ≠ .queued) : ∀ x, setPc pc w v x = .queued ↔ x ∈ q ∨ x ∈ t :=
  forall_update' (P := fun x (p : Pc) => p = .queued ↔ x ∈ q ∨ x ∈ t)
    ⟨fun h' => absurd h' hv, fun h' => absurd ((h w).mpr h') hw⟩ fun x _ => h x

theorem queued_leave {pc : Nat → Pc} {q t q' t' : List Nat} (h : ∀ x, pc x = .queued ↔ x ∈ q ∨ x ∈ t) {w : Nat} {v : Pc}
    (hv : v ≠ .queued) (hq : ∀ x, x ∈ q' ↔ x ∈ q ∧ x ≠ w) (ht : ∀ x, x ∈ t' ↔ x ∈ t ∧ x ≠ w) :
    ∀ x, setPc pc w v x = .queued ↔ x ∈ q' ∨ x ∈ t' :=
  forall_update' (P := fun x (p : Pc) => p = .queued ↔ x ∈ q' ∨ x ∈ t')
    ⟨fun h' => absurd h' hv, fun h' => h'.elim (fun h' => absurd rfl ((hq w).mp h').2) fun h' => absurd rfl ((ht w).mp h').2⟩
    fun x e => (h x).trans ⟨Or.imp (fun h' => (hq x).mpr ⟨h', e⟩) fun h' => (ht x).mpr ⟨h', e⟩,
      Or.imp (fun h' => ((hq x).mp h').1) fun h' => ((ht x).mp h').1⟩

theorem mem_filter_ne (l : List Nat) (w x : Nat) : x ∈ l.filter (· ≠ w) ↔ x ∈ l ∧ x ≠ w := by
  rw [List.mem_filter, decide_eq_true_iff]

theorem batch_step (cfg : Cfg) (s s' : St) (a : Act) (h : Batch cfg s) (hs : step cfg s a = some s') : Batch cfg s' := by
  have inQ : ∀ x ∈ s.queue, s.pc x = .queued := fun x hx => (h.queued x).mpr (.inl hx)
  have inT : ∀ x ∈ s.todo, s.pc x = .queued := fun x hx => (h.queued x).mpr (.inr hx)
  have notin : ∀ {w : Nat} {l : List Nat}, (∀ x ∈ l, s.pc x = .queued) → s.pc w ≠ .queued →
      ∀ x, x ∈ l ↔ x ∈ l ∧ x ≠ w :=
    fun hl hw x => ⟨fun hx => ⟨hx, fun e => hw (e ▸ hl x hx)⟩, (·.1)⟩
  have move : ∀ {w : Nat} {p v : Pc}, s.pc w = p → p ≠ .queued → v ≠ .queued →
      ∀ x, setPc s.pc w v x = .queued ↔ x ∈ s.queue ∨ x ∈ s.todo := fun hw hp hv => queued_move h.queued (hw ▸ hp) hv
  have keep : ∀ {w : Nat} {p v : Pc}, s.pc w = p → (∀ off, p ≠ .inWrite off) →
      ∀ x, s.owner = some x → ∃ off, setPc s.pc w v x = .inWrite off :=
    fun hw hp x hx => have ⟨off, ho⟩ := h.ownerIn x hx; ⟨off, setPc_keep ho hw (hp off)⟩
  -- each rule: the clauses that read a component the rule writes; the others are the old ones
  cases Step.of_step hs with
  | submit hw | cancel hw | retCancelled hw | retOk hw | retFailed hw | closeFinish hw _ =>
    exact { h with queued := move hw nofun nofun, ownerIn := keep hw nofun }
  | close hw => exact { h with queued := move hw nofun (by split <;> nofun), ownerIn := keep hw nofun }
  | @piece w k off hw _ =>
    exact { h with
      queued := move hw nofun nofun
      ownerIn := forall_update' (P := fun x (p : Pc) => s.owner = some x → ∃ o, p = .inWrite o) (fun _ => ⟨off + k, rfl⟩)
        fun x _ => h.ownerIn x }
  | shutdown | cancelCtx _ | shutQuit _ => exact { h with goneQuit := fun _ => rfl }
  | flusherQuit hg _ =>
    exact { h with
      goneIdle := fun _ _ => hg.2.2.1, goneQuit := fun _ => hg.2.1, dirIdle := fun hc => absurd hg.1 (ne_true_of_eq_false hc) }
  | tick hg =>
    -- the queue becomes the batch; the batch before was empty (no flush in progress)
    exact { h with
      queued := fun x => (h.queued x).trans (by rw [h.idleTodo hg.2.1]; exact or_comm)
      idleTodo := nofun, queueIdle := fun _ => rfl, ownFl := fun _ _ _ => rfl
      goneIdle := fun _ hg' => absurd hg' (ne_true_of_eq_false hg.2.2.2)
      dirIdle := fun hc => absurd hg.1 (ne_true_of_eq_false hc) }
  | flusherQuitFlush hg hf =>
    exact { h with
      queued := fun x => (h.queued x).trans (by rw [h.idleTodo hg.2.2.1]; exact or_comm)
      idleTodo := fun h1 => List.isEmpty_iff.mp (by simpa using h1), queueIdle := fun _ => rfl
      ownFl := fun hc w hw => absurd (h.ownFl hc w hw) (ne_true_of_eq_false hg.2.2.1)
      goneIdle := fun hq => absurd hf (ne_true_of_eq_false hq), goneQuit := fun _ => hg.2.1
      dirIdle := fun hc => absurd hg.1 (ne_true_of_eq_false hc) }
  | @enqueue w hg =>
    exact { h with
      queued := forall_update' (P := fun x (p : Pc) => p = .queued ↔ x ∈ s.queue ++ [w] ∨ x ∈ s.todo)
        ⟨fun _ => .inl (List.mem_append_right _ (List.mem_singleton.mpr rfl)), fun _ => rfl⟩
        fun x e => (h.queued x).trans (or_congr_left ⟨List.mem_append_left _,
          fun h => (List.mem_append.mp h).resolve_right fun h => e (List.mem_singleton.mp h)⟩)
      ownerIn := keep hg.2.1 nofun
      queueIdle := fun hf => absurd hf (ne_true_of_eq_false hg.2.2.1)
      dirIdle := fun hc => absurd hg.1 (ne_true_of_eq_false hc) }
  | @enter w hg =>
    -- the direct writer was waiting; the flusher's buffer comes from the batch, and during a flush the queue is empty
    have hnq : ∀ x, x ∈ s.queue ↔ x ∈ s.queue ∧ x ≠ w := hg.2.elim (fun h1 => notin inQ (h1.2 ▸ nofun))
      fun h2 => by rw [h.queueIdle h2.2.2.1]; exact fun x => ⟨nofun, (·.1)⟩
    exact { h with
      queued := queued_leave h.queued nofun hnq (mem_filter_ne _ w)
      ownerIn := fun x hx => ⟨0, Option.some.inj hx ▸ setPc_same⟩
      idleTodo := fun hf => congrArg (List.filter _) (h.idleTodo hf)
      ownFl := fun hc _ _ => hg.2.elim (fun h1 => absurd hc (ne_true_of_eq_false h1.1)) fun h2 => h2.2.2.1 }
  | @quit w hg =>
    have hnt : ∀ x, x ∈ s.todo ↔ x ∈ s.todo ∧ x ≠ w := hg.elim (fun h1 => notin inT (h1.2 ▸ nofun))
      fun h2 x => ⟨fun hx => ⟨hx, fun e => h2.2.2 (e ▸ hx)⟩, (·.1)⟩
    exact { h with
      queued := queued_leave h.queued nofun (mem_filter_ne _ w) hnt
      ownerIn := hg.elim (fun h1 => keep h1.2 nofun) fun h2 => keep h2.2.1 nofun
      queueIdle := fun hf => congrArg (List.filter _) (h.queueIdle hf) }
  | @endWrite w ok off hw _ =>
    have hwq : s.pc w ≠ .queued := hw ▸ nofun
    refine { h with
      queued := ?_, ownerIn := nofun, ownFl := nofun
      idleTodo := fun h1 => ?_
      queueIdle := fun hf => h.queueIdle ?_
      goneIdle := fun hq hg' => ?_
      dirIdle := fun hc => ?_ }
    · dsimp only
      split
      · -- the batch that is failed leaves `queued` and `todo` together
        refine queued_move (fun x => ?_) ?_ nofun
        · by_cases hm : x ∈ s.todo
          · rw [setMany_mem hm]
            exact ⟨nofun, fun h1 => h1.elim (fun h1 => absurd hm (h.disj x h1)) nofun⟩
          · rw [setMany_not_mem hm]
            exact (h.queued x).trans ⟨fun h1 => .inl (h1.resolve_right hm), fun h1 => h1.imp_right nofun⟩
        · rw [setMany_not_mem fun hm => hwq (inT w hm)]; exact hwq
      · exact queued_move h.queued hwq nofun
    · -- no flush in progress afterwards: the batch was failed, or it is used up, or there was none
      dsimp only at h1 ⊢
      split
      · rfl
      · rename_i hfa
        split at h1
        · rename_i hcond
          have : s.todo.isEmpty = true := by
            revert hcond hfa; cases cfg.coalesce <;> cases ok <;> simp
          exact List.isEmpty_iff.mp this
        · exact h.idleTodo h1
    · dsimp only at hf
      split at hf
      · cases hf
      · exact hf
    · dsimp only
      split
      · rfl
      · exact h.goneIdle hq hg'
    · dsimp only
      exact ⟨by split; rfl; exact (h.dirIdle hc).1, (h.dirIdle hc).2⟩

theorem batch_init (cfg : Cfg) : Batch cfg init :=
  ⟨fun _ => ⟨nofun, fun h => h.elim nofun nofun⟩, nofun, fun _ => rfl, fun _ => rfl, nofun, fun _ _ => rfl, nofun,
   fun _ => ⟨rfl, rfl⟩⟩

theorem batch_reach (cfg : Cfg) {as : List Act} {s : St} (h : run cfg init as = some s) : Batch cfg s :=
  (isRun cfg).inv (batch_step cfg) (batch_init cfg) h

theorem step_next {cfg : Cfg} {s s' : St} {a : Act} (hb : Batch cfg s) (hs : step cfg s a = some s') (x : Nat) :
    s'.pc x = s.pc x ∨ (s.pc x).Next (s'.pc x) := by
  cases Step.of_step hs with
  | submit hw => exact setPc_next (hw ▸ .submit) x
  | cancel hw => exact setPc_next (hw ▸ .cancel) x
  | enqueue hg => exact setPc_next (hg.2.1 ▸ .enqueue) x
  | enter hg => exact setPc_next (by rcases hg.2 with ⟨_, hw⟩ | ⟨_, hw, _⟩ <;> rw [hw] <;> constructor) x
  | piece hw _ => exact setPc_next (hw ▸ .piece) x
  | quit hg => exact setPc_next (by rcases hg with ⟨_, hw⟩ | ⟨_, hw, _⟩ <;> rw [hw] <;> constructor) x
  | retCancelled hw => exact setPc_next (hw ▸ .retCancelled) x
  | retOk hw => exact setPc_next (hw ▸ .retOk) x
  | retFailed hw => exact setPc_next (hw ▸ .retFailed) x
  | close hw => exact setPc_next (by rw [hw]; split <;> constructor) x
  | closeFinish hw _ => exact setPc_next (hw ▸ .closeFinish) x
  | @endWrite w ok off hw _ =>
    -- the writer of the buffer gets the result of the Write; on a failed flush the rest of the batch is failed
    dsimp only
    by_cases e : x = w
    · subst e; rw [setPc_same, hw]; exact .inr .endWrite
    · rw [setPc_other e]
      split
      · by_cases hm : x ∈ s.todo
        · rw [setMany_mem hm, (hb.queued x).mpr (.inr hm)]; exact .inr .failQueued
        · exact .inl (setMany_not_mem hm)
      · exact .inl rfl
  | _ => exact .inl rfl

/-- stated of a pair, with the writer's pieces on the wire as a parameter `ps`, so that it is the `P` of `run_with`
    (as `idle_step`, `gone_step`) -/
theorem done_step {cfg : Cfg} {s s' : St} {a : Act} {w n : Nat} {ok : Bool} {ps : List Piece} (hb : Batch cfg s)
    (h : s.pc w = .done n ok ∧ s.wire.filter (·.id = w) = ps) (hs : step cfg s a = some s') :
    s'.pc w = .done n ok ∧ s'.wire.filter (·.id = w) = ps := by
  obtain ⟨hd, hps⟩ := h
  constructor
  · rcases step_next hb hs w with h | h
    · rw [h, hd]
    · rw [hd] at h; cases h
  · rcases step_wire hs with h | ⟨x, off, k, hx, _, h⟩
    · rw [h, hps]
    · have : x ≠ w := fun e => by rw [e, hd] at hx; cases hx
      rw [h, List.filter_append, hps]
      simp [this]

theorem outcome_step {cfg : Cfg} {s s' : St} {a : Act} {w : Nat} {o : Nat × Bool} (hb : Batch cfg s)
    (ho : (s.pc w).outcome = some o) (hs : step cfg s a = some s') : (s'.pc w).outcome = some o :=
  (step_next hb hs w).elim (fun h => h ▸ ho) fun h => h.outcome ho

end Writer
