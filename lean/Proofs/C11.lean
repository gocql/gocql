import Model.Policies
import Proofs.C11Cow
import Proofs.C11Pol
import Proofs.C11TA
import Proofs.C11Hist
import Proofs.C11Ops
import Proofs.C11Iter
import Proofs.C11Conc
import Proofs.C11Gate
import Proofs.C11Rot
import Proofs.C11Ident
import Proofs.C11Slot
import Proofs.C11State
/-! # C11 — host selection offers each live node once, nearest and replicas first (property theorems)

Model: `Model/Policies.lean` (cowHostList, roundRobbin, roundRobinHostPolicy / dcAwareRR / rackAwareRR,
tokenAwareHostPolicy.Pick). A `Host` value is one `*HostInfo` object; `up : Nat → Bool` is the (mutable,
lazily read) state of the objects, arbitrary but fixed during one drain of an iterator. -/
namespace C11
open Policies

/-- `cowHostList.add` / `remove` keep "no two entries with one address" (hence no host object twice);
add inserts exactly the new host if no entry has its address; remove leaves exactly the others. -/
theorem C11_cow_ops (l : List Host) (hl : AddrNodup l) (h : Host) (ip : Nat) :
    AddrNodup (cowAdd l h).1 ∧ AddrNodup (cowRemove l ip).1 ∧
    (∀ x, x ∈ (cowAdd l h).1 ↔ x ∈ l ∨ (x = h ∧ ∀ y ∈ l, y.addr ≠ h.addr)) ∧
    (∀ x, x ∈ (cowRemove l ip).1 ↔ x ∈ l ∧ x.addr ≠ ip) :=
  ⟨cowAdd_inv l h hl, cowRemove_inv l ip hl, mem_cowAdd l h, mem_cowRemove l ip⟩

example : (cowAdd [⟨1, 1, 0, 0, []⟩] ⟨2, 1, 0, 0, []⟩).2 = false ∧ (cowAdd [⟨1, 1, 0, 0, []⟩] ⟨2, 2, 0, 0, []⟩).1.length = 2 := by decide

/-- For every shift and every list of layers the offered sequence is, layer by layer, the rotation by
`shift+1` of the layer with the down hosts dropped; hence a permutation of the up hosts of all layers
(finite, only up hosts, every up host), without duplicates if the layers have none. -/
theorem C11_rr_perm (up : Nat → Bool) (shift : Nat) (layers : List (List Host)) :
    rrSeq up shift layers = (layers.map (fun l => (rot (shift + 1) l).filter (fun h => up h.id))).flatten ∧
    (∀ l, (rot (shift + 1) l).Perm l) ∧
    (rrSeq up shift layers).Perm (layers.flatten.filter (fun h => up h.id)) ∧
    (∀ h, h ∈ rrSeq up shift layers ↔ (∃ l ∈ layers, h ∈ l) ∧ up h.id = true) ∧
    (layers.flatten.Nodup → (rrSeq up shift layers).Nodup) := by
  refine ⟨?_, fun l => _root_.rot_perm l _, rrSeq_perm up shift layers, mem_rrSeq up shift layers, rrSeq_nodup up shift layers⟩
  unfold rrSeq
  congr 1
  apply List.map_congr_left
  intro l _
  rw [layerSeq_eq_rot]

example : rrSeq (fun id => id != 2) 4 [[⟨1, 1, 0, 0, []⟩, ⟨2, 2, 0, 0, []⟩, ⟨3, 3, 0, 0, []⟩], [⟨4, 4, 1, 0, []⟩]]
    = [⟨3, 3, 0, 0, []⟩, ⟨1, 1, 0, 0, []⟩, ⟨4, 4, 1, 0, []⟩] := by decide

/-! ### the rotation counter as the code has it (uint64, `int(...)`, Go `%`) — finding KF-C11-3

FULL PROPERTY ("any number of successive picks"): for EVERY value of the counter the iterator offers the
ideal sequence `rrSeq up (picks so far) layers`, and the next pick starts one host further. The unchanged
code violates it: `int(nextStartOffset)` is negative from 2^63 picks on, and `shift+currentlyObserved`
overflows `int` just below; a negative index panics (counterexample `C11_cex_counter_wrap`). What holds is
the statement below the bound `counter + 1 + layer length < 2^63`. -/

/-- For every value of the counter below the bound, every up/down state and all layers, the iterator of the
code (`rrScan`: uint64 counter converted to int, wrapping sum, truncated remainder, panic on a negative index)
does not panic and offers exactly the ideal sequence `rrSeq` of `C11_rr_perm` (rotation by the number of
picks, permutation of the up hosts, complete, no duplicates). -/
theorem C11_scan_below_bound_partial (up : Nat → Bool) (ctr : Nat) (layers : List (List Host))
    (hb : ∀ l ∈ layers, ctr + 1 + l.length < 9223372036854775808) :
    rrScan up (wrap64 (((ctr + 1) % 18446744073709551616 : Nat) : Int)) layers = ⟨rrSeq up (ctr + 1) layers, false⟩ := by
  cases layers with
  | nil => rfl
  | cons l ls =>
    have hc : (ctr + 1) % 18446744073709551616 = ctr + 1 := by
      apply Nat.mod_eq_of_lt
      have := hb l List.mem_cons_self
      omega
    rw [hc]
    exact rrScan_small up (ctr + 1) (l :: ls) hb

/-- the same for the three policies: below the bound `Pol.below` the next `Pick` is the ideal one -/
theorem C11_pick_below_bound_partial (p : Pol) (up : Nat → Bool) (hb : Pol.below p) :
    p.pickScan up = ⟨p.pickSeq up, false⟩ ∧ (p.pick up).1.ctr = p.ctr + 1 := by
  have := layers_bound p _ _ hb
  exact ⟨pickScan_small p up hb, bump_ctr p (by omega)⟩

/-- Successive picks rotate the start (below the bound): the counter advances by one per `Pick`, and the
positions the next pick visits in a layer are those of this pick rotated by one. -/
theorem C11_rr_rotates_partial (p : Pol) (up : Nat → Bool) (l : List Host)
    (hb : p.ctr + 2 + l.length < 9223372036854775808) :
    (p.pick up).1.ctr = p.ctr + 1 ∧
    layerScan p.shift l = (layerSeq (p.ctr + 1) l).map some ∧
    layerScan (p.pick up).1.shift l = (rot 1 (layerSeq (p.ctr + 1) l)).map some := by
  have h1 : (p.pick up).1.ctr = p.ctr + 1 := bump_ctr p (by omega)
  refine ⟨h1, ?_, ?_⟩
  · rw [shift_small p (by omega)]
    exact layerScan_small (p.ctr + 1) l (by omega)
  · rw [shift_small _ (by rw [h1]; omega), h1, ← layerSeq_succ]
    exact layerScan_small (p.ctr + 1 + 1) l (by omega)

/-- what the rotation by one means for the OFFERED sequences (down hosts filtered out) of two successive
picks over the same layer: if the host the first pick starts its scan at is up, the second sequence is the
first rotated by one; if it is down, the two sequences are equal. (The harness checks this relation between
successive picks on the real code; with all hosts up it is the rotation.) -/
theorem C11_rotate_offered (f : Host → Bool) (x : Host) (r : List Host) :
    (rot 1 (x :: r)).filter f = if f x = true then rot 1 ((x :: r).filter f) else (x :: r).filter f := by
  rw [rot_one_cons, List.filter_append]
  by_cases h : f x = true
  · have e : (x :: r).filter f = x :: r.filter f := List.filter_cons_of_pos h
    rw [if_pos h, e, rot_one_cons]
    simp [h]
  · have e : (x :: r).filter f = r.filter f := List.filter_cons_of_neg h
    rw [if_neg h, e]
    simp [h]

def cexW1 : Host := ⟨1, 1, 0, 0, []⟩
def cexW2 : Host := ⟨2, 2, 0, 0, []⟩
def cexW3 : Host := ⟨3, 3, 0, 0, []⟩
def cexWrap : Pol := (((Pol.new .rr 0 0).add cexW1).add cexW2).add cexW3

/-- COUNTEREXAMPLE to the full property (all hosts up): after 2^63−5 picks the sixth-last
pick below the bound still offers all three hosts; after 2^63−2 picks `shift+1` overflows to −2^63, the index
`-2^63 % 3 = -2` is negative and the first iterator call panics; after 2^63 picks the shift itself is
negative and the second call panics; the policy only recovers when the counter has wrapped past 2^64. -/
theorem C11_cex_counter_wrap :
    (cexWrap.setCtr 9223372036854775803).pickScan (fun _ => true) = ⟨[cexW3, cexW1, cexW2], false⟩ ∧
    (cexWrap.setCtr 9223372036854775806).pickScan (fun _ => true) = ⟨[], true⟩ ∧
    (cexWrap.setCtr 9223372036854775808).pickScan (fun _ => true) = ⟨[cexW1], true⟩ ∧
    (cexWrap.setCtr 18446744073709551615).pickScan (fun _ => true) = ⟨[cexW2, cexW3, cexW1], false⟩ := by
  decide

/-- For every policy kind and configuration, after ANY sequence of AddHost/RemoveHost/HostUp/HostDown/Pick
and ANY number of earlier picks (`setCtr`), and for any up/down state of the host objects: below the
counter bound (`Pol.below`, KF-C11-3) the iterator of the next `Pick` does not panic and offers the sequence
`p.pickSeq up`, which has no host twice, offers only up hosts, offers every up host the policy knows, and
is ordered by tier (local before remote; local rack, local DC, remote DC). -/
theorem C11_policy_all_states_partial (k : Kind) (ldc lrack : Nat) (ops : List Op) (up : Nat → Bool) :
    let p := ops.foldl Pol.apply (Pol.new k ldc lrack)
    (Pol.below p → p.pickScan up = ⟨p.pickSeq up, false⟩) ∧
    (p.pickSeq up).Nodup ∧
    (∀ h ∈ p.pickSeq up, up h.id = true) ∧
    (∀ h, known p h → up h.id = true → h ∈ p.pickSeq up) ∧
    (p.pickSeq up).Pairwise (fun a b => p.tier a ≤ p.tier b) := by
  intro p
  have hp : Inv p := Inv_run _ (Inv_new k ldc lrack) ops
  refine ⟨pickScan_small p up, pickSeq_nodup p hp up, ?_, ?_, pickSeq_sorted p hp up⟩
  · intro h hh; exact ((mem_pickSeq p hp up h).mp hh).2
  · intro h hk hu; exact (mem_pickSeq p hp up h).mpr ⟨hk, hu⟩

example : ([Op.add ⟨1, 1, 0, 0, []⟩, Op.add ⟨2, 2, 1, 0, []⟩, Op.add ⟨3, 3, 0, 1, []⟩].foldl Pol.apply (Pol.new .rack 0 0)).pickSeq (fun _ => true)
    = [⟨1, 1, 0, 0, []⟩, ⟨3, 3, 0, 1, []⟩, ⟨2, 2, 1, 0, []⟩] := by decide

def cexA' : Host := ⟨1, 1, 0, 0, [10]⟩
def cexB' : Host := ⟨2, 2, 0, 1, [20]⟩
def cexC' : Host := ⟨3, 3, 0, 1, [30]⟩
def cexD' : Host := ⟨4, 4, 1, 0, [40]⟩

/-- a state used in the non-vacuity examples: rack-aware fallback, non-local fallback, replicas a (local rack, down below), c (local DC) -/
def cexTAok : TA :=
  [TAOp.add cexA', .add cexB', .add cexC', .add cexD', .setReplicas 0 [(100, [cexA', cexC'])]].foldl TA.apply
    (TA.new (Pol.new .rack 0 0) false true true)

/-- Token-aware generator, for every tier function, option, up/down state, fallback sequence and every
replica list WITHOUT duplicates: the offered sequence has no host twice, offers only up hosts (if the
fallback does), offers every host of the fallback sequence; it starts with the up replicas of tier 0 in
replica-list order (primary first), and what follows the replica phases is a subsequence of the
fallback's order. -/
theorem C11_tokenaware_complete_unique (tier : Host → Nat) (maxTier : Nat) (up : Nat → Bool) (nonlocal : Bool)
    (replicas fallback : List Host) (hn : replicas.Nodup) :
    (taSeq tier maxTier up nonlocal replicas fallback).Nodup ∧
    ((∀ x ∈ fallback, up x.id = true) → ∀ x ∈ taSeq tier maxTier up nonlocal replicas fallback, up x.id = true) ∧
    (∀ x ∈ fallback, x ∈ taSeq tier maxTier up nonlocal replicas fallback) ∧
    (∃ rest, taSeq tier maxTier up nonlocal replicas fallback =
        replicas.filter (fun h => tier h == 0 && up h.id) ++ rest) ∧
    (∃ rest, taSeq tier maxTier up nonlocal replicas fallback = taHead tier maxTier up nonlocal replicas ++ rest ∧
        rest.Sublist fallback ∧ (∀ x ∈ taHead tier maxTier up nonlocal replicas, x ∈ replicas)) := by
  refine ⟨taSeq_nodup _ _ _ _ _ _ hn, fun hfb x hx => taSeq_up _ _ _ _ _ _ hfb x hx,
    fun x hx => mem_taSeq_of_fallback _ _ _ _ _ _ x hx, ?_, ?_⟩
  · unfold taSeq taHead localReplicas
    simp only [List.append_assoc]
    exact ⟨_, rfl⟩
  · exact ⟨_, rfl, minusUsed_sublist _ _, fun x hx => (mem_taHead _ _ _ _ _ x hx).1⟩

/-- the same with shuffling: the shuffled replica list is a permutation, so the up tier-0 replicas still
come first, in some order -/
theorem C11_tokenaware_shuffle (tier : Host → Nat) (maxTier : Nat) (up : Nat → Bool) (nonlocal : Bool)
    (σ : List Host → List Host) (hσ : ∀ l, (σ l).Perm l) (replicas fallback : List Host) (hn : replicas.Nodup) :
    (taSeq tier maxTier up nonlocal (σ replicas) fallback).Nodup ∧
    ∃ pre rest, taSeq tier maxTier up nonlocal (σ replicas) fallback = pre ++ rest ∧
      pre.Perm (replicas.filter (fun h => tier h == 0 && up h.id)) := by
  have hn' : (σ replicas).Nodup := (hσ replicas).nodup_iff.mpr hn
  obtain ⟨h1, _, _, ⟨rest, h4⟩, _⟩ := C11_tokenaware_complete_unique tier maxTier up nonlocal (σ replicas) fallback hn'
  exact ⟨h1, _, rest, h4, (hσ replicas).filter _⟩

/-- THE PROPERTY for the token-aware policy, in every reachable state (any history of AddHost / RemoveHost /
HostUp / HostDown / replica-table updates / picks), for every fallback kind and option combination, any
up/down state, any query (with or without routing key, keyspace with or without replica table, token ring
empty or not), ANY number of earlier picks of the fallback (`setCtr`): below the counter bound (`Pol.below`,
KF-C11-3) the drained iterator of the code ends without a panic and offers the sequence `l`; if the replica lists of the installed
tables have no duplicates and the shuffle permutes, it offers no host twice, only up hosts, and every up
host the fallback policy knows; it starts with the up replicas of the token tier by tier (nearest tier
first, farther tiers only with NonLocalReplicasFallback; replica-list order inside a tier, i.e. primary
first unless shuffling) — for EVERY replica list, also when a middle tier has no replica (KF-C11-1) — and
continues with hosts in the fallback policy's order, which is ordered by tier. -/
theorem C11_tokenaware_all_states_partial (k : Kind) (ldc lrack : Nat) (sh nl ps : Bool) (sess : Option Nat) (ops : List TAOp)
    (up : Nat → Bool) (σ : List Host → List Host) (hσ : ∀ l, (σ l).Perm l) (rk : Option (Nat × Nat)) :
    let t := ops.foldl TA.apply (TA.new (Pol.new k ldc lrack) sh nl ps sess)
    (∀ e ∈ t.replicas, ∀ f ∈ e.2, f.2.Nodup) →
    ∃ l, t.pickSeq up σ rk = .seq l ∧ (Pol.below t.pol → t.pickScan up σ rk = ⟨l, false⟩) ∧
      l.Nodup ∧ (∀ h ∈ l, up h.id = true) ∧ (∀ h, known t.pol h → up h.id = true → h ∈ l) ∧
      ∃ rest, l = specHead t.pol.tier t.pol.maxTier up nl ((repsOf t σ rk).getD []) ++ rest ∧
        rest.Sublist (t.pol.pickSeq up) ∧ rest.Pairwise (fun a b => t.pol.tier a ≤ t.pol.tier b) := by
  intro t hrep
  have hp : Inv t.pol := TAInv_run _ (Inv_new k ldc lrack) ops
  have hnl : t.nonlocal = nl := (run_opts _ ops).1
  obtain ⟨l, rest, hl, e, hsub, hup, hall, hnd⟩ := pickSeq_struct t hp up σ rk
  rw [hnl] at e
  exact ⟨l, hl, fun hb => pickScan_ideal t up σ rk hb l hl, hnd (repsOf_nodup t σ hσ rk hrep), hup, hall, rest, e, hsub,
    (pickSeq_sorted _ hp up).sublist hsub⟩

/-- `Pick` followed by `limit` calls of the iterator offers the first `limit` hosts of the drained iterator, and
panics only if the calls get as far as the panic (ties the limited pick of the model driver to `TA.pickScan`,
for every counter value) -/
theorem C11_pick_take (t : TA) (up : Nat → Bool) (σ : List Host → List Host) (rk : Option (Nat × Nat)) (limit : Nat) :
    (t.pick up σ rk limit).2 = (t.pickScan up σ rk).take limit := by
  -- no routing key / no ring / empty ring: the fallback's scan, truncated; a replica list: `limit` within the replica phases, or beyond
  fun_cases TA.pick t up σ rk limit
  · rfl
  · simp only [TA.pickScan, *]; rfl
  · simp only [TA.pickScan, *]; rfl
  · rename_i ks tok l ft hr reps hd h
    simp only [TA.pickScan, hr]
    rw [taScan_eq, take_mk, if_pos (by rw [List.length_append]; exact Nat.le_trans h (Nat.le_add_right _ _)),
      List.take_append_of_le_length h]
  · simp only [TA.pickScan, *]; rfl

example : (cexTAok.pickSeq (fun id => id != 1) id (some (0, 50))) = .seq [cexC', cexB', cexD'] := by decide

/-! ### order of the remote replicas (non-local fallback) — finding KF-C11-1, FIXED

With NonLocalReplicasFallback, after the up replicas of tier 0 come the up replicas of tier 1, then tier 2,
…, then the remaining hosts. Before the fix the j/k walk stopped at the first EMPTY bucket
(`for j < len(remote) && k < len(remote[j])`), so a replica of a farther tier was offered after
non-replicas when a nearer tier had no replica. The repaired walk skips empty buckets, and the theorem holds for
every replica list. -/

/-- for every tier function, number of tiers, up/down state, option and EVERY replica list the replica
phases of the token-aware iterator offer exactly the specified head (`specHead`: up replicas tier by tier) -/
theorem C11_tokenaware_remote_order (tier : Host → Nat) (m : Nat) (up : Nat → Bool) (nl : Bool) (reps fallback : List Host) :
    taHead tier m up nl reps = specHead tier m up nl reps ∧
    (taSeq tier m up nl reps fallback).take (specHead tier m up nl reps).length = specHead tier m up nl reps ∧
    (nl = true → specHead tier m up nl reps =
      ((List.range (m + 1)).map (fun t => reps.filter (fun h => tier h == t && up h.id))).flatten) := by
  refine ⟨taHead_eq_specHead tier m up nl reps, ?_, ?_⟩
  · unfold taSeq
    simp only [taHead_eq_specHead]
    rw [List.take_append_of_le_length (Nat.le_refl _), List.take_length]
  · intro h; subst h; rfl

def cexA : Host := ⟨1, 1, 0, 0, []⟩   -- local rack
def cexB : Host := ⟨2, 2, 0, 1, []⟩   -- local DC, other rack
def cexC : Host := ⟨3, 3, 1, 0, []⟩   -- remote DC, replica
def cexD : Host := ⟨4, 4, 1, 0, []⟩   -- remote DC
def cexTA : TA :=
  [TAOp.add cexA, .add cexB, .add cexC, .add cexD, .setReplicas 0 [(100, [cexA, cexC])]].foldl TA.apply
    (TA.new (Pol.new .rack 0 0) false true true)

/-- the recorded input of KF-C11-1 (rack-aware fallback + NonLocalReplicasFallback, replicas [a (local
rack), c (remote DC)], no replica in tier 1): the remote replica c now comes before the non-replica b -/
theorem C11_fixed_remote_order :
    cexTA.pickSeq (fun _ => true) id (some (0, 50)) = .seq [cexA, cexC, cexB, cexD] := by
  decide

/-- regression: the walk of the code BEFORE the fix (an empty bucket stops it) -/
def remoteWalkOld (up : Nat → Bool) : List (List Host) → List Host
  | [] => []
  | b :: rest => if b.isEmpty then [] else b.filter (fun h => up h.id) ++ remoteWalkOld up rest

/-- on the recorded input the old walk offers nothing (observed a, b, c, d), the repaired one offers c -/
example : remoteWalkOld (fun _ => true) (remoteBuckets cexTA.pol.tier cexTA.pol.maxTier [cexA, cexC]) = [] ∧
    remoteWalk (fun _ => true) (remoteBuckets cexTA.pol.tier cexTA.pol.maxTier [cexA, cexC]) = [cexC] := by decide

/-- A duplicate in the replica list (only a table installed through the hook can have one) is offered twice. -/
theorem C11_dup_if_replicas_dup (tier : Host → Nat) (m : Nat) (up : Nat → Bool) (nl : Bool) (a : Host) (fb : List Host)
    (ht : tier a = 0) (hu : up a.id = true) : ¬ (taSeq tier m up nl [a, a] fb).Nodup := by
  unfold taSeq taHead localReplicas
  simp [ht, hu]

/-! ### no panic — finding KF-C11-2, FIXED

Draining the iterator never dereferences a nil host. Before the fix, with the partitioner set but an empty
token ring (no host with tokens in the policy's list) and a keyspace without replica table,
`GetHostForToken` returned a nil host, `replicas = []*HostInfo{nil}`, and `HostTier(nil)` / `IsLocal(nil)`
of the rack-aware or dc-aware fallback dereferenced it. The repaired `Pick` hands the query to the fallback
policy when `GetHostForToken` has no host (`Replicas.emptyRing`). -/

/-- for every state (reachable or not), every fallback kind, option, up/down state, shuffle and query: below
the counter bound (KF-C11-3) the drained iterator does not panic, nor does `Pick` + `limit` calls; in the
formerly crashing states (`emptyRing`) the iterator is the fallback policy's, for every counter value -/
theorem C11_tokenaware_no_crash_partial (t : TA) (up : Nat → Bool) (σ : List Host → List Host) (rk : Option (Nat × Nat)) :
    t.pickSeq up σ rk ≠ .crash ∧
    (Pol.below t.pol → (t.pickScan up σ rk).crashed = false ∧ ∀ limit, (t.pick up σ rk limit).2 ≠ .crash) ∧
    (∀ ks tok, rk = some (ks, tok) → t.replicasFor ks tok = .emptyRing →
      t.pickScan up σ rk = t.pol.pickScan up ∧
      ∀ limit, t.pick up σ rk limit = ({ t with pol := t.pol.bump }, (t.pol.pickScan up).take limit)) := by
  obtain ⟨l, hl⟩ : ∃ l, t.pickSeq up σ rk = .seq l := ⟨_, pickSeq_eq t up σ rk⟩
  refine ⟨by rw [hl]; exact PickResult.noConfusion, ?_, ?_⟩
  · intro hb
    have hs := pickScan_ideal t up σ rk hb l hl
    refine ⟨by rw [hs], fun limit => ?_⟩
    rw [C11_pick_take, hs, take_mk]
    split <;> simp
  · intro ks tok hrk hr
    subst hrk
    exact ⟨by simp only [TA.pickScan, hr], fun limit => by simp only [TA.pick, hr]⟩

/-- COUNTEREXAMPLE: token-aware over the round-robin policy of `C11_cex_counter_wrap` after
2^63−2 picks, query without routing key: the first iterator call panics -/
theorem C11_cex_counter_wrap_ta :
    ((TA.new (cexWrap.setCtr 9223372036854775806) false false true).pick (fun _ => true) id none 1000).2 = .crash := by
  decide

/-- the recorded input of KF-C11-2 (dc-aware fallback, partitioner set, no host with tokens, routing key
given) and the same with two token-less hosts: the fallback's sequence is offered -/
theorem C11_fixed_nil_replica :
    (TA.new (Pol.new .dc 0 0) false false true).pickSeq (fun _ => true) id (some (0, 5)) = .seq [] ∧
    ([TAOp.add cexD, .add cexA].foldl TA.apply (TA.new (Pol.new .dc 0 0) false false true)).pickSeq
      (fun _ => true) id (some (0, 5)) = .seq [cexA, cexD] := by
  decide

/-! ## the policies against the HISTORY of notifier calls — findings KF-C11-4 (ghost), KF-C11-5 (stale replica)

The property's "every up host the policy knows", with "knows" and "up" taken from the history of the
`HostStateNotifier` calls and not from the policy's lists (`Policies.statusOf`, `Status.expected`): a host
that was added and not removed since is known; it is up unless the last call about it was `HostDown`
(and its `HostInfo` state is up).

FULL PROPERTY: the drained iterator offers exactly the hosts that are expected by the history, each once.
The code (with the repair of KF-C10-4) violates the "nothing else" half in two situations, which are the
hypotheses of `C11_history_exact_partial`:
  * ghost: `HostUp(h)` for a host that is not known (never added, or removed) puts it into the round-robin
    lists (`HostUp` = `AddHost` there): `C11_cex_ghost_hostup`;
  * stale replica, KF-C11-5 (case (b) only): the replica table of a keyspace still lists a host that was reported
    down with `HostDown` (which touches no table): the token-aware replica phase offers it if its `HostInfo`
    state is up: `C11_cex_stale_replica`. (Case (a) of the finding - a REMOVED host still listed by the table of a
    keyspace other than the session's - is gone with the repair of KF-C10-4: every held table is recomputed on
    every change of the host list, `C11_replica_tables_fresh`; regression `example` on the old definition below.)
The "every expected host is offered" half holds for every history (`C11_history_complete`).
Assumption of both: two different host objects of the history have different connect addresses (`NoAlias`;
the lists identify hosts by address). -/

/-- COMPLETENESS against the history, for EVERY operation history (AddHost / RemoveHost / HostUp / HostDown
of the same host in any order and number, replica-table updates, picks, any number of earlier picks), every
policy kind — bare (`rk = none`: the sequence is the fallback policy's own) or as token-aware fallback —
every option, up/down state and query: below the counter bound the drained iterator of the code does not
panic and offers `l`; `l` has only hosts whose state is up, and EVERY host the history expects (added and not
removed since, last call not `HostDown`, state up) is in `l`. -/
theorem C11_history_complete (k : Kind) (ldc lrack : Nat) (sh nl ps : Bool) (sess : Option Nat) (ops : List TAOp)
    (up : Nat → Bool) (σ : List Host → List Host) (rk : Option (Nat × Nat)) (hna : NoAlias ops) :
    let t := ops.foldl TA.apply (TA.new (Pol.new k ldc lrack) sh nl ps sess)
    ∃ l, t.pickSeq up σ rk = .seq l ∧ (Pol.below t.pol → t.pickScan up σ rk = ⟨l, false⟩) ∧
      (∀ h ∈ l, up h.id = true) ∧
      ∀ x, (statusOf (evsOf ops) x).expected (up x.id) = true → x ∈ l :=
  complete_state (BI_hist k ldc lrack sh nl ps sess ops hna) up σ rk

/-! ### which replica lists are FRESH — the exact extent of finding KF-C11-5

`AddHost` / `RemoveHost` that change the policy's host list rebuild the token ring and recompute the replica
table of the session keyspace AND of every other keyspace a table is held for (`updateAllReplicas(meta)`, the
repair of KF-C10-4) under the policy's mutex; `KeyspaceChanged(ks)` recomputes the table of `ks` from the current
ring; `HostUp` / `HostDown` touch nothing. So a replica list taken from the ring or from ANY table the policy
computed itself only lists hosts that are added and not removed; what stays excluded is (b) a host reported
down (`HostDown`) whose state is still up — `C11_cex_stale_replica`. The only tables that can list a host the
policy does not know are those installed from outside (the hook `setReplicas`, an instrument of the harness, not a
path of the code): for them "lists only known hosts" is an assumption on the installed table. -/

/-- the replica list of the query comes from a table the policy computed itself — session keyspace or not: no
table was installed from outside for that keyspace, or the policy has recomputed it since (`dirtyOf`: `setReplicas ks`
marks `ks`; `KeyspaceChanged ks` and every `AddHost` / `RemoveHost` that changes the host list clear it) — or from the
token ring -/
def FreshQuery (t0 : TA) (ops : List TAOp) (rk : Option (Nat × Nat)) : Prop :=
  match rk with
  | none => True
  | some (ks, tok) => ks ∉ dirtyOf t0 ops ∨ (∃ l, (ops.foldl TA.apply t0).replicasFor ks tok = .hosts l false)

/-- in particular: no table was ever installed from outside for the keyspace of the query -/
theorem freshQuery_of_noInject (t0 : TA) (ops : List TAOp) (ks tok : Nat) (hn : ∀ o ∈ ops, o.noInject ks) :
    FreshQuery t0 ops (some (ks, tok)) :=
  Or.inl (runDirty_noInject ops (t0, []) ks (by simp) hn)

/-- In every reachable state (any history of AddHost / RemoveHost / HostUp / HostDown / KeyspaceChanged /
metadata changes / replica tables installed from outside into OTHER keyspaces / picks), for every query whose
replica list comes from a table the policy computed itself — the session keyspace's or ANY other keyspace's —
(never installed from outside, or recomputed since: `FreshQuery`) or from the token ring: every host of the
replica list is in the policy's own host list — and, the hosts of
the history having pairwise different addresses, that list is exactly the hosts added and not removed since.
A removed host is never a replica of such a query (full for case (a) of KF-C11-5). -/
theorem C11_replica_tables_fresh (k : Kind) (ldc lrack : Nat) (sh nl ps : Bool) (sess : Option Nat) (ops : List TAOp)
    (σ : List Host → List Host) (hσ : ∀ l, (σ l).Perm l) (rk : Option (Nat × Nat)) (hna : NoAlias ops) :
    let t := ops.foldl TA.apply (TA.new (Pol.new k ldc lrack) sh nl ps sess)
    FreshQuery (TA.new (Pol.new k ldc lrack) sh nl ps sess) ops rk →
    ∀ x ∈ (repsOf t σ rk).getD [], x ∈ t.hosts ∧ (statusOf (evsOf ops) x).known = true := by
  intro t hfq
  exact fresh_of_BI (BI_hist k ldc lrack sh nl ps sess ops hna) σ hσ rk (fun ks tok e => by subst e; exact hfq)

/-- EXACTNESS against the history (partial — see the section comments): under the hypotheses of
`C11_tokenaware_all_states_partial`, if no host is a ghost (KF-C11-4), no host of the specified replica head
was last reported down by `HostDown` (KF-C11-5, case (b) — the only stale-replica case left after the repair of
KF-C10-4), and the replica list comes from a table the policy computed itself (ANY keyspace; `FreshQuery`) or from
the token ring — or else (a table installed from outside through the hook and not recomputed since: an assumption
on that table, not on the code)
lists no host that is not known, then the drained iterator offers EXACTLY the hosts the history expects, each
once: `l` is a permutation of the expected hosts of any duplicate-free universe containing the hosts of the
history. In particular a REMOVED host offered as replica for a query of ANY keyspace is not excused. -/
theorem C11_history_exact_partial (k : Kind) (ldc lrack : Nat) (sh nl ps : Bool) (sess : Option Nat) (ops : List TAOp)
    (up : Nat → Bool) (σ : List Host → List Host) (hσ : ∀ l, (σ l).Perm l) (rk : Option (Nat × Nat)) (hna : NoAlias ops) :
    let t := ops.foldl TA.apply (TA.new (Pol.new k ldc lrack) sh nl ps sess)
    let S := fun x => statusOf (evsOf ops) x
    (∀ e ∈ t.replicas, ∀ f ∈ e.2, f.2.Nodup) →
    (∀ x, (S x).ghost = false) →
    (∀ x ∈ specHead t.pol.tier t.pol.maxTier up nl ((repsOf t σ rk).getD []), (S x).last ≠ some .hdown) →
    (FreshQuery (TA.new (Pol.new k ldc lrack) sh nl ps sess) ops rk ∨
      ∀ x ∈ specHead t.pol.tier t.pol.maxTier up nl ((repsOf t σ rk).getD []), (S x).known = true) →
    ∃ l, t.pickSeq up σ rk = .seq l ∧ (Pol.below t.pol → t.pickScan up σ rk = ⟨l, false⟩) ∧ l.Nodup ∧
      (∀ x, x ∈ l ↔ (S x).expected (up x.id) = true) ∧
      ∀ univ : List Host, univ.Nodup → (∀ h ∈ hostsOf ops, h ∈ univ) →
        l.Perm (univ.filter (fun x => (S x).expected (up x.id))) := by
  intro t S hrep hg hdown hfresh
  have hnl : t.nonlocal = nl := (run_opts _ ops).1
  refine exact_state (BI_hist k ldc lrack sh nl ps sess ops hna) up σ hσ rk hrep hg ?_ ?_ <;> rw [hnl]
  · exact hdown
  · exact hfresh.imp_left (fun hf ks tok e => by subst e; exact hf)

/-- non-vacuity, and what the exact exclusion is about: session keyspace 0 with SimpleStrategy rf 2; after
`RemoveHost(r)` the recomputed table no longer lists r — a routed query of the session keyspace is offered
exactly the remaining host (had the table been computed from the ring BEFORE it was rebuilt, r would still
lead the sequence) -/
example :
    let ops := [TAOp.setMeta 0 (some (some 2)), .add ⟨1, 1, 0, 0, [100]⟩, .add ⟨9, 9, 1, 0, [900]⟩, .remove ⟨9, 9, 1, 0, [900]⟩]
    let t := ops.foldl TA.apply (TA.new (Pol.new .dc 0 0) false true true (some 0))
    t.replicas = [(0, [(100, [⟨1, 1, 0, 0, [100]⟩])])] ∧
    t.pickScan (fun _ => true) id (some (0, 500)) = ⟨[⟨1, 1, 0, 0, [100]⟩], false⟩ := by
  decide

def cexR : Host := ⟨9, 9, 1, 0, []⟩   -- remote DC
/-- COUNTEREXAMPLE, ghost: `HostUp` of a host that was never added — and of one that was
removed — makes the round-robin policy offer it, although the history does not know it -/
theorem C11_cex_ghost_hostup :
    ([TAOp.hostUp cexW1].foldl TA.apply (TA.new (Pol.new .rr 0 0) false false false)).pickScan (fun _ => true) id none
      = ⟨[cexW1], false⟩ ∧
    (statusOf (evsOf [TAOp.hostUp cexW1]) cexW1).expected true = false ∧
    ([TAOp.add cexW1, .add cexW2, .remove cexW1, .hostUp cexW1].foldl TA.apply
        (TA.new (Pol.new .dc 0 0) false false false)).pickScan (fun _ => true) id none
      = ⟨[cexW2, cexW1], false⟩ ∧
    (statusOf (evsOf [TAOp.add cexW1, .add cexW2, .remove cexW1, .hostUp cexW1]) cexW1).expected true = false := by
  decide

/-- COUNTEREXAMPLE, stale replica, KF-C11-5 case (b): token-aware over round-robin; the replica
table of keyspace 0 lists host 2; after `HostDown(2)` with the `HostInfo` state still up a routed query of that
keyspace is still offered host 2 first, which the history does not expect -/
theorem C11_cex_stale_replica :
    ([TAOp.add cexW1, .add cexW2, .setReplicas 0 [(100, [cexW2])], .hostDown cexW2].foldl TA.apply
        (TA.new (Pol.new .rr 0 0) false false true)).pickScan (fun _ => true) id (some (0, 50))
      = ⟨[cexW2, cexW1], false⟩ ∧
    (statusOf (evsOf [TAOp.add cexW1, .add cexW2, .setReplicas 0 [(100, [cexW2])], .hostDown cexW2]) cexW2).expected true = false := by
  decide

/-- the code BEFORE the repair of KF-C10-4 (`RemoveHost` recomputed the session keyspace's table only), kept for
the regression example below -/
def removeOld (t : TA) (h : Host) : TA :=
  let r := cowRemove t.hosts h.addr
  let t1 : TA := { t with hosts := r.1 }
  { (if r.2 then (match t1.sessKs with | some ks => t1.updateReplicas ks | none => t1) else t1) with pol := t.pol.remove h }

def cexO1 : Host := ⟨1, 1, 0, 0, [100]⟩
def cexO9 : Host := ⟨9, 9, 1, 0, [900]⟩
/-- REGRESSION (former case (a) of KF-C11-5): token-aware over dc-aware with non-local fallback,
session keyspace 0, keyspace 1 ANOTHER keyspace with SimpleStrategy rf 2 whose table the policy computed on
`KeyspaceChanged(1)`: 100 → [1,9], 900 → [9,1]. After `RemoveHost(9)` the repaired code has recomputed the table
of keyspace 1 (100 → [1]) and a routed query of keyspace 1 is offered host 1 only; the old code kept the table
and offered the removed host 9. -/
example :
    let pre := [TAOp.setMeta 1 (some (some 2)), .add cexO1, .add cexO9, .keyspaceChanged 1]
    let t := pre.foldl TA.apply (TA.new (Pol.new .dc 0 0) false true true (some 0))
    t.replicas = [(1, [(100, [cexO1, cexO9]), (900, [cexO9, cexO1])])] ∧
    (t.remove cexO9).replicas = [(1, [(100, [cexO1])])] ∧
    (t.remove cexO9).pickScan (fun _ => true) id (some (1, 500)) = ⟨[cexO1], false⟩ ∧
    (removeOld t cexO9).pickScan (fun _ => true) id (some (1, 500)) = ⟨[cexO1, cexO9], false⟩ ∧
    (statusOf (evsOf (pre ++ [.remove cexO9])) cexO9).expected true = false := by
  decide

/-- a table installed from outside lives until the next change of the policy's host list: with keyspace 0 unknown
to the metadata the table is dropped by `RemoveHost(9)` (the query falls back to the ring owner), with keyspace 0
known (SimpleStrategy rf 1) it is replaced by the table the policy computes itself -/
example :
    let t := [TAOp.add cexO1, .add cexO9, .setReplicas 0 [(100, [cexO9, cexO1])]].foldl TA.apply
      (TA.new (Pol.new .dc 0 0) false true true)
    (t.remove cexO9).replicas = [] ∧
    (t.remove cexO9).pickScan (fun _ => true) id (some (0, 50)) = ⟨[cexO1], false⟩ ∧
    ((t.setMeta 0 (some (some 1))).remove cexO9).replicas = [(0, [(100, [cexO1])])] := by
  decide

def cexS1 : Host := ⟨1, 1, 0, 0, [100]⟩
def cexS2 : Host := ⟨2, 2, 0, 0, [200]⟩
/-- COUNTEREXAMPLE for what stays excluded also on the SESSION keyspace, KF-C11-5 case (b): round-robin
fallback, session keyspace 0 with SimpleStrategy rf 1 (table computed by the policy itself: 100 → [1], 200 → [2]);
after `HostDown(2)` with the `HostInfo` state still up, a routed query of the session keyspace is offered host 2
first although the history does not expect it — `HostDown` refreshes nothing. (After `RemoveHost(2)` it is not
offered: the example after `C11_history_exact_partial`, and the regression example above for any keyspace.) -/
theorem C11_cex_stale_down_session :
    let ops := [TAOp.setMeta 0 (some (some 1)), .add cexS1, .add cexS2, .hostDown cexS2]
    let t := ops.foldl TA.apply (TA.new (Pol.new .rr 0 0) false false true (some 0))
    t.replicas = [(0, [(100, [cexS1]), (200, [cexS2])])] ∧
    t.pickScan (fun _ => true) id (some (0, 150)) = ⟨[cexS2, cexS1], false⟩ ∧
    (statusOf (evsOf ops) cexS2).expected true = false ∧ (statusOf (evsOf ops) cexS2).known = true := by
  decide

/-- non-vacuity: the history add, down, add (what `Session.startPoolFill` does on a node-up event) — the host
is expected and offered, routed or not -/
example :
    let ops := [TAOp.add cexW1, .add cexW2, .hostDown cexW2, .add cexW2]
    (statusOf (evsOf ops) cexW2).expected true = true ∧
    (ops.foldl TA.apply (TA.new (Pol.new .dc 0 0) false false true)).pickScan (fun _ => true) id none = ⟨[cexW1, cexW2], false⟩ := by
  decide

/-! ## several iterators alive at once

The iterator `Pick` returns is consumed lazily by the query executor while other queries call `Pick` on the same
policy (retries, speculative executions, concurrent queries of one partition). `IOp` / `istep` (Proofs/C11Iter):
any interleaving of `open` (slot := Pick), `next` (one call of a slot's iterator) and whole picks of others;
the up/down state is fixed while the iterators are alive. -/

/-- For EVERY interleaving of the calls of any number of live iterators (and picks of others in between): the
policy state only moves its rotation counter; every live iterator is `IterOk` — its replica phases are those
fixed at its `Pick` (own shuffled copy of the replica list), and once its fallback iterator exists, what it has
offered plus what it will offer is the sequence of a LONE `Pick` + drain at the counter value of that moment —
and when an iterator returns nil, what it offered since its `Pick` is exactly `(t0.withCtr c).pickScan`, the
drained lone pick at some counter value `c`, without a panic. Iterators do not disturb one another. -/
theorem C11_iterators_independent (t0 : TA) (up : Nat → Bool) (sched : List IOp) :
    let st := sched.foldl (istep up) (t0, fun _ => none)
    (∃ c, st.1 = t0.withCtr c) ∧
    ∀ k g, st.2 k = some g → IterOk up t0 g ∧
      (∀ x, (st.1.nextIter up g.it).2.2 = .host x → (st.1.nextIter up g.it).2.1.given = g.it.given ++ [x]) ∧
      ((st.1.nextIter up g.it).2.2 = .done →
        ∃ c, (t0.withCtr c).pickScan up g.σ g.rk = ⟨g.it.given, false⟩) := by
  intro st
  have hQ : ∀ (st : TA × (Nat → Option GSlot)) o, (∃ c, st.1 = t0.withCtr c) → ∃ c, (istep up st o).1 = t0.withCtr c := by
    rintro st o ⟨c, hc⟩
    rcases istep_eq up st o with e | e <;> rw [e, hc]
    · exact ⟨c, rfl⟩
    · exact ⟨_, withCtr_bump t0 c⟩
  obtain ⟨hc, hok⟩ := slot_run up (fun t => ∃ c, t = t0.withCtr c) hQ sched (t0, fun _ => none) ⟨t0.pol.ctr, rfl⟩
    (fun k g hk => by cases hk)
  refine ⟨hc, fun k g hk => ⟨slot_iterOk up t0 g (hok k g hk), (nextIter_result st.1 up g.it).1, fun hd => ?_⟩⟩
  obtain ⟨e1, e2, sc, e3, e4, e5⟩ := (nextIter_result st.1 up g.it).2 hd
  rcases slot_iterOk up t0 _ (next_slot up _ st.1 hc g (hok k g hk)) with ⟨c, sc', h1, _, h3, h4⟩ | ⟨h1, _⟩
  · refine ⟨c, ?_⟩
    rw [e3] at h1
    cases h1
    simp only at h3 h4
    rw [e1, e4, List.append_nil] at h3
    rw [e5] at h4
    rw [h3, h4]
  · rw [e3] at h1; cases h1

/-- THE PROPERTY for an iterator that was consumed interleaved with others: in every reachable state `t0` (any
history `hist`), for every schedule, an iterator that has returned nil offered — at some counter value `c` — the
drained sequence of the code in the reachable state `hist ++ [setCtr c]`, which has the same notifier history;
below the counter bound (KF-C11-3) that is the ideal sequence of that state, to which
`C11_tokenaware_all_states_partial` (no host twice, only up hosts, every known up host, specified replica head
first), `C11_history_complete` and `C11_history_exact_partial` apply as they stand. -/
theorem C11_interleaved_iterator_partial (k : Kind) (ldc lrack : Nat) (sh nl ps : Bool) (sess : Option Nat)
    (hist : List TAOp) (up : Nat → Bool) (sched : List IOp) (slot : Nat) (g : GSlot) :
    let t0 := hist.foldl TA.apply (TA.new (Pol.new k ldc lrack) sh nl ps sess)
    let st := sched.foldl (istep up) (t0, fun _ => none)
    st.2 slot = some g → (st.1.nextIter up g.it).2.2 = .done →
    ∃ c, (t0.withCtr c).pickScan up g.σ g.rk = ⟨g.it.given, false⟩ ∧
      evsOf (hist ++ [TAOp.setCtr c]) = evsOf hist ∧
      (Pol.below (t0.withCtr c).pol →
        t0.withCtr c = (hist ++ [TAOp.setCtr c]).foldl TA.apply (TA.new (Pol.new k ldc lrack) sh nl ps sess) ∧
        (t0.withCtr c).pickSeq up g.σ g.rk = .seq g.it.given) := by
  intro t0 st hslot hdone
  obtain ⟨_, h2⟩ := C11_iterators_independent t0 up sched
  obtain ⟨c, hc⟩ := (h2 slot g hslot).2.2 hdone
  refine ⟨c, hc, by simp [evsOf, TAOp.ev], fun hb => ?_⟩
  have hlt : c < 18446744073709551616 := by
    have : c + 1 < 9223372036854775808 := layers_bound _ _ _ hb
    omega
  refine ⟨?_, ?_⟩
  · rw [List.foldl_append]
    simp only [List.foldl_cons, List.foldl_nil, TA.apply, Pol.setCtr, Nat.mod_eq_of_lt hlt]
    rfl
  · have hps := pickSeq_eq (t0.withCtr c) up g.σ g.rk
    have := pickScan_ideal _ up g.σ g.rk hb _ hps
    rw [hc] at this
    exact hps.trans (congrArg PickResult.seq (Scan.mk.inj this).1.symm)

/-- non-vacuity: two iterators over one token range (replicas a, c), interleaved A1 B1 B2 B3 B4 A2 A3 A4: both offer
the replicas first and every host once -/
example :
    let t0 := cexTAok
    let st := [IOp.openI 0 id (some (0, 50)), .nextI 0, .openI 1 id (some (0, 50)), .nextI 1, .nextI 1, .nextI 1, .nextI 1, .nextI 0, .nextI 0, .nextI 0].foldl
      (istep (fun _ => true)) (t0, fun _ => none)
    (st.2 0).map (·.it.given) = some [cexA', cexC', cexB', cexD'] ∧ (st.2 1).map (·.it.given) = some [cexA', cexC', cexB', cexD'] := by
  decide

/-! ## concurrent AddHost / RemoveHost / HostUp / HostDown: the copy-on-write list under its mutex

`cowHostList.add` / `remove` are `mu.Lock(); l := list.Load(); newL := copy; list.Store(newL); mu.Unlock()`.
`Policies.Cow`: `n` calls run concurrently, a schedule picks the thread of every atomic step. -/

/-- LINEARIZABILITY, for EVERY schedule of the atomic steps (lock; load; copy; store; unlock) of any number of
concurrent `add` / `remove` calls on one copy-on-write list with the mutex discipline the unchanged code has:
once all calls have returned the list is the result of the calls applied one after the other in some order of
ALL of them — no call is lost. -/
theorem C11_cow_concurrent_linearizable (n : Nat) (ops : Nat → CowOp) (l0 : List Host) (sched : List Nat) :
    let s := Cow.run true n (fun i => (ops i).apply) (Cow.init l0) sched
    s.allDone n = true →
    ∃ order : List Nat, order.Perm (List.range n) ∧ s.shared = Cow.seq (fun i => (ops i).apply) order l0 :=
  fun hd => cow_linearizable n (fun i => (ops i).apply) l0 sched hd

/-- COMMUTING calls: if the `n` concurrent calls are about pairwise different connect addresses (AddHost /
HostUp / RemoveHost / HostDown of different hosts), then for EVERY schedule the final list holds exactly the
hosts that were there and whose address no call removes, and the added hosts whose address was free — the
same set whatever the interleaving: the calls commute and none is lost. -/
theorem C11_cow_concurrent_commute (n : Nat) (ops : Nat → CowOp) (l0 : List Host) (sched : List Nat)
    (hd : ∀ a, a < n → ∀ b, b < n → (ops a).touch = (ops b).touch → a = b) :
    let s := Cow.run true n (fun i => (ops i).apply) (Cow.init l0) sched
    s.allDone n = true →
    ∀ x, x ∈ s.shared ↔
      (x ∈ l0 ∧ ∀ i, i < n → ops i ≠ .remove x.addr) ∨ (∃ i, i < n ∧ ops i = .add x ∧ ∀ y ∈ l0, y.addr ≠ x.addr) := by
  intro s hdone x
  obtain ⟨order, hperm, hs⟩ := C11_cow_concurrent_linearizable n ops l0 sched hdone
  have hmem : ∀ i, i ∈ order ↔ i < n := fun i => by rw [hperm.mem_iff, List.mem_range]
  rw [hs, seq_mem_char ops order (fun a ha b hb => hd a ((hmem a).mp ha) b ((hmem b).mp hb))
    (hperm.nodup_iff.mpr List.nodup_range) l0 x]
  simp only [hmem]

/-- COUNTEREXAMPLE without the mutex discipline: the variant that loads and copies OUTSIDE the
mutex and only serialises the Store (load; copy; lock; store; unlock). Two concurrent `add` calls for different
hosts, schedule: both load, both copy, then each locks, stores, unlocks — both calls return, the second Store
overwrites the first: host 1 is lost. The same schedule under the code's discipline keeps both. -/
theorem C11_cex_cow_unlocked_lost_update :
    let fs : Nat → List Host → List Host := fun i l => (cowAdd l (if i = 0 then cexW1 else cexW2)).1
    let sched := [0, 1, 0, 1, 0, 0, 0, 1, 1, 1]
    (Cow.run false 2 fs (Cow.init [cexW3]) sched).allDone 2 = true ∧
    (Cow.run false 2 fs (Cow.init [cexW3]) sched).shared = [cexW3, cexW2] ∧
    (Cow.run true 2 fs (Cow.init [cexW3]) (sched ++ [1, 1, 1, 1, 1])).allDone 2 = true ∧
    (Cow.run true 2 fs (Cow.init [cexW3]) (sched ++ [1, 1, 1, 1, 1])).shared = [cexW3, cexW1, cexW2] := by
  decide

/-- THE GATED SCHEDULE IS DECISIVE (op `gburst`: every call of a burst is held at its first read of one listed
host until all calls are in progress, then they finish one after the other): for ANY number `n + 1` of concurrent
`add` calls of hosts whose addresses are free and pairwise different, on ANY list, a `cowHostList.add` that takes
its snapshot and copies outside the mutex (the class of the seeded change C11-5) ends, under that schedule, with
exactly ONE of the `n + 1` hosts in the list - all calls return, `n` hosts are lost. (Under the discipline of the
unchanged code every schedule, this one included, keeps all of them: `C11_cow_concurrent_commute`.) -/
theorem C11_gated_schedule_decisive (n : Nat) (hosts : Nat → Host) (l0 : List Host)
    (hfree : ∀ i, ∀ y ∈ l0, y.addr ≠ (hosts i).addr)
    (hdiff : ∀ i j, (hosts i).addr = (hosts j).addr → i = j) :
    let s := Cow.run false (n + 1) (fun i l => (cowAdd l (hosts i)).1) (Cow.init l0) (gatedSched (n + 1))
    s.allDone (n + 1) = true ∧ s.shared = l0 ++ [hosts n] ∧ ∀ i, i < n → hosts i ∉ s.shared := by
  intro s
  obtain ⟨h1, h2, _⟩ := gated_unlocked n (fun i l => (cowAdd l (hosts i)).1) l0
  have hadd : (cowAdd l0 (hosts n)).1 = l0 ++ [hosts n] := by
    unfold cowAdd
    rw [if_neg]
    simp only [List.any_eq_true, equal_iff, not_exists, not_and]
    intro y hy e
    exact hfree n y hy e.symm
  have hs : s.shared = l0 ++ [hosts n] := by rw [← hadd]; exact h2
  refine ⟨h1, hs, ?_⟩
  intro i hi hm
  rw [hs, List.mem_append, List.mem_singleton] at hm
  rcases hm with hm | hm
  · exact hfree i _ hm rfl
  · have := hdiff i n (by rw [hm])
    omega

/-- non-vacuity: eight joining hosts, seven lost -/
example :
    let hs : Nat → Host := fun i => ⟨100 + i, 100 + i, 0, 0, []⟩
    (Cow.run false 8 (fun i l => (cowAdd l (hs i)).1) (Cow.init [cexW3]) (gatedSched 8)).shared = [cexW3, hs 7] := by
  decide

/-! ## rotation of the starting host PER TIER (seeded change C11-8)

Property text: "for the round-robin based policies successive queries rotate the starting host within a tier so
load is spread". `C11_rr_rotates_partial` says it for the positions of ONE layer; a change that keeps the local
rack rotating but feeds the farther tiers a reduced shift (C11-8: `nextStartOffset %= len(local rack)`) keeps
every sequence complete, duplicate free and tier ordered. What it breaks is stated here for ALL tier shapes:
the ONE shared shift moves the start position of EVERY tier on by one per pick (`C11_rr_rotates_tiers_partial`),
hence over whole periods every start position of a tier is used equally often (`C11_rotation_histogram`), hence
the first-host histogram of every tier over ANY number of successive picks is balanced — the verdict of the
spec-backed op `rotate` (`C11_rotation_balanced_partial`). As everywhere for the iterator of the code: below the
counter bound of KF-C11-3. -/

/-- the state of the non-vacuity examples and of the regression below: rack-aware, tiers of 1 / 4 / 3 hosts -/
def rotP : Pol :=
  { Pol.new .rack 0 0 with
    l0 := [⟨1, 1, 0, 0, []⟩]
    l1 := [⟨2, 2, 0, 1, []⟩, ⟨3, 3, 0, 1, []⟩, ⟨4, 4, 0, 1, []⟩, ⟨5, 5, 0, 1, []⟩]
    l2 := [⟨6, 6, 1, 0, []⟩, ⟨7, 7, 1, 0, []⟩, ⟨8, 8, 1, 0, []⟩] }

/-- ROTATION PER TIER, for all tier shapes (any sizes of the three lists, also 0 and 1, sizes that do not divide
each other) and any up/down state: in every policy state with the list invariant, `j` successive picks later
(below the counter bound) the counter stands at `ctr + j`, the iterator of the code does not panic, and from
EVERY tier `t` — not only the first non-empty one — the first host it offers is the first up host of tier `t`'s
list scanned cyclically from list position `(ctr + j + 2) mod n_t`: one pick later every tier starts one
position further. -/
theorem C11_rr_rotates_tiers_partial (p : Pol) (hp : Inv p) (up : Nat → Bool) (j t : Nat) (ht : t < 3)
    (hb : ∀ l ∈ p.layers, p.ctr + j + 1 + l.length < 9223372036854775808) :
    let q : Pol := { p with ctr := p.ctr + j }
    Nat.repeat (fun q => (q.pick up).1) j p = q ∧
    q.pickScan up = ⟨rrSeq up (p.ctr + j + 1) [p.l0, p.l1, p.l2], false⟩ ∧
    tierFirst p.tier t (q.pickScan up).offered =
      firstFrom (fun h => up h.id) (p.getLayer t) ((p.ctr + j + 2) % (p.getLayer t).length) := by
  intro q
  have hc : p.ctr + j < 18446744073709551616 := by
    have := layers_bound p _ _ hb
    omega
  have hq : Inv q := Inv_ctr p hp _
  have hs : q.pickScan up = ⟨rrSeq up (p.ctr + j + 1) [p.l0, p.l1, p.l2], false⟩ :=
    pickScan_three q hq (fun l hl => hb l hl) up
  refine ⟨repeat_pick up j p hc, hs, ?_⟩
  rw [hs]
  have := tierFirst_rrSeq p hp up (fun _ => true) (p.ctr + j + 1) t ht
  rw [List.filter_eq_self.mpr (fun _ _ => rfl)] at this
  simp only
  rw [this, firstOf_eq]
  have e : (fun h : Host => up h.id && true) = (fun h => up h.id) := by funext h; simp
  rw [e]

/-- non-vacuity, shape 1/4/3 (rack-aware): the third successive pick offers the local rack's only host, then the
local-DC tier starting at ITS position 0 and the remote tier starting at ITS position 1; the fourth one position
further in every tier -/
example :
    ((Nat.repeat (fun q => (q.pick (fun _ => true)).1) 2 rotP).pickScan (fun _ => true)).offered.map (·.id)
      = [1, 2, 3, 4, 5, 7, 8, 6] ∧
    ((Nat.repeat (fun q => (q.pick (fun _ => true)).1) 3 rotP).pickScan (fun _ => true)).offered.map (·.id)
      = [1, 3, 4, 5, 2, 8, 6, 7] := by decide

/-- THE HISTOGRAM over whole periods, for every layer (any size), every predicate "can be offered" (`f`: up, and
not offered by the replica phases), every counter value `c` and every number `k` of periods: over the `k·n`
successive shifts `c+1 … c+k·n` a host `h` is the first host offered from the layer exactly `k·w(h)` times, where
the SPECIFICATION's weight `w(h)` = the number of list positions from which `h` is the first host that can be
offered scanning cyclically (`specWeight`; every start position is used `k` times). A host that can be offered has
`1 ≤ w(h)`, and `w(h) ≤ 1 + d` with `d` listed hosts that cannot be offered; with every listed host up and
unused, `w(h) = 1`: every host is the first of its tier exactly `k` times. -/
theorem C11_rotation_histogram (f : Host → Bool) (l : List Host) (h : Host) (c k : Nat) (hl : l ≠ []) :
    (List.range (k * l.length)).countP (fun p => firstOf f (c + 1 + p) l == some h) = k * specWeight f l h ∧
    (h ∈ l → f h = true → 1 ≤ specWeight f l h) ∧
    (l.Nodup → specWeight f l h ≤ 1 + l.countP (fun x => !f x)) ∧
    (l.Nodup → (∀ x ∈ l, f x = true) → h ∈ l → specWeight f l h = 1) := by
  have hpos : 0 < l.length := List.length_pos_iff.mpr hl
  have h1 := firstOf_hist f l h c (k * l.length) hl
  have e1 : k * l.length / l.length = k := Nat.mul_div_cancel k hpos
  have e2 : ceilDiv (k * l.length) l.length = k := by
    unfold ceilDiv
    rw [e1, Nat.mul_mod_left]
    simp
  rw [e1, e2] at h1
  refine ⟨Nat.le_antisymm h1.2 h1.1, specWeight_pos f l h, fun hn => specWeight_le f l hn h, ?_⟩
  intro hn hall hm
  have lo := specWeight_pos f l h hm (hall h hm)
  have hi := specWeight_le f l hn h
  have d0 : l.countP (fun x => !f x) = 0 := by
    rw [List.countP_eq_zero]
    intro x hx
    simp [hall x hx]
  omega

/-- non-vacuity: layer a, B, c, d with B down — a and d are the first host from one start position each, c from
two (its own and B's): over 2 periods a, c, d are first 2, 4, 2 times -/
example :
    let l : List Host := [⟨1, 1, 0, 0, []⟩, ⟨2, 2, 0, 0, []⟩, ⟨3, 3, 0, 0, []⟩, ⟨4, 4, 0, 0, []⟩]
    let f : Host → Bool := fun h => h.id != 2
    [1, 3, 4].map (fun i => (List.range 8).countP (fun p => firstOf f (10 + 1 + p) l == some ⟨i, i, 0, 0, []⟩)) = [2, 4, 2] := by
  decide

/-- THE ROTATION SUB-CLAIM as the op `rotate` checks it, in every reachable state of every round-robin based
policy alone (query without routing key) or as the fallback of the token-aware policy (any history of AddHost /
RemoveHost / HostUp / HostDown / replica tables / KeyspaceChanged / earlier picks / counter presets), any up/down
state — hosts that are down but still listed included —, any query, any shuffles (one per pick, each permuting),
and ANY number `m` of successive `Pick`s each drained with nothing in between, below the counter bound of
KF-C11-3: no iterator panics, and `rotateVerdict = none`, i.e. for EVERY tier `t` with `n` listed hosts of which
`d` cannot be offered after the replica phases (down, or offered by the replica phases), every other host of
the tier is the FIRST host offered from the tier by at least ⌊m/n⌋ and at most ⌈m/n⌉·(1+d) of the `m`
iterators — with d = 0: every up host of the tier the same number of times ±1. -/
theorem C11_rotation_balanced_partial (k : Kind) (ldc lrack : Nat) (sh nl ps : Bool) (sess : Option Nat) (ops : List TAOp)
    (up : Nat → Bool) (σs : Nat → List Host → List Host) (hσ : ∀ i l, (σs i l).Perm l)
    (rk : Option (Nat × Nat)) (m : Nat) :
    let t := ops.foldl TA.apply (TA.new (Pol.new k ldc lrack) sh nl ps sess)
    (∀ l ∈ t.pol.layers, t.pol.ctr + m + l.length < 9223372036854775808) →
    (∀ r ∈ TA.rotateRun t up σs rk 0 m, r.2.crashed = false) ∧
    (∀ r ∈ TA.rotateRun t up σs rk 0 m, ∃ j, j < m ∧
        (t.withCtr (t.pol.ctr + j)).pickScan up (σs j) rk = ⟨r.1 ++ r.2.offered, r.2.crashed⟩) ∧
    t.rotateVerdict up σs rk m = none := by
  intro t hb
  have hp : Inv t.pol := TAInv_run _ (Inv_new k ldc lrack) ops
  have hc : t.pol.ctr + m < 18446744073709551616 := by
    have := layers_bound t.pol _ _ hb
    omega
  have main := rotateVerdict_none t hp up σs hσ rk m hb
  refine ⟨main.1, ?_, main.2⟩
  intro r hr
  rw [rotateRun_eq up σs rk m t 0 hc, List.mem_map] at hr
  obtain ⟨j, hj, rfl⟩ := hr
  refine ⟨j, List.mem_range.mp hj, ?_⟩
  rw [pickScan_parts, Nat.zero_add]

/-- non-vacuity: 12 picks over 1/4/3, all up: balanced; with host 3 down but listed: balanced as well (host 4 is
first 6 times, 2 and 5 three times each) -/
example :
    (TA.new rotP false false false).rotateVerdict (fun _ => true) (fun _ l => l) none 12 = none ∧
    (TA.new rotP false false false).rotateVerdict (fun i => i != 3) (fun _ l => l) none 12 = none ∧
    [2, 4, 5].map (fun i => firstHits rotP.tier 1
      ((TA.rotateRun (TA.new rotP false false false) (fun i => i != 3) (fun _ l => l) none 0 12).map (·.2.offered))
      ⟨i, i, 0, 1, []⟩) = [3, 6, 3] := by
  decide

/-! FULL CLAIM ("every up host of a tier is the first one offered from it the same number of times ±1") — holds
with d = 0 (last part of `C11_rotation_histogram`: weight 1 for every host). The unchanged code does NOT satisfy
it while a host of the tier is down but still listed, or was offered by the replica phases: the scan starts at
every LISTED position equally often and skips forward, so the host after such hosts takes their turns as well
(weight 1 + the length of the run before it). Finding KF-C11-6. -/

/-- COUNTEREXAMPLE to the ±1 form with d > 0. (1) round-robin over a, B, c, d with B down but
listed: over 8 successive picks a, c, d are the first host offered 2, 4, 2 times. (2) token-aware over round-robin,
hosts 1..6, replicas 1, 2 of the query's token both offered by the replica phases: after them, over 12 successive
picks of the same query, hosts 3, 4, 5, 6 come first 6, 2, 2, 2 times — the host listed after the replicas gets
three times the share of the others. Both verdicts are `balanced` in the sense of `tierBalanced` (bounds with d). -/
theorem C11_cex_down_listed_double_share :
    (let l : List Host := [⟨1, 1, 0, 0, []⟩, ⟨2, 2, 0, 0, []⟩, ⟨3, 3, 0, 0, []⟩, ⟨4, 4, 0, 0, []⟩]
     let t := TA.new { Pol.new .rr 0 0 with l0 := l } false false false
     [1, 3, 4].map (fun i => firstHits t.pol.tier 0
        ((TA.rotateRun t (fun i => i != 2) (fun _ l => l) none 0 8).map (·.2.offered)) ⟨i, i, 0, 0, []⟩) = [2, 4, 2] ∧
     t.rotateVerdict (fun i => i != 2) (fun _ l => l) none 8 = none) ∧
    (let l : List Host := [⟨1, 1, 0, 0, []⟩, ⟨2, 2, 0, 0, []⟩, ⟨3, 3, 0, 0, []⟩, ⟨4, 4, 0, 0, []⟩, ⟨5, 5, 0, 0, []⟩, ⟨6, 6, 0, 0, []⟩]
     let t : TA := { TA.new { Pol.new .rr 0 0 with l0 := l } false false true with
       hosts := l, replicas := [(0, [(100, [⟨1, 1, 0, 0, []⟩, ⟨2, 2, 0, 0, []⟩])])] }
     t.headOf (fun _ => true) id (some (0, 50)) = [⟨1, 1, 0, 0, []⟩, ⟨2, 2, 0, 0, []⟩] ∧
     [3, 4, 5, 6].map (fun i => firstHits t.pol.tier 0
        ((TA.rotateRun t (fun _ => true) (fun _ l => l) (some (0, 50)) 0 12).map (·.2.offered)) ⟨i, i, 0, 0, []⟩) = [6, 2, 2, 2] ∧
     t.rotateVerdict (fun _ => true) (fun _ l => l) (some (0, 50)) 12 = none) := by
  decide

/-- REGRESSION for the seeded change C11-8: the variant that reduces the shift modulo the size of
the local rack before using it for every tier (`rrSeqReduced`). On the shape 1/4/3 all 12 sequences still
have all 8 hosts, but the local-DC tier always starts at the same host — the verdict is `skewed:1`;
on 3/3/3 the variant is indistinguishable (balanced). -/
theorem C11_reduced_shift_skewed :
    let seqs := (List.range 12).map (fun p => rrSeqReduced (fun _ => true) (p + 1) [rotP.l0, rotP.l1, rotP.l2])
    rotVerdict rotP.tier (fun _ => true) [rotP.l0, rotP.l1, rotP.l2] seqs = some 1 ∧
    (∀ s ∈ seqs, s.length = 8) ∧
    firstHits rotP.tier 1 seqs ⟨3, 3, 0, 1, []⟩ = 12 ∧
    (let l3 : List Host := [⟨1, 1, 0, 0, []⟩, ⟨2, 2, 0, 0, []⟩, ⟨3, 3, 0, 0, []⟩]
     rotVerdict (fun _ => 0) (fun _ => true) [l3] ((List.range 12).map (fun p => rrSeqReduced (fun _ => true) (p + 1) [l3])) = none) := by
  decide

/-! ## HOST IDENTITY in the policy host lists (seeded change C11-9) — finding KF-C11-7

What makes two `*HostInfo` objects "the same host" for a policy is what `cowHostList.add` and `cowHostList.remove`
COMPARE. The unchanged code: `add` refuses a host that is `HostInfo.Equal` to an entry - the same object, or the same
CONNECT ADDRESS (port, host id: not looked at); `remove(ip)` drops every entry with that connect address and then
re-slices the result to `size-1` - it relies on "at most one entry per address". Both identities are the address, so
that invariant holds in every reachable state, no nil entry can appear and no call panics (`C11_cow_no_nil_entry`,
stated for ANY pair of identities in which `add` refuses whatever `remove` would conflate; `C11_cow_code_identity`:
the unchanged code's pair, and the abstract lists every other theorem of this file is about are what the raw code
computes). The seeded change C11-9 makes `Equal` compare the port too while `remove` still goes by address: the
identities split, two entries with one address get in, `remove` of one drops both and exposes a nil slot, the next
`add` panics (`C11_cex_split_identity_nil_slot`, on the raw list).

The policies against the HISTORY with hosts that share an address: a round-robin based policy keeps one list per
tier, so a host object's identity is its KEY (tier, address). For EVERY history over ANY host objects the lists hold
exactly the object that stands for each key - the first one `AddHost` / `HostUp` put there since `RemoveHost` /
`HostDown` of any object with the key last freed it (`Policies.ownerOf`) - and every such object whose state is up is
offered (`C11_identity_lists_by_history`, no exclusion); without ghost keys (KF-C11-4) and with a replica head of
listed objects the drained iterator offers EXACTLY the objects `Policies.expectedObj` names, each once
(`C11_identity_history_exact_partial` - the specification answer of the op `offer` when two defined host objects
share an address).

FULL PROPERTY (nodes = host objects; "contains every up host the policy knows - so a query can always reach any
live node"): every object that was added and not removed since, was not reported down last and is up, is offered.
The unchanged code violates it for NODES THAT SHARE A CONNECT ADDRESS (different native ports behind one address:
port mapping / NAT / local multi-node clusters; the session's ring keeps them apart by host id): the second node is
refused by every list and never offered, and `HostDown` / `RemoveHost` of the refused node drops the FIRST one, which
no call was about - finding KF-C11-7, counterexample `C11_cex_same_address_sibling`. What holds is the statement
under `NoAlias` (`C11_history_complete`, `C11_history_exact_partial`) and the per-key statement above. -/

/-- `cowHostList.add` / `remove` AS THE GO CODE HAS THEM (entries may be nil, `remove` re-slices to `size-1`, a nil
entry dereferenced is a panic), for ANY two identities - `sameAdd` compared by `add`, `keyOf` by `remove` - such that
`add` refuses whatever `remove` would conflate: after EVERY history of calls no call has panicked, the list has NO
NIL ENTRY and no two entries with one key. -/
theorem C11_cow_no_nil_entry {α κ : Type} [BEq κ] [LawfulBEq κ] (sameAdd : α → α → Bool) (keyOf : α → κ)
    (href : ∀ a b, keyOf a = keyOf b → sameAdd a b = true) (ops : List (RawOp α κ)) :
    ∃ l : List α, rawRun sameAdd keyOf (some []) ops = some (l.map some) ∧ KeyNodup keyOf l :=
  ⟨_, rawRun_eq sameAdd keyOf href ops [] List.Pairwise.nil⟩

/-- `remove(ip)` on a list with the invariant removes EXACTLY the entries identical to `ip` under the list's identity
(at most one), leaves no nil entry and keeps the order of the others. -/
theorem C11_cow_remove_exact {α κ : Type} [BEq κ] [LawfulBEq κ] (keyOf : α → κ) (l : List α) (hl : KeyNodup keyOf l) (ip : κ) :
    (∃ c, rawRemove keyOf (l.map some) ip = some ((l.filter (fun x => !(keyOf x == ip))).map some, c)) ∧
    l.length ≤ (l.filter (fun x => !(keyOf x == ip))).length + 1 ∧
    (∀ x, x ∈ l.filter (fun x => !(keyOf x == ip)) ↔ x ∈ l ∧ keyOf x ≠ ip) := by
  obtain ⟨c, e, _⟩ := rawRemove_ok keyOf l hl ip
  refine ⟨⟨c, e⟩, filter_key_length keyOf l hl ip, ?_⟩
  intro x
  simp [List.mem_filter]

/-- The UNCHANGED code's identities (`HostInfo.Equal` = same object or same connect address; `remove` by connect
address): for every history of `add` / `remove` calls the raw list - nil entries and panics modelled - is the abstract
list `cowAdd` / `cowRemove` compute (the lists all other theorems here are about), without a nil entry, and no two
entries share an address. -/
theorem C11_cow_code_identity (ops : List (RawOp Host Nat)) :
    rawRun Host.equal (fun h : Host => h.addr) (some []) ops = some ((ops.foldl absStep []).map some) ∧
    AddrNodup (ops.foldl absStep []) :=
  rawRun_abs ops [] .nil

example : rawRun Host.equal (fun h : Host => h.addr) (some [])
    [.add ⟨1, 10, 0, 0, []⟩, .add ⟨2, 10, 0, 0, []⟩, .add ⟨3, 11, 0, 0, []⟩, .remove 10, .add ⟨2, 10, 0, 0, []⟩] =
    some [some ⟨3, 11, 0, 0, []⟩, some ⟨2, 10, 0, 0, []⟩] := by decide

/-- REGRESSION, the seeded variant C11-9 (on the raw list): a node is (address, port); `Equal`
compares both, `remove` compares the address. Two nodes behind address 10 are both admitted; `remove(10)` - one of
them goes down - drops BOTH and leaves a nil slot; the next `add` into the list panics. -/
theorem C11_cex_split_identity_nil_slot :
    let run := rawRun seededSame (fun n : Nat × Nat => n.1) (some [])
    run [.add (10, 9042), .add (10, 9043), .add (11, 9042)] = some [some (10, 9042), some (10, 9043), some (11, 9042)] ∧
    run [.add (10, 9042), .add (10, 9043), .add (11, 9042), .remove 10] = some [some (11, 9042), none] ∧
    run [.add (10, 9042), .add (10, 9043), .add (11, 9042), .remove 10, .add (10, 9042)] = none := by
  decide

/-- For EVERY operation history over ANY host objects (objects sharing a connect address included), every policy
kind, bare or as token-aware fallback: the lists hold exactly the object that stands for each key (tier, address) by
the history; no two listed objects share a key; the drained iterator offers only up hosts and EVERY listed object
whose state is up (no exclusion: "every up host of the tier is offered"). -/
theorem C11_identity_lists_by_history (k : Kind) (ldc lrack : Nat) (sh nl ps : Bool) (sess : Option Nat) (ops : List TAOp)
    (up : Nat → Bool) (σ : List Host → List Host) (rk : Option (Nat × Nat)) :
    let t := ops.foldl TA.apply (TA.new (Pol.new k ldc lrack) sh nl ps sess)
    let key := (Pol.new k ldc lrack).key
    (∀ x, known t.pol x ↔ ownerOf key (evsOf ops) (key x) = some x) ∧
    (∀ a b, known t.pol a → known t.pol b → key a = key b → a = b) ∧
    ∃ l, t.pickSeq up σ rk = .seq l ∧ (Pol.below t.pol → t.pickScan up σ rk = ⟨l, false⟩) ∧
      (∀ h ∈ l, up h.id = true) ∧
      ∀ x, ownerOf key (evsOf ops) (key x) = some x → up x.id = true → x ∈ l := by
  intro t key
  obtain ⟨hp, _, hkn⟩ := owner_final k ldc lrack sh nl ps sess ops
  refine ⟨hkn, ?_, ?_⟩
  · intro a b ha hb e
    have h1 := (hkn a).mp ha
    have h2 := (hkn b).mp hb
    have e' : (Pol.new k ldc lrack).key a = (Pol.new k ldc lrack).key b := e
    rw [e', h2] at h1
    exact (Option.some.inj h1).symm
  · obtain ⟨l, _, hl, _, _, hup, hc, _⟩ := pickSeq_struct t hp up σ rk
    exact ⟨l, hl, fun hb => pickScan_ideal t up σ rk hb l hl, hup, fun x hx hu => hc x ((hkn x).mpr hx) hu⟩

/-- EXACTNESS per key (partial - the section comment has the full property): under the hypotheses of
`C11_tokenaware_all_states_partial`, for every history over ANY host objects: if no key is a ghost (`HostUp` of an
object whose key is not known, KF-C11-4) and every host of the specified replica head is the listed object of its
key, the drained iterator offers EXACTLY the objects `expectedObj` names - the object standing for a key that is
known, was not reported down last, state up - each once. -/
theorem C11_identity_history_exact_partial (k : Kind) (ldc lrack : Nat) (sh nl ps : Bool) (sess : Option Nat) (ops : List TAOp)
    (up : Nat → Bool) (σ : List Host → List Host) (hσ : ∀ l, (σ l).Perm l) (rk : Option (Nat × Nat)) :
    let t := ops.foldl TA.apply (TA.new (Pol.new k ldc lrack) sh nl ps sess)
    let key := (Pol.new k ldc lrack).key
    (∀ e ∈ t.replicas, ∀ f ∈ e.2, f.2.Nodup) →
    (∀ x, (keyStatus key (evsOf ops) (key x)).ghost = false) →
    (∀ x ∈ specHead t.pol.tier t.pol.maxTier up nl ((repsOf t σ rk).getD []), ownerOf key (evsOf ops) (key x) = some x) →
    ∃ l, t.pickSeq up σ rk = .seq l ∧ (Pol.below t.pol → t.pickScan up σ rk = ⟨l, false⟩) ∧ l.Nodup ∧
      ∀ x, x ∈ l ↔ expectedObj key (evsOf ops) up x = true := by
  intro t key hrep hg hhead
  obtain ⟨hp, _, hkn⟩ := owner_final k ldc lrack sh nl ps sess ops
  obtain ⟨l, hl, hscan, hnd, hup, hcomp, rest, hrest, hsub, _⟩ :=
    C11_tokenaware_all_states_partial k ldc lrack sh nl ps sess ops up σ hσ rk hrep
  refine ⟨l, hl, hscan, hnd, ?_⟩
  intro x
  have hwf : (keyStatus key (evsOf ops) (key x)).wf := wf_foldl_step (fun e => key e.2 = key x) (evsOf ops) _ wf_init
  constructor
  · intro hx
    have hu := hup x hx
    have ho : ownerOf key (evsOf ops) (key x) = some x := by
      rw [hrest, List.mem_append] at hx
      rcases hx with hx | hx
      · exact hhead x hx
      · exact (hkn x).mp ((mem_pickSeq _ hp up x).mp (hsub.subset hx)).1
    have hin : (keyStatus key (evsOf ops) (key x)).inList = true := by
      have := owner_isSome_inList key (evsOf ops) (key x)
      rw [ho] at this
      exact this.symm
    have he := inList_expected _ hwf (hg x) hin
    unfold expectedObj
    rw [ho, hu]
    simp [he]
  · intro hx
    unfold expectedObj at hx
    simp only [Bool.and_eq_true, beq_iff_eq] at hx
    obtain ⟨ho, he⟩ := hx
    exact hcomp x ((hkn x).mpr ho) (expected_inList _ hwf _ he).2

/-- The token-aware policy's OWN list (`t.hosts`: the hosts of the token ring and of every replica table it computes),
for EVERY operation history over ANY host objects: no two entries share an address, and the list holds exactly the
object that stands for each address by the history - the first one `AddHost` put there since `RemoveHost` of any object
with that address last freed it (`taOwnerOf`; `HostUp` / `HostDown` do not touch it). -/
theorem C11_identity_ta_hosts_by_history (k : Kind) (ldc lrack : Nat) (sh nl ps : Bool) (sess : Option Nat) (ops : List TAOp) :
    let t := ops.foldl TA.apply (TA.new (Pol.new k ldc lrack) sh nl ps sess)
    AddrNodup t.hosts ∧ ∀ x, x ∈ t.hosts ↔ taOwnerOf (evsOf ops) x.addr = some x := by
  intro t
  rw [show t.hosts = _ from run_hosts ops _]
  exact taOwner_evs (evsOf ops) _ (fun _ => none) (by simp [TA.new, AddrNodup]) (fun _ _ h => by cases h)
    (fun x => by simp [TA.new])

example :
    let ops := [TAOp.add ⟨1, 10, 0, 0, [100]⟩, .add ⟨2, 10, 1, 0, [200]⟩, .add ⟨3, 11, 0, 0, [300]⟩, .remove ⟨2, 10, 1, 0, [200]⟩]
    let t := ops.foldl TA.apply (TA.new (Pol.new .dc 0 0) false true true)
    -- the sibling in the other tier (object 2, remote DC) shares address 10: the own list refused it, its RemoveHost
    -- takes object 1 out of the own list (and out of the ring), while the fallback's LOCAL list still holds object 1
    t.hosts = [⟨3, 11, 0, 0, [300]⟩] ∧ t.pol.l0 = [⟨1, 10, 0, 0, [100]⟩, ⟨3, 11, 0, 0, [300]⟩] ∧ t.pol.l1 = [] ∧
    taOwnerOf (evsOf ops) 10 = none := by
  decide

def cexN1 : Host := ⟨1, 10, 0, 0, []⟩   -- node 1, address 10 (port 9042)
def cexN2 : Host := ⟨2, 10, 0, 0, []⟩   -- node 2, the SAME address (port 9043)
def cexN3 : Host := ⟨3, 11, 0, 0, []⟩   -- node 3, its own address

/-- non-vacuity of the per-key theorems on that cluster: after AddHost 1, 2, 3 the objects 1 and 3 stand for their keys
and are expected; object 2 does not stand for a key -/
example :
    let evs := evsOf [TAOp.add cexN1, .add cexN2, .add cexN3]
    let key := (Pol.new .rr 0 0).key
    expectedObj key evs (fun _ => true) cexN1 = true ∧ expectedObj key evs (fun _ => true) cexN2 = false ∧
    expectedObj key evs (fun _ => true) cexN3 = true ∧ (keyStatus key evs (key cexN2)).ghost = false := by
  decide

/-- COUNTEREXAMPLE to the full property, finding KF-C11-7: two nodes behind one connect address.
After AddHost of nodes 1, 2, 3 node 2 is known and up by the history, but no pick offers it (the list refused it);
after HostDown(2) - node 2 goes down - node 1, which no call reported down, is not offered any more. -/
theorem C11_cex_same_address_sibling :
    let t0 := TA.new (Pol.new .rr 0 0) false false false
    let ops1 := [TAOp.add cexN1, .add cexN2, .add cexN3]
    let ops2 := ops1 ++ [.hostDown cexN2]
    (statusOf (evsOf ops1) cexN2).expected true = true ∧
    (ops1.foldl TA.apply t0).pickSeq (fun _ => true) id none = .seq [cexN1, cexN3] ∧
    (statusOf (evsOf ops2) cexN1).expected true = true ∧
    (ops2.foldl TA.apply t0).pickSeq (fun _ => true) id none = .seq [cexN3] := by
  decide

end C11
