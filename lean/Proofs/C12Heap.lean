import Model.MarshalHeap
/-! Ownership of what crosses gocql.Marshal / gocql.Unmarshal:
    the invariant of the `fresh` discipline and its preservation by every step -/
namespace MarshalHeap
open ValueSpec (Bytes)

theorem mem_of_lookupSlot {α : Type} {k : Nat} {sl : Slot α} {l : List (Nat × Slot α)}
    (h : lookupSlot k l = some sl) : (k, sl) ∈ l := by
  revert h
  fun_induction lookupSlot k l <;> intro h
  · cases h
  · cases h; exact List.mem_cons_self
  · next ih => exact List.mem_cons_of_mem _ (ih h)

theorem mem_of_mem_eraseSlot {α : Type} {k : Nat} {e : Nat × Slot α} {l : List (Nat × Slot α)}
    (h : e ∈ eraseSlot k l) : e ∈ l := by
  revert h
  fun_induction eraseSlot k l <;> intro h
  · cases h
  · next ih => exact List.mem_cons_of_mem _ (ih h)
  · next ih =>
    rcases List.mem_cons.1 h with h | h
    · subst h; exact List.mem_cons_self
    · exact List.mem_cons_of_mem _ (ih h)

theorem lookupSlot_eraseSlot_ne {α : Type} {k k' : Nat} (hne : k' ≠ k) (l : List (Nat × Slot α)) :
    lookupSlot k (eraseSlot k' l) = lookupSlot k l := by
  fun_induction eraseSlot k' l
  · rfl
  · next ih => rw [ih]; simp [lookupSlot, hne]
  · next ih => simp only [lookupSlot, ih]

theorem buf_alloc_new (h : Heap) (b : Bytes) : (h.alloc b).1.buf h.mem.length = b := by
  simp [Heap.alloc, Heap.buf, List.getD_eq_getElem?_getD]

theorem alloc_length (h : Heap) (b : Bytes) : (h.alloc b).1.mem.length = h.mem.length + 1 := by
  simp [Heap.alloc]

theorem read_congr (h h' : Heap) (v : View) (e : h'.buf v.id = h.buf v.id) : h'.read v = h.read v := by
  simp [Heap.read, e]

theorem read_alloc_new (h : Heap) (b : Bytes) : (h.alloc b).1.read (h.alloc b).2 = b := by
  have := buf_alloc_new h b
  simp [Heap.read, Heap.alloc] at *
  simp [this]

/-- a heap that only grew (`h.mem <+: h'.mem`) shows every buffer that existed as it was -/
theorem buf_of_prefix {h h' : Heap} (p : h.mem <+: h'.mem) {id : Nat} (hid : id < h.mem.length) : h'.buf id = h.buf id := by
  obtain ⟨t, ht⟩ := p
  simp [Heap.buf, ← ht, List.getD_eq_getElem?_getD, List.getElem?_append_left hid]

theorem allocMany_le : ∀ (bs : List Bytes) (h : Heap), h.mem <+: (h.allocMany bs).1.mem
  | [], _ => List.prefix_refl _
  | b :: r, h => (List.prefix_append _ [b]).trans (allocMany_le r (h.alloc b).1)

/-- `allocMany`: the heap grows by one buffer per slice, every new view lies in a NEW buffer and shows its slice -/
theorem allocMany_spec : ∀ (bs : List Bytes) (h : Heap),
    (h.allocMany bs).1.mem.length = h.mem.length + bs.length ∧
    (∀ v ∈ (h.allocMany bs).2, h.mem.length ≤ v.id ∧ v.id < h.mem.length + bs.length) ∧
    (h.allocMany bs).1.reads (h.allocMany bs).2 = bs
  | [], h => by simp [Heap.allocMany, Heap.reads]
  | b :: r, h => by
    have ⟨i1, i3, i4⟩ := allocMany_spec r (h.alloc b).1
    have hl := alloc_length h b
    simp only [Heap.allocMany]
    refine ⟨by rw [i1, hl]; simp; omega, fun v hv => ?_, ?_⟩
    · rcases List.mem_cons.1 hv with hv | hv
      · subst hv; simp [Heap.alloc]
      · have := i3 v hv; rw [hl] at this; simp; omega
    · simp only [Heap.reads, List.map_cons]
      have hnew : ((h.alloc b).1.allocMany r).1.read (h.alloc b).2 = b := by
        rw [read_congr (h.alloc b).1 _ (h.alloc b).2 (buf_of_prefix (allocMany_le r _) (by rw [hl]; simp [Heap.alloc]))]
        exact read_alloc_new h b
      rw [hnew]
      exact congrArg _ i4

theorem buf_scribble_ne (h : Heap) (x : UInt8) (id id' : Nat) (hne : id' ≠ id) :
    (h.scribble x id').buf id = h.buf id := by
  simp [Heap.scribble, Heap.buf, List.getD_eq_getElem?_getD, List.getElem?_set_ne hne]

theorem scribble_length (h : Heap) (x : UInt8) (id : Nat) : (h.scribble x id).mem.length = h.mem.length := by
  simp [Heap.scribble]

theorem scribbleAll_spec (x : UInt8) : ∀ (ids : List Nat) (h : Heap),
    (h.scribbleAll x ids).mem.length = h.mem.length ∧
    (∀ id, id ∉ ids → (h.scribbleAll x ids).buf id = h.buf id)
  | [], h => by simp [Heap.scribbleAll]
  | i :: r, h => by
    have ⟨a, b⟩ := scribbleAll_spec x r (h.scribble x i)
    simp only [Heap.scribbleAll, List.foldl_cons] at *
    refine ⟨by rw [a, scribble_length], fun id hid => ?_⟩
    rw [b id (fun hm => hid (List.mem_cons_of_mem _ hm))]
    exact buf_scribble_ne h x id i (fun e => hid (by subst e; exact List.mem_cons_self))

theorem reads_congr (h h' : Heap) (vs : List View) (e : ∀ v ∈ vs, h'.buf v.id = h.buf v.id) :
    h'.reads vs = h.reads vs := by
  simp only [Heap.reads]
  exact List.map_congr_left (fun v hv => read_congr h h' v (e v hv))

structure SlotOK {α : Type} (S : Sig α) (h : Heap) (sl : Slot α) : Prop where
  value : S.F sl.arg = some sl.want
  inputs : ∀ w ∈ sl.inp, w.id < h.mem.length
  /-- a result that did NOT come through the zero-copy path lives in buffers that exist and still shows the value the
      call returned -/
  copied : sl.pass = false → (∀ v ∈ sl.res, v.id < h.mem.length) ∧ h.reads sl.res = sl.want
  /-- a zero-copy result is, structurally, a sub-slice of the slot's own input -/
  view : sl.pass = true → ∃ i off n, S.pass sl.arg = some (i, off, n) ∧ sl.res = [(sl.inp.getD i ⟨0, 0, 0⟩).sub off n]

theorem SlotOK.mono {α : Type} {S : Sig α} {h h' : Heap} {sl : Slot α} (hok : SlotOK S h sl)
    (hlen : h.mem.length ≤ h'.mem.length) (hbuf : sl.pass = false → ∀ v ∈ sl.res, h'.buf v.id = h.buf v.id) :
    SlotOK S h' sl := by
  have ⟨h1, h2, h3, h4⟩ := hok
  refine ⟨h1, fun w hw => Nat.lt_of_lt_of_le (h2 w hw) hlen, fun hp => ?_, h4⟩
  have ⟨h3a, h3b⟩ := h3 hp
  exact ⟨fun v hv => Nat.lt_of_lt_of_le (h3a v hv) hlen, by rw [reads_congr h _ sl.res (hbuf hp)]; exact h3b⟩

theorem SlotOK.pass_false {α : Type} {S : Sig α} {h : Heap} {sl : Slot α} (hok : SlotOK S h sl)
    (hn : S.pass sl.arg = none) : sl.pass = false := by
  cases hb : sl.pass with
  | false => rfl
  | true =>
    have ⟨i, off, n, e, _⟩ := hok.view hb
    rw [hn] at e; cases e

theorem SlotOK.le {α : Type} {S : Sig α} {h h' : Heap} {sl : Slot α} (hok : SlotOK S h sl) (hle : h.mem <+: h'.mem) :
    SlotOK S h' sl :=
  hok.mono hle.length_le fun hp v hv => buf_of_prefix hle ((hok.copied hp).1 v hv)

/-- the invariant of the `fresh` discipline: every held result is good, and no buffer of a result that did not come
    through the zero-copy path is anybody's input buffer -/
structure Good {α : Type} (S : Sig α) (s : St α) : Prop where
  ok : ∀ k sl, (k, sl) ∈ s.slots → SlotOK S s.heap sl
  sep : ∀ k sl k' sl', (k, sl) ∈ s.slots → (k', sl') ∈ s.slots → sl.pass = false →
    ∀ v ∈ sl.res, ∀ w ∈ sl'.inp, v.id ≠ w.id

theorem good_init {α : Type} (S : Sig α) : Good S (St.init : St α) :=
  ⟨fun _ _ h => by simp [St.init] at h, fun _ _ _ _ h => by simp [St.init] at h⟩

theorem good_step {α : Type} (S : Sig α) (s : St α) (op : Op α) (g : Good S s) :
    Good S (step .fresh S s op) := by
  cases op with
  | drop k =>
    exact ⟨fun k' sl h => g.ok k' sl (mem_of_mem_eraseSlot h),
           fun k1 s1 k2 s2 h1 h2 => g.sep k1 s1 k2 s2 (mem_of_mem_eraseSlot h1) (mem_of_mem_eraseSlot h2)⟩
  | mutIn k x =>
    simp only [step]
    cases hl : s.lookup k with
    | none => exact g
    | some sl0 =>
      simp only
      have hm0 : (k, sl0) ∈ s.slots := mem_of_lookupSlot hl
      have ⟨hlen, hbuf⟩ := scribbleAll_spec x (sl0.inp.map (·.id)) s.heap
      -- only input buffers of slot `k` are scribbled over, and no held result lives in one (`sep`)
      refine ⟨fun k' sl h => (g.ok k' sl h).mono (Nat.le_of_eq hlen.symm) fun hp v hv => hbuf v.id fun hmem => ?_,
        fun k1 s1 k2 s2 h1 h2 => g.sep k1 s1 k2 s2 h1 h2⟩
      rcases List.mem_map.1 hmem with ⟨w, hw, e⟩
      exact g.sep k' sl k sl0 h hm0 hp v hv w hw e.symm
  | hold k a =>
    simp only [step]
    have ⟨a1, a3, _⟩ := allocMany_spec (S.ins a) s.heap
    -- old slots keep their buffers: allocation appends.  What keeps results and inputs apart below: a buffer allocated
    -- now has an id ≥ the old heap's length (`a3`, `b3`: inputs first, then results), every id a slot held before is
    -- below it (`SlotOK`), so each mixed pair old/new is closed by `omega` on these bounds
    have old : ∀ k' sl, (k', sl) ∈ eraseSlot k s.slots → SlotOK S (s.heap.allocMany (S.ins a)).1 sl :=
      fun k' sl h => (g.ok k' sl (mem_of_mem_eraseSlot h)).le (allocMany_le _ _)
    cases hF : S.F a with
    | none =>
      exact ⟨old, fun k1 s1 k2 s2 h1 h2 => g.sep k1 s1 k2 s2 (mem_of_mem_eraseSlot h1) (mem_of_mem_eraseSlot h2)⟩
    | some outs =>
      simp only
      cases hP : S.pass a with
      | some t =>
        obtain ⟨i, off, n⟩ := t
        simp only
        refine ⟨fun k' sl h => ?_, fun k1 s1 k2 s2 h1 h2 hp v hv w hw => ?_⟩
        · rcases List.mem_cons.1 h with h | h
          · cases h
            refine ⟨hF, fun w hw => by have := a3 w hw; rw [a1]; omega, fun hp => by simp at hp,
              fun _ => ⟨i, off, n, hP, rfl⟩⟩
          · exact old k' sl h
        · rcases List.mem_cons.1 h1 with h1 | h1
          · cases h1; simp at hp
          · rcases List.mem_cons.1 h2 with h2 | h2
            · cases h2
              have := ((g.ok k1 s1 (mem_of_mem_eraseSlot h1)).copied hp).1 v hv
              have := a3 w hw
              omega
            · exact g.sep k1 s1 k2 s2 (mem_of_mem_eraseSlot h1) (mem_of_mem_eraseSlot h2) hp v hv w hw
      | none =>
        simp only [Heap.place]
        have ⟨b1, b3, b4⟩ := allocMany_spec outs (s.heap.allocMany (S.ins a)).1
        refine ⟨fun k' sl h => ?_, fun k1 s1 k2 s2 h1 h2 hp v hv w hw => ?_⟩
        · rcases List.mem_cons.1 h with h | h
          · cases h
            refine ⟨hF, fun w hw => by have := a3 w hw; rw [b1, a1]; omega,
              fun _ => ⟨fun v hv => by have := b3 v hv; rw [b1]; omega, b4⟩, fun hp => by simp at hp⟩
          · exact (old k' sl h).le (allocMany_le _ _)
        · rcases List.mem_cons.1 h1 with h1 | h1 <;> rcases List.mem_cons.1 h2 with h2 | h2
          · cases h1; cases h2
            have := b3 v hv; have := a3 w hw; rw [a1] at *; omega
          · cases h1
            have := b3 v hv
            have := (g.ok k2 s2 (mem_of_mem_eraseSlot h2)).inputs w hw
            rw [a1] at *; omega
          · cases h2
            have := ((g.ok k1 s1 (mem_of_mem_eraseSlot h1)).copied hp).1 v hv
            have := a3 w hw
            omega
          · exact g.sep k1 s1 k2 s2 (mem_of_mem_eraseSlot h1) (mem_of_mem_eraseSlot h2) hp v hv w hw

theorem good_foldl {α : Type} (S : Sig α) (ops : List (Op α)) :
    ∀ s, Good S s → Good S (ops.foldl (step .fresh S) s) :=
  fun _ g => ops.foldlRecOn _ g fun s g op _ => good_step S s op g

theorem good_run {α : Type} (S : Sig α) (ops : List (Op α)) : Good S (run .fresh S ops) :=
  good_foldl S ops _ (good_init S)

/-- a step that does not name slot `k` leaves WHO holds WHAT in slot `k` alone (any discipline) -/
theorem lookup_step {α : Type} (d : Discipline) (S : Sig α) (s : St α) (op : Op α) (k : Nat)
    (hn : op.touches k = false) : (step d S s op).lookup k = s.lookup k := by
  fun_cases step d S s op
  -- hold (no result), drop: slot `k'`, which is not `k`, is erased; hold with a result: and put in front again
  case case1 | case4 => exact lookupSlot_eraseSlot_ne (by simpa [Op.touches] using hn) _
  case case2 | case3 =>
    simp [Op.touches] at hn
    simp only [St.lookup, lookupSlot, hn, if_false]
    exact lookupSlot_eraseSlot_ne hn _
  -- mutIn touches no slot
  all_goals rfl

theorem lookup_foldl {α : Type} (d : Discipline) (S : Sig α) (k : Nat) (ops : List (Op α))
    (hn : ∀ op ∈ ops, op.touches k = false) :
    ∀ s, (ops.foldl (step d S) s).lookup k = s.lookup k :=
  fun s => ops.foldlRecOn (motive := fun t => t.lookup k = s.lookup k) _ rfl
    fun t ht op ho => (lookup_step d S t op k (hn op ho)).trans ht

/-- a Marshal / Unmarshal call writes to no buffer that existed before it (only the caller's own `mutIn` does) -/
theorem step_le {α : Type} (S : Sig α) (s : St α) (op : Op α) (hn : op.isMut = false) :
    s.heap.mem <+: (step .fresh S s op).heap.mem := by
  fun_cases step .fresh S s op
  -- hold: one or two allocations; drop: the same heap; mutIn is excluded
  case case1 | case2 => exact allocMany_le _ _
  case case3 => exact (allocMany_le _ _).trans (allocMany_le _ _)
  case case4 => exact List.prefix_refl _
  all_goals simp [Op.isMut] at hn
theorem buf_foldl_noMut {α : Type} (S : Sig α) (ops : List (Op α))
    (hn : ∀ op ∈ ops, op.isMut = false) :
    ∀ (s : St α) (id : Nat), id < s.heap.mem.length → (ops.foldl (step .fresh S) s).heap.buf id = s.heap.buf id :=
  fun s _ hid => buf_of_prefix (ops.foldlRecOn (motive := fun t => s.heap.mem <+: t.heap.mem) _ (List.prefix_refl _)
    fun t ht op ho => ht.trans (step_le S t op (hn op ho))) hid

end MarshalHeap
