import Proofs.C02Scalar
import Proofs.C02Hist
import Proofs.C12Frame
/-!
# C02 — the structural steps of the nested round trip

`RT p t ty g`: whatever the model's `marshal p t g` returns without error, `unmarshal p t ty` of it is `g`.
Steps, each with the element statements as hypotheses and for both collection framings: pointers / pointer-to-pointer and
nil pointers, scalar leaves (C02Scalar.SRT), lists / sets into slices and arrays, maps (`KeysDistinct`), tuples
(`FieldsRT`, with `Small` and `NullOK` as side conditions; `tuple_set_back`) into slices, arrays and []interface{} (the step
into structs is `C02.C02_tuple_struct_roundtrip` itself), UDTs into map[string]interface{} (`UField`); last, tuple fields
as data (`TField`) for the inductive `Clean` of Proofs/C02.lean, and the text fields of C12 as fields in this sense
(`C02.fieldsRT_of_text`, `C02.text_fields_ok`).
Every writer loop of the model is read one turn backwards through `C12Coll.consItem_some`.
-/
namespace C02Nested
open ValueSpec Marshal C12Bytes C02Scalar

def RT (p : Nat) (t : CqlTy) (ty : GoTy) (g : GoVal) : Prop :=
  ∀ ob, marshal p t g = .ok ob → unmarshal p t ty ob = .ok g

def NonNull (p : Nat) (t : CqlTy) (g : GoVal) : Prop := marshal p t g ≠ .ok none

def isBase : GoTy → Bool
  | .ptr _ => false
  | _ => true

def ptrTy : Nat → GoTy → GoTy
  | 0, t => t
  | n+1, t => .ptr (ptrTy n t)

theorem stripPtr_base (ty : GoTy) (h : isBase ty = true) : stripPtr ty = (0, ty) := by
  cases ty <;> simp_all [stripPtr, isBase]

theorem stripPtr_ptrTy (k : Nat) (ty : GoTy) (h : isBase ty = true) : stripPtr (ptrTy k ty) = (k, ty) := by
  induction k with
  | zero => exact stripPtr_base ty h
  | succ k ih => simp [ptrTy, stripPtr, ih]

theorem marshal_wrapPtr (p : Nat) (t : CqlTy) (k : Nat) (g : GoVal) : marshal p t (wrapPtr k g) = marshal p t g := by
  induction k with
  | zero => rfl
  | succ k ih => simp [wrapPtr, marshal, ih]

theorem unmarshal_base (p : Nat) (t : CqlTy) (ty : GoTy) (h : isBase ty = true) (data : Option Bytes) :
    unmarshal p t ty data = unmarshalBase p t ty data := by
  simp [unmarshal, withPtr, stripPtr_base ty h]

/-- a nil pointer of any depth is null, and null is the nil pointer -/
theorem rt_nilptr (p : Nat) (t : CqlTy) (k : Nat) (ty : GoTy) (hb : isBase ty = true) :
    RT p t (ptrTy (k+1) ty) .nilptr := by
  intro ob h
  simp [marshal] at h
  subst h
  simp [unmarshal, withPtr, stripPtr_ptrTy (k+1) ty hb]

/-- `*T`, `**T`, …: a chain of non-nil pointers to a value that is not written as null -/
theorem rt_ptr (p : Nat) (t : CqlTy) (k : Nat) (ty : GoTy) (hb : isBase ty = true) (g : GoVal)
    (h : RT p t ty g) (hnn : NonNull p t g) : RT p t (ptrTy k ty) (wrapPtr k g) := by
  intro ob hm
  rw [marshal_wrapPtr] at hm
  have hu := h ob hm
  cases k with
  | zero => exact hu
  | succ k =>
    cases ob with
    | none => exact absurd hm hnn
    | some b =>
      rw [unmarshal_base p t ty hb] at hu
      simp [unmarshal, withPtr, stripPtr_ptrTy (k+1) ty hb, hu]

theorem unmarshalBase_scalar (p : Nat) (t : CqlTy) (ty : GoTy) (data : Option Bytes) (ht : CqlTy.isScalar t = true) :
    unmarshalBase p t ty data = unmarshalScalar t data.isNone (dataBytes data) ty := by
  rw [unmarshalBase.eq_def]
  cases t <;> first | rfl | cases ht

theorem rt_scalar (p : Nat) (t : CqlTy) (ty : GoTy) (g : GoVal) (ht : CqlTy.isScalar t = true)
    (hb : isBase ty = true) (hg : C12Coll.isPtr g = false) (h : SRT t ty g) : RT p t ty g := by
  intro ob hm
  rw [C12Coll.marshal_scalarTy p ht hg] at hm
  rw [unmarshal_base p t ty hb, unmarshalBase_scalar p t ty ob ht]
  exact h ob hm

theorem collSize_length (p : Nat) (n : Int) (c : Bytes) (h : collSize p n = some c) : c.length = collHdr p := by
  -- both framings: "too large" is no result; otherwise the header is encInt (4 bytes) resp. encShort (2 bytes)
  revert h
  fun_cases collSize p n <;> intro h <;> cases h
  all_goals simp only [collHdr, gt_iff_lt, *, if_true, if_false]; rfl

theorem collItem_length (p : Nat) (item : Option Bytes) (e : Bytes) (h : collItem p item = some e) :
    collHdr p ≤ e.length := by
  cases item with
  | none => simp only [collItem] at h; rw [collSize_length p _ e h]; exact Nat.le_refl _
  | some b =>
    simp only [collItem, Option.map_eq_some_iff] at h
    obtain ⟨c, hc, rfl⟩ := h
    simp [collSize_length p _ c hc]

theorem item_back (p : Nat) (item : Option Bytes) (e rest : Bytes) (h : collItem p item = some e)
    (hnull : p ≤ 2 → item ≠ none) : readCollItem p (e ++ rest) = some (item, rest) := by
  cases item with
  | some b => exact C12Frame.readCollItem_collItem p b e rest h
  | none => exact C12Frame.readCollItem_null p (Nat.lt_of_not_le fun hp => hnull hp rfl) e rest h

/-- the loop of marshalList against the loop of unmarshalList: the elements come back one by one — every protocol
    version; under protocol ≤ 2 for elements that are not null (the 2-byte framing has no null, KF-C02-3) -/
theorem elems_back (p : Nat) (et : CqlTy) (gty : GoTy) :
    ∀ (vs : List GoVal) (body rest : Bytes),
      (∀ v, v ∈ vs → RT p et gty v) → (p ≤ 2 → ∀ v, v ∈ vs → NonNull p et v) →
      marshalElems p et vs = .ok (some body) →
      unmarshalElems p (unmarshal p et gty) vs.length (body ++ rest) = .ok vs rest ∧ vs.length * collHdr p ≤ body.length
  | [], body, rest, _, _, h => by
    simp [marshalElems] at h
    subst h
    exact ⟨rfl, by simp⟩
  | v :: vs, body, rest, hrt, hnn, h => by
    rw [C12Coll.marshalElems_cons] at h
    obtain ⟨item, e, rest', hm, hc, hr, rfl⟩ := C12Coll.consItem_some h
    obtain ⟨ih, ihl⟩ := elems_back p et gty vs rest' rest (fun w hw => hrt w (List.mem_cons_of_mem _ hw))
      (fun hp w hw => hnn hp w (List.mem_cons_of_mem _ hw)) hr
    have hback := item_back p item e (rest' ++ rest) hc
      (fun hp hi => hnn hp v List.mem_cons_self (by rw [hm, hi]))
    have hv := hrt v List.mem_cons_self item hm
    refine ⟨?_, ?_⟩
    · simp only [List.length_cons, unmarshalElems, List.append_assoc, hback, hv, ih]
    · have := collItem_length p item e hc
      simp only [List.length_cons, List.length_append, Nat.add_mul]
      omega

theorem collHdr_pos (p : Nat) : 0 < collHdr p := by unfold collHdr; split <;> omega

/-- what unmarshalList finds in the bytes marshalList wrote: the count, then the elements, each with room for its header -/
theorem list_back (p : Nat) (et : CqlTy) (gty : GoTy) (vs : List GoVal) (b : Bytes)
    (hrt : ∀ v, v ∈ vs → RT p et gty v) (hnn : p ≤ 2 → ∀ v, v ∈ vs → NonNull p et v)
    (h : wrapSeq p vs.length (marshalElems p et vs) = .ok (some b)) :
    ∃ bd, readCollSize p b = some ((vs.length : Int), bd) ∧
      unmarshalElems p (unmarshal p et gty) vs.length bd = .ok vs [] ∧ ¬ vs.length > bd.length / collHdr p := by
  rw [C12Coll.wrapSeq_eq] at h
  obtain ⟨_, c, bd, _, hc, hbody, rfl⟩ := C12Coll.consItem_some h
  obtain ⟨hel, hlen⟩ := elems_back p et gty vs bd [] hrt hnn hbody
  rw [List.append_nil] at hel
  have := (Nat.le_div_iff_mul_le (collHdr_pos p)).mpr hlen
  exact ⟨bd, C12Frame.readCollSize_collSize p vs.length c bd hc, hel, by omega⟩

def isListLike (t : CqlTy) (et : CqlTy) : Prop := t = .list et ∨ t = .set et

theorem unmarshal_eta (p : Nat) (et : CqlTy) (gty : GoTy) : withPtr (unmarshalBase p et) gty = unmarshal p et gty := by
  funext data; rfl

/-! list and set columns share marshalList / unmarshalList: the equations of the model for both -/

theorem marshal_slice {p : Nat} {t et : CqlTy} (ht : isListLike t et) (isNil : Bool) (vs : List GoVal) :
    marshal p t (.slice isNil vs) = if isNil then .ok none else wrapSeq p vs.length (marshalElems p et vs) := by
  rcases ht with rfl | rfl <;> simp only [marshal]

theorem marshal_array {p : Nat} {t et : CqlTy} (ht : isListLike t et) (vs : List GoVal) :
    marshal p t (.array vs) = wrapSeq p vs.length (marshalElems p et vs) := by
  rcases ht with rfl | rfl <;> simp only [marshal]

theorem unmarshal_slice {p : Nat} {t et : CqlTy} (ht : isListLike t et) (gty : GoTy) (data : Option Bytes) :
    unmarshal p t (.slice gty) data = unmarshalListTo p (unmarshal p et gty) (.slice gty) data := by
  rw [unmarshal_base _ _ _ rfl]
  rcases ht with rfl | rfl <;> simp only [unmarshalBase, unmarshal_eta]

theorem unmarshal_array {p : Nat} {t et : CqlTy} (ht : isListLike t et) (n : Nat) (gty : GoTy) (data : Option Bytes) :
    unmarshal p t (.array n gty) data = unmarshalListTo p (unmarshal p et gty) (.array n gty) data := by
  rw [unmarshal_base _ _ _ rfl]
  rcases ht with rfl | rfl <;> simp only [unmarshalBase, unmarshal_eta]

theorem nonNull_slice (p : Nat) (t et : CqlTy) (ht : isListLike t et) (vs : List GoVal) :
    NonNull p t (.slice false vs) := by
  unfold NonNull
  rw [marshal_slice ht]
  exact C12Coll.wrapSeq_ne_none (C12Coll.marshalElems_ne_none p et vs)

theorem nonNull_array (p : Nat) (t et : CqlTy) (ht : isListLike t et) (vs : List GoVal) :
    NonNull p t (.array vs) := by
  unfold NonNull
  rw [marshal_array ht]
  exact C12Coll.wrapSeq_ne_none (C12Coll.marshalElems_ne_none p et vs)

/-- list<T> / set<T> ↔ []G (non-nil, possibly empty) -/
theorem rt_slice (p : Nat) (t et : CqlTy) (ht : isListLike t et) (gty : GoTy) (vs : List GoVal)
    (hrt : ∀ v, v ∈ vs → RT p et gty v) (hnn : p ≤ 2 → ∀ v, v ∈ vs → NonNull p et v) :
    RT p t (.slice gty) (.slice false vs) := by
  intro ob h
  cases ob with
  | none => exact absurd h (nonNull_slice p t et ht vs)
  | some b =>
    rw [marshal_slice ht] at h
    obtain ⟨bd, hrc, hel, hdiv⟩ := list_back p et gty vs b hrt hnn h
    have hn0 : ¬ ((vs.length : Int) < 0) := by omega
    simp only [unmarshal_slice ht, unmarshalListTo, hrc, if_neg hn0, Int.toNat_natCast, if_neg hdiv, hel]

/-- the nil slice is null and null is the nil slice -/
theorem rt_nil_slice (p : Nat) (t et : CqlTy) (ht : isListLike t et) (gty : GoTy) :
    RT p t (.slice gty) (.slice true []) := by
  intro ob h
  rw [marshal_slice ht] at h
  cases h
  rw [unmarshal_slice ht]
  rfl

/-- list<T> / set<T> ↔ [n]G -/
theorem rt_array (p : Nat) (t et : CqlTy) (ht : isListLike t et) (gty : GoTy) (vs : List GoVal)
    (hrt : ∀ v, v ∈ vs → RT p et gty v) (hnn : p ≤ 2 → ∀ v, v ∈ vs → NonNull p et v) :
    RT p t (.array vs.length gty) (.array vs) := by
  intro ob h
  cases ob with
  | none => exact absurd h (nonNull_array p t et ht vs)
  | some b =>
    rw [marshal_array ht] at h
    obtain ⟨bd, hrc, hel, _⟩ := list_back p et gty vs b hrt hnn h
    have hn0 : ¬ ((vs.length : Int) ≠ (vs.length : Nat)) := by simp
    simp only [unmarshal_array ht, unmarshalListTo, hrc, if_neg hn0, Int.toNat_natCast, hel]

/-- a Go map holds each key once: no earlier key equals a later one -/
def KeysDistinct : List (GoVal × GoVal) → Prop
  | [] => True
  | kv :: r => (∀ kv', kv' ∈ r → (kv.1 == kv'.1) = false) ∧ KeysDistinct r

theorem mapInsert_fresh (k v : GoVal) : ∀ acc : List (GoVal × GoVal),
    (∀ a, a ∈ acc → (a.1 == k) = false) → mapInsert k v acc = acc ++ [(k, v)]
  | [], _ => rfl
  | (k', v') :: r, h => by
    have h1 : (k' == k) = false := h (k', v') List.mem_cons_self
    have ih := mapInsert_fresh k v r (fun a ha => h a (List.mem_cons_of_mem _ ha))
    simp [mapInsert, h1, ih]

theorem KeysDistinct.before : ∀ {acc : List (GoVal × GoVal)} {kv : GoVal × GoVal} {r : List (GoVal × GoVal)},
    KeysDistinct (acc ++ kv :: r) → ∀ a, a ∈ acc → (a.1 == kv.1) = false
  | [], _, _, _, _, ha => nomatch ha
  | b :: acc, kv, r, hd, a, ha => by
    rcases List.mem_cons.mp ha with rfl | ha
    · exact hd.1 kv (List.mem_append_right _ List.mem_cons_self)
    · exact KeysDistinct.before hd.2 a ha

/-- the loop of marshalMap against the loop of unmarshalMap (SetMapIndex on distinct keys appends) -/
theorem pairs_back (p : Nat) (kt vt : CqlTy) (gk gv : GoTy) :
    ∀ (kvs : List (GoVal × GoVal)) (body rest : Bytes) (acc : List (GoVal × GoVal)),
      (∀ kv, kv ∈ kvs → RT p kt gk kv.1 ∧ RT p vt gv kv.2) →
      (p ≤ 2 → ∀ kv, kv ∈ kvs → NonNull p kt kv.1 ∧ NonNull p vt kv.2) →
      KeysDistinct (acc ++ kvs) → marshalPairs p kt vt kvs = .ok (some body) →
      unmarshalPairs p (unmarshal p kt gk) (unmarshal p vt gv) kvs.length (body ++ rest) acc = .ok (acc ++ kvs) rest ∧
        kvs.length * (2 * collHdr p) ≤ body.length
  | [], body, rest, acc, _, _, _, h => by
    simp [marshalPairs] at h
    subst h
    exact ⟨by simp [unmarshalPairs], by simp⟩
  | (k, v) :: r, body, rest, acc, hrt, hnn, hd, h => by
    rw [C12Coll.marshalPairs_cons] at h
    obtain ⟨ki, ke, _, hk, hkc, h2, rfl⟩ := C12Coll.consItem_some h
    obtain ⟨vi, ve, rest', hv, hvc, hr, rfl⟩ := C12Coll.consItem_some h2
    have hins : mapInsert k v acc = acc ++ [(k, v)] := mapInsert_fresh k v acc hd.before
    obtain ⟨ih, ihl⟩ := pairs_back p kt vt gk gv r rest' rest (acc ++ [(k, v)])
      (fun w hw => hrt w (List.mem_cons_of_mem _ hw))
      (fun hp w hw => hnn hp w (List.mem_cons_of_mem _ hw)) (by rw [List.append_assoc]; exact hd) hr
    have hkb := item_back p ki ke (ve ++ (rest' ++ rest)) hkc
      (fun hp hi => (hnn hp (k, v) List.mem_cons_self).1 (by rw [hk, hi]))
    have hvb := item_back p vi ve (rest' ++ rest) hvc
      (fun hp hi => (hnn hp (k, v) List.mem_cons_self).2 (by rw [hv, hi]))
    have hku := (hrt (k, v) List.mem_cons_self).1 ki hk
    have hvu := (hrt (k, v) List.mem_cons_self).2 vi hv
    refine ⟨?_, ?_⟩
    · simp only [List.length_cons, unmarshalPairs, List.append_assoc, hkb, hku, hvb, hvu, hins, ih]
      simp
    · have h1 := collItem_length p ki ke hkc
      have h2 := collItem_length p vi ve hvc
      simp only [List.length_cons, List.length_append, Nat.add_mul]
      omega

theorem nonNull_map (p : Nat) (kt vt : CqlTy) (kvs : List (GoVal × GoVal)) : NonNull p (.map kt vt) (.map false kvs) := by
  unfold NonNull
  simp only [marshal, Bool.false_eq_true, if_false]
  exact C12Coll.wrapSeq_ne_none (C12Coll.marshalPairs_ne_none p kt vt kvs)

/-- map<K, V> ↔ map[GK]GV (non-nil, possibly empty), distinct keys -/
theorem rt_map (p : Nat) (kt vt : CqlTy) (gk gv : GoTy) (kvs : List (GoVal × GoVal))
    (hrt : ∀ kv, kv ∈ kvs → RT p kt gk kv.1 ∧ RT p vt gv kv.2)
    (hnn : p ≤ 2 → ∀ kv, kv ∈ kvs → NonNull p kt kv.1 ∧ NonNull p vt kv.2)
    (hd : KeysDistinct kvs) : RT p (.map kt vt) (.map gk gv) (.map false kvs) := by
  intro ob h
  cases ob with
  | none => exact absurd h (nonNull_map p kt vt kvs)
  | some b =>
    simp only [marshal, Bool.false_eq_true, if_false] at h
    rw [C12Coll.wrapSeq_eq] at h
    obtain ⟨_, c, bd, _, hc, hbody, rfl⟩ := C12Coll.consItem_some h
    obtain ⟨hel, hlen⟩ := pairs_back p kt vt gk gv kvs bd [] [] hrt hnn hd hbody
    have hrc := C12Frame.readCollSize_collSize p kvs.length c bd hc
    have hpos : 0 < 2 * collHdr p := by have := collHdr_pos p; omega
    have hdiv : ¬ kvs.length > bd.length / (2 * collHdr p) := by
      have := (Nat.le_div_iff_mul_le hpos).mpr hlen
      omega
    simp only [List.append_nil, List.nil_append] at hel
    rw [unmarshal_base _ _ _ rfl]
    simp only [unmarshalBase, unmarshal_eta, hrc]
    have hn0 : ¬ ((kvs.length : Int) < 0) := by omega
    simp only [if_neg hn0, Int.toNat_natCast, if_neg hdiv, hel]

/-- the nil map is null and null is the nil map -/
theorem rt_nil_map (p : Nat) (kt vt : CqlTy) (gk gv : GoTy) : RT p (.map kt vt) (.map gk gv) (.map true []) := by
  intro ob h
  simp [marshal] at h
  subst h
  rw [unmarshal_base _ _ _ rfl]
  simp [unmarshalBase]

/-- the distinct-keys hypothesis as a computation (`==` on `GoVal` is the structural `GoVal.beqV`) -/
def keysDistinctB : List (GoVal × GoVal) → Bool
  | [] => true
  | kv :: r => r.all (fun kv' => !(kv.1 == kv'.1)) && keysDistinctB r

theorem keysDistinct_of_B : ∀ kvs : List (GoVal × GoVal), keysDistinctB kvs = true → KeysDistinct kvs
  | [], _ => trivial
  | kv :: r, h => by
    simp only [keysDistinctB, Bool.and_eq_true, List.all_eq_true, Bool.not_eq_eq_eq_not, Bool.not_true] at h
    exact ⟨fun kv' hkv' => h.1 kv' hkv', keysDistinct_of_B r h.2⟩

/-- the encoding is short enough for a 4-byte signed length -/
def Small (p : Nat) (t : CqlTy) (g : GoVal) : Prop := ∀ b, marshal p t g = .ok (some b) → b.length < 2^31

theorem nonNull_of_some {p : Nat} {t : CqlTy} {g : GoVal} {b : Bytes} (h : marshal p t g = .ok (some b)) :
    NonNull p t g := by
  unfold NonNull; rw [h]; exact fun h => nomatch h

theorem small_of_some {p : Nat} {t : CqlTy} {g : GoVal} {b : Bytes} (h : marshal p t g = .ok (some b))
    (hl : b.length < 2^31) : Small p t g := by
  intro b' hb'; rw [h] at hb'; cases hb'; exact hl

theorem marshal_text_str (p : Nat) (named : Bool) (s : Bytes) : marshal p .text (.str named s) = .ok (some s) :=
  C12Coll.marshal_scalarTy p rfl rfl

theorem marshal_int_int (p : Nat) (n : Int) (h : fitsS 4 n = true) :
    marshal p .int (.int .int false n) = .ok (some (encInt (toS 32 n))) := by
  rw [C12Coll.marshal_scalarTy p (t := .int) (g := .int .int false n) rfl rfl]
  rw [fitsS_iff] at h
  have hn : ¬ (n > 2147483647 ∨ n < -2147483648) := by omega
  simp only [marshalScalar, marshalIntColumn, marshalIntKind, if_neg hn, optM]

/-- unmarshalTuple decodes EVERY field into a fresh goType(elem) first, a null one as well: that must not fail -/
def NullOK (p : Nat) (t : CqlTy) : Prop := ∃ v0, unmarshal p t (goTypeOf t) none = .ok v0

/-- the fields of a struct bound to a tuple column, field by field: a field of type goType(elem) holding a value whose
    round trip holds, or a field of type *goType(elem): nil, or pointing to such a value that is not written as null -/
inductive FieldsRT (p : Nat) : List CqlTy → List GoTy → List GoVal → Prop
  | nil : FieldsRT p [] [] []
  | val {t ts gs v vs} : isBase (goTypeOf t) = true → v.isNilPtr = false → RT p t (goTypeOf t) v → Small p t v →
      FieldsRT p ts gs vs → FieldsRT p (t :: ts) (goTypeOf t :: gs) (v :: vs)
  | null {t ts gs vs} : NullOK p t → FieldsRT p ts gs vs → FieldsRT p (t :: ts) (.ptr (goTypeOf t) :: gs) (.nilptr :: vs)
  | ptr {t ts gs v vs} : RT p t (goTypeOf t) v → NonNull p t v → Small p t v →
      FieldsRT p ts gs vs → FieldsRT p (t :: ts) (.ptr (goTypeOf t) :: gs) (.ptr v :: vs)
  /-- an interface{} field / element holding a goType(elem) value -/
  | iface {t ts gs v vs} : v.isNilPtr = false → RT p t (goTypeOf t) v → Small p t v →
      FieldsRT p ts gs vs → FieldsRT p (t :: ts) (.iface :: gs) (v :: vs)

theorem FieldsRT_length {p : Nat} {ts : List CqlTy} {gs : List GoTy} {vs : List GoVal} (h : FieldsRT p ts gs vs) :
    vs.length = ts.length ∧ gs.length = ts.length := by
  induction h <;> simp_all

theorem setSlot_val (t : CqlTy) (hb : isBase (goTypeOf t) = true) (item : Option Bytes) (v : GoVal) :
    C12Frame.setSlot t (goTypeOf t) item v = .ok v := by
  have hr : (goTypeOf t == goTypeOf t) = true := C12Frame.beqT_refl (goTypeOf t)
  unfold C12Frame.setSlot
  generalize hg : goTypeOf t = g at hb hr
  cases g <;> simp_all [isBase]

/-- one field of the two loops comes back: what marshalTuple writes for it is short enough for its length prefix, and
    `setField` makes the field's value of it again -/
def FieldBack (p : Nat) (t : CqlTy) (g : GoTy) (v : GoVal) : Prop :=
  ∀ item, (if v.isNilPtr then MRes.ok none else marshal p t v) = .ok item →
    (∀ b, item = some b → b.length < 2^31) ∧ C12Frame.setField p t g item = .ok v

theorem FieldsRT.cons_inv {p : Nat} {t : CqlTy} {ts : List CqlTy} {g : GoTy} {gs : List GoTy} {v : GoVal} {vs : List GoVal}
    (h : FieldsRT p (t :: ts) (g :: gs) (v :: vs)) : FieldBack p t g v ∧ FieldsRT p ts gs vs := by
  cases h with
  | val hb hnp hrt hsm hr =>
    refine ⟨fun item hv => ?_, hr⟩
    rw [hnp] at hv
    refine ⟨fun b hb' => hsm b (hb' ▸ hv), ?_⟩
    simp only [C12Frame.setField, unmarshal_eta, hrt item hv]
    exact setSlot_val t hb item v
  | null hn hr =>
    refine ⟨fun item hv => ?_, hr⟩
    cases hv
    obtain ⟨v0, h0⟩ := hn
    refine ⟨fun b hb' => (nomatch hb'), ?_⟩
    simp only [C12Frame.setField, unmarshal_eta, h0, C12Frame.setSlot_ptr]
    rfl
  | ptr hrt hnn hsm hr =>
    refine ⟨fun item hv => ?_, hr⟩
    have hv : marshal p t _ = .ok item := hv
    cases item with
    | none => exact absurd hv hnn
    | some b =>
      refine ⟨fun b' hb' => hsm b' (hb' ▸ hv), ?_⟩
      simp only [C12Frame.setField, unmarshal_eta, hrt _ hv, C12Frame.setSlot_ptr]
      rfl
  | iface hnp hrt hsm hr =>
    refine ⟨fun item hv => ?_, hr⟩
    rw [hnp] at hv
    refine ⟨fun b hb' => hsm b (hb' ▸ hv), ?_⟩
    simp only [C12Frame.setField, unmarshal_eta, hrt item hv]
    rfl

/-- marshalTuple's loop over struct fields against unmarshalTuple's loop -/
theorem fields_back (p : Nat) {ts : List CqlTy} {gs : List GoTy} {vs : List GoVal} (h : FieldsRT p ts gs vs) :
    ∀ (body rest : Bytes), marshalTupleFields p ts vs = .ok (some body) →
      unmarshalTupleSet p ts gs (body ++ rest) = .ok vs rest := by
  induction ts generalizing gs vs with
  | nil =>
    intro body rest hm
    cases h
    simp [marshalTupleFields] at hm
    subst hm
    simp [unmarshalTupleSet]
  | cons t ts ih =>
    intro body rest hm
    cases gs <;> cases vs <;> try (cases h; done)
    obtain ⟨hf, hr⟩ := h.cons_inv
    rw [C12Coll.marshalTupleFields_cons] at hm
    obtain ⟨item, _, rest', hv, he, hrest, rfl⟩ := C12Coll.consItem_some hm
    cases he
    obtain ⟨hsm, hset⟩ := hf item hv
    rw [C12Frame.unmarshalTupleSet_cons]
    simp only [List.append_assoc, C12Frame.appendBytes_length_ge, Bool.not_false, if_true,
      C12Frame.readBytesM_appendBytes item (rest' ++ rest) hsm, hset, ih hr rest' rest hrest]

/-- the common part of every tuple target: what unmarshalTuple's loop gives for the bytes marshalTuple's loop wrote -/
theorem tuple_set_back (p : Nat) (ts : List CqlTy) (gs : List GoTy) (vs : List GoVal) (h : FieldsRT p ts gs vs)
    (ob : Option Bytes) (hm : wrapTuple ts (marshalTupleFields p ts vs) = .ok ob) :
    unmarshalTupleSet p ts gs (dataBytes ob) = .ok vs [] := by
  simp only [wrapTuple] at hm
  by_cases hts : ts = []
  · subst hts
    cases h
    simp at hm
    subst hm
    simp [dataBytes, unmarshalTupleSet]
  · simp only [hts, if_false] at hm
    cases ob with
    | none => exact absurd hm (C12Coll.marshalTupleFields_ne_none p ts vs)
    | some body =>
      have := fields_back p h body [] hm
      simpa [dataBytes] using this

/-- tuple<T, …, T'> ↔ []G: every element type has goType G (or G = *goType …, uniformly) -/
theorem rt_tuple_slice (p : Nat) (ts : List CqlTy) (g : GoTy) (vs : List GoVal)
    (h : FieldsRT p ts (List.replicate ts.length g) vs) (hg : (g == GoTy.iface) = false) :
    RT p (.tuple ts) (.slice g) (.slice false vs) := by
  intro ob hm
  obtain ⟨hl1, _⟩ := FieldsRT_length h
  simp only [marshal, hl1, ne_eq, not_true_eq_false, if_false] at hm
  rw [unmarshal_base _ _ _ rfl]
  simp only [unmarshalBase, tuple_set_back p ts _ vs h ob hm, hg, Bool.false_eq_true, if_false]

theorem rt_tuple_array (p : Nat) (ts : List CqlTy) (g : GoTy) (vs : List GoVal)
    (h : FieldsRT p ts (List.replicate ts.length g) vs) :
    RT p (.tuple ts) (.array ts.length g) (.array vs) := by
  intro ob hm
  obtain ⟨hl1, _⟩ := FieldsRT_length h
  simp only [marshal, hl1, ne_eq, not_true_eq_false, if_false] at hm
  rw [unmarshal_base _ _ _ rfl]
  simp only [unmarshalBase, ne_eq, not_true_eq_false, if_false, tuple_set_back p ts _ vs h ob hm]

theorem ifaces_eq_fields (p : Nat) : ∀ (ts : List CqlTy) (vs : List GoVal),
    (∀ v, v ∈ vs → v.isNil = false ∧ v.isNilPtr = false) → marshalTupleIfaces p ts vs = marshalTupleFields p ts vs
  | [], _, _ => by simp [marshalTupleIfaces, marshalTupleFields]
  | _ :: _, [], _ => by simp [marshalTupleIfaces, marshalTupleFields]
  | t :: ts, v :: vs, h => by
    have hv := h v List.mem_cons_self
    have ih := ifaces_eq_fields p ts vs (fun w hw => h w (List.mem_cons_of_mem _ hw))
    rw [marshalTupleIfaces, marshalTupleFields, ih]
    simp [hv.1, hv.2]

/-- tuple ↔ []interface{} holding goType(elem) values (no nil element: a null would come back as a zero value) -/
theorem rt_tuple_ifaces (p : Nat) (ts : List CqlTy) (vs : List GoVal)
    (h : FieldsRT p ts (List.replicate ts.length .iface) vs) (hn : ∀ v, v ∈ vs → v.isNil = false ∧ v.isNilPtr = false) :
    RT p (.tuple ts) (.slice .iface) (.ifaces vs) := by
  intro ob hm
  obtain ⟨hl1, _⟩ := FieldsRT_length h
  simp only [marshal, hl1, ne_eq, not_true_eq_false, if_false, ifaces_eq_fields p ts vs hn] at hm
  rw [unmarshal_base _ _ _ rfl]
  have hi : (GoTy.iface == GoTy.iface) = true := rfl
  simp only [unmarshalBase, tuple_set_back p ts _ vs h ob hm, hi, if_true]

/-- one UDT field with the value the map holds for it -/
structure UField where
  name : String
  t : CqlTy
  v : GoVal

theorem enc1_of_mem : ∀ (fl : List UField) (k : Nat) (f : UField), (fl.map (·.name)).Nodup → f ∈ fl →
    ∃ i, lookupIdx f.name (fl.map (·.name)) k = some (k + i) ∧ (fl.map (·.t))[i]? = some f.t
  | [], _, _, _, h => by cases h
  | g :: r, k, f, hnd, hm => by
    simp only [List.map_cons, List.nodup_cons] at hnd
    rcases List.mem_cons.mp hm with rfl | hm
    · exact ⟨0, by simp [lookupIdx], by simp⟩
    · have hne : ¬ g.name = f.name := by
        intro he
        exact hnd.1 (by rw [he]; exact List.mem_map_of_mem hm)
      obtain ⟨i, h1, h2⟩ := enc1_of_mem r (k+1) f hnd.2 hm
      refine ⟨i + 1, ?_, by simpa using h2⟩
      simp only [List.map_cons, lookupIdx, if_neg hne, h1]
      congr 1; omega

/-- marshalUDT on a map[string]interface{} holding exactly the UDT's fields: the fields' encodings in order -/
theorem marshal_udtmap (p : Nat) (fl : List UField) (hnd : (fl.map (·.name)).Nodup) (hne : fl ≠ []) :
    marshal p (.udt (fl.map (·.name)) (fl.map (·.t))) (.udtmap false (fl.map (·.name)) (fl.map (·.v))) =
      seqItems (fun item => some (appendBytes item)) (fl.map (fun f => marshal p f.t f.v)) := by
  have hnames : fl.map (·.name) ≠ [] := by simpa using hne
  -- the map's entries as an association list, the form `udtAssemble_pick` speaks of
  have key := C02Hist.udtAssemble_pick (fl.map (·.name)) (C02Hist.enc1 p (fl.map (·.name)) (fl.map (·.t)))
    (fl.map (fun f => (f.name, f.v)))
  simp only [List.map_map, Function.comp_def, if_neg hnames] at key
  simp only [marshal]
  rw [C02Hist.marshalNamed_eq, key]
  congr 1
  apply List.map_congr_left
  intro f hf
  have hmem : (f.name, f.v) ∈ fl.map (fun f => (f.name, f.v)) := List.mem_map_of_mem hf
  rw [C02Hist.pick_of_mem _ f.name f.v _ (by simpa [List.map_map, Function.comp_def] using hnd) hmem]
  obtain ⟨i, h1, h2⟩ := enc1_of_mem fl 0 f hnd hf
  simp only [C02Hist.enc1, h1, Nat.zero_add, h2]

/-- marshalUDT's field loop against unmarshalUDT's loop into map[string]interface{} -/
theorem udtmap_back (p : Nat) : ∀ (fl : List UField) (body rest : Bytes),
    (∀ f, f ∈ fl → RT p f.t (goTypeOf f.t) f.v ∧ Small p f.t f.v) →
    seqItems (fun item => some (appendBytes item)) (fl.map (fun f => marshal p f.t f.v)) = .ok (some body) →
    unmarshalUdtMap p (fl.map (·.name)) (fl.map (·.t)) (body ++ rest) = .ok (fl.map (·.v)) rest
  | [], body, rest, _, h => by
    simp [seqItems] at h
    subst h
    simp [unmarshalUdtMap]
  | f :: fl, body, rest, hrt, h => by
    rw [List.map_cons, C12Coll.seqItems_cons] at h
    obtain ⟨item, _, rest', hm, he, hr, rfl⟩ := C12Coll.consItem_some h
    cases he
    have hf := hrt f List.mem_cons_self
    have hrd := C12Frame.readBytesM_appendBytes item (rest' ++ rest) (fun b hb => hf.2 b (hb ▸ hm))
    have hsh := C12Frame.appendBytes_length_ge item (rest' ++ rest)
    have hne : appendBytes item ++ (rest' ++ rest) ≠ [] := by
      intro h0
      rw [h0] at hsh
      simp [shorter] at hsh
    simp only [List.map_cons, unmarshalUdtMap, List.append_assoc, if_neg hne, hsh, Bool.false_eq_true,
      if_false, hrd, unmarshal_eta, hf.1 item hm,
      udtmap_back p fl rest' rest (fun g hg => hrt g (List.mem_cons_of_mem _ hg)) hr]

/-- UDT ↔ map[string]interface{} holding, for every field of the UDT (in any number, distinct names), a goType(field)
    value whose round trip holds: the map comes back with the same entries -/
theorem rt_udtmap (p : Nat) (fl : List UField) (hnd : (fl.map (·.name)).Nodup) (hne : fl ≠ [])
    (hrt : ∀ f, f ∈ fl → RT p f.t (goTypeOf f.t) f.v ∧ Small p f.t f.v) :
    RT p (.udt (fl.map (·.name)) (fl.map (·.t))) .udtmap (.udtmap false (fl.map (·.name)) (fl.map (·.v))) := by
  intro ob hm
  rw [marshal_udtmap p fl hnd hne] at hm
  rw [unmarshal_base _ _ _ rfl]
  cases ob with
  | none => exact absurd hm (C12Coll.seqItems_ne_none _ _)
  | some body =>
    have := udtmap_back p fl body [] hrt hm
    simp only [List.append_nil] at this
    simp only [unmarshalBase, this]
    rw [List.take_of_length_le (by simp)]

theorem nullOK_scalar (p : Nat) (t : CqlTy) (ht : CqlTy.isScalar t = true) : NullOK p t := by
  unfold NullOK
  cases t with
  | list _ | set _ | map _ _ | tuple _ | udt _ _ => cases ht
  | uuid | timeuuid =>
    -- the one scalar decoder that looks at the data: the empty value is the zero UUID
    simp only [goTypeOf]
    rw [unmarshal_base _ _ _ rfl, unmarshalBase_scalar _ _ _ _ rfl, us_uuid _ (by simp [isUuid])]
    exact ⟨_, rfl⟩
  | _ => exact ⟨_, rfl⟩

theorem nullOK_coll (p : Nat) (t : CqlTy) (ht : (∃ e, isListLike t e) ∨ (∃ k v, t = .map k v)) : NullOK p t := by
  unfold NullOK
  rcases ht with ⟨e, rfl | rfl⟩ | ⟨k, v, rfl⟩ <;> exact ⟨_, rfl⟩

/-! ## tuple fields as data (for the inductive `Clean` of Proofs/C02.lean) -/

inductive FKind | val | null | ptr | iface

/-- one struct field bound to a tuple element of type `t`: `val` = a field of type goType(t) holding `v`,
    `null` = a nil field of type *goType(t), `ptr` = a field of type *goType(t) pointing to `v` -/
structure TField where
  t : CqlTy
  kind : FKind
  v : GoVal

def TField.ty (f : TField) : GoTy := match f.kind with | .val => goTypeOf f.t | .iface => .iface | _ => .ptr (goTypeOf f.t)
def TField.val (f : TField) : GoVal := match f.kind with | .val => f.v | .null => .nilptr | .ptr => .ptr f.v | .iface => f.v

/-- the side conditions of a field that do not mention the round trip of its value -/
def TField.side (p : Nat) (f : TField) : Prop :=
  match f.kind with
  | .val => isBase (goTypeOf f.t) = true ∧ f.v.isNilPtr = false ∧ Small p f.t f.v
  | .null => NullOK p f.t
  | .ptr => NonNull p f.t f.v ∧ Small p f.t f.v
  | .iface => f.v.isNilPtr = false ∧ f.v.isNil = false ∧ Small p f.t f.v

theorem fieldsRT_of (p : Nat) : ∀ fs : List TField,
    (∀ f, f ∈ fs → f.kind ≠ .null → RT p f.t (goTypeOf f.t) f.v) → (∀ f, f ∈ fs → f.side p) →
    FieldsRT p (fs.map (·.t)) (fs.map (·.ty)) (fs.map (·.val))
  | [], _, _ => .nil
  | f :: fs, hrt, hs => by
    have ih := fieldsRT_of p fs (fun g hg => hrt g (List.mem_cons_of_mem _ hg)) (fun g hg => hs g (List.mem_cons_of_mem _ hg))
    have h1 := hrt f List.mem_cons_self
    have h2 := hs f List.mem_cons_self
    obtain ⟨t, kind, v⟩ := f
    cases kind <;> simp only [TField.side] at h2
    · exact .val h2.1 h2.2.1 (h1 (fun h => nomatch h)) h2.2.2 ih
    · exact .null h2 ih
    · exact .ptr (h1 (fun h => nomatch h)) h2.1 h2.2 ih
    · exact .iface h2.1 (h1 (fun h => nomatch h)) h2.2.2 ih

theorem map_ty_replicate (fs : List TField) (g : GoTy) (h : ∀ f, f ∈ fs → f.ty = g) :
    fs.map (·.ty) = List.replicate (fs.map (·.t)).length g := by
  rw [List.length_map]; exact List.map_eq_replicate_iff.mpr h

end C02Nested

namespace C02
open ValueSpec Marshal C12Bytes C02Scalar C02Nested

theorem fieldsRT_of_text (p : Nat) {ts : List CqlTy} {gs : List GoTy} {vs : List GoVal} (h : C12Frame.TextFields ts gs vs) :
    FieldsRT p ts gs vs := by
  have rt : ∀ s, RT p .text (.str false) (.str false s) := fun s => rt_scalar p _ _ _ rfl rfl rfl (srt_of s rfl rfl)
  induction h with
  | nil => exact .nil
  | null _ ih => exact .null (nullOK_scalar p .text rfl) ih
  | ptr s hs _ ih =>
    exact .ptr (t := .text) (rt s) (nonNull_of_some (marshal_text_str p false s)) (small_of_some (marshal_text_str p false s) hs) ih
  | str s hs _ ih => exact .val (t := .text) rfl rfl (rt s) (small_of_some (marshal_text_str p false s) hs) ih

theorem text_fields_ok (p : Nat) {ts : List CqlTy} {gs : List GoTy} {vs : List GoVal} (h : C12Frame.TextFields ts gs vs) :
    ∃ body, marshalTupleFields p ts vs = .ok (some body) := by
  induction h with
  | nil => exact ⟨[], by simp [marshalTupleFields]⟩
  | null _ ih => obtain ⟨b, hb⟩ := ih; exact ⟨appendBytes none ++ b, by simp [marshalTupleFields, GoVal.isNilPtr, hb]⟩
  | ptr s _ _ ih | str s _ _ ih =>
    obtain ⟨b, hb⟩ := ih
    exact ⟨appendBytes (some s) ++ b, by
      simp [marshalTupleFields, GoVal.isNilPtr, marshal, marshalScalar, marshalVarcharColumn, hb]⟩

end C02
