import Model.ConnSetup
import Proofs.C05Dispatch
/-!
# C05, connection set-up as a sequence of answers: lemmas

`Alive`: the set-up is not dead and, while the authentication loop runs with a nil challenger, the nil-challenger
row of the table has no crashing cell (`C05Dispatch.HSInv`). Every answer keeps it, for every table whose
handshake and UseKeyspace rows have no crashing cell. Then that the set-up ends (`Running`, `rank`, `drive_ends`,
`settled_cases`): a fact about the real table `dispatch`, whose default answers lower the rank.
-/
namespace C05ConnSetup
open ConnSetup Dispatch C05Dispatch

def Alive (tbl : Site → FrameKind → Outcome) : St → Prop
  | .hs h => HSInv tbl h
  | .dead _ => False
  | _ => True

theorem norm_alive (tbl : Site → FrameKind → Outcome) (useKs : Bool) (h : HS) (hi : HSInv tbl h) :
    Alive tbl (norm useKs h) := by
  cases h with
  | done b => cases b <;> cases useKs <;> simp [norm, Alive]
  | crashed x => exact hi.elim
  | _ => exact hi

theorem step_alive (tbl : Site → FrameKind → Outcome) (cfg : AuthCfg) (useKs : Bool)
    (h : HsRows tbl cfg) (hu : ∀ k, (tbl .useKeyspace k).isCrash = false)
    (s : St) (k : FrameKind) (hs : Alive tbl s) : Alive tbl (step tbl cfg useKs s k) := by
  cases s with
  | hs st => exact norm_alive tbl useKs _ (hsStep_inv tbl cfg h st k hs)
  | awaitUse => exact cell_cases (hu k) trivial trivial
  | up => exact hs
  | failed => exact hs
  | dead x => exact hs

/-- what every answer keeps, `drive` keeps: it only ever applies `step` -/
theorem drive_preserves (tbl : Site → FrameKind → Outcome) (cfg : AuthCfg) (useKs : Bool) (I : St → Prop)
    (hstep : ∀ s k, I s → I (step tbl cfg useKs s k)) (n : Nat) :
    ∀ (s : St) (fs : List FrameKind) (acc : List String), I s → I (drive tbl cfg useKs n s fs acc).1 := by
  induction n with
  | zero => intro s fs acc hs; exact hs
  | succ n ih =>
    intro s fs acc hs
    unfold drive
    cases hr : req s with
    | none => exact hs
    | some r =>
      cases fs with
      | nil => exact ih _ _ _ (hstep s _ hs)
      | cons k rest => exact ih _ _ _ (hstep s k hs)

theorem alive_not_dead (tbl : Site → FrameKind → Outcome) (s : St) (h : Alive tbl s) : s.isDead = false := by
  cases s <;> first | rfl | exact h.elim

/-- the states `norm` produces: the handshake machine is only ever inside `.hs` while it is running -/
def Running : St → Prop
  | .hs (.done _) => False
  | .hs (.crashed _) => False
  | _ => True

theorem norm_running (useKs : Bool) (h : HS) : Running (norm useKs h) := by
  cases h with
  | done b => cases b <;> cases useKs <;> simp [norm, Running]
  | _ => simp [norm, Running]

theorem step_running {tbl : Site → FrameKind → Outcome} (cfg : AuthCfg) (useKs : Bool) (s : St) (k : FrameKind)
    (h : Running s) : Running (step tbl cfg useKs s k) := by
  cases s with
  | hs h' => exact norm_running useKs _
  | awaitUse =>
    simp only [step]
    cases tbl .useKeyspace k <;> trivial
  | _ => exact h

theorem cell_options : dispatch .options .supported = .handled := by decide
theorem cell_startup : dispatch .startup .ready = .handled := by decide
theorem cell_auth (c : Bool) : dispatch (.authHandshake c) .authSuccess = .handled := by cases c <;> decide
theorem cell_use : dispatch .useKeyspace .resultKeyspace = .handled := by decide

/-- how many requests a set-up still has to make when the server answers each as a server does: OPTIONS, STARTUP,
    AUTH_RESPONSE, USE -/
def rank : St → Nat
  | .hs .awaitSupported => 4
  | .hs .awaitStartup => 3
  | .hs (.authLoop _ _) => 2
  | .awaitUse => 1
  | _ => 0

theorem rank_dflt (cfg : AuthCfg) (useKs : Bool) (s : St) :
    req s = none ∨ rank (step dispatch cfg useKs s (dflt s)) < rank s := by
  cases s with
  | hs h' =>
    cases h' with
    | awaitSupported => simp [dflt, step, hsStep, norm, cell_options, rank]
    | awaitStartup => cases useKs <;> simp [dflt, step, hsStep, norm, cell_startup, rank]
    | authLoop n c => cases useKs <;> simp [dflt, step, hsStep, norm, cell_auth, rank]
    | _ => exact .inl rfl
  | awaitUse => simp [dflt, step, cell_use, rank]
  | _ => exact .inl rfl

theorem drive_dflt_ends (cfg : AuthCfg) (useKs : Bool) : ∀ (n : Nat) (s : St) (acc : List String),
    Running s → rank s ≤ n → req (drive dispatch cfg useKs n s [] acc).1 = none
  | 0, s, _, _, hn => (rank_dflt cfg useKs s).resolve_right (by omega)
  | n + 1, s, acc, h, hn => by
    rw [drive]
    cases hr : req s with
    | none => exact hr
    | some r =>
      have := (rank_dflt cfg useKs s).resolve_left (by simp [hr])
      exact drive_dflt_ends cfg useKs n _ _ (step_running cfg useKs s _ h) (by omega)

theorem drive_ends (cfg : AuthCfg) (useKs : Bool) (fs : List FrameKind) : ∀ (s : St) (acc : List String),
    Running s → req (drive dispatch cfg useKs (fs.length + 4) s fs acc).1 = none := by
  induction fs with
  | nil => exact fun s acc h => drive_dflt_ends cfg useKs 4 s acc h (by unfold rank; split <;> omega)
  | cons k rest ih =>
    intro s acc h
    rw [show (k :: rest).length + 4 = (rest.length + 4) + 1 from rfl, drive]
    cases hr : req s with
    | none => exact hr
    | some r => exact ih _ _ (step_running cfg useKs s k h)

theorem settled_cases (s : St) (h : Running s) (hr : req s = none) (hd : s.isDead = false) : s = .up ∨ s = .failed := by
  cases s with
  | hs h' => cases h' <;> first | exact h.elim | simp [req] at hr
  | awaitUse => simp [req] at hr
  | up => exact Or.inl rfl
  | failed => exact Or.inr rfl
  | dead x => cases hd

end C05ConnSetup
