import Model.Policies
import Proofs.C11Cow
/-! Several `Pick` iterators alive at once: the schedules (`IOp`, `istep`) and what `C11_iterators_independent` says of a
live iterator (`IterOk`). The invariant behind it is `Slot` in Proofs/C11Slot.lean. -/
namespace C11
open Policies

def _root_.Policies.TA.withCtr (t : TA) (c : Nat) : TA := { t with pol := { t.pol with ctr := c } }

/-- a live iterator with what its `Pick` was asked -/
structure GSlot where
  it : Iter
  σ : List Host → List Host
  rk : Option (Nat × Nat)

inductive IOp
  | openI (k : Nat) (σ : List Host → List Host) (rk : Option (Nat × Nat))   -- slot k := Pick(query)
  | nextI (k : Nat)                                                          -- one call of the iterator in slot k
  | pick (σ : List Host → List Host) (rk : Option (Nat × Nat)) (limit : Nat) -- somebody else's Pick + `limit` calls

def istep (up : Nat → Bool) (st : TA × (Nat → Option GSlot)) : IOp → TA × (Nat → Option GSlot)
  | .openI k σ rk =>
    let r := st.1.openIter up σ rk
    (r.1, fun j => if j = k then some ⟨r.2, σ, rk⟩ else st.2 j)
  | .nextI k =>
    match st.2 k with
    | none => st
    | some g =>
      let r := st.1.nextIter up g.it
      (r.1, fun j => if j = k then some { g with it := r.2.1 } else st.2 j)
  | .pick σ rk limit => ((st.1.pick up σ rk limit).1, st.2)

/-- what a call returns when `s` is what the iterator will still offer: its head, or nil / the panic at its end -/
def expectedNext (s : Scan) : Next :=
  match s.offered with
  | x :: _ => .host x
  | [] => if s.crashed then .panic else .done

/-- what an iterator has offered and will offer is the sequence of a LONE `Pick` + drain in policy state `t`:
either its fallback iterator exists and `given ++ to come` is that sequence (`t` = the state when it was created),
or it is still in its replica phases, which do not depend on the counter -/
def IterOk (up : Nat → Bool) (t0 : TA) (g : GSlot) : Prop :=
  (∃ c sc, g.it.fb = some sc ∧ g.it.head = [] ∧
      g.it.given ++ sc.offered = ((t0.withCtr c).pickScan up g.σ g.rk).offered ∧
      sc.crashed = ((t0.withCtr c).pickScan up g.σ g.rk).crashed) ∨
  (g.it.fb = none ∧ ∃ ks tok l ft, g.rk = some (ks, tok) ∧ t0.replicasFor ks tok = .hosts l ft ∧
      g.it.used = taHead t0.pol.tier t0.pol.maxTier up t0.nonlocal (if ft && t0.shuffle then g.σ l else l) ∧
      g.it.given ++ g.it.head = g.it.used)

theorem withCtr_bump (t0 : TA) (c : Nat) :
    { (t0.withCtr c) with pol := (t0.withCtr c).pol.bump } = t0.withCtr ((c + 1) % 18446744073709551616) := rfl

theorem withCtr_replicasFor (t0 : TA) (c ks tok : Nat) : (t0.withCtr c).replicasFor ks tok = t0.replicasFor ks tok := rfl

/-- a schedule step touches the iterator of one slot at most: a property of live iterators that `Pick` establishes and
one call of the iterator keeps (both in the policy state of the step) holds of every live iterator after the step -/
theorem istep_slots (up : Nat → Bool) (P : GSlot → Prop) (st : TA × (Nat → Option GSlot)) (o : IOp)
    (hopen : ∀ σ rk, P ⟨(st.1.openIter up σ rk).2, σ, rk⟩)
    (hnext : ∀ g, P g → P { g with it := (st.1.nextIter up g.it).2.1 })
    (hs : ∀ k g, st.2 k = some g → P g) : ∀ j g, (istep up st o).2 j = some g → P g := by
  intro j g
  fun_cases istep up st o <;> intro hj <;> try simp only at hj
  · split at hj
    · cases hj; exact hopen _ _
    · exact hs j g hj
  · exact hs j g hj
  · rename_i k g0 hk r
    split at hj
    · cases hj; exact hnext g0 (hs k g0 hk)
    · exact hs j g hj
  · exact hs j g hj

end C11
