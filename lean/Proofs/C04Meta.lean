/- Result / prepared metadata is read back, for the three shapes of column specifications -/
import Proofs.C04Types
namespace C04
open FrameRead RespSpec

theorem colExtra_view (t : TypeDesc) : colExtra (viewType t) = (destWidth t : Int) - 1 := by
  cases t <;> simp [viewType, colExtra, destWidth, viewTypes_length]

theorem readCol_global (ks tb name : FrameRead.Bytes) (t : TypeDesc) (r : FrameRead.Bytes)
    (h : fitsShort name = true ∧ wfType t = true) :
    readCol true ks tb (eString name ++ eType t ++ r)
      = .ok ({ keyspace := ks, table := tb, name := name, typ := viewType t }, r) := by
  simp only [readCol, Bool.not_true, Bool.false_eq_true, if_false, List.append_assoc, bind_eval, andThen_ok, pure_apply,
    readString_eString, readTypeInfo_ok, h]

theorem readCol_perCol (c : ColSpec) (r : FrameRead.Bytes) (k t : FrameRead.Bytes)
    (h : fitsShort c.ks = true ∧ fitsShort c.table = true ∧ fitsShort c.name = true ∧ wfType c.typ = true) :
    readCol false k t (eString c.ks ++ (eString c.table ++ (eString c.name ++ eType c.typ)) ++ r)
      = .ok ({ keyspace := c.ks, table := c.table, name := c.name, typ := viewType c.typ }, r) := by
  simp only [readCol, Bool.not_false, if_true, List.append_assoc, bind_eval, andThen_ok, pure_apply,
    readString_eString, readTypeInfo_ok, h]

theorem hasFlag_flagBits (m : Meta) :
    hasFlag (m.flagBits : Int) flagHasMorePages = m.paging.isSome ∧
    hasFlag (m.flagBits : Int) flagNoMetaData = (match m.cols with | .omitted _ _ => true | _ => false) ∧
    hasFlag (m.flagBits : Int) flagGlobalTableSpec =
      (match m.cols with | .omitted _ g => g | .global _ _ _ => true | .perCol _ => false) := by
  obtain ⟨paging, cols⟩ := m
  -- the flag bits are a closed number once the paging state is there or not and the shape of `cols` is known
  cases paging <;> cases cols with
  | omitted n g =>
    cases g <;> simp [Meta.flagBits, Cols.flagBits, hasFlag, flagHasMorePages, flagNoMetaData, flagGlobalTableSpec]
  | _ => simp [Meta.flagBits, Cols.flagBits, hasFlag, flagHasMorePages, flagNoMetaData, flagGlobalTableSpec]

theorem noMeta_flag (m : Meta) :
    hasFlag (viewMeta m).flags flagNoMetaData = (match m.cols with | .omitted _ _ => true | _ => false) :=
  (hasFlag_flagBits m).2.1

theorem readPagingState_ok (p r : FrameRead.Bytes) (h : fitsInt p = true) :
    readPagingState (eBytes (some p) ++ r) = .ok (p, r) := by
  unfold readPagingState
  rw [bind_ok (readBytes_eBytes (some p) r (by simpa [optFitsInt] using h))]
  rfl

theorem wfCols_global {ks tb : FrameRead.Bytes} {cs : List (FrameRead.Bytes × TypeDesc)} :
    wfCols (.global ks tb cs) = true ↔ fitsShort ks = true ∧ fitsShort tb = true ∧ cs.length < 2147483648 ∧
      ∀ c ∈ cs, fitsShort c.1 = true ∧ wfType c.2 = true := by
  simp [wfCols, and_assoc]

theorem wfCols_perCol {cs : List ColSpec} :
    wfCols (.perCol cs) = true ↔ cs.length < 2147483648 ∧
      ∀ c ∈ cs, fitsShort c.ks = true ∧ fitsShort c.table = true ∧ fitsShort c.name = true ∧ wfType c.typ = true := by
  simp [wfCols, and_assoc]

theorem readMetaTail_ok (m : Meta) (r : FrameRead.Bytes) (hw : wfMeta m = true) :
    readMetaTail (m.flagBits : Int) (m.cols.count : Int) (ePaging m.paging ++ eColsBody m.cols ++ r)
      = .ok ((viewMeta m, (globalOf m.cols).1, (globalOf m.cols).2), r) := by
  obtain ⟨hf1, hf2, hf3⟩ := hasFlag_flagBits m
  obtain ⟨paging, cols⟩ := m
  obtain ⟨hpg, hwc⟩ : optFitsInt paging = true ∧ wfCols cols = true := by simpa [wfMeta] using hw
  unfold readMetaTail
  simp only [hf1, hf2, hf3]
  rw [List.append_assoc, bind_ok (optional_ok readPagingState ePaging paging _ rfl fun p h =>
    readPagingState_ok p _ (by subst h; simpa [optFitsInt] using hpg))]
  cases cols with
  | omitted n g => rfl
  | global ks tb cs =>
    obtain ⟨hk, ht, _, hall⟩ := wfCols_global.mp hwc
    have hcs := readN_flatMap (readCol true ks tb) (fun c : FrameRead.Bytes × TypeDesc => eString c.1 ++ eType c.2)
      (fun c => ({ keyspace := ks, table := tb, name := c.1, typ := viewType c.2 } : ColumnInfo)) cs
      (fun c hcm r' => readCol_global ks tb c.1 c.2 r' (hall c hcm))
    simp only [Bool.false_eq_true, if_false, if_true, eColsBody, List.append_assoc, Cols.count, Int.toNat_natCast,
      bind_eval, andThen_ok, pure_apply, readString_eString, hk, ht, hcs, viewMeta, viewCols, globalOf, actualCount,
      colTypes, List.map_map, Function.comp_def, colExtra_view]
  | perCol cs =>
    obtain ⟨_, hall⟩ := wfCols_perCol.mp hwc
    have hcs := readN_flatMap (readCol false [] [])
      (fun c : ColSpec => eString c.ks ++ (eString c.table ++ (eString c.name ++ eType c.typ)))
      (fun c => ({ keyspace := c.ks, table := c.table, name := c.name, typ := viewType c.typ } : ColumnInfo)) cs
      (fun c hcm r' => readCol_perCol c r' [] [] (hall c hcm))
    simp only [Bool.false_eq_true, if_false, eColsBody, Cols.count, Int.toNat_natCast, bind_eval, andThen_ok, pure_apply,
      hcs, viewMeta, viewCols, globalOf, actualCount, colTypes, List.map_map, Function.comp_def, colExtra_view]

theorem flagBits_lt (m : Meta) : m.flagBits < 8 := by
  obtain ⟨paging, cols⟩ := m
  cases paging <;> cases cols <;> simp [Meta.flagBits, Cols.flagBits] <;> split <;> omega

theorem count_lt (m : Meta) (hw : wfMeta m = true) : m.cols.count < 2147483648 := by
  obtain ⟨paging, cols⟩ := m
  have h2 : optFitsInt paging = true ∧ wfCols cols = true := by simpa [wfMeta] using hw
  have := h2.2
  cases cols <;> simp [wfCols] at this <;> simp [Cols.count] <;> omega

theorem parseResultMetadata_ok (m : Meta) (r : FrameRead.Bytes) (hw : wfMeta m = true) :
    parseResultMetadata (eMeta m ++ r) = .ok (viewMeta m, r) := by
  have hf : m.flagBits < 2147483648 := Nat.lt_trans (flagBits_lt m) (by decide)
  have h := readMetaTail_ok m r hw
  simp only [List.append_assoc] at h
  simp only [parseResultMetadata, eMeta, List.append_assoc, bind_eval, andThen_ok, pure_apply, readInt_eInt_nat, hf,
    count_lt m hw, Int.not_lt.mpr (Int.natCast_nonneg _), if_false, h]

theorem parsePreparedMetadata_ok (v : Nat) (pk : List Nat) (m : Meta) (r : FrameRead.Bytes)
    (hw : wfMeta m = true)
    (hpk : pk.length < 2147483648) (hpks : pk.all isShort = true) :
    parsePreparedMetadata v (ePreparedMeta v pk m ++ r) = .ok (viewPrepared v pk m, r) := by
  have hf : m.flagBits < 2147483648 := Nat.lt_trans (flagBits_lt m) (by decide)
  have h := readMetaTail_ok m r hw
  simp only [List.append_assoc] at h
  have hpklen : ∀ T : FrameRead.Bytes, checkPkeyCount (pk.length : Int) (pk.flatMap eShort ++ T) = .ok ((), pk.flatMap eShort ++ T) := by
    intro T
    have : 2 * pk.length ≤ (pk.flatMap eShort).length := by
      clear hpk hpks
      induction pk with
      | nil => simp
      | cons x xs ih => simp [List.flatMap_cons, eShort] at *; omega
    unfold checkPkeyCount
    rw [if_neg (by omega), if_neg (by simp only [Int.toNat_natCast, List.length_append]; omega)]
  have hrd := readN_flatMap_id readShort eShort pk
      (fun x hx r' => readShort_eShort x r' (by simpa [isShort] using List.all_eq_true.mp hpks x hx))
  by_cases hv : v ≥ 4 <;>
  simp only [parsePreparedMetadata, ePreparedMeta, hv, if_true, if_false, List.append_assoc, List.nil_append, bind_eval,
    andThen_ok, pure_apply, readInt_eInt_nat, hf, hpk, count_lt m hw, Int.not_lt.mpr (Int.natCast_nonneg _),
    Int.toNat_natCast, hpklen, hrd, h, viewPrepared]

end C04
