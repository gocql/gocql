import Proofs.C17Pipe
import Proofs.C17Deb
import Proofs.C17Reg
import Proofs.C06
import Proofs.C17Ctl
import Proofs.C17EvDeb
import Proofs.C17Retry
import Proofs.C17Pool
import Proofs.C17Hs
/-!
# C17 — pools stay within bounds; a session always closes (property theorems)

Models: `Model/Pool.lean` (host pool, refreshDebouncer, pool registry `Reg`), `Model/Pipe.lean` (connect pipeline, handshake
results `Hs`), `Model/PoolLock.lean` (pool.mu), `Model/PoolCtl.lean` (control connection `Ctl`, retry loop `Retry`, event
debouncer `EvStop`). Data-race freedom and "goroutines exit within a bounded time" are runtime
facts outside this model (the harness runs under the race detector in the thorough tier and watches
every Close with a watchdog — supporting evidence).
-/
namespace C17

section HostPool
open Pool

/-- **pool bound**: whatever the interleaving of fill triggers, dial successes/failures (including late
    ones), error callbacks and Close, the pool never holds more than the configured number of connections -/
theorem C17_pool_bound (n : Nat) (as : List Act) (s : St) (h : run (init n) as = some s) : s.conns ≤ n := by
  have inv := inv_run as _ s (inv_init n) h
  have hs := size_const as _ s h
  have := inv.bound
  simp [init] at hs
  omega

/-- at most one filler: `fillStart` carries the guard `!filling` (fill()'s check; read back from the model) -/
theorem C17_single_filler (s : St) (h : s.filling = true) : step s .fillStart = none := by
  simp [step, h]

/-- a connection reported closed is removed, and a refill can start (unless a filler is already running:
    that filler only adds what it computed when it started, see `C17_pool_bound`) -/
theorem C17_error_removes_and_refills (s : St) (h0 : s.closed = false) (h1 : s.conns > 0) (h2 : s.filling = false)
    (h3 : s.conns ≤ s.size) :
    ∃ s1 s2, step s .connError = some s1 ∧ s1.conns = s.conns - 1 ∧ step s1 .fillStart = some s2 ∧
      s2.pending = s.size - (s.conns - 1) := by
  refine ⟨{ s with conns := s.conns - 1, opened := s.opened - 1 },
          { s with conns := s.conns - 1, opened := s.opened - 1, filling := true, pending := s.size - (s.conns - 1) }, ?_, rfl, ?_, rfl⟩
  · simp [step, h0, h1]
  · have : s.conns - 1 < s.size := by omega
    simp [step, h0, h2, this]

/-- no connection is left open after the pool is closed — also not by a dial that finishes later -/
theorem C17_no_conn_after_close (n : Nat) (as : List Act) (s : St) (h : run (init n) as = some s)
    (hc : s.closed = true) : s.opened = 0 := by
  have inv := inv_run as _ s (inv_init n) h
  rw [inv.opened]; exact inv.closedEmpty hc

theorem C17_close_idempotent (s : St) (hc : s.closed = true) : step s .close = some s := by
  simp [step, hc]

example : ∃ s, run (init 2) [.fillStart, .dialOk, .dialFail, .fillStop, .fillStart, .connError, .dialOk, .fillStop,
    .fillStart, .close, .dialOk] = some s ∧ s.conns = 0 ∧ s.opened = 0 ∧ s.closed = true := by
  refine ⟨_, rfl, ?_, ?_, ?_⟩ <;> decide

/-! ### debouncer stop (repaired protocol) -/

/-- stop() is modelled as one total step (it has no blocking operation): it completes in any state -/
theorem C17_debouncer_stop_returns (d : Deb) : ∃ d', dstep d .stop = some d' ∧ d'.stopDone = true := by
  unfold dstep
  by_cases h : d.stopDone = true
  · exact ⟨d, by simp [h], h⟩
  · exact ⟨{ d with stopped := true, quitClosed := true, stopDone := true }, by simp [h], rfl⟩

def measure (d : Deb) : Nat :=
  match d.f with
  | .refreshing => 3 | .select => 2 | .woken => 1 | .exited => 0

/-- after stop the flusher always has an enabled step of its own that brings it strictly closer to having exited and
    keeps `stopped ∧ quitClosed` (every action keeps them: `C17_stop_flags_stable`) — so the background goroutine ends,
    given that refreshFn returns -/
theorem C17_flusher_exits (d : Deb) (hs : d.stopped = true) (hq : d.quitClosed = true) (hf : d.f ≠ .exited) :
    ∃ a d', (a = .wake ∨ a = .lock ∨ a = .refreshDone) ∧ dstep d a = some d' ∧ measure d' < measure d ∧
      d'.stopped = true ∧ d'.quitClosed = true := by
  cases hfc : d.f with
  | exited => exact absurd hfc hf
  | select => exact ⟨.wake, { d with f := .woken }, by simp, by simp [dstep, hfc, hq], by simp [measure, hfc], hs, hq⟩
  | woken =>
    exact ⟨.lock, { d with f := .exited, timerArmed := false }, by simp, by simp [dstep, hfc, hs], by simp [measure, hfc],
      hs, hq⟩
  | refreshing => exact ⟨.refreshDone, { d with f := .select }, by simp, by simp [dstep, hfc], by simp [measure, hfc], hs, hq⟩

theorem C17_stop_flags_stable (d d' : Deb) (a : DAct) (hs : d.stopped = true) (hq : d.quitClosed = true)
    (h : dstep d a = some d') : d'.stopped = true ∧ d'.quitClosed = true := by
  revert h; fun_cases dstep d a <;> intro h <;> cases h <;> simp_all

/-- What failed before the fix commit (kept as a theorem about the OLD protocol; the harness re-checks the
    real code with 3000 rounds of refreshNow ∥ stop on every run): the flusher, woken by refreshNow, sees
    `stopped` and exits; the unbuffered send in stop() can then never complete. -/
theorem C17_old_protocol_deadlock :
    ∃ d, orun ODeb.init [.refreshNow, .wake, .stopSet, .lock] = some d ∧ d.stopped = true ∧ d.stopDone = false ∧
      d.f = .exited ∧ ∀ a, (ostep d a = none ∨ ∃ d', ostep d a = some d' ∧ d'.stopDone = false ∧ d'.f = .exited ∧ d'.stopped = true) := by
  refine ⟨_, rfl, by decide, by decide, by decide, ?_⟩
  intro a
  cases a <;> simp [ostep, ODeb.init]

end HostPool

section Pipeline
open Pipe C17Pipe
/-! ### the connect pipeline at the granularity of its round trips (Model/Pipe.lean)

Schedules = arbitrary lists of: an attempt's current step is answered / fails (dial, OPTIONS, STARTUP, each
AUTH_RESPONSE round, USE), a filler stops, a pool connection breaks, Pick, any number of fill() calls passing
their read-locked check before one of them takes the write lock, the host is removed, added again
(a new pool object while attempts of the old one are in flight), the pool is closed, Session.Close. -/

/-- **pool bound** over the finer pipeline: whatever the schedule, no pool object (registered or not) ever
    holds more than NumConns connections — connections plus connects in flight plus connects still to be
    started stay within the size -/
theorem C17_pipe_pool_bound (c : Cfg) (hpos : 0 < c.size) (as : List Act) (h : Host)
    (hr : (Host.init c).run as = some h) :
    ∀ p ∈ h.pools, p.conns.length + p.att.length + p.rest ≤ c.size := by
  exact fun p hp => ((hinv_run as _ h (hinv_init c hpos) hr).pinv hp).bound

/-- `C17_no_conn_after_close` restated over the finer pipeline: in every reachable state a closed pool holds no
    connection, every pool that is no longer registered is closed, and the only sockets still attributable to a
    closed pool are those of connects that have not returned yet (one each, none for a connect still dialling) -/
theorem C17_pipe_no_conn_after_close (c : Cfg) (hpos : 0 < c.size) (as : List Act) (h : Host)
    (hr : (Host.init c).run as = some h) :
    (∀ p ∈ h.old, p.closed = true) ∧
    (∀ p ∈ h.pools, p.closed = true → p.conns = [] ∧ p.opened = sockSum p.att) := by
  have hi := hinv_run as _ h (hinv_init c hpos) hr
  exact ⟨fun p hp => (hi.old p hp).2, fun p hp => (hi.pinv hp).closed⟩

/-- a connection that completes (its last step — the USE reply when a keyspace is configured — is answered) after
    its pool was closed is closed and never appended: in every reachable state, for every closed pool and every
    connect of it waiting for its last answer, answering leaves the pool empty and takes one socket away -/
theorem C17_pipe_late_completion_closed (c : Cfg) (hpos : 0 < c.size) (as : List Act) (h : Host)
    (hr : (Host.init c).run as = some h) (p : Pool) (hp : p ∈ h.pools) (hcl : p.closed = true)
    (k : Nat) (a : Att) (l : List Att) (ht : takeAtt p.att k = some (a, l)) (hlast : next h.cfg a.stage = none)
    (p' : Pool) (m : Nat) (hok : Pool.ok h.cfg p k h.nextId = some (p', m)) :
    p'.conns = [] ∧ p'.closed = true ∧ p'.opened + 1 = p.opened := by
  have hi := hinv_run as _ h (hinv_init c hpos) hr
  have ⟨h0, hg⟩ := (hi.pinv hp).closed hcl
  have ⟨_, ts⟩ := takeAtt_spec _ _ _ _ ht
  have hsock := sock_of_last hlast
  unfold Pool.ok at hok
  simp only [ht, hlast, hcl, if_true] at hok
  split at hok <;>
    (injection hok with hok; injection hok with hok _; subst hok
     exact ⟨h0, rfl, by simp at hg ⊢; omega⟩)

/-- **Session.Close leaves nothing** (FULL: every schedule before, around and after the Close — addHost, removal, Pick,
    connects completing or failing anywhere, also between Session.Close's policyConnPool.Close() and its s.cancel()):
    after Session.Close, once every connect in flight has returned, no socket is open, no pool holds a connection and
    no pool is registered.  (Before the fix commit for KF-C17-3 an addHost inside Session.Close registered and filled a
    pool nobody closed: `C17_old_addhost_in_close_window_leaks`.) -/
theorem C17_pipe_session_close_leaves_nothing (c : Cfg) (hpos : 0 < c.size) (as : List Act) (h : Host)
    (hr : (Host.init c).run as = some h) (hsc : h.sessClosed = true)
    (hq : ∀ p ∈ h.pools, p.att = []) :
    h.opened = 0 ∧ h.closedConns = 0 ∧ h.cur = none := by
  have hi := hinv_run as _ h (hinv_init c hpos) hr
  have hall : ∀ p ∈ h.pools, p.conns = [] ∧ p.opened = 0 := by
    intro p hp
    have ⟨inv, hcl⟩ := hi.closed_of_sess hsc hp
    have ⟨h0, hg⟩ := inv.closed hcl
    exact ⟨h0, by rw [hg, hq p hp]; rfl⟩
  have zero {f : Pool → Nat} (hz : ∀ p ∈ h.pools, f p = 0) : (h.pools.map f).sum = 0 :=
    List.sum_eq_zero_iff_forall_eq_nat.mpr (List.forall_mem_map.mpr hz)
  exact ⟨zero fun p hp => (hall p hp).2, zero fun p hp => by simp [(hall p hp).1], hi.sess hsc⟩

/-- from policyConnPool.Close() on — in EVERY reachable state, connects still in flight or not — no pool is registered
    for the host and every pool object that exists is closed: nothing can be appended to any pool any more
    (`C17_pipe_late_completion_closed`), whatever addHost / Pick / removal callers still arrive -/
theorem C17_pipe_closed_session_registers_nothing (c : Cfg) (hpos : 0 < c.size) (as : List Act) (h : Host)
    (hr : (Host.init c).run as = some h) (hsc : h.sessClosed = true) :
    h.cur = none ∧ ∀ p ∈ h.pools, p.closed = true ∧ p.conns = [] := by
  have hi := hinv_run as _ h (hinv_init c hpos) hr
  exact ⟨hi.sess hsc, fun p hp => have ⟨inv, hcl⟩ := hi.closed_of_sess hsc hp; ⟨hcl, inv.closedEmpty hcl⟩⟩

/-- regression (the code BEFORE the fix commit for KF-C17-3, `Host.stepOld`: addHost does not look at `closed`): size 2;
    the pool is full; Session.Close closes the pools; an addHost arrives before the session context is cancelled: a new
    pool is registered and filled (attempts 3 and 4 complete); the context is cancelled — Session.Close has returned,
    every connect has returned, and two connections are open in a pool that nothing will close -/
theorem C17_old_addhost_in_close_window_leaks :
    ∃ h, (Pipe.Host.init ⟨2, false, 0⟩).runOld
      [.ok 2, .ok 2, .ok 2, .stop, .sclose, .up, .ok 3, .ok 3, .ok 3, .ok 4, .ok 4, .ok 4, .stop, .scancel] = some h ∧
      h.sessClosed = true ∧ h.cancelled = true ∧ (∀ p ∈ h.pools, p.att = []) ∧
      h.opened = 2 ∧ h.cur.map (·.conns) = some [3, 4] ∧ h.cur.map (·.closed) = some false := by
  refine ⟨_, rfl, ?_, ?_, ?_, ?_, ?_, ?_⟩ <;> decide

/-- the code that exists on the same events: the addHost inside Session.Close does nothing (no connect 3 ever starts,
    `.ok 3` is not enabled), nothing is registered, nothing is open -/
example : ∃ h, (Pipe.Host.init ⟨2, false, 0⟩).run [.ok 2, .ok 2, .ok 2, .stop, .sclose, .up, .scancel, .up] = some h ∧
    h.cur = none ∧ h.opened = 0 ∧ h.step (.ok 3) = none := by
  refine ⟨_, rfl, ?_, ?_, ?_⟩ <;> decide

/-- non-vacuity, and the schedule of the seeded change: size 2, keyspace configured; the second connection is
    dialled, gets SUPPORTED and READY and waits for the USE reply; the host is removed; the reply arrives -/
example : ∃ h, (Pipe.Host.init ⟨2, true, 0⟩).run [.ok 2, .ok 2, .ok 2, .down, .ok 2, .stop] = some h ∧
    h.opened = 0 ∧ h.closedConns = 0 := by
  refine ⟨_, rfl, ?_, ?_⟩ <;> decide

/-- What the check is there to catch (the family "the closed-check is made before the last round trip and the
    append does not look again"): on the same schedule that variant ends with a closed pool holding a connection
    that nothing will ever close. -/
theorem C17_pipe_early_check_leaks :
    ∃ h, (Pipe.Host.init ⟨2, true, 0⟩).runEarly [.ok 2, .ok 2, .ok 2, .down, .ok 2, .stop, .sclose] = some h ∧
      h.sessClosed = true ∧ (∀ p ∈ h.pools, p.att = []) ∧ h.opened = 1 ∧ h.closedConns = 1 := by
  refine ⟨_, rfl, ?_, ?_, ?_, ?_⟩ <;> decide

/-- several fill() calls at once on a short idle pool (the second connect was refused, the filler stopped): both
    pass the read-locked check; under the write lock the second one finds `filling` set and returns -/
example : ∃ h, (Pipe.Host.init ⟨2, false, 0⟩).run
    [.fail 2, .stop, .fillCheck, .fillCheck, .fillGo, .fillGo, .ok 3, .ok 3, .ok 3, .stop] = some h ∧
    h.cur.map (·.conns) = some [1, 3] ∧ h.opened = 2 := by
  refine ⟨_, rfl, ?_, ?_⟩ <;> decide

/-- What the check is there to catch (the family "fill's second check, under the write lock, forgets `filling`"):
    the same schedule gives two fillers and a pool above its size. -/
theorem C17_pipe_fill_without_recheck_overfills :
    ∃ h, (Pipe.Host.init ⟨2, false, 0⟩).runNoRecheck
      [.fail 2, .stop, .fillCheck, .fillCheck, .fillGo, .fillGo, .ok 3, .ok 3, .ok 3, .ok 4, .ok 4, .ok 4] = some h ∧
      h.cur.map (·.conns) = some [1, 3, 4] ∧ h.cfg.size = 2 := by
  refine ⟨_, rfl, ?_, ?_⟩ <;> decide

end Pipeline

section Handshake
open Hs HsProofs
/-! ### startupCoordinator.setupConn: the handshake-result protocol (Model/Pipe.lean, namespace Hs) -/

/-- **no reporter blocks forever on its send** (the code that exists: unbuffered channel, each send in a select
    with ctx.Done()): in every state reachable under any schedule — deadline or parent cancellation at any point,
    either reporter first, the consumer leaving through ctx.Done() or not — a reporter standing at its
    `startupErr <- err` completes it within two steps of the protocol's own participants (the consumer's deferred
    cancel(), then the ctx.Done() branch; or the rendezvous), no outside event needed -/
theorem C17_hs_send_never_blocks (as : List Act) (s : St) (hr : run St.init as = some s) :
    (s.r = .send → ∃ bs s', bs.length ≤ 2 ∧ (∀ b ∈ bs, b = .rSend ∨ b = .rEsc ∨ b = .cRet) ∧ run s bs = some s' ∧ s'.r = .done) ∧
    (s.w = .send → ∃ bs s', bs.length ≤ 2 ∧ (∀ b ∈ bs, b = .wSend ∨ b = .wEsc ∨ b = .cRet) ∧ run s bs = some s' ∧ s'.w = .done) := by
  have inv := HsProofs.inv_run as _ s HsProofs.inv_init hr
  constructor
  · intro hsend
    cases hc : s.c with
    | wait => exact ⟨[.rSend], _, by simp, by simp, by (simp [run, step, hsend, hc]; rfl), by rfl⟩
    | got => exact ⟨[.cRet, .rEsc], _, by simp, by simp, by (simp [run, step, hsend, hc]; rfl), by rfl⟩
    | left | ret => exact ⟨[.rEsc], _, by simp, by simp, by (simp [run, step, hsend, inv.left, inv.ret, hc]; rfl), by rfl⟩
  · intro hsend
    cases hc : s.c with
    | wait => exact ⟨[.wSend], _, by simp, by simp, by (simp [run, step, hsend, hc]; rfl), by rfl⟩
    | got => exact ⟨[.cRet, .wEsc], _, by simp, by simp, by (simp [run, step, hsend, hc]; rfl), by rfl⟩
    | left | ret => exact ⟨[.wEsc], _, by simp, by simp, by (simp [run, step, hsend, inv.left, inv.ret, hc]; rfl), by rfl⟩

/-- **every reporter terminates**: once setupConn has returned (on any path), each reporter that has not returned
    has an enabled step of its own that brings it strictly closer to returning (`run → send → done`; for a reporter
    still working this is "recv / options returns", which the closed socket resp. the cancelled context force),
    no step of anybody moves a reporter away from returning, and "setupConn has returned" is stable -/
theorem C17_hs_reporters_terminate (as : List Act) (s : St) (hr : run St.init as = some s) (hc : s.c = .ret) :
    (s.r ≠ .done → ∃ a s', (a = .rErr ∨ a = .rEsc) ∧ step s a = some s' ∧ s'.r.measure < s.r.measure) ∧
    (s.w ≠ .done → ∃ a s', (a = .wRet ∨ a = .wEsc) ∧ step s a = some s' ∧ s'.w.measure < s.w.measure) ∧
    (∀ a s', step s a = some s' → s'.c = .ret ∧ s'.r.measure ≤ s.r.measure ∧ s'.w.measure ≤ s.w.measure) := by
  have inv := HsProofs.inv_run as _ s HsProofs.inv_init hr
  have hcan := inv.ret hc
  refine ⟨?_, ?_, ?_⟩
  · intro hnd
    cases hrr : s.r with
    | done => exact absurd hrr hnd
    | run => exact ⟨.rErr, { s with r := .send }, by simp, by simp [step, hrr], by simp [RPc.measure]⟩
    | send => exact ⟨.rEsc, { s with r := .done }, by simp, by simp [step, hrr, hcan], by simp [RPc.measure]⟩
  · intro hnd
    cases hww : s.w with
    | done => exact absurd hww hnd
    | run => exact ⟨.wRet, { s with w := .send }, by simp, by simp [step, hww], by simp [RPc.measure]⟩
    | send => exact ⟨.wEsc, { s with w := .done, tickerClosed := true }, by simp, by simp [step, hww, hcan], by simp [RPc.measure]⟩
  · exact fun a s' hs => ⟨(step_mono hs).1 hc, (step_mono hs).2⟩

/-- the same monotonicity in every state (before setupConn returns as well): no step moves a reporter backwards -/
theorem C17_hs_measure_mono (s s' : Hs.St) (a : Hs.Act) (hs : Hs.step s a = some s') :
    s'.r.measure ≤ s.r.measure ∧ s'.w.measure ≤ s.w.measure :=
  (HsProofs.step_mono hs).2

/-- What the check is there to catch (the family "result channel buffered, plain sends"): the consumer leaves
    through ctx.Done() without receiving; the writer's error fills the one slot; the reader's error send then
    blocks — and stays blocked along EVERY continuation (the state is closed under all steps). -/
theorem C17_hs_buffered_plain_send_blocks :
    ∃ s, Hs.runBuf Hs.St.init [.ctxFire, .cLeave, .cRet, .wRet, .wSend, .rErr] = some s ∧
      s.r = .send ∧ s.w = .done ∧ s.c = .ret ∧ s.buf = 1 ∧
      ∀ (bs : List Hs.Act) (s' : Hs.St), Hs.runBuf s bs = some s' → s'.r = .send := by
  refine ⟨_, rfl, by decide, by decide, by decide, by decide, ?_⟩
  intro bs s' hr
  exact (HsProofs.isRunBuf.inv HsProofs.blocked_stepBuf ⟨by decide, by decide, by decide⟩ hr).1

/-- the code that exists on the same events: both reporters return -/
example : ∃ s, Hs.run Hs.St.init [.ctxFire, .cLeave, .cRet, .wRet, .wEsc, .rErr, .rEsc] = some s ∧
    s.r = .done ∧ s.w = .done := by
  refine ⟨_, rfl, ?_, ?_⟩ <;> decide

end Handshake

section Waiters
open Pool C17Deb
/-! ### refreshDebouncer with its broadcaster: every refreshNow() waiter is released -/

/-- **every refreshNow() waiter is released** (FULL: all schedules): in every state reachable under any schedule
    (0.. waiters queued before / while a refresh runs, stop at any point, refreshNow before, while and after the flusher
    returns, the select taking any ready case), once `stopped` is set the flusher has at most three steps of its own
    left (refreshFn returns; the select takes the closed quit channel; the critical section) after which it has exited
    and EVERY waiter ever handed a channel is released — so no goroutine sitting in Session.refreshRing outlives
    Session.Close -/
theorem C17_waiters_released (as : List WAct) (d : WDeb) (hr : wrun WDeb.init as = some d)
    (hs : d.stopped = true) :
    ∃ bs d', bs.length ≤ 3 ∧ (∀ b ∈ bs, b = .wake .quit ∨ b = .lock ∨ b = .refreshDone) ∧
      wrun d bs = some d' ∧ d'.f = .exited ∧ ∀ w, w < d.nextW → d'.released w := by
  have inv := winv_run true as _ d (winv_init true) hr
  exact drain true d inv hs (fun he => inv.noPend he (Or.inl rfl))

/-- a refreshNow() on a stopped debouncer is released by the call itself (a closed channel), wherever the flusher is -/
theorem C17_refreshNow_after_stop_released (d : WDeb) (hs : d.stopped = true) :
    ∃ d', wstep d .refreshNow = some d' ∧ d'.nextW = d.nextW + 1 ∧ d'.released d.nextW ∧ d'.pend = d.pend := by
  refine ⟨_, rfl, ?_, ?_, ?_⟩ <;> simp [wRefreshNow, hs, WDeb.released]

/-- in every reachable state of the code that exists no listener is registered on a broadcaster the flusher can no
    longer reach: once the flusher has returned, `d.broadcaster` is nil and stays nil -/
theorem C17_no_broadcaster_after_exit (as : List WAct) (d : WDeb) (hr : wrun WDeb.init as = some d)
    (he : d.f = .exited) : d.pend = none ∧ d.cur = none :=
  have inv := winv_run true as _ d (winv_init true) hr
  ⟨inv.noPend he (Or.inl rfl), inv.curRef (by rw [he]; decide)⟩

/-- a released waiter stays released along every continuation (both variants of refreshNow) -/
theorem C17_released_stable (fixed : Bool) : ∀ (bs : List WAct) (d d' : WDeb) (w : Nat),
    wrunG fixed d bs = some d' → d.released w → d'.released w :=
  fun _ _ _ w hr h => (C17Deb.isRun fixed).inv (P := fun d => d.released w)
    (fun d d1 b h hs => have m := released_mono fixed d d1 b hs; h.imp (m.1 w) (m.2 w)) h hr

open Pool in
/-- non-vacuity, and the schedule of the seeded change on the code that exists: a refresh is running (waiter 0), a
    second one is asked for (waiter 1), stop(), the running refresh returns; whichever ready case the select takes,
    both waiters end up released -/
example : ∃ d, wrun WDeb.init [.refreshNow, .wake .now, .lock, .refreshNow, .stop, .refreshDone, .wake .quit, .lock] = some d ∧
    d.served = [0] ∧ d.shut = [1] ∧ d.f = .exited := by
  refine ⟨_, rfl, ?_, ?_, ?_⟩ <;> decide

-- the same schedule with the other ready case taken (`now` instead of `quit`)
example : ∃ d, Pool.wrun Pool.WDeb.init [.refreshNow, .wake .now, .lock, .refreshNow, .stop, .refreshDone, .wake .now, .lock] = some d ∧
    d.served = [0] ∧ d.shut = [1] ∧ d.f = .exited := by
  refine ⟨_, rfl, ?_, ?_, ?_⟩ <;> decide

/-- the code that exists on the schedule of KF-C17-2: stop(); the flusher returns; refreshNow() — waiter 0 holds a closed
    channel at once -/
example : ∃ d, Pool.wrun Pool.WDeb.init [.stop, .wake .quit, .lock, .refreshNow] = some d ∧ d.shut = [0] ∧ d.pend = none := by
  refine ⟨_, rfl, ?_, ?_⟩ <;> decide

/-- regression (the code BEFORE the fix commit for KF-C17-2, `wrunOld`: refreshNow does not look at `stopped`): stop();
    the flusher returns; refreshNow() — waiter 0 is never released, along EVERY continuation -/
theorem C17_old_refreshNow_strands_waiter :
    ∃ d, wrunOld WDeb.init [.stop, .wake .quit, .lock, .refreshNow] = some d ∧ d.stopped = true ∧ d.f = .exited ∧
      d.late = true ∧ 0 < d.nextW ∧ ∀ (bs : List WAct) (d' : WDeb), wrunOld d bs = some d' → ¬ d'.released 0 := by
  refine ⟨_, rfl, by decide, by decide, by decide, by decide, ?_⟩
  intro bs d' hr
  exact ((C17Deb.isRun false).inv (C17Deb.strand_step false 0)
    ⟨by decide, by decide, by decide, by decide, by decide⟩ hr).not_released

/-- What the check is there to catch (the family "the flusher leaves through its quit case without stopping the
    pending broadcaster"): a refresh is running, a second one is asked for (waiter 1, registered BEFORE stop), stop(),
    the refresh returns, the select takes the quit case — waiter 1 is never released, along every continuation. -/
theorem C17_quit_return_strands_waiter :
    ∃ d, wrunQuitReturn WDeb.init [.refreshNow, .wake .now, .lock, .refreshNow, .stop, .refreshDone, .wake .quit] = some d ∧
      d.stopped = true ∧ d.f = .exited ∧ d.late = false ∧ 1 < d.nextW ∧
      ∀ (bs : List WAct) (d' : WDeb), wrunQuitReturn d bs = some d' → ¬ d'.released 1 := by
  refine ⟨_, rfl, by decide, by decide, by decide, by decide, ?_⟩
  intro bs d' hr
  exact (C17Deb.isRunQuitReturn.inv (C17Deb.strand_stepQuitReturn 1)
    ⟨by decide, by decide, by decide, by decide, by decide⟩ hr).not_released

end Waiters

section Registry
open Reg C17Reg
/-! ### policyConnPool: concurrent addHost / removeHost / Close callers for one host (Model/Pool.lean, namespace Reg) -/

/-- **no orphan pool**: whatever the interleaving of any number of addHost (UP event, ring refresh, reconnect ticker,
    control connection), removeHost and policyConnPool.Close callers — each advancing step by step: lock, lookup,
    create, store, unlock, fill — every hostConnPool object that is not closed and that nobody is committed to closing
    is the REGISTERED one or the one the caller inside the mutex is about to store: no pool object is ever out of the
    reach of removeHost / Close -/
theorem C17_no_orphan_pool (b : Bool) (as : List Act) (s : St) (hr : run (St.init b) as = some s) (i : Nat)
    (hl : s.live i) : s.reg = some i ∨ s.crit = some (.addCreated i) := by
  have inv := rinv_run as _ s (rinv_init b) hr
  obtain ⟨h1, h2, h3⟩ := hl
  rcases inv.noOrphan i h1 with a | a | a | a
  · exact Or.inl a
  · exact Or.inr a
  · exact absurd a h2
  · exact absurd a h3

/-- **at most one pool object per host** is ever registered or filling: two pool objects that are both open and not
    committed to be closed are the same object, for all interleavings -/
theorem C17_one_pool_per_host (b : Bool) (as : List Act) (s : St) (hr : run (St.init b) as = some s) (i j : Nat)
    (hi : s.live i) (hj : s.live j) : i = j := by
  have inv := rinv_run as _ s (rinv_init b) hr
  rcases C17_no_orphan_pool b as s hr i hi with a | a <;> rcases C17_no_orphan_pool b as s hr j hj with c | c
  · rw [a] at c; injection c
  · have := inv.missLock (Or.inr ⟨j, c⟩); rw [a] at this; simp at this
  · have := inv.missLock (Or.inr ⟨i, a⟩); rw [c] at this; simp at this
  · rw [a] at c; injection c with c; injection c

/-- **nothing is live once policyConnPool.Close has swept the map** (fix: commit for KF-C17-3), for all interleavings of
    any number of addHost / removeHost / Close callers before, while and after: `closed` is never reset, no pool is
    registered any more, and no pool object is open and uncommitted to be closed — in particular an addHost caller that
    gets the mutex afterwards builds and fills nothing -/
theorem C17_reg_nothing_live_after_close (b : Bool) (as : List Act) (s : St) (hr : run (St.init b) as = some s)
    (hc : s.closed = true) :
    s.reg = none ∧ (∀ i, ¬ s.live i) ∧ ∀ (bs : List Act) (s' : St), run s bs = some s' → s'.closed = true := by
  have rc := C17Reg.isRun.inv rclosed_step (rclosed_init b) hr hc
  refine ⟨rc.1, ?_, ?_⟩
  · intro i hl
    rcases C17_no_orphan_pool b as s hr i hl with a | a
    · rw [rc.1] at a; simp at a
    · exact rc.2.2 i a
  · intro bs s' h; exact C17Reg.isRun.inv closed_mono hc h

/-- non-vacuity: Close, then two addHost callers — both find `closed` under the mutex and leave; nothing is built -/
example : ∃ s, Reg.run (Reg.St.init true)
    [.callClose, .clLock, .clSweep, .clUnlock, .callAdd, .callAdd, .addLock, .addLookup, .addUnlock, .addLock, .addLookup,
     .addUnlock] = some s ∧ s.closed = true ∧ s.pools = [true] ∧ s.reg = none ∧ s.toFill = [] ∧ s.filled = [] := by
  refine ⟨_, rfl, ?_, ?_, ?_, ?_, ?_⟩ <;> decide

/-- non-vacuity: two addHost callers for a host without a pool, interleaved as far as the mutex allows; one pool -/
example : ∃ s, Reg.run (Reg.St.init false)
    [.callAdd, .callAdd, .addLock, .addLookup, .addCreate, .addStore, .addUnlock, .addLock, .addLookup, .addUnlock,
     .fill 0, .fill 0] = some s ∧ s.pools = [false] ∧ s.reg = some 0 ∧ s.filled = [0, 0] := by
  refine ⟨_, rfl, ?_, ?_, ?_⟩ <;> decide

/-- What the check is there to catch (the family "addHost looks up under the read lock, builds the pool unlocked and
    stores it under the write lock without looking again"): two callers both miss, both build a pool, the second store
    overwrites the first — two live pool objects for one host, both filled; pool 0 is not registered, and along EVERY
    continuation (any further addHost / removeHost / policyConnPool.Close callers, any interleaving) it stays open,
    unregistered and uncommitted to be closed: out of the reach of removeHost and Close for good. -/
theorem C17_split_lock_orphans_pool :
    ∃ s, Reg.runSplit (Reg.St.init false) [.callAdd, .callAdd, .sLookup, .sLookup, .sMake, .sMake, .sStore 0, .sStore 1,
        .fill 0, .fill 1] = some s ∧
      s.live 0 ∧ s.live 1 ∧ s.reg = some 1 ∧ s.filled = [0, 1] ∧
      ∀ (bs : List Reg.Act) (s' : Reg.St), Reg.runSplit s bs = some s' → s'.live 0 ∧ s'.reg ≠ some 0 := by
  refine ⟨_, rfl, ?_, ?_, by decide, by decide, ?_⟩
  · exact ⟨by decide, by decide, by decide⟩
  · exact ⟨by decide, by decide, by decide⟩
  · intro bs s' hr
    have h := C17Reg.isRunSplit.inv (C17Reg.orphan_step 0) ⟨by decide, by decide, by decide, by decide, by decide⟩ hr
    exact ⟨⟨h.opn, fun e => h.out (.deleted e), fun e => h.out (.doomed e)⟩, fun e => h.out (.reg e)⟩

end Registry

/-! ## Pool close when the transports' Close() reports an error (`Model/PoolLock.lean`, lemmas `Proofs/C06Lock.lean`)

The fault point "net.Conn.Close() returns an error" (a tls.Conn whose close_notify cannot be written): Conn.Close then
calls hostConnPool.HandleError on the closing goroutine, which takes pool.mu. The pool scenarios, the Session.Close runs
and the connect-pipeline schedules of the C17 harness run with this fault on all / on the odd connections (`cerr`). -/

/-- **pool close returns whatever the transports report from Close**: any goroutines running any sequences of the pool's
    methods (Close, HandleError, Pick / Size, Conn.Close, closeWithError, the tail of connect()), any set of connections
    whose transport reports an error from Close, any schedule: nobody waits for pool.mu while holding it, the holder of
    pool.mu can always move, and while somebody has work left somebody can move (so hostConnPool.Close, hence
    policyConnPool.Close and Session.Close, is never blocked for good on the pool's lock) -/
theorem C17_pool_close_returns_with_close_errors (cerr : Nat → Bool) (conns : List Nat) (ms : Nat → List PoolLock.Meth)
    (ts : List Nat) (st : PoolLock.St)
    (hr : PoolLock.run cerr (PoolLock.init conns (fun t => PoolLock.progOf (ms t))) ts = some st) :
    (∀ t, PoolLock.selfDeadlocked st t = false) ∧
    (∀ t, st.holder = some t → (PoolLock.step cerr st t).isSome = true) ∧
    (∀ u, st.prog u ≠ [] → ∃ t, (PoolLock.step cerr st t).isSome = true) := by
  exact ⟨C06.C06_pool_no_self_deadlock cerr conns ms ts st hr, C06.C06_pool_holder_moves cerr conns ms ts st hr,
    C06.C06_pool_never_stuck cerr conns ms ts st hr⟩

/-- non-vacuity: Session.Close's pool close of two connections with faulty transports next to an error callback of
    connection 2 (a reset seen by its receive loop) and a Pick: everybody finishes, each transport closed once -/
example : ∃ st, PoolLock.run (fun _ => true)
    (PoolLock.init [1, 2] (fun t => PoolLock.progOf (if t = 0 then [.close] else if t = 1 then [.connError 2, .pick] else [])))
    [1, 0, 0, 0, 1, 1, 1, 0, 0, 0, 0, 0, 1, 1, 1, 0] = some st ∧
    st.holder = none ∧ st.closed = true ∧ st.conns = [] ∧ st.closes 1 = 1 ∧ st.closes 2 = 1 ∧ st.prog 0 = [] ∧ st.prog 1 = [] := by
  refine ⟨_, rfl, ?_, ?_, ?_, ?_, ?_, ?_, ?_⟩ <;> decide

/-- what the fault class is there to catch (hostConnPool.Close closing its connections while it holds pool.mu — NOT the
    code that exists): one pooled connection with a faulty transport and Close waits for its own lock for good -/
theorem C17_pool_close_holding_lock_self_deadlocks :
    ∃ st, PoolLock.run (fun _ => true) (PoolLock.init [1] (fun t => if t = 0 then PoolLock.pCloseHoldingLock else []))
        [0, 0, 0, 0] = some st ∧ PoolLock.selfDeadlocked st 0 = true ∧ PoolLock.step (fun _ => true) st 0 = none := by
  refine ⟨_, rfl, ?_, ?_⟩ <;> decide

/-! ## Session.Close against the control connection's heartbeat and reconnects (`Model/PoolCtl.lean`)

controlConn.close() hands `quit` to the heartbeat goroutine over an UNBUFFERED channel: Session.Close returns only if
that goroutine comes back to its select — also when it is inside c.reconnect() at that moment (dialling the ring's
hosts and the contact points, handshake, system.local, REGISTER, refreshRing).

FULL PROPERTY ("… after which the driver's background goroutines exit"), proved below without exclusion since the repair of
KF-C17-4 (props/C17.fix-KF-C17-4.diff: close() SWAPS the state to Closing and signals only a heartbeat that had started):
once close() has returned the heartbeat goroutine has exited, or has not run yet and then its first instruction is its
last (`C17_ctl_heartbeat_exits`). Before the repair close() used CAS(Started → Closing): a heartbeat goroutine scheduled
after close() still found Starting, started and was never told to stop — `C17_old_close_before_heartbeat_runs` keeps the
kernel-checked counterexample about that OLD definition (`Ctl.runG false false`) as a regression witness. -/

/-- **Session.Close is never stranded on the control connection**: whenever the closer waits in `c.quit <- struct{}{}`,
    the heartbeat goroutine is alive, on its way back to the select, and can move — for every schedule of heartbeats,
    failed heartbeats, reconnects by the heartbeat goroutine and by others (any number of round trips), and Close -/
theorem C17_ctl_closer_never_stranded (as : List Ctl.Act) (s : Ctl.St) (hr : Ctl.run Ctl.init as = some s)
    (hc : s.cl = .sending) :
    s.state = .closing ∧ (s.hb = .select ∨ s.hb = .beat ∨ s.hb = .inReconn) ∧
    ∃ a, Ctl.hbAct s a = true ∧ (Ctl.step s a).isSome = true := by
  have inv := C17Ctl.inv_run true as _ s (C17Ctl.inv_init true) hr
  exact ⟨(inv.sending hc).1, (inv.sending hc).2, C17Ctl.hb_enabled s inv hc⟩

/-- **… and waits for a bounded number of the heartbeat goroutine's steps**: from any reachable state in which the closer
    is blocked, along EVERY continuation in which it is still blocked the heartbeat goroutine has taken at most `mu s`
    steps (1 in its select, 2 waiting for the OPTIONS answer, k + 3 inside a reconnect with k round trips left); by the
    previous theorem it can always take the next one, so Close is released after at most `mu s` of them -/
theorem C17_ctl_close_wait_bounded (as bs : List Ctl.Act) (s s' : Ctl.St) (hr : Ctl.run Ctl.init as = some s)
    (hc : s.cl = .sending) (hr' : Ctl.run s bs = some s') (hc' : s'.cl = .sending) :
    C17Ctl.hbSteps s bs + Ctl.mu s' ≤ Ctl.mu s :=
  C17Ctl.mu_run bs s s' (C17Ctl.inv_run true as _ s (C17Ctl.inv_init true) hr) hc hr' hc'

/-- once close() has switched the state to Closing no reconnect attempt starts any more (reconnect() returns at once) and
    the state stays Closing (in every state: `_hr` is not used) -/
theorem C17_ctl_no_reconnect_after_close (as : List Ctl.Act) (s s' : Ctl.St) (a : Ctl.Act)
    (_hr : Ctl.run Ctl.init as = some s) (hcl : s.state = .closing) (hs : Ctl.step s a = some s') :
    s'.state = .closing ∧ (s.rc = .free → s'.rc = .free) := by
  obtain ⟨st, hb, cl, rc⟩ := s
  simp only at hcl; subst hcl
  -- no rule writes `state` once it is Closing, and the two rules that take `rc` from `free` (`hbBeatFail`, `otherEnter`) are
  -- guarded by `state ≠ closing`
  cases C17Ctl.Step.of_stepG hs <;> simp_all

/-- **the heartbeat goroutine is gone when close() returns** (full; repaired close()): for every schedule — Close before,
    while or after the heartbeat goroutine's first instruction included — once close() has returned the goroutine has
    exited, or it has not run yet and whatever happens next it is still not running or it has exited (its CAS fails) -/
theorem C17_ctl_heartbeat_exits (as : List Ctl.Act) (s : Ctl.St) (hr : Ctl.run Ctl.init as = some s) (hd : s.cl = .done) :
    s.hb = .exited ∨ (s.hb = .notStarted ∧ ∀ a s', Ctl.step s a = some s' → s'.hb = .notStarted ∨ s'.hb = .exited) := by
  have inv := C17Ctl.inv_run true as _ s (C17Ctl.inv_init true) hr
  have hst : s.state = .closing := inv.swapClosing rfl (by simp [hd])
  rcases inv.closed hst (Or.inr hd) with h | h
  · exact Or.inl h
  · refine Or.inr ⟨h, ?_⟩
    intro a s' hs
    have hown := inv.own
    obtain ⟨st, hb, cl, rc⟩ := s
    simp only at h hst; subst h; subst hst
    -- from `notStarted` only `hbStart` writes `hb` (a running reconnect attempt is somebody else's: `own`), and under Closing
    -- its CAS fails
    cases C17Ctl.Step.of_stepG hs <;> simp_all

/-- non-vacuity of the second alternative: Close before the heartbeat goroutine's first instruction; that instruction
    then finds Closing and returns -/
example : ∃ s s', Ctl.run Ctl.init [.close, .closeConn] = some s ∧ s.cl = .done ∧ s.hb = .notStarted ∧
    Ctl.step s .hbStart = some s' ∧ s'.hb = .exited ∧ s'.state = .closing := by
  refine ⟨_, _, rfl, by decide, by decide, rfl, by decide, by decide⟩

/-- Regression witness about the OLD close() (CAS(Started → Closing), before the repair of KF-C17-4; NOT the code that
    exists): Session.Close runs before the heartbeat goroutine's first instruction; close() returns, the goroutine then
    starts and along EVERY continuation it never exits (nobody will ever send on quit) -/
theorem C17_old_close_before_heartbeat_runs :
    ∃ s, Ctl.runG false false Ctl.init [.close, .closeConn, .hbStart] = some s ∧ s.cl = .done ∧ s.hb = .select ∧
      ∀ (bs : List Ctl.Act) (s' : Ctl.St), Ctl.runG false false s bs = some s' → s'.cl = .done ∧ s'.hb ≠ .exited := by
  refine ⟨_, rfl, by decide, by decide, ?_⟩
  intro bs s' hr
  have h := (C17Ctl.isRun false false).inv C17Ctl.late_step ⟨by decide, by decide, by decide⟩ hr
  refine ⟨h.cl, ?_⟩
  rcases h.hb with h | h | h <;> simp [h]

/-- what the schedules with Close inside a reconnect are there to catch (the heartbeat goroutine returning when it
    comes out of reconnect() and sees Closing — NOT the code that exists): the closer waits on `quit` for good -/
theorem C17_ctl_return_after_reconnect_strands_closer :
    ∃ s, Ctl.runG true false Ctl.init [.hbStart, .hbTimer, .hbBeatFail 0, .close, .rcDone] = some s ∧
      s.cl = .sending ∧ s.hb = .exited ∧
      ∀ (bs : List Ctl.Act) (s' : Ctl.St), Ctl.runG true false s bs = some s' → s'.cl = .sending := by
  refine ⟨_, rfl, by decide, by decide, ?_⟩
  intro bs s' hr
  exact ((C17Ctl.isRun true false).inv C17Ctl.stranded_step ⟨by decide, by decide, by decide, by decide⟩ hr).cl

/-- non-vacuity: Close while the heartbeat goroutine is inside a reconnect with two round trips left: the closer waits
    (state sending) until the attempt is over, gets its quit, closes the connection; the heartbeat goroutine has exited -/
example : ∃ s1 s2, Ctl.run Ctl.init [.hbStart, .hbTimer, .hbBeatFail 2, .rcStep, .close] = some s1 ∧
    s1.cl = .sending ∧ s1.hb = .inReconn ∧ Ctl.mu s1 = 4 ∧
    Ctl.run s1 [.rcStep, .otherEnter 5, .rcDone, .hbQuit, .closeConn] = some s2 ∧
    s2.cl = .done ∧ s2.hb = .exited ∧ s2.rc = .free ∧ s2.state = .closing := by
  refine ⟨_, _, rfl, by decide, by decide, by decide, rfl, by decide, by decide, by decide, by decide⟩

/-! ## The reconnection-policy retry loop of hostConnPool.connect() (`Model/PoolCtl.lean`, namespace `Retry`)

FULL PROPERTY: `∀ n f, (Retry.connect n f).1 ≠ .nilNoErr` — a connect that reports no error hands a connection to the
pool. It does NOT hold for the code that exists: a ReconnectionPolicy whose GetMaxRetries() is 0 makes the loop body
never run, connect() goes on with conn == nil and err == nil (`C17_cex_connect_zero_retries_nil_conn`, proposed finding
KF-C17-5). `C17_connect_conn_or_error_partial` excludes exactly `n = 0`. -/

/-- the retry loop, for every policy bound n ≥ 1 and every sequence of attempt outcomes: it returns a connection or an
    error, never more than n attempts, the connection is the first successful attempt's and everything before it was a
    retryable failure — PARTIAL: n ≥ 1 -/
theorem C17_connect_conn_or_error_partial (n : Nat) (f : Nat → Retry.Dial) (hn : 1 ≤ n) :
    (Retry.connect n f).1 ≠ .nilNoErr ∧ (Retry.connect n f).2 ≤ n ∧ 1 ≤ (Retry.connect n f).2 ∧
    ∀ k, (Retry.connect n f).1 = .conn k → f k = .ok ∧ (Retry.connect n f).2 = k + 1 ∧ ∀ j, j < k → f j = .temp := by
  obtain ⟨hle, hge, hconn, hnil⟩ := C17Retry.go_spec f n 0 false
  refine ⟨?_, by simpa [Retry.connect] using hle, by simp only [Retry.connect]; omega, ?_⟩
  · intro h; have := (hnil h).1; omega
  · intro k hk
    obtain ⟨_, _, hok, hcnt, htemp⟩ := hconn k hk
    exact ⟨hok, hcnt, fun j hj => htemp j (Nat.zero_le _) hj⟩

/-- the attempts never exceed the policy's bound, whatever it is (also 0) -/
theorem C17_connect_attempts_bounded (n : Nat) (f : Nat → Retry.Dial) : (Retry.connect n f).2 ≤ n := by
  simpa [Retry.connect] using (C17Retry.go_spec f n 0 false).1

/-- kernel-checked counterexample to the full statement: GetMaxRetries() = 0 — no attempt, no error, no connection; an
    open pool appends the nil connection (Pick then dereferences it; with a keyspace configured connect() itself does) -/
theorem C17_cex_connect_zero_retries_nil_conn (f : Nat → Retry.Dial) :
    Retry.connect 0 f = (.nilNoErr, 0) ∧ Retry.appended (Retry.connect 0 f).1 = (1, 1) := by
  simp [Retry.connect, Retry.go, Retry.appended]

/-- non-vacuity: two retryable failures, then a connection (3 attempts allowed); a non-temporary OpError ends the loop -/
example : Retry.connect 3 (fun i => if i < 2 then .temp else .ok) = (.conn 2, 3) ∧
    Retry.connect 3 (fun i => if i = 0 then .temp else .perm) = (.err, 2) ∧
    Retry.connect 2 (fun _ => .temp) = (.err, 2) := by
  refine ⟨?_, ?_, ?_⟩ <;> decide

/-! ## The event debouncers' stop() (Session.Close) against the flusher at each of its program points (`EvStop`)

eventDebouncer.stop() hands `quit` to the flusher over an unbuffered channel; the flusher's timer branch takes e.mu.
stop() holds no lock, so whatever the flusher is doing — in its select, committed to the timer branch and waiting for
e.mu behind a debounce(), flushing — it comes back to the select and takes the quit. -/

/-- **stop() (hence Session.Close) is never blocked for good on an event debouncer**: for every schedule of debounce()
    calls, timer expiries, somebody slow inside e.mu, flusher steps and stop(): a stop() waiting in its send holds
    nothing the flusher needs, the flusher is alive, and a flusher step is enabled — or somebody else is inside e.mu
    and can leave -/
theorem C17_evdeb_stop_never_blocked_for_good (as : List EvStop.Act) (x : EvStop.St) (hr : EvStop.run EvStop.init as = some x)
    (hs : x.s = .sending) :
    x.mu ≠ .S ∧ x.f ≠ .exited ∧
    ((∃ a, EvStop.fAct a = true ∧ (EvStop.step x a).isSome = true) ∨ (x.mu = .H ∧ (EvStop.step x .hunlock).isSome = true)) := by
  have inv := C17EvDeb.inv_run as _ x C17EvDeb.inv_init hr
  exact ⟨inv.noS, inv.alive hs, C17EvDeb.progress x inv hs⟩

/-- … and every step of the flusher releases it or brings the flusher strictly closer to the select that takes the quit
    (measure ≤ 6: a timer value already in the channel may cost one more flush round); in every state: `_hr` is not used -/
theorem C17_evdeb_stop_wait_bounded (as : List EvStop.Act) (x x' : EvStop.St) (a : EvStop.Act)
    (_hr : EvStop.run EvStop.init as = some x) (hs : x.s = .sending) (hst : EvStop.step x a = some x') (hf : EvStop.fAct a = true) :
    x'.s = .closing ∨ (x'.s = .sending ∧ EvStop.mu x' < EvStop.mu x) := by
  -- `fTimer` goes `select → wantLock` (+2) but takes the timer value out of the channel (−3), `fLock` and `fFlush` go one point
  -- on (−1 each), and no flusher step puts a timer value in. The other goroutines can: `fire` raises `mu` by 3, so this bounds
  -- the flusher's steps between two expiries of the debounce timer, not along a whole run.
  unfold EvStop.step at hst
  revert hst hf; fun_cases EvStop.stepG false x a <;> intro hst hf <;> cases hst
  case case15 => exact .inl rfl                                           -- fQuit
  case case9 hg => exact .inr ⟨hs, by simp [EvStop.mu, hg.1, hg.2]⟩       -- fTimer
  case case11 hg => exact .inr ⟨hs, by simp [EvStop.mu, hg.1]⟩            -- fLock
  case case13 hg => exact .inr ⟨hs, by simp [EvStop.mu, hg]⟩              -- fFlush
  all_goals cases hf                                                       -- not a step of the flusher

/-- once stop() is past its send the flusher goroutine has exited -/
theorem C17_evdeb_flusher_exits (as : List EvStop.Act) (x : EvStop.St) (hr : EvStop.run EvStop.init as = some x)
    (hs : x.s = .closing ∨ x.s = .done) : x.f = .exited :=
  (C17EvDeb.inv_run as _ x C17EvDeb.inv_init hr).gone hs

/-- what the schedules are there to catch (stop() taking e.mu and keeping it across the send — NOT the code that
    exists): the timer fires, the flusher commits to the timer branch, stop() gets the mutex first: along EVERY
    continuation stop() stays in its send and the flusher stays in front of the mutex -/
theorem C17_evdeb_stop_holding_mu_deadlocks :
    ∃ x, EvStop.runG true EvStop.init [.deb, .fire, .fTimer, .stop, .sLock] = some x ∧
      ∀ (bs : List EvStop.Act) (x' : EvStop.St), EvStop.runG true x bs = some x' → x'.s = .sending ∧ x'.f = .wantLock := by
  refine ⟨_, rfl, ?_⟩
  intro bs x' hr
  have h := (C17EvDeb.isRun true).inv C17EvDeb.dead_step ⟨by decide, by decide, by decide⟩ hr
  exact ⟨h.s, h.f⟩

/-- non-vacuity: an event is buffered, a slow debounce() holds e.mu, the timer fires and the flusher waits for the
    mutex; stop() blocks in its send; the mutex is released: flush (one callback), quit taken, stop() returns -/
example : ∃ x1 x2, EvStop.run EvStop.init [.deb, .hlock, .fire, .fTimer, .stop] = some x1 ∧
    x1.s = .sending ∧ x1.f = .wantLock ∧ EvStop.mu x1 = 3 ∧
    EvStop.run x1 [.hunlock, .fLock, .fFlush, .fQuit, .stopDone] = some x2 ∧
    x2.s = .done ∧ x2.f = .exited ∧ x2.callbacks = 1 ∧ x2.mu = .none := by
  refine ⟨_, _, rfl, by decide, by decide, by decide, rfl, by decide, by decide, by decide, by decide⟩

end C17
