import Model.Dispatch
/-!
# C05 (no bytes from the network can crash the application) — response-kind dispatch

Model: `Model/Dispatch.lean` (the code after the repairs of KF-C05-22, 23, 24, 25).

No cell, no sequence of frames at a site and no handshake crashes: by `decide` over all 14 × 18 cells of the table and
the lifting lemmas from the finite table to every sequence of response frames (`siteRun_safe`, `hsRun_safe`, generic in
the table). The histories that killed
the process before the repairs (the `ops` of the findings) are regression examples.
-/
namespace C05Dispatch
open Dispatch

/-- a statement about every cell follows from checking the two finite lists -/
theorem all_cells {P : Site → FrameKind → Prop}
    (h : ∀ s ∈ Site.all, ∀ k ∈ FrameKind.all, P s k) : ∀ s k, P s k :=
  fun s k => h s (Site.mem_all s) k (FrameKind.mem_all k)

/-- FULL: no frame kind crashes any dispatch site. -/
theorem C05_dispatch_total : ∀ s k, (dispatch s k).isCrash = false := all_cells (by decide)

/-- the cells that crashed before the repairs are `error` now: the two heartbeat `default:` arms
    (15 kinds each: everything but SUPPORTED and the two error kinds) and AUTH_CHALLENGE with a nil
    challenger -/
theorem C05_former_crash_cells_are_errors :
    (∀ k, k ≠ .supported → k.isError = false →
      dispatch .connHeartBeat k = .error ∧ dispatch .controlHeartBeat k = .error) ∧
    dispatch (.authHandshake true) .authChallenge = .error := by
  refine ⟨fun k => ?_, by decide⟩
  cases k <;> decide

/-- non-vacuity: every non-crash outcome is present in the table -/
example : Site.all.length * FrameKind.all.length = 252 := by decide
example : dispatch .startup .ready = .handled ∧ dispatch .startup .supported = .error ∧
    dispatch .handleEvent .ready = .ignored ∧ dispatch .handleNodeEvent .error = .ignored ∧
    dispatch .connHeartBeat .supported = .handled ∧ dispatch .executeQuery .unprepared = .handled ∧
    dispatch (.authHandshake false) .authChallenge = .handled := by decide

theorem siteRun_eq_none_iff (tbl : Site → FrameKind → Outcome) (s : Site) (fs : List FrameKind) :
    siteRun tbl s fs = none ↔ ∀ k ∈ fs, (tbl s k).isCrash = false := by
  induction fs with
  | nil => simp [siteRun]
  | cons k ks ih =>
    simp only [siteRun, List.mem_cons, forall_eq_or_imp]
    cases h : tbl s k <;> simp [Outcome.isCrash, ih]

/-- Lifting: a table without crashing cells for the frames fed ⇒ the loop never crashes. -/
theorem siteRun_safe (tbl : Site → FrameKind → Outcome) (s : Site) (fs : List FrameKind)
    (h : ∀ k ∈ fs, (tbl s k).isCrash = false) : siteRun tbl s fs = none :=
  (siteRun_eq_none_iff tbl s fs).2 h

/-- FULL: heartbeat loops, the event stream, any request site: no sequence of response frames
    crashes it. -/
theorem C05_stream_total (s : Site) (fs : List FrameKind) : siteRun dispatch s fs = none :=
  siteRun_safe _ _ _ fun k _ => C05_dispatch_total s k

/-- regression (KF-C05-22/23 as histories): three good heartbeats, then the server answers OPTIONS
    with READY; a control heartbeat answered with RESULT/Rows — the loops go on -/
example : siteRun dispatch .connHeartBeat [.supported, .supported, .error, .ready, .supported] = none ∧
    siteRun dispatch .controlHeartBeat [.supported, .resultRows] = none := by decide

theorem hsRun_fixed (tbl : Site → FrameKind → Outcome) (cfg : AuthCfg) (s : HS)
    (h : ∀ k, hsStep tbl cfg s k = s) (fs : List FrameKind) : hsRun tbl cfg s fs = s := by
  induction fs with
  | nil => rfl
  | cons k ks ih => rw [hsRun, h k, ih]

theorem hsRun_done (tbl : Site → FrameKind → Outcome) (cfg : AuthCfg) (b : Bool) (fs : List FrameKind) :
    hsRun tbl cfg (.done b) fs = .done b := hsRun_fixed tbl cfg _ (fun _ => rfl) fs

theorem hsRun_crashed (tbl : Site → FrameKind → Outcome) (cfg : AuthCfg) (h : How) (fs : List FrameKind) :
    hsRun tbl cfg (.crashed h) fs = .crashed h := hsRun_fixed tbl cfg _ (fun _ => rfl) fs

/-- invariant of the machine: not dead, and if the loop is running with a nil challenger then the
    nil-challenger row of the table has no crashing cell -/
def HSInv (tbl : Site → FrameKind → Outcome) : HS → Prop
  | .crashed _ => False
  | .authLoop _ true => ∀ k, (tbl (.authHandshake true) k).isCrash = false
  | _ => True

/-- what the handshake needs of a table: no crashing cell in the rows of OPTIONS, STARTUP and the
    authentication loop, nor in the nil-challenger row unless the authenticator never hands one back -/
def HsRows (tbl : Site → FrameKind → Outcome) (cfg : AuthCfg) : Prop :=
  (∀ k, (tbl .options k).isCrash = false) ∧ (∀ k, (tbl .startup k).isCrash = false) ∧
  (∀ k, (tbl (.authHandshake false) k).isCrash = false) ∧
  (cfg.nilAfter = none ∨ ∀ k, (tbl (.authHandshake true) k).isCrash = false)

theorem dispatch_hsRows (cfg : AuthCfg) : HsRows dispatch cfg :=
  ⟨fun k => C05_dispatch_total _ k, fun k => C05_dispatch_total _ k, fun k => C05_dispatch_total _ k,
    .inr fun k => C05_dispatch_total _ k⟩

/-- the type switch at a cell that does not crash takes its `handled` arm or its default arm -/
theorem cell_cases {α : Type} {P : α → Prop} {o : Outcome} {x : How → α} {y z : α} :
    o.isCrash = false → P y → P z → P (match o with | .crash h => x h | .handled => y | _ => z) := by
  intro ho hy hz
  cases o <;> first | exact hy | exact hz | cases ho

theorem hsStep_inv (tbl : Site → FrameKind → Outcome) (cfg : AuthCfg) (h : HsRows tbl cfg)
    (s : HS) (k : FrameKind) (hs : HSInv tbl s) : HSInv tbl (hsStep tbl cfg s k) := by
  obtain ⟨h0, h1, h2, hn⟩ := h
  -- the next challenger is nil only if the authenticator can hand one back, and then the nil row does not crash
  have nilInv : ∀ n m, HSInv tbl (.authLoop n (cfg.nilAfter == some m)) := fun n m => by
    rcases hn with e | hall
    · rw [e]; trivial
    · cases (cfg.nilAfter == some m) <;> first | trivial | exact hall
  cases s with
  | awaitSupported => exact cell_cases (h0 k) trivial trivial
  | awaitStartup =>
    simp only [hsStep]
    refine cell_cases (h1 k) ?_ trivial
    split
    · split
      · exact nilInv 1 0
      · trivial
    · trivial
  | authLoop n chNil =>
    have hk : (tbl (.authHandshake chNil) k).isCrash = false := by
      cases chNil with
      | false => exact h2 k
      | true => exact hs k
    simp only [hsStep]
    refine cell_cases hk ?_ trivial
    split
    · exact nilInv (n + 1) n
    · trivial
  | done b => trivial
  | crashed h => exact hs.elim

/-- Lifting, generic in the table: if no cell of the three handshake rows crashes, and either
    the authenticator never hands back a nil challenger or the nil-challenger row does not crash
    either, then NO sequence of response frames crashes the handshake. -/
theorem hsRun_safe (tbl : Site → FrameKind → Outcome) (cfg : AuthCfg)
    (h0 : ∀ k, (tbl .options k).isCrash = false) (h1 : ∀ k, (tbl .startup k).isCrash = false)
    (h2 : ∀ k, (tbl (.authHandshake false) k).isCrash = false)
    (hn : cfg.nilAfter = none ∨ ∀ k, (tbl (.authHandshake true) k).isCrash = false)
    (fs : List FrameKind) : ∀ s, HSInv tbl s → (hsRun tbl cfg s fs).isCrashed = false := by
  induction fs with
  | nil =>
    intro s hs
    cases s <;> simp_all [hsRun, HS.isCrashed, HSInv]
  | cons k ks ih =>
    intro s hs
    exact ih _ (hsStep_inv tbl cfg ⟨h0, h1, h2, hn⟩ s k hs)

/-- FULL: no sequence of response frames crashes the handshake, whatever the authenticator returns
    (in particular gocql.PasswordAuthenticator, whose Challenge returns a nil next challenger). -/
theorem C05_handshake_total (cfg : AuthCfg) (fs : List FrameKind) :
    (hsRun dispatch cfg .awaitSupported fs).isCrashed = false :=
  have ⟨h0, h1, h2, hn⟩ := dispatch_hsRows cfg
  hsRun_safe _ cfg h0 h1 h2 hn fs _ trivial

/-- regression (KF-C05-24 as a history): PasswordAuthenticator, server sends SUPPORTED, AUTHENTICATE,
    AUTH_CHALLENGE — the handshake ends with an error; a custom authenticator whose SECOND Challenge
    returns nil likewise one AUTH_CHALLENGE later -/
example : hsRun dispatch passwordAuth .awaitSupported [.supported, .authenticate, .authChallenge]
    = .done false := by decide
example : hsRun dispatch ⟨true, true, some 1⟩ .awaitSupported
    [.supported, .authenticate, .authChallenge, .authChallenge] = .done false := by decide
/-- non-vacuity: a challenger chain completes -/
example : hsRun dispatch ⟨true, true, none⟩ .awaitSupported
    [.supported, .authenticate, .authChallenge, .authChallenge, .authSuccess] = .done true := by decide

/-! ## UNPREPARED re-enters executeQuery / executeBatch: the recursion depth is whatever the server
    wants (no crash cell in the table; recorded as a resource finding, KF-C05-26) -/

theorem C05_retry_depth_unbounded (n : Nat) :
    retryDepth .executeQuery (List.replicate n .unprepared) = n ∧
    retryDepth .executeBatch (List.replicate n .unprepared) = n := by
  induction n with
  | zero => exact ⟨rfl, rfl⟩
  | succ n ih =>
    have h1 : action .executeQuery .unprepared = some .retry := by decide
    have h2 : action .executeBatch .unprepared = some .retry := by decide
    simp [List.replicate_succ, retryDepth, h1, h2, ih.1, ih.2]

/-- ... and only UNPREPARED does that, only at those two sites -/
theorem C05_retry_only_unprepared : ∀ s k, action s k = some .retry →
    (s = .executeQuery ∨ s = .executeBatch) ∧ k = .unprepared := all_cells (by decide)

end C05Dispatch
