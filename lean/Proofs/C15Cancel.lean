import Proofs.C15Hist
/-! C15, cancellation at ANY moment (caller contexts cancelled while a prefetch is pending, running or done,
    before an Iter(), between pages): an invariant of every history that survives cancellations.

    An iterator is either ON TRACK (`K.onTrack`: what it has delivered plus what a drain with live contexts would still
    deliver is its snapshot's result, `tot = T`), or it carries an error (`K.failed`: `cur.err`), or its next page has
    been "fetched" into an error (`K.poisoned`: `pre` holds an error Iter, the cancelled context made the one fetch
    fail) — and in the last two cases the rows it can still hand over are rows of the current page only, so everything
    it ever delivers is an initial segment of the result and it cannot end without an error. `exec_tot` (C15Hist) is the
    case without cancellation: the iterator then stays in the first alternative. -/
namespace Paging.Hist
open Paging

inductive K (ppOf : Int → Nat → Nat) (T : List Int × List Req × Option Fail) (it : It) : Prop
  | onTrack (h : tot ppOf it = T)
  | failed (f : Fail) (he : it.cur.err = some f) (hpfx : it.out <+: T.1)
  | poisoned (p : Iter) (he : it.cur.err = none) (hnx : it.cur.next.isSome = true) (hp : it.pre = some p)
      (hpe : p.err.isSome = true) (hpfx : it.out ++ it.cur.rows.drop it.cur.pos <+: T.1)

variable (ppOf : Int → Nat → Nat)

theorem force_K (T : List Int × List Req × Option Fail) (e : Env) (it : It)
    (hk : K ppOf T it) : K ppOf T (force ppOf e it).1 := by
  rcases force_cases ppOf e it with hno | ⟨n, he, hp, hn, heq⟩
  · rw [hno]; exact hk
  · -- a pending next page: the iterator is on track (the other two cases need an error or a fetched page)
    have hon : tot ppOf it = T := by
      cases hk with
      | onTrack h => exact h
      | failed f hf => exact nomatch he.symm.trans hf
      | poisoned p _ _ hpp => exact nomatch hp.symm.trans hpp
    rw [heq, sessExec_fst]
    cases callerDead e n.qry.ctx with
    | true =>
      -- the context is dead: the one fetch yields `context canceled`, nothing is sent
      refine .poisoned (errIter .ctx) he (by simp [fetched, hn]) rfl rfl ⟨(run (ppOf n.qry.pf) it.rest true n.qry).rows, ?_⟩
      rw [← hon]
      simp only [tot, fut_pending ppOf it n he hp hn, fetched, List.append_assoc]
    | false => exact .onTrack ((tot_fetch ppOf it n e.cached _ rfl he hp hn).trans hon)

theorem pres_K (T : List Int × List Req × Option Fail) :
    Pres ppOf (fun _ => True) (K ppOf T) where
  row it r c' hs hk := by
    obtain ⟨he, hr, rfl⟩ := scanRow_some hs
    cases hk with
    | onTrack h => exact .onTrack ((tot_row ppOf it r _ hs).trans h)
    | failed f hf => exact nomatch he.symm.trans hf
    | poisoned p _ hnx hpp hpe hpfx =>
      refine .poisoned p he hnx hpp hpe ?_
      show it.out ++ [r] ++ it.cur.rows.drop (it.cur.pos + 1) <+: T.1
      rw [List.append_assoc, List.singleton_append, ← drop_of_getElem?_some hr]
      exact hpfx
  force e it _ hk := ⟨force_K ppOf T e it hk, trivial⟩
  switch it nx n hs he hn hp hk := by
    cases hk with
    | onTrack h => exact .onTrack ((tot_switch ppOf it nx n hs he hn hp).trans h)
    | failed f hf => exact nomatch he.symm.trans hf
    | poisoned p _ _ hpp hpe hpfx =>
      -- the fetched "page" is the error: the switch makes it the current one
      cases hp.symm.trans hpp
      rw [drop_of_getElem?_none (scanRow_none he hs), List.append_nil] at hpfx
      obtain ⟨f, hf⟩ := Option.isSome_iff_exists.1 hpe
      exact .failed f hf hpfx

/-- a new iterator: on track, or born with `context canceled` -/
theorem startIter_K (srv : Nat → Bytes → List Reply) (ppOf : Int → Nat → Nat) (e : Env) (q : Qry) :
    K ppOf (target ppOf (startIter srv ppOf e q).1) (startIter srv ppOf e q).1 := by
  cases hd : callerDead e q.ctx with
  | false => exact .onTrack (startIter_tot srv ppOf e q hd)
  | true => exact .failed .ctx (by simp [startIter, sessExec_fst, hd, errIter]) List.nil_prefix

theorem exec_K (srv : Nat → Bytes → List Reply) (ppOf : Int → Nat → Nat) (h : List Step) (w : World)
    (hw : ∀ it ∈ w.its, K ppOf (target ppOf it) it) :
    ∀ it ∈ (exec srv ppOf w h).its, K ppOf (target ppOf it) it :=
  (exec_pres (pres_target (pres_K ppOf)) srv (fun e q _ => ⟨startIter_K srv ppOf e q, trivial⟩)
    h w (fun _ _ _ _ => trivial) trivial hw).2

theorem K_rows (o : Out) (it : It) (hk : K ppOf (obs3 o) it) :
    it.out <+: o.rows ∧ (finished it → it.cur.err = none →
      it.out = o.rows ∧ o.err = none ∧ it.reqs.filter Req.isExec = o.reqs.filter Req.isExec) := by
  cases hk with
  | onTrack h =>
    refine ⟨⟨(fut ppOf it).rows, congrArg Prod.fst h⟩, fun hfin he => ?_⟩
    obtain ⟨h1, h2, h3⟩ := finished_result ppOf it o h hfin
    exact ⟨h1, h2.symm.trans he, h3⟩
  | failed f hf hpre => exact ⟨hpre, fun _ he => nomatch he.symm.trans hf⟩
  | poisoned p he hnx _ _ hpre =>
    refine ⟨List.IsPrefix.trans ⟨_, rfl⟩ hpre, fun hfin _ => ?_⟩
    rcases hfin with h | ⟨_, h⟩
    · rw [he] at h; cases h
    · rw [h] at hnx; cases hnx

end Paging.Hist
