/- The receive path (readHeader, readFrame of Model/Compress.lean, then parseFrame)
   on the specification's wire encoding, with and without compression. -/
import Proofs.C04Resp
import Model.Compress
import Proofs.C18Frame
namespace C04
open FrameRead RespSpec

/-- the stream id the driver reads back from the header -/
def streamOf (v : Nat) (s : Int) : Int :=
  if v ≤ 2 then Compress.int8Of (UInt8.ofNat (s % 256).toNat)
  else Compress.int16Of (UInt8.ofNat ((s % 65536).toNat / 256)) (UInt8.ofNat ((s % 65536).toNat % 256))

theorem readHeader_eHeader (v fl op len : Nat) (stream : Int) (body : FrameRead.Bytes)
    (h1 : 1 ≤ v) (h5 : v ≤ 5) (hlen : len ≤ Compress.maxFrameSize) :
    Compress.readHeader (eHeader v fl stream op len ++ body) =
      .ok ({ version := UInt8.ofNat (v + 0x80), flags := UInt8.ofNat fl, stream := streamOf v stream,
             op := UInt8.ofNat op, length := (len : Int) }, body) := by
  have h31 : len < 2147483648 := by unfold Compress.maxFrameSize at hlen; omega
  have hl : Compress.toInt32 (Compress.readBE32 (UInt8.ofNat (len / 16777216)) (UInt8.ofNat (len / 65536 % 256))
      (UInt8.ofNat (len / 256 % 256)) (UInt8.ofNat (len % 256))) = (len : Int) := by
    rw [Compress.readBE32_eq]
    exact (congrArg Compress.toInt32 (beNat_eUInt len (by omega))).trans (Compress.toInt32_small len h31)
  have hint : (eInt (len : Int)) = [UInt8.ofNat (len / 16777216), UInt8.ofNat (len / 65536 % 256),
      UInt8.ofNat (len / 256 % 256), UInt8.ofNat (len % 256)] := by
    rw [eInt, show ((len : Int) % 4294967296).toNat = len by omega]; rfl
  by_cases h2 : v ≤ 2
  · have hb : UInt8.ofNat (v + 0x80) &&& 0x7f = 1 ∨ UInt8.ofNat (v + 0x80) &&& 0x7f = 2 := by
      have : v = 1 ∨ v = 2 := by omega
      rcases this with rfl | rfl <;> decide
    simp only [eHeader, eStream, if_pos h2, eByte, hint, streamOf, List.cons_append, List.nil_append]
    rw [Compress.readHeader_v12 _ _ _ _ _ _ _ _ body hb, hl]
  · have hb : UInt8.ofNat (v + 0x80) &&& 0x7f = 3 ∨ UInt8.ofNat (v + 0x80) &&& 0x7f = 4 ∨
        UInt8.ofNat (v + 0x80) &&& 0x7f = 5 := by
      have : v = 3 ∨ v = 4 ∨ v = 5 := by omega
      rcases this with rfl | rfl | rfl <;> decide
    simp only [eHeader, eStream, if_neg h2, eByte, eShort, hint, streamOf, List.cons_append, List.nil_append]
    rw [Compress.readHeader_v345 _ _ _ _ _ _ _ _ _ body hb, hl]

/-- conn.go recv + parseFrame on wire bytes: readHeader, readFrame (decompression), parseFrame with
    the header that was read -/
def recvParse (f : Compress.Framer) (proto : Nat) (wire : FrameRead.Bytes) : Outcome (Resp × FrameRead.Bytes) :=
  match f.decode wire with
  | .ok (h, body) =>
    parseResp proto { version := h.version, flags := h.flags, stream := h.stream, op := h.op, length := h.length } body
  | .error _ => .err

theorem flags_lt (r : LResp) : r.flags < 32 := by
  have : ∀ t p w b : Bool, flagBitsOf t p w b false < 32 := by decide
  exact this r.tracing.isSome r.payload.isSome r.warnings.isSome r.beta

/-- the transport's compression bit is read off the flags byte whatever the response's own flags are -/
theorem compress_bit : ∀ t p w b c : Bool,
    (UInt8.ofNat (flagBitsOf t p w b c) &&& Compress.flagCompress == Compress.flagCompress) = c := by
  decide

theorem recvParse_plain (comp : Option Compress.Codec) (v : Nat) (r : LResp)
    (hw : wf v r = true)
    (hlen : (encodeBody v r).length ≤ Compress.maxFrameSize) :
    recvParse (Compress.newFramer comp (UInt8.ofNat v)) v (encodeFrame v r) = .ok (view v r, restOf r) := by
  have hv : 1 ≤ v ∧ v ≤ 5 := ⟨(wf_iff.mp hw).1, (wf_iff.mp hw).2.1⟩
  have hnc : ¬ (UInt8.ofNat r.flags &&& Compress.flagCompress = Compress.flagCompress) :=
    beq_eq_false_iff_ne.1 (compress_bit r.tracing.isSome r.payload.isSome r.warnings.isSome r.beta false)
  unfold recvParse encodeFrame
  rw [Compress.Framer.decode_of_header _ _ _ _ (readHeader_eHeader v r.flags r.body.opcode _ r.stream _ hv.1 hv.2 hlen)
    rfl hlen, if_neg hnc]
  have := parseResp_hdr v r [] ⟨UInt8.ofNat (v + 0x80), UInt8.ofNat r.flags, streamOf v r.stream, UInt8.ofNat r.body.opcode,
    ((encodeBody v r).length : Int)⟩ false rfl (by simp) rfl hw
  simpa using this

/-- the frame whose body went through a compressor, through the receive path of a connection that
    has that compressor -/
theorem recvParse_compressed (c : Compress.Codec) (hrt : c.RoundTrips) (v : Nat) (r : LResp) (z : FrameRead.Bytes)
    (hw : wf v r = true)
    (hz : c.enc (encodeBody v r) = .ok z) (hlen : z.length ≤ Compress.maxFrameSize) :
    recvParse (Compress.newFramer (some c) (UInt8.ofNat v)) v (encodeFrameCompressed v r z) = .ok (view v r, restOf r) := by
  have hv : 1 ≤ v ∧ v ≤ 5 := ⟨(wf_iff.mp hw).1, (wf_iff.mp hw).2.1⟩
  have hnc : UInt8.ofNat (r.flags + 1) &&& Compress.flagCompress = Compress.flagCompress :=
    beq_iff_eq.1 (compress_bit r.tracing.isSome r.payload.isSome r.warnings.isSome r.beta true)
  unfold recvParse encodeFrameCompressed
  rw [Compress.Framer.decode_of_header _ _ _ _ (readHeader_eHeader v (r.flags + 1) r.body.opcode _ r.stream _ hv.1 hv.2 hlen)
    rfl hlen, if_pos hnc]
  simp only [Compress.newFramer, hrt _ _ hz]
  have := parseResp_hdr v r [] ⟨UInt8.ofNat (v + 0x80), UInt8.ofNat (r.flags + 1), streamOf v r.stream, UInt8.ofNat r.body.opcode,
    (z.length : Int)⟩ true rfl (by simp) rfl hw
  simpa using this

end C04
