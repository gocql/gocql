/-
The model of conn.go's multi-step exchanges (Handshake.step) simulates the specification (Handshake.specStep) answer by
answer (`step_sim`, `run_sim`); the frames of an exchange decode one by one to the requests due (`encodeAll_expect`); the token of
authentication round k in the specification (`specRun_auth_round`).
-/
import Model.Handshake
import Proofs.C03Frame
namespace C03
open FrameSpec FrameWrite Handshake

/-- the specification's view of a state of the model -/
def toSpec (s : State) : SpecAt :=
  match s.phase with
  | .awaitSupported => .options
  | .awaitStartup => .startup s.compress
  | .awaitAuth hist _ _ => .auth s.compress hist
  | .conn (.use ks) rest => .use s.compress s.curKs ks s.cache rest
  | .conn .reg rest => .reg s.compress s.curKs s.cache rest
  | .conn (.prep stmt cons vals) rest => .prep s.compress s.curKs s.cache stmt cons vals rest
  | .conn (.exe stmt cons vals) rest => .exe s.compress s.curKs s.cache stmt cons vals rest
  | .stopped w => .stop w

/-- what the loop variables of authenticateHandshake hold: `challenger != nil` and `req` are those of
    the latest reply of the authenticator chain; no keyspace before the plan starts -/
def AuthInv (au : Authn) (s : State) : Prop :=
  match s.phase with
  | .awaitSupported => s.curKs = [] ∧ s.cache = []
  | .awaitStartup => s.curKs = [] ∧ s.cache = []
  | .awaitAuth hist hn req =>
    s.curKs = [] ∧ s.cache = [] ∧ hn = nextOf (au.challenge hist) ∧ req = GReq.authResponse (tokenOf (au.challenge hist))
  | _ => True

theorem regEvents_eq (t s c : Bool) : regEvents t s c = specEvents t s c := by
  cases t <;> cases s <;> cases c <;> rfl

theorem askVal_gval (x : Option Bytes) : askVal (gval x) = specVal x := by
  cases x <;> simp [askVal, gval, specVal]

theorem ask_use (now : Int) (cons : Nat) (ks : Bytes) :
    ask now (GReq.query (useStmt ks) ⟨cons, false, [], 0, [], 0, false, 0, []⟩ []) = specUse cons ks := by
  simp [ask, askParams, specUse, noParams]

theorem ks_eq (v : Nat) (curKs : Bytes) :
    (if (if v > 4 then curKs else []) = [] then none else some (if v > 4 then curKs else [])) = specKs v curKs := by
  unfold specKs
  by_cases h : v > 4
  · have h5 : v ≥ 5 := h
    by_cases hk : curKs = [] <;> simp [h, h5, hk]
  · have h5 : ¬ v ≥ 5 := by omega
    simp [h, h5]

theorem ask_prepare (now : Int) (v : Nat) (curKs stmt : Bytes) :
    ask now (GReq.prepare stmt (if v > 4 then curKs else []) []) = specPrepare v curKs stmt := by
  simp only [ask, specPrepare, ks_eq]

theorem ask_execute (now : Int) (cfg : Config) (curKs id : Bytes) (cons : Nat) (vals : List (Option Bytes)) :
    ask now (GReq.execute id (execParams cfg curKs cons vals) []) = specExecute cfg curKs id cons vals := by
  have hv : List.map askVal (List.map gval vals) = List.map specVal vals := by
    rw [List.map_map]; exact List.map_congr_left fun x _ => askVal_gval x
  simp only [ask, askParams, execParams, specExecute, hv, ← ks_eq]
  simp

/-- startupCoordinator.startup keeps the compressor, and names it in the options, exactly when the
    specification says compression is negotiated -/
theorem startupOpts_spec (cfg : Config) (m : List (Bytes × List Bytes)) :
    (startupOpts cfg m).2 = negotiated cfg m ∧ Req.startup (cfg.mapOrder (startupOpts cfg m).1) = specStartup cfg m := by
  unfold startupOpts specStartup negotiated offered
  cases cfg.compressor with
  | none => simp
  | some n => dsimp only; split <;> rename_i h <;> simp only [h, List.append_nil, and_self]

/-- a request the model writes, with its "body compressed" mark, as the specification lists it -/
def tagP (now : Int) (p : GReq × Bool) : Req × Bool := (ask now p.1, p.2)

def tag (now : Int) (z : Bool) (r : Option GReq) : Option (Req × Bool) := r.map (fun g => tagP now (g, z))

/-- Conn.executeQuery with the cache `cache` does what the specification says for the known ids `cache` -/
theorem execQuery_sim (cfg : Config) (au : Authn) (now : Int) (z : Bool) (succ : List (Option Bytes)) (curKs : Bytes)
    (cache : Known) (stmt : Bytes) (cons : Nat) (vals : List (Option Bytes)) (rest : List Action) :
    toSpec ⟨(execQuery cfg curKs cache stmt cons vals rest).1, curKs, z, succ, cache⟩ =
      (specExec cfg z curKs cache stmt cons vals rest).1 ∧
    AuthInv au ⟨(execQuery cfg curKs cache stmt cons vals rest).1, curKs, z, succ, cache⟩ ∧
    tag now z (execQuery cfg curKs cache stmt cons vals rest).2 = (specExec cfg z curKs cache stmt cons vals rest).2 := by
  unfold execQuery specExec
  cases List.lookup (curKs, stmt) cache with
  | none => exact ⟨rfl, trivial, congrArg (fun r => some (r, z)) (ask_prepare ..)⟩
  | some info =>
    by_cases hn : info.2 = vals.length
    · simp only [hn, ne_eq, not_true_eq_false, if_false, if_true]
      exact ⟨rfl, trivial, congrArg (fun r => some (r, z)) (ask_execute ..)⟩
    · simp only [hn, Ne.symm hn, ne_eq, not_false_eq_true, if_true, if_false]
      exact ⟨rfl, trivial, rfl⟩

theorem evict_eq (cache : Known) (key : Key) (uid : Bytes) : evictPreparedID cache key uid = specForget cache key uid := by
  unfold evictPreparedID specForget
  cases List.lookup key cache with
  | none => rfl
  | some info => simp only [eq_comm (a := uid)]

theorem advance_sim (cfg : Config) (au : Authn) (now : Int) (z : Bool) (succ : List (Option Bytes)) (curKs : Bytes)
    (cache : Known) (rest : List Action) :
    toSpec ⟨(advance cfg curKs cache rest).1, curKs, z, succ, cache⟩ = (specNext cfg z curKs cache rest).1 ∧
    AuthInv au ⟨(advance cfg curKs cache rest).1, curKs, z, succ, cache⟩ ∧
    tag now z (advance cfg curKs cache rest).2 = (specNext cfg z curKs cache rest).2 := by
  induction rest with
  | nil => exact ⟨rfl, trivial, rfl⟩
  | cons a rest ih =>
    cases a with
    | useKs ks => exact ⟨rfl, trivial, congrArg (fun r => some (r, z)) (ask_use ..)⟩
    | register t s c =>
      simp only [advance, specNext, regEvents_eq, List.length_eq_zero_iff]
      split
      · exact ih
      · exact ⟨rfl, trivial, rfl⟩
    | exec stmt cons vals => exact execQuery_sim cfg au now z succ curKs cache stmt cons vals rest

/-- after the answer to state `s`, the model's new state and request `res` are in step with the specification's
    `spec`: same place in the exchange, the request the specification lists (or none), Success() called with
    exactly what the specification says -/
abbrev InStep (au : Authn) (now : Int) (s : State) (res : State × Option GReq)
    (spec : SpecAt × Option (Req × Bool) × Option (Option Bytes)) : Prop :=
  toSpec res.1 = spec.1 ∧ AuthInv au res.1 ∧ tag now (flagOf s res.1) res.2 = spec.2.1 ∧
  res.1.successArgs = s.successArgs ++ spec.2.2.toList

/-- both sides give up (failHs, failAct, or already stopped) -/
theorem InStep.fail (au : Authn) (now : Int) (s : State) (w : Stop) :
    InStep au now s ({ s with phase := .stopped w }, none) (.stop w, none, none) :=
  ⟨rfl, trivial, rfl, (List.append_nil _).symm⟩

/-- the owner of the connection goes on with its plan -/
theorem InStep.enter (cfg : Config) (au : Authn) (now : Int) (s0 s : State) (ks : Bytes) (rest : List Action)
    (t : Option (Option Bytes)) (hf : ∀ s', flagOf s0 s' = s'.compress)
    (hs : s.successArgs = s0.successArgs ++ t.toList) :
    InStep au now s0 (enter cfg s ks rest)
      ((specNext cfg s.compress ks s.cache rest).1, (specNext cfg s.compress ks s.cache rest).2, t) := by
  have h := advance_sim cfg au now s.compress s.successArgs ks s.cache rest
  exact ⟨h.1, h.2.1, by rw [hf]; exact h.2.2, hs⟩

theorem step_sim (cfg : Config) (au : Authn) (now : Int) (s : State) (a : PeerAnswer) (hi : AuthInv au s) :
    InStep au now s (step cfg au s a) (specStep cfg au (toSpec s) a) := by
  obtain ⟨phase, curKs, compress, succ, cache⟩ := s
  have nil := (List.append_nil succ).symm
  cases phase with
  | awaitSupported =>
    cases a <;> try exact .fail au now _ _
    case supported m =>
      obtain ⟨h1, h2⟩ := startupOpts_spec cfg m
      exact ⟨congrArg SpecAt.startup h1, hi, congrArg (fun r => some (r, false)) h2, nil⟩
  | awaitStartup =>
    obtain ⟨rfl, rfl⟩ := hi
    cases a <;> try exact .fail au now _ _
    case ready => exact .enter cfg au now _ _ [] cfg.plan none (fun _ => rfl) nil
    case authenticate cls =>
      simp only [step, specStep, toSpec]
      cases hA : cfg.hasAuth
      · exact .fail au now _ _
      · cases hc : au.challenge [some cls]
        · exact .fail au now _ _
        · exact ⟨rfl, ⟨rfl, rfl, by rw [hc]; rfl, by rw [hc]; rfl⟩, rfl, nil⟩
  | awaitAuth hist hn req =>
    obtain ⟨rfl, rfl, rfl, rfl⟩ := hi
    cases a <;> try exact .fail au now _ _
    case authSuccess t =>
      simp only [step, specStep, toSpec]
      cases nextOf (au.challenge hist)
      · exact .enter cfg au now _ _ [] cfg.plan none (fun _ => rfl) nil
      · cases au.success hist t
        · exact ⟨rfl, trivial, rfl, rfl⟩
        · exact .enter cfg au now _ _ [] cfg.plan (some t) (fun _ => rfl) rfl
    case authChallenge c =>
      simp only [step, specStep, toSpec]
      cases nextOf (au.challenge hist)
      · exact .fail au now _ _
      · cases hc : au.challenge (hist ++ [c])
        · exact .fail au now _ _
        · exact ⟨rfl, ⟨rfl, rfl, by rw [hc]; rfl, by rw [hc]; rfl⟩, rfl, nil⟩
  | conn pending rest =>
    cases pending with
    | use ks =>
      cases a <;> try exact .fail au now _ _
      case setKeyspace => exact .enter cfg au now _ _ ks rest none (fun _ => rfl) nil
    | reg =>
      cases a <;> try exact .fail au now _ _
      case ready => exact .enter cfg au now _ _ curKs rest none (fun _ => rfl) nil
    | prep stmt cons vals =>
      cases a <;> try exact .fail au now _ _
      case prepared id n =>
        simp only [step, specStep, toSpec]
        by_cases hn : n = vals.length
        · simp only [hn, ne_eq, not_true_eq_false, if_false, if_true]
          exact ⟨rfl, trivial, congrArg (fun r => some (r, compress)) (ask_execute ..), nil⟩
        · simp only [hn, ne_eq, not_false_eq_true, if_true, if_false]
          exact ⟨rfl, trivial, rfl, nil⟩
    | exe stmt cons vals =>
      cases a <;> try exact .fail au now _ _
      case void => exact .enter cfg au now _ _ curKs rest none (fun _ => rfl) nil
      case setKeyspace => exact .enter cfg au now _ _ curKs rest none (fun _ => rfl) nil
      case unprepared uid =>
        have h := execQuery_sim cfg au now compress succ curKs (evictPreparedID cache (curKs, stmt) uid) stmt cons vals rest
        simp only [step, specStep, toSpec, ← evict_eq]
        exact ⟨h.1, h.2.1, h.2.2, nil⟩
  | stopped w => cases a <;> exact .fail au now _ _

theorem run_sim (cfg : Config) (au : Authn) (now : Int) (answers : List PeerAnswer) :
    ∀ s, AuthInv au s →
      (run cfg au s answers).map (tagP now) = specRun cfg au (toSpec s) answers ∧
      toSpec (final cfg au s answers) = specFinal cfg au (toSpec s) answers ∧
      (final cfg au s answers).successArgs = s.successArgs ++ specSuccess cfg au (toSpec s) answers := by
  induction answers with
  | nil => intro s _; simp [run, specRun, final, specFinal, specSuccess]
  | cons a as ih =>
    intro s hi
    obtain ⟨h1, h2, h3, h4⟩ := step_sim cfg au now s a hi
    obtain ⟨i1, i2, i3⟩ := ih (step cfg au s a).1 h2
    refine ⟨?_, ?_, ?_⟩
    · simp only [run, specRun, List.map_append, i1, h1]
      congr 1
      rw [← h3]
      cases (step cfg au s a).2 <;> simp [tag, tagP, flagOf]
    · simp only [final, specFinal, i2, h1]
    · simp only [final, specSuccess, i3, h4, h1, List.append_assoc]

/-- bit 0 of the plain header flags is clear (`headerFlags_even`), here for the byte as `setCompress` / `clearCompress` handle it:
    setting it and clearing it again gives the byte back -/
theorem flags_even (v : Nat) (g : GReq) :
    (byteOf (headerFlags v false g) ||| 1) &&& 1 = 1 ∧
    (byteOf (headerFlags v false g) ||| 1) &&& 0xFE = byteOf (headerFlags v false g) := by
  unfold headerFlags
  by_cases h1 : (payloadOf g).length > 0 <;> by_cases h2 : v = 5 <;> simp [h1, h2, b2n] <;> decide

theorem decodeZ_encode (v : Nat) (stream now : Int) (g : GReq) (bs : Bytes) (z : Bool)
    (he : encodeReq v false stream now g = .ok bs) :
    decodeZ z (if z then setCompress bs else bs) = decodeReq bs := by
  obtain ⟨r, hr⟩ := encodeReq_head he
  subst hr
  have hf := flags_even v g
  cases z
  · simp [decodeZ, clearCompress]
  · simp [decodeZ, clearCompress, setCompress, hf.1, hf.2]

theorem encodeAll_expect (v : Nat) (now : Int) (hv1 : 1 ≤ v) (hv5 : v ≤ 5) (streams : List Int) (gs : List (GReq × Bool))
    (frames : List Bytes) (hs : ∀ s ∈ streams, StreamInRange v s) (hx : ∀ p ∈ gs, Expressible v (ask now p.1) = true)
    (he : encodeAll v now streams gs = some frames) : expectAll v streams (gs.map (tagP now)) frames := by
  fun_induction encodeAll v now streams gs generalizing frames with
  | case1 => cases he; trivial
  | case2 s ss g z gs bs rest h2 h1 ih =>
    cases he
    have hr := roundtrip_plain v false s now g bs [] hv1 hv5 (hs s (by simp)) (hx (g, z) (by simp)) h1
    exact ⟨by rw [decodeZ_encode v s now g bs z h1, ← hr, List.append_nil],
      ih rest (fun s' h' => hs s' (by simp [h'])) (fun p' h' => hx p' (by simp [h'])) h2⟩
  | case3 => cases he
  | case4 => cases he

theorem expectAll_get (v : Nat) (ss : List Int) (rs : List (Req × Bool)) (fs : List Bytes) (h : expectAll v ss rs fs)
    (i : Nat) (r : Req) (z : Bool) (hi : rs[i]? = some (r, z)) :
    ∃ s f, ss[i]? = some s ∧ fs[i]? = some f ∧ decodeZ z f = some ⟨v, false, s, r, []⟩ := by
  fun_induction expectAll v ss rs fs generalizing i with
  | case1 => simp at hi
  | case2 s ss r0 z0 rs f fs ih =>
    cases i with
    | zero =>
      simp only [List.getElem?_cons_zero, Option.some.injEq, Prod.mk.injEq] at hi
      obtain ⟨rfl, rfl⟩ := hi
      exact ⟨s, f, rfl, rfl, h.1⟩
    | succ i => exact ih h.2 i hi
  | case3 => exact h.elim

/-- k+1 challenges answered: the conditions under which the authenticator chain carries on -/
def ChainOk (au : Authn) (hist : List (Option Bytes)) (cs : List (Option Bytes)) (k : Nat) : Prop :=
  ∀ i, i ≤ k → nextOf (au.challenge (hist ++ cs.take i)) = true ∧ au.challenge (hist ++ cs.take (i + 1)) ≠ .fail

theorem specRun_auth_round (cfg : Config) (au : Authn) (z : Bool) :
    ∀ (cs : List (Option Bytes)) (hist : List (Option Bytes)) (k : Nat) (more : List PeerAnswer), k < cs.length →
      ChainOk au hist cs k →
      (specRun cfg au (.auth z hist) (cs.map PeerAnswer.authChallenge ++ more))[k]? =
        some (Req.authResponse (tokenOf (au.challenge (hist ++ cs.take (k + 1)))), z) := by
  intro cs
  induction cs with
  | nil => intro hist k more hk; simp at hk
  | cons c cs ih =>
    intro hist k more hk hc
    have h0 := hc 0 (Nat.zero_le _)
    simp only [List.take_zero, List.append_nil, List.take_succ_cons, List.take_zero] at h0
    have hstep : specStep cfg au (.auth z hist) (.authChallenge c) =
        (.auth z (hist ++ [c]), some (Req.authResponse (tokenOf (au.challenge (hist ++ [c]))), z), none) := by
      simp only [specStep]
      rw [if_pos ⟨h0.1, h0.2⟩]
    cases k with
    | zero => simp [specRun, hstep]
    | succ k =>
      simp only [List.map_cons, List.cons_append, specRun, hstep, Option.toList_some, List.getElem?_cons_succ]
      have := ih (hist ++ [c]) k more (by simpa using hk) (by
        intro i hi
        have := hc (i + 1) (by omega)
        simpa [List.take_succ_cons, List.append_assoc] using this)
      simpa [List.take_succ_cons, List.append_assoc] using this

end C03
