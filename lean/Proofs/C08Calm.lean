import Proofs.C08Any
/-! C08 without the client protocol, the two conditional parts:

* as long as `Clear(0)` is not called (`noClear0`): the bit of the reserved id stays set and every id
  handed out is in `1..NumStreams-1`;
* as long as, in addition, no `Clear` CAS succeeds on an id that a `GetStream` call has acquired but not
  yet returned (`calm`): `inuse ≥ 0`, i.e. `Clear` never panics with 'negative streams inuse'.

The invariants: `InvB` for the first part, `InvC` (no thread stands at `g7 x` unless bit `x` is set) for the second, `InvN` =
`InvA` + `InvB` from a fresh generator; threads at `g7` hold pairwise different set bits (`g7_le_count`), hence `inuse_ge`. -/
namespace C08
open Streams

theorem g7x_iff {x : Nat} {pc : PC} : g7x x pc = true ↔ pc = .g7 x := by simp [g7x]

theorem isG7_iff {pc : PC} : isG7 pc = true ↔ ∃ a, pc = .g7 a := by cases pc <;> simp [isG7]

theorem g7x_of_not {pc : PC} (h : isG7 pc = false) (x : Nat) : g7x x pc = false := by
  cases hx : g7x x pc
  · rfl
  · rw [isG7_iff.mpr ⟨x, g7x_iff.mp hx⟩] at h; cases h

structure InvB (n : Nat) (sh : Shared) (ths : List PC) (evs : List Ev) : Prop where
  reserved : bitAt sh.words 0 = true
  nzs : ∀ (t : Nat) (pc : PC), ths[t]? = some pc → nz pc
  gotOk : ∀ id : Nat, Ev.got id ∈ evs → 1 ≤ id ∧ id < 64 * n

theorem invB_set {n : Nat} {sh : Shared} {ths : List PC} {evs : List Ev} (hB : InvB n sh ths evs)
    (t : Nat) (sh' : Shared) (pc' : PC) (evs' : List Ev)
    (hres : bitAt sh'.words 0 = true) (hnz : nz pc')
    (hgot : ∀ id : Nat, Ev.got id ∈ evs' → 1 ≤ id ∧ id < 64 * n) : InvB n sh' (ths.set t pc') evs' :=
  ⟨hres, forall_set hB.nzs t hnz, hgot⟩

theorem invB_tstep {b0 : Nat → Bool} {c0 : Int} {sh : Shared} {ths : List PC} {evs : List Ev}
    (hA : InvA b0 c0 sh ths evs) (hB : InvB sh.words.length sh ths evs) {t : Nat} {pc : PC}
    (ht : ths[t]? = some pc) :
    InvB sh.words.length (tstep sh pc).1 (ths.set t (tstep sh pc).2.1) (evOfPC pc ++ evs) := by
  have hnz := hB.nzs t pc ht
  have hloc := hA.locals t pc ht
  cases tstep_kinds sh pc hA.npos (localA_ok hloc) with
  | quiet hq =>
    rw [(quiet_x hq.src 0).2.2]
    exact invB_set hB t _ _ _ (hq.words ▸ hB.reserved) (hq.nz hnz) hB.gotOk
  | acquire id hlt hfree _ e =>
    -- the id acquired is not 0: bit 0 is set
    rw [e]
    exact invB_set hB t _ _ _ (bitAt_setBit_of (by omega) hB.reserved) (ne_of_bitAt hB.reserved hfree).symm hB.gotOk
  | ret id =>
    refine invB_set hB t _ _ _ hB.reserved trivial fun x hx => ?_
    rcases List.mem_cons.mp hx with h | h
    · cases h; exact ⟨Nat.pos_of_ne_zero hnz, hloc⟩
    · exact hB.gotOk x h
  | release id _ _ e =>
    rw [e]
    exact invB_set hB t _ _ _ (bitAt_clrBit_of hloc.2 (Ne.symm hnz) hB.reserved) trivial hB.gotOk
  | decrement id =>
    exact invB_set hB t _ _ _ hB.reserved trivial fun x hx => hB.gotOk x (by simpa [evOfPC] using hx)

structure InvC (sh : Shared) (ths : List PC) : Prop where
  g7le : ∀ x : Nat, ths.countP (g7x x) ≤ b2n (bitAt sh.words x)

theorem invC_set {sh : Shared} {ths : List PC} (hC : InvC sh ths) {t : Nat} {pc : PC}
    (ht : ths[t]? = some pc) (sh' : Shared) (pc' : PC)
    (h : ∀ x : Nat, ths.countP (g7x x) ≤ b2n (bitAt sh.words x) →
      ths.countP (g7x x) + b2n (g7x x pc') ≤ b2n (bitAt sh'.words x) + b2n (g7x x pc)) :
    InvC sh' (ths.set t pc') := by
  refine ⟨fun x => ?_⟩
  have h1 := countP_set (g7x x) ths t pc pc' ht
  have h2 := h x (hC.g7le x)
  simp only [b2n] at h1 h2 ⊢
  omega

theorem invC_quiet {sh : Shared} {ths : List PC} (hC : InvC sh ths) {t : Nat} {pc : PC}
    (ht : ths[t]? = some pc) (sh' : Shared) (pc' : PC) (hw : sh'.words = sh.words)
    (hq : isG7 pc = false) (hq' : isG7 pc' = false) : InvC sh' (ths.set t pc') :=
  invC_set hC ht _ _ fun x hx => by rw [hw, g7x_of_not hq, g7x_of_not hq']; exact hx

theorem invC_tstep {b0 : Nat → Bool} {c0 : Int} {sh : Shared} {ths : List PC} {evs : List Ev}
    (hA : InvA b0 c0 sh ths evs) (hC : InvC sh ths) {t : Nat} {pc : PC} (ht : ths[t]? = some pc)
    (hcalm : ∀ id b, pc = .c9 id b → sh.words.getD (bucketOffset id) 0 = b → ths.countP (g7x id) = 0) :
    InvC (tstep sh pc).1 (ths.set t (tstep sh pc).2.1) := by
  have hloc := hA.locals t pc ht
  cases tstep_kinds sh pc hA.npos (localA_ok hloc) with
  | quiet hq =>
    exact invC_quiet hC ht _ _ hq.words hq.src.1 hq.dst.1
  | acquire id hlt hfree _ e =>
    -- the bit was clear, so no thread stood at `g7 id`
    rw [e]
    refine invC_set hC ht _ _ fun x hx => ?_
    rw [bitAt_setBit _ _ _ (by omega : id / 64 < sh.words.length), g7x_of_not (pc := .g5 _ _ _ _) rfl]
    by_cases hxi : x = id
    · subst hxi
      rw [hfree] at hx
      simp [b2n, g7x] at hx ⊢
      omega
    · simpa [b2n, g7x, hxi, Ne.symm hxi] using hx
  | ret id =>
    simp only [tstep]
    refine invC_set hC ht _ _ fun x hx => ?_
    simp [b2n, g7x] at hx ⊢
    omega
  | release id h _ e =>
    -- calm: no thread stands at `g7 id`
    rw [e]
    refine invC_set hC ht _ _ fun x hx => ?_
    rw [bitAt_clrBit _ _ _ hloc.2]
    by_cases hxi : x = id
    · subst hxi
      simp [b2n, g7x, hcalm x _ rfl h]
    · simpa [b2n, g7x, hxi] using hx
  | decrement id =>
    simp only [tstep]
    exact invC_quiet hC ht _ _ rfl rfl rfl

/-- counting: threads at `g7` hold pairwise different set bits -/
theorem g7_le_count (K : Nat) (ths : List PC) : ∀ (p : Nat → Bool),
    (∀ id, PC.g7 id ∈ ths → id < K) → (∀ x, ths.countP (g7x x) ≤ b2n (p x)) →
    ths.countP isG7 ≤ countBelow p K := by
  induction ths with
  | nil => intro p _ _; simp
  | cons pc ths ih =>
    intro p hlt hle
    have hlt' : ∀ id, PC.g7 id ∈ ths → id < K := fun id hid => hlt id (List.mem_cons_of_mem _ hid)
    by_cases hg : isG7 pc = true
    · -- `pc = g7 a`: bit `a` is set and counts for this thread alone; go on without it
      obtain ⟨a, rfl⟩ := isG7_iff.mp hg
      have h1 := hle a
      rw [List.countP_cons_of_pos (g7x_iff.mpr rfl)] at h1
      have hpa : p a = true := by
        cases hp : p a
        · simp [hp, b2n] at h1
        · rfl
      simp only [hpa, b2n, ↓reduceIte] at h1
      have hq : ∀ x, ths.countP (g7x x) ≤ b2n (!decide (x = a) && p x) := by
        intro x
        by_cases hx : x = a
        · subst hx; omega
        · have h2 := hle x
          rw [List.countP_cons_of_neg (fun e => hx (by cases g7x_iff.mp e; rfl))] at h2
          simpa [hx] using h2
      have h3 := ih _ hlt' hq
      have h4 := countBelow_clr (q := fun y => !decide (y = a) && p y) a (fun _ => rfl) hpa K
      rw [if_pos (hlt a List.mem_cons_self)] at h4
      rw [List.countP_cons_of_pos hg]
      omega
    · rw [List.countP_cons_of_neg hg]
      refine ih p hlt' fun x => ?_
      have h2 := hle x
      rwa [List.countP_cons_of_neg (fun e => hg (isG7_iff.mpr ⟨x, g7x_iff.mp e⟩))] at h2

/-- the counter is not negative (more precisely: at least the number of threads between the CAS and
    the decrement of `Clear`) -/
theorem inuse_ge {b0 : Nat → Bool} {sh : Shared} {ths : List PC} {evs : List Ev}
    (hA : InvA b0 0 sh ths evs) (hB : InvB sh.words.length sh ths evs) (hC : InvC sh ths) :
    (ths.countP isC11 : Int) ≤ sh.inuse := by
  have hK : 0 < 64 * sh.words.length := by have := hA.npos; omega
  have hz : ths.countP (g7x 0) = 0 := List.countP_eq_zero.mpr fun pc hpc hg => by
    obtain ⟨t, ht⟩ := List.mem_iff_getElem?.mp hpc
    rw [g7x_iff.mp hg] at ht
    exact hB.nzs t _ ht rfl
  have h1 := g7_le_count (64 * sh.words.length) ths (fun y => !decide (y = 0) && bitAt sh.words y)
    (fun id hid => by
      obtain ⟨t, ht⟩ := List.mem_iff_getElem?.mp hid
      exact hA.locals t _ ht)
    (fun x => by
      by_cases hx : x = 0
      · subst hx; rw [hz]; exact Nat.zero_le _
      · simpa [hx] using hC.g7le x)
  have h2 := countBelow_clr (p := bitAt sh.words) (q := fun y => !decide (y = 0) && bitAt sh.words y) 0
    (fun _ => rfl) hB.reserved (64 * sh.words.length)
  simp only [hK, ↓reduceIte] at h2
  have h3 := hA.count
  omega

theorem tstep_no_negative {b0 : Nat → Bool} {sh : Shared} {ths : List PC} {evs : List Ev}
    (hA : InvA b0 0 sh ths evs) (hB : InvB sh.words.length sh ths evs) (hC : InvC sh ths)
    {t : Nat} {pc : PC} (ht : ths[t]? = some pc) : (tstep sh pc).2.2 ≠ some .crashNegative := by
  cases tstep_kinds sh pc hA.npos (localA_ok (hA.locals t pc ht)) with
  | quiet hq =>
    rcases hq.kind with ⟨_, _, _, h | h | h⟩ | ⟨_, _, _, _, h⟩ <;> simp [h]
  | acquire _ _ _ _ e =>
    simp [e]
  | ret id =>
    simp [tstep]
  | release _ _ _ e =>
    simp [e]
  | decrement id =>
    -- the decrement: this thread is one of those counted by `inuse_ge`
    have h1 := inuse_ge hA hB hC
    have h2 : 0 < ths.countP isC11 := List.countP_pos_iff.mpr ⟨_, List.mem_of_getElem? ht, rfl⟩
    simp [tstep, show ¬ (sh.inuse - 1 < 0) by omega]

/-- what holds along every schedule in which `Clear(0)` is not called, from a fresh generator with `n` words
    (`c0 = 0`): the number of words, `InvA` and `InvB` -/
structure InvN (n : Nat) (b0 : Nat → Bool) (s : State) (evs : List Ev) : Prop where
  len : s.sh.words.length = n
  a : InvA b0 0 s.sh s.threads evs
  b : InvB n s.sh s.threads evs

theorem nz_start (s : State) (t : Nat) (op : Op) (h : noClear0 s (.start t op) = true) : nz (startPC op) := by
  cases op with
  | get => trivial
  | avail => trivial
  | clear id => simpa [noClear0, startPC, nz] using h

theorem invN_step {n : Nat} {b0 : Nat → Bool} {s s' : State} {a : Action} {r : Option Ret} {evs : List Ev}
    (hI : InvN n b0 s evs) (hok : noClear0 s a = true) (hs : step s a = some (s', r)) :
    InvN n b0 s' (evOf s a ++ evs) := by
  refine ⟨by rw [(step_length hs).1]; exact hI.len, invA_step hI.a hs, ?_⟩
  obtain ⟨hlen, hA, hB⟩ := hI
  subst hlen
  obtain ⟨t, pc0, pc, held, ht, rfl, _, hev, _, ⟨op, rfl, rfl, rfl, _⟩ | ⟨_, rfl, _, _⟩⟩ := step_cases hs
  · have h3 := invB_tstep (invA_call hA ht op)
      (invB_set hB t _ _ _ hB.reserved (nz_start s t op hok) hB.gotOk) (getElem?_set_of _ ht)
    rw [hev]
    rwa [List.set_set] at h3
  · rw [hev]
    exact invB_tstep hA hB ht

theorem calm_noClear0 (s : State) (a : Action) (h : calm s a = true) : noClear0 s a = true := by
  simp only [calm, Bool.and_eq_true] at h; exact h.1

theorem invC_step {n : Nat} {b0 : Nat → Bool} {s s' : State} {a : Action} {r : Option Ret} {evs : List Ev}
    (hI : InvN n b0 s evs) (hC : InvC s.sh s.threads) (hok : calm s a = true) (hs : step s a = some (s', r)) :
    InvC s'.sh s'.threads ∧ r ≠ some .crashNegative := by
  obtain ⟨hlen, hA, hB⟩ := hI
  subst hlen
  have hok2 : rogueCAS s a = false := by
    simp only [calm, Bool.and_eq_true, Bool.not_eq_true'] at hok; exact hok.2
  obtain ⟨t, pc0, pc, held, ht, rfl, rfl, _, _, ⟨op, rfl, rfl, rfl, _⟩ | ⟨rfl, rfl, _, _⟩⟩ := step_cases hs
  · have hA' := invA_call hA ht op
    have hC' : InvC s.sh (s.threads.set t (startPC op)) := invC_quiet hC ht _ _ rfl rfl (quiet_start op).1.1
    have hget := getElem?_set_of (startPC op) ht
    have h4 := invC_tstep hA' hC' hget (by intro id b hpc; cases op <;> cases hpc)
    rw [List.set_set] at h4
    exact ⟨h4, tstep_no_negative hA'
      (invB_set hB t _ _ _ hB.reserved (nz_start s t op (calm_noClear0 _ _ hok)) hB.gotOk) hC' hget⟩
  · refine ⟨invC_tstep hA hC ht ?_, tstep_no_negative hA hB hC ht⟩
    intro id b hpc hb
    subst hpc
    simp only [rogueCAS, ht, hb, decide_true, Bool.true_and] at hok2
    rw [List.countP_eq_zero]
    intro pc' hpc'
    simpa [g7x] using (List.any_eq_false.mp hok2) pc' hpc'

theorem invN_init (n k : Nat) (hn : 0 < n) :
    InvN n (bitAt (init n).words) (initState n k) [] ∧ InvC (initState n k).sh (initState n k).threads := by
  have hidle : ∀ pc, pc ∈ (initState n k).threads → pc = .idle := fun pc hpc => (List.mem_replicate.mp hpc).2
  have hA := invA_start (initState n k) (by rw [initState, length_init]; exact hn) hidle
  have hc0 : (initState n k).sh.inuse -
      ((countBelow (bitAt (initState n k).sh.words) (64 * (initState n k).sh.words.length) : Nat) - 1) = (0 : Int) := by
    show (0 : Int) - ((countBelow (bitAt (init n).words) (64 * (init n).words.length) : Nat) - 1) = 0
    rw [length_init, count_init n hn]; rfl
  rw [hc0] at hA
  refine ⟨⟨length_init n, hA, by simp [initState, bitAt_init n hn], fun t pc ht => ?_, by simp⟩, ⟨fun x => ?_⟩⟩
  · rw [hidle pc (List.mem_of_getElem? ht)]; trivial
  · rw [countP_idle (f := g7x x) (by simp [g7x]) hidle]; exact Nat.zero_le _

end C08
