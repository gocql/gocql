import Model.CompressHeap
/-! Ownership of the buffers that cross the compressor boundary: the heap only grows under codec calls (its buffer list
    is a prefix of the new one: `step_le`); the invariant `Good` of the `fresh` discipline, kept by every step (a held slot
    survives whatever leaves its result buffer alone: `SlotOk.mono`); a step that does not name a slot leaves it alone
    (`lookup_*`); `run` on an appended history (`run_append`). The same development as Proofs/C12Heap.lean, for one buffer
    per slot. -/
namespace Compress

theorem mem_of_lookupSlot {k : Nat} {sl : Slot} {l : List (Nat × Slot)} (h : lookupSlot k l = some sl) : (k, sl) ∈ l := by
  fun_induction lookupSlot k l with
  | case1 => cases h
  | case2 => cases h; exact List.mem_cons_self
  | case3 k' sl' r hk ih => exact List.mem_cons_of_mem _ (ih h)

theorem mem_of_mem_eraseSlot {k : Nat} {e : Nat × Slot} {l : List (Nat × Slot)} (h : e ∈ eraseSlot k l) : e ∈ l := by
  fun_induction eraseSlot k l with
  | case1 => exact h
  | case2 sl' r ih => exact List.mem_cons_of_mem _ (ih h)
  | case3 k' sl' r hk ih =>
    rcases List.mem_cons.1 h with h | h
    · exact h ▸ List.mem_cons_self
    · exact List.mem_cons_of_mem _ (ih h)

theorem lookupSlot_eraseSlot_ne {k k' : Nat} (hne : k' ≠ k) (l : List (Nat × Slot)) :
    lookupSlot k (eraseSlot k' l) = lookupSlot k l := by
  fun_induction eraseSlot k' l with
  | case1 => rfl
  | case2 sl r ih => rw [ih, lookupSlot, if_neg hne]
  | case3 k'' sl r hk ih => simp only [lookupSlot, ih]

/-- a heap that only grew (`h.mem <+: h'.mem`) shows every buffer that existed as it was -/
theorem buf_of_prefix {h h' : Heap} (p : h.mem <+: h'.mem) {id : Nat} (hid : id < h.mem.length) : h'.buf id = h.buf id := by
  obtain ⟨t, ht⟩ := p
  simp [Heap.buf, ← ht, List.getD_eq_getElem?_getD, List.getElem?_append_left hid]

theorem alloc_le (h : Heap) (b : Bytes) : h.mem <+: (h.alloc b).1.mem := List.prefix_append _ _

theorem read_alloc_new (h : Heap) (b : Bytes) : (h.alloc b).1.read (h.alloc b).2 = b := by
  simp [Heap.alloc, Heap.read, Heap.buf, List.getD_eq_getElem?_getD]

theorem alloc_length (h : Heap) (b : Bytes) : (h.alloc b).1.mem.length = h.mem.length + 1 := by
  simp [Heap.alloc]

theorem alloc_view (h : Heap) (b : Bytes) : (h.alloc b).2 = { id := h.mem.length, off := 0, len := b.length } := rfl

theorem buf_poke_ne (h : Heap) (id id' i : Nat) (x : UInt8) (hne : id' ≠ id) :
    (h.poke id' i x).buf id = h.buf id := by
  simp [Heap.poke, Heap.buf, List.getD_eq_getElem?_getD, List.getElem?_set_ne hne]

theorem poke_length (h : Heap) (id i : Nat) (x : UInt8) : (h.poke id i x).mem.length = h.mem.length := by
  simp [Heap.poke]

theorem read_congr (h h' : Heap) (v : View) (e : h'.buf v.id = h.buf v.id) : h'.read v = h.read v := by
  simp [Heap.read, e]

structure SlotOk (F : Dir → Bytes → Except Unit Bytes) (h : Heap) (sl : Slot) : Prop where
  res_lt : sl.res.id < h.mem.length
  inp_lt : sl.inp.id < h.mem.length
  shows : h.read sl.res = sl.want
  spec : F sl.dir sl.arg = .ok sl.want

/-- every held result is intact, and no result buffer is anybody's input buffer -/
structure Good (F : Dir → Bytes → Except Unit Bytes) (s : St) : Prop where
  ok : ∀ k sl, (k, sl) ∈ s.slots → SlotOk F s.heap sl
  sep : ∀ k sl k' sl', (k, sl) ∈ s.slots → (k', sl') ∈ s.slots → sl.res.id ≠ sl'.inp.id

theorem good_init (F : Dir → Bytes → Except Unit Bytes) : Good F St.init :=
  ⟨fun _ _ h => by simp [St.init] at h, fun _ _ _ _ h => by simp [St.init] at h⟩

theorem SlotOk.mono {F : Dir → Bytes → Except Unit Bytes} {h h' : Heap} {sl : Slot} (hok : SlotOk F h sl)
    (hlen : h.mem.length ≤ h'.mem.length) (hres : h'.buf sl.res.id = h.buf sl.res.id) : SlotOk F h' sl :=
  ⟨Nat.lt_of_lt_of_le hok.res_lt hlen, Nat.lt_of_lt_of_le hok.inp_lt hlen,
   (read_congr _ _ _ hres).trans hok.shows, hok.spec⟩

theorem SlotOk.le {F : Dir → Bytes → Except Unit Bytes} {h h' : Heap} {sl : Slot} (hok : SlotOk F h sl)
    (hle : h.mem <+: h'.mem) : SlotOk F h' sl :=
  hok.mono hle.length_le (buf_of_prefix hle hok.res_lt)

theorem Good.erase {F : Dir → Bytes → Except Unit Bytes} {s : St} (g : Good F s) (k : Nat) :
    Good F ⟨s.heap, eraseSlot k s.slots⟩ :=
  ⟨fun k' sl h => g.ok k' sl (mem_of_mem_eraseSlot h),
   fun k1 s1 k2 s2 h1 h2 => g.sep k1 s1 k2 s2 (mem_of_mem_eraseSlot h1) (mem_of_mem_eraseSlot h2)⟩

theorem good_step (F : Dir → Bytes → Except Unit Bytes) (s : St) (op : Op) (g : Good F s) :
    Good F (step .fresh F s op) := by
  fun_cases step .fresh F s op
  -- hold, the call failed: old slots keep their buffers, allocation appends
  case case1 k _ x _ _ _ => exact ⟨fun k' sl h => ((g.erase k).ok k' sl h).le (alloc_le _ x), (g.erase k).sep⟩
  -- hold
  case case2 k dir x a out hF p =>
    have ge := g.erase k
    simp only [p, a, Heap.place]
    refine ⟨fun k' sl h => ?_, fun k1 s1 k2 s2 h1 h2 => ?_⟩
    · rcases List.mem_cons.1 h with h | h
      · cases h
        exact ⟨by simp only [alloc_view, alloc_length]; omega, by simp only [alloc_view, alloc_length]; omega,
          read_alloc_new _ _, hF⟩
      · exact (ge.ok k' sl h).le ((alloc_le _ x).trans (alloc_le _ out))
    -- a new result buffer is nobody's input buffer: ids only grow
    · rcases List.mem_cons.1 h1 with h1 | h1 <;> rcases List.mem_cons.1 h2 with h2 | h2
      · cases h1; cases h2; simp only [alloc_view, alloc_length]; omega
      · cases h1; have : s2.inp.id < s.heap.mem.length := (ge.ok k2 s2 h2).inp_lt
        simp only [alloc_view, alloc_length]; omega
      · cases h2; have : s1.res.id < s.heap.mem.length := (ge.ok k1 s1 h1).res_lt
        simp only [alloc_view]; omega
      · exact ge.sep k1 s1 k2 s2 h1 h2
  case case3 k => exact g.erase k        -- drop
  -- mutIn of a held slot: the caller writes to ITS input buffer, which is no held result's buffer
  case case5 k i x sl0 hl _ =>
    exact ⟨fun k' sl h => (g.ok k' sl h).mono (by rw [poke_length]; exact Nat.le_refl _)
      (buf_poke_ne s.heap sl.res.id sl0.inp.id _ x fun e => g.sep k' sl k sl0 h (mem_of_lookupSlot hl) e.symm), g.sep⟩
  all_goals exact g                       -- mutIn of nothing

theorem good_run (F : Dir → Bytes → Except Unit Bytes) (ops : List Op) : Good F (run .fresh F ops) :=
  ops.foldlRecOn _ (good_init F) fun s g op _ => good_step F s op g

theorem run_append (d : Discipline) (F : Dir → Bytes → Except Unit Bytes) (ops₁ ops₂ : List Op) :
    run d F (ops₁ ++ ops₂) = ops₂.foldl (step d F) (run d F ops₁) :=
  List.foldl_append ..

theorem lookup_step (d : Discipline) (F : Dir → Bytes → Except Unit Bytes) (s : St) (op : Op) (k : Nat)
    (hn : op.touches k = false) : (step d F s op).lookup k = s.lookup k := by
  have hne : ∀ {k'}, (k' == k) = false → k' ≠ k := fun h => by simpa using h
  fun_cases step d F s op
  -- hold (the call failed), drop: the slot let go is another one
  case case1 | case3 => exact lookupSlot_eraseSlot_ne (hne hn) _
  -- hold: the new slot is another one, too
  case case2 => simp only [St.lookup, lookupSlot, hne hn, if_false]; exact lookupSlot_eraseSlot_ne (hne hn) _
  -- mutIn: the slots stay
  all_goals rfl

theorem lookup_foldl (d : Discipline) (F : Dir → Bytes → Except Unit Bytes) (k : Nat) (ops : List Op)
    (hn : ∀ op ∈ ops, op.touches k = false) (s : St) : (ops.foldl (step d F) s).lookup k = s.lookup k :=
  ops.foldlRecOn (motive := fun t => t.lookup k = s.lookup k) _ rfl
    fun t ht op ho => (lookup_step d F t op k (hn op ho)).trans ht

/-- a codec call writes to no buffer that existed before it (only the caller's own `mutIn` does) -/
theorem step_le (F : Dir → Bytes → Except Unit Bytes) (s : St) (op : Op) (hn : ∀ k' i x, op ≠ .mutIn k' i x) :
    s.heap.mem <+: (step .fresh F s op).heap.mem := by
  fun_cases step .fresh F s op
  case case1 => exact alloc_le _ _                               -- hold, the call failed: the input buffer
  case case2 => exact (alloc_le _ _).trans (alloc_le _ _)        -- hold: input and result buffer
  case case3 => exact List.prefix_refl _                                    -- drop
  all_goals exact absurd rfl (hn _ _ _)                          -- mutIn

theorem foldl_le (F : Dir → Bytes → Except Unit Bytes) (ops : List Op)
    (hn : ∀ op ∈ ops, ∀ k' i x, op ≠ .mutIn k' i x) (s : St) :
    s.heap.mem <+: (ops.foldl (step .fresh F) s).heap.mem :=
  ops.foldlRecOn (motive := fun t => s.heap.mem <+: t.heap.mem) _ (List.prefix_refl _)
    fun t ht op ho => ht.trans (step_le F t op (hn op ho))

end Compress
