import Model.Policies
import Proofs.C11Pol
import Proofs.C11TA
import Proofs.C11Iter
/-! Rotation of the starting host per tier: a window of `n` successive shifts hits every start position of a layer of `n`
hosts once, so the first-host histogram over `m` successive picks is balanced against the specification's weights
(`firstOf_hist`, `tierBalanced_of_hist`); the fallback part of a drained iterator below the counter bound (`fbPart_eq`) and
the verdict of the op `rotate` (`rotateVerdict_none`). -/
namespace C11
open Policies

/-- a window of `n` successive shifts hits every residue mod `n` exactly once -/
theorem countP_window (g : Nat → Bool) (n' a : Nat) :
    (List.range (n' + 1)).countP (fun p => g ((a + p) % (n' + 1))) = (List.range (n' + 1)).countP g := by
  induction a with
  | zero =>
    apply List.countP_congr
    intro p hp
    have : p < n' + 1 := List.mem_range.mp hp
    rw [Nat.zero_add, Nat.mod_eq_of_lt this]
  | succ a ih =>
    rw [← ih]
    conv => lhs; rw [List.range_succ]
    conv => rhs; rw [List.range_succ_eq_map]
    rw [List.countP_append, List.countP_cons (l := List.map _ _), List.countP_map]
    have e1 : (a + 1 + n') % (n' + 1) = (a + 0) % (n' + 1) := by
      have : a + 1 + n' = a + (n' + 1) := by omega
      show (a + 1 + n') % (n' + 1) = a % (n' + 1)
      rw [this, Nat.add_mod_right, Nat.add_zero]
    have e2 : List.countP (fun p => g ((a + 1 + p) % (n' + 1))) (List.range n') =
        List.countP ((fun p => g ((a + p) % (n' + 1))) ∘ Nat.succ) (List.range n') := by
      apply List.countP_congr
      intro p _
      have : a + 1 + p = a + p.succ := by omega
      simp only [Function.comp, this]
    rw [e2]
    simp only [List.countP_cons, List.countP_nil, e1]
    omega

theorem countP_periods (g : Nat → Bool) (n' a k : Nat) :
    (List.range (k * (n' + 1))).countP (fun p => g ((a + p) % (n' + 1))) = k * (List.range (n' + 1)).countP g := by
  induction k with
  | zero => simp
  | succ k ih =>
    rw [Nat.succ_mul, List.range_add, List.countP_append, ih, List.countP_map]
    have e : List.countP ((fun p => g ((a + p) % (n' + 1))) ∘ fun x => k * (n' + 1) + x) (List.range (n' + 1)) =
        List.countP (fun p => g ((a + k * (n' + 1) + p) % (n' + 1))) (List.range (n' + 1)) := by
      apply List.countP_congr
      intro p _
      simp only [Function.comp, Nat.add_assoc]
    rw [e, countP_window, Nat.succ_mul]

theorem countP_partial (g : Nat → Bool) (n' a r : Nat) (hr : r ≤ n' + 1) :
    (List.range r).countP (fun p => g ((a + p) % (n' + 1))) ≤ (List.range (n' + 1)).countP g := by
  rw [← countP_window g n' a]
  exact List.Sublist.countP_le (List.range_sublist.mpr hr)

theorem countP_shifts (g : Nat → Bool) (n' a m : Nat) :
    m / (n' + 1) * (List.range (n' + 1)).countP g ≤ (List.range m).countP (fun p => g ((a + p) % (n' + 1))) ∧
    (List.range m).countP (fun p => g ((a + p) % (n' + 1))) ≤ ceilDiv m (n' + 1) * (List.range (n' + 1)).countP g := by
  have hm : m = m / (n' + 1) * (n' + 1) + m % (n' + 1) := by
    rw [Nat.mul_comm]; exact (Nat.div_add_mod m (n' + 1)).symm
  have hsplit : (List.range m).countP (fun p => g ((a + p) % (n' + 1))) =
      m / (n' + 1) * (List.range (n' + 1)).countP g +
      (List.range (m % (n' + 1))).countP (fun p => g ((a + m / (n' + 1) * (n' + 1) + p) % (n' + 1))) := by
    conv => lhs; rw [hm]
    rw [List.range_add, List.countP_append, countP_periods, List.countP_map]
    congr 1
    apply List.countP_congr
    intro p _
    simp only [Function.comp, Nat.add_assoc]
  rw [hsplit]
  refine ⟨Nat.le_add_right _ _, ?_⟩
  unfold ceilDiv
  split
  · rename_i h0
    rw [h0]
    simp
  · have hp := countP_partial g n' (a + m / (n' + 1) * (n' + 1)) (m % (n' + 1)) (Nat.le_of_lt (Nat.mod_lt _ (by omega)))
    rw [Nat.add_mul, Nat.one_mul]
    omega

/-- SPECIFICATION side: the scan of a layer starts at list position `i` and goes on cyclically in list order;
the first host that can be offered (`f`) -/
def firstFrom (f : Host → Bool) (l : List Host) (i : Nat) : Option Host :=
  ((l.drop i ++ l.take i).filter f).head?

def specWeight (f : Host → Bool) (l : List Host) (h : Host) : Nat :=
  (List.range l.length).countP (fun i => firstFrom f l i == some h)

def firstOf (f : Host → Bool) (s : Nat) (l : List Host) : Option Host := ((layerSeq s l).filter f).head?

theorem firstOf_eq (f : Host → Bool) (s : Nat) (l : List Host) :
    firstOf f s l = firstFrom f l ((s + 1) % l.length) := by
  unfold firstOf firstFrom
  rw [layerSeq_eq_rot]
  rfl

theorem firstFrom_at (f : Host → Bool) (l : List Host) (i : Nat) (hi : i < l.length) (hf : f l[i] = true) :
    firstFrom f l i = some l[i] := by
  unfold firstFrom
  rw [List.drop_eq_getElem_cons hi, List.cons_append, List.filter_cons_of_pos hf]
  rfl

theorem map_getD_range (l : List Host) : (List.range l.length).map (fun i => l.getD i default) = l := by
  apply List.ext_getElem
  · simp
  · intro i h1 h2
    simp [List.getD_eq_getElem?_getD, List.getElem?_eq_getElem h2]

theorem countP_range_getD (P : Host → Bool) (l : List Host) :
    (List.range l.length).countP (fun i => P (l.getD i default)) = l.countP P := by
  conv => rhs; rw [← map_getD_range l]
  rw [List.countP_map]
  rfl

theorem countP_or_le (P Q : Host → Bool) (l : List Host) :
    l.countP (fun x => P x || Q x) ≤ l.countP P + l.countP Q := by
  induction l with
  | nil => simp
  | cons a t ih =>
    simp only [List.countP_cons]
    cases P a <;> cases Q a <;> simp <;> omega

/-- a host that can be offered is the first one from at least one start position: its own -/
theorem specWeight_pos (f : Host → Bool) (l : List Host) (h : Host) (hm : h ∈ l) (hf : f h = true) :
    1 ≤ specWeight f l h := by
  obtain ⟨i, hi, e⟩ := List.getElem_of_mem hm
  unfold specWeight
  apply List.countP_pos_iff.mpr
  refine ⟨i, List.mem_range.mpr hi, ?_⟩
  rw [firstFrom_at f l i hi (by rw [e]; exact hf), e]
  simp

/-- … and from at most `1 + d` start positions: its own and those of the `d` hosts that cannot be offered -/
theorem specWeight_le (f : Host → Bool) (l : List Host) (hn : l.Nodup) (h : Host) :
    specWeight f l h ≤ 1 + l.countP (fun x => !f x) := by
  unfold specWeight
  have h1 : (List.range l.length).countP (fun i => firstFrom f l i == some h) ≤
      (List.range l.length).countP (fun i => (fun x => x == h || !f x) (l.getD i default)) := by
    apply List.countP_mono_left
    intro i hi hg
    have hi' : i < l.length := List.mem_range.mp hi
    have eg : l.getD i default = l[i] := by simp [List.getD_eq_getElem?_getD, List.getElem?_eq_getElem hi']
    simp only [eg]
    by_cases hf : f l[i] = true
    · rw [firstFrom_at f l i hi' hf] at hg
      have : l[i] = h := by simpa using hg
      simp [this]
    · simp [hf]
  rw [countP_range_getD (fun x => x == h || !f x) l] at h1
  have h2 := countP_or_le (fun x => x == h) (fun x => !f x) l
  have h3 : l.countP (fun x => x == h) ≤ 1 := by
    have := List.count_eq_countP (a := h) (l := l)
    rw [← this, List.Nodup.count hn]
    split <;> omega
  omega

/-- the histogram of first hosts over `m` successive picks of the code (shifts `c + 1 … c + m`) against the
specification's weights: at least ⌊m/n⌋, at most ⌈m/n⌉ times the weight; over whole periods exactly -/
theorem firstOf_hist (f : Host → Bool) (l : List Host) (h : Host) (c m : Nat) (hl : l ≠ []) :
    m / l.length * specWeight f l h ≤ (List.range m).countP (fun p => firstOf f (c + 1 + p) l == some h) ∧
    (List.range m).countP (fun p => firstOf f (c + 1 + p) l == some h) ≤ ceilDiv m l.length * specWeight f l h := by
  obtain ⟨n', hn'⟩ : ∃ n', l.length = n' + 1 := ⟨l.length - 1, by
    have : 0 < l.length := List.length_pos_iff.mpr hl
    omega⟩
  have e : (List.range m).countP (fun p => firstOf f (c + 1 + p) l == some h) =
      (List.range m).countP (fun p => (fun i => firstFrom f l i == some h) ((c + 2 + p) % (n' + 1))) := by
    apply List.countP_congr
    intro p _
    rw [firstOf_eq, hn']
    have : c + 1 + p + 1 = c + 2 + p := by omega
    rw [this]
  rw [e]
  unfold specWeight
  rw [hn']
  exact countP_shifts _ n' (c + 2) m

/-- a tier is balanced when its first-host histogram is the one of `m` successive shifts of the code's scan -/
theorem tierBalanced_of_hist (f : Host → Bool) (l : List Host) (hn : l.Nodup) (c m : Nat) (hits : Host → Nat)
    (hh : ∀ h, hits h = (List.range m).countP (fun p => firstOf f (c + 1 + p) l == some h)) :
    tierBalanced f l m hits = true := by
  unfold tierBalanced
  rw [List.all_eq_true]
  intro h hm
  cases hcand : f h with
  | false => rfl
  | true =>
    have hist := firstOf_hist f l h c m (List.ne_nil_of_mem hm)
    have lo := Nat.le_mul_of_pos_right (m / l.length) (specWeight_pos f l h hm hcand)
    have hi := Nat.mul_le_mul_left (ceilDiv m l.length) (specWeight_le f l hn h)
    rw [hh h]
    simp only [Bool.not_true, Bool.false_or, Bool.and_eq_true, decide_eq_true_eq]
    exact ⟨Nat.le_trans lo hist.1, Nat.le_trans hist.2 hi⟩

theorem headOf_withCtr (t : TA) (c : Nat) (up : Nat → Bool) (σ : List Host → List Host) (rk : Option (Nat × Nat)) :
    (t.withCtr c).headOf up σ rk = t.headOf up σ rk := rfl

theorem fbPart_eq (t : TA) (hp : Inv t.pol) (hb : Pol.below t.pol) (up : Nat → Bool) (σ : List Host → List Host)
    (rk : Option (Nat × Nat)) :
    t.fbPart up σ rk = ⟨(rrSeq up (t.pol.ctr + 1) [t.pol.l0, t.pol.l1, t.pol.l2]).filter
      (fun h => !(t.headOf up σ rk).contains h), false⟩ := by
  have hs := pickScan_three t.pol hp hb up
  -- arms: no routing key | a replica list | no ring, or an empty one
  fun_cases TA.fbPart t up σ rk <;> simp only [TA.headOf, *]
  · exact congrArg (Scan.mk · false) (List.filter_eq_self.mpr fun _ _ => rfl).symm
  · rw [minusUsed_eq_filter _ _ (rrSeq_nodup up _ _ (Inv_flatten_nodup t.pol hp))]
  · exact congrArg (Scan.mk · false) (List.filter_eq_self.mpr fun _ _ => rfl).symm

theorem filter_tier (tier : Host → Nat) (i t : Nat) (L : List Host) (hL : ∀ h ∈ L, tier h = i) :
    L.filter (fun h => tier h == t) = if i = t then L else [] := by
  split
  · rename_i e
    apply List.filter_eq_self.mpr
    intro h hh
    simp [hL h hh, e]
  · rename_i e
    apply List.filter_eq_nil_iff.mpr
    intro h hh
    simp [hL h hh, e]

theorem tierFirst_rrSeq (p : Pol) (hp : Inv p) (up : Nat → Bool) (q : Host → Bool) (s t : Nat) (ht : t < 3) :
    tierFirst p.tier t ((rrSeq up s [p.l0, p.l1, p.l2]).filter q) =
      firstOf (fun h => up h.id && q h) s (p.getLayer t) := by
  have part : ∀ (i : Nat) (l : List Host), (∀ h ∈ l, p.tier h = i) →
      ((((layerSeq s l).filter (fun h => up h.id)).filter q).filter (fun h => p.tier h == t)) =
        if i = t then (layerSeq s l).filter (fun h => up h.id && q h) else [] := by
    intro i l hl
    rw [filter_tier p.tier i t _ (fun h hh => hl h ((mem_layerSeq s l h).mp
      (List.mem_filter.mp (List.mem_filter.mp hh).1).1))]
    split
    · rw [List.filter_filter]
      apply List.filter_congr
      intro x _
      exact Bool.and_comm _ _
    · rfl
  unfold tierFirst firstOf
  simp only [rrSeq_cons, rrSeq_nil, List.append_nil, List.filter_append]
  rw [part 0 p.l0 hp.t0, part 1 p.l1 hp.t1, part 2 p.l2 hp.t2]
  have : t = 0 ∨ t = 1 ∨ t = 2 := by omega
  rcases this with rfl | rfl | rfl <;> simp [Pol.getLayer]

theorem drained_withCtr (t : TA) (h : t.pol.ctr + 1 < 18446744073709551616) :
    t.drained = t.withCtr (t.pol.ctr + 1) := by
  unfold TA.drained Pol.bump TA.withCtr
  rw [Nat.mod_eq_of_lt h]

theorem rotateRun_eq (up : Nat → Bool) (σs : Nat → List Host → List Host) (rk : Option (Nat × Nat)) :
    ∀ (m : Nat) (t : TA) (i : Nat), t.pol.ctr + m < 18446744073709551616 →
      TA.rotateRun t up σs rk i m = (List.range m).map (fun p =>
        ((t.withCtr (t.pol.ctr + p)).headOf up (σs (i + p)) rk, (t.withCtr (t.pol.ctr + p)).fbPart up (σs (i + p)) rk)) := by
  intro m
  induction m with
  | zero => intro t i _; rfl
  | succ m ih =>
    intro t i hc
    -- one pick on, the counter of pick `p` of the rest is that of pick `p + 1`
    have e1 : ∀ p, (t.withCtr (t.pol.ctr + 1)).withCtr ((t.withCtr (t.pol.ctr + 1)).pol.ctr + p) =
        t.withCtr (t.pol.ctr + (p + 1)) := fun p => by
      show t.withCtr (t.pol.ctr + 1 + p) = _
      rw [Nat.add_assoc, Nat.add_comm 1 p]
    have e2 : ∀ p, i + 1 + p = i + (p + 1) := fun p => by omega
    unfold TA.rotateRun
    rw [drained_withCtr t (by omega), ih (t.withCtr (t.pol.ctr + 1)) (i + 1) (by show t.pol.ctr + 1 + m < _; omega),
      List.range_succ_eq_map, List.map_cons, List.map_map]
    exact congrArg _ (List.map_congr_left fun p _ => by simp only [Function.comp, e1, e2])

theorem getD_three (p : Pol) (t : Nat) (ht : t < 3) : [p.l0, p.l1, p.l2].getD t [] = p.getLayer t := by
  have : t = 0 ∨ t = 1 ∨ t = 2 := by omega
  rcases this with rfl | rfl | rfl <;> rfl

theorem rotateVerdict_none (t : TA) (hp : Inv t.pol) (up : Nat → Bool) (σs : Nat → List Host → List Host)
    (hσ : ∀ i l, (σs i l).Perm l) (rk : Option (Nat × Nat)) (m : Nat)
    (hb : ∀ l ∈ t.pol.layers, t.pol.ctr + m + l.length < 9223372036854775808) :
    (∀ r ∈ TA.rotateRun t up σs rk 0 m, r.2.crashed = false) ∧ t.rotateVerdict up σs rk m = none := by
  have hc : t.pol.ctr + m < 18446744073709551616 := by
    have := layers_bound t.pol _ _ hb
    omega
  have hpick : ∀ p, p < m → (t.withCtr (t.pol.ctr + p)).fbPart up (σs (0 + p)) rk =
      ⟨(rrSeq up (t.pol.ctr + p + 1) [t.pol.l0, t.pol.l1, t.pol.l2]).filter
        (fun h => !(t.headOf up (σs 0) rk).contains h), false⟩ := by
    intro p hpm
    have hinv : Inv (t.withCtr (t.pol.ctr + p)).pol := Inv_ctr t.pol hp _
    have hbel : Pol.below (t.withCtr (t.pol.ctr + p)).pol := by
      intro l hl
      have := hb l hl
      show t.pol.ctr + p + 1 + l.length < _
      omega
    rw [fbPart_eq _ hinv hbel up _ rk]
    show (⟨(rrSeq up (t.pol.ctr + p + 1) [t.pol.l0, t.pol.l1, t.pol.l2]).filter
        (fun h => !((t.withCtr (t.pol.ctr + p)).headOf up (σs (0 + p)) rk).contains h), false⟩ : Scan) = _
    congr 1
    apply List.filter_congr
    intro x _
    rw [headOf_withCtr, headOf_contains_perm t up (σs (0 + p)) (σs 0) (hσ _) (hσ _) rk x]
  rw [TA.rotateVerdict, rotateRun_eq up σs rk m t 0 hc]
  constructor
  · intro r hr
    rw [List.mem_map] at hr
    obtain ⟨p, hpm, rfl⟩ := hr
    simp only
    rw [hpick p (List.mem_range.mp hpm)]
  · unfold rotVerdict
    rw [List.find?_eq_none]
    intro tt htt
    have htt3 : tt < 3 := by simpa using htt
    rw [getD_three t.pol tt htt3]
    simp only [List.map_map, List.length_map, List.length_range, Bool.not_eq_true, Bool.not_eq_false']
    -- the histogram of this tier is that of the scans with shifts `ctr + 1 … ctr + m`
    refine tierBalanced_of_hist _ _ (getLayer_tier t.pol hp tt (by omega)).1.nodup t.pol.ctr m _ (fun h => ?_)
    unfold firstHits
    rw [List.countP_map]
    apply List.countP_congr
    intro p hpm
    simp only [Function.comp]
    rw [hpick p (List.mem_range.mp hpm)]
    simp only
    rw [tierFirst_rrSeq t.pol hp up _ (t.pol.ctr + p + 1) tt htt3]
    have : t.pol.ctr + p + 1 = t.pol.ctr + 1 + p := by omega
    rw [this]

end C11
