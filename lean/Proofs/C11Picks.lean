import Model.Policies
import Proofs.C11Conc
/-! # C11 — Picks CONCURRENT with host changes

The interleaving machine of `Policies.Cow` (the atomic steps lock / load / copy / store / unlock of any number of
concurrent `add` / `remove` calls on a copy-on-write list) extended by READERS: a `Pick` of the round-robin based
policies is one atomic load of the list (`cowHostList.get()`; per tier) - it HOLDS a snapshot and writes nothing but
the rotation counter. So, for EVERY schedule, the list is what the notifier calls alone make of it: after quiescence
(all calls returned, all Picks finished) the policy state is the history's, and a fresh iterator offers the history's
hosts (`C11_history_exact_partial` applies to that state as it stands). The op `flap` checks exactly this on the real
code. Counterexample: a Pick that WRITES BACK a snapshot it took earlier (a lazily rebuilt cache of the tier lists that
host changes drop - the seeded change C11-12) - a schedule leaves the stale snapshot installed at quiescence. -/
namespace C11
open Policies Policies.Cow

variable {σ : Type}

/-- a step of the schedule: an atomic step of notifier call `i`, or the load of Pick `j` -/
inductive MStep
  | w (i : Nat)
  | r (j : Nat)

/-- the list machine plus what every Pick holds -/
structure MSys (σ : Type) where
  sys : Sys σ
  snaps : Nat → Option σ

def mstep (n : Nat) (fs : Nat → σ → σ) (s : MSys σ) : MStep → MSys σ
  | .w i => { s with sys := step true n fs s.sys i }
  | .r j => { s with snaps := fun k => if k = j then some s.sys.shared else s.snaps k }

def mrun (n : Nat) (fs : Nat → σ → σ) (s : MSys σ) (sched : List MStep) : MSys σ := sched.foldl (mstep n fs) s

def writerSteps : List MStep → List Nat
  | [] => []
  | .w i :: r => i :: writerSteps r
  | .r _ :: r => writerSteps r

theorem mrun_sys (n : Nat) (fs : Nat → σ → σ) (sched : List MStep) :
    ∀ s : MSys σ, (mrun n fs s sched).sys = run true n fs s.sys (writerSteps sched) := by
  induction sched with
  | nil => intro s; rfl
  | cons a r ih =>
    intro s
    cases a with
    | w i => exact ih _
    | r j => exact ih _

/-- every snapshot a Pick holds is the list as some prefix of the schedule left it: a value the notifier calls
published, never a torn or invented one -/
theorem mrun_snaps (n : Nat) (fs : Nat → σ → σ) (sched : List MStep) :
    ∀ s : MSys σ, ∀ j v, (mrun n fs s sched).snaps j = some v →
      s.snaps j = some v ∨ ∃ k, k ≤ sched.length ∧ v = (mrun n fs s (sched.take k)).sys.shared := by
  induction sched with
  | nil => intro s j v h; exact Or.inl h
  | cons a r ih =>
    intro s j v h
    have := ih (mstep n fs s a) j v h
    rcases this with h1 | ⟨k, hk, hv⟩
    · cases a with
      | w i => exact Or.inl h1
      | r j' =>
        simp only [mstep] at h1
        by_cases hj : j = j'
        · rw [if_pos hj] at h1
          injection h1 with h1
          exact Or.inr ⟨0, Nat.zero_le _, by rw [← h1]; rfl⟩
        · rw [if_neg hj] at h1
          exact Or.inl h1
    · exact Or.inr ⟨k + 1, by simp; omega, by rw [hv]; rfl⟩

/-- PICKS WRITE NO LISTS. For EVERY schedule of the atomic steps of `n` concurrent notifier calls (`add` / `remove` on one
copy-on-write list, the code's mutex discipline) interleaved with ANY number of Picks at any points: once all calls have
returned, the list is the result of the calls alone, applied one after the other in some order of all of them - exactly
as if no Pick had run (`C11_cow_concurrent_linearizable`); and every Pick held a value the list really had at some
point of the run. After quiescence the policy's lists are the history's. -/
theorem C11_picks_write_no_lists (n : Nat) (ops : Nat → CowOp) (l0 : List Host) (sched : List MStep) :
    let s := mrun n (fun i => (ops i).apply) ⟨Cow.init l0, fun _ => none⟩ sched
    (s.sys.allDone n = true →
      ∃ order : List Nat, order.Perm (List.range n) ∧ s.sys.shared = Cow.seq (fun i => (ops i).apply) order l0) ∧
    ∀ j v, s.snaps j = some v → ∃ k, k ≤ sched.length ∧
      v = (mrun n (fun i => (ops i).apply) ⟨Cow.init l0, fun _ => none⟩ (sched.take k)).sys.shared := by
  intro s
  constructor
  · intro hd
    have e := mrun_sys n (fun i => (ops i).apply) sched ⟨Cow.init l0, fun _ => none⟩
    have hd' : (run true n (fun i => (ops i).apply) (Cow.init l0) (writerSteps sched)).allDone n = true := by
      rw [← e]; exact hd
    obtain ⟨order, h1, h2⟩ := cow_linearizable n (fun i => (ops i).apply) l0 (writerSteps sched) hd'
    exact ⟨order, h1, by show (mrun n _ _ sched).sys.shared = _; rw [e]; exact h2⟩
  · intro j v h
    rcases mrun_snaps n (fun i => (ops i).apply) sched ⟨Cow.init l0, fun _ => none⟩ j v h with h1 | h1
    · cases h1
    · exact h1

/-! ### counterexample: a Pick that writes back (a cache of the lists, dropped by host changes, rebuilt lazily by Pick) -/

/-- the cached variant: `lists` the copy-on-write list, `cache` the snapshot handed to the iterators -/
structure CSys where
  lists : List Nat
  cache : Option (List Nat)
  held : Option (List Nat)      -- the Pick in flight: it found the cache empty and has loaded the lists
deriving DecidableEq

inductive CStep
  | addStore (h : Nat)   -- a host change publishes the new list ...
  | drop                 -- ... and drops the cache
  | pickLoad             -- Pick: cache empty -> load the lists
  | pickStore            -- Pick: store what it loaded as the new cache
deriving DecidableEq

def cstep (s : CSys) : CStep → CSys
  | .addStore h => { s with lists := s.lists ++ [h] }
  | .drop => { s with cache := none }
  | .pickLoad => if s.cache.isNone then { s with held := some s.lists } else s
  | .pickStore => match s.held with
    | some v => { s with cache := some v, held := none }
    | none => s

/-- what a fresh iterator sees at quiescence in the cached variant -/
def CSys.view (s : CSys) : List Nat := s.cache.getD s.lists

/-- COUNTEREXAMPLE: host 2 was reported down (list [1], cache dropped); a Pick finds the cache empty and
loads [1]; HostUp(2) publishes [1, 2] and drops the cache; the Pick stores its snapshot. Everything has returned - and
every later iterator is built from [1]: the up host 2 is never offered. Any other order of the same steps is fine. -/
theorem C11_cex_pick_writes_back :
    let s0 : CSys := ⟨[1], none, none⟩
    let bad := [CStep.pickLoad, .addStore 2, .drop, .pickStore].foldl cstep s0
    let good := [CStep.addStore 2, .drop, .pickLoad, .pickStore].foldl cstep s0
    bad.lists = [1, 2] ∧ bad.view = [1] ∧ bad.held = none ∧ good.view = [1, 2] := by
  decide

/-- non-vacuity of `C11_picks_write_no_lists`: HostUp of host 2 with two Picks, one before the store, one after -/
example :
    let h1 : Host := ⟨1, 1, 0, 0, []⟩
    let h2 : Host := ⟨2, 2, 0, 0, []⟩
    let ops : Nat → CowOp := fun _ => .add h2
    let s := mrun 1 (fun i => (ops i).apply) ⟨Cow.init [h1], fun _ => none⟩
      [.w 0, .w 0, .r 0, .w 0, .w 0, .r 1, .w 0]
    s.sys.shared = [h1, h2] ∧ s.snaps 0 = some [h1] ∧ s.snaps 1 = some [h1, h2] ∧ s.sys.allDone 1 = true := by
  decide

end C11
