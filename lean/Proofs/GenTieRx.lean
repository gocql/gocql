import Gen.Frame
import Model.MuxRx
import Proofs.GenTieBits
/-!
  Tie theorems between the pieces of `readHeader` REGENERATED from /repo/frame.go by tools/go2lean (`Gen.Frame`:
  version mask, header size, the header fields for both stream widths, `readInt`) and the hand-written receive
  model the C01 theorems are about (`MuxRx.readHeader`: `s8`, `s16 (be16 …)`, `s32 (be32 …)`, header sizes).
-/
namespace GenTie.Rx
open GenTie.C12

theorem toInt16 (v : BitVec 16) : v.toInt = Rx.s16 v.toNat := by
  rw [BitVec.toInt_eq_toNat_cond]; unfold Rx.s16; have := v.isLt; split <;> split <;> omega

theorem toInt32 (v : BitVec 32) : v.toInt = Rx.s32 v.toNat := by
  rw [BitVec.toInt_eq_toNat_cond]; unfold Rx.s32; have := v.isLt; split <;> split <;> omega

theorem toInt8 (v : BitVec 8) : v.toInt = Rx.s8 (UInt8.ofBitVec v) := by
  rw [BitVec.toInt_eq_toNat_cond]; unfold Rx.s8
  have e : (UInt8.ofBitVec v).toNat = v.toNat := rfl
  rw [e]; have := v.isLt; split <;> split <;> omega

/-- `version := p[0] & protoVersionMask` -/
theorem hdrVersion (v : UInt8) (rest : List UInt8) :
    (Gen.Frame.hdrVersion ((v :: rest).map (·.toBitVec))).toNat = v.toNat % 128 := by
  simp only [Gen.Frame.hdrVersion, List.map_cons, List.getD_cons_zero, BitVec.toNat_and, UInt8.toNat_toBitVec]
  exact Nat.and_two_pow_sub_one_eq_mod _ 7

/-- `headSize`: 8 bytes below protocol 3, 9 from 3 on (the model reads 7 resp. 8 bytes after the version byte) -/
theorem hdrSize (ver : BitVec 8) :
    (Gen.Frame.hdrSize ver).toNat = (if ver.toNat < 3 then 7 else 8) + 1 := by
  unfold Gen.Frame.hdrSize
  by_cases h : BitVec.ult ver 0x3#8
  · have : ver.toNat < 3 := by simpa [BitVec.ult] using h
    simp [h, this]
  · have : ¬ ver.toNat < 3 := by simpa [BitVec.ult] using h
    simp [h, this]

/-- `readInt(p)` on four bytes: the model's `s32 (be32 …)` -/
theorem readInt (a b c d : UInt8) (rest : List UInt8) :
    (Gen.Frame.readInt ((a :: b :: c :: d :: rest).map (·.toBitVec))).toInt = Rx.s32 (Rx.be32 a b c d) := by
  rw [toInt32]
  congr 1
  simp only [Gen.Frame.readInt, List.map_cons, List.getD_cons_zero, List.getD_cons_succ]
  rw [be4_bv (w := 32) (by decide)]
  unfold Rx.be32; omega

/-- the header fields of a v3+ frame (9 bytes): stream, opcode, length as the model reads them (`x y z` are the previous
    values of `head.stream`, `head.op`, `head.length`, which the segment overwrites) -/
theorem hdrFieldsV3 (v fl s0 s1 op l0 l1 l2 l3 : UInt8) (x : BitVec 64) (y : BitVec 8) (z : BitVec 64) :
    let r := Gen.Frame.hdrFieldsV3 ([v, fl, s0, s1, op, l0, l1, l2, l3].map (·.toBitVec)) x y z
    r.1.toInt = Rx.s16 (Rx.be16 s0 s1) ∧ r.2.1 = op.toBitVec ∧
      r.2.2.toInt = Rx.s32 (Rx.be32 l0 l1 l2 l3) := by
  simp only [Gen.Frame.hdrFieldsV3, List.map_cons, List.map_nil, List.getD_cons_zero, List.getD_cons_succ, List.drop]
  refine ⟨?_, trivial, ?_⟩
  · rw [BitVec.toInt_signExtend_of_le (by decide), toInt16]
    congr 1
    exact be2_bv (by decide) s0 s1
  · rw [BitVec.toInt_signExtend_of_le (by decide)]
    exact readInt l0 l1 l2 l3 []

/-- the header fields of a v1/v2 frame (8 bytes); `x y z` as in `hdrFieldsV3` -/
theorem hdrFieldsV1 (v fl s0 op l0 l1 l2 l3 : UInt8) (x : BitVec 64) (y : BitVec 8) (z : BitVec 64) :
    let r := Gen.Frame.hdrFieldsV1 ([v, fl, s0, op, l0, l1, l2, l3].map (·.toBitVec)) x y z
    r.1.toInt = Rx.s8 s0 ∧ r.2.1 = op.toBitVec ∧ r.2.2.toInt = Rx.s32 (Rx.be32 l0 l1 l2 l3) := by
  simp only [Gen.Frame.hdrFieldsV1, List.map_cons, List.map_nil, List.getD_cons_zero, List.getD_cons_succ, List.drop]
  refine ⟨?_, trivial, ?_⟩
  · rw [BitVec.toInt_signExtend_of_le (by decide), toInt8]
  · rw [BitVec.toInt_signExtend_of_le (by decide)]
    exact readInt l0 l1 l2 l3 []

end GenTie.Rx
