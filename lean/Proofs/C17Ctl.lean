import Model.PoolCtl
import Proofs.Common
/-! controlConn against Session.Close (`Ctl` of `Model/PoolCtl.lean`). `stepG` is read as a relation (`Step`, one rule per way an
    action fires); the invariant, the closer's measure and the trap of the old close() are each one case analysis over its rules.
    `Model/CtlBeat.lean` (C06) is a coarser model of the same protocol, with the OLD close(). -/

namespace C17Ctl
open Ctl

theorem isRun (b c : Bool) : IsRun (stepG b c) (runG b c) :=
  ⟨fun _ => rfl, fun s a as => by rw [runG]; cases stepG b c s a <;> rfl⟩

/-- the heartbeat goroutine is at one of the points of its loop (`Inv.sending`, `Inv.started` spell this out) -/
abbrev Running (hb : HbPc) : Prop := hb = .select ∨ hb = .beat ∨ hb = .inReconn

theorem not_running {hb : HbPc} (h : hb = .exited ∨ hb = .notStarted) : ¬ Running hb := by
  rcases h with rfl | rfl <;> simp

/-- invariant under both close()s, any schedule: `c = true` is the code that exists (close() swaps the state to Closing),
    `c = false` the old close() with its CAS -/
structure Inv (c : Bool) (s : St) : Prop where
  sending : s.cl = .sending → s.state = .closing ∧ (s.hb = .select ∨ s.hb = .beat ∨ s.hb = .inReconn)
  started : s.state = .started → (s.hb = .select ∨ s.hb = .beat ∨ s.hb = .inReconn)
  own : s.hb = .inReconn ↔ ∃ k, s.rc = .hb k
  closingCl : s.state = .closing → s.cl ≠ .idle
  closed : s.state = .closing → (s.cl = .closeConn ∨ s.cl = .done) → (s.hb = .exited ∨ s.hb = .notStarted)
  fresh : s.hb = .notStarted → s.state ≠ .started
  startingHb : s.state = .starting → s.hb = .notStarted
  freshCas : c = false → s.hb = .notStarted → s.state = .starting
  swapClosing : c = true → s.cl ≠ .idle → s.state = .closing

theorem inv_init (c : Bool) : Inv c init := by
  constructor <;> simp [init]

/-- `Inv` reads the heartbeat goroutine's program counter only through `own` and through whether it is inside its loop:
    moving it from one point of the loop to another keeps every other field -/
theorem Inv.move {c : Bool} {s : St} (h : Inv c s) (hr : Running s.hb) {hb' : HbPc} {rc' : Rc} (hr' : Running hb')
    (hown : hb' = .inReconn ↔ ∃ k, rc' = .hb k) : Inv c { s with hb := hb', rc := rc' } :=
  { h with
    sending := fun hc => ⟨(h.sending hc).1, hr'⟩
    started := fun _ => hr'
    own := hown
    closed := fun a b => absurd hr (not_running (h.closed a b))
    fresh := fun a => absurd hr' (not_running (.inr a))
    startingHb := fun a => absurd hr (not_running (.inr (h.startingHb a)))
    freshCas := fun _ a => absurd hr' (not_running (.inr a)) }

/-- close() finds `cl = idle` only before Closing; if the state is not Started either, it is Starting -/
theorem Inv.starting_of_idle {c : Bool} {s : St} (h : Inv c s) (hc : s.cl = .idle) (hst : ¬ s.state = .started) :
    s.state = .starting := by
  cases e : s.state with
  | starting => rfl
  | started => exact absurd e hst
  | closing => exact absurd hc (h.closingCl e)

/-- `stepG` as guarded commands, one rule per way an action can fire -/
inductive Step (b c : Bool) (s : St) : Act → St → Prop
  | hbStart (hh : s.hb = .notStarted) (hs : s.state = .starting) : Step b c s .hbStart { s with state := .started, hb := .select }
  | hbStartLate (hh : s.hb = .notStarted) (hs : ¬ s.state = .starting) : Step b c s .hbStart { s with hb := .exited }
  | hbTimer (hg : s.hb = .select ∧ s.cl ≠ .sending) : Step b c s .hbTimer { s with hb := .beat }
  | hbQuit (hg : s.hb = .select ∧ s.cl = .sending) : Step b c s .hbQuit { s with hb := .exited, cl := .closeConn }
  | hbBeatOk (hh : s.hb = .beat) : Step b c s .hbBeatOk { s with hb := .select }
  | hbBeatBusy {k} (hh : s.hb = .beat) (hg : s.state = .closing ∨ s.rc ≠ .free) : Step b c s (.hbBeatFail k) { s with hb := .select }
  | hbBeatFail {k} (hh : s.hb = .beat) (hg : ¬ (s.state = .closing ∨ s.rc ≠ .free)) :
      Step b c s (.hbBeatFail k) { s with hb := .inReconn, rc := .hb k }
  | rcStepHb {k} (hr : s.rc = .hb (k + 1)) : Step b c s .rcStep { s with rc := .hb k }
  | rcStepOther {k} (hr : s.rc = .other (k + 1)) : Step b c s .rcStep { s with rc := .other k }
  | rcDoneRet (hr : s.rc = .hb 0) (hg : b = true ∧ s.state = .closing) : Step b c s .rcDone { s with rc := .free, hb := .exited }
  | rcDoneHb (hr : s.rc = .hb 0) (hg : ¬ (b = true ∧ s.state = .closing)) : Step b c s .rcDone { s with rc := .free, hb := .select }
  | rcDoneOther (hr : s.rc = .other 0) : Step b c s .rcDone { s with rc := .free }
  | otherBusy {k} (hg : s.state = .closing ∨ s.rc ≠ .free) : Step b c s (.otherEnter k) s
  | otherEnter {k} (hg : ¬ (s.state = .closing ∨ s.rc ≠ .free)) : Step b c s (.otherEnter k) { s with rc := .other k }
  | close (hc : s.cl = .idle) (hs : s.state = .started) : Step b c s .close { s with state := .closing, cl := .sending }
  | closeSwap (hc : s.cl = .idle) (hs : ¬ s.state = .started) (hb : c = true) :
      Step b c s .close { s with state := .closing, cl := .closeConn }
  | closeCas (hc : s.cl = .idle) (hs : ¬ s.state = .started) (hb : ¬ c = true) : Step b c s .close { s with cl := .closeConn }
  | closeConn (hc : s.cl = .closeConn) : Step b c s .closeConn { s with cl := .done }

theorem Step.of_stepG {b c : Bool} {s s' : St} {a : Act} (hs : stepG b c s a = some s') : Step b c s a s' := by
  revert hs; fun_cases stepG b c s a <;> intro hs <;> cases hs <;> constructor <;> assumption

theorem inv_step (c : Bool) (s s' : St) (a : Act) (h : Inv c s) (hs : stepG false c s a = some s') : Inv c s' := by
  cases Step.of_stepG hs with
  | hbTimer hg => exact h.move (.inl hg.1) (.inr (.inl rfl)) (by simp [← h.own, hg.1])
  | hbBeatOk hh | hbBeatBusy hh => exact h.move (.inr (.inl hh)) (.inl rfl) (by simp [← h.own, hh])
  | hbBeatFail hh => exact h.move (.inr (.inl hh)) (.inr (.inr rfl)) (by simp)
  | rcDoneHb hr => exact h.move (.inr (.inr (h.own.mpr ⟨0, hr⟩))) (.inl rfl) (by simp)
  | rcDoneRet _ hg => exact absurd hg.1 nofun
  | rcStepHb hr | rcStepOther hr | rcDoneOther hr => exact { h with own := by simpa [hr] using h.own }
  | otherBusy => exact h
  | otherEnter hg => exact { h with own := by simpa [Decidable.not_not.mp (not_or.mp hg).2] using h.own }
  | hbStart hh hst =>
    obtain ⟨st, hb, cl, rc⟩ := s
    subst hh hst
    exact { sending := fun hc => nomatch (h.sending hc).1
            started := fun _ => .inl rfl
            own := by simpa using h.own
            closingCl := nofun
            closed := nofun
            fresh := nofun
            startingHb := nofun
            freshCas := fun _ => nofun
            swapClosing := fun a b => nomatch h.swapClosing a b }
  | hbStartLate hh hst =>
    exact { h with
            sending := fun hc => absurd (h.sending hc).2 (not_running (.inr hh))
            started := fun a => absurd a (h.fresh hh)
            own := by simpa [hh] using h.own
            closed := fun _ _ => .inl rfl
            fresh := nofun
            startingHb := fun a => absurd a hst
            freshCas := fun _ => nofun }
  | hbQuit hg =>
    obtain ⟨st, hb, cl, rc⟩ := s
    obtain ⟨rfl, rfl⟩ := hg
    obtain rfl := (h.sending rfl).1
    exact { sending := nofun
            started := nofun
            own := by simpa using h.own
            closingCl := fun _ => nofun
            closed := fun _ _ => .inl rfl
            fresh := nofun
            startingHb := nofun
            freshCas := fun _ => nofun
            swapClosing := fun _ _ => rfl }
  | close hc hst =>
    exact { sending := fun _ => ⟨rfl, h.started hst⟩
            started := nofun
            own := h.own
            closingCl := fun _ => nofun
            closed := fun _ => nofun
            fresh := fun _ => nofun
            startingHb := nofun
            freshCas := fun _ a => absurd (h.started hst) (not_running (.inr a))
            swapClosing := fun _ _ => rfl }
  | closeSwap hc hst hb =>
    have hn := h.startingHb (h.starting_of_idle hc hst)
    exact { sending := nofun
            started := nofun
            own := h.own
            closingCl := fun _ => nofun
            closed := fun _ _ => .inr hn
            fresh := fun _ => nofun
            startingHb := nofun
            freshCas := fun e => nomatch hb.symm.trans e
            swapClosing := fun _ _ => rfl }
  | closeCas hc hst hb =>
    have hs := h.starting_of_idle hc hst
    exact { h with
            sending := nofun
            started := fun a => absurd a hst
            closingCl := fun a => nomatch hs.symm.trans a
            closed := fun a => nomatch hs.symm.trans a
            swapClosing := fun a => absurd a hb }
  | closeConn hc =>
    exact { h with
            sending := nofun
            closingCl := fun _ => nofun
            closed := fun a _ => h.closed a (.inl hc)
            swapClosing := fun a _ => h.swapClosing a (by rw [hc]; nofun) }

theorem inv_run (c : Bool) : ∀ (as : List Act) (s s' : St), Inv c s → runG false c s as = some s' → Inv c s' :=
  fun _ _ _ => (isRun false c).inv (inv_step c)

/-- steps the heartbeat goroutine takes along a run -/
def hbSteps : St → List Act → Nat
  | _, [] => 0
  | s, a :: as => match step s a with
    | some s' => (if hbAct s a then 1 else 0) + hbSteps s' as
    | none => 0

/-- the closer, once past the quit handshake, never waits again: only `hbQuit`, `close` and `closeConn` write `cl` -/
theorem past_send_step (b c : Bool) (s s' : St) (a : Act) (h : s.cl = .closeConn ∨ s.cl = .done)
    (hs : stepG b c s a = some s') : s'.cl = .closeConn ∨ s'.cl = .done := by
  cases Step.of_stepG hs with
  | hbQuit => exact .inl rfl
  | closeConn => exact .inr rfl
  | close hc | closeSwap hc | closeCas hc => rw [hc] at h; simp at h
  | _ => exact h

theorem mu_stepG (c : Bool) (s s' : St) (a : Act) (h : Inv c s) (hc : s.cl = .sending) (hs : stepG false c s a = some s') :
    s'.cl = .closeConn ∨ (s'.cl = .sending ∧ (if hbAct s a then 1 else 0) + mu s' ≤ mu s) := by
  obtain ⟨st, hb, cl, rc⟩ := s
  obtain rfl : cl = .sending := hc
  obtain ⟨rfl, hrun⟩ := h.sending rfl
  have hown := h.own
  simp only at hrun hown
  cases Step.of_stepG hs with
  | hbQuit => exact .inl rfl
  | hbStart hh | hbStartLate hh => exact absurd hrun (not_running (.inr hh))
  | hbTimer hg => exact absurd rfl hg.2
  | close hc | closeSwap hc | closeCas hc | closeConn hc => cases hc
  | hbBeatFail _ hg | otherEnter hg => exact absurd (.inl rfl) hg
  | rcDoneRet _ hg => exact absurd hg.1 nofun
  | hbBeatOk hh | hbBeatBusy hh => subst hh; exact .inr ⟨rfl, by simp [mu, hbAct]⟩
  | rcStepHb hr =>
    subst hr; obtain rfl := hown.mpr ⟨_, rfl⟩
    exact .inr ⟨rfl, by simp [mu, hbAct]; omega⟩
  | rcDoneHb hr =>
    subst hr; obtain rfl := hown.mpr ⟨_, rfl⟩
    exact .inr ⟨rfl, by simp [mu, hbAct]⟩
  | rcStepOther hr | rcDoneOther hr =>
    -- the attempt is somebody else's, so the heartbeat goroutine is not in `inReconn` and `mu` does not look at `rc`
    subst hr
    exact .inr ⟨rfl, by rcases hrun with rfl | rfl | rfl <;> simp [mu, hbAct] at hown ⊢⟩
  | otherBusy => exact .inr ⟨rfl, by simp [hbAct]⟩

theorem mu_run : ∀ (as : List Act) (s s' : St), Inv true s → s.cl = .sending → run s as = some s' → s'.cl = .sending →
    hbSteps s as + mu s' ≤ mu s
  | [], s, s', _, _, hr, _ => by cases hr; simp [hbSteps]
  | a :: as, s, s', h, hc, hr, hc' => by
    obtain ⟨s1, hs1, hr⟩ := (isRun false true).cons_iff.mp hr
    rcases mu_stepG true s s1 a h hc hs1 with h1 | ⟨h1, h2⟩
    · rcases (isRun false true).inv (past_send_step false true) (Or.inl h1) hr with h | h <;> simp [h] at hc'
    · have ih := mu_run as s1 s' (inv_step true s s1 a h hs1) h1 hr hc'
      have hs1' : step s a = some s1 := hs1
      simp only [hbSteps, hs1']
      omega

theorem hb_enabled (s : St) (h : Inv true s) (hc : s.cl = .sending) : ∃ a, hbAct s a = true ∧ (step s a).isSome = true := by
  have hsend := h.sending; have hown := h.own
  obtain ⟨st, hb, cl, rc⟩ := s
  simp only at hc; subst hc
  rcases (hsend rfl).2 with h | h | h <;> simp only at h <;> subst h
  · exact ⟨.hbQuit, rfl, by simp [step, stepG]⟩
  · exact ⟨.hbBeatOk, rfl, by simp [step, stepG]⟩
  · obtain ⟨k, hk⟩ := hown.mp rfl
    simp only at hk; subst hk
    cases k with
    | zero => exact ⟨.rcDone, by simp [hbAct], by simp [step, stepG]⟩
    | succ k => exact ⟨.rcStep, by simp [hbAct], by simp [step, stepG]⟩

/-- OLD close() (CAS, before the repair of KF-C17-4): the heartbeat goroutine started after close() gave up its CAS runs for good -/
structure Late (s : St) : Prop where
  cl : s.cl = .done
  st : s.state = .started
  hb : Running s.hb

theorem late_step (s s' : St) (a : Act) (h : Late s) (hs : stepG false false s a = some s') : Late s' := by
  have keep : ∀ {hb' rc'}, Running hb' → Late { s with hb := hb', rc := rc' } := fun hr => ⟨h.cl, h.st, hr⟩
  cases Step.of_stepG hs with
  | hbStart hh | hbStartLate hh => exact absurd h.hb (not_running (.inr hh))
  | hbQuit hg => simp [h.cl] at hg
  | close hc | closeSwap hc | closeCas hc | closeConn hc => simp [h.cl] at hc
  | rcDoneRet _ hg => exact absurd hg.1 nofun
  | hbTimer => exact keep (.inr (.inl rfl))
  | hbBeatOk | hbBeatBusy | rcDoneHb => exact keep (.inl rfl)
  | hbBeatFail => exact keep (.inr (.inr rfl))
  | rcStepHb | rcStepOther | rcDoneOther | otherEnter => exact keep h.hb
  | otherBusy => exact h

/-- seeded variant (the heartbeat goroutine returns after a reconnect when it sees Closing): the closer stays blocked -/
structure Stranded (s : St) : Prop where
  cl : s.cl = .sending
  hb : s.hb = .exited
  st : s.state = .closing
  rc : s.rc = .free

/-- a stranded state enables nothing but another goroutine's reconnect() call, which returns at once (under either close()) -/
theorem stranded_step {c : Bool} (s s' : St) (a : Act) (h : Stranded s) (hs : stepG true c s a = some s') : Stranded s' := by
  obtain ⟨st, hb, cl, rc⟩ := s
  obtain ⟨rfl, rfl, rfl, rfl⟩ := h
  cases a <;> simp [stepG] at hs
  subst hs; exact ⟨rfl, rfl, rfl, rfl⟩

end C17Ctl
