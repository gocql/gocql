import Model.Executor
/-! `queryMetrics` (Model/Executor.lean `QM`): the association-list implementation computes, for every history of
    attempts, exactly the documented numbers (`Executor.Spec.obsAt`, `Executor.Spec.avgLatency`). -/
namespace Executor

/-- the new attempt adds `(1, lat)` to the entry of its host (created if need be) and leaves the other hosts' alone -/
theorem host_bump (l : List HostM) (h lat h' : Nat) :
    hostAtt (bumpHost l h lat) h' = hostAtt l h' + (if h' = h then 1 else 0) ∧
    hostTot (bumpHost l h lat) h' = hostTot l h' + (if h' = h then lat else 0) := by
  induction l with
  | nil =>
    by_cases e : h' = h
    · simp [bumpHost, hostAtt, hostTot, e]
    · have e' : ¬ h = h' := fun g => e g.symm
      simp [bumpHost, hostAtt, hostTot, e, e']
  | cons x xs ih =>
    by_cases hx : x.host = h
    · by_cases e : h' = h
      · subst e; simp [bumpHost, hostAtt, hostTot, hx]
      · have e' : ¬ h = h' := fun g => e g.symm
        simp [bumpHost, hostAtt, hostTot, hx, e, e']
    · by_cases e : x.host = h'
      · have : ¬ h' = h := by intro g; exact hx (by rw [e, g])
        simp [bumpHost, hostAtt, hostTot, e, this]
      · simp [bumpHost, hostAtt, hostTot, hx, e, ih]

/-- a per-host quantity `f` that the new attempt raises by `d` on its host: the sum over all hosts grows by `d` -/
theorem sum_bump (f : HostM → Nat) (d h lat : Nat) (hnew : f ⟨h, 1, lat⟩ = d)
    (hupd : ∀ x : HostM, f ⟨h, x.attempts + 1, x.total + lat⟩ = f x + d) :
    ∀ l : List HostM, ((bumpHost l h lat).map f).sum = (l.map f).sum + d
  | [] => by simp [bumpHost, hnew]
  | x :: xs => by
    by_cases hx : x.host = h
    · simp [bumpHost, hx, hupd]; omega
    · simp [bumpHost, hx, sum_bump f d h lat hnew hupd xs]; omega

/-- `pre` = the attempts made so far, each as (host, latency) -/
structure MInv (pre : List (Nat × Nat)) (q : QM) : Prop where
  total : q.totalAttempts = pre.length
  host : ∀ h, hostAtt q.m h = (pre.filter (·.1 == h)).length ∧ hostTot q.m h = ((pre.filter (·.1 == h)).map (·.2)).sum
  sumA : (q.m.map (·.attempts)).sum = pre.length
  sumT : (q.m.map (·.total)).sum = (pre.map (·.2)).sum

theorem minv_attempt (pre : List (Nat × Nat)) (q : QM) (h lat : Nat) (hi : MInv pre q) :
    MInv (pre ++ [(h, lat)]) (q.attempt h lat).1 := by
  refine ⟨by simp [QM.attempt, hi.total], fun h' => ?_, ?_, ?_⟩
  · simp only [QM.attempt, host_bump, hi.host, List.filter_append, List.length_append, List.map_append, List.sum_append]
    by_cases e : h' = h
    · subst e; simp
    · have : ¬ h = h' := fun g => e g.symm
      simp [e, this]
  · simp [QM.attempt, sum_bump (·.attempts) 1 _ _ rfl (fun _ => rfl), hi.sumA]
  · simp [QM.attempt, sum_bump (·.total) lat _ _ rfl (fun _ => rfl), hi.sumT]

theorem obsAt_mid (pre rest : List (Nat × Nat)) (h lat : Nat) :
    Spec.obsAt (pre ++ (h, lat) :: rest) pre.length =
      ⟨pre.length, ((pre ++ [(h, lat)]).filter (·.1 == h)).length, (((pre ++ [(h, lat)]).filter (·.1 == h)).map (·.2)).sum⟩ := by
  have ht : (pre ++ (h, lat) :: rest).take (pre.length + 1) = pre ++ [(h, lat)] := by
    rw [List.take_append]
    simp [List.take_of_length_le]
  have hg : (pre ++ (h, lat) :: rest).getD pre.length (0, 0) = (h, lat) := by
    simp [List.getD_eq_getElem?_getD]
  simp only [Spec.obsAt, ht, hg]

theorem run_spec : ∀ (rest pre : List (Nat × Nat)) (q : QM), MInv pre q →
    MInv (pre ++ rest) (q.run rest).1 ∧
    (q.run rest).2 = (List.range rest.length).map (fun j => Spec.obsAt (pre ++ rest) (pre.length + j))
  | [], pre, q, hi => by simp [QM.run, hi]
  | (h, lat) :: rest, pre, q, hi => by
    have h1 := minv_attempt pre q h lat hi
    have ih := run_spec rest (pre ++ [(h, lat)]) (q.attempt h lat).1 h1
    have happ : pre ++ [(h, lat)] ++ rest = pre ++ (h, lat) :: rest := by simp
    rw [happ] at ih
    refine ⟨ih.1, ?_⟩
    simp only [QM.run]
    rw [ih.2]
    simp only [List.length_cons, List.range_succ_eq_map, List.map_cons, List.map_map, Nat.add_zero]
    congr 1
    · rw [obsAt_mid]
      have := h1.host h
      simp only [QM.attempt] at *
      simp [hi.total, *]
    · apply List.map_congr_left
      intro j _
      simp [List.length_append, Nat.add_assoc, Nat.add_comm 1 j]

theorem latency_spec (pre : List (Nat × Nat)) (q : QM) (hi : MInv pre q) : q.latency = Spec.avgLatency pre := by
  simp [QM.latency, Spec.avgLatency, hi.sumA, hi.sumT]

end Executor
