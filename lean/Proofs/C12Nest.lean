import Proofs.C12Conf
import Proofs.C12Coll
/-!
# C12: conformance of `marshal` with the specification by structural induction for every nesting of list / set / map /
tuple / UDT, over any scalar layer that conforms (`ScalarConf`; helpers; the property theorems are in Proofs/C12.lean).
`C12Nest.Conf`, `wfScalar`, `ScalarConf` are declared in Proofs/C12Conf.lean, which the scalar half imports as well.
-/
namespace C12Nest
open ValueSpec Marshal C12Bytes
open C12Coll (isPtr)

/- every Go value inside `g` is a value of its Go type -/
mutual
def wf : GoVal → Prop
  | .ptr v => wf v
  | .slice _ vs => wfAll vs
  | .array vs => wfAll vs
  | .ifaces vs => wfAll vs
  | .mapset vs => wfAll vs
  | .struct vs => wfAll vs
  | .udtmap _ _ vs => wfAll vs
  | .udtstruct _ vs => wfAll vs
  | .map _ kvs => wfPairs kvs
  | g => wfScalar g
def wfAll : List GoVal → Prop
  | [] => True
  | v :: vs => wf v ∧ wfAll vs
def wfPairs : List (GoVal × GoVal) → Prop
  | [] => True
  | (k, v) :: r => wf k ∧ wf v ∧ wfPairs r
end

/-- no field name twice (a UDT definition: `CREATE TYPE` refuses duplicate field names) -/
def nodupB : List String → Bool
  | [] => true
  | n :: r => !r.contains n && nodupB r

/- the type trees of this section: scalars, list, set, map, NON-EMPTY tuples (Cassandra has no tuple without fields;
    gocql writes a nil slice for one) and UDTs with at least one field, as many names as types and no name twice, at
    any depth -/
mutual
def nest : CqlTy → Bool
  | .list e => nest e
  | .set e => nest e
  | .map k v => nest k && nest v
  | .tuple ts => !ts.isEmpty && nestAll ts
  | .udt names ts => !names.isEmpty && nodupB names && names.length == ts.length && nestAll ts
  | _ => true
def nestAll : List CqlTy → Bool
  | [] => true
  | t :: ts => nest t && nestAll ts
end

/-- the conformance statement for one Go value, every column type -/
def ConfAt (p : Nat) (g : GoVal) : Prop :=
  ∀ t, nest t = true → wf g → documented t g = true → excluded p t g = false → Conf p t (marshal p t g) (interp t g)

/-! ### a scalar column: a Go value that is not a pointer goes to the scalar functions -/

theorem interp_scalarTy {t : CqlTy} (ht : Marshal.CqlTy.isScalar t = true) {g : GoVal}
    (hg : isPtr g = false) : interp t g = interpScalar t g := by
  rw [interp.eq_def]
  split
  · cases hg
  · cases hg
  · cases t <;> first | rfl | cases ht

theorem documented_scalarTy {t : CqlTy} (ht : Marshal.CqlTy.isScalar t = true) {g : GoVal}
    (hg : isPtr g = false) : documented t g = documentedScalar t g := by
  rw [documented.eq_def]
  split
  · cases hg
  · cases hg
  · cases t <;> first | rfl | cases ht

theorem excluded_scalarTy (p : Nat) {t : CqlTy} (ht : Marshal.CqlTy.isScalar t = true) {g : GoVal}
    (hg : isPtr g = false) : excluded p t g = excludedScalar t g := by
  rw [excluded.eq_def]
  split
  · cases hg
  · cases hg
  · cases t <;> first | rfl | cases ht

theorem wfScalar_of_wf {g : GoVal} : wf g → wfScalar g := by
  cases g <;> first | exact id | exact fun _ => trivial

theorem scalarTy_conf {p : Nat} (S : ScalarConf p) {t : CqlTy} (ht : Marshal.CqlTy.isScalar t = true) {g : GoVal}
    (hg : isPtr g = false) (hw : wf g) (hd : documented t g = true)
    (hx : excluded p t g = false) : Conf p t (marshal p t g) (interp t g) := by
  rw [C12Coll.marshal_scalarTy p ht hg, interp_scalarTy ht hg]
  rw [documented_scalarTy ht hg] at hd
  rw [excluded_scalarTy p ht hg] at hx
  exact S t g ht (wfScalar_of_wf hw) hd hx

/-! ### results of the loops: an error, or a body with a property -/

/-- `r` is an error, or bytes with the property `P` when they fit a frame; never the nil slice, a panic or an
    unmodelled combination -/
def Body (r : MRes) (P : Bytes → Prop) : Prop :=
  match r with
  | .ok (some b) => b.length < 2^31 → P b
  | .err => True
  | _ => False

/-- what is known of one item written with `f`: an error, an item `f` refuses, or a frame with `Q` when it fits -/
inductive ItemOK (f : Option Bytes → Option Bytes) (Q : Bytes → Prop) : MRes → Prop
  | err : ItemOK f Q .err
  | refused {item} : f item = none → ItemOK f Q (.ok item)
  | frame {item e} : f item = some e → (e.length < 2^31 → Q e) → ItemOK f Q (.ok item)

theorem ItemOK.ok (f : Option Bytes → Option Bytes) (item : Option Bytes) :
    ItemOK f (fun e => f item = some e) (.ok item) := by
  cases h : f item with
  | none => exact .refused h
  | some e => exact .frame h fun _ => rfl

/-- one more item in front of the rest (`C12Coll.consItem`: the step of every loop and of `wrapSeq`) -/
theorem Body.consItem {f : Option Bytes → Option Bytes} {r rr : MRes} {Q P R : Bytes → Prop} (hi : ItemOK f Q r)
    (ih : Body rr P) (hR : ∀ e rest, Q e → P rest → R (e ++ rest)) : Body (C12Coll.consItem f r rr) R := by
  unfold C12Coll.consItem
  cases hi with
  | err => trivial
  | refused he => simp only [he]; trivial
  | frame he hq =>
    simp only [he]
    rcases rr with (_ | rest) | _ | _ | _
    · exact ih
    · intro hl
      rw [List.length_append] at hl
      exact hR _ rest (hq (by omega)) (ih (by omega))
    · trivial
    · exact ih
    · exact ih

theorem Body.conf {p : Nat} {t : CqlTy} {r : MRes} {P : Bytes → Prop} {oc : Option CqlVal} (h : Body r P)
    (hP : ∀ b, P b → ∃ c, oc = some c ∧ c.isNull = false ∧ specEnc p t c = some b) : Conf p t r oc := by
  cases r with
  | ok ob =>
    cases ob with
    | none => exact h.elim
    | some b => exact fun hl => hP b (h hl)
  | err => trivial
  | crash => exact h
  | unmodelled => exact h

theorem elemFrame_len (p : Nat) (b e : Bytes) (h : elemFrame p (some b) = some e) : b.length ≤ e.length := by
  simp only [elemFrame] at h
  split at h <;> split at h <;> cases h <;> simp [List.length_append]

/-- one collection item: an error, an item too long for its length field, or the specification's frame of the
    documented meaning; null only from protocol 3 (`hnn`: under protocol ≤ 2 the value is not null) -/
theorem item_conf (p : Nat) (t : CqlTy) (r : MRes) (oc : Option CqlVal) (h : Conf p t r oc)
    (hnn : p ≤ 2 → oc ≠ some .null) :
    ItemOK (collItem p) (fun e => ∃ c, oc = some c ∧ elemOrNull p c.isNull (specEnc p t c) = some e) r := by
  cases r with
  | ok item =>
    cases item with
    | none =>
      by_cases hp : p ≥ 3
      · exact .frame (C12Coll.collItem_none p hp) fun _ => ⟨.null, h, by simp [elemOrNull, CqlVal.isNull, elemFrame, hp]⟩
      · exact absurd h (hnn (by omega))
    | some b =>
      cases he : elemFrame p (some b) with
      | none => exact .refused (by rw [C12Coll.collItem_some, he])
      | some e =>
        refine .frame (by rw [C12Coll.collItem_some, he]) fun hl => ?_
        have := elemFrame_len p b e he
        obtain ⟨c, hc, hnn', hs⟩ := h (by omega)
        exact ⟨c, hc, by simp [elemOrNull, hnn', hs, he]⟩
  | err => exact .err
  | crash => exact h.elim
  | unmodelled => exact h.elim

theorem map_ne_null {α : Type} (f : α → CqlVal) (hf : ∀ a, f a ≠ .null) (o : Option α) : o.map f ≠ some .null := by
  cases o with
  | none => nofun
  | some a => exact fun h => hf a (Option.some.inj h)

/-- only an untyped nil, a nil `[]byte` on a text column and an empty net.IP mean null -/
theorem interpScalar_null {t : CqlTy} {g : GoVal} (h : interpScalar t g = some .null) :
    (g.isNil || marshalsNil g) = true := by
  unfold interpScalar at h
  split at h
  case h_1 => rfl
  -- every other arm of `interpScalar` is `none`, a constructor other than null, or a `map` of one (`map_ne_null`);
  -- what is left are the two arms that test for nil / empty: `.bytes _ true _` on a text column and `.ip []`
  all_goals (repeat' split at h) <;> first
    | (cases h; done)
    | exact absurd h (map_ne_null _ nofun _)
    | simp_all [GoVal.isNil, marshalsNil]

theorem interp_null_noptr (g : GoVal) (t : CqlTy) (hg : isPtr g = false)
    (h : interp t g = some .null) : (g.isNil || marshalsNil g) = true := by
  cases t with
  | list et | set et =>
    cases g with
    | nil => rfl
    | slice isNil vs =>
      cases isNil
      · exact absurd h (map_ne_null _ nofun _)
      · rfl
    | array vs | ifaces vs | mapset vs => exact absurd h (map_ne_null _ nofun _)
    | nilptr | ptr _ => cases hg
    | _ => cases h
  | map kt vt =>
    cases g with
    | nil => rfl
    | map isNil kvs =>
      cases isNil
      · exact absurd h (map_ne_null _ nofun _)
      · rfl
    | nilptr | ptr _ => cases hg
    | _ => cases h
  | tuple ts =>
    cases g with
    | nil => rfl
    | ifaces vs | struct vs | slice _ vs | array vs =>
      by_cases hl : vs.length = ts.length
      · exact absurd ((if_pos hl).symm.trans h) (map_ne_null _ nofun _)
      · exact absurd ((if_neg hl).symm.trans h) nofun
    | nilptr | ptr _ => cases hg
    | _ => cases h
  | udt names ts =>
    cases g with
    | udtmap _ fnames vs | udtstruct fnames vs => exact absurd h (map_ne_null _ nofun _)
    | nilptr | ptr _ => cases hg
    | _ => cases h
  | _ => exact interpScalar_null ((interp_scalarTy rfl hg).symm.trans h)

/-- a Go value whose documented meaning is null is in the `nullish` class (what `excludedElems` / `excludedPairs` keep
    out of collections under protocol ≤ 2) -/
theorem interp_null : ∀ (v : GoVal) (t : CqlTy), interp t v = some .null → nullish v = true
  | v, t, h => by
    cases v with
    | ptr w => exact interp_null w t h
    | nilptr => rfl
    | _ => exact interp_null_noptr _ t rfl h

theorem elem_item (p : Nat) {v : GoVal} (hv : ConfAt p v) {t : CqlTy} (hn : nest t = true) (hw : wf v)
    (hd : documented t v = true) (hx : excluded p t v = false) (hnl : (decide (p ≤ 2) && nullish v) = false) :
    ItemOK (collItem p) (fun e => ∃ c, interp t v = some c ∧ elemOrNull p c.isNull (specEnc p t c) = some e)
      (marshal p t v) :=
  item_conf p t _ _ (hv t hn hw hd hx) fun hp hnull => by simp [hp, interp_null v t hnull] at hnl

def ConfElems (p : Nat) (et : CqlTy) (n : Nat) (r : MRes) (ocs : Option (List CqlVal)) : Prop :=
  Body r fun body => ∃ cs, ocs = some cs ∧ cs.length = n ∧ specEncElems p et cs = some body

theorem elems_conf (p : Nat) (et : CqlTy) (hn : nest et = true) :
    ∀ vs : List GoVal, (∀ v, sizeOf v < sizeOf vs → ConfAt p v) → wfAll vs → documentedAll et vs = true →
      excludedElems p et vs = false → ConfElems p et vs.length (marshalElems p et vs) (interpList et vs)
  | [], _, _, _, _ => fun _ => ⟨[], rfl, rfl, rfl⟩
  | v :: vs, H, hw, hd, hx => by
    simp only [documentedAll, excludedElems, Bool.and_eq_true, Bool.or_eq_false_iff] at hd hx
    have iv := elem_item p (H v (by simp; omega)) hn hw.1 hd.1 hx.1.1 hx.1.2
    have ih := elems_conf p et hn vs (fun w hw => H w (by simp; omega)) hw.2 hd.2 hx.2
    rw [C12Coll.marshalElems_cons, interpList]
    exact Body.consItem iv ih fun e rest ⟨c, hc, hsc⟩ ⟨cs, hcs, hlen, hspec⟩ =>
      ⟨c :: cs, by simp [hc, hcs], by simp [hlen], by simp [specEncElems, hsc, hspec]⟩

theorem wrapSeq_conf {p n : Nat} {t : CqlTy} {r : MRes} {P : Bytes → Prop} {oc : Option CqlVal} (h : Body r P)
    (hP : ∀ c rest, countFrame p n = some c → P rest →
      ∃ v, oc = some v ∧ v.isNull = false ∧ specEnc p t v = some (c ++ rest)) : Conf p t (wrapSeq p n r) oc := by
  rw [C12Coll.wrapSeq_eq, C12Coll.collSize_count]
  exact (Body.consItem (R := fun b => ∃ v, oc = some v ∧ v.isNull = false ∧ specEnc p t v = some b)
    (ItemOK.ok (fun _ => countFrame p n) none) h fun c rest hc hr => hP c rest hc hr).conf fun _ hb => hb

theorem seq_conf (p : Nat) (et : CqlTy) (n : Nat) (r : MRes) (ocs : Option (List CqlVal))
    (h : ConfElems p et n r ocs) :
    Conf p (.list et) (wrapSeq p n r) (ocs.map CqlVal.list) ∧ Conf p (.set et) (wrapSeq p n r) (ocs.map CqlVal.list) := by
  constructor <;>
  · refine wrapSeq_conf h fun c rest hc ⟨cs, hcs, hlen, hspec⟩ => ⟨.list cs, by simp [hcs], rfl, ?_⟩
    simp [specEnc, hlen, hc, hspec]

def ConfPairs (p : Nat) (kt vt : CqlTy) (n : Nat) (r : MRes) (ocs : Option (List (CqlVal × CqlVal))) : Prop :=
  Body r fun body => ∃ cs, ocs = some cs ∧ cs.length = n ∧ specEncPairs p kt vt cs = some body

theorem pairs_conf (p : Nat) (kt vt : CqlTy) (hk : nest kt = true) (hv : nest vt = true) :
    ∀ kvs : List (GoVal × GoVal), (∀ v, sizeOf v < sizeOf kvs → ConfAt p v) → wfPairs kvs →
      documentedPairs kt vt kvs = true → excludedPairs p kt vt kvs = false →
      ConfPairs p kt vt kvs.length (marshalPairs p kt vt kvs) (interpPairs kt vt kvs)
  | [], _, _, _, _ => fun _ => ⟨[], rfl, rfl, rfl⟩
  | (k, v) :: r, H, hw, hd, hx => by
    simp only [documentedPairs, excludedPairs, Bool.and_eq_true, Bool.or_eq_false_iff, Bool.and_eq_false_imp,
      decide_eq_true_eq] at hd hx
    have ik := elem_item p (H k (by simp; omega)) hk hw.1 hd.1.1 hx.1.1.1 (by simpa using fun hp => (hx.1.2 hp).1)
    have iv := elem_item p (H v (by simp; omega)) hv hw.2.1 hd.1.2 hx.1.1.2 (by simpa using fun hp => (hx.1.2 hp).2)
    have ih := pairs_conf p kt vt hk hv r (fun w hw => H w (by simp; omega)) hw.2.2 hd.2 hx.2
    rw [C12Coll.marshalPairs_cons, interpPairs]
    refine Body.consItem ik (Body.consItem iv ih (R := fun b => ∃ ve rest, b = ve ++ rest ∧
        (∃ c, interp vt v = some c ∧ elemOrNull p c.isNull (specEnc p vt c) = some ve) ∧
        ∃ cs, interpPairs kt vt r = some cs ∧ cs.length = r.length ∧ specEncPairs p kt vt cs = some rest)
      fun ve rest hb hr => ⟨ve, rest, rfl, hb, hr⟩) ?_
    rintro ke _ ⟨a, ha, hsa⟩ ⟨ve, rest, rfl, ⟨b, hb, hsb⟩, cs, hcs, hlen, hspec⟩
    exact ⟨(a, b) :: cs, by simp [ha, hb, hcs], by simp [hlen], by simp [specEncPairs, hsa, hsb, hspec]⟩

theorem map_conf (p : Nat) (kt vt : CqlTy) (n : Nat) (r : MRes) (ocs : Option (List (CqlVal × CqlVal)))
    (h : ConfPairs p kt vt n r ocs) :
    Conf p (.map kt vt) (wrapSeq p n r) (ocs.map CqlVal.map) := by
  refine wrapSeq_conf h fun c rest hc ⟨cs, hcs, hlen, hspec⟩ => ⟨.map cs, by simp [hcs], rfl, ?_⟩
  simp [specEnc, hlen, hc, hspec]

/-! ### tuples and UDTs: every field through appendBytes -/

def ConfFields (p : Nat) (ts : List CqlTy) (r : MRes) (ocs : Option (List CqlVal)) : Prop :=
  Body r fun body => ∃ cs, ocs = some cs ∧ specEncFields p ts cs = some body

/-- a field result written with appendBytes: nil is −1, bytes go with their length -/
theorem field_itemOK {p : Nat} {t : CqlTy} {r0 : MRes} {oc : Option CqlVal} (h0 : Conf p t r0 oc) :
    ItemOK (fun item => some (appendBytes item))
      (fun e => ∃ c, oc = some c ∧ fieldOrNull c.isNull (specEnc p t c) = some e) r0 := by
  cases r0 with
  | ok item =>
    refine .frame rfl fun hl => ?_
    cases item with
    | none => exact ⟨.null, h0, by simp [fieldOrNull, CqlVal.isNull, bytesFrame, C12Coll.appendBytes_null]⟩
    | some b =>
      have hb : b.length < 2^31 := by
        rw [C12Coll.appendBytes_some] at hl
        simp [List.length_append] at hl; omega
      obtain ⟨c, hc, hnn, hs⟩ := h0 hb
      have hb' : b.length < 2147483648 := hb
      exact ⟨c, hc, by simp [fieldOrNull, hnn, hs, hb', bytesFrame, C12Coll.appendBytes_some]⟩
  | err => exact .err
  | crash => exact h0.elim
  | unmodelled => exact h0.elim

theorem fields_cons {p : Nat} {t : CqlTy} {ts : List CqlTy} {r0 rr : MRes} {oc : Option CqlVal}
    {ocs : Option (List CqlVal)} (h0 : Conf p t r0 oc) (ih : ConfFields p ts rr ocs) :
    ConfFields p (t :: ts) (C12Coll.consItem (fun item => some (appendBytes item)) r0 rr)
      (do let a ← oc; let r ← ocs; some (a :: r)) :=
  Body.consItem (field_itemOK h0) ih fun e rest ⟨c, hc, hsc⟩ ⟨cs, hcs, hspec⟩ =>
    ⟨c :: cs, by simp [hc, hcs], by simp [specEncFields, hsc, hspec]⟩

theorem interp_nil (t : CqlTy) (hd : documented t .nil = true) : interp t .nil = some .null := by
  cases t <;> first | rfl | cases hd

/-- both field loops of marshalTuple: `L` is the loop, `skip` its test for writing −1 without calling Marshal
    (`elem == nil` for []interface{}, a nil pointer field for struct / slice / array) -/
theorem tupleLoop_conf (p : Nat) (L : List CqlTy → List GoVal → MRes) (skip : GoVal → Bool)
    (hnil : ∀ ts vs, ts = [] ∨ vs = [] → L ts vs = .ok (some []))
    (hcons : ∀ t ts v vs, L (t :: ts) (v :: vs) = C12Coll.consItem (fun item => some (appendBytes item))
      (if skip v = true then MRes.ok none else marshal p t v) (L ts vs))
    (hskip : ∀ t v, skip v = true → documented t v = true → interp t v = some .null) :
    ∀ (ts : List CqlTy) (vs : List GoVal), (∀ v, sizeOf v < sizeOf vs → ConfAt p v) →
      nestAll ts = true → wfAll vs → documentedFields ts vs = true → excludedFields p ts vs = false →
      ConfFields p ts (L ts vs) (interpFields ts vs)
  | [], _, _, _, _, _, _ => by rw [hnil _ _ (.inl rfl)]; simp [interpFields, ConfFields, Body, specEncFields]
  | _ :: _, [], _, _, _, _, _ => by rw [hnil _ _ (.inr rfl)]; simp [interpFields, ConfFields, Body, specEncFields]
  | t :: ts, v :: vs, H, hn, hw, hd, hx => by
    simp only [nestAll, documentedFields, excludedFields, Bool.and_eq_true, Bool.or_eq_false_iff] at hn hd hx
    have ih := tupleLoop_conf p L skip hnil hcons hskip ts vs (fun w hw => H w (by simp; omega)) hn.2 hw.2 hd.2 hx.2
    have h0 : Conf p t (if skip v = true then MRes.ok none else marshal p t v) (interp t v) := by
      by_cases hs : skip v = true
      · rw [if_pos hs]; exact hskip t v hs hd.1
      · rw [if_neg hs]; exact H v (by simp; omega) t hn.1 hw.1 hd.1 hx.1
    rw [hcons, interpFields]
    exact fields_cons h0 ih

theorem ifaces_conf (p : Nat) : ∀ (ts : List CqlTy) (vs : List GoVal), (∀ v, sizeOf v < sizeOf vs → ConfAt p v) →
    nestAll ts = true → wfAll vs → documentedFields ts vs = true → excludedFields p ts vs = false →
    ConfFields p ts (marshalTupleIfaces p ts vs) (interpFields ts vs) :=
  tupleLoop_conf p (marshalTupleIfaces p) GoVal.isNil
    (fun ts vs h => by
      rcases h with rfl | rfl
      · simp [marshalTupleIfaces]
      · cases ts <;> simp [marshalTupleIfaces])
    (C12Coll.marshalTupleIfaces_cons p)
    (fun t v hs hd => by have := C12Coll.isNil_eq hs; subst this; exact interp_nil t hd)

theorem fields_conf (p : Nat) : ∀ (ts : List CqlTy) (vs : List GoVal), (∀ v, sizeOf v < sizeOf vs → ConfAt p v) →
    nestAll ts = true → wfAll vs → documentedFields ts vs = true → excludedFields p ts vs = false →
    ConfFields p ts (marshalTupleFields p ts vs) (interpFields ts vs) :=
  tupleLoop_conf p (marshalTupleFields p) GoVal.isNilPtr
    (fun ts vs h => by
      rcases h with rfl | rfl
      · simp [marshalTupleFields]
      · cases ts <;> simp [marshalTupleFields])
    (C12Coll.marshalTupleFields_cons p)
    (fun t v hs _ => by have := C12Coll.isNilPtr_eq hs; subst this; rfl)

theorem tuple_conf (p : Nat) (ts : List CqlTy) (hne : ts ≠ []) {vs : List GoVal} (hl : vs.length = ts.length)
    {r : MRes} (h : ConfFields p ts r (interpFields ts vs)) :
    Conf p (.tuple ts) (if vs.length ≠ ts.length then .err else wrapTuple ts r)
      (if vs.length = ts.length then (interpFields ts vs).map CqlVal.tuple else none) := by
  rw [if_neg (not_not_intro hl), if_pos hl, wrapTuple, if_neg hne]
  exact h.conf fun b ⟨cs, hcs, hspec⟩ => ⟨.tuple cs, by simp [hcs], rfl, by simp [specEnc, hspec]⟩

theorem udt_conf (p : Nat) (names : List String) (ts : List CqlTy) (r : MRes) (ocs : Option (List CqlVal))
    (h : ConfFields p ts r ocs) : Conf p (.udt names ts) r (ocs.map CqlVal.tuple) :=
  h.conf fun b ⟨cs, hcs, hspec⟩ => ⟨.tuple cs, by simp [hcs], rfl, by simp [specEnc, hspec]⟩

/-! ### UDT: for each field of the type, in order, the Go entry of that name (absent → null), `appendBytes` -/

theorem lookupIdx_some (n : String) (l : List String) (k i : Nat) (h : lookupIdx n l k = some i) :
    k ≤ i ∧ l[i - k]? = some n := by
  revert h
  fun_induction lookupIdx n l k <;> intro h
  case case1 => cases h
  case case2 => cases h; simp [*]
  case case3 m r k hne ih =>
    obtain ⟨h1, h2⟩ := ih h
    refine ⟨by omega, ?_⟩
    rw [show i - k = (i - (k + 1)) + 1 by omega]
    simpa using h2

theorem lookupIdx_nodup (n : String) : ∀ (l : List String) (k j : Nat), nodupB l = true → l[j]? = some n →
    lookupIdx n l k = some (k + j)
  | [], _, _, _, h => by simp at h
  | m :: r, k, j, hnd, h => by
    simp only [nodupB, Bool.and_eq_true, Bool.not_eq_true'] at hnd
    cases j with
    | zero =>
      simp at h
      simp [lookupIdx, h]
    | succ j' =>
      simp at h
      have hne : ¬ m = n := by
        intro e
        subst e
        have : m ∈ r := List.mem_of_getElem? h
        have h1 := hnd.1
        simp [this] at h1
      simp only [lookupIdx, hne, if_false]
      rw [lookupIdx_nodup n r (k + 1) j' hnd.2 h]
      congr 1
      omega

theorem nestAll_get : ∀ (ts : List CqlTy) (j : Nat) (t : CqlTy), nestAll ts = true → ts[j]? = some t → nest t = true
  | [], _, _, _, h => by simp at h
  | a :: r, j, t, hn, h => by
    simp only [nestAll, Bool.and_eq_true] at hn
    cases j with
    | zero => simp at h; subst h; exact hn.1
    | succ j' => simp at h; exact nestAll_get r j' t hn.2 h

/-- the `i`-th Go entry, named `n`, under the UDT field `n` (the `j`-th of the type, of type `t`): its result and its
    meaning are those of `marshal p t` / `interp t` on the entry's value — `nodupB` makes `lookupIdx` find field `j` -/
theorem named_conf (p : Nat) (names : List String) (ts : List CqlTy) (hnd : nodupB names = true)
    (hnest : nestAll ts = true) (n : String) (j : Nat) (t : CqlTy) (hn : names[j]? = some n) (ht : ts[j]? = some t) :
    ∀ (fnames : List String) (vs : List GoVal) (i : Nat), (∀ v ∈ vs, ConfAt p v) → wfAll vs →
      documentedNamed names ts fnames vs = true → excludedNamed p names ts fnames vs = false →
      fnames[i]? = some n →
      Conf p t (match (marshalNamed p names ts fnames vs)[i]? with | some r => r | none => .ok none)
        (match (interpNamed names ts fnames vs)[i]? with | some r => r | none => some CqlVal.null)
  | [], _, _, _, _, _, _, h => by simp at h
  | _ :: _, [], _, _, _, _, _, _ => by simp [marshalNamed, interpNamed, Conf]
  | f0 :: fr, v0 :: vr, 0, IH, hw, hd, hx, hf => by
    have hj : lookupIdx n names 0 = some j := by simpa using lookupIdx_nodup n names 0 j hnd hn
    simp only [List.getElem?_cons_zero, Option.some.injEq] at hf
    subst hf
    simp only [documentedNamed, excludedNamed, hj, ht, Bool.and_eq_true, Bool.or_eq_false_iff] at hd hx
    simp only [marshalNamed, interpNamed, hj, ht, List.getElem?_cons_zero]
    exact IH v0 List.mem_cons_self t (nestAll_get ts j t hnest ht) hw.1 hd.1 hx.1
  | f0 :: fr, v0 :: vr, i + 1, IH, hw, hd, hx, hf => by
    simp only [documentedNamed, excludedNamed, Bool.and_eq_true, Bool.or_eq_false_iff] at hd hx
    simp only [marshalNamed, interpNamed, List.getElem?_cons_succ]
    exact named_conf p names ts hnd hnest n j t hn ht fr vr i (fun v hv => IH v (List.mem_cons_of_mem _ hv)) hw.2 hd.2 hx.2
      (by simpa using hf)

/-- the field `n` of the UDT type: the Go entry of that name through `named_conf`, or null when there is none -/
theorem udt_field_conf (p : Nat) (names : List String) (ts : List CqlTy) (fnames : List String) (vs : List GoVal)
    (IH : ∀ v ∈ vs, ∀ t, nest t = true → wf v → documented t v = true → excluded p t v = false →
      Conf p t (marshal p t v) (interp t v))
    (hnd : nodupB names = true) (hnest : nestAll ts = true) (hw : wfAll vs)
    (hd : documentedNamed names ts fnames vs = true) (hx : excludedNamed p names ts fnames vs = false)
    (j : Nat) (n : String) (t : CqlTy) (hn : names[j]? = some n) (ht : ts[j]? = some t) :
    Conf p t
      (match lookupIdx n fnames 0 with
        | some i => (match (marshalNamed p names ts fnames vs)[i]? with | some r => r | none => .ok none)
        | none => .ok none)
      (match lookupIdx n fnames 0 with
        | some i => (match (interpNamed names ts fnames vs)[i]? with | some r => r | none => some CqlVal.null)
        | none => some CqlVal.null) := by
  cases hl : lookupIdx n fnames 0 with
  | none => exact rfl
  | some i =>
    exact named_conf p names ts hnd hnest n j t hn ht fnames vs i IH hw hd hx
      (by simpa using (lookupIdx_some n fnames 0 i hl).2)

theorem assemble_conf (p : Nat) (R : String → MRes) (O : String → Option CqlVal) :
    ∀ (names : List String) (ts : List CqlTy), names.length = ts.length →
      (∀ (j : Nat) (n : String) (t : CqlTy), names[j]? = some n → ts[j]? = some t → Conf p t (R n) (O n)) →
      ConfFields p ts (seqItems (fun item => some (appendBytes item)) (names.map R)) (names.mapM O)
  | [], [], _, _ => fun _ => ⟨[], rfl, rfl⟩
  | [], _ :: _, h, _ => by simp at h
  | _ :: _, [], h, _ => by simp at h
  | n :: ns, t :: ts, hlen, H => by
    have h0 := H 0 n t rfl rfl
    have ih := assemble_conf p R O ns ts (by simpa using hlen)
      (fun j n' t' hn' ht' => H (j + 1) n' t' (by simpa using hn') (by simpa using ht'))
    rw [List.map_cons, C12Coll.seqItems_cons, List.mapM_cons]
    exact fields_cons h0 ih

/-- a Go value that is not a pointer, given the statement for everything smaller -/
theorem noptr_conf {p : Nat} (S : ScalarConf p) (g : GoVal) (hg : isPtr g = false)
    (IH : ∀ v, sizeOf v < sizeOf g → ConfAt p v) : ConfAt p g := by
  intro t hn hw hd hx
  cases t with
  | list et | set et =>
    have hs := fun vs H hw hd hx => seq_conf p et _ _ _ (elems_conf p et hn vs H hw hd hx)
    cases g with
    | nil => exact rfl
    | slice isNil vs =>
      cases isNil
      · have hc := hs vs (fun v hv => IH v (by simp; omega)) hw hd hx
        first | exact hc.1 | exact hc.2  -- list | set
      · exact rfl
    | array vs | ifaces vs | mapset vs =>
      have hc := hs vs (fun v hv => IH v (by simp; omega)) hw hd hx
      first | exact hc.1 | exact hc.2  -- list | set
    | nilptr | ptr _ => cases hg
    | _ => cases hd
  | map kt vt =>
    simp only [nest, Bool.and_eq_true] at hn
    cases g with
    | nil => exact rfl
    | map isNil kvs =>
      cases isNil
      · exact map_conf p kt vt _ _ _ (pairs_conf p kt vt hn.1 hn.2 kvs (fun v hv => IH v (by simp; omega)) hw hd hx)
      · exact rfl
    | nilptr | ptr _ => cases hg
    | _ => cases hd
  | tuple ts =>
    simp only [nest, Bool.and_eq_true, Bool.not_eq_true', List.isEmpty_eq_false_iff] at hn
    cases g with
    | nil => exact rfl
    | ifaces vs =>
      obtain ⟨hl, hdf⟩ := Bool.and_eq_true_iff.mp hd
      exact tuple_conf p ts hn.1 (eq_of_beq hl) (ifaces_conf p ts vs (fun v hv => IH v (by simp; omega)) hn.2 hw hdf hx)
    | struct vs | slice _ vs | array vs =>
      obtain ⟨hl, hdf⟩ := Bool.and_eq_true_iff.mp hd
      exact tuple_conf p ts hn.1 (eq_of_beq hl) (fields_conf p ts vs (fun v hv => IH v (by simp; omega)) hn.2 hw hdf hx)
    | nilptr | ptr _ => cases hg
    | _ => cases hd
  | udt unames ts =>
    simp only [nest, Bool.and_eq_true, Bool.not_eq_true', List.isEmpty_eq_false_iff, beq_iff_eq] at hn
    obtain ⟨⟨⟨hne, hnd⟩, hlen⟩, hnest⟩ := hn
    cases g with
    | udtmap _ names vs | udtstruct names vs =>
      have hf := assemble_conf p _ _ unames ts hlen
        (udt_field_conf p unames ts names vs (fun v hv => IH v (by have := List.sizeOf_lt_of_mem hv; simp; omega))
          hnd hnest hw hd hx)
      simp only [marshal, interp, udtAssemble, interpUdt, if_neg hne]
      exact udt_conf p unames ts _ _ hf
    | nilptr | ptr _ => cases hg
    | _ => cases hd
  | _ => exact scalarTy_conf S rfl hg hw hd hx

theorem confAt {p : Nat} (S : ScalarConf p) (g : GoVal) : ConfAt p g := by
  generalize hn : sizeOf g = n
  induction n using Nat.strongRecOn generalizing g with
  | _ n ih =>
    subst hn
    cases g with
    | nilptr => exact fun t _ _ _ _ => rfl
    | ptr v => exact ih _ (by simp) v rfl
    | _ => exact noptr_conf S _ rfl fun v hv => ih _ hv v rfl

end C12Nest
