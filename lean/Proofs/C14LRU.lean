import Model.LRU
import Proofs.Common
/-! The LRU list model (`Model/LRU.lean`). Every fact about `Add` is read off `add_cases`; the cache is read as a finite
    map through Common's `findKey`; the invariant `Cache.Inv` is kept by every operation. -/
namespace LRU
variable {κ α : Type} [DecidableEq κ]

theorem keys_without (k : κ) (l : List (κ × α)) : (without k l).map (·.1) = (l.map (·.1)).filter (· != k) := by
  induction l with
  | nil => rfl
  | cons e t ih =>
    simp only [without, List.filter_cons, List.map_cons] at ih ⊢
    by_cases h : e.1 = k <;> simp [h, ih]

theorem not_mem_keys_without (k : κ) (l : List (κ × α)) : k ∉ (without k l).map (·.1) := by
  rw [keys_without]; simp

theorem nodup_without (k : κ) (l : List (κ × α)) (h : (l.map (·.1)).Nodup) : ((without k l).map (·.1)).Nodup := by
  rw [keys_without]; exact h.filter _

theorem length_without_le (k : κ) (l : List (κ × α)) : (without k l).length ≤ l.length :=
  List.length_filter_le _ _

theorem without_of_not_mem (k : κ) (l : List (κ × α)) (h : k ∉ l.map (·.1)) : without k l = l := by
  unfold without
  rw [List.filter_eq_self]
  intro e he
  have : e.1 ≠ k := fun x => h (x ▸ List.mem_map_of_mem he)
  simpa using this

theorem length_without_lt (k : κ) (l : List (κ × α)) (h : k ∈ l.map (·.1)) : (without k l).length < l.length := by
  induction l with
  | nil => simp at h
  | cons e t ih =>
    by_cases hk : e.1 = k
    · have := length_without_le k t
      simp [without, hk] at this ⊢
      omega
    · have hk' : ¬ k = e.1 := fun x => hk x.symm
      have hm : k ∈ t.map (·.1) := by simpa [hk'] using h
      have := ih hm
      simp [without, hk] at this ⊢
      omega

/-- `Add` by cases: the key is present (moved to the front and overwritten, nothing purged); it is absent and the cache is
    over its capacity afterwards (the least recently used entry, the back of the list, is purged); it is absent and there
    is room -/
theorem add_cases (c : Cache κ α) (k : κ) (v : α) :
    ((c.find k).isSome = true ∧ c.add k v = (⟨c.cap, (k, v) :: without k c.items⟩, [])) ∨
    (c.find k = none ∧ (c.cap ≠ 0 ∧ (c.len : Int) + 1 > c.cap) ∧
      c.add k v = (⟨c.cap, ((k, v) :: c.items).dropLast⟩, ((k, v) :: c.items).getLast?.toList)) ∨
    (c.find k = none ∧ ¬ (c.cap ≠ 0 ∧ (c.len : Int) + 1 > c.cap) ∧ c.add k v = (⟨c.cap, (k, v) :: c.items⟩, [])) := by
  unfold Cache.add
  cases hf : c.find k with
  | some x => exact .inl ⟨rfl, rfl⟩
  | none =>
    rw [without_of_not_mem k c.items (find_key_eq_none.1 hf)]
    simp only [Option.isSome_none, Bool.false_eq_true, if_false, List.length_cons, Cache.len, Int.natCast_add,
      Int.cast_ofNat_Int]
    split
    · next h => exact .inr (.inl ⟨trivial, h, rfl⟩)
    · next h => exact .inr (.inr ⟨trivial, h, rfl⟩)

structure Cache.Inv (c : Cache κ α) : Prop where
  nodup : c.keys.Nodup
  bound : 0 < c.cap → (c.len : Int) ≤ c.cap

omit [DecidableEq κ] in
theorem inv_new (cap : Int) : (new cap : Cache κ α).Inv := by
  refine ⟨by simp [new, Cache.keys], fun h => ?_⟩
  simp only [new, Cache.len, List.length_nil] at h ⊢; omega

omit [DecidableEq κ] in
theorem removeOldest_inv (c : Cache κ α) (h : c.Inv) : c.removeOldest.1.Inv ∧ c.removeOldest.1.cap = c.cap := by
  unfold Cache.removeOldest
  cases hl : c.items.getLast? with
  | none => exact ⟨h, rfl⟩
  | some e =>
    refine ⟨⟨?_, ?_⟩, rfl⟩
    · simp only [Cache.keys, List.map_dropLast]; exact (List.dropLast_sublist _).nodup h.nodup
    · intro hc; have := h.bound hc; simp [Cache.len] at this ⊢; omega

theorem add_inv (c : Cache κ α) (h : c.Inv) (k : κ) (v : α) : (c.add k v).1.Inv ∧ (c.add k v).1.cap = c.cap := by
  rcases add_cases c k v with ⟨hf, e⟩ | ⟨hf, hover, e⟩ | ⟨hf, hroom, e⟩ <;> rw [e] <;> refine ⟨⟨?_, fun hc => ?_⟩, rfl⟩
  -- `nodup`, then `bound`, for each case of `add_cases`
  · simp only [Cache.keys, List.map_cons, List.nodup_cons]
    exact ⟨not_mem_keys_without k c.items, nodup_without k c.items h.nodup⟩
  · -- the entry of `k` leaves the list, the new one enters
    obtain ⟨x, hx⟩ := Option.isSome_iff_exists.1 hf
    have hm : k ∈ c.items.map (·.1) := List.mem_map_of_mem (f := (·.1)) (find_key_mem hx)
    have := length_without_lt k c.items hm
    have := h.bound hc
    simp only [Cache.len, List.length_cons] at this ⊢; omega
  · simp only [Cache.keys, List.map_dropLast]
    exact (List.dropLast_sublist _).nodup (List.nodup_cons.2 ⟨find_key_eq_none.1 hf, h.nodup⟩)
  · have := h.bound hc
    simp only [Cache.len, List.length_dropLast, List.length_cons] at this ⊢; omega
  · exact List.nodup_cons.2 ⟨find_key_eq_none.1 hf, h.nodup⟩
  · have hc0 : c.cap ≠ 0 := by simp only [] at hc; omega
    have : ¬ (c.len : Int) + 1 > c.cap := fun x => hroom ⟨hc0, x⟩
    simp only [Cache.len, List.length_cons] at this ⊢; omega

theorem get_inv (c : Cache κ α) (h : c.Inv) (k : κ) : (c.get k).2.Inv ∧ (c.get k).2.cap = c.cap := by
  unfold Cache.get
  cases hf : c.find k with
  | none => exact ⟨h, rfl⟩
  | some v =>
    refine ⟨⟨?_, ?_⟩, rfl⟩
    · simp only [Cache.keys, List.map_cons, List.nodup_cons]
      exact ⟨not_mem_keys_without k c.items, nodup_without k c.items h.nodup⟩
    · intro hc
      have hm : k ∈ c.items.map (·.1) := List.mem_map_of_mem (f := (·.1)) (find_key_mem hf)
      have := length_without_lt k c.items hm
      have := h.bound hc
      simp [Cache.len] at this ⊢; omega

theorem remove_inv (c : Cache κ α) (h : c.Inv) (k : κ) : (c.remove k).2.1.Inv ∧ (c.remove k).2.1.cap = c.cap := by
  unfold Cache.remove
  cases hf : c.find k with
  | none => exact ⟨h, rfl⟩
  | some v =>
    refine ⟨⟨nodup_without k c.items h.nodup, ?_⟩, rfl⟩
    intro hc
    have := length_without_le k c.items
    have := h.bound hc
    simp [Cache.len] at this ⊢; omega

theorem apply_inv (c : Cache κ α) (h : c.Inv) (op : Op κ α) : (c.apply op).Inv ∧ (c.apply op).cap = c.cap := by
  cases op with
  | add k v => exact add_inv c h k v
  | get k => exact get_inv c h k
  | remove k => exact remove_inv c h k
  | removeOldest => exact removeOldest_inv c h

theorem run_inv (c : Cache κ α) (h : c.Inv) (ops : List (Op κ α)) : (c.run ops).Inv ∧ (c.run ops).cap = c.cap :=
  foldl_inv (fun c' => c'.Inv ∧ c'.cap = c.cap) Cache.apply
    (fun c' op h' => ⟨(apply_inv c' h'.1 op).1, (apply_inv c' h'.1 op).2.trans h'.2⟩) ops c ⟨h, rfl⟩

theorem find_cons_same (k : κ) (v : α) (l : List (κ × α)) : findKey ((k, v) :: l) k = some v := by
  simp [findKey]

theorem get_find (c : Cache κ α) (k k' : κ) : (c.get k).1 = c.find k ∧ (c.get k).2.find k' = c.find k' := by
  unfold Cache.get
  cases hf : c.find k with
  | none => exact ⟨rfl, rfl⟩
  | some v =>
    refine ⟨rfl, ?_⟩
    by_cases h : k = k'
    · subst h; exact (find_cons_same k v _).trans hf.symm
    · exact (find_key_cons_ne v _ h).trans (find_key_filter_ne _ h)

theorem remove_find (c : Cache κ α) (k k' : κ) :
    (c.remove k).1 = (c.find k).isSome ∧
    (c.remove k).2.1.find k' = if k' = k then none else c.find k' := by
  unfold Cache.remove
  cases hf : c.find k with
  | none =>
    refine ⟨rfl, ?_⟩
    by_cases h : k' = k
    · subst h; simp [hf]
    · simp [h]
  | some v =>
    refine ⟨rfl, ?_⟩
    by_cases h : k' = k
    · subst h; simp only [if_true]; exact find_key_filter_self k' c.items
    · simp only [h, if_false]
      exact find_key_filter_ne _ (fun x => h x.symm)

/-- Add puts the value at the key (for the capacities the constructor documents: 0 = unbounded, or positive) -/
theorem add_find_same (c : Cache κ α) (k : κ) (v : α) (hc : 0 ≤ c.cap) : (c.add k v).1.find k = some v := by
  rcases add_cases c k v with ⟨_, e⟩ | ⟨_, hover, e⟩ | ⟨_, _, e⟩ <;> rw [e]
  · exact find_cons_same k v _
  · -- purging needs a second entry behind the new one: capacity 0 never purges
    cases hw : c.items with
    | nil => have := hover.2; simp only [Cache.len, hw, List.length_nil] at this; omega
    | cons e t => simp [List.dropLast, Cache.find]
  · exact find_cons_same k v _

theorem add_hit (c : Cache κ α) (k : κ) (v : α) (h : (c.find k).isSome) :
    (c.add k v).2 = [] ∧ ∀ k', k' ≠ k → (c.add k v).1.find k' = c.find k' := by
  rcases add_cases c k v with ⟨_, e⟩ | ⟨hf, _⟩ | ⟨hf, _⟩
  · rw [e]
    refine ⟨rfl, fun k' hk => ?_⟩
    exact (find_key_cons_ne v _ (fun x => hk x.symm)).trans (find_key_filter_ne _ (fun x => hk x.symm))
  all_goals rw [hf] at h; cases h

/-- what Add purges: nothing, or — only for a new key on a full cache — exactly the least recently
    used entry (the back of the list) -/
theorem add_evicts_lru (c : Cache κ α) (k : κ) (v : α) :
    (c.add k v).2 = [] ∨
    ((c.find k) = none ∧ c.cap ≠ 0 ∧ (c.len : Int) + 1 > c.cap ∧
      (c.add k v).2 = (((k, v) :: c.items).getLast?).toList) := by
  rcases add_cases c k v with ⟨_, e⟩ | ⟨hf, hover, e⟩ | ⟨_, _, e⟩ <;> rw [e]
  · exact .inl rfl
  · exact .inr ⟨hf, hover.1, hover.2, rfl⟩
  · exact .inl rfl

theorem find_some_mem (c : Cache κ α) (k : κ) (v : α) (h : c.find k = some v) : (k, v) ∈ c.items := find_key_mem h

theorem mem_without (k : κ) (l : List (κ × α)) (e : κ × α) (h : e ∈ without k l) : e ∈ l ∧ e.1 ≠ k := by
  unfold without at h
  rw [List.mem_filter] at h
  exact ⟨h.1, by simpa using h.2⟩

theorem add_miss_keys (c : Cache κ α) (k : κ) (v : α) (h : c.find k = none) :
    (c.add k v).1.keys ++ (c.add k v).2.map (·.1) = k :: c.keys ∧
    (∀ e ∈ (c.add k v).1.items, e = (k, v) ∨ e ∈ c.items) := by
  rcases add_cases c k v with ⟨hf, _⟩ | ⟨_, _, e⟩ | ⟨_, _, e⟩
  · rw [h] at hf; cases hf
  · rw [e]
    refine ⟨?_, fun e he => by simpa using List.dropLast_subset _ he⟩
    simp only [Cache.keys]
    rw [← List.map_append]
    have : ((k, v) :: c.items).dropLast ++ ((k, v) :: c.items).getLast?.toList = (k, v) :: c.items := by
      rw [List.getLast?_eq_some_getLast (by simp)]
      exact List.dropLast_concat_getLast (by simp)
    rw [this]; rfl
  · rw [e]
    exact ⟨by simp [Cache.keys], fun e he => by simpa using he⟩

theorem count_keys_move (c : Cache κ α) (hn : c.keys.Nodup) (k : κ) (v : α) (h : c.find k = some v) (x : κ) :
    (((k, v) :: without k c.items).map (·.1)).count x = c.keys.count x := by
  have hm : k ∈ c.keys := by
    exact List.mem_map_of_mem (f := (·.1)) (find_key_mem h)
  simp only [List.map_cons, keys_without]
  by_cases hx : x = k
  · subst hx
    rw [List.count_cons_self, List.count_eq_zero_of_not_mem (by simp)]
    rw [hn.count]; simp [hm]
  · rw [List.count_cons_of_ne (fun e => hx e.symm), List.count_filter (by simpa using hx)]
    rfl

theorem count_keys_without (c : Cache κ α) (hn : c.keys.Nodup) (k : κ) (x : κ) :
    ((without k c.items).map (·.1)).count x + (if k ∈ c.keys ∧ x = k then 1 else 0) = c.keys.count x := by
  rw [keys_without]
  by_cases hx : x = k
  · subst hx
    rw [List.count_eq_zero_of_not_mem (by simp)]
    by_cases hm : x ∈ c.keys
    · simp [hm, hn.count]
    · simp [hm, hn.count]
  · rw [List.count_filter (by simpa using hx)]
    simp [hx, Cache.keys]

theorem find_dropLast : ∀ (L : List (κ × α)), (L.map (·.1)).Nodup → L ≠ [] → ∀ k',
    findKey L.dropLast k' = if L.getLast?.map (·.1) = some k' then none else findKey L k' := by
  intro L
  induction L with
  | nil => intro _ h; exact absurd rfl h
  | cons x t ih =>
    intro hn _ k'
    obtain ⟨xk, xv⟩ := x
    cases t with
    | nil =>
      by_cases hx : xk = k'
      · subst hx; simp [findKey]
      · have h1 : findKey [(xk, xv)] k' = findKey [] k' := find_key_cons_ne xv [] hx
        simp [List.dropLast, hx, h1]
    | cons y t' =>
      have hn' : ((y :: t').map (·.1)).Nodup := by
        simp only [List.map_cons, List.nodup_cons] at hn ⊢; exact hn.2
      have hnotin : xk ∉ (y :: t').map (·.1) := by
        simp only [List.map_cons, List.nodup_cons] at hn; simpa using hn.1
      have ih' := ih hn' (by simp) k'
      have hlast : ((xk, xv) :: y :: t').getLast? = (y :: t').getLast? := by simp [List.getLast?_cons_cons]
      have hdl : ((xk, xv) :: y :: t').dropLast = (xk, xv) :: (y :: t').dropLast := by simp [List.dropLast]
      rw [hlast, hdl]
      by_cases hx : xk = k'
      · subst hx
        rw [find_cons_same, find_cons_same]
        have : ¬ ((y :: t').getLast?.map (·.1) = some xk) := by
          intro h
          cases hl : (y :: t').getLast? with
          | none => simp [hl] at h
          | some e =>
            simp [hl] at h
            have hm := List.mem_of_getLast? hl
            exact hnotin (h ▸ List.mem_map_of_mem (f := (·.1)) hm)
        rw [if_neg this]
      · rw [find_key_cons_ne xv _ hx, find_key_cons_ne xv _ hx]
        exact ih'

theorem add_miss_find (c : Cache κ α) (hn : c.keys.Nodup) (k : κ) (v : α) (h : c.find k = none) (k' : κ) :
    (c.add k v).1.find k' =
      if k' ∈ (c.add k v).2.map (·.1) then none else if k' = k then some v else c.find k' := by
  have hnk : k ∉ c.items.map (·.1) := find_key_eq_none.1 h
  have hL : (((k, v) :: c.items).map (·.1)).Nodup := by
    simp only [List.map_cons, List.nodup_cons]; exact ⟨hnk, hn⟩
  have hbase : ∀ k', findKey ((k, v) :: c.items) k' = if k' = k then some v else c.find k' := by
    intro k'
    by_cases hk : k' = k
    · subst hk; simp [find_cons_same]
    · rw [if_neg hk, find_key_cons_ne v _ (fun e => hk e.symm)]; rfl
  rcases add_cases c k v with ⟨hf, _⟩ | ⟨_, _, e⟩ | ⟨_, _, e⟩
  · rw [h] at hf; cases hf
  · rw [e]
    refine (find_dropLast _ hL (by simp) k').trans ?_
    rw [hbase]
    cases hl : ((k, v) :: c.items).getLast? with
    | none => simp at hl
    | some e => simp [eq_comm]
  · rw [e]
    simp only [List.map_nil, List.not_mem_nil, if_false]
    exact hbase k'

end LRU
