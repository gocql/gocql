import Proofs.C19Parse
import Proofs.C19Bits
/-! `TimeUUIDWith` against the accessors and against the RFC 4122 layout (the accessors agree with the layout on every
    16-byte value); instants ↔ timestamps (`Representable`); equal time-UUIDs have equal timestamp and clock fields
    (`with_inj`). -/
namespace Uuid

theorem nodeBytes_length (nd : List UInt8) : (nodeBytes nd).length = 6 := by
  simp [nodeBytes]; omega

theorem with_length (t clk : Nat) (nd : List UInt8) : (timeUUIDWith t clk nd).length = 16 := by
  simp [timeUUIDWith, nodeBytes_length]

theorem with_byte6 (t clk : Nat) (nd : List UInt8) :
    byteAt (timeUUIDWith t clk nd) 6 = (tbyte t 56 &&& 0x0F) ||| 0x10 := rfl

theorem with_byte8 (t clk : Nat) (nd : List UInt8) :
    byteAt (timeUUIDWith t clk nd) 8 = (UInt8.ofNat (clk >>> 8) &&& 0x3F) ||| 0x80 := rfl

/-! `Version()` and `Variant()` as arithmetic on bytes 6 and 8: the byte facts `version_eq_div` and
    `variant_ietf_iff_byte`, stated for the accessors (which unfold to those bit expressions) so that they rewrite -/

theorem version_eq (u : List UInt8) : version u = (byteAt u 6).toNat / 16 := version_eq_div _

theorem variant_eq_two_iff (u : List UInt8) :
    variant u = 2 ↔ 128 ≤ (byteAt u 8).toNat ∧ (byteAt u 8).toNat < 192 := variant_ietf_iff_byte _

theorem version_with (t clk : Nat) (nd : List UInt8) : version (timeUUIDWith t clk nd) = 1 := by
  rw [version_eq, with_byte6, v1_toNat]; omega

theorem variant_with (t clk : Nat) (nd : List UInt8) : variant (timeUUIDWith t clk nd) = 2 := by
  rw [variant_eq_two_iff, with_byte8, var_toNat]; omega

theorem byte_shl_lt (b r k : Nat) (hb : b < 2 ^ 8) (hr : r < 2 ^ k) : b * 2 ^ k + r < 2 ^ (k + 8) := by
  have : (b + 1) * 2 ^ k ≤ 2 ^ 8 * 2 ^ k := Nat.mul_le_mul_right _ hb
  rw [Nat.pow_add, Nat.mul_comm (2 ^ k)]
  rw [Nat.add_mul, Nat.one_mul] at this
  omega

/-- `Timestamp()` of a version-1 value: the bits of each `|`-group are disjoint, so the groups are positional sums -/
theorem timestamp_v1 (u : List UInt8) (hv : version u = 1) :
    timestamp u =
      (byteAt u 0).toNat * 2 ^ 24 + ((byteAt u 1).toNat * 2 ^ 16 + ((byteAt u 2).toNat * 2 ^ 8 + (byteAt u 3).toNat))
      + ((byteAt u 4).toNat * 2 ^ 40 + (byteAt u 5).toNat * 2 ^ 32)
      + ((byteAt u 6).toNat % 16 * 2 ^ 56 + (byteAt u 7).toNat * 2 ^ 48) := by
  have h3 := (byteAt u 3).toNat_lt
  have l16 := byte_shl_lt _ _ 8 (byteAt u 2).toNat_lt h3
  have l24 := byte_shl_lt _ _ 16 (byteAt u 1).toNat_lt l16
  have l40 := byte_shl_lt _ 0 32 (byteAt u 5).toNat_lt (Nat.two_pow_pos _)
  have l56 := byte_shl_lt _ 0 48 (byteAt u 7).toNat_lt (Nat.two_pow_pos _)
  unfold timestamp
  rw [if_neg (by simp [hv]), low4_eq_mod, Nat.or_assoc, Nat.or_assoc, or_shl _ 8 _ h3, or_shl _ 16 _ l16,
    or_shl _ 24 _ l24, Nat.shiftLeft_eq _ 32, ← Nat.add_zero (_ * 2 ^ 32), or_shl _ 40 _ l40,  -- `+ 0`: the shape of `l40`
    Nat.shiftLeft_eq _ 48, ← Nat.add_zero (_ * 2 ^ 48), or_shl _ 56 _ l56]

theorem mod_byte (t k : Nat) : t % 2 ^ (k + 8) = t / 2 ^ k % 256 * 2 ^ k + t % 2 ^ k := by
  rw [Nat.pow_add, Nat.mod_mul, Nat.mul_comm, Nat.add_comm]

theorem timestamp_with_mod (t clk : Nat) (nd : List UInt8) :
    timestamp (timeUUIDWith t clk nd) = t % 2 ^ 60 := by
  rw [timestamp_v1 _ (version_with ..), with_byte6, v1_toNat]
  show (tbyte t 24).toNat * _ + ((tbyte t 16).toNat * _ + ((tbyte t 8).toNat * _ + (tbyte t 0).toNat))
    + ((tbyte t 40).toNat * _ + (tbyte t 32).toNat * _) + (_ * _ + (tbyte t 48).toNat * _) = _
  simp only [tbyte_toNat]
  -- split `t % 2^60` into its top nibble and seven bytes (`mod_byte`), tidy the stamped byte 6; the two sides then
  -- hold the same eight summands in different order
  rw [show (2 : Nat) ^ 60 = 2 ^ 56 * 16 from rfl, Nat.mod_mul, mod_byte t 48, mod_byte t 40, mod_byte t 32,
    mod_byte t 24, mod_byte t 16, mod_byte t 8, Nat.add_mod_right, Nat.mod_mod, Nat.mod_mod_of_dvd _ (by decide : 16 ∣ 256),
    Nat.pow_zero, Nat.div_one, Nat.mul_comm (2 ^ 56)]
  ac_rfl

theorem timestamp_with (t clk : Nat) (nd : List UInt8) (ht : t < 2 ^ 60) :
    timestamp (timeUUIDWith t clk nd) = t := by
  rw [timestamp_with_mod, Nat.mod_eq_of_lt ht]

theorem clock_with (t clk : Nat) (nd : List UInt8) : clock (timeUUIDWith t clk nd) = clk % 2 ^ 14 := by
  unfold clock
  rw [if_neg (by simp [version_with]), with_byte8, var_low]
  show _ <<< 8 ||| (UInt8.ofNat clk).toNat = _
  rw [or_shl _ 8 _ (UInt8.ofNat clk).toNat_lt]
  simp only [UInt8.toNat_ofNat', Nat.shiftRight_eq_div_pow, Nat.reducePow]
  omega

theorem node_with (t clk : Nat) (nd : List UInt8) : node (timeUUIDWith t clk nd) = some (nodeBytes nd) := by
  unfold node
  rw [if_neg (by simp [version_with])]
  rfl

theorem be_eq (l : List UInt8) : Spec.be l = ValueSpec.beNat l := BE.beNat_unique Spec.be rfl (fun _ _ => rfl) l

theorem fields16 (u : List UInt8) (h : u.length = 16) :
    Spec.timeLow u = (((byteAt u 0).toNat * 256 + (byteAt u 1).toNat) * 256 + (byteAt u 2).toNat) * 256 + (byteAt u 3).toNat ∧
    Spec.timeMid u = (byteAt u 4).toNat * 256 + (byteAt u 5).toNat ∧
    Spec.timeHiAndVersion u = (byteAt u 6).toNat * 256 + (byteAt u 7).toNat ∧
    Spec.clockSeqAndReserved u = (byteAt u 8).toNat * 256 + (byteAt u 9).toNat := by
  obtain ⟨b0, b1, b2, b3, b4, b5, b6, b7, b8, b9, b10, b11, b12, b13, b14, b15, rfl⟩ := list16 u h
  exact ⟨(be_eq _).trans (BE.beNat_four ..), (be_eq _).trans (BE.beNat_two ..), (be_eq _).trans (BE.beNat_two ..),
    (be_eq _).trans (BE.beNat_two ..)⟩

theorem version_eq_rfc (u : List UInt8) (h : u.length = 16) : version u = Spec.rfcVersion u := by
  have := (byteAt u 7).toNat_lt
  rw [version_eq, Spec.rfcVersion, (fields16 u h).2.2.1]
  omega

theorem timestamp_eq_rfc (u : List UInt8) (h : u.length = 16) (hv : version u = 1) :
    timestamp u = Spec.rfcTimestamp u := by
  obtain ⟨f1, f2, f3, _⟩ := fields16 u h
  have := (byteAt u 7).toNat_lt
  rw [timestamp_v1 _ hv, Spec.rfcTimestamp, f1, f2, f3]
  omega

theorem variant_ietf_iff_rfc (u : List UInt8) (h : u.length = 16) : variant u = 2 ↔ Spec.rfcVariantIETF u := by
  have := (byteAt u 9).toNat_lt
  rw [variant_eq_two_iff, Spec.rfcVariantIETF, (fields16 u h).2.2.2]
  omega

theorem rfcTimestamp_with_mod (t clk : Nat) (nd : List UInt8) :
    Spec.rfcTimestamp (timeUUIDWith t clk nd) = t % 2 ^ 60 := by
  rw [← timestamp_eq_rfc _ (with_length ..) (version_with ..), timestamp_with_mod]

/-- the instants representable in the 60-bit timestamp: 1582-10-15T00:00:00Z … 5236-03-31T21:21:00.6846975Z -/
def Representable (sec : Int) (nsec : Nat) : Prop :=
  timeBase ≤ sec ∧ nsec < 1000000000 ∧ (sec - timeBase) * 10000000 + (nsec / 100 : Nat) < 2 ^ 60

instance (sec : Int) (nsec : Nat) : Decidable (Representable sec nsec) := by
  unfold Representable; infer_instance

theorem getTimestamp_exact (sec : Int) (nsec : Nat) (h : Representable sec nsec) :
    getTimestamp sec nsec = (sec - timeBase) * 10000000 + (nsec / 100 : Nat) := by
  obtain ⟨h1, h2, h3⟩ := h
  simp only [getTimestamp, wrap64, timeBase] at *
  omega

theorem bits64_getTimestamp (sec : Int) (nsec : Nat) (h : Representable sec nsec) :
    (bits64 (getTimestamp sec nsec) : Int) = (sec - timeBase) * 10000000 + (nsec / 100 : Nat) ∧
    bits64 (getTimestamp sec nsec) < 2 ^ 60 := by
  rw [getTimestamp_exact sec nsec h]
  obtain ⟨h1, h2, h3⟩ := h
  simp only [bits64, timeBase] at *
  omega

theorem with_inj (t1 t2 c1 c2 : Nat) (n1 n2 : List UInt8)
    (h : timeUUIDWith t1 c1 n1 = timeUUIDWith t2 c2 n2) :
    t1 % 2 ^ 60 = t2 % 2 ^ 60 ∧ c1 % 2 ^ 14 = c2 % 2 ^ 14 :=
  ⟨by simpa only [timestamp_with_mod] using congrArg timestamp h,
    by simpa only [clock_with] using congrArg clock h⟩

end Uuid
