import Model.EventFlow
/-!
# C05, frames on stream -1 under every Events configuration: lemmas

`Inv`: both event debouncers of the session exist. It is the precondition of `s.schemaEvents.debounce(frame)` /
`s.nodeEvents.debounce(frame)` in events.go handleEvent (a method call on a nil `*eventDebouncer` dereferences
nil in `e.mu.Lock()` on the connection's reader goroutine, which nothing recovers). It holds after NewSession
for every configuration because session.go allocates both unconditionally, and every step keeps it.
`BInv`: no debouncer holds more than `eventBufferSize` frames. One frame is handled from any state with `Inv`
(`handleEvent_ok`); the lemmas about pushes, rounds and scenarios carry both (`Good`).
-/
namespace C05Event
open EventFlow Dispatch

def Inv (s : Sess) : Prop := s.nodeDeb.isSome = true ∧ s.schemaDeb.isSome = true

def BLen (b : Option (List Ev)) : Prop := ∀ l, b = some l → l.length ≤ bufSize

def BInv (s : Sess) : Prop := BLen s.nodeDeb ∧ BLen s.schemaDeb

theorem blen_nil : BLen (some []) := by
  intro l h
  cases h
  simp

theorem debounce_ok (b : Option (List Ev)) (e : Ev) (h : b.isSome = true) :
    ∃ l' d, debounce b e = some (l', d) ∧ (BLen b → BLen (some l')) := by
  cases b with
  | none => cases h
  | some l =>
    unfold debounce
    by_cases hl : l.length < bufSize
    · refine ⟨l ++ [e], false, by simp [hl], fun _ l2 h2 => ?_⟩
      cases h2
      simp
      omega
    · exact ⟨l, true, by simp [hl], id⟩

theorem handleEvent_ok (s : Sess) (e : Ev) (h : Inv s) :
    ∃ s' lg, handleEvent s e = .ok s' lg ∧ Inv s' ∧ (BInv s → BInv s') := by
  obtain ⟨hn, hs⟩ := h
  cases e with
  | garbage => exact ⟨s, some .parse, rfl, ⟨hn, hs⟩, id⟩
  | frame k c up kn =>
    cases hr : route k with
    | none => exact ⟨s, some .invalid, by simp only [handleEvent, hr], ⟨hn, hs⟩, id⟩
    | some d =>
      cases d with
      | schema =>
        obtain ⟨l', d, hd, hlen⟩ := debounce_ok s.schemaDeb (.frame k c up kn) hs
        exact ⟨{ s with schemaDeb := some l', schemaArmed := true }, (if d then some .dropped else none),
          by simp only [handleEvent, hr, hd], ⟨hn, rfl⟩, fun hB => ⟨hB.1, hlen hB.2⟩⟩
      | node =>
        obtain ⟨l', d, hd, hlen⟩ := debounce_ok s.nodeDeb (.frame k c up kn) hn
        exact ⟨{ s with nodeDeb := some l', nodeArmed := true }, (if d then some .dropped else none),
          by simp only [handleEvent, hr, hd], ⟨rfl, hs⟩, fun hB => ⟨hlen hB.1, hB.2⟩⟩

/-- what the reachable sessions satisfy: both debouncers exist and are within the bound -/
def Good (s : Sess) : Prop := Inv s ∧ BInv s

theorem pushN_ok (e : Ev) (n : Nat) : ∀ (s : Sess) (lg : Logs), Good s →
    ∃ s' lg', pushN s lg e n = some (s', lg') ∧ Good s' := by
  induction n with
  | zero => intro s lg h; exact ⟨s, lg, rfl, h⟩
  | succ n ih =>
    intro s lg h
    obtain ⟨s1, l1, h1, hi1, hb1⟩ := handleEvent_ok s e h.1
    obtain ⟨s2, l2, h2, hg⟩ := ih s1 (lg.note l1) ⟨hi1, hb1 h.2⟩
    refine ⟨s2, l2, ?_, hg⟩
    simp only [pushN, h1]
    exact h2

theorem pushSteps_ok (steps : List Step) : ∀ (s : Sess) (lg : Logs), Good s →
    ∃ s' lg', pushSteps s lg steps = some (s', lg') ∧ Good s' := by
  induction steps with
  | nil => intro s lg h; exact ⟨s, lg, rfl, h⟩
  | cons st rest ih =>
    intro s lg h
    unfold pushSteps
    by_cases hd : delivered s st.w = true
    · obtain ⟨s1, l1, h1, hg1⟩ := pushN_ok st.e st.n s lg h
      obtain ⟨s2, l2, h2, hg⟩ := ih s1 l1 hg1
      refine ⟨s2, l2, ?_, hg⟩
      simp only [hd, if_true, h1]
      exact h2
    · obtain ⟨s2, l2, h2, hg⟩ := ih s { lg with skipped := lg.skipped + st.n } h
      refine ⟨s2, l2, ?_, hg⟩
      simp only [hd]
      exact h2

/-- handleNodeEvent leaves the schema debouncer alone: each stage only sets `refreshArmed`, `pool`, `hostUp` -/
theorem handleNodeEvent_schemaDeb (s : Sess) (l : List Ev) : (handleNodeEvent s l).1.schemaDeb = s.schemaDeb := by
  unfold handleNodeEvent
  extract_lets s1 s2
  have h1 : s1.schemaDeb = s.schemaDeb := by unfold s1; split <;> rfl
  have h2 : s2.schemaDeb = s.schemaDeb := by
    unfold s2; repeat' split
    all_goals exact h1
  clear_value s1 s2
  repeat' split
  all_goals exact h2

theorem flushNode_ok (s : Sess) (h : Good s) : Good (flushNode s).1 := by
  unfold flushNode
  split
  · rename_i e l _ hd
    have e2 := handleNodeEvent_schemaDeb s (e :: l)
    refine ⟨⟨rfl, ?_⟩, blen_nil, ?_⟩
    · simp only [e2]; exact h.1.2
    · simp only [BLen, e2]; exact h.2.2
  · exact h

theorem flushSchema_ok (s : Sess) (h : Good s) : Good (flushSchema s).1 := by
  fun_cases flushSchema s
  · exact ⟨⟨h.1.1, rfl⟩, h.2.1, blen_nil⟩
  · exact h

theorem bufLen_le (b : Option (List Ev)) (h : BLen b) : bufLen b ≤ (bufSize : Int) := by
  cases b with
  | none => simp [bufLen, bufSize]
  | some l =>
    have := h l rfl
    simp only [bufLen]
    exact_mod_cast this

theorem round_ok (s : Sess) (steps : List Step) (h : Good s) :
    ∃ s' o, round s steps = some (s', o) ∧ Good s' ∧ o.bufOK = true := by
  obtain ⟨s1, lg, h1, hg1⟩ := pushSteps_ok steps s {} h
  refine ⟨(flush s1).1, mkObs s1 lg (flush s1), ?_, flushSchema_ok _ (flushNode_ok s1 hg1), ?_⟩
  · simp only [round, h1]
  · simp only [Obs.bufOK, mkObs, Bool.and_eq_true]
    exact ⟨decide_eq_true (bufLen_le _ hg1.2.1), decide_eq_true (bufLen_le _ hg1.2.2)⟩

theorem rounds_ok (rs : List (List Step)) : ∀ (s : Sess) (acc : List Obs), Good s →
    acc.all Obs.bufOK = true → ∃ obs, rounds s acc rs = .ok obs ∧ obs.all Obs.bufOK = true := by
  induction rs with
  | nil =>
    intro s acc _ ha
    refine ⟨acc.reverse, rfl, ?_⟩
    simpa using ha
  | cons r rest ih =>
    intro s acc hg ha
    obtain ⟨s', o, h1, hg', ho⟩ := round_ok s r hg
    obtain ⟨obs, h2, h3⟩ := ih s' (o :: acc) hg' (by simp [ho, ha])
    exact ⟨obs, by simp only [rounds, h1]; exact h2, h3⟩

theorem newSessionWith_good (ct : Ctor) (cfg : EvCfg) (hn : ct.node cfg = true) (hs : ct.schema cfg = true) :
    Good (newSessionWith ct cfg) := by
  simp only [Good, Inv, BInv, newSessionWith, hn, hs, if_true]
  exact ⟨⟨rfl, rfl⟩, blen_nil, blen_nil⟩

theorem runWith_ok (ct : Ctor) (cfg : EvCfg) (hn : ct.node cfg = true) (hs : ct.schema cfg = true)
    (rs : List (List Step)) : (runWith ct cfg rs).isCrash = false ∧ (runWith ct cfg rs).invOK = true := by
  have hg := newSessionWith_good ct cfg hn hs
  cases rs with
  | nil => exact ⟨rfl, rfl⟩
  | cons r0 rest =>
    obtain ⟨s', lg', h1, _⟩ := pushSteps_ok (r0.filter (fun st => st.w.breaksSetup)) _ {} hg
    obtain ⟨obs, h2, h3⟩ := rounds_ok (r0 :: rest) _ [] hg rfl
    unfold runWith
    dsimp only
    split
    · rw [h1]
      exact ⟨rfl, rfl⟩
    · rw [h2]
      exact ⟨rfl, h3⟩

/-- the schema-change frame every scenario of the converse uses -/
def evSchema : Ev := .frame .schemaKeyspace .created false false
def evStatus : Ev := .frame .statusChange .created true false

/-- a constructor that leaves out the schema debouncer for some configuration: ONE unsolicited SCHEMA_CHANGE on the
    control connection of a session with that configuration kills the process -/
theorem no_schema_deb_crashes (ct : Ctor) (cfg : EvCfg) (h : ct.schema cfg = false) :
    (runWith ct cfg [[], [⟨.ctl, evSchema, 1⟩]]).isCrash = true := by
  have hr : route .schemaKeyspace = some .schema := by decide
  simp [runWith, rounds, round, pushSteps, delivered, pushN, handleEvent, evSchema, hr, newSessionWith, h,
    debounce, flush, flushNode, flushSchema, Res.isCrash]

theorem no_node_deb_crashes (ct : Ctor) (cfg : EvCfg) (h : ct.node cfg = false) :
    (runWith ct cfg [[], [⟨.ctl, evStatus, 1⟩]]).isCrash = true := by
  have hr : route .statusChange = some .node := by decide
  simp [runWith, rounds, round, pushSteps, delivered, pushN, handleEvent, evStatus, hr, newSessionWith, h,
    debounce, flush, flushNode, flushSchema, Res.isCrash]

theorem invStr_ok (r : Res) (h1 : r.isCrash = false) (h2 : r.invOK = true) : r.invStr = "ok" := by
  cases r with
  | crash n => cases h1
  | connectError => rfl
  | ok obs => simp only [Res.invStr, h2, if_true]

end C05Event
