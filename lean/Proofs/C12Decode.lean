import Model.MarshalDecode
import Proofs.C12Varint
/-!
# C12, converse direction for scalars with a non-trivial layout: a specification-conformant decimal / float / double /
time encoding decodes (model of gocql.Unmarshal) to the value the specification decoder reads
-/
namespace C12Decode
open ValueSpec Marshal C12Bytes C12Varint

/-- decBigInt2C (what `*big.Int` and inf.Dec's unscaled value get) is the two's complement value of the bytes -/
theorem decBigInt2C_tc (b : Bytes) : decBigInt2C b = tcDec b := by
  cases b with
  | nil => simp [decBigInt2C, tcDec, beNat]
  | cons x r =>
    have hs := sign_iff_head x r
    unfold decBigInt2C tcDec
    rw [BE.two_pow_mul8]
    by_cases hx : x.toNat ≥ 128
    · simp only [if_pos hx, if_pos (hs.mpr hx)]
    · simp only [if_neg hx, if_neg (fun h => hx (hs.mp h))]

theorem toU32_tcDec (b : Bytes) (h : b.length = 4) : (toU 32 (tcDec b)).toNat = beNat b := by
  have := toU_tcDec b; rwa [h] at this

theorem toU64_tcDec (b : Bytes) (h : b.length = 8) : (toU 64 (tcDec b)).toNat = beNat b := by
  have := toU_tcDec b; rwa [h] at this

theorem decimal_decode (p : Nat) (isNil : Bool) (b : Bytes) (u s : Int) (h : specDec p .decimal b = some (.decimal u s)) :
    unmarshalScalar .decimal isNil b .dec = .ok (.dec u s) := by
  simp only [specDec] at h
  (repeat' split at h) <;> cases h
  -- at least 4 bytes, and a minimal varint behind them
  next hl _ =>
  have h4 : (b.take 4).length = 4 := by simp [List.length_take]; omega
  have e : unmarshalScalar .decimal isNil b .dec =
      (if b.length < 4 then URes.err else .ok (.dec (decBigInt2C (b.drop 4)) (decInt (b.take 4)))) := rfl
  rw [e, if_neg (by omega), decBigInt2C_tc, decInt_eq_tcDec _ h4]

theorem float_decode (p : Nat) (isNil : Bool) (b : Bytes) (x : Nat) (h : specDec p .float b = some (.f32 x)) :
    unmarshalScalar .float isNil b (.f32 false) = .ok (.f32 false x) := by
  simp only [specDec] at h
  split at h <;> cases h
  next hl =>
  have e : unmarshalScalar .float isNil b (.f32 false) = .ok (.f32 false (toU 32 (decInt b)).toNat) := rfl
  rw [e, decInt_eq_tcDec b hl, toU32_tcDec b hl]

theorem double_decode (p : Nat) (isNil named : Bool) (b : Bytes) (x : Nat) (h : specDec p .double b = some (.f64 x)) :
    unmarshalScalar .double isNil b (.f64 named) = .ok (.f64 named x) := by
  simp only [specDec] at h
  split at h <;> cases h
  next hl =>
  have e : unmarshalScalar .double isNil b (.f64 named) = .ok (.f64 named (toU 64 (decBigInt b)).toNat) := rfl
  rw [e, decBigInt_eq_tcDec b hl, toU64_tcDec b hl]

theorem time_decode (p : Nat) (isNil named : Bool) (b : Bytes) (n : Int) (h : specDec p .time b = some (.int n)) :
    unmarshalScalar .time isNil b (.int .int64 named) = .ok (.int .int64 named n) ∧
    unmarshalScalar .time isNil b .dur = .ok (.dur n) := by
  simp only [specDec] at h
  split at h <;> cases h
  next hl =>
  have e1 : unmarshalScalar .time isNil b (.int .int64 named) = .ok (.int .int64 named (decBigInt b)) := rfl
  have e2 : unmarshalScalar .time isNil b .dur = .ok (.dur (decBigInt b)) := rfl
  rw [e1, e2, decBigInt_eq_tcDec b hl]
  exact ⟨rfl, rfl⟩

end C12Decode
