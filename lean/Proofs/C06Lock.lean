import Model.PoolLock
import Proofs.Common
/-!
# Lock discipline of hostConnPool against closeWithError's call-back: the invariant (`LInv`) and what follows from it

`ok` types a program by whether its thread holds the lock; `LInv` says every thread's remaining program is well typed.
Executing an instruction keeps that (`ok_cons`; four instructions put lock-neutral code in front), and a well-typed program
never waits for a lock it holds, so the holder, and with the lock free any thread with work left, can move.
-/
namespace PoolLock

theorem ok_map_connClose (cerr : Nat → Bool) (l : List Nat) (r : List Instr) :
    ok cerr false (l.map .connClose ++ r) = ok cerr false r := by
  induction l with
  | nil => rfl
  | cons a l ih => simp [ok, ih]

def LInv (cerr : Nat → Bool) (st : St) : Prop :=
  ∀ t, ok cerr (decide (st.holder = some t)) (st.prog t) = true

theorem linv_init (cerr : Nat → Bool) (conns : List Nat) (prog : Nat → List Instr)
    (h : ∀ t, ok cerr false (prog t) = true) : LInv cerr (init conns prog) := by
  intro t; simpa [init] using h t

theorem linv_move (cerr : Nat → Bool) (st st' : St) (t : Nat) (p : List Instr) (h : LInv cerr st)
    (hh : ∀ u, u ≠ t → (st'.holder = some u ↔ st.holder = some u)) (hp : st'.prog = upd st.prog t p)
    (hok : ok cerr (decide (st'.holder = some t)) p = true) : LInv cerr st' := by
  intro u
  by_cases e : u = t
  · subst e; simp [hp, upd]; exact hok
  · have := h u; simp [hp, upd, e, hh u e]; exact this

/-- whether a thread holds the lock after an instruction, given whether it held it before -/
def Instr.after (b : Bool) : Instr → Bool
  | .lock => true
  | .unlock | .connectBodyU _ => false
  | _ => b

theorem ok_cons (cerr : Nat → Bool) (b : Bool) (i : Instr) (r : List Instr) (h : ok cerr b (i :: r) = true) :
    ok cerr (i.after b) r = true := by
  cases b <;> cases i <;> simp_all [ok, Instr.after]

theorem linv_step (cerr : Nat → Bool) (st st' : St) (t : Nat) (h : LInv cerr st) (hs : step cerr st t = some st') :
    LInv cerr st' := by
  have ht := h t
  revert hs
  -- `caseN`: the N-th alternative of `step`, in the order of its definition; the refusing ones go by `cases hs`
  fun_cases step cerr st t <;> intro hs <;> cases hs
  case case2 r hp hh =>  -- lock
    exact linv_move cerr st _ t r h (fun u e => by simp [hh, Ne.symm e]) rfl
      (by simpa [Instr.after] using ok_cons cerr _ _ r (hp ▸ ht))
  case case4 r hp hh =>  -- unlock
    exact linv_move cerr st _ t r h (fun u e => by simp [hh, Ne.symm e]) rfl
      (by simpa [Instr.after] using ok_cons cerr _ _ r (hp ▸ ht))
  -- the next four put code in front of the rest of the program. Split on whether `t` holds the lock: in the branch where the
  -- instruction is ill-typed `ht` is false; in the other `simp` types the code put in front and what is left is `ht`
  case case8 r hp =>  -- closeTaken
    refine linv_move cerr st _ t _ h (fun _ _ => .rfl) rfl ?_
    cases hb : decide (st.holder = some t) <;> simp [hp, hb, ok, ok_map_connClose] at ht ⊢; exact ht
  case case10 c r hp _ =>  -- connClose, the first close of c
    refine linv_move cerr st _ t _ h (fun _ _ => .rfl) rfl ?_
    cases hb : decide (st.holder = some t) <;> cases hc : cerr c <;> simp [hp, hb, hc, ok, pHandleError] at ht ⊢ <;> exact ht
  case case12 c r hp _ =>  -- connError, the first close of c
    refine linv_move cerr st _ t _ h (fun _ _ => .rfl) rfl ?_
    cases hb : decide (st.holder = some t) <;> simp [hp, hb, ok, pHandleError] at ht ⊢; exact ht
  case case15 c r hp _ =>  -- connectBody on a closed pool
    refine linv_move cerr st _ t _ h (fun _ _ => .rfl) rfl ?_
    cases hb : decide (st.holder = some t) <;> simp [hp, hb, ok] at ht ⊢; exact ht
  case case18 c r hp hh _ | case19 c r hp hh _ =>
    -- connectBodyU (the repaired tail of connect: gives the lock back before it closes the connection)
    exact linv_move cerr st _ t _ h (fun u e => by simp [hh, Ne.symm e]) rfl (by simpa [hp, hh, ok] using ht)
  case case17 r hp => exact linv_move cerr st _ t r h (fun _ _ => .rfl) rfl (ok_cons cerr _ _ r (hp ▸ ht) :)  -- read
  -- poolCloseBody, connClose / connError of a closed connection, heBody, connectBody on an open pool
  all_goals
    rename_i r hp _
    exact linv_move cerr st _ t r h (fun _ _ => .rfl) rfl (ok_cons cerr _ _ r (hp ▸ ht) :)

theorem isRun (cerr : Nat → Bool) : IsRun (step cerr) (run cerr) :=
  ⟨fun _ => rfl, fun s t ts => by rw [run]; cases step cerr s t <;> rfl⟩

/-- a program that respects the discipline ends without the lock: what follows it starts free -/
theorem ok_append (cerr : Nat → Bool) : ∀ (a b : List Instr) (h : Bool), ok cerr h a = true →
    ok cerr h (a ++ b) = ok cerr false b
  | [], b, h, ha => by cases h <;> simp [ok] at ha ⊢
  | i :: a, b, h, ha => by
    cases h <;> cases i <;> simp [ok] at ha ⊢ <;>
      first
      | exact ok_append cerr a b _ ha
      | (simp [ha.1]; exact ok_append cerr a b _ ha.2)

/-- every method of the pool respects the lock discipline, whatever the transports report on Close -/
theorem ok_meth (cerr : Nat → Bool) (m : Meth) : ok cerr false m.prog = true := by
  cases m <;> simp [Meth.prog, ok, pClose, pHandleError, pPick, pConnectTail]

/-- … and so does every sequence of them run by one goroutine -/
theorem ok_progOf (cerr : Nat → Bool) : ∀ ms : List Meth, ok cerr false (progOf ms) = true
  | [] => rfl
  | m :: ms => by
    have : progOf (m :: ms) = m.prog ++ progOf ms := by simp [progOf]
    rw [this, ok_append cerr _ _ false (ok_meth cerr m)]
    exact ok_progOf cerr ms

/-- the invariant holds in every reachable state of goroutines that run sequences of the pool's methods -/
theorem inv_reach {cerr : Nat → Bool} {conns : List Nat} {ms : Nat → List Meth} {ts : List Nat} {st : St}
    (hr : run cerr (init conns (fun t => progOf (ms t))) ts = some st) : LInv cerr st :=
  (isRun cerr).inv (linv_step cerr) (linv_init cerr conns _ (fun t => ok_progOf cerr (ms t))) hr

theorem holder_steps (cerr : Nat → Bool) (st : St) (t : Nat) (h : LInv cerr st) (hh : st.holder = some t) :
    (step cerr st t).isSome = true := by
  have ht := h t
  simp only [hh, decide_true] at ht
  fun_cases step cerr st t
  case case1 hp => simp [hp, ok] at ht          -- finished: a program that holds the lock has an `unlock` to come
  case case3 r hp _ _ => simp [hp, ok] at ht    -- lock: the discipline never locks twice
  case case5 hn | case20 hn => exact absurd hh hn  -- unlock, connectBodyU: `t` is the holder
  all_goals rfl

theorem some_thread_steps (cerr : Nat → Bool) (st : St) (u : Nat) (h : LInv cerr st) (hu : st.prog u ≠ []) :
    ∃ t, (step cerr st t).isSome = true := by
  cases hh : st.holder with
  | some t => exact ⟨t, holder_steps cerr st t h hh⟩
  | none =>
    -- nobody holds the lock: `u` itself can move, since a program run without the lock starts with no `unlock`
    refine ⟨u, ?_⟩
    have h1 := h u
    simp only [hh, reduceCtorEq, decide_false] at h1
    fun_cases step cerr st u
    case case1 hp => exact absurd hp hu
    case case3 _ _ _ hn => simp [hh] at hn
    case case5 r hp _ => simp [hp, ok] at h1
    case case20 c r hp _ => simp [hp, ok] at h1
    all_goals rfl

end PoolLock
