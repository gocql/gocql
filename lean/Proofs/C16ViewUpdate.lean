import Proofs.C16ViewAgree
import Proofs.C16Update
/-! `View.updateStored` (ring.addOrUpdate with HostInfo.update changing the stored object's
address fields; by-address index re-keyed: repair of KF-C16-5) keeps the invariant of all histories -/
namespace C16
open Ring ClusterView

/-- the data centre (hence locality) of an object does not depend on its address fields -/
def LocStable (env : Env) : Prop := ∀ (h : RHost) (a c : Nat), env.isLocal { h with addr := a, caddr := c } = env.isLocal h

theorem updateStoredV_of_none (v : View) (id a c : Nat) (hn : lookup v.ring.byId id = none) : v.updateStored id a c = v := by
  unfold View.updateStored; rw [hn]

theorem updateStoredV_ring (v : View) (id a c : Nat) : (v.updateStored id a c).ring = v.ring.updateStored id a c := by
  unfold View.updateStored
  cases hl : lookup v.ring.byId id with
  | none => rw [updateStored_of_none _ id a c hl]
  | some h => rfl

theorem updateStoredV_down (v : View) (id a c : Nat) : (v.updateStored id a c).down = v.down := by
  unfold View.updateStored
  cases lookup v.ring.byId id <;> rfl

theorem updateStoredV_crashed (v : View) (id a c : Nat) : (v.updateStored id a c).crashed = v.crashed := by
  unfold View.updateStored
  cases lookup v.ring.byId id <;> rfl

/-- `HostInfo.update` as the references see it: the object `h` now carries the address fields `a`, `c` -/
def repl (h : RHost) (a c : Nat) (x : RHost) : RHost := if x == h then { h with addr := a, caddr := c } else x

theorem repl_id (h : RHost) (a c : Nat) (x : RHost) : (repl h a c x).id = x.id := by
  unfold repl; split
  · rename_i hb; rw [eq_of_beq hb]
  · rfl

theorem agree_updateStored (env : Env) (hloc : LocStable env) (v : View) (ha : Agree env v) (id a c : Nat) :
    Agree env (v.updateStored id a c) := by
  cases hl : lookup v.ring.byId id with
  | none => rw [updateStoredV_of_none v id a c hl]; exact ha
  | some h =>
    have hid : h.id = id := ha.sinv.wf _ (find_key_mem hl)
    have hlk := lookup_updateStored v.ring id a c h hl
    -- what the replacement does to an object that is the ring's object of its id
    have key : ∀ y : RHost, lookup v.ring.byId y.id = some y →
        lookup (v.ring.updateStored id a c).byId y.id = some (repl h a c y) := by
      intro y hy
      rw [hlk]
      unfold repl
      by_cases e : y = h
      · subst e
        rw [if_pos hid, if_pos (beq_self_eq_true y)]
      · have hne : y.id ≠ id := by
          intro e2
          rw [e2, hl] at hy
          exact e (Option.some.inj hy).symm
        rw [if_neg hne, if_neg (by simpa using e)]; exact hy
    have hlocf : ∀ y, env.isLocal (repl h a c y) = env.isLocal y := by
      intro y; unfold repl; split
      · rename_i hb; rw [hloc h a c, eq_of_beq hb]
      · rfl
    have hv : v.updateStored id a c =
        { v with
          ring := v.ring.updateStored id a c
          pools := v.pools.map (fun e => (e.1, repl h a c e.2))
          pol := ⟨v.pol.ta.map (repl h a c), v.pol.loc.map (repl h a c), v.pol.rem.map (repl h a c)⟩ } := by
      unfold View.updateStored; rw [hl]; rfl
    rw [hv]
    refine ⟨SInv_updateStored v.ring ha.sinv id a c, ?_, ?_, ?_, ?_, ?_⟩
    · intro e he
      obtain ⟨e0, he0, rfl⟩ := List.mem_map.mp he
      have h0 := ha.pools e0 he0
      have hid0 : e0.2.id = e0.1 := ha.sinv.wf _ (find_key_mem h0)
      exact hid0 ▸ key e0.2 (by rw [hid0]; exact h0)
    · intro x hx
      have hx' : x ∈ (v.pol.all).map (repl h a c) := by
        simpa [Policy.all, List.map_append] using hx
      obtain ⟨y, hy, rfl⟩ := List.mem_map.mp hx'
      rw [repl_id]; exact key y (ha.pol y hy)
    · intro ht
      show List.map _ v.pol.ta = []
      rw [ha.placed.ta ht]; rfl
    · intro x hx
      obtain ⟨y, hy, rfl⟩ := List.mem_map.mp hx
      rw [hlocf]; exact ha.placed.loc y hy
    · intro x hx
      obtain ⟨y, hy, rfl⟩ := List.mem_map.mp hx
      rw [hlocf]; exact ha.placed.rem y hy

end C16
