import Proofs.C08Step
/-! C08 WITHOUT the client protocol: an invariant of the concurrent machine that every action
preserves, whatever the threads call (any `Clear(id)` by anybody at any time: double / stale / racing
releases, `Clear(0)`, ids beyond the capacity).

* `count` : `inuse + #g7 − #c11 = popcount − 1`
* `cons`  : per id `x`:  #(`Clear(x)` calls that flipped the bit and returned) + #(threads at `c11 x`) + [bit x]
                       = #(`GetStream` calls that returned x) + #(threads at `g7 x`) + [bit x initially]

These are the two equations of `InvA`; `invA_set` is "thread `t` moves", `invA_tstep` every atomic operation, `invA_start` any
state with no call in progress; `runAny_induct` is the induction over schedules of `runAny`. -/
namespace C08
open Streams

def g7x (x : Nat) (pc : PC) : Bool := decide (pc = .g7 x)
def c11x (x : Nat) (pc : PC) : Bool := decide (pc = .c11 x)
def b2n (b : Bool) : Nat := if b then 1 else 0

structure InvA (b0 : Nat → Bool) (c0 : Int) (sh : Shared) (ths : List PC) (evs : List Ev) : Prop where
  npos : 0 < sh.words.length
  locals : ∀ (t : Nat) (pc : PC), ths[t]? = some pc → localA sh.words.length pc
  count : sh.inuse + (ths.countP isG7 : Nat) - (ths.countP isC11 : Nat)
            = (countBelow (bitAt sh.words) (64 * sh.words.length) : Nat) - 1 + c0
  cons : ∀ x : Nat, evs.count (.released x) + ths.countP (c11x x) + b2n (bitAt sh.words x)
            = evs.count (.got x) + ths.countP (g7x x) + b2n (b0 x)

/-- replacing the pc of thread `t` (and the shared state, and the event list) when the contributions
    to the two equations change consistently -/
theorem invA_set {b0 : Nat → Bool} {c0 : Int} {sh : Shared} {ths : List PC} {evs : List Ev}
    (hI : InvA b0 c0 sh ths evs) {t : Nat} {pc : PC} (ht : ths[t]? = some pc)
    (sh' : Shared) (pc' : PC) (evs' : List Ev)
    (hlen : sh'.words.length = sh.words.length)
    (hloc : localA sh.words.length pc')
    (hcount : sh'.inuse + (b2n (isG7 pc') : Nat) - (b2n (isC11 pc') : Nat)
                - (countBelow (bitAt sh'.words) (64 * sh.words.length) : Nat)
              = sh.inuse + (b2n (isG7 pc) : Nat) - (b2n (isC11 pc) : Nat)
                - (countBelow (bitAt sh.words) (64 * sh.words.length) : Nat))
    (hcons : ∀ x : Nat,
        (evs'.count (.released x) + b2n (c11x x pc') + b2n (bitAt sh'.words x)) + (evs.count (.got x) + b2n (g7x x pc))
        = (evs.count (.released x) + b2n (c11x x pc) + b2n (bitAt sh.words x)) + (evs'.count (.got x) + b2n (g7x x pc'))) :
    InvA b0 c0 sh' (ths.set t pc') evs' := by
  refine ⟨hlen ▸ hI.npos, hlen ▸ forall_set hI.locals t hloc, ?_, ?_⟩
  · have h1 := countP_set isG7 ths t pc pc' ht
    have h2 := countP_set isC11 ths t pc pc' ht
    have h3 := hI.count
    rw [hlen]
    simp only [b2n] at hcount
    omega
  · intro x
    have h1 := countP_set (g7x x) ths t pc pc' ht
    have h2 := countP_set (c11x x) ths t pc pc' ht
    have h3 := hI.cons x
    have h4 := hcons x
    simp only [b2n] at h3 h4 ⊢
    omega

theorem quiet_x {pc : PC} (h : quiet pc) (x : Nat) : g7x x pc = false ∧ c11x x pc = false ∧ evOfPC pc = [] := by
  cases pc <;> simp_all [quiet, isG7, isC11, g7x, c11x, evOfPC]

theorem invA_quiet {b0 : Nat → Bool} {c0 : Int} {sh : Shared} {ths : List PC} {evs : List Ev}
    (hI : InvA b0 c0 sh ths evs) {t : Nat} {pc : PC} (ht : ths[t]? = some pc) (hq : quiet pc)
    (sh' : Shared) (pc' : PC) (hw : sh'.words = sh.words) (hu : sh'.inuse = sh.inuse)
    (hq' : quiet pc') (hloc : localA sh.words.length pc') :
    InvA b0 c0 sh' (ths.set t pc') (evOfPC pc ++ evs) := by
  rw [(quiet_x hq 0).2.2]
  refine invA_set hI ht sh' pc' _ (by rw [hw]) hloc ?_ ?_
  · rw [hw, hu, hq.1, hq.2, hq'.1, hq'.2]
  · intro x
    rw [hw, (quiet_x hq x).1, (quiet_x hq x).2.1, (quiet_x hq' x).1, (quiet_x hq' x).2.1]
    simp only [List.nil_append]

theorem quiet_start (op : Op) : quiet (startPC op) ∧ evOfPC (startPC op) = [] ∧ ∀ n, localA n (startPC op) := by
  cases op <;> exact ⟨⟨rfl, rfl⟩, rfl, fun _ => trivial⟩

theorem count_cons_ev (e e' : Ev) (evs : List Ev) :
    (e' :: evs).count e = evs.count e + if e = e' then 1 else 0 := by
  rw [List.count_cons]; by_cases h : e = e' <;> simp [h, Ne.symm]

theorem invA_tstep {b0 : Nat → Bool} {c0 : Int} {sh : Shared} {ths : List PC} {evs : List Ev}
    (hI : InvA b0 c0 sh ths evs) {t : Nat} {pc : PC} (ht : ths[t]? = some pc) :
    InvA b0 c0 (tstep sh pc).1 (ths.set t (tstep sh pc).2.1) (evOfPC pc ++ evs) := by
  have hloc := hI.locals t pc ht
  -- `cons` is a ledger per id `x`; each effect on `id` moves ONE unit between two of its columns at `x = id`:
  -- acquire: bit and `g7x` 0 → 1; return: `g7x` 1 → 0, `got` + 1; release: bit 1 → 0, `c11x` 0 → 1;
  -- decrement: `c11x` 1 → 0, `released` + 1. `count` is the same ledger summed over the ids.
  cases tstep_kinds sh pc hI.npos (localA_ok hloc) with
  | quiet hq =>
    exact invA_quiet hI ht hq.src _ _ hq.words hq.inuse hq.dst (hq.loc hloc)
  | acquire id hlt hfree _ e =>
    rw [e]
    obtain ⟨hbits, h4⟩ := setBit_view (K := 64 * sh.words.length) (by omega) hlt hfree
    refine invA_set hI ht _ _ _ (length_setBit _ _) hlt ?_ ?_
    · simp only [isG7, isC11, b2n, h4, Bool.false_eq_true, ↓reduceIte]
      omega
    · intro x
      simp only [evOfPC, List.nil_append, hbits, g7x, c11x, b2n]
      by_cases hx : x = id
      · subst hx; simp [hfree] <;> omega
      · simp [hx, Ne.symm hx] <;> omega
  | ret id =>
    simp only [tstep]
    refine invA_set hI ht _ _ _ rfl trivial ?_ ?_
    · simp only [isG7, isC11, b2n, Bool.false_eq_true, ↓reduceIte]; omega
    · intro x
      simp only [evOfPC, List.singleton_append, g7x, c11x, b2n, count_cons_ev]
      by_cases hx : x = id
      · subst hx; simp <;> omega
      · simp [hx, Ne.symm hx] <;> omega
  | release id h _ e =>
    rw [e]
    have hwas : bitAt sh.words id = true := (bitAt_of_word h).trans hloc.1
    obtain ⟨hbits, h5⟩ := clrBit_view (K := 64 * sh.words.length) hloc.2 (by have := hloc.2; omega) hwas
    refine invA_set hI ht _ _ _ (length_clrBit _ _) trivial ?_ ?_
    · simp only [isG7, isC11, b2n, ← h5, Bool.false_eq_true, ↓reduceIte]
      omega
    · intro x
      simp only [evOfPC, List.nil_append, hbits, g7x, c11x, b2n]
      by_cases hx : x = id
      · subst hx; simp [hwas] <;> omega
      · simp [hx, Ne.symm hx] <;> omega
  | decrement id =>
    simp only [tstep]
    refine invA_set hI ht _ _ _ rfl trivial ?_ ?_
    · simp only [isG7, isC11, b2n, Bool.false_eq_true, ↓reduceIte]; omega
    · intro x
      simp only [evOfPC, List.singleton_append, g7x, c11x, b2n, count_cons_ev]
      by_cases hx : x = id
      · subst hx; simp <;> omega
      · simp [hx, Ne.symm hx] <;> omega

theorem invA_call {b0 : Nat → Bool} {c0 : Int} {sh : Shared} {ths : List PC} {evs : List Ev}
    (hI : InvA b0 c0 sh ths evs) {t : Nat} (ht : ths[t]? = some .idle) (op : Op) :
    InvA b0 c0 sh (ths.set t (startPC op)) evs :=
  invA_quiet hI ht ⟨rfl, rfl⟩ sh (startPC op) rfl rfl (quiet_start op).1 ((quiet_start op).2.2 _)

theorem invA_step {b0 : Nat → Bool} {c0 : Int} {s s' : State} {a : Action} {r : Option Ret} {evs : List Ev}
    (hI : InvA b0 c0 s.sh s.threads evs) (hs : step s a = some (s', r)) :
    InvA b0 c0 s'.sh s'.threads (evOf s a ++ evs) := by
  obtain ⟨t, pc0, pc, held, ht, rfl, _, hev, _, ⟨op, _, rfl, rfl, _⟩ | ⟨_, rfl, _, _⟩⟩ := step_cases hs
  · have h2 := invA_tstep (invA_call hI ht op) (getElem?_set_of _ ht)
    rw [hev]
    rwa [List.set_set] at h2
  · rw [hev]
    exact invA_tstep hI ht

theorem runAny_induct {ok : State → Action → Bool} {P : State → List Ev → Prop}
    (hstep : ∀ s evs a s' r, P s evs → ok s a = true → step s a = some (s', r) → P s' (evOf s a ++ evs))
    (as : List Action) (s : State) (evs : List Ev) (s' : State) (evs' : List Ev) (hP : P s evs)
    (h : runAny ok s evs as = some (s', evs')) : P s' evs' := by
  fun_induction runAny ok s evs as with
  | case1 s evs => cases h; exact hP
  | case2 s evs a as hok s1 r hs ih => exact ih (hstep _ _ _ _ _ hP hok hs) h
  | case3 | case4 => cases h

theorem runAny_length (ok : State → Action → Bool) (as : List Action) (s : State) (evs : List Ev) (s' : State)
    (evs' : List Ev) (h : runAny ok s evs as = some (s', evs')) :
    s'.sh.words.length = s.sh.words.length ∧ s'.threads.length = s.threads.length :=
  runAny_induct (P := fun x _ => x.sh.words.length = s.sh.words.length ∧ x.threads.length = s.threads.length)
    (fun _ _ _ _ _ hP _ hs => ⟨(step_length hs).1.trans hP.1, (step_length hs).2.trans hP.2⟩) as s evs s' evs' ⟨rfl, rfl⟩ h

theorem invA_runAny {b0 : Nat → Bool} {c0 : Int} (ok : State → Action → Bool) (as : List Action) :
    ∀ (s : State) (evs : List Ev) (s' : State) (evs' : List Ev), InvA b0 c0 s.sh s.threads evs →
      runAny ok s evs as = some (s', evs') → InvA b0 c0 s'.sh s'.threads evs' :=
  runAny_induct (P := fun s evs => InvA b0 c0 s.sh s.threads evs) (fun _ _ _ _ _ hI _ hs => invA_step hI hs) as

theorem countP_idle {f : PC → Bool} (hf : f .idle = false) {ths : List PC} (h : ∀ pc, pc ∈ ths → pc = .idle) :
    ths.countP f = 0 := by
  rw [List.countP_eq_zero]
  intro pc hpc
  rw [h pc hpc, hf]; simp

/-- any state in which no call is in progress is a starting point -/
theorem invA_start (s0 : State) (hn : 0 < s0.sh.words.length) (hidle : ∀ pc, pc ∈ s0.threads → pc = .idle) :
    InvA (bitAt s0.sh.words)
      (s0.sh.inuse - ((countBelow (bitAt s0.sh.words) (64 * s0.sh.words.length) : Nat) - 1))
      s0.sh s0.threads [] := by
  refine ⟨hn, ?_, ?_, ?_⟩
  · intro t pc ht
    rw [hidle pc (List.mem_of_getElem? ht)]; trivial
  · rw [countP_idle (f := isG7) rfl hidle, countP_idle (f := isC11) rfl hidle]
    simp <;> omega
  · intro x
    rw [countP_idle (f := g7x x) (by simp [g7x]) hidle, countP_idle (f := c11x x) (by simp [c11x]) hidle]
    simp

end C08
