import Gen.Murmur
import Model.Murmur
import Proofs.C09Murmur
import Proofs.GenTieBits
/-!
  Tie theorems between the definitions REGENERATED from /repo/internal/murmur/murmur.go by tools/go2lean on every
  run (`Gen.Murmur`) and the hand-written model the C09 theorems are about (`Murmur`). If the Go source changes,
  `Gen/Murmur.lean` changes and these theorems are re-checked against the new text.
-/
namespace GenTie.C09

theorem consts : Gen.Murmur.c1 = Murmur.c1 ∧ Gen.Murmur.c2 = Murmur.c2 ∧
    Gen.Murmur.fmix1 = Murmur.fmix1 ∧ Gen.Murmur.fmix2 = Murmur.fmix2 := ⟨rfl, rfl, rfl, rfl⟩

theorem fmix (n : BitVec 64) : Gen.Murmur.fmix n = Murmur.fmix n := rfl

theorem block (b : UInt8) : Gen.Murmur.block b.toBitVec = Murmur.sext b := rfl

/-- `rotl(x, r)` for the rotation counts the code uses (`r ≤ 64`: `64 - r` does not wrap in uint8) -/
theorem rotl (x : BitVec 64) (r : BitVec 8) (h : r.toNat ≤ 64) :
    Gen.Murmur.rotl x r = Murmur.rotl x r.toNat := by
  unfold Gen.Murmur.rotl Murmur.rotl
  have : (0x40#8 - r).toNat = 64 - r.toNat := by
    rw [BitVec.toNat_sub]; simp; omega
  rw [this]

/-- the body of the block loop (`k1 *= c1` … `h2 = h2*5 + 0x38495ab5`) is `mixBlock` -/
theorem mixBody (h1 h2 k1 k2 : BitVec 64) :
    (let r := Gen.Murmur.mixBody h1 h2 k1 k2; (r.2.1, r.2.2.2)) = Murmur.mixBlock (h1, h2) k1 k2 := by
  simp only [Gen.Murmur.mixBody, Murmur.mixBlock, Murmur.c1, Murmur.c2]
  rw [rotl _ 0x1f#8 (by decide), rotl _ 0x1b#8 (by decide), rotl _ 0x21#8 (by decide), rotl _ 0x1f#8 (by decide)]
  rfl

theorem getD_map (l : List UInt8) (i : Nat) :
    (l.map (·.toBitVec)).getD i 0#8 = (l.getD i 0).toBitVec := GenTie.C12.getD_map l i

theorem getD_map' (l : List UInt8) (i : Nat) :
    ((l.map (·.toBitVec))[i]?).getD 0#8 = (l.getD i 0).toBitVec := by
  rw [← List.getD_eq_getElem?_getD]; exact GenTie.C12.getD_map l i

theorem rotl33 (x : BitVec 64) : Gen.Murmur.rotl x 33#8 = Murmur.rotl x 33 := rotl x 33#8 (by decide)
theorem rotl31 (x : BitVec 64) : Gen.Murmur.rotl x 31#8 = Murmur.rotl x 31 := rotl x 31#8 (by decide)

/-- what the switch leaves in (k2, h2, k1, h1) according to the model -/
def swModel (tl : List UInt8) (n : Nat) (h1 h2 : BitVec 64) : BitVec 64 × BitVec 64 × BitVec 64 × BitVec 64 :=
  let r := Murmur.mixTail (h1, h2) (Murmur.tailK1 tl n) (Murmur.tailK2 tl n) n
  (if n ≥ 9 then Murmur.rotl (Murmur.tailK2 tl n * Murmur.c2) 33 * Murmur.c1 else 0#64, r.2,
   if n ≥ 1 then Murmur.rotl (Murmur.tailK1 tl n * Murmur.c1) 31 * Murmur.c2 else 0#64, r.1)

/-! The generated switch is fifteen stages `if sw_run then (one field updated) else (unchanged)` on the tuple
  (k2, h2, k1, h1), with `sw_run` = "the tag matched this arm or an earlier one" (fallthrough). The lemmas below move each
  `if` into the field it changes, so that the stages compose without duplicating the tuple, and turn `sw_run` of arm
  `k` into `n ≥ k`; what is left differs from the model only in the arms 9 and 1 (the mixing steps). -/
section
variable (c : Bool) (x a k2 h2 k1 h1 : BitVec 64)

theorem arm_k2 : (if c = true then (k2 ^^^ x, h2, k1, h1) else (k2, h2, k1, h1))
    = (k2 ^^^ (if c then x else 0#64), h2, k1, h1) := by cases c <;> simp

theorem arm_k1 : (if c = true then (k2, h2, k1 ^^^ x, h1) else (k2, h2, k1, h1))
    = (k2, h2, k1 ^^^ (if c then x else 0#64), h1) := by cases c <;> simp

theorem mix_k2 : (if c = true then (a, h2 ^^^ a, k1, h1) else (k2, h2, k1, h1))
    = (if c then a else k2, if c then h2 ^^^ a else h2, k1, h1) := by cases c <;> rfl

theorem mix_k1 : (if c = true then (k2, h2, a, h1 ^^^ a) else (k2, h2, k1, h1))
    = (k2, h2, if c then a else k1, if c then h1 ^^^ a else h1) := by cases c <;> rfl
end

theorem tag_beq (n : Nat) (hn : n < 2 ^ 64) (x : BitVec 64) : (BitVec.ofNat 64 n == x) = (n == x.toNat) := by
  rw [Bool.eq_iff_iff]; simp only [beq_iff_eq, ← BitVec.toNat_inj, BitVec.toNat_ofNat, Nat.mod_eq_of_lt hn]

theorem ge_step (n k : Nat) : (decide (n ≥ k + 1) || (n == k)) = decide (n ≥ k) := by
  rw [Bool.eq_iff_iff]; simp; omega

theorem tailSwitch (tl : List UInt8) (n : Nat) (hn : n < 16) (h1 h2 : BitVec 64) :
    Gen.Murmur.Murmur3H1_tailFinish_sw1 (BitVec.ofNat 64 n) h1 h2 0#64 0#64 (tl.map (·.toBitVec))
      = swModel tl n h1 h2 := by
  have h15 : (n == 15) = decide (n ≥ 15) := by rw [Bool.eq_iff_iff]; simp; omega
  unfold Gen.Murmur.Murmur3H1_tailFinish_sw1
  -- two passes: with the conditions already propositions the arm lemmas would be tried against `n ≥ k` unfolded
  simp only [Bool.false_or, Bool.not_false, Bool.true_and, arm_k2, arm_k1, mix_k2, mix_k1]
  -- no lemma with a side condition below (`hk` matches `k + 10` against the literals): a discharger would run at every `if`
  simp only [tag_beq n (by omega), BitVec.toNat_ofNat, Nat.reducePow, Nat.reduceMod, h15, ge_step, decide_eq_true_eq, getD_map,
    block, rotl33, rotl31]
  unfold swModel Murmur.mixTail Murmur.tailK1 Murmur.tailK2 Murmur.tb Murmur.c1 Murmur.c2
  by_cases h9 : n ≥ 9
  · have hn1 : n ≥ 1 := by omega
    simp only [h9, hn1, if_true]
  · -- below 9 the k2 arms did not run (k2 = 0); below 1 neither did the k1 arms
    simp only [h9, if_false]
    have hk : ∀ k, ¬ n ≥ k + 10 := fun k => by omega
    by_cases hn1 : n ≥ 1
    · simp only [hn1, hk, if_true, if_false, BitVec.xor_zero]
    · have hk : ∀ k, ¬ n ≥ k + 1 := fun k => by omega
      simp only [hk, if_false, BitVec.xor_zero]

/-- the tail and finalisation of `Murmur3H1` (`tail := data[nBlocks*16:]` … `return h1`): the model's
    `mixTail` of `tailK1`/`tailK2`, then `finish`; for every input below 2^60 bytes, every state of the block loop -/
theorem tailFinish (data : List UInt8) (h1 h2 k1 k2 : BitVec 64) (hl : data.length < 2^60) :
    Gen.Murmur.tailFinish (data.map (·.toBitVec)) (BitVec.ofNat 64 data.length) h1 h2 k1 k2
        (BitVec.ofNat 64 (data.length / 16))
      = Murmur.finish (Murmur.mixTail (h1, h2)
          (Murmur.tailK1 (data.drop (data.length / 16 * 16)) (data.length % 16))
          (Murmur.tailK2 (data.drop (data.length / 16 * 16)) (data.length % 16)) (data.length % 16)) data.length := by
  have hK : ((BitVec.ofNat 64 (data.length / 16)) * 0x10#64).toNat = data.length / 16 * 16 := by
    rw [GenTie.Bits.int_mul, GenTie.Bits.toNat_int (by omega)]
  have hT : (BitVec.ofNat 64 data.length &&& 0xf#64) = BitVec.ofNat 64 (data.length % 16) := by
    apply BitVec.eq_of_toNat_eq
    have : (15 : Nat) = 2^4 - 1 := rfl
    simp [BitVec.toNat_and]
    rw [this, Nat.and_two_pow_sub_one_eq_mod]
    omega
  unfold Gen.Murmur.tailFinish
  simp only [hK, hT, ← List.map_drop]
  rw [tailSwitch _ _ (Nat.mod_lt _ (by decide))]
  simp [swModel, Murmur.finish, fmix]

/-! ### The whole function `Murmur3H1` (loop header, `getBlock` extern, tail, finalisation)

  The translator handles counted `for` loops, so `Murmur3H1` is translated as a whole (`Gen.Murmur.Murmur3H1`,
  with the helper `Murmur3H1_loop1` by recursion on a fuel argument = the trip count `nBlocks - 0`). `getBlock`
  (unsafe pointer code) is the one EXTERN: its Lean text is trusted and pinned to the Go source text it was written for. -/

theorem le64_map (bs : List UInt8) : Gen.Murmur.le64 (bs.map (·.toBitVec)) = Murmur.le64 bs := by
  rw [Gen.Murmur.le64, Murmur.le64, List.foldr_map]; rfl

theorem slt_small (i n : Nat) (h : i < n) (hn : n < 2^62) :
    BitVec.slt (BitVec.ofNat 64 i) (BitVec.ofNat 64 n) = true := GenTie.C12.slt_small i n h hn

theorem getBlock_map (data : List UInt8) (i : Nat) (hi : i < 2^62) :
    Gen.Murmur.getBlock (data.map (·.toBitVec)) (BitVec.ofNat 64 i) =
      (Murmur.le64 (((data.drop (i*16)).take 16).take 8), Murmur.le64 ((((data.drop (i*16)).take 16).drop 8).take 8)) := by
  simp only [Gen.Murmur.getBlock, GenTie.Bits.toNat_int (show i < 2 ^ 64 by omega), ← List.map_drop, ← List.map_take, le64_map]
  congr 2
  · simp [List.take_take]
  · rw [List.drop_take, List.take_take, List.drop_drop]; simp

theorem loop_step (d : List (BitVec 8)) (nB : BitVec 64) (fuel : Nat) (i k1 k2 h1 h2 : BitVec 64)
    (hc : BitVec.slt i nB = true) :
    Gen.Murmur.Murmur3H1_loop1 d nB (fuel+1) i k1 k2 h1 h2 =
      (let b := Gen.Murmur.getBlock d i
       let r := Gen.Murmur.mixBody h1 h2 b.1 b.2
       Gen.Murmur.Murmur3H1_loop1 d nB fuel (i + 1#64) r.1 r.2.2.1 r.2.1 r.2.2.2) := by
  rw [Gen.Murmur.Murmur3H1_loop1]
  simp only [hc, if_true]
  rfl

theorem loop (data : List UInt8) (nB : Nat) (hnB : nB < 2^61) :
    ∀ (fuel i : Nat) (k1 k2 h1 h2 : BitVec 64), i + fuel = nB →
      (let r := Gen.Murmur.Murmur3H1_loop1 (data.map (·.toBitVec)) (BitVec.ofNat 64 nB) fuel (BitVec.ofNat 64 i) k1 k2 h1 h2
       (r.2.2.1, r.2.2.2)) = Murmur.bodyLoop data nB fuel (h1, h2) := by
  intro fuel
  induction fuel with
  | zero => intro i k1 k2 h1 h2 _; simp [Gen.Murmur.Murmur3H1_loop1, Murmur.bodyLoop, Murmur.bodyLoopG]
  | succ f ih =>
    intro i k1 k2 h1 h2 hi
    have hlt : i < nB := by omega
    rw [loop_step _ _ _ _ _ _ _ _ (slt_small i nB hlt (by omega))]
    simp only [GenTie.Bits.int_add]
    refine (ih (i+1) _ _ _ _ (by omega)).trans ?_
    rw [mixBody h1 h2 _ _, getBlock_map data i (by omega)]
    have hidx : nB - (f+1) = i := by omega
    simp only [Murmur.bodyLoop]
    rw [Murmur.bodyLoopG]
    simp only [hidx]

theorem sdiv16 (n : Nat) (hn : n < 2^62) : BitVec.sdiv (BitVec.ofNat 64 n) 0x10#64 = BitVec.ofNat 64 (n / 16) :=
  GenTie.Bits.int_sdiv (by omega) (by decide)

/-- the switch is translated twice (inside the whole function and inside the segment): the same text -/
theorem sw_same : @Gen.Murmur.Murmur3H1_sw2 = @Gen.Murmur.Murmur3H1_tailFinish_sw1 := rfl

theorem whole_unfold (d : List (BitVec 8)) :
    Gen.Murmur.Murmur3H1 d =
      (let length := BitVec.ofNat 64 d.length
       let nBlocks := BitVec.sdiv length 0x10#64
       let r := Gen.Murmur.Murmur3H1_loop1 d nBlocks ((nBlocks - 0x0#64).toNat) 0x0#64 0#64 0#64 0#64 0#64
       Gen.Murmur.tailFinish d length r.2.2.1 r.2.2.2 r.1 r.2.1 nBlocks) := by
  unfold Gen.Murmur.Murmur3H1 Gen.Murmur.tailFinish
  rw [sw_same]

/-- THE WHOLE FUNCTION: `murmur.Murmur3H1` as re-translated from the current source (block loop with its header,
    `getBlock` as the trusted extern, tail switch, finalisation) is the model `Murmur.murmur3H1`, for every input
    below 2^60 bytes. -/
theorem murmur3H1 (data : List UInt8) (hl : data.length < 2^60) :
    Gen.Murmur.Murmur3H1 (data.map (·.toBitVec)) = Murmur.murmur3H1 data := by
  rw [whole_unfold]
  simp only [List.length_map]
  rw [sdiv16 _ (by omega)]
  simp (disch := omega) only [GenTie.Bits.int_sub, GenTie.Bits.toNat_int, Nat.sub_zero]
  have hl := loop data (data.length / 16) (by omega) (data.length / 16) 0 0#64 0#64 0#64 0#64 (by omega)
  simp only at hl
  have h1 := congrArg Prod.fst hl
  have h2 := congrArg Prod.snd hl
  simp only at h1 h2
  rw [h1, h2]
  rw [tailFinish data _ _ _ _ (by omega)]
  rfl

/-- the regenerated code itself computes Cassandra's hash: composition with `Murmur.murmur3H1_eq_cassandra`
    (Proofs/C09Murmur), the fact the property theorem `C09_murmur` states -/
theorem murmur3H1_is_cassandra (data : List UInt8) (hl : data.length < 2^60) :
    Gen.Murmur.Murmur3H1 (data.map (·.toBitVec)) = Murmur.Spec.cassandraH1 data := by
  rw [murmur3H1 data hl]; exact Murmur.murmur3H1_eq_cassandra data

example : Gen.Murmur.Murmur3H1 ([104, 101, 108, 108, 111].map (fun (b : UInt8) => b.toBitVec)) = 0xcbd8a7b341bd9b02#64 := by decide

end GenTie.C09
