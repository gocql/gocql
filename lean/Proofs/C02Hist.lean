import Model.MarshalHistory
import Proofs.Common
/-!
# C02 — layout independence of the model

marshalUDT on a struct or map with named fields is rewritten over the association list of (tag, value) pairs
(`namedList`, `pick`, `udtAssemble_pick`): each UDT field picks the entry of its name (`pick_eq`: the lookup of
`Common.findKey`), so the result depends on the struct through that lookup only (`marshal_udtstruct_congr`).
`Model/MarshalHistory.lean` is imported for `C02.C02_marshal_history_independent`.
-/
namespace C02Hist
open ValueSpec Marshal

/-- the encoding of the Go field tagged `fname` (generic in the per-field encoder) -/
def namedList (e : String → GoVal → MRes) : List String → List GoVal → List MRes
  | f :: fs, v :: vs => e f v :: namedList e fs vs
  | _, _ => []

/-- the per-field encoder of marshalUDT: the UDT field of the same name decides the column type -/
def enc1 (p : Nat) (names : List String) (ts : List CqlTy) (fname : String) (v : GoVal) : MRes :=
  match lookupIdx fname names 0 with
  | some i => (match ts[i]? with
      | some t => marshal p t v
      | none => .ok none)
  | none => .ok none

theorem marshalNamed_eq (p : Nat) (names : List String) (ts : List CqlTy) (fnames : List String) (vs : List GoVal) :
    marshalNamed p names ts fnames vs = namedList (enc1 p names ts) fnames vs := by
  induction fnames generalizing vs with
  | nil => cases vs <;> simp [marshalNamed, namedList]
  | cons f fs ih =>
    cases vs with
    | nil => simp [marshalNamed, namedList]
    | cons v vs =>
      simp only [marshalNamed, namedList, enc1, ih]
      rfl

/-- what marshalUDT looks up for the UDT field `n`: the first Go field tagged `n` (association list form) -/
def pick (e : String → GoVal → MRes) (n : String) : List (String × GoVal) → MRes
  | [] => .ok none
  | (f, v) :: r => if f = n then e f v else pick e n r

theorem lookupIdx_shift (n : String) (fs : List String) (k : Nat) :
    lookupIdx n fs (k+1) = (lookupIdx n fs k).map (· + 1) := by
  fun_induction lookupIdx n fs k <;> simp_all [lookupIdx]

theorem lookup_pick (e : String → GoVal → MRes) (n : String) (fs : List (String × GoVal)) :
    (match lookupIdx n (fs.map (·.1)) 0 with
     | some i => (match (namedList e (fs.map (·.1)) (fs.map (·.2)))[i]? with | some r => r | none => MRes.ok none)
     | none => MRes.ok none) = pick e n fs := by
  induction fs with
  | nil => rfl
  | cons a r ih =>
    obtain ⟨f, v⟩ := a
    simp only [List.map_cons, lookupIdx, namedList, pick]
    by_cases hf : f = n
    · simp [hf]
    · simp only [hf, if_false]
      rw [lookupIdx_shift, ← ih]
      cases lookupIdx n (r.map (·.1)) 0 with
      | none => rfl
      | some i => simp

theorem pick_eq (e : String → GoVal → MRes) (n : String) (fs : List (String × GoVal)) :
    pick e n fs = match findKey fs n with | some v => e n v | none => .ok none := by
  fun_induction pick e n fs <;> simp_all [findKey]

theorem pick_of_mem (e : String → GoVal → MRes) (n : String) (v : GoVal) (fs : List (String × GoVal))
    (hnd : (fs.map (·.1)).Nodup) (hm : (n, v) ∈ fs) : pick e n fs = e n v := by
  rw [pick_eq, find_key_of_mem hnd hm]

theorem udtAssemble_pick (names : List String) (e : String → GoVal → MRes) (fs : List (String × GoVal)) :
    udtAssemble names (namedList e (fs.map (·.1)) (fs.map (·.2))) (fs.map (·.1)) =
      if names = [] then .ok none else
        seqItems (fun item => some (appendBytes item)) (names.map (fun n => pick e n fs)) := by
  unfold udtAssemble
  split
  · rfl
  · congr 1
    apply List.map_congr_left
    intro n _
    exact lookup_pick e n fs

/-- marshalUDT reads a struct through the tag → value lookup only: two structs that answer alike for every field name of
    the UDT are encoded alike, whatever their order, their other fields and their repeated tags -/
theorem marshal_udtstruct_congr (p : Nat) (names : List String) (ts : List CqlTy) (fs gs : List (String × GoVal))
    (h : ∀ n ∈ names, findKey fs n = findKey gs n) :
    marshal p (.udt names ts) (.udtstruct (fs.map (·.1)) (fs.map (·.2))) =
    marshal p (.udt names ts) (.udtstruct (gs.map (·.1)) (gs.map (·.2))) := by
  have e : names.map (fun n => pick (enc1 p names ts) n fs) = names.map (fun n => pick (enc1 p names ts) n gs) :=
    List.map_congr_left fun n hn => by rw [pick_eq, pick_eq, h n hn]
  show udtAssemble names (marshalNamed ..) _ = udtAssemble names (marshalNamed ..) _
  rw [marshalNamed_eq, marshalNamed_eq, udtAssemble_pick, udtAssemble_pick, e]

end C02Hist
