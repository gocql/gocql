import Model.Placement
import Proofs.Common
/-!
Keyspace replication options — `getReplicationFactorFromOpts` / `strconv.Atoi` against the positional
value of a decimal numeral, Cassandra's rendering of a number (`Integer.toString` = `Nat.repr`) read back, `getStrategy`
against `Spec.strategy`.
-/
namespace C10Strategy
open Placement

theorem digitsVal_eq : ∀ (s : List Char) (acc : Nat),
    digitsVal s acc = (Spec.decimalAux s).map (fun v => acc * 10 ^ s.length + v)
  | [], acc => by simp [digitsVal, Spec.decimalAux]
  | c :: cs, acc => by
    unfold digitsVal Spec.decimalAux Spec.digit
    by_cases hc : '0' ≤ c ∧ c ≤ '9'
    · rw [if_pos hc, if_pos hc, digitsVal_eq cs]
      have h48 : '0'.toNat = 48 := by decide
      rw [h48]
      cases Spec.decimalAux cs with
      | none => rfl
      | some v =>
        simp only [Option.map_some, List.length_cons, Option.some.injEq]
        rw [Nat.pow_succ, Nat.mul_comm (10 ^ cs.length) 10, Nat.add_mul, Nat.mul_assoc, Nat.add_assoc]
    · rw [if_neg hc, if_neg hc]; rfl

theorem digitsVal_zero (s : List Char) : digitsVal s 0 = Spec.decimalAux s := by
  rw [digitsVal_eq]
  cases Spec.decimalAux s <;> simp

/-- the part of `strconv.Atoi` after the sign has been split off -/
def atoiCore (neg : Bool) (ds : List Char) : Option Int :=
  if ds.isEmpty then none else
  match digitsVal ds 0 with
  | none => none
  | some n =>
    if neg then (if n ≤ 9223372036854775808 then some (-(n : Int)) else none)
    else (if n ≤ 9223372036854775807 then some (n : Int) else none)

theorem atoi_minus (r : List Char) : atoi ('-' :: r) = atoiCore true r := rfl
theorem atoi_plus (r : List Char) : atoi ('+' :: r) = atoiCore false r := rfl
theorem atoi_nosign (s : List Char) (h1 : ∀ r, s ≠ '-' :: r) (h2 : ∀ r, s ≠ '+' :: r) : atoi s = atoiCore false s := by
  unfold atoi
  split
  · rename_i neg ds heq
    split at heq
    · exact absurd rfl (h1 _)
    · exact absurd rfl (h2 _)
    · cases heq; rfl

/-- `n < 0 → error` on top of the core -/
def rfCore (neg : Bool) (ds : List Char) : Option Nat :=
  match atoiCore neg ds with
  | none => none
  | some n => if n < 0 then none else some n.toNat

theorem rfCore_pos (ds : List Char) :
    rfCore false ds = (match Spec.decimal ds with
      | some n => if n < 2 ^ 63 then some n else none
      | none => none) := by
  unfold rfCore atoiCore Spec.decimal
  rw [digitsVal_zero]
  by_cases he : ds.isEmpty
  · simp [he]
  · simp only [he, Bool.false_eq_true, if_false]
    cases Spec.decimalAux ds with
    | none => rfl
    | some n =>
      simp only
      by_cases h : n ≤ 9223372036854775807
      · have h2 : n < 2 ^ 63 := by omega
        have h3 : ¬ ((n : Int) < 0) := by omega
        simp [h, h2]
      · have h2 : ¬ n < 2 ^ 63 := by omega
        simp [h, h2]

theorem rfCore_neg (ds : List Char) :
    rfCore true ds = (match Spec.decimal ds with
      | some 0 => some 0
      | _ => none) := by
  unfold rfCore atoiCore Spec.decimal
  rw [digitsVal_zero]
  by_cases he : ds.isEmpty
  · simp [he]
  · simp only [he, Bool.false_eq_true, if_false]
    cases Spec.decimalAux ds with
    | none => rfl
    | some n =>
      cases n with
      | zero => simp
      | succ k =>
        simp only [if_true]
        by_cases h : k + 1 ≤ 9223372036854775808
        · have h3 : (-((k + 1 : Nat) : Int)) < 0 := by omega
          simp [h]
        · simp [h]

theorem rfOfOpt_nosign (s : List Char) (h1 : ∀ r, s ≠ '-' :: r) (h2 : ∀ r, s ≠ '+' :: r) :
    Spec.rfOfOpt (.str s) = (match Spec.decimal s with
      | some n => if n < 2 ^ 63 then some n else none
      | none => none) := by
  unfold Spec.rfOfOpt
  -- the arms of `rfOfOpt`: an int, '-' :: ds, '+' :: ds (all three excluded by the hypotheses), any other string, no string
  split
  · simp_all
  · simp_all
  · simp_all
  · rename_i heq; cases heq; rfl
  · simp_all

/-- `strconv.Atoi` followed by the `n < 0` check = the specification's reading of a string -/
theorem rfFromOpt_str (s : List Char) : rfFromOpt (.str s) = Spec.rfOfOpt (.str s) := by
  have hrf : ∀ s, rfFromOpt (.str s) = (match atoi s with
      | none => none
      | some n => if n < 0 then none else some n.toNat) := fun _ => rfl
  rw [hrf]
  match s with
  | [] => rfl
  | c :: r =>
    by_cases h1 : c = '-'
    · subst h1
      rw [atoi_minus]
      exact rfCore_neg r
    · by_cases h2 : c = '+'
      · subst h2
        rw [atoi_plus]
        exact rfCore_pos r
      · have n1 : ∀ r', c :: r ≠ '-' :: r' := by intro r' h; cases h; exact h1 rfl
        have n2 : ∀ r', c :: r ≠ '+' :: r' := by intro r' h; cases h; exact h2 rfl
        rw [atoi_nosign (c :: r) n1 n2, rfOfOpt_nosign (c :: r) n1 n2]
        exact rfCore_pos (c :: r)

theorem rfFromOpt_eq (v : OptVal) : rfFromOpt v = Spec.rfOfOpt v := by
  cases v with
  | int v =>
    unfold rfFromOpt Spec.rfOfOpt
    by_cases h : v < 0
    · have : ¬ 0 ≤ v := by omega
      simp [h, this]
    · have : 0 ≤ v := by omega
      simp [h, this]
  | str s => exact rfFromOpt_str s
  | other => rfl

theorem decimalAux_toDigits (n : Nat) : Spec.decimalAux (Nat.toDigits 10 n) = some n := by
  rw [← digitsVal_zero]
  exact toDigits_of_eqns (fun _ => rfl) (fun c cs a h => by rw [Placement.digitsVal, if_pos h]) n

theorem decimal_repr (n : Nat) : Spec.decimal (Nat.repr n).toList = some n := by
  unfold Spec.decimal
  have : (Nat.repr n).toList = Nat.toDigits 10 n := by simp [Nat.repr]
  rw [this, decimalAux_toDigits]
  have hne : Nat.toDigits 10 n ≠ [] := Nat.toDigits_ne_nil
  cases h : Nat.toDigits 10 n with
  | nil => exact absurd h hne
  | cons c r => rfl

theorem decimal_nosign (s : List Char) (n : Nat) (h : Spec.decimal s = some n) :
    (∀ r, s ≠ '-' :: r) ∧ (∀ r, s ≠ '+' :: r) := by
  have hm : Spec.digit '-' = none := by decide
  have hp : Spec.digit '+' = none := by decide
  constructor <;> intro r e <;> subst e
  -- a sign is no digit, so the numeral read from it is `none`
  all_goals simp [Spec.decimal, Spec.decimalAux, hm, hp] at h

/-- `Integer.toString(n)` for every replication factor up to the largest 64-bit int is read back as `n` -/
theorem rfOfOpt_repr (n : Nat) (h : n < 2 ^ 63) : Spec.rfOfOpt (.str (Nat.repr n).toList) = some n := by
  have hd := decimal_repr n
  obtain ⟨h1, h2⟩ := decimal_nosign _ n hd
  rw [rfOfOpt_nosign _ h1 h2, hd]
  simp [h]

theorem lookup_getD_other (opts : List (List Char × OptVal)) (k : List Char) :
    rfFromOpt ((opts.lookup k).getD .other) = (opts.lookup k).bind Spec.rfOfOpt := by
  cases opts.lookup k with
  | none => rfl
  | some v => exact rfFromOpt_eq v

/-- leaving a key out inside the `filterMap` = filtering it out first; the key is a variable, so that no proof step has
to look into the literal `"class"` -/
theorem filterMap_skip_key (c : List Char) (opts : List (List Char × OptVal)) :
    opts.filterMap (fun kv =>
      if kv.1 = c then none else
      match rfFromOpt kv.2 with
      | some rf => some (kv.1, rf)
      | none => none)
    = (opts.filter (fun kv => kv.1 ≠ c)).filterMap
      (fun kv => (Spec.rfOfOpt kv.2).map (fun rf => (kv.1, rf))) := by
  rw [List.filterMap_filter]
  congr 1; funext kv
  rw [rfFromOpt_eq]
  by_cases hk : kv.1 = c
  · simp [hk]
  · cases Spec.rfOfOpt kv.2 <;> simp [hk]

theorem classKind_cases (cls : List Char) (k : Spec.ClassKind) (h : Spec.classKind cls = some k) :
    (k = .simple ∧ (cls = "org.apache.cassandra.locator.SimpleStrategy".toList ∨ cls = "SimpleStrategy".toList)) ∨
    (k = .nts ∧ (cls = "org.apache.cassandra.locator.NetworkTopologyStrategy".toList ∨
      cls = "NetworkTopologyStrategy".toList)) ∨
    (k = .local_ ∧ (cls = "org.apache.cassandra.locator.LocalStrategy".toList ∨ cls = "LocalStrategy".toList)) := by
  revert h
  fun_cases Spec.classKind cls <;> intro h <;> cases h
  · exact .inl ⟨rfl, ‹_›⟩
  · exact .inr (.inl ⟨rfl, ‹_›⟩)
  · exact .inr (.inr ⟨rfl, ‹_›⟩)

/-- the two substring tests of `getStrategy` on the six class names: a finite table, by evaluation; kept apart so that
the evaluation does not carry the option map -/
theorem contains_of_kind (cls : List Char) (k : Spec.ClassKind) (h : Spec.classKind cls = some k) :
    containsStr cls "SimpleStrategy".toList = (k == .simple) ∧
    containsStr cls "NetworkTopologyStrategy".toList = (k == .nts) := by
  rcases classKind_cases cls k h with ⟨rfl, hc⟩ | ⟨rfl, hc⟩ | ⟨rfl, hc⟩ <;> rcases hc with rfl | rfl <;> decide

theorem lookup_none_of_not_mem {κ α : Type} [BEq κ] [LawfulBEq κ] (l : List (κ × α)) (k : κ) (h : k ∉ l.map (·.1)) :
    l.lookup k = none :=
  List.lookup_eq_none_iff.mpr (fun p hp => bne_iff_ne.mpr (fun e => h (e ▸ List.mem_map.mpr ⟨p, hp, rfl⟩)))

theorem lookup_filterMap_keys {κ α β : Type} [BEq κ] [LawfulBEq κ] (g : α → Option β) :
    ∀ (l : List (κ × α)), (l.map (·.1)).Nodup → ∀ k,
      (l.filterMap (fun kv => (g kv.2).map (fun r => (kv.1, r)))).lookup k = (l.lookup k).bind g
  | [], _, _ => rfl
  | (a, v) :: rest, hnd, k => by
    rw [List.map_cons, List.nodup_cons] at hnd
    have ih := lookup_filterMap_keys g rest hnd.2 k
    rw [List.filterMap_cons, List.lookup_cons]
    cases hka : (k == a) with
    | true =>
      have hk : k = a := eq_of_beq hka
      subst hk
      cases hg : g v with
      | none =>
        simp only [Option.map_none, Option.bind_some, hg]
        rw [ih, lookup_none_of_not_mem rest k hnd.1]
        rfl
      | some r =>
        simp only [Option.map_some, Option.bind_some, hg]
        rw [List.lookup_cons, hka]
    | false =>
      cases hg : g v with
      | none => simp only [Option.map_none]; exact ih
      | some r =>
        simp only [Option.map_some]
        rw [List.lookup_cons, hka]
        exact ih

theorem lookup_filter_key {κ α : Type} [BEq κ] [LawfulBEq κ] [DecidableEq κ] (c : κ) : ∀ (l : List (κ × α)) (dc : κ),
    (l.filter (fun kv => kv.1 ≠ c)).lookup dc = if dc = c then none else l.lookup dc
  | [], dc => by simp
  | (a, v) :: rest, dc => by
    have ih := lookup_filter_key c rest dc
    by_cases ha : a = c
    · have hf : ((a, v) :: rest).filter (fun kv => kv.1 ≠ c) = rest.filter (fun kv => kv.1 ≠ c) := by
        rw [List.filter_cons]; simp [ha]
      rw [hf, ih, List.lookup_cons]
      by_cases hd : dc = c
      · rw [if_pos hd, if_pos hd]
      · rw [if_neg hd, if_neg hd]
        have : (dc == a) = false := beq_false_of_ne (by rw [ha]; exact hd)
        rw [this]
    · have hf : ((a, v) :: rest).filter (fun kv => kv.1 ≠ c) = (a, v) :: rest.filter (fun kv => kv.1 ≠ c) := by
        rw [List.filter_cons]; simp [ha]
      rw [hf, List.lookup_cons, List.lookup_cons]
      cases hka : (dc == a) with
      | true =>
        have : dc = a := eq_of_beq hka
        rw [if_neg (by rw [this]; exact ha)]
      | false => exact ih

theorem keys_filterMap_sublist {κ α β : Type} (g : α → Option β) : ∀ (l : List (κ × α)),
    ((l.filterMap (fun kv => (g kv.2).map (fun r => (kv.1, r)))).map (·.1)).Sublist (l.map (·.1))
  | [] => List.Sublist.slnil
  | (a, v) :: rest => by
    rw [List.filterMap_cons]
    cases hg : g v with
    | none => exact (keys_filterMap_sublist g rest).cons _
    | some r => exact (keys_filterMap_sublist g rest).cons_cons _

end C10Strategy
