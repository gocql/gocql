import Proofs.C16ViewOrder
/-! `dispatch` as a fold of effects; independence of the effects of a batch; refresh-request count -/
namespace C16
open Ring ClusterView

theorem foldl_status_eq (env : Env) (evs : List (Nat × Change)) : ∀ (v : View),
    evs.foldl (View.status env) v = (evs.map (effectOf env v.ring)).foldl (applyG env) v := by
  induction evs with
  | nil => intro v; rfl
  | cons e t ih =>
    intro v
    simp only [List.foldl_cons, List.map_cons]
    rw [status_eq, ih, applyG_ring]

theorem foldl_applyG_ring (env : Env) (l : List Eff) : ∀ (v : View), (l.foldl (applyG env) v).ring = v.ring :=
  fun v => l.foldlRecOn (motive := fun w => w.ring = v.ring) _ rfl fun w hw f _ => (applyG_ring env w f).trans hw

/-- the hosts which two DIFFERENT addresses of the list lead to have different connect addresses -/
def ConnSep (r : Ring.Ring) (addrs : List Nat) : Prop :=
  ∀ a1 ∈ addrs, ∀ a2 ∈ addrs, a1 ≠ a2 → ∀ h1 h2, r.getHostByIP a1 = (some h1, true) → r.getHostByIP a2 = (some h2, true) →
    cAddr h1 ≠ cAddr h2

def unknownUp (r : Ring.Ring) (e : Nat × Change) : Bool := e.2 == .up && (r.getHostByIP e.1).2 == false

/-- case analysis on the effect of a status event by what the by-address lookup answers (`P f u`: a property of
the effect `f` and of `u` = "an UP for an unknown address") -/
theorem effectOf_cases (env : Env) (r : Ring.Ring) (e : Nat × Change) (P : Eff → Bool → Prop)
    (hrefresh : P .refresh true) (hnone : P .none false)
    (hcrash : r.getHostByIP e.1 = (none, true) → P .crash false)
    (hhost : ∀ h, r.getHostByIP e.1 = (some h, true) → P (.fill h) false ∧ P (.mark h) false ∧ P (.takeDown h) false) :
    P (effectOf env r e) (unknownUp r e) := by
  obtain ⟨a, c⟩ := e
  unfold effectOf unknownUp
  rcases hg : r.getHostByIP a with ⟨x, known⟩
  cases c with
  | other => cases x <;> cases known <;> exact hnone
  | up =>
    cases known with
    | false => cases x <;> exact hrefresh
    | true =>
      cases x with
      | none => exact hcrash hg
      | some h =>   -- known host: the filter decides
        show P (if env.filter h then .none else .fill h) false
        split
        · exact hnone
        · exact (hhost h hg).1
  | down =>
    cases known with
    | false => cases x <;> exact hnone
    | true =>
      cases x with
      | none => exact hcrash hg
      | some h =>
        show P (if env.filter h then .mark h else .takeDown h) false
        split
        · exact (hhost h hg).2.1
        · exact (hhost h hg).2.2

theorem effectOf_host (env : Env) (r : Ring.Ring) (e : Nat × Change) (h : RHost) (hh : (effectOf env r e).host = some h) :
    r.getHostByIP e.1 = (some h, true) := by
  have inj : ∀ h', r.getHostByIP e.1 = (some h', true) → some h' = some h → r.getHostByIP e.1 = (some h, true) :=
    fun h' hg e' => Option.some.inj e' ▸ hg
  exact effectOf_cases env r e (fun f _ => f.host = some h → r.getHostByIP e.1 = (some h, true))
    (fun e' => nomatch e') (fun e' => nomatch e') (fun _ e' => nomatch e') (fun h' hg => ⟨inj h' hg, inj h' hg, inj h' hg⟩) hh

theorem effectOf_noCrash (env : Env) (r : Ring.Ring) (hs : SInv r) (e : Nat × Change) : (effectOf env r e).isCrash = false := by
  exact effectOf_cases env r e (fun f _ => f.isCrash = false) rfl rfl
    (fun hg => absurd hg (getHostByIP_ne_nil r hs e.1)) (fun _ _ => ⟨rfl, rfl, rfl⟩)

theorem ids_ne_of_addrs_ne (r : Ring.Ring) (hs : SInv r) (a1 a2 : Nat) (h1 h2 : RHost) (hne : a1 ≠ a2)
    (g1 : r.getHostByIP a1 = (some h1, true)) (g2 : r.getHostByIP a2 = (some h2, true)) : h1.id ≠ h2.id := by
  obtain ⟨l1, ad1⟩ := byIP_current r hs a1 h1 g1
  obtain ⟨l2, ad2⟩ := byIP_current r hs a2 h2 g2
  intro hid
  rw [hid, l2] at l1
  cases l1
  exact hne (ad1.symm.trans ad2)

theorem effects_pairwise (env : Env) (r : Ring.Ring) (hs : SInv r) (evs : List (Nat × Change))
    (hn : (keys evs).Nodup) (hc : ConnSep r (keys evs)) : (evs.map (effectOf env r)).Pairwise Indep := by
  rw [List.pairwise_map]
  have hk : evs.Pairwise (fun e1 e2 => e1.1 ≠ e2.1) := by
    have := hn
    simp only [keys] at this
    exact (List.pairwise_map.mp this)
  have hall : ∀ e ∈ evs, e.1 ∈ keys evs := fun e he => List.mem_map.mpr ⟨e, he, rfl⟩
  refine List.Pairwise.imp_of_mem ?_ hk
  intro e1 e2 he1 he2 hne
  refine ⟨effectOf_noCrash env r hs e1, effectOf_noCrash env r hs e2, ?_⟩
  intro h1 h2 x1 x2
  have g1 := effectOf_host env r e1 h1 x1
  have g2 := effectOf_host env r e2 h2 x2
  exact ⟨ids_ne_of_addrs_ne r hs e1.1 e2.1 h1 h2 hne g1 g2, hc e1.1 (hall e1 he1) e2.1 (hall e2 he2) hne h1 h2 g1 g2⟩

theorem applyG_req_le (env : Env) (v : View) (f : Eff) : (applyG env v f).refreshReq ≤ v.refreshReq + f.req := by
  unfold applyG; split
  · omega
  · simp [applyEff]

theorem applyG_req_eq (env : Env) (v : View) (f : Eff) (hc : v.crashed = false) :
    (applyG env v f).refreshReq = v.refreshReq + f.req := by
  unfold applyG; simp [hc, applyEff]

theorem applyG_crashed_eq (env : Env) (v : View) (f : Eff) (hf : f.isCrash = false) : (applyG env v f).crashed = v.crashed := by
  unfold applyG; split
  · rfl
  · exact applyEff_crashed env v f hf

def reqSum (l : List Eff) : Nat := (l.map Eff.req).sum

theorem foldl_req_le (env : Env) (l : List Eff) : ∀ (v : View), (l.foldl (applyG env) v).refreshReq ≤ v.refreshReq + reqSum l := by
  induction l with
  | nil => intro v; simp [reqSum]
  | cons f t ih =>
    intro v
    simp only [List.foldl_cons, reqSum, List.map_cons, List.sum_cons]
    have h1 := ih (applyG env v f)
    have h2 := applyG_req_le env v f
    simp only [reqSum] at h1
    omega

theorem foldl_req_eq (env : Env) (l : List Eff) (hl : ∀ f ∈ l, f.isCrash = false) : ∀ (v : View), v.crashed = false →
    (l.foldl (applyG env) v).refreshReq = v.refreshReq + reqSum l ∧ (l.foldl (applyG env) v).crashed = false := by
  induction l with
  | nil => intro v hc; simp [reqSum, hc]
  | cons f t ih =>
    intro v hc
    simp only [List.foldl_cons, reqSum, List.map_cons, List.sum_cons]
    have hf := hl f (List.mem_cons_self)
    have hc2 : (applyG env v f).crashed = false := by rw [applyG_crashed_eq env v f hf]; exact hc
    have h1 := ih (fun g hg => hl g (List.mem_cons_of_mem _ hg)) (applyG env v f) hc2
    have h2 := applyG_req_eq env v f hc
    simp only [reqSum] at h1
    exact ⟨by omega, h1.2⟩

theorem effectOf_req (env : Env) (r : Ring.Ring) (e : Nat × Change) :
    (effectOf env r e).req = if unknownUp r e then 1 else 0 :=
  effectOf_cases env r e (fun f u => f.req = if u then 1 else 0) rfl rfl (fun _ => rfl) (fun _ _ => ⟨rfl, rfl, rfl⟩)

theorem reqSum_effects (env : Env) (r : Ring.Ring) (evs : List (Nat × Change)) :
    reqSum (evs.map (effectOf env r)) = (evs.filter (unknownUp r)).length := by
  induction evs with
  | nil => rfl
  | cons e t ih =>
    simp only [reqSum, List.map_cons, List.sum_cons, List.filter_cons] at ih ⊢
    rw [ih, effectOf_req]
    split <;> simp <;> omega

end C16
