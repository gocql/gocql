/- The message body of each of the eight request kinds: as the builders write it, followed by anything, it is read back by
   the specification's `rdBody` as exactly the request asked for (`rdBody_w`); and whatever `rdBody` reads is expressible
   in the version (`rdBody_post`). -/
import Proofs.C03Params
namespace C03
open FrameSpec FrameWrite

theorem rdBody_prepare (v : Nat) (now : Int) (s ks : Bytes) (pl : GPayload) (body rest : Bytes)
    (hx : Expressible v (ask now (.prepare s ks pl)) = true) (hb : wBody v now (.prepare s ks pl) = .ok body) :
    rdBody v 0x09 pl (body ++ rest) = some (ask now (.prepare s ks pl), rest) := by
  obtain ⟨hs, _, hks, hksv⟩ := expressible_prepare_iff.mp hx
  -- a body was written: the keyspace panic was not raised
  simp only [wBody] at hb
  split at hb; · cases hb
  cases hb
  simp +decide only [rdBody, if_false, if_true, List.append_assoc, fLongString.inv _ _ hs]
  by_cases h5 : v > 4
  · obtain ⟨b0, blt⟩ := bit_b2n_1 (decide (ks ≠ []))
    simp only [h5, if_true, if_neg (show ¬ v < 5 by omega),
      rdUInt_wUInt _ _ (show b2n (decide (ks ≠ [])) 1 < 4294967296 by omega),
      if_neg (show ¬ b2n (decide (ks ≠ [])) 1 ≥ 2 by omega), b0,
      fString.opt_inv (ks ≠ []) ks rest (by simpa [ite_not] using hks), ask]
    simp only [ite_not]
  · -- a keyspace is expressible from v5 only
    have hk0 : ks = [] := Classical.byContradiction fun h => h5 (hksv (by simp [h]))
    simp [h5, show v < 5 by omega, hk0, ask]

theorem askParams_v1 (now : Int) (p : GParams) (b : Bool) (h : paramsOkV1 (askParams now p) b = true) :
    askParams now p = noParams p.cons (p.values.map askVal) ∧ p.cons < 65536 ∧
    (if b then valuesOk 1 false (p.values.map askVal) = true else p.values = []) := by
  obtain ⟨he, hc, hv⟩ := paramsOkV1_iff.mp h
  refine ⟨he, by simpa [isShort, askParams] using hc, ?_⟩
  cases b with
  | true => exact hv
  | false => simpa [askParams] using hv

theorem rdBody_query (v : Nat) (now : Int) (s : Bytes) (p : GParams) (pl : GPayload) (body rest : Bytes)
    (hv1 : 1 ≤ v)
    (hx : Expressible v (ask now (.query s p pl)) = true) (hb : wBody v now (.query s p pl) = .ok body) :
    rdBody v 0x07 pl (body ++ rest) = some (ask now (.query s p pl), rest) := by
  obtain ⟨hs, _, hp⟩ := expressible_query_iff.mp hx
  simp only [wBody] at hb
  split at hb; · cases hb
  cases hb
  simp +decide only [rdBody, if_false, if_true, List.append_assoc, fLongString.inv _ _ hs, ask]
  by_cases h1 : v = 1
  · subst h1
    obtain ⟨hask, hc, hvals⟩ := askParams_v1 now p false hp
    simp only [Bool.false_eq_true, if_false] at hvals
    simp only [wQueryParams, if_true, List.append_nil, rdShort_wShort _ _ hc, hask, hvals, List.map_nil]
  · simp only [h1, if_false] at hp ⊢
    rw [rdQueryParams_w v now p rest (by omega) hp]

theorem rdBody_execute (v : Nat) (now : Int) (id : Bytes) (p : GParams) (pl : GPayload) (body rest : Bytes)
    (hv1 : 1 ≤ v)
    (hx : Expressible v (ask now (.execute id p pl)) = true) (hb : wBody v now (.execute id p pl) = .ok body) :
    rdBody v 0x0A pl (body ++ rest) = some (ask now (.execute id p pl), rest) := by
  obtain ⟨hs, _, hp⟩ := expressible_execute_iff.mp hx
  simp +decide only [rdBody, if_false, if_true, ask]
  by_cases h1 : v = 1
  · subst h1
    obtain ⟨hask, hc, hvals⟩ := askParams_v1 now p true hp
    cases hb
    simp only [wExecV1, List.append_assoc, fString.inv _ _ hs, hask, rdValues_unnamed 1 _ _ hvals,
      rdShort_wShort _ _ hc, if_true]
  · simp only [wBody, if_pos (show v > 1 by omega)] at hb
    split at hb; · cases hb
    cases hb
    simp only [h1, if_false] at hp ⊢
    simp only [List.append_assoc, fString.inv _ _ hs, rdQueryParams_w v now p rest (by omega) hp]

theorem rdBStmt_wStmt (v : Nat) (s : GStmt) (r : Bytes) (h : BStmt.ok v (askStmt s) = true) :
    rdBStmt v (wStmt s ++ r) = some (askStmt s, r) := by
  by_cases hid : s.preparedID.length = 0
  · simp only [askStmt, hid, if_true, BStmt.ok, Bool.and_eq_true] at h ⊢
    simp only [rdBStmt, wStmt, hid, if_true, List.append_assoc, List.cons_append, List.nil_append,
      rdByte_byteOf 0 _ (by omega), fLongString.inv _ _ h.1, rdValues_unnamed v _ _ h.2]
  · simp only [askStmt, hid, if_false, BStmt.ok, Bool.and_eq_true] at h ⊢
    simp only [rdBStmt, wStmt, hid, if_false, List.append_assoc, List.cons_append, List.nil_append,
      rdByte_byteOf 1 _ (by omega), fString.inv _ _ h.1, rdValues_unnamed v _ _ h.2]
    simp

theorem rdBStmt_post {v : Nat} {bs : Bytes} {s : BStmt} {r : Bytes} (h : rdBStmt v bs = some (s, r)) :
    BStmt.ok v s = true := by
  revert h
  fun_cases rdBStmt v bs <;> intro h <;> cases h
  · simp [BStmt.ok, fLongString.post ‹rdLongString _ = some _›,
      rdValues_post (allow := false) ‹rdCounted _ _ = some _› (by simp)]
  · simp [BStmt.ok, fString.post ‹rdString _ = some _›, rdValues_post (allow := false) ‹rdCounted _ _ = some _› (by simp)]

theorem rdBody_batch (v : Nat) (now : Int) (typ : Nat) (stmts : List GStmt) (cons ser : Nat) (dts : Bool) (tsv : Int)
    (pl : GPayload) (body rest : Bytes)
    (hx : Expressible v (ask now (.batch typ stmts cons ser dts tsv pl)) = true)
    (hb : wBody v now (.batch typ stmts cons ser dts tsv pl) = .ok body) :
    rdBody v 0x0D pl (body ++ rest) = some (ask now (.batch typ stmts cons ser dts tsv pl), rest) := by
  obtain ⟨hv2, htyp, hn, hst, hcons, _, ⟨hser, hserv⟩, ⟨hts, htsv⟩, _⟩ := expressible_batch_iff.mp hx
  simp only [List.length_map, List.mem_map, forall_exists_index, and_imp, forall_apply_eq_imp_iff₂] at hn hst
  simp only [wBody] at hb
  split at hb; · cases hb
  cases hb
  have eST := fun T =>
    rdCounted_flatMap (rdBStmt v) wStmt askStmt stmts T hn (fun s hs r => rdBStmt_wStmt v s r (hst s hs))
  simp +decide only [rdBody, wBatchBody, if_neg (show ¬ v < 2 by omega), if_false, if_true, List.append_assoc,
    List.cons_append, List.nil_append, rdByte_byteOf _ _ htyp, eST, fShort.inv _ _ hcons]
  by_cases h2 : v = 2
  · -- v2 has neither field: asking for one is inexpressible
    have hser0 : ¬ ser > 0 := fun h => by have := hserv (by simp [h]); omega
    have hdts : dts = false := Bool.eq_false_iff.mpr fun h => by have := htsv (by simp [h]); omega
    simp [h2, hser0, hdts, ask]
  · -- the flags byte, bit by bit; bits 4 and 5 as the conditions under which their fields were written
    have hb := bits8 false false false false (decide (ser > 0)) dts false false
    simp only [b2n_false, Nat.zero_add, Nat.add_zero] at hb
    obtain ⟨hfl, f0, f1, f2, f3, f4, f5, f6, f7⟩ := hb
    have f5 : _ = decide (dts = true) := f5.trans Bool.decide_eq_true.symm
    simp only [batchFlags, if_pos (show v > 2 by omega), h2, if_false, List.append_assoc, rdFlags_wFlags _ _ _ hfl,
      f0, f1, f2, f3, f4, f5, f6, f7, fShort.opt_inv _ _ _ hser, fLong.opt_inv (dts = true) _ _ hts]
    simp [rdOpt, Nat.not_le.mpr hfl, ask]

theorem rdBody_w (v : Nat) (now : Int) (g : GReq) (body rest : Bytes) (hv1 : 1 ≤ v)
    (hx : Expressible v (ask now g) = true) (hb : wBody v now g = .ok body) :
    rdBody v (opcode g) (payloadOf g) (body ++ rest) = some (ask now g, rest) := by
  cases g with
  | startup opts => cases hb; simp only [rdBody, opcode, if_true, fStringMap.inv opts rest hx, ask]
  | options => cases hb; rfl
  | authResponse d =>
    cases hb
    simp only [Expressible, ask, Bool.and_eq_true, decide_eq_true_eq] at hx
    simp +decide only [rdBody, opcode, if_false, if_true, if_neg (show ¬ v < 2 by omega), fBytes.inv d rest hx.2, ask]
  | register l => cases hb; simp +decide only [rdBody, opcode, if_false, if_true, fStringList.inv l rest hx, ask]
  | query s p pl => exact rdBody_query v now s p pl body rest hv1 hx hb
  | prepare s ks pl => exact rdBody_prepare v now s ks pl body rest hx hb
  | execute id p pl => exact rdBody_execute v now id p pl body rest hv1 hx hb
  | batch typ stmts cons ser dts tsv pl => exact rdBody_batch v now typ stmts cons ser dts tsv pl body rest hx hb

theorem rdBody_post {v op : Nat} {pl : Payload} {bs : Bytes} {req : Req} {r : Bytes}
    (hv1 : 1 ≤ v) (hv5 : v ≤ 5) (hpl : payloadOk v pl = true)
    (h : rdBody v op pl bs = some (req, r)) : Expressible v req = true := by
  revert h
  -- one goal for each of the twelve ways in which `rdBody` yields a request
  fun_cases rdBody v op pl bs <;> intro h <;> cases h
  · -- STARTUP
    exact fStringMap.post ‹_›
  · -- OPTIONS
    rfl
  · -- AUTH_RESPONSE
    simp [Expressible, fBytes.post ‹rdBytes bs = some _›, show v ≥ 2 by omega]
  · -- REGISTER
    exact fStringList.post ‹_›
  · -- QUERY under v1
    obtain rfl := ‹v = 1›
    exact expressible_query_iff.mpr ⟨fLongString.post ‹rdLongString bs = some _›, hpl,
      paramsOkV1_iff.mpr ⟨rfl, fShort.post ‹rdShort _ = some _›, rfl⟩⟩
  · -- QUERY from v2
    exact expressible_query_iff.mpr ⟨fLongString.post ‹rdLongString bs = some _›, hpl,
      (if_neg ‹¬ v = 1›).symm ▸ rdQueryParams_post ‹rdQueryParams v _ = some _›⟩
  · -- PREPARE below v5
    exact expressible_prepare_iff.mpr ⟨fLongString.post ‹rdLongString bs = some _›, hpl, rfl, nofun⟩
  · -- PREPARE in v5
    exact expressible_prepare_iff.mpr ⟨fLongString.post ‹rdLongString bs = some _›, hpl,
      (fString.opt_post ‹rdOpt _ rdString _ = some _›).2, fun _ => by omega⟩
  · -- EXECUTE under v1
    obtain rfl := ‹v = 1›
    have hvv : valuesOk 1 false _ = true := rdValues_post (allow := false) ‹rdCounted _ _ = some _› (by simp)
    exact expressible_execute_iff.mpr ⟨fString.post ‹rdString bs = some _›, hpl,
      paramsOkV1_iff.mpr ⟨rfl, fShort.post ‹rdShort _ = some _›, hvv⟩⟩
  · -- EXECUTE from v2
    exact expressible_execute_iff.mpr ⟨fString.post ‹rdString bs = some _›, hpl,
      (if_neg ‹¬ v = 1›).symm ▸ rdQueryParams_post ‹rdQueryParams v _ = some _›⟩
  all_goals
    -- BATCH, under v2 and from v3
    obtain ⟨hn, hsp⟩ := rdCounted_post (rdBStmt v) (fun s => BStmt.ok v s = true) rdBStmt_post ‹rdCounted _ _ = some _›
    have hty := rdByte_post ‹rdByte bs = some _›
    have hc := fShort.post ‹rdShort _ = some _›
    have hv2 : v ≥ 2 := by omega
  · exact expressible_batch_iff.mpr ⟨hv2, hty, hn, hsp, hc, hpl, ⟨rfl, nofun⟩, ⟨rfl, nofun⟩, rfl, nofun⟩
  · have hks := fString.opt_post ‹rdOpt _ rdString _ = some _›
    exact expressible_batch_iff.mpr ⟨hv2, hty, hn, hsp, hc, hpl,
      ⟨(fShort.opt_post ‹rdOpt _ rdShort _ = some _›).2, fun _ => by omega⟩,
      ⟨(fLong.opt_post ‹rdOpt _ rdLong _ = some _›).2, fun _ => by omega⟩, hks.2,
      fun h7 => by have : ¬ v < 5 := fun hlt => ‹¬ (v < 5 ∧ _)› ⟨hlt, hks.1 ▸ h7⟩; omega⟩

end C03
