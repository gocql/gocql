import Model.MarshalScalar
import Proofs.Bytes
/-!
# Big-endian bytes, two's complement, Go's conversions `toS`, the fixed-width encoders and decoders
of marshal.go, `bitLen`. The shared facts are `BE.…` (Proofs/Bytes.lean), exported here under `C12Bytes.…` too.
-/
namespace C12Bytes
open ValueSpec Marshal

export BE (beBytes_length beNat_snoc byteOfNat_toNat beNat_beBytes pow256_pos cast_pow256 pow256_even tcDec_range
  tcDec_tcEnc tcEnc_length tcEnc_tcDec sign_iff_head tcDec_neg_head tcDec_cons tcEnc_neg fitsS_mono fitsS_tcDec
  pow2_le fitsS_iff fitsS_false_iff fitsU_iff tcEnc_natCast tcDec_zero_cons tcDec_beBytes)

theorem beNat_cons (x : UInt8) (r : Bytes) : beNat (x :: r) = x.toNat * 256 ^ r.length + beNat r := BE.beNat_cons x r

theorem beNat_nil : beNat [] = 0 := rfl

theorem beNat_lt (b : Bytes) : beNat b < 256 ^ b.length := BE.beNat_lt b

theorem byteOf_eq (x : Int) : byteOf x = byteOfNat (x % 256).toNat := by
  unfold byteOf byteOfNat
  congr 1
  omega

/-- `byte(x >> s)` of a Go integer sees only `x mod 2^b`, for every shift that stays inside `b` bits -/
theorem byteOf_shiftRight_mod (x : Int) (b s : Nat) (h : s + 8 ≤ b) :
    byteOf (x >>> s) = byteOfNat ((x % (2:Int)^b).toNat / 2^s) := by
  obtain ⟨j, rfl⟩ : ∃ j, b = s + (8 + j) := ⟨b - s - 8, by omega⟩
  have hM : (2:Int)^(s + (8 + j)) = 2^s * (256 * 2^j) := by rw [Int.pow_add, Int.pow_add]; rfl
  have hpos : (0:Int) < 2^s * (256 * 2^j) :=
    Int.mul_pos (Int.pow_pos (by decide)) (Int.mul_pos (by decide) (Int.pow_pos (by decide)))
  have hs0 : (2:Int)^s ≠ 0 := Int.pow_ne_zero (by decide)
  unfold byteOf byteOfNat
  congr 1
  rw [Int.shiftRight_eq_div_pow, hM]
  push_cast
  -- x = m + 2^s · (256 · 2^j · q) with 0 ≤ m < 2^b: the quotient by 2^s differs from that of m by a multiple of 256
  generalize hq : x / (2^s * (256 * 2^j)) = q
  have hx := (Int.emod_add_mul_ediv x (2^s * (256 * 2^j))).symm
  rw [hq, Int.mul_assoc, Int.mul_assoc] at hx
  have h0 := Int.emod_nonneg x (Int.ne_of_gt hpos)
  generalize x % (2^s * (256 * 2^j)) = m at hx h0
  obtain ⟨n, rfl⟩ : ∃ n : Nat, m = n := ⟨m.toNat, by omega⟩
  rw [hx, Int.add_mul_ediv_left _ _ hs0, Int.add_mul_emod_self_left, Int.toNat_natCast]
  have : ((n:Int) / (2:Int)^s) % 256 = (((n / 2^s) % 256 : Nat) : Int) := by
    rw [Int.natCast_emod, Int.natCast_ediv, Int.natCast_pow]; rfl
  rw [this, Int.toNat_natCast]

theorem byteOf_shiftRight (x : Int) (k s : Nat) (h : s + 8 ≤ 8 * k) :
    byteOf (x >>> s) = byteOfNat ((x % (256:Int)^k).toNat / 2^s) := by
  rw [byteOf_shiftRight_mod x (k * 8) s (by omega), BE.two_pow_mul8]

theorem byteOf_low (x : Int) (k : Nat) (h : 8 ≤ 8 * k) : byteOf x = byteOfNat ((x % (256:Int)^k).toNat / 2^0) := by
  have := byteOf_shiftRight x k 0 h
  rwa [Int.shiftRight_zero] at this

theorem beBytes_shifts (n : Nat) :
    beBytes 1 n = [byteOfNat (n / 2^0)] ∧
    beBytes 2 n = [byteOfNat (n / 2^8), byteOfNat (n / 2^0)] ∧
    beBytes 4 n = [byteOfNat (n / 2^24), byteOfNat (n / 2^16), byteOfNat (n / 2^8), byteOfNat (n / 2^0)] ∧
    beBytes 8 n = [byteOfNat (n / 2^56), byteOfNat (n / 2^48), byteOfNat (n / 2^40), byteOfNat (n / 2^32),
      byteOfNat (n / 2^24), byteOfNat (n / 2^16), byteOfNat (n / 2^8), byteOfNat (n / 2^0)] := by
  simp only [beBytes, Nat.div_div_eq_div_mul, Nat.reducePow, Nat.reduceMul, Nat.div_one, List.nil_append,
    List.cons_append, and_self]

theorem encTiny_eq (x : Int) : encTiny x = tcEnc 1 x := by
  rw [tcEnc, (beBytes_shifts _).1, encTiny, byteOf_low x 1 (by decide)]

theorem encShort_eq (x : Int) : encShort x = tcEnc 2 x := by
  rw [tcEnc, (beBytes_shifts _).2.1, encShort, byteOf_shiftRight x 2 8 (by decide), byteOf_low x 2 (by decide)]

theorem encInt_eq (x : Int) : encInt x = tcEnc 4 x := by
  have h := byteOf_shiftRight x 4
  rw [tcEnc, (beBytes_shifts _).2.2.1, encInt, h 24 (by decide), h 16 (by decide), h 8 (by decide),
    byteOf_low x 4 (by decide)]

theorem encBigInt_eq (x : Int) : encBigInt x = tcEnc 8 x := by
  have h := byteOf_shiftRight x 8
  rw [tcEnc, (beBytes_shifts _).2.2.2, encBigInt, h 56 (by decide), h 48 (by decide), h 40 (by decide),
    h 32 (by decide), h 24 (by decide), h 16 (by decide), h 8 (by decide), byteOf_low x 8 (by decide)]

/-- Go's `intN(x)` is the balanced residue modulo `2^N` -/
theorem toS_eq_bmod (w : Nat) (hw : 1 ≤ w) (x : Int) : toS w x = x.bmod (2 ^ w) := BE.bmod_two_pow w hw x

theorem toS_id (k : Nat) (hk : 1 ≤ k) (x : Int) (h : fitsS k x = true) : toS (k * 8) x = x := by
  rw [toS_eq_bmod _ (by omega), BE.pow2_mul8]
  have := fitsS_iff.mp h
  rw [← cast_pow256] at this
  exact Int.bmod_eq_of_le (by omega) (by omega)

theorem tcEnc_toS (k : Nat) (hk : 1 ≤ k) (x : Int) : tcEnc k (toS (k * 8) x) = tcEnc k x := by
  rw [toS_eq_bmod _ (by omega), BE.pow2_mul8, BE.tcEnc_bmod]

theorem tcEnc_toS8 (x : Int) : tcEnc 1 (toS 8 x) = tcEnc 1 x := tcEnc_toS 1 (by decide) x
theorem tcEnc_toS16 (x : Int) : tcEnc 2 (toS 16 x) = tcEnc 2 x := tcEnc_toS 2 (by decide) x
theorem tcEnc_toS32 (x : Int) : tcEnc 4 (toS 32 x) = tcEnc 4 x := tcEnc_toS 4 (by decide) x
theorem tcEnc_toS64 (x : Int) : tcEnc 8 (toS 64 x) = tcEnc 8 x := tcEnc_toS 8 (by decide) x

theorem encShort_toS16 (n : Nat) (h : n < 65536) : encShort (toS 16 (n:Int)) = beBytes 2 n := by
  rw [encShort_eq, tcEnc_toS16, tcEnc_natCast 2 n h]
theorem encInt_nat (n : Nat) (h : n < 2^32) : encInt (toS 32 (n:Int)) = beBytes 4 n := by
  rw [encInt_eq, tcEnc_toS32, tcEnc_natCast 4 n h]
theorem encBigInt_u64 (n : Nat) (h : n < 2^64) : encBigInt (toS 64 (n:Int)) = beBytes 8 n := by
  rw [encBigInt_eq, tcEnc_toS64, tcEnc_natCast 8 n h]

theorem byteOf_shift_toS (b k : Nat) (h : k + 8 ≤ b) (n : Int) : byteOf (toS b n >>> k) = byteOf (n >>> k) := by
  have e : (2:Int) ^ b = ((2 ^ b : Nat) : Int) := by rw [Int.natCast_pow]; rfl
  rw [byteOf_shiftRight_mod _ b k h, byteOf_shiftRight_mod n b k h, toS_eq_bmod b (by omega), e, Int.bmod_emod]

theorem byteOf_toS (b : Nat) (h : 8 ≤ b) (n : Int) : byteOf (toS b n) = byteOf n := by
  simpa using byteOf_shift_toS b 0 (by omega) n

theorem toS_beNat (b : Bytes) (h : 0 < b.length) : toS (b.length * 8) (beNat b) = tcDec b := by
  rw [toS_eq_bmod _ (by omega), BE.pow2_mul8, BE.tcDec_eq_bmod]

theorem toU_tcDec (b : Bytes) : (toU (b.length * 8) (tcDec b)).toNat = beNat b := by
  rw [toU, BE.two_pow_mul8, BE.tcDec_eq_bmod, ← BE.cast_pow256, Int.bmod_emod, ← Int.natCast_emod, Int.toNat_natCast,
    Nat.mod_eq_of_lt (BE.beNat_lt b)]

theorem tcEnc_add_pow (k : Nat) (x : Int) (j : Int) : tcEnc k (x + j * (256:Int)^k) = tcEnc k x :=
  BE.tcEnc_congr (Int.add_mul_emod_self_right x j _)

/-- marshal.go's `intN(b0)<<… | …` of exactly `N/8` bytes is the specification's reading of them -/
theorem decTiny_eq_tcDec (b : Bytes) (h : b.length = 1) : decTiny b = tcDec b := by
  match b, h with
  | [a], _ =>
    rw [← toS_beNat [a] (Nat.zero_lt_succ _)]
    simp [decTiny, beNat]

theorem decShort_eq_tcDec (b : Bytes) (h : b.length = 2) : decShort b = tcDec b := by
  match b, h with
  | [a, b], _ =>
    rw [← toS_beNat [a, b] (Nat.zero_lt_succ _), BE.beNat_two]
    simp [decShort]

theorem decInt_eq_tcDec (b : Bytes) (h : b.length = 4) : decInt b = tcDec b := by
  match b, h with
  | [a, b, c, d], _ =>
    rw [← toS_beNat [a, b, c, d] (Nat.zero_lt_succ _)]
    simp [decInt, beNat_cons, beNat_nil, Int.add_assoc]

theorem decBigInt_eq_tcDec (b : Bytes) (h : b.length = 8) : decBigInt b = tcDec b := by
  match b, h with
  | [a, b, c, d, e, f, g, i], _ =>
    rw [← toS_beNat [a, b, c, d, e, f, g, i] (Nat.zero_lt_succ _)]
    simp [decBigInt, beNat_cons, beNat_nil, Int.add_assoc]

theorem decInt_encInt (x : Int) : decInt (encInt x) = toS 32 x := by
  rw [encInt_eq, decInt_eq_tcDec _ (tcEnc_length 4 x), BE.tcDec_tcEnc_bmod, toS_eq_bmod 32 (by decide)]

/-- `bitLen` is bits.Len64: the least `j` with `u < 2^j` -/
theorem bitLen_le_iff (u j : Nat) : bitLen u ≤ j ↔ u < 2 ^ j := by
  fun_induction bitLen u generalizing j
  case case1 => have := Nat.pow_pos (n := j) (show 0 < 2 by decide); omega
  case case2 u hu ih =>
    cases j with
    | zero => simp; omega
    | succ j' =>
      have := ih j'
      rw [Nat.pow_succ]
      generalize 2 ^ j' = P at *
      omega

end C12Bytes
