import Model.TlsAuth
/-! The start-up of one connection (`Model/TlsAuth.lean`).  First the vocabulary of the statements (`tokens`, `challengeReqs`,
    `leadingChallenges`, `NoAuth`), then gocql's own authenticator (`challenge_eq_some`), the challenge loop (`authLoop` by
    the induction principle of its definition), `handshake` reduced to it (`handshake_split`, `handshake_authenticate`,
    `handshake_none`, `handshake_pw`) and `connect` reduced to `handshake` with the host's credentials (`connect_eq`). -/
namespace TlsAuth

@[simp] theorem Trace.stop_sent (o : Outcome) : (Trace.stop o).sent = [] := rfl
@[simp] theorem Trace.stop_calls (o : Outcome) : (Trace.stop o).calls = [] := rfl
@[simp] theorem Trace.stop_provCalls (o : Outcome) : (Trace.stop o).provCalls = [] := rfl
@[simp] theorem Trace.stop_outcome (o : Outcome) : (Trace.stop o).outcome = o := rfl
@[simp] theorem Trace.pre_sent (s : List Sent) (c : List Call) (t : Trace) : (t.pre s c).sent = s ++ t.sent := rfl
@[simp] theorem Trace.pre_calls (s : List Sent) (c : List Call) (t : Trace) : (t.pre s c).calls = c ++ t.calls := rfl
@[simp] theorem Trace.pre_provCalls (s : List Sent) (c : List Call) (t : Trace) : (t.pre s c).provCalls = t.provCalls := rfl
@[simp] theorem Trace.pre_outcome (s : List Sent) (c : List Call) (t : Trace) : (t.pre s c).outcome = t.outcome := rfl

def tokens (l : List Sent) : List (List UInt8) :=
  l.filterMap (fun x => match x with | .authResponse t => some t | _ => none)

@[simp] theorem tokens_nil : tokens [] = [] := rfl
@[simp] theorem tokens_options (l : List Sent) : tokens (.options :: l) = tokens l := rfl
@[simp] theorem tokens_startup (l : List Sent) : tokens (.startup :: l) = tokens l := rfl
@[simp] theorem tokens_resp (t : List UInt8) (l : List Sent) : tokens (.authResponse t :: l) = t :: tokens l := rfl

theorem mem_tokens (l : List Sent) (t : List UInt8) : t ∈ tokens l ↔ Sent.authResponse t ∈ l := by
  induction l with
  | nil => simp
  | cons x xs ih => cases x <;> simp [ih]

def challengeReqs (l : List Call) : List (List UInt8) :=
  l.filterMap (fun x => match x with | .challenge r => some r | _ => none)

@[simp] theorem challengeReqs_nil : challengeReqs [] = [] := rfl
@[simp] theorem challengeReqs_chal (r : List UInt8) (l : List Call) : challengeReqs (.challenge r :: l) = r :: challengeReqs l := rfl
@[simp] theorem challengeReqs_succ (d : List UInt8) (l : List Call) : challengeReqs (.success d :: l) = challengeReqs l := rfl

def leadingChallenges : List SFrame → List (List UInt8)
  | .authChallenge d :: rest => d :: leadingChallenges rest
  | _ => []

/-- a start-up that never reaches an authenticator -/
structure NoAuth (fs : List SFrame) (t : Trace) : Prop where
  calls : t.calls = []
  provCalls : t.provCalls = []
  noToken : ∀ tok, Sent.authResponse tok ∉ t.sent
  outcome : t.outcome ∈ [Outcome.errClosed, .errProtocol, .errServer, .ready, .errAuthRequired]
  ready : t.outcome = .ready → ∃ tl, fs = .supported :: .ready :: tl

theorem NoAuth.noCrash {fs : List SFrame} {t : Trace} (h : NoAuth fs t) : t.outcome ≠ .crash :=
  fun e => by have := h.outcome; simp [e] at this

theorem challenge_eq_some {p : PwAuth} {cls t : List UInt8} :
    challenge p cls = some t ↔ approve cls p.allowed = true ∧ t = plainToken p.user p.pass := by
  unfold challenge
  split <;> simp [*, eq_comm]

/-- once the challenger is nil the loop calls nothing and sends nothing: the next frame alone decides how it ends -/
theorem authLoop_none (fs : List SFrame) :
    authLoop none fs = .stop (match fs with
      | [] => .errClosed
      | .error :: _ => .errServer
      | .authSuccess _ :: _ => .ready
      | .authChallenge _ :: _ => .errNoChallenger
      | _ :: _ => .errAuthFrame) := by
  rcases fs with _ | ⟨f, fs⟩
  · rfl
  · cases f <;> rfl

/-- …read for the two endings that matter to gocql's own authenticator (which leaves no challenger) -/
theorem authLoop_none_outcome (fs : List SFrame) :
    ((authLoop none fs).outcome = .ready ↔ ∃ d tl, fs = .authSuccess d :: tl) ∧
    ((authLoop none fs).outcome = .errNoChallenger ↔ ∃ d tl, fs = .authChallenge d :: tl) := by
  rw [authLoop_none]
  rcases fs with _ | ⟨f, _⟩
  · simp
  · cases f <;> simp

/-! The inductions below run over `authLoop`'s own induction principle and name only the cases in which something
    happens.  Its cases are numbered by the arms of the definition, in order: 1 `[]`, 2 ERROR, 3/4 AUTH_SUCCESS
    without/with a challenger, 5 AUTH_CHALLENGE without a challenger, 6/7 AUTH_CHALLENGE whose `Challenge`
    fails/answers (7 is the only recursive one), 8 any other frame.  Reordering the arms in `Model/TlsAuth.lean`
    renumbers them. -/

theorem authLoop_provCalls (chal : Option AuthImpl) (fs : List SFrame) : (authLoop chal fs).provCalls = [] := by
  fun_induction authLoop chal fs with
  | case7 _ _ _ _ _ _ ih => exact ih
  | _ => rfl

/-- an error from `Challenge` is never `ready` / `crash` -/
theorem challenge_error (a : AuthImpl) (req : List UInt8) (e : Outcome) (h : a.challenge req = .error e) :
    e = .errUnapproved ∨ e = .errAuthenticator := by
  revert h
  fun_cases AuthImpl.challenge a req <;> intro h <;> cases h <;> simp

theorem custom_challenge_ok {rs : List Round} {sf : Bool} {d resp : List UInt8} {next : Option AuthImpl}
    (h : (AuthImpl.custom rs sf).challenge d = .ok (resp, next)) :
    ∃ r tl, rs = r :: tl ∧ resp = r.resp ∧ (next = none ∨ next = some (.custom tl sf)) := by
  -- of the ways `Challenge` answers, only a script round that does not fail is left for a custom authenticator
  generalize ha : AuthImpl.custom rs sf = a at h
  revert h
  fun_cases AuthImpl.challenge a d <;> intro h <;> cases h <;> cases ha
  exact ⟨_, _, rfl, rfl, by split <;> simp⟩

theorem authLoop_ready (chal : Option AuthImpl) (fs : List SFrame) (h : (authLoop chal fs).outcome = .ready) :
    ∃ d, SFrame.authSuccess d ∈ fs := by
  fun_induction authLoop chal fs with
  | case3 d | case4 d => exact ⟨d, List.mem_cons_self⟩
  | case6 _ _ a e hc => rcases challenge_error a _ e hc with rfl | rfl <;> cases h
  | case7 _ _ _ _ _ _ ih => exact (ih h).imp fun _ => List.mem_cons_of_mem _
  | _ => cases h

theorem authLoop_noCrash (chal : Option AuthImpl) (fs : List SFrame) : (authLoop chal fs).outcome ≠ .crash := by
  fun_induction authLoop chal fs with
  | case4 _ _ a => rcases a with _ | ⟨_, _ | _⟩ <;> nofun
  | case6 _ _ a e h => rcases challenge_error a _ e h with rfl | rfl <;> nofun
  | case7 _ _ _ _ _ _ ih => exact ih
  | _ => nofun

theorem authLoop_custom_tokens (rs : List Round) (sf : Bool) (fs : List SFrame) :
    tokens (authLoop (some (.custom rs sf)) fs).sent <+: rs.map (·.resp) := by
  generalize hc : some (AuthImpl.custom rs sf) = chal
  fun_induction authLoop chal fs generalizing rs with
  | case7 d rest a resp next h ih =>
    cases hc
    obtain ⟨r, tl, rfl, rfl, rfl | rfl⟩ := custom_challenge_ok h
    · simp [authLoop_none]
    · exact List.prefix_cons_inj r.resp |>.mpr (ih tl rfl)
  | _ => exact List.nil_prefix

theorem authLoop_reqs (chal : Option AuthImpl) (fs : List SFrame) :
    challengeReqs (authLoop chal fs).calls <+: leadingChallenges fs := by
  fun_induction authLoop chal fs with
  | case6 d => exact List.prefix_cons_inj d |>.mpr List.nil_prefix
  | case7 d _ _ _ _ _ ih => exact List.prefix_cons_inj d |>.mpr ih
  | _ => exact List.nil_prefix

/-- with an authenticator whose `Success` fails, `ready` is reached only when `Success` was never called
    (the chain had ended with a nil challenger) -/
theorem authLoop_success_fails (rs : List Round) (fs : List SFrame)
    (h : (authLoop (some (.custom rs true)) fs).outcome = .ready) :
    ∀ d, Call.success d ∉ (authLoop (some (.custom rs true)) fs).calls := by
  generalize hc : some (AuthImpl.custom rs true) = chal at h ⊢
  fun_induction authLoop chal fs generalizing rs with
  | case4 => cases hc; cases h
  | case7 d rest a resp next hok ih =>
    cases hc
    obtain ⟨r, tl, rfl, rfl, rfl | rfl⟩ := custom_challenge_ok hok
    · simp [authLoop_none]
    · simpa using ih tl rfl h
  | _ => simp

/-- unless the server answers SUPPORTED, AUTHENTICATE the start-up never looks at the authenticator -/
theorem handshake_split (fs : List SFrame) :
    (∃ cls rest, fs = .supported :: .authenticate cls :: rest) ∨ ∀ auth, handshake auth fs = handshake none fs := by
  rcases fs with _ | ⟨f, _ | ⟨g, gs⟩⟩
  · exact .inr fun _ => rfl
  · cases f <;> exact .inr fun _ => rfl
  · cases f <;> try exact .inr fun _ => rfl
    cases g <;> first | exact .inl ⟨_, _, rfl⟩ | exact .inr fun _ => rfl

/-- answering AUTHENTICATE is the first round of the challenge loop, with the class name as the challenge -/
theorem handshake_authenticate (a : AuthImpl) (cls : List UInt8) (rest : List SFrame) :
    handshake (some a) (.supported :: .authenticate cls :: rest) =
      (authLoop (some a) (.authChallenge cls :: rest)).pre [.options, .startup] [] := rfl

theorem handshake_none (fs : List SFrame) : NoAuth fs (handshake none fs) := by
  rcases fs with _ | ⟨f, _ | ⟨g, gs⟩⟩
  · constructor <;> simp [handshake]
  · cases f <;> constructor <;> simp [handshake, afterStartup]
  · cases f with
    | supported => cases g <;> constructor <;> simp [handshake, afterStartup]
    | _ => constructor <;> simp [handshake]

theorem handshake_provCalls (auth : Option AuthImpl) (fs : List SFrame) : (handshake auth fs).provCalls = [] := by
  rcases handshake_split fs with ⟨cls, rest, rfl⟩ | h
  · rcases auth with _ | a
    · rfl
    · rw [handshake_authenticate]; exact authLoop_provCalls _ _
  · rw [h]; exact (handshake_none fs).provCalls

/-- `Conn.init` is the start-up with the credentials the documented roles give this host (a provider's error ends
    it before anything is written); the provider, if there is one, is asked once, for this host -/
theorem connect_eq (cfg : AuthCfg) (host : Nat) (fs : List SFrame) :
    connect cfg host fs =
      { (match Spec.credentials cfg host with
         | none => Trace.stop .errProvider
         | some a => handshake a fs) with provCalls := if cfg.provider.isSome then [host] else [] } := by
  obtain ⟨st, _ | f⟩ := cfg
  · exact congrArg (fun p => { handshake st fs with provCalls := p }) (handshake_provCalls st fs)
  · simp only [connect, Spec.credentials]
    cases f host <;> rfl

theorem handshake_pw (p : PwAuth) (cls : List UInt8) (rest : List SFrame) :
    handshake (some (.pw p)) (.supported :: .authenticate cls :: rest) =
      if approve cls p.allowed then
        (authLoop none rest).pre [.options, .startup, .authResponse (plainToken p.user p.pass)] [.challenge cls]
      else ⟨[.options, .startup], [.challenge cls], [], .errUnapproved⟩ := by
  cases h : approve cls p.allowed <;> simp [handshake, afterStartup, AuthImpl.challenge, challenge, h, Trace.pre, Trace.stop]

end TlsAuth
