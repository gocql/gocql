import Model.Placement
import Proofs.C10Lookup
import Proofs.C10Simple
import Proofs.C10Nts
import Proofs.C10NtsSpec
/-! Looking a token up in the NetworkTopologyStrategy replica map.  The map only has entries for the
ring tokens whose primary's datacenter is replicated; `replicasFor` picks the first retained token ≥ t (wrapping).
Cassandra walks from the owner of t over ALL ring positions, but positions of unreplicated datacenters are no-ops, so
its walk from t is its walk from that retained token. -/
namespace C10NtsLookup
open Placement C10Lookup C10Simple C10Nts C10NtsSpec

/-- the host's datacenter is replicated by the keyspace -/
def repl (rfs : List (Nat × Nat)) (h : Host) : Bool := decide (rfOf rfs h.dc ≠ 0)

theorem spec_walk_filter (tp : Spec.Topo) (rfs : List (Nat × Nat)) : ∀ (l : List Host) (s : Spec.St),
    Spec.walk tp (rfs.map (·.1)) (rfOf rfs) s l = Spec.walk tp (rfs.map (·.1)) (rfOf rfs) s (l.filter (repl rfs)) := by
  intro l
  induction l with
  | nil => intro s; rfl
  | cons h rest ih =>
    intro s
    rw [spec_walk_cons, List.filter_cons]
    by_cases hp : repl rfs h = true
    · rw [if_pos hp, spec_walk_cons, ih]
    · rw [if_neg hp, spec_step_rf0 tp rfs s h (by simpa [repl] using hp)]
      exact ih s

theorem clockwise_filter {β : Type} (ring : List (Int × β)) (t : Int) (q : Int × β → Bool) :
    (Spec.clockwise ring t).filter q = Spec.clockwise (ring.filter q) t := by
  unfold Spec.clockwise
  rw [List.filter_append, List.filter_filter, List.filter_filter, List.filter_filter, List.filter_filter]
  congr 1
  · apply List.filter_congr; intro x _; exact Bool.and_comm _ _
  · apply List.filter_congr; intro x _; exact Bool.and_comm _ _

theorem sorted_filter {β : Type} (ring : List (Int × β)) (q : Int × β → Bool) (hs : Sorted ring) :
    Sorted (ring.filter q) := List.Pairwise.sublist List.filter_sublist hs

theorem nts_on_filtered (ring : List Entry) (rfs : List (Nat × Nat)) (t : Int) :
    Spec.nts ring rfs t =
      (Spec.walk (Spec.topoOf ring) (rfs.map (·.1)) (rfOf rfs) Spec.init
        ((Spec.clockwise (ring.filter (fun e => repl rfs e.2)) t).map (·.2))).replicas := by
  unfold Spec.nts
  rw [spec_walk_filter, List.filter_map, ← clockwise_filter]
  rfl

theorem ownerIdx_self {β : Type} (ring : List (Int × β)) (hs : Sorted ring) (i : Nat) (hi : i < ring.length) :
    Spec.ownerIdx ring (ring[i].1) = i := by
  unfold Spec.ownerIdx
  have : ring.findIdx (fun e => decide (ring[i].1 ≤ e.1)) = i := by
    rw [List.findIdx_eq hi]
    refine ⟨by simp, ?_⟩
    intro j hji
    have := (List.pairwise_iff_getElem.mp hs) j i (by omega) hi hji
    simp only [decide_eq_false_iff_not]; omega
  rw [this, if_pos hi]

/-- Cassandra's replicas of `t` are those of the first retained ring token ≥ t (wrapping to the first retained token) -/
theorem nts_at_retained (ring : List Entry) (rfs : List (Nat × Nat)) (t : Int) (hs : Sorted ring)
    (hne : ring.filter (fun e => repl rfs e.2) ≠ []) :
    Spec.nts ring rfs t =
      Spec.nts ring rfs
        ((ring.filter (fun e => repl rfs e.2))[Spec.ownerIdx (ring.filter (fun e => repl rfs e.2)) t]'(
            ownerIdx_lt _ t hne)).1 := by
  have hsR := sorted_filter ring (fun e => repl rfs e.2) hs
  rw [nts_on_filtered ring rfs t, nts_on_filtered ring rfs _,
    ← rot_owner_eq_clockwise _ t hsR, ← rot_owner_eq_clockwise _ _ hsR, ownerIdx_self _ hsR]

theorem nts_none_retained (ring : List Entry) (rfs : List (Nat × Nat)) (t : Int)
    (he : ring.filter (fun e => repl rfs e.2) = []) : Spec.nts ring rfs t = [] := by
  rw [nts_on_filtered, he]
  rfl

theorem replicasFor_map (R : List Entry) (g : Entry → List Host) (t : Int) (hs : Sorted R) (hne : R ≠ []) :
    replicasFor (R.map (fun e => (e.1, g e))) t =
      some ((R[Spec.ownerIdx R t]'(ownerIdx_lt R t hne)).1, g (R[Spec.ownerIdx R t]'(ownerIdx_lt R t hne))) := by
  have hcol : (R.map (fun e => (e.1, g e))).map (·.1) = R.map (·.1) := by simp
  have hs' : Sorted (R.map (fun e => (e.1, g e))) := by rw [sorted_iff_tokens, hcol, ← sorted_iff_tokens]; exact hs
  rw [replicasFor_sorted _ t hs' (by simpa using hne)]
  simp [ownerIdx_congr _ R hcol]

end C10NtsLookup
