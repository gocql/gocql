import Gen.Marshal
import Proofs.GenTieBits
import Model.MarshalScalar
import Model.MarshalDecode
import Model.Marshal
import Proofs.C12Bytes
/-!
  Tie theorems between the definitions REGENERATED from /repo/marshal.go by tools/go2lean (`Gen.Marshal`, fixed-width
  BitVec arithmetic as the Go code computes) and the hand-written model the C02/C12 theorems are about: the scalar
  encoders and decoders and `bytesToInt64/Uint64` (`MarshalScalar`), the whole `encVint`, `decVint` and `decVints`, and
  `readCollectionSize` / `writeCollectionSize` (`MarshalDecode`, `Marshal`).

  The lemmas of this namespace that several tie modules use (`slt_nat`, `be2`, `cons2_of_length`, …) are in
  `Proofs/GenTieBits`.
-/
namespace GenTie.C12
open Marshal GenTie.Bits

theorem encIntZigZag (n : Int) : (Gen.Marshal.encIntZigZag (BitVec.ofInt 64 n)).toNat = Marshal.encIntZigZag n := rfl

theorem decIntZigZag (u : Nat) : (Gen.Marshal.decIntZigZag (BitVec.ofNat 64 u)).toInt = Marshal.decIntZigZag u := rfl

theorem zz_toInt (x : BitVec 64) : (Gen.Marshal.decIntZigZag x).toInt = Marshal.decIntZigZag x.toNat := by
  have := GenTie.C12.decIntZigZag x.toNat
  rwa [BitVec.ofNat_toNat, BitVec.setWidth_eq] at this

/-- `byte(v)` of a fixed-width value is `byteOf` of its integer value -/
theorem byte_of {w : Nat} (hw : 8 ≤ w) (v : BitVec w) : UInt8.ofBitVec (v.setWidth 8) = byteOf v.toInt := by
  obtain ⟨k, rfl⟩ : ∃ k, w = 8 + k := ⟨w - 8, by omega⟩
  have hd : (256 : Int) ∣ ((2 ^ (8 + k) : Nat) : Int) := ⟨((2 ^ k : Nat) : Int), by rw [Nat.pow_add, Int.natCast_mul]; rfl⟩
  refine ofBitVec_eq_ofNat ?_
  -- modulo 256, a divisor of 2^w, the balanced residue is the unsigned one
  rw [BitVec.toInt_eq_toNat_bmod, ← Int.emod_emod_of_dvd _ hd, Int.bmod_emod, Int.emod_emod_of_dvd _ hd, BitVec.toNat_setWidth]
  omega

/-- `byte(x >> k)` of a signed fixed-width value that holds the integer `x` -/
theorem byte_shift {w : Nat} (hw : 8 ≤ w) (x : Int) (k : Nat)
    (hx : -(2:Int)^(w-1) ≤ x ∧ x < (2:Int)^(w-1)) :
    UInt8.ofBitVec ((BitVec.sshiftRight (BitVec.ofInt w x) k).setWidth 8) = byteOf (x >>> k) := by
  rw [byte_of hw, BitVec.toInt_sshiftRight, BitVec.toInt_ofInt]
  congr 2
  obtain ⟨m, rfl⟩ : ∃ m, w = m + 1 := ⟨w - 1, by omega⟩
  have e : ((2 ^ (m + 1) : Nat) : Int) = 2 * (2:Int) ^ m := by
    rw [Nat.pow_succ]; simp [Int.mul_comm]
  simp only [Nat.add_sub_cancel] at hx
  apply Int.bmod_eq_of_le
  · rw [e]; omega
  · rw [e]; omega

theorem byte_low {w : Nat} (hw : 8 ≤ w) (x : Int) (hx : -(2:Int)^(w-1) ≤ x ∧ x < (2:Int)^(w-1)) :
    UInt8.ofBitVec ((BitVec.ofInt w x).setWidth 8) = byteOf x := by
  have := byte_shift hw x 0 hx
  simpa using this

theorem toS_of_toNat {w : Nat} (hw : 0 < w) (v : BitVec w) : v.toInt = toS w v.toNat := by
  rw [C12Bytes.toS_eq_bmod w hw, BitVec.toInt_eq_toNat_bmod]

theorem toS_mod (x : Nat) : toS 64 ((x % 2^64 : Nat) : Int) = toS 64 (x : Int) := by
  rw [C12Bytes.toS_eq_bmod 64 (by decide), C12Bytes.toS_eq_bmod 64 (by decide), Int.natCast_emod, Int.emod_bmod]

theorem toInt_trunc32 (v : BitVec 64) : (v.setWidth 32).toInt = toS 32 v.toInt := by
  rw [C12Bytes.toS_eq_bmod 32 (by decide), BitVec.toInt_setWidth, BitVec.toInt_eq_toNat_bmod,
    Int.bmod_bmod_of_dvd (by decide : 2 ^ 32 ∣ 2 ^ 64)]

theorem bmod64 (a : Int) (ha : -(2:Int)^63 ≤ a ∧ a < 2^63) : a.bmod (2^64) = a :=
  Int.bmod_eq_of_le (by omega) (by omega)

theorem slt_int (a b : Int) (ha : -(2:Int)^63 ≤ a ∧ a < 2^63) (hb : -(2:Int)^63 ≤ b ∧ b < 2^63) :
    BitVec.slt (BitVec.ofInt 64 a) (BitVec.ofInt 64 b) = decide (a < b) := by
  simp only [BitVec.slt, BitVec.toInt_ofInt, bmod64 a ha, bmod64 b hb]

theorem byteOf_shift_toS32 (n : Int) (k : Nat) (hk : k = 0 ∨ k = 8 ∨ k = 16 ∨ k = 24) :
    byteOf (toS 32 n >>> k) = byteOf (n >>> k) := C12Bytes.byteOf_shift_toS 32 k (by omega) n

theorem byteOf_shift_toS16 (n : Int) (k : Nat) (hk : k = 0 ∨ k = 8) :
    byteOf (toS 16 n >>> k) = byteOf (n >>> k) := C12Bytes.byteOf_shift_toS 16 k (by omega) n

theorem encInt (x : Int) (hx : -(2:Int)^31 ≤ x ∧ x < (2:Int)^31) :
    (Gen.Marshal.encInt (BitVec.ofInt 32 x)).map UInt8.ofBitVec = Marshal.encInt x := by
  simp only [Gen.Marshal.encInt, Marshal.encInt, List.map_cons, List.map_nil,
    byte_shift (w := 32) (by decide) x _ hx, byte_low (w := 32) (by decide) x hx]

/-- `encShort(x int16)` (`p := make([]byte, 2); p[0] = …; p[1] = …`) -/
theorem encShort (x : Int) (hx : -(2:Int)^15 ≤ x ∧ x < (2:Int)^15) :
    (Gen.Marshal.encShort (BitVec.ofInt 16 x)).map UInt8.ofBitVec = Marshal.encShort x := by
  simp only [Gen.Marshal.encShort, Marshal.encShort, List.replicate, List.set, List.map_cons, List.map_nil,
    byte_shift (w := 16) (by decide) x _ hx, byte_low (w := 16) (by decide) x hx]

theorem encBigInt (x : Int) (hx : -(2:Int)^63 ≤ x ∧ x < (2:Int)^63) :
    (Gen.Marshal.encBigInt (BitVec.ofInt 64 x)).map UInt8.ofBitVec = Marshal.encBigInt x := by
  simp only [Gen.Marshal.encBigInt, Marshal.encBigInt, List.map_cons, List.map_nil,
    byte_shift (w := 64) (by decide) x _ hx, byte_low (w := 64) (by decide) x hx]

/-- `decShort`: 0 unless exactly 2 bytes, else the big-endian int16 -/
theorem decShort (l : List UInt8) (hl : l.length < 2^63) :
    (Gen.Marshal.decShort (l.map (·.toBitVec))).toInt = Marshal.decShort l := by
  unfold Gen.Marshal.decShort
  rw [List.length_map, len_ne _ _ hl (by decide)]
  by_cases h2 : l.length = 2
  · match l, h2 with
    | [a, b], _ =>
      rw [if_neg (by simp), toS_of_toNat (by decide), Marshal.decShort]
      congr 2
      simp only [List.map_cons, List.map_nil, List.getD_cons_zero, List.getD_cons_succ, be2_bv (w := 16) (by decide), Nat.reducePow]
  · rw [if_pos (by simpa using h2), Marshal.decShort]
    · rfl
    · intro a b e; subst e; exact h2 rfl

theorem decTiny (l : List UInt8) (hl : l.length < 2^63) :
    (Gen.Marshal.decTiny (l.map (·.toBitVec))).toInt = Marshal.decTiny l := by
  unfold Gen.Marshal.decTiny
  rw [List.length_map, len_ne _ _ hl (by decide)]
  by_cases h1 : l.length = 1
  · match l, h1 with
    | [a], _ =>
      rw [if_neg (by simp), toS_of_toNat (by decide), Marshal.decTiny]
      rfl
  · rw [if_pos (by simpa using h1), Marshal.decTiny]
    · rfl
    · intro a e; subst e; exact h1 rfl

/-- `decInt`: 0 unless exactly 4 bytes, else the big-endian int32 -/
theorem decInt (l : List UInt8) (hl : l.length < 2^63) :
    (Gen.Marshal.decInt (l.map (·.toBitVec))).toInt = Marshal.decInt l := by
  unfold Gen.Marshal.decInt
  rw [List.length_map, len_ne _ _ hl (by decide)]
  by_cases h4 : l.length = 4
  · match l, h4 with
    | [a, b, c, d], _ =>
      rw [if_neg (by simp), toS_of_toNat (by decide), Marshal.decInt]
      congr 2
      simp only [List.map_cons, List.map_nil, List.getD_cons_zero, List.getD_cons_succ, be4_bv (w := 32) (by decide)]
  · rw [if_pos (by simpa using h4), Marshal.decInt]
    · rfl
    · intro a b c d e; subst e; exact h4 rfl

theorem be8 (a b c d e f g h : Nat) (hb : b < 256) (hc : c < 256) (hd : d < 256) (he : e < 256) (hf : f < 256)
    (hg : g < 256) (hh : h < 256) :
    a <<< 56 ||| b <<< 48 ||| c <<< 40 ||| d <<< 32 ||| e <<< 24 ||| f <<< 16 ||| g <<< 8 ||| h
      = a * 2^56 + b * 2^48 + c * 2^40 + d * 2^32 + e * 2^24 + f * 2^16 + g * 2^8 + h := by
  have s (x : Nat) (k : Nat) : x <<< (k + 8) = (x <<< 8) <<< k := by rw [← Nat.shiftLeft_add, Nat.add_comm]
  rw [s a 48, ← Nat.shiftLeft_or_distrib, or_shl a b hb,
    s _ 40, ← Nat.shiftLeft_or_distrib, or_shl _ c hc,
    s _ 32, ← Nat.shiftLeft_or_distrib, or_shl _ d hd,
    s _ 24, ← Nat.shiftLeft_or_distrib, or_shl _ e he,
    s _ 16, ← Nat.shiftLeft_or_distrib, or_shl _ f hf,
    s _ 8, ← Nat.shiftLeft_or_distrib, or_shl _ g hg, or_shl _ h hh]
  omega

/-- `decBigInt`: 0 unless exactly 8 bytes, else the big-endian int64 -/
theorem decBigInt (l : List UInt8) (hl : l.length < 2^63) :
    (Gen.Marshal.decBigInt (l.map (·.toBitVec))).toInt = Marshal.decBigInt l := by
  unfold Gen.Marshal.decBigInt
  rw [List.length_map, len_ne _ _ hl (by decide)]
  by_cases h8 : l.length = 8
  · match l, h8 with
    | [a, b, c, d, e, f, g, h], _ =>
      rw [if_neg (by simp), toS_of_toNat (by decide), Marshal.decBigInt]
      congr 2
      simp (disch := decide) only [List.map_cons, List.map_nil, List.getD_cons_zero, List.getD_cons_succ, BitVec.toNat_or,
        byte_shl_toNat, byte_zext_toNat]
      exact be8 _ _ _ _ _ _ _ _ b.toNat_lt c.toNat_lt d.toNat_lt e.toNat_lt f.toNat_lt g.toNat_lt h.toNat_lt
  · rw [if_pos (by simpa using h8), Marshal.decBigInt]
    · rfl
    · intro a b c d e f g h e; subst e; exact h8 rfl

/-! ### Loops: `bytesToInt64` / `bytesToUint64` (range loops, which go2lean translates as counted loops)

  The generated helper `bytes…_loop1` is the Go loop by recursion on a fuel argument (= `len(data)`); `orBE` is what it
  accumulates; `orBE_val` is the big-endian value modulo 2^64 (the shifted bytes occupy disjoint bit ranges, bytes
  beyond the lowest eight are shifted out exactly as in Go). -/

def orBE : List (BitVec 8) → BitVec 64
  | [] => 0#64
  | b :: bs => (b.setWidth 64 <<< (8 * bs.length)) ||| orBE bs

theorem shiftAmount (len i k : Nat) (h : len = i + k + 1) (hl : len < 2^60) :
    (0x8#64 * ((BitVec.ofNat 64 len - BitVec.ofNat 64 i) - 0x1#64)).toNat = 8 * k := by
  subst h
  rw [int_sub (by omega) (by omega), int_sub (by omega) (by decide), int_mul, toNat_int (by omega)]
  omega

theorem loopU (pre rest : List (BitVec 8)) (hl : (pre ++ rest).length < 2^60) (ret : BitVec 64) :
    Gen.Marshal.bytesToUint64_loop1 (pre ++ rest) rest.length (BitVec.ofNat 64 pre.length) ret = ret ||| orBE rest := by
  induction rest generalizing pre ret with
  | nil => simp [Gen.Marshal.bytesToUint64_loop1, orBE]
  | cons b bs ih =>
    rw [List.length_append, List.length_cons] at hl
    rw [List.length_cons, Gen.Marshal.bytesToUint64_loop1]
    simp (disch := omega) only [List.length_append, List.length_cons, slt_nat, int_sub, int_add, int_mul, toNat_int]
    rw [if_pos (by simp), show pre.length + (bs.length + 1) - pre.length - 1 = bs.length by omega,
      show pre ++ b :: bs = (pre ++ [b]) ++ bs by simp, ← List.length_singleton (a := b), ← List.length_append,
      ih _ (by simp; omega)]
    simp [orBE, BitVec.or_assoc]

theorem beNat_foldl (bs : List UInt8) (a : Nat) :
    bs.foldl (fun a x => a * 256 + x.toNat) a = a * 256 ^ bs.length + ValueSpec.beNat bs := BE.foldl_shift bs a

theorem beNat_cons (b : UInt8) (bs : List UInt8) :
    ValueSpec.beNat (b :: bs) = b.toNat * 256 ^ bs.length + ValueSpec.beNat bs := BE.beNat_cons b bs

theorem beNat_lt (bs : List UInt8) : ValueSpec.beNat bs < 256 ^ bs.length := BE.beNat_lt bs

theorem pow256 (n : Nat) : 256 ^ n = 2 ^ (8 * n) := by
  rw [Nat.mul_comm, BE.pow2_mul8]

theorem or_mod (w b X k : Nat) (hX : X < 2 ^ k) : (b <<< k) % 2 ^ w ||| X % 2 ^ w = (b * 2 ^ k + X) % 2 ^ w := by
  rw [← Nat.or_mod_two_pow, BE.or_shl _ _ _ hX]

theorem or_step (b X n : Nat) (hX : X < 2 ^ (8 * n)) :
    ((b <<< (8 * n)) % 2^64) ||| (X % 2^64) = (b * 2 ^ (8 * n) + X) % 2^64 := or_mod 64 b X _ hX

theorem orBE_val (bs : List UInt8) : (orBE (bs.map (·.toBitVec))).toNat = ValueSpec.beNat bs % 2^64 := by
  induction bs with
  | nil => simp [orBE, ValueSpec.beNat]
  | cons b bs ih =>
    have hlt : ValueSpec.beNat bs < 2 ^ (8 * bs.length) := by rw [Nat.mul_comm, BE.pow2_mul8]; exact BE.beNat_lt bs
    simp only [List.map_cons, orBE, BitVec.toNat_or, BitVec.toNat_shiftLeft, BitVec.toNat_setWidth, List.length_map, ih,
      UInt8.toNat_toBitVec, Nat.shiftLeft_eq, Nat.mod_mul_mod]
    rw [← Nat.shiftLeft_eq, or_mod _ _ _ _ hlt, BE.beNat_cons, Nat.mul_comm 8, BE.pow2_mul8]

theorem bytesToUint64_toNat (l : List UInt8) (hl : l.length < 2^60) :
    (Gen.Marshal.bytesToUint64 (l.map (·.toBitVec))).toNat = ValueSpec.beNat l % 2^64 := by
  unfold Gen.Marshal.bytesToUint64
  have := loopU [] (l.map (·.toBitVec)) (by simpa using hl) 0x0#64
  simp only [List.nil_append, List.length_nil] at this
  simp only [int_sub (Nat.zero_le _) (by decide : 0 < 2 ^ 64), Nat.sub_zero,
    toNat_int (show (l.map (·.toBitVec)).length < 2 ^ 64 by rw [List.length_map]; omega)]
  rw [this, BitVec.zero_or, orBE_val]

/-- `bytesToUint64` for every byte slice (below 2^60 bytes): the big-endian value modulo 2^64 -/
theorem bytesToUint64 (l : List UInt8) (hl : l.length < 2^60) :
    ((Gen.Marshal.bytesToUint64 (l.map (·.toBitVec))).toNat : Int) = Marshal.bytesToUint64 l := by
  rw [bytesToUint64_toNat l hl]
  unfold Marshal.bytesToUint64 toU
  norm_cast

theorem loopS_eq_loopU (d : List (BitVec 8)) (fuel : Nat) (i ret : BitVec 64) :
    Gen.Marshal.bytesToInt64_loop1 d fuel i ret = Gen.Marshal.bytesToUint64_loop1 d fuel i ret := by
  induction fuel generalizing i ret with
  | zero => rfl
  | succ k ih => simp only [Gen.Marshal.bytesToInt64_loop1, Gen.Marshal.bytesToUint64_loop1, ih]

theorem loopS (pre rest : List (BitVec 8)) (hl : (pre ++ rest).length < 2^60) (ret : BitVec 64) :
    Gen.Marshal.bytesToInt64_loop1 (pre ++ rest) rest.length (BitVec.ofNat 64 pre.length) ret = ret ||| orBE rest := by
  rw [loopS_eq_loopU, loopU pre rest hl]

/-- `bytesToInt64` for every byte slice (below 2^60 bytes): the big-endian value as a signed 64-bit number -/
theorem bytesToInt64 (l : List UInt8) (hl : l.length < 2^60) :
    (Gen.Marshal.bytesToInt64 (l.map (·.toBitVec))).toInt = Marshal.bytesToInt64 l := by
  have e : Gen.Marshal.bytesToInt64 (l.map (·.toBitVec)) = Gen.Marshal.bytesToUint64 (l.map (·.toBitVec)) := by
    simp only [Gen.Marshal.bytesToInt64, Gen.Marshal.bytesToUint64, loopS_eq_loopU]
  rw [toS_of_toNat (by decide), e, bytesToUint64_toNat l hl]
  exact toS_mod _

example : (Gen.Marshal.bytesToInt64 [0xff#8, 0xfe#8]).toInt = 65534 := by decide
example : Gen.Marshal.bytesToUint64 [1#8, 2#8, 3#8, 4#8, 5#8, 6#8, 7#8, 8#8, 9#8] = 0x0203040506070809#64 := by decide

/-! ### `bits.LeadingZeros64` / `LeadingZeros32` (translated to `BitVec.clz`) against the model's bit length:
  `leadingZeros64 u = 64 - bitLen u` -/

theorem bitLen_le (k n : Nat) (h : n < 2^k) : Marshal.bitLen n ≤ k := (C12Bytes.bitLen_le_iff n k).mpr h

theorem bitLen_of_bounds (k n : Nat) (h1 : 2^k ≤ n) (h2 : n < 2^(k+1)) : Marshal.bitLen n = k + 1 := by
  have a := (C12Bytes.bitLen_le_iff n (k + 1)).mpr h2
  have b := mt (C12Bytes.bitLen_le_iff n k).mp (Nat.not_lt.mpr h1)
  omega

theorem clz_bitLen_w {w : Nat} (x : BitVec w) : (BitVec.clz x).toNat = w - Marshal.bitLen x.toNat := by
  have hw : ((w : Nat) : BitVec w).toNat = w := by simp [Nat.mod_eq_of_lt Nat.lt_two_pow_self]
  have hle := BitVec.le_def.mp (BitVec.clz_le (x := x))
  have hlt := BitVec.clz_lt_iff_ne_zero (x := x)
  rw [BitVec.lt_def, hw] at hlt
  rw [hw] at hle
  by_cases hx : x = 0#w
  · subst hx
    have := mt hlt.mp (fun h => h rfl)
    rw [BitVec.toNat_zero, Marshal.bitLen, if_pos rfl]; omega
  · have hc := hlt.mpr hx
    -- `2^(w-1-clz) ≤ x < 2^(w-clz)`: the bit length is `w - clz`
    have a := (C12Bytes.bitLen_le_iff x.toNat _).mpr (BitVec.toNat_lt_two_pow_sub_clz (x := x))
    have b := mt (C12Bytes.bitLen_le_iff x.toNat _).mp
      (Nat.not_lt.mpr (BitVec.two_pow_sub_clz_le_toNat_of_ne_zero (x := x) (by omega) hx))
    omega

theorem clz_bitLen (x : BitVec 64) : (BitVec.clz x).toNat = 64 - Marshal.bitLen x.toNat := clz_bitLen_w x

theorem clz_bitLen32 (x : BitVec 32) : (BitVec.clz x).toNat = 32 - Marshal.bitLen x.toNat := clz_bitLen_w x

/-! ### The whole `encVint`: the descending store loop by induction on its index (`encVint_loop`), then the length-prefix
  bits on the first byte -/

theorem numBytes_of_lead0 : ∀ l, l ≤ 64 →
    BitVec.sshiftRight (0x27f#64 - (BitVec.ofNat 64 l * 0x9#64)) 6 = BitVec.ofNat 64 ((639 - l * 9) >>> 6) := by
  decide

theorem byteNat_bv (x : BitVec 64) : ValueSpec.byteOfNat x.toNat = UInt8.ofBitVec (x.setWidth 8) :=
  (ofBitVec_eq_ofNat (by rw [BitVec.toNat_setWidth, Nat.mod_mod])).symm

theorem div256_bv (x : BitVec 64) : x.toNat / 256 = (x >>> 8).toNat := by
  rw [BitVec.toNat_ushiftRight, Nat.shiftRight_eq_div_pow]

set_option linter.unusedVariables false in -- `vEnc` in the pattern is the generated text's
/-- the part of the generated `encVint` after `numBytes` has been computed -/
def encVintBody (vEnc numBytes : BitVec 64) : List (BitVec 8) :=
  if (BitVec.sle numBytes 0x1#64) then
    [(vEnc.setWidth 8)]
  else
    let extraBytes := (numBytes - 0x1#64)
    let buf : List (BitVec 8) := (List.replicate (numBytes).toNat 0#8)
    let (buf, vEnc) := Gen.Marshal.encVint_loop1  ((extraBytes - 0x0#64).toNat + 1) extraBytes buf vEnc
    let buf := buf.set 0 ((buf.getD 0 0#8) ||| (~~~(0xff#8 >>> (extraBytes).toNat)))
    buf

def encVintModelBody (vEnc numBytes : Nat) : List UInt8 :=
  if numBytes ≤ 1 then [ValueSpec.byteOfNat vEnc]
  else
    let extraBytes := numBytes - 1
    match lowBytes extraBytes vEnc with
    | b0 :: r => (b0 ||| UInt8.ofNat (255 - (255 >>> extraBytes))) :: r
    | [] => []

theorem ofBitVec_or (a b : BitVec 8) : UInt8.ofBitVec (a ||| b) = UInt8.ofBitVec a ||| UInt8.ofBitVec b :=
  UInt8.ofBitVec_or a b

theorem encVint_loop (i : Nat) (hi : i < 2^62) : ∀ (buf : List (BitVec 8)) (v : BitVec 64), i < buf.length →
    (Gen.Marshal.encVint_loop1 (i + 1) (BitVec.ofNat 64 i) buf v).1.map UInt8.ofBitVec
      = lowBytes i v.toNat ++ (buf.drop (i + 1)).map UInt8.ofBitVec := by
  induction i with
  | zero =>
    intro buf v hb
    obtain ⟨b, r, rfl⟩ := List.exists_cons_of_length_pos hb
    simp [Gen.Marshal.encVint_loop1, lowBytes, byteNat_bv]
  | succ i ih =>
    intro buf v hb
    rw [Gen.Marshal.encVint_loop1]
    simp (disch := omega) only [sle_nat, int_sub, toNat_int, Nat.add_sub_cancel]
    rw [if_pos (by simp), ih (by omega) _ _ (by rw [List.length_set]; omega),
      lowBytes, div256_bv, List.append_assoc, byteNat_bv, List.drop_set, if_neg (Nat.lt_irrefl _), Nat.sub_self,
      List.drop_eq_getElem_cons hb]
    rfl

theorem encVintBody_eq (u : BitVec 64) (k : Nat) (hk : k ≤ 9) :
    (encVintBody u (BitVec.ofNat 64 k)).map UInt8.ofBitVec = encVintModelBody u.toNat k := by
  unfold encVintBody encVintModelBody
  simp (disch := omega) only [sle_nat]
  by_cases h1 : k ≤ 1
  · simp [h1, byteNat_bv]
  · obtain ⟨e, rfl⟩ : ∃ e, k = e + 2 := ⟨k - 2, by omega⟩
    have hm : ∀ j, j ≤ 8 → UInt8.ofBitVec (~~~(0xff#8 >>> j)) = UInt8.ofNat (255 - 255 >>> j) := by decide
    have hL := encVint_loop (e + 1) (by omega) (List.replicate (e + 2) 0#8) u (by simp)
    simp (disch := omega) only [h1, decide_false, Bool.false_eq_true, if_false, int_sub, toNat_int, BitVec.sub_zero,
      show e + 2 - 1 = e + 1 from rfl]
    generalize Gen.Marshal.encVint_loop1 (e + 1 + 1) (BitVec.ofNat 64 (e + 1)) (List.replicate (e + 2) 0#8) u = p at hL ⊢
    obtain ⟨b1, v1⟩ := p
    simp only [List.drop_replicate, Nat.sub_self, List.replicate_zero, List.map_nil, List.append_nil] at hL
    rw [← hL]
    -- the buffer is never empty here (it has `e + 2` bytes); both sides agree on the empty one anyway
    cases b1 with
    | nil => rfl
    | cons x r => simp [hm (e + 1) (by omega)]

theorem encVint_all (n : Int) :
    (Gen.Marshal.encVint (BitVec.ofInt 64 n)).map UInt8.ofBitVec = Marshal.encVint n := by
  have hg : Gen.Marshal.encVint (BitVec.ofInt 64 n)
      = encVintBody (Gen.Marshal.encIntZigZag (BitVec.ofInt 64 n))
          (BitVec.sshiftRight (0x27f#64 - (((BitVec.clz (Gen.Marshal.encIntZigZag (BitVec.ofInt 64 n))).setWidth 64) * 0x9#64)) 6) := rfl
  have hm : Marshal.encVint n
      = encVintModelBody (Marshal.encIntZigZag n) ((639 - Marshal.leadingZeros64 (Marshal.encIntZigZag n) * 9) >>> 6) := rfl
  rw [hg, hm, ← GenTie.C12.encIntZigZag n]
  generalize Gen.Marshal.encIntZigZag (BitVec.ofInt 64 n) = u
  have hl := clz_bitLen u
  have hc : (BitVec.clz u).setWidth 64 = BitVec.ofNat 64 (64 - Marshal.bitLen u.toNat) := by
    rw [BitVec.setWidth_eq, ← hl, BitVec.ofNat_toNat, BitVec.setWidth_eq]
  unfold Marshal.leadingZeros64
  rw [hc, numBytes_of_lead0 _ (by omega)]
  apply encVintBody_eq
  rw [Nat.shiftRight_eq_div_pow]
  omega

set_option linter.unusedVariables false in -- `hn` (the argument is an int64) is not needed: `encVint_all`
/-- `encVint(v int64)` (zig-zag, `bits.LeadingZeros64`, byte count, the descending store loop, the length prefix bits)
    equals the model's `Marshal.encVint`; stated for every int64, true of every `Int` (`encVint_all`) -/
theorem encVint (n : Int) (hn : -(2:Int)^63 ≤ n ∧ n < (2:Int)^63) :
    (Gen.Marshal.encVint (BitVec.ofInt 64 n)).map UInt8.ofBitVec = Marshal.encVint n := encVint_all n

/-! ### The accumulation loop of `decVint` (duration vints), a statement segment translated as a counted loop -/

/-- one step of the `decVint` loop on the 64-bit accumulator: `ret <<= 8; ret |= uint64(data[i+1] & 0xff)` -/
def vstep (acc : BitVec 64) (x : BitVec 8) : BitVec 64 := (acc <<< 8) ||| ((x &&& 0xff#8).setWidth 64)

theorem vloop (d : List (BitVec 8)) (s0 n0 : Nat) (hB : s0 + n0 + 1 ≤ d.length) (hd : d.length < 2^60) :
    ∀ (n s : Nat) (ret : BitVec 64), s + n = s0 + n0 →
      Gen.Marshal.decVint_decVintLoop_loop1 d (BitVec.ofNat 64 s0) (BitVec.ofNat 64 n0) n (BitVec.ofNat 64 s) ret
        = ((d.drop (s + 1)).take n).foldl vstep ret := by
  intro n
  induction n with
  | zero => intro s ret _; simp [Gen.Marshal.decVint_decVintLoop_loop1]
  | succ n ih =>
    intro s ret hs
    rw [Gen.Marshal.decVint_decVintLoop_loop1]
    simp (disch := omega) only [slt_nat, int_add, toNat_int]
    rw [if_pos (by simp; omega), ih (s + 1) _ (by omega), List.drop_eq_getElem_cons (by omega : s + 1 < d.length),
      List.take_succ_cons, List.foldl_cons, List.getD_eq_getElem?_getD, List.getElem?_eq_getElem (by omega)]
    rfl

/-- the loop of `decVint` (`for i := start; i < start+numBytes; i++ { ret <<= 8; ret |= uint64(data[i+1] & 0xff) }`),
    whenever the bytes are there (`decVint` has checked `len(data) ≥ start+numBytes+1` before): the fold of `vstep`
    over the `numBytes` bytes after the first -/
theorem decVintLoop (d : List (BitVec 8)) (s n : Nat) (hB : s + n + 1 ≤ d.length) (hd : d.length < 2^60) (ret : BitVec 64) :
    Gen.Marshal.decVintLoop d (BitVec.ofNat 64 s) (BitVec.ofNat 64 n) ret = ((d.drop (s + 1)).take n).foldl vstep ret := by
  unfold Gen.Marshal.decVintLoop
  simp (disch := omega) only [int_add, int_sub, toNat_int, Nat.add_sub_cancel_left]
  exact vloop d s n hB hd n s ret rfl

theorem vstep_val (acc : BitVec 64) (x : UInt8) :
    (vstep acc x.toBitVec).toNat = (acc.toNat * 256 + x.toNat) % 2^64 := by
  unfold vstep
  rw [show (0xff#8 : BitVec 8) = BitVec.allOnes 8 from rfl, BitVec.and_allOnes, BitVec.toNat_or, BitVec.toNat_shiftLeft,
    BitVec.toNat_setWidth, UInt8.toNat_toBitVec]
  exact or_step acc.toNat x.toNat 1 x.toNat_lt

theorem vfold_val (xs : List UInt8) (acc : BitVec 64) :
    ((xs.map (·.toBitVec)).foldl vstep acc).toNat = xs.foldl (fun a x => (a * 256 + x.toNat) % 2^64) acc.toNat := by
  induction xs generalizing acc with
  | nil => rfl
  | cons x xs ih => simp only [List.map_cons, List.foldl_cons]; rw [ih, vstep_val]

/-! ### The WHOLE `decVint` (early returns with an error, `LeadingZeros32`, the accumulation loop, zig-zag) against `Marshal.decVint` -/

theorem loop_same (d : List (BitVec 8)) (s n : BitVec 64) (fuel : Nat) (i ret : BitVec 64) :
    Gen.Marshal.decVint_loop1 d s n fuel i ret = Gen.Marshal.decVint_decVintLoop_loop1 d s n fuel i ret := by
  induction fuel generalizing i ret with
  | zero => rfl
  | succ k ih => simp only [Gen.Marshal.decVint_loop1, Gen.Marshal.decVint_decVintLoop_loop1, ih]

theorem small_iff : ∀ b : BitVec 8, ((b &&& 0x80#8) == 0x0#8) = decide (b.toNat < 128) := by
  intro b
  rw [show (0x80#8 : BitVec 8) = BitVec.twoPow 8 7 from rfl, bit_clear b 7 (by decide),
    ← show b.msb = b.getLsbD 7 from BitVec.msb_eq_getLsbD_last b, BitVec.msb_eq_decide, ← decide_not]
  exact decide_eq_decide.mpr (by omega)

theorem not_val : ∀ b : BitVec 8, ((~~~b).setWidth 32).toNat = 255 - b.toNat := by
  intro b
  have := b.isLt
  rw [BitVec.toNat_setWidth, BitVec.toNat_not]
  omega

/-- `numBytes := bits.LeadingZeros32(uint32(^firstByte)) - 24` is the model's `leadOnes` -/
theorem numBytes_val (b : UInt8) :
    (((BitVec.clz ((~~~b.toBitVec).setWidth 32)).setWidth 64) - 0x18#64) = BitVec.ofNat 64 (Marshal.leadOnes b) := by
  apply BitVec.eq_of_toNat_eq
  have h1 := clz_bitLen32 ((~~~b.toBitVec).setWidth 32)
  have h2 := not_val b.toBitVec
  have hb := UInt8.toNat_lt b
  have h3 := bitLen_le 8 (255 - b.toNat) (by omega)
  unfold Marshal.leadOnes
  rw [h2] at h1
  simp only [UInt8.toNat_toBitVec] at h1
  rw [BitVec.toNat_sub, BitVec.toNat_setWidth, h1]
  simp
  omega

theorem slt_small_dec (a b : Nat) (ha : a < 2^63) (hb : b < 2^63) :
    BitVec.slt (BitVec.ofNat 64 a) (BitVec.ofNat 64 b) = decide (a < b) := slt_nat a b ha hb

/-- the fuel is the term `decVint` passes -/
theorem decVint_loop_val (data : List UInt8) (s nb : Nat) (hB : s + nb + 1 ≤ data.length) (hd : data.length < 2^60) (r0 : BitVec 64) :
    (Gen.Marshal.decVint_loop1 (data.map (·.toBitVec)) (BitVec.ofNat 64 s) (BitVec.ofNat 64 nb)
        (BitVec.ofNat 64 (s + nb) - BitVec.ofNat 64 s).toNat (BitVec.ofNat 64 s) r0).toNat
      = ((data.drop (s + 1)).take nb).foldl (fun acc x => (acc * 256 + x.toNat) % 2^64) r0.toNat := by
  have hL := GenTie.C12.decVintLoop (data.map (·.toBitVec)) s nb (by simpa using hB) (by simpa using hd) r0
  rw [Gen.Marshal.decVintLoop, int_add] at hL
  rw [loop_same, hL, ← List.map_drop, ← List.map_take, vfold_val]

/-- the whole `decVint(data, start)`: error / (value, next position) as the model's `decVint` on the suffix at `start`,
    and the next position stays inside the data -/
theorem decVint_run (data : List UInt8) (s : Nat) (hd : data.length < 2^60) (hs : s ≤ data.length) :
    (match Gen.Marshal.decVint (data.map (·.toBitVec)) (BitVec.ofNat 64 s) with
     | (v, nxt, err) => if err then none else some (v.toInt, data.drop nxt.toNat)) = Marshal.decVint (data.drop s) ∧
    ((Gen.Marshal.decVint (data.map (·.toBitVec)) (BitVec.ofNat 64 s)).2.2 = false →
      (Gen.Marshal.decVint (data.map (·.toBitVec)) (BitVec.ofNat 64 s)).2.1.toNat ≤ data.length) := by
  unfold Gen.Marshal.decVint
  rw [List.length_map, sle_nat _ _ (by omega) (by omega)]
  by_cases h1 : data.length ≤ s
  · have : data.drop s = [] := List.drop_eq_nil_of_le h1
    simp [h1, this, Marshal.decVint]
  · have hlt : s < data.length := by omega
    have hdrop : data.drop s = data[s] :: data.drop (s + 1) := List.drop_eq_getElem_cons hlt
    have hget : (data.map (·.toBitVec)).getD (BitVec.ofNat 64 s).toNat 0#8 = (data[s]).toBitVec := by
      rw [toNat_int (by omega), getD_map, ← List.getElem_eq_getD (h := hlt)]
    simp only [h1, decide_false, Bool.false_eq_true, if_false, hget, small_iff, hdrop, Marshal.decVint, UInt8.toNat_toBitVec]
    generalize data[s] = first
    by_cases hsm : first.toNat < 128
    · simp [hsm, zz_toInt, int_add, toNat_int (show s + 1 < 2 ^ 64 by omega)]
      omega
    · simp only [hsm, decide_false, Bool.false_eq_true, if_false, numBytes_val]
      have hnb : Marshal.leadOnes first ≤ 8 := by unfold Marshal.leadOnes; omega
      generalize Marshal.leadOnes first = nb at hnb
      rw [int_add, int_add, slt_nat _ _ (by omega) (by omega), toNat_int (show nb < 2 ^ 64 by omega)]
      have hrl : (data.drop (s + 1)).length = data.length - (s + 1) := by simp
      by_cases hshort : data.length < s + nb + 1
      · have : (data.drop (s + 1)).length < nb := by omega
        simp [hshort]; omega
      · have hnot : ¬ (data.drop (s + 1)).length < nb := by omega
        simp only [hshort, hnot, decide_false, Bool.false_eq_true, if_false, toNat_int (show s + nb + 1 < 2 ^ 64 by omega)]
        refine ⟨?_, fun _ => by omega⟩
        have hr0 : (BitVec.setWidth 64 (first.toBitVec &&& 255#8 >>> nb)).toNat = first.toNat &&& 255 >>> nb := by
          simp [BitVec.toNat_and]
        rw [zz_toInt, decVint_loop_val data s nb (by omega) hd, hr0, List.drop_drop]
        congr 3
        omega

theorem decVint (data : List UInt8) (s : Nat) (hd : data.length < 2^60) (hs : s ≤ data.length) :
    (match Gen.Marshal.decVint (data.map (·.toBitVec)) (BitVec.ofNat 64 s) with
     | (v, nxt, err) => if err then none else some (v.toInt, data.drop nxt.toNat)) = Marshal.decVint (data.drop s) :=
  (decVint_run data s hd hs).1

theorem decVint_next (data : List UInt8) (s : Nat) (hd : data.length < 2^60) (hs : s ≤ data.length) :
    (Gen.Marshal.decVint (data.map (·.toBitVec)) (BitVec.ofNat 64 s)).2.2 = false →
      (Gen.Marshal.decVint (data.map (·.toBitVec)) (BitVec.ofNat 64 s)).2.1.toNat ≤ data.length :=
  (decVint_run data s hd hs).2

/-! ### `decVints`: three `decVint` calls threaded through the returned position -/

/-- one call of the generated `decVint` at a position inside the data, in destructured form -/
theorem decVint_step (data : List UInt8) (s : BitVec 64) (hd : data.length < 2^60) (hs : s.toNat ≤ data.length)
    (v p : BitVec 64) (e : Bool) (hg : Gen.Marshal.decVint (data.map (·.toBitVec)) s = (v, p, e)) :
    (e = true ∧ Marshal.decVint (data.drop s.toNat) = none) ∨
    (e = false ∧ p.toNat ≤ data.length ∧ Marshal.decVint (data.drop s.toNat) = some (v.toInt, data.drop p.toNat)) := by
  have t := decVint data s.toNat hd hs
  have n := decVint_next data s.toNat hd hs
  rw [BitVec.ofNat_toNat, BitVec.setWidth_eq, hg] at t n
  cases e
  · right; exact ⟨rfl, n rfl, by simpa using t.symm⟩
  · left; exact ⟨rfl, by simpa using t.symm⟩

/-- `decVints`: months, days (truncated to int32), nanoseconds, or an error -/
theorem decVints (data : List UInt8) (hd : data.length < 2^60) :
    (match Gen.Marshal.decVints (data.map (·.toBitVec)) with
     | (m, d, n, err) => if err then none else some (m.toInt, d.toInt, n.toInt)) = Marshal.decVints data := by
  unfold Gen.Marshal.decVints Marshal.decVints
  rcases h1 : Gen.Marshal.decVint (data.map (·.toBitVec)) 0x0#64 with ⟨v1, p1, e1⟩
  rcases decVint_step data 0x0#64 hd (by simp) v1 p1 e1 h1 with ⟨rfl, m1⟩ | ⟨rfl, b1, m1⟩
  · simp at m1; simp [m1, h1]
  · simp at m1
    rcases h2 : Gen.Marshal.decVint (data.map (·.toBitVec)) p1 with ⟨v2, p2, e2⟩
    rcases decVint_step data p1 hd b1 v2 p2 e2 h2 with ⟨rfl, m2⟩ | ⟨rfl, b2, m2⟩
    · simp [m1, m2, h1, h2]
    · rcases h3 : Gen.Marshal.decVint (data.map (·.toBitVec)) p2 with ⟨v3, p3, e3⟩
      rcases decVint_step data p2 hd b2 v3 p3 e3 h3 with ⟨rfl, m3⟩ | ⟨rfl, b3, m3⟩
      · simp [m1, m2, m3, h1, h2, h3]
      · simp [m1, m2, m3, h1, h2, h3, -BitVec.toInt_setWidth, toInt_trunc32]

/-! ### `readCollectionSize` (a struct parameter passed as the field it uses; `error` results as the Bool "non-nil") against
  the decode model's `Marshal.readCollSize` -/

theorem shorter_eq {α : Type} (l : List α) (n : Nat) : ValueSpec.shorter l n = decide (l.length < n) := by
  by_cases h : l.length < n
  · simp [h, (ValueSpec.shorter_iff l n).mpr h]
  · have : ValueSpec.shorter l n ≠ true := fun c => h ((ValueSpec.shorter_iff l n).mp c)
    simp [h, this]

/-- `readCollectionSize(info, data)`: error on a short prefix, else the int32 (protocol > 2) / uint16 size and the number
    of bytes read -/
theorem readCollectionSize (p : BitVec 8) (data : List UInt8) (h : data.length < 2^63) :
    (match Gen.Marshal.readCollectionSize p (data.map (·.toBitVec)) with
     | (size, read, err) => if err then none else some (size.toInt, data.drop read.toNat))
      = Marshal.readCollSize p.toNat data := by
  unfold Gen.Marshal.readCollectionSize Marshal.readCollSize
  rw [List.length_map, slt_nat _ _ h (by decide), slt_nat _ _ h (by decide), shorter_eq, shorter_eq, ult_two]
  by_cases h2 : p.toNat > 2
  · simp only [h2, decide_true, if_true]
    by_cases hl : data.length < 4
    · simp [hl]
    · obtain ⟨a, b, c, d, r, rfl⟩ := cons4_of_length data hl
      simp only [hl, decide_false, Bool.false_eq_true, if_false, List.map_cons, List.getD_cons_zero, List.getD_cons_succ]
      rw [BitVec.toInt_signExtend_of_le (by decide), toS_of_toNat (by decide), be4_bv (by decide)]
      simp [Marshal.decInt]
  · simp only [h2, decide_false, Bool.false_eq_true, if_false]
    by_cases hl : data.length < 2
    · simp [hl]
    · obtain ⟨a, b, r, rfl⟩ := cons2_of_length data hl
      simp only [hl, decide_false, Bool.false_eq_true, if_false, List.map_cons, List.getD_cons_zero, List.getD_cons_succ]
      have := a.toNat_lt; have := b.toNat_lt
      rw [BitVec.toInt_eq_toNat_of_lt (by rw [be2_bv (by decide)]; omega), be2_bv (by decide)]
      simp [ValueSpec.beNat]

/-- `writeCollectionSize(info, n, buf)` (the `*bytes.Buffer` is the list of the bytes written): "too large" or the
    buffer followed by the model's `collSize` bytes, both protocol framings, every int -/
theorem writeCollectionSize (p : BitVec 8) (n : Int) (hn : -(2:Int)^63 ≤ n ∧ n < 2^63) (buf : List (BitVec 8)) :
    (match Gen.Marshal.writeCollectionSize p (BitVec.ofInt 64 n) buf with
     | (b, err) => if err then none else some (b.map UInt8.ofBitVec))
      = (Marshal.collSize p.toNat n).map (buf.map UInt8.ofBitVec ++ ·) := by
  unfold Gen.Marshal.writeCollectionSize Marshal.collSize
  rw [ult_two, show (0x7fffffff#64 : BitVec 64) = BitVec.ofInt 64 2147483647 from rfl,
    show (0xffff#64 : BitVec 64) = BitVec.ofInt 64 65535 from rfl, slt_int _ _ (by omega) hn, slt_int _ _ (by omega) hn]
  have hs := fun k => byte_shift (w := 64) (by decide) n k hn
  have hl := byte_low (w := 64) (by decide) n hn
  by_cases hv : p.toNat > 2
  · by_cases hbig : (2147483647:Int) < n
    · simp [hv, hbig]
    · simp [hv, hbig, Marshal.encInt, hs, hl, C12Bytes.byteOf_shift_toS 32, C12Bytes.byteOf_toS 32]
  · by_cases hbig : (65535:Int) < n
    · simp [hv, hbig]
    · simp [hv, hbig, Marshal.encShort, hs, hl, C12Bytes.byteOf_shift_toS 16, C12Bytes.byteOf_toS 16]

end GenTie.C12
