import Model.PagingPrep
/-! Paged iteration (`Model/Paging.lean`, `Model/PagingPrep.lean`): what a Scan on one page does (`scanRow_some`, `scanRow_none`);
    the model against the specification (`Spec.*`) for every script, by one induction for the model in which a PREPARE may
    fail (`Prep.runP_spec`), of which `run` (`run_spec`) and the manual loop (`manual_eq_run`) are cases; and the
    specification evaluated on well-formed page lists (`spec_more`, `run_more`). -/
namespace Paging

theorem request_eq (q : Qry) : request q = template q (firstState q) := by
  simp [request, template, firstState]

theorem template_next (q : Qry) (s : Bytes) : template { q with pageState := s } = template q := rfl

theorem firstState_next (q : Qry) (s : Bytes) (hs : s ≠ []) : firstState { q with pageState := s } = some s := by
  have : 0 < s.length := List.length_pos_iff.2 hs
  simp [firstState, this]

theorem reqs_last (c : Bool) (q : Qry) :
    prep c q ++ [request q] = (if q.prepared && !c then [Req.prepare] else []) ++ [template q (firstState q)] := by
  rw [request_eq]; rfl

theorem scanRow_some {c c' : Iter} {r : Int} (h : scanRow c = some (r, c')) :
    c.err = none ∧ c.rows[c.pos]? = some r ∧ c' = { c with pos := c.pos + 1 } := by
  revert h
  fun_cases scanRow c <;> intro h <;> cases h
  exact ⟨‹_›, ‹_›, rfl⟩

theorem scanRow_none {c : Iter} (he : c.err = none) (h : scanRow c = none) : c.rows[c.pos]? = none := by
  revert h
  fun_cases scanRow c <;> intro h <;> cases h
  · exact nomatch he.symm.trans ‹c.err = some _›
  · assumption

theorem drop_of_getElem?_none {α} {l : List α} {n : Nat} (h : l[n]? = none) : l.drop n = [] :=
  List.drop_eq_nil_of_le (List.getElem?_eq_none_iff.1 h)

theorem drop_of_getElem?_some {α} {l : List α} {n : Nat} {a : α} (h : l[n]? = some a) :
    l.drop n = a :: l.drop (n + 1) := by
  obtain ⟨hlt, rfl⟩ := List.getElem?_eq_some_iff.1 h
  exact List.drop_eq_getElem_cons hlt

def Prep.NoEmptyStateP (script : List Prep.PReply) : Prop := NoEmptyState (script.map Prep.toBase)

/-- the model against the specification, for EVERY script (empty pages, empty paging states, failures, a failing PREPARE
    and UNPREPARED anywhere), every prefetch position, cached or not: rows and final error always; the request sequence
    whenever no paging state in the script is present-but-empty. `run` is the case without a failing PREPARE. -/
theorem Prep.runP_spec (pp : Nat → Nat) (script : List Prep.PReply) (cached : Bool) (q : Qry) (hq : q.disableAutoPage = false) :
    (Prep.runP pp script cached q).rows = Spec.rows (script.map Prep.toBase) ∧
    (Prep.runP pp script cached q).err = Spec.err (script.map Prep.toBase) ∧
    (Prep.NoEmptyStateP script →
      (Prep.runP pp script cached q).reqs = Prep.Spec.reqs (template q) q.prepared script (!cached) (firstState q)) := by
  induction script generalizing cached q with
  | nil => exact ⟨rfl, rfl, fun _ => reqs_last cached q⟩
  | cons r rest ih =>
    cases r with
    | prepFail f => exact ⟨rfl, rfl, fun _ => rfl⟩
    | base b =>
      cases b with
      | unprepared =>
        have h := ih false q hq
        exact ⟨h.1, h.2.1, fun hne => by simp [Prep.runP, Prep.Spec.reqs, prep, request_eq, h.2.2 hne]⟩
      | fail f => exact ⟨rfl, rfl, fun _ => reqs_last cached q⟩
      | page rows st =>
        cases st with
        | none => exact ⟨rfl, rfl, fun _ => reqs_last cached q⟩
        | some s =>
          obtain ⟨h1, h2, h3⟩ := ih true { q with pageState := s } hq
          rw [hq] at h1 h2
          refine ⟨by simp [Prep.runP, pageIter, hq, Prep.toBase, Paging.Spec.rows, h1],
            by simp [Prep.runP, pageIter, hq, Prep.toBase, Paging.Spec.err, h2], fun hne => ?_⟩
          have hr := h3 hne.2
          rw [template_next, firstState_next q s hne.1, hq] at hr
          simp [Prep.runP, pageIter, hq, Prep.Spec.reqs, prep, request_eq, hr]

theorem Prep.runP_base (pp : Nat → Nat) (script : List Reply) (cached : Bool) (q : Qry) :
    Prep.runP pp (script.map Prep.PReply.base) cached q = run pp script cached q := by
  induction script generalizing cached q with
  | nil => rfl
  | cons r rest ih =>
    cases r with
    | unprepared => simp only [List.map, Prep.runP, run, ih]
    | fail f => rfl
    | page rows st =>
      -- `run` drops `pos = 0` rows of the fresh page
      simp only [List.map, Prep.runP, run]
      cases (pageIter pp q rows st).next with
      | none => rfl
      | some n => simp only [ih]; rfl

theorem Prep.reqs_base (mk : Option Bytes → Req) (prepared : Bool) : ∀ (script : List Reply) (np : Bool) (cur : Option Bytes),
    Prep.Spec.reqs mk prepared (script.map Prep.PReply.base) np cur = Paging.Spec.reqs mk prepared script np cur := by
  intro script
  induction script with
  | nil => intro np cur; rfl
  | cons r rest ih =>
    intro np cur
    cases r with
    | unprepared => exact congrArg (_ ++ _ :: ·) (ih true cur)
    | fail f => rfl
    | page rows st =>
      cases st with
      | none => rfl
      | some s => exact congrArg (_ ++ _ :: ·) (ih false (some s))

theorem run_spec (pp : Nat → Nat) (script : List Reply) (c : Bool) (q : Qry) (hq : q.disableAutoPage = false) :
    (run pp script c q).rows = Spec.rows script ∧ (run pp script c q).err = Spec.err script ∧
    (NoEmptyState script →
      (run pp script c q).reqs = Spec.reqs (template q) q.prepared script (!c) (firstState q)) := by
  have hb : (script.map Prep.PReply.base).map Prep.toBase = script := by
    rw [List.map_map]; exact List.map_id'' (fun _ => rfl) script
  have h := Prep.runP_spec pp (script.map Prep.PReply.base) c q hq
  rw [Prep.runP_base, Prep.NoEmptyStateP, hb, Prep.reqs_base] at h
  exact h

/-- when no paging state in the script is present-but-empty, the manual paging loop (one Iter per page, resumed from
    PageState()) is the automatic iteration: it stops exactly where a page says it is the last -/
theorem manual_eq_run (pp : Nat → Nat) : ∀ (script : List Reply) (c : Bool) (q : Qry), NoEmptyState script →
    manual pp script c q = run pp script c { q with disableAutoPage := false } := by
  intro script
  induction script with
  | nil => intro c q _; rfl
  | cons r rest ih =>
    intro c q hne
    cases r with
    | unprepared => simp only [manual, run, ih false q hne]; rfl
    | fail f => rfl
    | page rows st =>
      cases st with
      | none => rfl
      | some s =>
        have hl : ¬ s.length = 0 := fun h0 => hne.1 (List.length_eq_zero_iff.1 h0)
        simp only [manual, pageIter, Option.getD_some, hl, if_false, ih true { q with pageState := s } hne.2]
        rfl

/-- pages with has_more_pages (rows, paging state), as replies -/
def morePages (pages : List (List Int × Bytes)) : List Reply := pages.map (fun p => .page p.1 (some p.2))

theorem noEmpty_more (pages : List (List Int × Bytes)) (tail : List Reply)
    (h : ∀ p ∈ pages, p.2 ≠ []) (ht : NoEmptyState tail) : NoEmptyState (morePages pages ++ tail) := by
  induction pages with
  | nil => exact ht
  | cons p ps ih => exact ⟨h p List.mem_cons_self, ih fun x hx => h x (List.mem_cons_of_mem _ hx)⟩

/-- the specification on `pages` followed by a reply that ends the iteration (a last page or a failure): the rows of
    all pages, then what the ending reply gives; and as requests an optional PREPARE, the first request, then one
    request per page carrying exactly that page's state — `pages.length + 1` requests, nothing else -/
theorem spec_more (mk : Option Bytes → Req) (prepared : Bool) (pages : List (List Int × Bytes))
    (last : Reply) (tail : List Reply) (hl : (∃ r, last = .page r none) ∨ (∃ f, last = .fail f)) :
    ∀ (needPrep : Bool) (cur : Option Bytes),
    Spec.rows (morePages pages ++ last :: tail) = (pages.map (·.1)).flatten ++ Spec.rows (last :: tail) ∧
    Spec.err (morePages pages ++ last :: tail) = Spec.err (last :: tail) ∧
    Spec.reqs mk prepared (morePages pages ++ last :: tail) needPrep cur
      = (if prepared && needPrep then [Req.prepare] else []) ++ (cur :: pages.map (fun p => some p.2)).map mk := by
  induction pages with
  | nil =>
    intro needPrep cur
    refine ⟨rfl, rfl, ?_⟩
    rcases hl with ⟨r, rfl⟩ | ⟨f, rfl⟩ <;> simp [morePages, Spec.reqs]
  | cons p ps ih =>
    intro needPrep cur
    obtain ⟨h1, h2, h3⟩ := ih false (some p.2)
    refine ⟨(congrArg (p.1 ++ ·) h1).trans (List.append_assoc ..).symm, h2, ?_⟩
    simp only [Bool.and_false, Bool.false_eq_true, if_false, List.nil_append, morePages] at h3
    simp [morePages, Spec.reqs, h3]

theorem run_more (pp : Nat → Nat) (pages : List (List Int × Bytes)) (last : Reply) (tail : List Reply)
    (cached : Bool) (q : Qry) (hq : q.disableAutoPage = false)
    (hl : (∃ r, last = .page r none) ∨ (∃ f, last = .fail f)) :
    (run pp (morePages pages ++ last :: tail) cached q).rows = (pages.map (·.1)).flatten ++ Spec.rows (last :: tail) ∧
    (run pp (morePages pages ++ last :: tail) cached q).err = Spec.err (last :: tail) ∧
    ((∀ p ∈ pages, p.2 ≠ []) → NoEmptyState (last :: tail) →
      (run pp (morePages pages ++ last :: tail) cached q).reqs =
        prep cached q ++ (firstState q :: pages.map (fun p => some p.2)).map (template q)) := by
  have h := run_spec pp (morePages pages ++ last :: tail) cached q hq
  obtain ⟨s1, s2, s3⟩ := spec_more (template q) q.prepared pages last tail hl (!cached) (firstState q)
  exact ⟨h.1.trans s1, h.2.1.trans s2, fun hp ht => (h.2.2 (noEmpty_more pages _ hp ht)).trans (s3.trans rfl)⟩

end Paging
