import Proofs.C01Upd
/-!
# The connection's own requests and the sender's steps

Inductive invariant of the machine `Model/MuxOwn.lean` in the configuration of the code that exists (`Cfg.code`). Its fields
follow one chain: what the peer holds for an id (`wire`) has a handler (`reg`); a handler is a call in flight under that id
or one that gave up (`pc`); a call in flight holds its id in the allocator (`owner`). After closeWithError the map belongs
to the closer, so the links into `owner` hold on an open connection only. Last: an interleaved history of several
connections projects to a history of each (`mrun_proj`).
-/
namespace MuxOwn

/-- what a program point says by itself: the id of a call in flight is one the allocator may hand out; the error of the
    connection that a call was handed carries no frame; addCall never finds another call registered under the id it was
    given -/
def PcOk (cap : Nat) : Pc → Prop
  | .flight s _ _ _ => 1 ≤ s ∧ s < cap
  | .done (.connErr e) => e = .plain
  | .done .dupErr => False
  | _ => True

structure Inv (st : St) : Prop where
  /-- closeWithError never ran with a frame as its error value -/
  closed_plain : ∀ e, st.closed = some e → e = .plain
  /-- while the peer holds a request on s or its answer is under way, a handler for s is registered: the sender itself -/
  wire_reg : ∀ s c, (st.wire s = .pending c ∨ ∃ f, st.wire s = .answered c f) → st.reg s = some c
  /-- an answer under way is what the peer sent to that request, with the request's stream id -/
  ans_sent : ∀ s c f, st.wire s = .answered c f → st.sent c = some f ∧ f.sid = s
  /-- a registered call reserved that id and is in flight (registered) or gave up without a response -/
  reg_pc : ∀ s d, st.reg s = some d → (st.closed = none → st.owner s = some d) ∧ st.sidOf d = s ∧ st.pc d ≠ .idle ∧
    (∀ s' r wr ret, st.pc d = .flight s' r wr ret → s' = s ∧ r = true) ∧ (∀ f, st.pc d ≠ .done (.resp f))
  flight_ok : ∀ c s r wr ret, st.pc c = .flight s r wr ret → st.owner s = some c ∧ st.sidOf c = s ∧
    (r = true → st.reg s = some c) ∧ (r = false → st.reg s = none ∧ wr = false) ∧
    (wr = false → st.wire s = .none ∧ ret = false)
  /-- an id nobody reserved has no handler and nothing on the wire (while the connection is open: closeWithError owns
      the map afterwards and no id is handed out any more) -/
  free_ok : st.closed = none → ∀ s, st.owner s = none → st.reg s = none ∧ st.wire s = .none
  /-- what a call was handed as its response is the frame the peer sent for it, with its own stream id -/
  resp_ok : ∀ c f, st.pc c = .done (.resp f) → st.sent c = some f ∧ f.sid = st.sidOf c
  /-- no answer was ever discarded for want of a handler -/
  not_lost : ∀ c, st.lost c = false
  /-- a call that is about to free its id still holds it, is no longer registered under it (its registration was
      removed BEFORE: by recv's look-up or by the early exit itself) and nothing is on the wire for it -/
  rel_ok : ∀ c, st.rel c = .due → st.owner (st.sidOf c) = some c ∧ st.wire (st.sidOf c) = .none ∧
    (st.closed = none → st.reg (st.sidOf c) = none) ∧ (∀ s r wr ret, st.pc c ≠ .flight s r wr ret) ∧ st.pc c ≠ .idle
  pc_ok : ∀ c, PcOk st.cap (st.pc c)

theorem Inv.at_pc {st : St} (h : Inv st) {c : Nat} {p : Pc} (hp : st.pc c = p) : PcOk st.cap p := hp ▸ h.pc_ok c

theorem inv_init (cap : Nat) : Inv (init cap) := by
  constructor <;> simp [init, PcOk]

theorem Inv.done {st : St} (h : Inv st) (c : Nat) (o : Outcome) (hr : ∀ f, o ≠ .resp f) (hd : o ≠ .dupErr)
    (he : ∀ e, o = .connErr e → e = .plain) : Inv { st with pc := upd st.pc c (.done o) } :=
  { h with
    reg_pc := fun s d => by upd_from h.reg_pc s d
    flight_ok := fun c s r wr ret => by upd_from h.flight_ok c s r wr ret
    resp_ok := fun c f => by upd_from h.resp_ok c f
    rel_ok := fun c => by upd_from h.rel_ok c
    pc_ok := forall_update h.pc_ok c (by cases o <;> first | trivial | exact he _ rfl | exact hd rfl) }

/-- closeWithError with an error that is no frame -/
theorem Inv.close {st : St} (h : Inv st) : Inv { st with closed := closeWith st .plain } :=
  { h with
    closed_plain := fun e => by upd_from h.closed_plain e
    reg_pc := fun s d => by upd_from h.reg_pc s d
    free_ok := fun hc s => by have := h.free_ok; simp only [closeWith] at hc; grind
    rel_ok := fun c => by upd_from h.rel_ok c }

/-- the exits of exec before anything was written -/
theorem inv_earlyExit {st : St} (h : Inv st) (c s : Nat) (o : Outcome) (hpc : st.pc c = .flight s true false false)
    (hr : ∀ f, o ≠ .resp f) (hd : o ≠ .dupErr) (he : ∀ e, o = .connErr e → e = .plain) :
    Inv (earlyExit Cfg.code st c s o) := by
  have hk := h.flight_ok c s true false false hpc
  simp only [earlyExit, Cfg.code, and_true]
  by_cases hc : st.closed = none
  · rw [if_pos hc]
    exact { h.done c o hr hd he with
      wire_reg := fun s c => by upd_from h.wire_reg s c
      free_ok := fun hc s => by upd_from h.free_ok hc s
      reg_pc := fun s d => by upd_from h.reg_pc s d
      flight_ok := fun c s r wr ret => by upd_from h.flight_ok c s r wr ret
      rel_ok := fun c => by upd_from h.rel_ok c }
  · rw [if_neg hc]
    exact { h.done c o hr hd he with
      rel_ok := fun c => by upd_from h.rel_ok c }

theorem inv_step (st st' : St) (a : Act) (h : Inv st) (hs : step Cfg.code st a = some st') : Inv st' := by
  revert hs
  fun_cases step Cfg.code st a <;> intro hs <;> cases hs
  case case1 c₀ s₀ w₀ hg =>  -- reserve
    obtain ⟨_, hfree, h1, hcap, hopen⟩ := hg
    have hf := h.free_ok hopen s₀ hfree
    exact { h with
      reg_pc := fun s d => by upd_from h.reg_pc s d
      flight_ok := fun c s r wr ret => by upd_from h.flight_ok c s r wr ret
      free_ok := fun hc s => by upd_from h.free_ok hc s
      resp_ok := fun c f => by upd_from h.resp_ok c f
      rel_ok := fun c => by upd_from h.rel_ok c
      pc_ok := forall_update h.pc_ok c₀ ⟨h1, hcap⟩ }
  case case3 c₀ s₀ wr₀ ret₀ hpc hwr _ _ =>  -- register
    simp only [Cfg.code, Bool.false_eq_true, ↓reduceIte] at hwr
    have hk := h.flight_ok c₀ s₀ false wr₀ ret₀ hpc
    exact { h with
      wire_reg := fun s c => by upd_from h.wire_reg s c
      reg_pc := fun s d => by upd_from h.reg_pc s d
      flight_ok := fun c s r wr ret => by upd_from h.flight_ok c s r wr ret
      free_ok := fun hc s => by upd_from h.free_ok hc s
      resp_ok := fun c f => by upd_from h.resp_ok c f
      rel_ok := fun c => by upd_from h.rel_ok c
      pc_ok := forall_update h.pc_ok c₀ (h.at_pc hpc :) }
  case case4 c₀ s₀ wr₀ ret₀ hpc _ _ hreg =>
    -- addCall never finds another call under the id: an unregistered flight has `reg s₀ = none`
    exact absurd ((h.flight_ok c₀ s₀ false wr₀ ret₀ hpc).2.2.2.1 rfl).1 hreg
  case case5 => exact h.done _ _ (by simp) (by simp) (by simp)  -- register on a closed connection
  case case9 c₀ s₀ r₀ hpc hg =>  -- write
    have hr : r₀ = true := by simpa [Cfg.code] using hg
    have hk := h.flight_ok c₀ s₀ r₀ false false hpc
    exact { h with
      wire_reg := fun s c => by upd_from h.wire_reg s c
      ans_sent := fun s c f => by upd_from h.ans_sent s c f
      free_ok := fun hc s => by upd_from h.free_ok hc s
      reg_pc := fun s d => by upd_from h.reg_pc s d
      flight_ok := fun c s r wr ret => by upd_from h.flight_ok c s r wr ret
      resp_ok := fun c f => by upd_from h.resp_ok c f
      rel_ok := fun c => by upd_from h.rel_ok c
      pc_ok := forall_update h.pc_ok c₀ (h.at_pc hpc :) }
  case case11 c₀ s₀ r₀ hpc =>  -- writeReturned
    have hk := h.flight_ok c₀ s₀ r₀ true false hpc
    exact { h with
      reg_pc := fun s d => by upd_from h.reg_pc s d
      flight_ok := fun c s r wr ret => by upd_from h.flight_ok c s r wr ret
      resp_ok := fun c f => by upd_from h.resp_ok c f
      rel_ok := fun c => by upd_from h.rel_ok c
      pc_ok := forall_update h.pc_ok c₀ (h.at_pc hpc :) }
  case case13 => exact (h.done _ .writeErr (by simp) (by simp) (by simp)).close  -- writeFailed
  case case15 s₀ kind₀ tag₀ c₀ hw =>  -- answer
    have hr := h.wire_reg s₀ c₀ (.inl hw)
    have hk := h.reg_pc s₀ c₀ hr
    exact { h with
      wire_reg := fun s c => by upd_from h.wire_reg s c
      -- the answered call is registered under ONE id (`reg_pc`: `sidOf`), so writing `sent` at it touches no other answer
      ans_sent := fun s c f => by have := h.ans_sent s c f; have := h.wire_reg s c; upd_from h.reg_pc s c
      flight_ok := fun c s r wr ret => by upd_from h.flight_ok c s r wr ret
      free_ok := fun hc s => by upd_from h.free_ok hc s
      resp_ok := fun c f => by upd_from h.resp_ok c f
      rel_ok := fun c => by upd_from h.rel_ok c }
  case case17 | case19 => exact h  -- stray, event
  case case21 s₀ c₀ f₀ hw _ _ =>  -- deliver, no handler
    have hk := h.wire_reg s₀ c₀ (.inr ⟨f₀, hw⟩)
    have hk' := h.ans_sent s₀ c₀ f₀ hw
    exact { h with
      wire_reg := fun s c => by upd_from h.wire_reg s c
      ans_sent := fun s c f => by upd_from h.ans_sent s c f
      flight_ok := fun c s r wr ret => by upd_from h.flight_ok c s r wr ret
      free_ok := fun hc s => by upd_from h.free_ok hc s
      not_lost := fun c => by upd_from h.not_lost c
      rel_ok := fun c => by upd_from h.rel_ok c }
  case case23 s₀ c₀ f₀ hw _ d₀ hd _ _ _ _ =>  -- deliver to the registered caller
    have hk := h.wire_reg s₀ c₀ (.inr ⟨f₀, hw⟩)
    have hk' := h.ans_sent s₀ c₀ f₀ hw
    have hd' := h.reg_pc s₀ d₀ hd
    exact { h with
      wire_reg := fun s c => by upd_from h.wire_reg s c
      ans_sent := fun s c f => by upd_from h.ans_sent s c f
      free_ok := fun hc s => by upd_from h.free_ok hc s
      reg_pc := fun s d => by upd_from h.reg_pc s d
      flight_ok := fun c s r wr ret => by upd_from h.flight_ok c s r wr ret
      resp_ok := fun c f => by upd_from h.resp_ok c f
      rel_ok := fun c => by upd_from h.rel_ok c
      pc_ok := forall_update h.pc_ok d₀ trivial }
  case case24 s₀ c₀ f₀ hw _ d₀ hd _ _ =>  -- deliver, the caller gave up: the id is released
    have hk := h.wire_reg s₀ c₀ (.inr ⟨f₀, hw⟩)
    have hk' := h.ans_sent s₀ c₀ f₀ hw
    have hd' := h.reg_pc s₀ d₀ hd
    exact { h with
      wire_reg := fun s c => by upd_from h.wire_reg s c
      ans_sent := fun s c f => by upd_from h.ans_sent s c f
      reg_pc := fun s d => by upd_from h.reg_pc s d
      flight_ok := fun c s r wr ret => by upd_from h.flight_ok c s r wr ret
      free_ok := fun hc s => by upd_from h.free_ok hc s
      rel_ok := fun c => by upd_from h.rel_ok c }
  case case27 | case29 => exact h.done _ _ (by simp) (by simp) (by simp)  -- timeout, cancel
  case case31 c₀ f₀ _ _ =>  -- hbReact
    simp only [Cfg.code]
    split
    · exact { h with }
    · split
      · exact { h with }
      · exact { h.close with }
  case case34 => exact h.close  -- close
  case case35 c₀ s₀ e₀ hc _ => exact h.done c₀ _ (by simp) (by simp) (by simpa using h.closed_plain e₀ hc)  -- connDone
  case case37 => exact h.done _ _ (by simp) (by simp) (by simp)  -- connDoneCtx
  case case39 c₀ s₀ hpc | case41 c₀ s₀ hpc =>  -- buildFailed, writeCancelled
    exact inv_earlyExit h c₀ s₀ _ hpc (by simp) (by simp) (by simp)
  case case43 c₀ hr =>  -- release
    have hk := h.rel_ok c₀ hr
    exact { h with
      reg_pc := fun s d => by upd_from h.reg_pc s d
      flight_ok := fun c s r wr ret => by upd_from h.flight_ok c s r wr ret
      free_ok := fun hc s => by upd_from h.free_ok hc s
      rel_ok := fun c => by upd_from h.rel_ok c }
  case case45 c₀ _ =>  -- relDone
    simp only [Cfg.code, Bool.false_eq_true, false_and, ↓reduceIte]
    exact { h with rel_ok := fun c => by upd_from h.rel_ok c }

theorem isRun (cfg : Cfg) : IsRun (step cfg) (run cfg) :=
  ⟨fun _ => rfl, fun s a as => by rw [run]; cases step cfg s a <;> rfl⟩

theorem inv_reach {cap : Nat} {as : List Act} {st : St} (h : run Cfg.code (init cap) as = some st) : Inv st :=
  (isRun _).inv inv_step (inv_init cap) h

theorem mrun_proj (cfg : Cfg) : ∀ (as : List (Nat × Act)) (m m' : Nat → St), mrun cfg m as = some m' →
    ∀ k, run cfg (m k) (proj k as) = some (m' k)
  | [], m, m', h, k => by simp [mrun] at h; subst h; simp [proj, run]
  | (j, a) :: as, m, m', h, k => by
    simp only [mrun, mstep] at h
    -- a step of connection `j` is a step of the machine `m j`, and leaves the others alone
    cases hs1 : step cfg (m j) a with
    | none => simp [hs1] at h
    | some s1 =>
      simp only [hs1] at h
      have ih := mrun_proj cfg as _ m' h k
      simp only [proj]
      by_cases hjk : j = k
      · subst hjk
        simp only [if_true, run, hs1]
        simpa [upd] using ih
      · simp only [hjk, if_false]
        have : upd m j s1 k = m k := by simp [upd]; intro h; exact absurd h.symm hjk
        rw [this] at ih; exact ih

end MuxOwn
