import Gen.Consts
import Model.FrameWrite
import Model.RespSpec
import Model.FrameRead
/-!
  Tie theorems between the CONSTANT TABLE regenerated from /repo's frame.go / marshal.go / errors.go / session.go / uuid.go by
  tools/go2lean on every run (`Gen.Consts`) and the literals the hand-written request model (`FrameWrite`, C03) and
  the response specification (`RespSpec`, `FrameRead`; C04/C05) are written with. A changed opcode, flag bit, type id, result
  kind or error code in the Go source changes `Gen/Consts.lean` and breaks the corresponding theorem. Five of them
  (`versions`, `failure_error_codes`, `native_type_ids`, `result_kinds`, `consistency_codes`) compare a constant with the
  protocol's number itself, not with a definition of a model.
-/
namespace GenTie.Consts
open Gen.Consts

/-- opcode of every request kind the driver writes -/
theorem request_opcodes :
    (∀ o, FrameWrite.opcode (.startup o) = opStartup_int.toNat) ∧
    FrameWrite.opcode .options = opOptions_int.toNat ∧
    (∀ a b c, FrameWrite.opcode (.query a b c) = opQuery_int.toNat) ∧
    (∀ a b c, FrameWrite.opcode (.prepare a b c) = opPrepare_int.toNat) ∧
    (∀ a b c, FrameWrite.opcode (.execute a b c) = opExecute_int.toNat) ∧
    (∀ e, FrameWrite.opcode (.register e) = opRegister_int.toNat) ∧
    (∀ a b c d e f g, FrameWrite.opcode (.batch a b c d e f g) = opBatch_int.toNat) ∧
    (∀ t, FrameWrite.opcode (.authResponse t) = opAuthResponse_int.toNat) :=
  ⟨fun _ => rfl, rfl, fun _ _ _ => rfl, fun _ _ _ => rfl, fun _ _ _ => rfl, fun _ => rfl,
   fun _ _ _ _ _ _ _ => rfl, fun _ => rfl⟩

/-- the flags byte of the query parameters, bit by bit, with the Go constants -/
theorem query_flags (v : Nat) (p : FrameWrite.GParams) :
    FrameWrite.queryFlags v p =
      FrameWrite.b2n (decide (p.values.length > 0)) flagValues_int.toNat +
      FrameWrite.b2n p.skipMeta flagSkipMetaData_int.toNat +
      FrameWrite.b2n (decide (p.pageSize > 0)) flagPageSize_int.toNat +
      FrameWrite.b2n (decide (p.pagingState.length > 0)) flagWithPagingState_int.toNat +
      FrameWrite.b2n (decide (p.serialCons > 0)) flagWithSerialConsistency_int.toNat +
      FrameWrite.b2n (decide (v > 2) && p.defaultTimestamp) flagDefaultTimestamp_int.toNat +
      FrameWrite.b2n (FrameWrite.namesFlag v p.values) flagWithNameValues_int.toNat +
      FrameWrite.b2n (decide (p.keyspace ≠ []) && decide (v > 4)) flagWithKeyspace_int.toNat := rfl

/-- the header flags of a request: tracing, custom payload, beta -/
theorem header_flags (v : Nat) (tracing : Bool) (g : FrameWrite.GReq) :
    FrameWrite.headerFlags v tracing g =
      FrameWrite.b2n tracing flagTracing_int.toNat +
      FrameWrite.b2n (decide ((FrameWrite.payloadOf g).length > 0)) flagCustomPayload_int.toNat +
      FrameWrite.b2n (decide (v = 5)) flagBetaProtocol_int.toNat := rfl

theorem versions : protoVersion1_int = 1 ∧ protoVersion2_int = 2 ∧ protoVersion3_int = 3 ∧ protoVersion4_int = 4 ∧
    protoVersion5_int = 5 ∧ protoVersionMask_int = 0x7F ∧ protoDirectionMask_int = 0x80 ∧
    maxFrameSize_int = 256 * 1024 * 1024 := by decide

/-- opcode of every response kind of the specification -/
theorem response_opcodes :
    (∀ m e, RespSpec.Body.opcode (.error m e) = opError_int.toNat) ∧
    RespSpec.Body.opcode .ready = opReady_int.toNat ∧
    (∀ c, RespSpec.Body.opcode (.authenticate c) = opAuthenticate_int.toNat) ∧
    (∀ s, RespSpec.Body.opcode (.supported s) = opSupported_int.toNat) ∧
    (∀ r, RespSpec.Body.opcode (.result r) = opResult_int.toNat) ∧
    (∀ e, RespSpec.Body.opcode (.event e) = opEvent_int.toNat) ∧
    (∀ t, RespSpec.Body.opcode (.authChallenge t) = opAuthChallenge_int.toNat) ∧
    (∀ t, RespSpec.Body.opcode (.authSuccess t) = opAuthSuccess_int.toNat) :=
  ⟨fun _ _ => rfl, rfl, fun _ => rfl, fun _ => rfl, fun _ => rfl, fun _ => rfl, fun _ => rfl, fun _ => rfl⟩

/-- the response header flags of the specification -/
theorem response_flags (r : RespSpec.LResp) :
    r.flags = (if r.tracing.isSome then flagTracing_int.toNat else 0) +
      (if r.payload.isSome then flagCustomPayload_int.toNat else 0) +
      (if r.warnings.isSome then flagWarning_int.toNat else 0) +
      (if r.beta then flagBetaProtocol_int.toNat else 0) := rfl

/-- error codes with code-specific fields -/
theorem error_codes :
    (∀ a b c, RespSpec.ErrBody.code (.unavailable a b c) = ErrCodeUnavailable_int.toNat) ∧
    (∀ a b c d, RespSpec.ErrBody.code (.writeTimeout a b c d) = ErrCodeWriteTimeout_int.toNat) ∧
    (∀ a b c d, RespSpec.ErrBody.code (.readTimeout a b c d) = ErrCodeReadTimeout_int.toNat) ∧
    RespSpec.ErrBody.code .cdcWriteFailure = ErrCodeCDCWriteFailure_int.toNat ∧
    (∀ a b, RespSpec.ErrBody.code (.alreadyExists a b) = ErrCodeAlreadyExists_int.toNat) ∧
    (∀ i, RespSpec.ErrBody.code (.unprepared i) = ErrCodeUnprepared_int.toNat) :=
  ⟨fun _ _ _ => rfl, fun _ _ _ _ => rfl, fun _ _ _ _ => rfl, rfl, fun _ _ => rfl, fun _ => rfl⟩

/-- the error codes without code-specific fields are exactly the Go constants for them -/
theorem simple_error_codes :
    RespSpec.simpleCodes = [ErrCodeServer_int.toNat, ErrCodeProtocol_int.toNat, ErrCodeCredentials_int.toNat,
      ErrCodeOverloaded_int.toNat, ErrCodeBootstrapping_int.toNat, ErrCodeTruncate_int.toNat,
      ErrCodeSyntax_int.toNat, ErrCodeUnauthorized_int.toNat, ErrCodeInvalid_int.toNat, ErrCodeConfig_int.toNat] := by
  decide

theorem failure_error_codes : ErrCodeReadFailure_int = 0x1300 ∧ ErrCodeFunctionFailure_int = 0x1400 ∧
    ErrCodeWriteFailure_int = 0x1500 ∧ ErrCodeCASWriteUnknown_int = 0x1700 := by decide

/-- the `<type>` option ids of the structured types -/
theorem type_option_ids :
    (∀ c, RespSpec.eType (.custom c) = RespSpec.eShort TypeCustom_int.toNat ++ RespSpec.eString c) ∧
    (∀ e, RespSpec.eType (.list e) = RespSpec.eShort TypeList_int.toNat ++ RespSpec.eType e) ∧
    (∀ k v, RespSpec.eType (.map k v) = RespSpec.eShort TypeMap_int.toNat ++ (RespSpec.eType k ++ RespSpec.eType v)) ∧
    (∀ e, RespSpec.eType (.set e) = RespSpec.eShort TypeSet_int.toNat ++ RespSpec.eType e) := by
  refine ⟨fun c => ?_, fun e => ?_, fun k v => ?_, fun e => ?_⟩ <;> simp [RespSpec.eType] <;> rfl

theorem structured_type_ids :
    RespSpec.structuredIds = [TypeCustom_int.toNat, TypeList_int.toNat, TypeMap_int.toNat, TypeSet_int.toNat,
      TypeUDT_int.toNat, TypeTuple_int.toNat] := by decide

/-- native type ids 0x0001 … 0x0015 -/
theorem native_type_ids :
    [TypeAscii_int, TypeBigInt_int, TypeBlob_int, TypeBoolean_int, TypeCounter_int, TypeDecimal_int, TypeDouble_int,
     TypeFloat_int, TypeInt_int, TypeText_int, TypeTimestamp_int, TypeUUID_int, TypeVarchar_int, TypeVarint_int,
     TypeTimeUUID_int, TypeInet_int, TypeDate_int, TypeTime_int, TypeSmallInt_int, TypeTinyInt_int, TypeDuration_int]
    = [1, 2, 3, 4, 5, 6, 7, 8, 9, 10, 11, 12, 13, 14, 15, 16, 17, 18, 19, 20, 21] := by decide

/-- rows-metadata flags of the reader model -/
theorem metadata_flags : FrameRead.flagGlobalTableSpec = flagGlobalTableSpec_int.toNat ∧
    FrameRead.flagHasMorePages = flagHasMorePages_int.toNat ∧ FrameRead.flagNoMetaData = flagNoMetaData_int.toNat :=
  ⟨rfl, rfl, rfl⟩

theorem result_kinds : resultKindVoid_int = 1 ∧ resultKindRows_int = 2 ∧ resultKindKeyspace_int = 3 ∧
    resultKindPrepared_int = 4 ∧ resultKindSchemaChanged_int = 5 := by decide

/-- consistency levels and batch types as the protocol numbers them -/
theorem consistency_codes : Any_int = 0 ∧ One_int = 1 ∧ Two_int = 2 ∧ Three_int = 3 ∧ Quorum_int = 4 ∧ All_int = 5 ∧
    LocalQuorum_int = 6 ∧ EachQuorum_int = 7 ∧ Serial_int = 8 ∧ LocalSerial_int = 9 ∧ LocalOne_int = 10 ∧
    LoggedBatch_int = 0 ∧ UnloggedBatch_int = 1 ∧ CounterBatch_int = 2 := by decide

end GenTie.Consts
