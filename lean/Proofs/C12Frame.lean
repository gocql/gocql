import Proofs.C12Coll
import Model.MarshalRepresent
/-!
# C12 / C02: the two collection framings and the tuple / UDT field framing, both directions

* protocol ≤ 2 (2-byte unsigned lengths): the encoder conforms for every length / count up to 65535 and refuses
  anything longer (`AllOK2`: the element hypothesis without null); the decoder reads the length back UNSIGNED;
* the model's readers (readCollectionSize, readBytes) accept whatever the specification's readers accept, with the
  same result — null (−1) and EMPTY (0) are distinct;
* `specDec ∘ specEnc = id` on tuple / UDT fields (`FieldsRT`; nulls, empty values, absent trailing fields);
* the vocabulary of the decode direction as a structural step (theorems in Proofs/C12.lean): `ElemDecOK` for
  unmarshalList's loop, `ScanOK` for unmarshalTuple into scan targets, `SetOK` with the slot rule `setSlot` / `setField`
  for a struct / slice / array (`unmarshalTupleSet_cons`), `TextFields` (for C02); `specDecFields_cons` is the one step
  of the specification's field loop that both tuple decoders follow; `GoTy.beqT` is reflexive (`beqT_refl`, for C02).
-/
namespace C12Frame
open ValueSpec Marshal C12Bytes C12Coll

/-- element-wise: a NON-NULL element marshalled as the specification says (the 2-byte framing has no null) -/
inductive AllOK2 (p : Nat) (et : CqlTy) : List GoVal → List CqlVal → Prop
  | nil : AllOK2 p et [] []
  | cons {v c vs cs} : (∃ b, marshal p et v = .ok (some b) ∧ c.isNull = false ∧ specEnc p et c = some b) →
      AllOK2 p et vs cs → AllOK2 p et (v :: vs) (c :: cs)

theorem AllOK2.allOK {p : Nat} {et : CqlTy} {vs : List GoVal} {cs : List CqlVal} (h : AllOK2 p et vs cs) :
    AllOK p et vs cs ∧ ∀ c ∈ cs, c.isNull = false := by
  induction h with
  | nil => exact ⟨.nil, nofun⟩
  | cons hv _ ih =>
    obtain ⟨b, hm, hnn, hs⟩ := hv
    refine ⟨.cons (.inr ⟨b, hm, hnn, hs⟩) ih.1, fun c hc => ?_⟩
    rcases List.mem_cons.mp hc with rfl | hc
    · exact hnn
    · exact ih.2 c hc

theorem toS32_nat (n : Nat) (h : n < 2^31) : toS 32 (n:Int) = n :=
  toS_id 4 (by decide) n (by simp [fitsS_iff]; omega)

theorem take_length_of_not_shorter {α : Type} (l : List α) (n : Nat) (h : shorter l n = false) : (l.take n).length = n := by
  have : ¬ l.length < n := by
    intro hl; rw [(shorter_iff l n).mpr hl] at h; cases h
  simp; omega

theorem shorter_append {α : Type} (c rest : List α) (n : Nat) (h : n ≤ c.length) : shorter (c ++ rest) n = false := by
  cases hs : shorter (c ++ rest) n
  · rfl
  · have := (shorter_iff (c ++ rest) n).mp hs; simp at this; omega

/-- the model's length reader in the specification's vocabulary: the 4 bytes are a two's complement number, the 2 an
    unsigned one -/
theorem readCollSize_eq (p : Nat) (b : Bytes) : readCollSize p b =
    if p ≥ 3 then (if shorter b 4 then none else some (tcDec (b.take 4), b.drop 4))
    else (if shorter b 2 then none else some ((beNat (b.take 2) : Int), b.drop 2)) := by
  unfold readCollSize
  by_cases hp : p ≥ 3
  · rw [if_pos (show p > 2 by omega), if_pos hp]
    cases hs : shorter b 4
    · simp only [Bool.false_eq_true, if_false, decInt_eq_tcDec _ (take_length_of_not_shorter b 4 hs)]
    · rfl
  · rw [if_neg (show ¬ p > 2 by omega), if_neg hp]

/-- what writeCollectionSize wrote, readCollectionSize reads back — in particular the 2-byte length of protocol ≤ 2
    is read back UNSIGNED (every n ≤ 65535, not only n ≤ 32767) -/
theorem readCollSize_collSize (p : Nat) (n : Nat) (c rest : Bytes) (h : collSize p (n:Int) = some c) :
    readCollSize p (c ++ rest) = some ((n:Int), rest) := by
  rw [collSize_count] at h
  revert h
  fun_cases countFrame p n <;> intro h <;> cases h
  · next hp hn =>
    have hl := beBytes_length 4 n
    rw [readCollSize_eq, if_pos hp, shorter_append _ rest 4 (Nat.le_of_eq hl.symm), List.take_left' hl, List.drop_left' hl,
      tcDec_beBytes 4 n (by decide) (by omega)]
    rfl
  · next hp hn =>
    have hl := beBytes_length 2 n
    rw [readCollSize_eq, if_neg hp, shorter_append _ rest 2 (Nat.le_of_eq hl.symm), List.take_left' hl, List.drop_left' hl,
      beNat_beBytes, Nat.mod_eq_of_lt (by omega)]
    rfl

/-- an element written by marshalList / marshalMap is read back by unmarshalList / unmarshalMap: the bytes themselves
    (EMPTY stays empty), under protocol ≤ 2 for every length up to 65535 -/
theorem readCollItem_collItem (p : Nat) (b e rest : Bytes) (h : collItem p (some b) = some e) :
    readCollItem p (e ++ rest) = some (some b, rest) := by
  simp only [collItem] at h
  cases hc : collSize p (b.length : Int) with
  | none => rw [hc] at h; cases h
  | some c =>
    rw [hc] at h
    simp at h
    subst h
    have := readCollSize_collSize p b.length c (b ++ rest) hc
    simp only [readCollItem, List.append_assoc, this]
    have hge : ((b.length : Int) ≥ 0) := by omega
    simp [hge, shorter_append b rest _ (Nat.le_refl _)]

theorem readCollItem_null (p : Nat) (hp : p ≥ 3) (e rest : Bytes) (h : collItem p none = some e) :
    readCollItem p (e ++ rest) = some (none, rest) := by
  rw [collItem_none p hp] at h
  cases h
  simp [readCollItem, readCollSize, show p > 2 by omega, shorter, show decInt [255, 255, 255, 255] = -1 by decide]

/-! ## the model's readers accept what the specification's readers accept, with the same result -/

/-- the specification's count is the model's length when it is not negative -/
theorem readCount_eq (p : Nat) (b : Bytes) : readCount p b =
    (match readCollSize p b with
     | some (n, r) => if n < 0 then none else some (n.toNat, r)
     | none => none) := by
  rw [readCollSize_eq]
  unfold readCount
  by_cases hp : p ≥ 3
  · simp only [hp, if_true]
    cases shorter b 4 <;> simp
  · simp only [hp, if_false]
    cases shorter b 2
    · have : ¬ ((beNat (b.take 2) : Nat) : Int) < 0 := by omega
      simp [this]
    · simp

/-- the specification's element is the model's, except that only −1 (and only from protocol 3) stands for null -/
theorem readElem_eq (p : Nat) (b : Bytes) : readElem p b =
    (match readCollSize p b with
     | some (n, r) =>
       if n < 0 then (if p ≥ 3 ∧ n = -1 then some (none, r) else none)
       else if shorter r n.toNat then none else some (some (r.take n.toNat), r.drop n.toNat)
     | none => none) := by
  rw [readCollSize_eq]
  unfold readElem
  by_cases hp : p ≥ 3
  · simp only [hp, if_true, true_and]
    cases shorter b 4 <;> simp
  · simp only [hp, if_false, false_and]
    cases shorter b 2
    · have : ¬ ((beNat (b.take 2) : Nat) : Int) < 0 := by omega
      simp [this]
    · simp

theorem readCollSize_of_readCount (p : Nat) (b r : Bytes) (n : Nat) (h : readCount p b = some (n, r)) :
    readCollSize p b = some ((n:Int), r) := by
  rw [readCount_eq] at h
  cases hc : readCollSize p b with
  | none => simp [hc] at h
  | some mr =>
    obtain ⟨m, r'⟩ := mr
    simp only [hc] at h
    split at h
    · cases h
    · cases h; congr 2; omega

/-- collection element: null is −1 only in the specification; marshal.go takes every negative length for null -/
theorem readCollItem_of_readElem (p : Nat) (b r : Bytes) (e : Option Bytes) (h : readElem p b = some (e, r)) :
    readCollItem p b = some (e, r) := by
  rw [readElem_eq] at h
  unfold readCollItem
  cases hc : readCollSize p b with
  | none => simp [hc] at h
  | some mr =>
    obtain ⟨m, r'⟩ := mr
    simp only [hc] at h ⊢
    by_cases hm : m < 0
    · rw [if_pos hm] at h
      rw [if_neg (by omega)]
      split at h
      · exact h
      · cases h
    · rw [if_neg hm] at h
      rw [if_pos (by omega)]
      exact h

/-- under protocol ≤ 2 the two readers are the same function: the [short] is unsigned in both -/
theorem readCollItem_eq_readElem_v2 (p : Nat) (hp : p ≤ 2) (b : Bytes) : readCollItem p b = readElem p b := by
  rw [readElem_eq]
  unfold readCollItem
  cases hc : readCollSize p b with
  | none => rfl
  | some mr =>
    obtain ⟨m, r'⟩ := mr
    have hm : 0 ≤ m := by
      rw [readCollSize_eq, if_neg (by omega)] at hc
      split at hc
      · cases hc
      · cases hc; omega
    simp only [if_pos (show m ≥ 0 from hm), if_neg (show ¬ m < 0 by omega)]

/-- marshal.go's readBytes is its collection-element reader of protocol ≥ 3 without the test for 4 bytes -/
theorem readBytesM_eq (b : Bytes) (hs : shorter b 4 = false) : readBytesM b = readCollItem 3 b := by
  unfold readBytesM readCollItem readCollSize
  simp only [show (3:Nat) > 2 by decide, if_true, hs, Bool.false_eq_true, if_false]
  have hge : decInt (b.take 4) ≥ 0 ↔ ¬ decInt (b.take 4) < 0 := by omega
  simp only [hge]
  by_cases hm : decInt (b.take 4) < 0 <;> simp [hm]

theorem readBytesFrame_not_shorter (b r : Bytes) (e : Option Bytes) (h : readBytesFrame b = some (e, r)) :
    shorter b 4 = false := by
  rw [readBytesFrame, readElem_eq, readCollSize_eq] at h
  cases hs : shorter b 4
  · rfl
  · simp [hs] at h

theorem readBytesM_of_readBytesFrame (b r : Bytes) (e : Option Bytes) (h : readBytesFrame b = some (e, r)) :
    readBytesM b = some (e, r) := by
  rw [readBytesM_eq b (readBytesFrame_not_shorter b r e h)]
  exact readCollItem_of_readElem 3 b r e h

/-! ## tuple / UDT fields: appendBytes then readBytes — null stays null, EMPTY stays empty -/

/-- a tuple / UDT field is written as a collection element of protocol ≥ 3 is -/
theorem collItem_v3 (item : Option Bytes) (h : ∀ b, item = some b → b.length < 2^31) :
    collItem 3 item = some (appendBytes item) := by
  cases item with
  | none => rfl
  | some b =>
    have := h b rfl
    simp only [collItem, collSize, show (3:Nat) > 2 by decide, if_true, appendBytes]
    rw [if_neg (by omega)]; rfl

theorem appendBytes_length_ge (item : Option Bytes) (rest : Bytes) : shorter (appendBytes item ++ rest) 4 = false :=
  shorter_append _ rest 4 (by cases item <;> simp [appendBytes, encInt])

theorem readBytesM_appendBytes (item : Option Bytes) (rest : Bytes) (h : ∀ b, item = some b → b.length < 2^31) :
    readBytesM (appendBytes item ++ rest) = some (item, rest) := by
  rw [readBytesM_eq _ (appendBytes_length_ge item rest)]
  cases item with
  | none => exact readCollItem_null 3 (Nat.le_refl 3) _ rest (collItem_v3 none h)
  | some b => exact readCollItem_collItem 3 b _ rest (collItem_v3 (some b) h)

/-- in particular: a present-but-EMPTY field is not a null field -/
theorem readBytesM_empty_vs_null (rest : Bytes) :
    readBytesM (appendBytes (some []) ++ rest) = some (some [], rest) ∧
    readBytesM (appendBytes none ++ rest) = some (none, rest) :=
  ⟨readBytesM_appendBytes (some []) rest (by intro b hb; injection hb with hb; subst hb; simp),
   readBytesM_appendBytes none rest (by intro b hb; cases hb)⟩

theorem isNull_eq {v : CqlVal} (h : v.isNull = true) : v = .null := by
  cases v <;> simp [CqlVal.isNull] at h ⊢

theorem readElem_of_readCollItem (p : Nat) (b r x : Bytes) (h : readCollItem p b = some (some x, r)) :
    readElem p b = some (some x, r) := by
  rw [readElem_eq]
  unfold readCollItem at h
  cases hc : readCollSize p b with
  | none => simp [hc] at h
  | some mr =>
    obtain ⟨m, r'⟩ := mr
    simp only [hc] at h ⊢
    by_cases hm : m ≥ 0
    · rw [if_pos hm] at h; rw [if_neg (by omega)]; exact h
    · rw [if_neg hm] at h; cases h

theorem bytesFrame_eq (item : Option Bytes) : bytesFrame item = appendBytes item := by
  cases item with
  | none => exact appendBytes_null.symm
  | some b => exact (appendBytes_some b).symm

/-- the specification's `[bytes]` reader inverts the specification's `[bytes]` writer: −1 ↦ null, 0 ↦ EMPTY -/
theorem readBytesFrame_bytesFrame (item : Option Bytes) (rest : Bytes) (h : ∀ b, item = some b → b.length < 2^31) :
    readBytesFrame (bytesFrame item ++ rest) = some (item, rest) := by
  rw [bytesFrame_eq]
  cases item with
  | none =>
    have e2 : tcDec [255, 255, 255, 255] = -1 := by decide
    simp [readBytesFrame, readElem, appendBytes_null, shorter, e2]
  | some b => exact readElem_of_readCollItem 3 _ rest b (readCollItem_collItem 3 b _ rest (collItem_v3 (some b) h))

/-- field-wise hypothesis of the round trip: a null field, or a value whose encoding decodes back -/
inductive FieldsRT (p : Nat) : List CqlTy → List CqlVal → Prop
  | nil {ts} : FieldsRT p ts []
  | cons {t ts v vs} :
      (v = .null ∨ (v.isNull = false ∧ ∀ b, specEnc p t v = some b → specDec p t b = some v)) →
      FieldsRT p ts vs → FieldsRT p (t :: ts) (v :: vs)

theorem bytesFrame_ne_nil (item : Option Bytes) (r : Bytes) : bytesFrame item ++ r ≠ [] := by
  cases item with
  | none => simp [bytesFrame]
  | some b =>
    intro h
    have := congrArg List.length h
    simp [bytesFrame, tcEnc_length] at this

/-- specDec ∘ specEnc = id on tuple / UDT fields: nulls, EMPTY values and absent trailing fields included -/
theorem specDecFields_specEncFields (p : Nat) (ts : List CqlTy) (vs : List CqlVal) (b : Bytes)
    (hf : FieldsRT p ts vs) (h : specEncFields p ts vs = some b) : specDecFields p ts b = some vs := by
  induction hf generalizing b with
  | @nil ts =>
    have hb : b = [] := by
      cases ts <;> simp [specEncFields] at h <;> exact h
    subst hb
    cases ts <;> simp [specDecFields]
  | @cons t ts v vs hv _ ih =>
    simp only [specEncFields, Option.bind_eq_bind, Option.bind_eq_some_iff] at h
    obtain ⟨e, he, r, hr, h⟩ := h
    cases h
    have ih := ih r hr
    rcases hv with rfl | ⟨hnn, hrt⟩
    · cases he
      have hrd := readBytesFrame_bytesFrame none r (by intro b hb; cases hb)
      simp only [specDecFields, bytesFrame_ne_nil none r, if_false, Option.bind_eq_bind, hrd, Option.bind_some, ih]
    · simp only [fieldOrNull, hnn, Bool.false_eq_true, if_false, Option.bind_eq_some_iff] at he
      obtain ⟨x, hx, he⟩ := he
      split at he <;> cases he
      next hl =>
      have hrd := readBytesFrame_bytesFrame (some x) r (by intro b hb; cases hb; exact hl)
      simp only [specDecFields, bytesFrame_ne_nil (some x) r, if_false, Option.bind_eq_bind, hrd, Option.bind_some,
        hrt x hx, ih]

theorem unmarshalScalar_text_str (isNil : Bool) (d : Bytes) :
    unmarshalScalar .text isNil d (.str false) = .ok (.str false d) := rfl

/-- tuple<text, …> bound to / decoded into a struct whose fields are `*string` (nil ↔ null, pointer to "" ↔ EMPTY,
    pointer to s ↔ s) or `string` -/
inductive TextFields : List CqlTy → List GoTy → List GoVal → Prop
  | nil : TextFields [] [] []
  | null {ts gs vs} : TextFields ts gs vs → TextFields (.text :: ts) (.ptr (.str false) :: gs) (.nilptr :: vs)
  | ptr {ts gs vs} (s : Bytes) (hs : s.length < 2^31) : TextFields ts gs vs →
      TextFields (.text :: ts) (.ptr (.str false) :: gs) (.ptr (.str false s) :: vs)
  | str {ts gs vs} (s : Bytes) (hs : s.length < 2^31) : TextFields ts gs vs →
      TextFields (.text :: ts) (.str false :: gs) (.str false s :: vs)

/-! ## the decode direction as a structural step: model decoder = specification decoder, element theorems as hypotheses -/

/-- "the element decoder `f` of the model yields the Go value `rep c` for whatever the element decoder `g` of the
    specification yields (`c`), and `rep null` for a null element" -/
def ElemDecOK (f : Option Bytes → URes) (g : Bytes → Option CqlVal) (rep : CqlVal → GoVal) : Prop :=
  f none = .ok (rep .null) ∧ ∀ x c, g x = some c → f (some x) = .ok (rep c)

theorem decElems_succ {p : Nat} {g : Bytes → Option CqlVal} {n : Nat} {b r : Bytes} {cs : List CqlVal}
    (h : decElems p g (n + 1) b = some (cs, r)) :
    ∃ e r1 v vs, readElem p b = some (e, r1) ∧ (match e with | none => some CqlVal.null | some x => g x) = some v ∧
      decElems p g n r1 = some (vs, r) ∧ cs = v :: vs := by
  simp only [decElems, Option.bind_eq_bind, Option.bind_eq_some_iff] at h
  obtain ⟨⟨e, r1⟩, he, v, hv, ⟨vs, r'⟩, hr, h⟩ := h
  cases h
  exact ⟨e, r1, v, vs, he, hv, hr, rfl⟩

/-- field-wise hypothesis for the scan targets of a tuple: what the model's field decoder makes of each field the
    specification decoder delivers — `cs` may be shorter than the type (trailing fields absent: decoded as null) -/
inductive ScanOK (p : Nat) : List CqlTy → List GoTy → List CqlVal → List GoVal → Prop
  | nil {gs} : ScanOK p [] gs [] []
  | absent {t ts g gs x xs} : withPtr (unmarshalBase p t) g none = .ok x → ScanOK p ts gs [] xs →
      ScanOK p (t :: ts) (g :: gs) [] (x :: xs)
  | cons {t ts g gs c cs x xs} :
      (c = .null → withPtr (unmarshalBase p t) g none = .ok x) →
      (∀ b, specDec p t b = some c → withPtr (unmarshalBase p t) g (some b) = .ok x) →
      ScanOK p ts gs cs xs → ScanOK p (t :: ts) (g :: gs) (c :: cs) (x :: xs)

theorem specDecFields_nil (p : Nat) (ts : List CqlTy) : specDecFields p ts [] = some [] := by
  cases ts <;> simp [specDecFields]

/-- the specification's field loop on non-empty input: one `[bytes]` frame — which the model's reader reads as well —,
    its value (null for −1), the rest; a field decoder `X` that is right on null and on every encoding of the value is
    right on the frame's content -/
theorem specDecFields_cons {p : Nat} {t : CqlTy} {ts : List CqlTy} {b : Bytes} {cs : List CqlVal} (hb : b ≠ [])
    (h : specDecFields p (t :: ts) b = some cs) :
    ∃ e r1 v vs, readBytesM b = some (e, r1) ∧ shorter b 4 = false ∧ cs = v :: vs ∧
      specDecFields p ts r1 = some vs ∧
      ∀ (X : Option Bytes → URes) (x : GoVal), (v = .null → X none = .ok x) →
        (∀ y, specDec p t y = some v → X (some y) = .ok x) → X e = .ok x := by
  simp only [specDecFields, hb, if_false, Option.bind_eq_bind] at h
  cases he : readBytesFrame b with
  | none => rw [he] at h; simp at h
  | some er =>
    obtain ⟨e, r1⟩ := er
    rw [he] at h
    simp only [Option.bind_some] at h
    refine ⟨e, r1, ?_⟩
    have hm := readBytesM_of_readBytesFrame b r1 e he
    have hs := readBytesFrame_not_shorter b r1 e he
    cases e with
    | none =>
      cases hr : specDecFields p ts r1 with
      | none => simp [hr] at h
      | some vs => exact ⟨.null, vs, hm, hs, by simpa [hr] using h.symm, rfl, fun _ _ hnull _ => hnull rfl⟩
    | some x =>
      cases hx : specDec p t x with
      | none => simp [hx] at h
      | some v =>
        cases hr : specDecFields p ts r1 with
        | none => simp [hx, hr] at h
        | some vs => exact ⟨v, vs, hm, hs, by simpa [hx, hr] using h.symm, rfl, fun _ _ _ hsome => hsome x hx⟩

/-- what unmarshalTuple does with one decoded element `v` (a value of goType(elem)) for a struct field / slice or
    array element of type `g`: a pointer field gets the pointer for a present element (EMPTY included) and nil for
    null; interface{} and goType fields get the value; any other field type is an error (setTupleElem) -/
def setSlot (t : CqlTy) (g : GoTy) (item : Option Bytes) (v : GoVal) : URes :=
  match g with
  | .ptr g' => if g' == goTypeOf t then (if item.isSome then .ok (.ptr v) else .ok .nilptr) else .err
  | .iface => .ok v
  | g => if g == goTypeOf t then .ok v else
      (match g, v with
       | .arr16, .uuid b => .ok (.arr16 b)
       | .bytes true, .bytes false isNil b => .ok (.bytes true isNil b)
       | .ip, .bytes false _ b => .ok (.ip b)
       | _, _ => .err)

/-- one field of `unmarshalTupleSet`: decode into goType(elem), then the slot -/
def setField (p : Nat) (t : CqlTy) (g : GoTy) (item : Option Bytes) : URes :=
  match withPtr (unmarshalBase p t) (goTypeOf t) item with
  | .ok v => setSlot t g item v
  | other => other

theorem unmarshalTupleSet_cons (p : Nat) (t : CqlTy) (ts : List CqlTy) (g : GoTy) (gs : List GoTy) (data : Bytes) :
    unmarshalTupleSet p (t :: ts) (g :: gs) data =
      (match (if !(shorter data 4) then readBytesM data else some (none, data)) with
       | none => .err
       | some (item, r) => (match setField p t g item with
          | .ok sv => (match unmarshalTupleSet p ts gs r with
              | .ok vs r' => .ok (sv :: vs) r'
              | other => other)
          | .err => .err | .crash => .crash | .unmodelled => .unmodelled)) := by
  rw [unmarshalTupleSet]
  cases hrd : (if !(shorter data 4) then readBytesM data else some (none, data)) with
  | none => rfl
  | some ir =>
    obtain ⟨item, r⟩ := ir
    simp only [setField, setSlot]
    cases hw : withPtr (unmarshalBase p t) (goTypeOf t) item <;> simp only []
    cases g <;> rfl

/-- field-wise hypothesis for struct / slice / array targets of a tuple -/
inductive SetOK (p : Nat) : List CqlTy → List GoTy → List CqlVal → List GoVal → Prop
  | nil {gs} : SetOK p [] gs [] []
  | absent {t ts g gs x xs} : setField p t g none = .ok x → SetOK p ts gs [] xs →
      SetOK p (t :: ts) (g :: gs) [] (x :: xs)
  | cons {t ts g gs c cs x xs} :
      (c = .null → setField p t g none = .ok x) →
      (∀ b, specDec p t b = some c → setField p t g (some b) = .ok x) →
      SetOK p ts gs cs xs → SetOK p (t :: ts) (g :: gs) (c :: cs) (x :: xs)

mutual
theorem beqT_refl : ∀ g : GoTy, GoTy.beqT g g = true
  | .int _ _ | .str _ | .bytes _ | .bool _ | .f32 _ | .f64 _ | .big | .dec | .time | .dur | .cqldur | .uuid | .arr16
  | .ip | .iface | .udtmap => by simp [GoTy.beqT]
  | .ptr a | .slice a | .array _ a => by simp [GoTy.beqT, beqT_refl a]
  | .map k v => by simp [GoTy.beqT, beqT_refl k, beqT_refl v]
  | .ifaces as | .struct as | .udtstruct _ as => by simp [GoTy.beqT, beqTs_refl as]
theorem beqTs_refl : ∀ gs : List GoTy, GoTy.beqTs gs gs = true
  | [] => by simp [GoTy.beqTs]
  | a :: as => by simp [GoTy.beqTs, beqT_refl a, beqTs_refl as]
end

/-- the slot rule keeps null and EMPTY apart: for a pointer field of the right type a present element — empty or
    not — gives a non-nil pointer, a null element the nil pointer -/
theorem setSlot_ptr (t : CqlTy) (item : Option Bytes) (v : GoVal) :
    setSlot t (.ptr (goTypeOf t)) item v = if item.isSome then .ok (.ptr v) else .ok .nilptr := by
  have : (goTypeOf t == goTypeOf t) = true := by
    show GoTy.beqT (goTypeOf t) (goTypeOf t) = true
    exact beqT_refl (goTypeOf t)
  simp [setSlot, this]
end C12Frame
