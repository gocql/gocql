import Proofs.C14Conn
/-!
# C14, session tier: a flight is completed by its own agents

From any state in which flight f exists, at most three steps — the publishing caller starting the goroutine, the
server receiving the PREPARE, the goroutine completing the flight — make it done; none of them is a step of a
caller that merely waits, and none needs any caller's context to be live. The notion is `Completes s f n` (done within n
steps of f's agents); `stage3`, `stage2`, `stage1` prepend one agent step each (`Completes.step`).
-/
namespace C14Live
open PConn C14Conn

variable {κ : Type} [DecidableEq κ]

def Agent (f : Nat) (a : Action κ) : Prop := (∃ g, a = .spawn g) ∨ (∃ r, a = .srvPrepare f r) ∨ a = .complete f

/-- flight f is done, with an answer, after at most n steps of its own agents -/
def Completes (s : State κ) (f n : Nat) : Prop :=
  ∃ (as : List (Action κ)) (s' : State κ) (tr : List (Ev κ)) (fl' : Flight κ), as.length ≤ n ∧ (∀ a ∈ as, Agent f a) ∧
    PConn.run s as = some (s', tr) ∧ s'.flights[f]? = some fl' ∧ fl'.done = true ∧ fl'.ans ≠ none

theorem Completes.now {s : State κ} {f : Nat} {fl : Flight κ} (hf : s.flights[f]? = some fl) (hd : fl.done = true)
    (ha : fl.ans ≠ none) : Completes s f 0 :=
  ⟨[], s, [], fl, Nat.le_refl _, nofun, rfl, hf, hd, ha⟩

theorem Completes.mono {s : State κ} {f n m : Nat} (h : Completes s f n) (hn : n ≤ m) : Completes s f m := by
  obtain ⟨as, s', tr, fl', g1, g⟩ := h
  exact ⟨as, s', tr, fl', Nat.le_trans g1 hn, g⟩

theorem Completes.step {s s1 : State κ} {a : Action κ} {e1 : List (Ev κ)} {f n : Nat} (ha : Agent f a)
    (hs : PConn.Step s a s1 e1) (h : Completes s1 f n) : Completes s f (n + 1) := by
  obtain ⟨as, s', tr, fl', g1, g2, g3, g⟩ := h
  refine ⟨a :: as, s', e1 ++ tr, fl', Nat.succ_le_succ g1, fun x hx => ?_, by simp only [PConn.run, step_of_Step hs, g3], g⟩
  rcases List.mem_cons.1 hx with rfl | hx
  · exact ha
  · exact g2 x hx

/-- a flight that has its answer is done after at most one step: the goroutine's `complete` (on failure the key is
    removed first) -/
theorem stage3 (s : State κ) (f : Nat) (fl : Flight κ) (hf : s.flights[f]? = some fl) (ha : fl.ans ≠ none) :
    Completes s f 1 := by
  cases hd : fl.done with
  | true => exact (Completes.now hf hd ha).mono (Nat.zero_le _)
  | false =>
    have hd' : ¬ fl.done = true := by simp [hd]
    cases har : fl.ans with
    | none => exact absurd har ha
    | some r =>
      cases r with
      | some p =>
        refine .step (.inr (.inr rfl)) (.completeOk hf har hd') (.now (fl := { fl with done := true }) ?_ rfl (by simp [har]))
        unfold setDone
        simp only [hf]
        exact getElem?_set_of _ hf
      | none =>
        obtain ⟨fl1, h1, _, h3, _⟩ := removeKey_flmono s fl.key f fl hf
        refine .step (.inr (.inr rfl)) (.completeFail hf har hd')
          (.now (fl := { fl1 with done := true }) ?_ rfl (by simp only []; rw [h3 ha]; exact ha))
        unfold setDone
        simp only [h1]
        exact getElem?_set_of _ h1

/-- a flight whose goroutine runs is done after at most two steps: the server receives the PREPARE (sent on the
    connection's context; any answer will do, the witness answers with an empty id), then `stage3` -/
theorem stage2 (s : State κ) (f : Nat) (fl : Flight κ) (hf : s.flights[f]? = some fl) (hsp : fl.spawned = true) :
    Completes s f 2 := by
  by_cases ha : fl.ans = none
  · exact .step (.inr (.inl ⟨_, rfl⟩)) (.srvPrepare (some ([], 0)) hf ⟨ha, hsp⟩)
      (stage3 _ f { fl with ans := some (some ([], 0)) } (getElem?_set_of _ hf) (by simp))
  · exact (stage3 s f fl hf ha).mono (by omega)

/-- any flight of a state of the invariant is done after at most three steps: its publisher (at pc `won` by
    `Inv.unspawned`, still inside prepareStatement) starts the goroutine, then `stage2` -/
theorem stage1 (s : State κ) (hI : Inv s) (f : Nat) (fl : Flight κ) (hf : s.flights[f]? = some fl) : Completes s f 3 := by
  cases hsp : fl.spawned with
  | true => exact (stage2 s f fl hf hsp).mono (by omega)
  | false =>
    obtain ⟨g, gl, hg, hgp⟩ := hI.unspawned f fl hf hsp
    exact .step (.inl ⟨_, rfl⟩) (.spawn hg hgp hf) (stage2 _ f { fl with spawned := true } (getElem?_set_of _ hf) rfl)

theorem agent_step_keeps_waiter {s s' : State κ} {a : Action κ} {evs : List (Ev κ)} {f c f' : Nat} {cl : Caller κ}
    (hs : PConn.step s a = some (s', evs)) (hag : Agent f a) (hc : s.callers[c]? = some cl) (hpc : cl.pc = .waiting f') :
    s'.callers[c]? = some cl := by
  rcases hag with ⟨g, rfl⟩ | ⟨r, rfl⟩ | rfl
  · match Step_of_step hs with
    | .spawn hg hgp hf =>
      have hne : g ≠ c := by
        rintro rfl
        rw [hc] at hg; injection hg with hg; subst hg
        rw [hpc] at hgp; cases hgp
      exact (List.getElem?_set_ne hne).trans hc
  · match Step_of_step hs with
    | .srvPrepare .. => exact hc
  · match Step_of_step hs with
    | .completeOk .. => rw [setDone_callers]; exact hc
    | .completeFail .. => rw [setDone_callers, removeKey_callers]; exact hc

theorem agents_keep_waiter {f c f' : Nat} {cl : Caller κ} (hpc : cl.pc = .waiting f') :
    ∀ (as : List (Action κ)) (s s' : State κ) (tr : List (Ev κ)), (∀ a ∈ as, Agent f a) →
      PConn.run s as = some (s', tr) → s.callers[c]? = some cl → s'.callers[c]? = some cl := by
  intro as s s' tr hag h
  refine run_induction (P := fun as s s' _ => (∀ a ∈ as, Agent f a) → s.callers[c]? = some cl → s'.callers[c]? = some cl)
    (fun _ _ hc => hc) ?_ as s s' tr h hag
  intro s a s1 e1 as s2 e2 hs _ ih hag hc
  exact ih (fun a' ha' => hag a' (List.mem_cons_of_mem _ ha'))
    (agent_step_keeps_waiter hs (hag a List.mem_cons_self) hc hpc)

/-- a caller waiting for a flight that is done can read it, whatever the flight's outcome -/
theorem observe_enabled {s : PConn.State κ} {c f : Nat} {cl : Caller κ} {fl : PConn.Flight κ} {e : κ × Nat} (a : XAns)
    (w : Waits s c cl f fl e) (hd : fl.done = true) (ha : fl.ans ≠ none) :
    (PConn.step s (.observe c a)).isSome = true := by
  match har : fl.ans with
  | none => exact absurd har ha
  | some none => exact (Step.obsFail a w hd har).isSome
  | some (some (id, nc)) =>
    by_cases hne : e.2 = nc
    · subst hne
      by_cases hlen : (cl.got ++ [f]).length = cl.entries.length
      · exact (Step.obsExec a w hd har hlen).isSome
      · exact (Step.obsMore a w hd har hlen).isSome
    · exact (Step.obsCount a w hd har hne).isSome

end C14Live
