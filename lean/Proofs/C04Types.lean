/- Type descriptors of arbitrary nesting are read back (`readType_ok`: structural induction, with the fuel
   of readTypeInfo bounded by the length of the encoding). `Plain`: an option id that is none of the collection / tuple / UDT
   kinds — what a native or custom type has to be for the reader, Iter.Scan and goType to treat it as a leaf. -/
import Proofs.C04Prim
namespace C04
open FrameRead RespSpec

theorem viewTypes_length : ∀ (es : TypeDescs), (viewTypes es).length = es.length
  | .nil => rfl
  | .cons _ r => by simp [viewTypes, TypeDescs.length, viewTypes_length r]

/-! ## the class-name table of the view is the model's if-chain -/

def chain : List (FrameRead.Bytes × Nat) → FrameRead.Bytes → Nat
  | [], _ => 0
  | (k, v) :: r, c => if c == k then v else chain r c

theorem lookup_getD_chain (tbl : List (FrameRead.Bytes × Nat)) (c : FrameRead.Bytes) :
    (tbl.lookup c).getD 0 = chain tbl c := by
  induction tbl with
  | nil => rfl
  | cons kv r ih =>
    obtain ⟨k, v⟩ := kv
    simp only [List.lookup, chain]
    cases h : c == k <;> simp [ih]

theorem chain_mem (tbl : List (FrameRead.Bytes × Nat)) (c : FrameRead.Bytes) :
    chain tbl c ∈ 0 :: tbl.map (·.2) := by
  fun_induction chain tbl c <;> simp_all
  rename_i ih; exact ih.imp_right .inr

theorem apache_eq_table (cls : FrameRead.Bytes) : getApacheCassandraType cls = classType cls := by
  unfold getApacheCassandraType classType classLookup
  rw [lookup_getD_chain]
  rfl

/-- no class name maps to the UDT option id -/
theorem classType_ne_udt (cls : FrameRead.Bytes) : classType cls ≠ 0x30 := by
  unfold classType classLookup
  rw [lookup_getD_chain]
  intro h
  have := chain_mem classTable (stripMarshalPrefix cls)
  rw [h] at this
  revert this
  decide

structure Plain (id : Nat) : Prop where
  list : id ≠ 0x20
  map : id ≠ 0x21
  set : id ≠ 0x22
  udt : id ≠ 0x30
  tuple : id ≠ 0x31

theorem customType_plain (cls : FrameRead.Bytes) : Plain (customType cls) := by
  fun_cases customType cls
  · exact ⟨by decide, by decide, by decide, by decide, by decide⟩
  case case2 h =>  -- the class is none of the collection / tuple kinds
    simp only [elemKinds, List.contains_cons, List.contains_nil, Bool.or_false, Bool.or_eq_true, beq_iff_eq,
      not_or] at h
    obtain ⟨hl, hm, hs, ht⟩ := h
    exact ⟨hl, hm, hs, classType_ne_udt cls, ht⟩

/-- the `switch` of readTypeInfo on the mapped class (frame.go, after the repair of KF-C04-1) is the
    specification's `customType` -/
theorem simple_custom (cls : FrameRead.Bytes) :
    (if (classType cls == typeCustom || classType cls == typeList || classType cls == typeSet ||
         classType cls == typeMap || classType cls == typeTuple) = true
     then ({ typ := 0, custom := cls } : Native) else { typ := classType cls, custom := cls })
      = { typ := customType cls, custom := cls } := by
  unfold customType elemKinds
  generalize classType cls = c
  by_cases h0 : c = 0
  · subst h0; rfl
  · by_cases h : [0x20, 0x21, 0x22, 0x31].contains c = true
    · rw [if_pos h]
      have : c = 0x20 ∨ c = 0x21 ∨ c = 0x22 ∨ c = 0x31 := by simpa using h
      rcases this with rfl | rfl | rfl | rfl <;> rfl
    · rw [if_neg h]
      have h' : ¬ (c = 0x20 ∨ c = 0x21 ∨ c = 0x22 ∨ c = 0x31) := by simpa using h
      simp only [not_or] at h'
      simp [typeCustom, typeList, typeSet, typeMap, typeTuple, h0, h']

theorem eShort_length (n : Nat) : (eShort n).length = 2 := rfl

theorem plain_of_native (id : Nat) (h : (isShort id && !structuredIds.contains id) = true) :
    id < 65536 ∧ id ≠ 0 ∧ Plain id := by
  simp [isShort, structuredIds] at h
  exact ⟨by omega, by omega, by omega, by omega, by omega, by omega, by omega⟩

/-- the tail of readTypeInfo after `simple` has been determined, for a type that is none of
    tuple / UDT / map / list / set (`typeTail_native`, which the proofs use, on the chain with the composite branches cut) -/
theorem native_tail (n : Native) (r : FrameRead.Bytes)
    (h1 : n.typ ≠ 0x31) (h2 : n.typ ≠ 0x30) (h3 : n.typ ≠ 0x21) (h4 : n.typ ≠ 0x20) (h5 : n.typ ≠ 0x22) :
    (if (n.typ == typeTuple) = true then (P.fail : P TypeInfo)
     else if (n.typ == typeUDT) = true then P.fail
     else if (n.typ == typeMap) = true then P.fail
     else if (n.typ == typeList || n.typ == typeSet) = true then P.fail
     else pure (.native n)) r = .ok (.native n, r) := by
  simp [typeTuple, typeUDT, typeMap, typeList, typeSet, h1, h2, h3, h4, h5, pure_apply]

/-! every type description takes at least 2 bytes, every UDT field at least 4: the element-count
guards of readTypeInfo (`int(n)*2 > len(f.buf)`, `int(n)*4 > len(f.buf)`) pass on every encoding -/
theorem eType_len (t : TypeDesc) : 2 ≤ (eType t).length := by
  cases t <;> simp [eType, eShort]

theorem eTypes_len : ∀ es : TypeDescs, 2 * es.length ≤ (eTypes es).length
  | .nil => by simp [TypeDescs.length, eTypes]
  | .cons t r => by
    have h1 := eType_len t
    have h2 := eTypes_len r
    simp [TypeDescs.length, eTypes]; omega

theorem eFields_len : ∀ fs : FieldDescs, 4 * fs.length ≤ (eFields fs).length
  | .nil => by simp [FieldDescs.length, eFields]
  | .cons n t r => by
    have h1 := eType_len t
    have h2 := eFields_len r
    simp [FieldDescs.length, eFields, eString, eShort]; omega

/-- readTypeInfo after `simple` has been determined: the text of the model's `readTypeInfoF` from there on, so that
    `readTypeInfoF_id` / `_custom` close by `rfl` against it -/
def typeTail (fuel : Nat) (simple : Native) : P TypeInfo :=
  if simple.typ == typeTuple then do
    let n ← readShort
    needBytes (2 * n)
    let elems ← readN (readTypeInfoF fuel) n
    pure (.tuple simple elems)
  else if simple.typ == typeUDT then do
    let ks ← readString
    let name ← readString
    let n ← readShort
    needBytes (4 * n)
    let fields ← readN (do let fname ← readString; let t ← readTypeInfoF fuel; pure (fname, t)) n
    pure (.udt simple ks name fields)
  else if simple.typ == typeMap then do
    let key ← readTypeInfoF fuel
    let elem ← readTypeInfoF fuel
    pure (.coll simple (some key) elem)
  else if simple.typ == typeList || simple.typ == typeSet then do
    let elem ← readTypeInfoF fuel
    pure (.coll simple none elem)
  else pure (.native simple)

theorem readTypeInfoF_id (fuel id : Nat) (r : FrameRead.Bytes) (h : id < 65536) (h0 : id ≠ 0) :
    readTypeInfoF (fuel + 1) (eShort id ++ r) = typeTail fuel { typ := id, custom := [] } r := by
  rw [readTypeInfoF, bind_ok (readShort_eShort id r h), if_neg (by simpa [typeCustom] using h0),
    bind_ok (pure_apply _ _)]
  rfl

theorem readTypeInfoF_custom (fuel : Nat) (cls r : FrameRead.Bytes) (hs : fitsShort cls = true) :
    readTypeInfoF (fuel + 1) (eShort 0 ++ (eString cls ++ r)) = typeTail fuel { typ := customType cls, custom := cls } r := by
  rw [readTypeInfoF, bind_ok (readShort_eShort 0 _ (by decide)), if_pos (show ((0 : Nat) == typeCustom) = true from rfl)]
  simp only [bind_eval, andThen_ok, pure_apply, readString_eString, hs, apache_eq_table, simple_custom cls]
  rfl

theorem typeTail_native (fuel : Nat) (n : Native) (r : FrameRead.Bytes) (h : Plain n.typ) :
    typeTail fuel n r = .ok (.native n, r) := by
  simp [typeTail, typeTuple, typeUDT, typeMap, typeList, typeSet, h.list, h.map, h.set, h.udt, h.tuple, pure_apply]

theorem fuel_pos {t : TypeDesc} {fuel : Nat} (hf : (eType t).length ≤ fuel) : ∃ f, fuel = f + 1 :=
  ⟨fuel - 1, by have := eType_len t; omega⟩

mutual
theorem readType_ok : ∀ (t : TypeDesc) (fuel : Nat) (r : FrameRead.Bytes),
    wfType t = true → (eType t).length ≤ fuel →
    readTypeInfoF fuel (eType t ++ r) = .ok (viewType t, r)
  | .native id, fuel, r, hw, hf => by
    obtain ⟨f, rfl⟩ := fuel_pos hf
    obtain ⟨h0, h1, hp⟩ := plain_of_native id (by simpa [wfType] using hw)
    rw [eType, readTypeInfoF_id f id r h0 h1]
    exact typeTail_native f { typ := id, custom := [] } r hp
  | .custom cls, fuel, r, hw, hf => by
    obtain ⟨f, rfl⟩ := fuel_pos hf
    rw [eType, List.append_assoc, readTypeInfoF_custom f cls r (by simpa [wfType] using hw)]
    exact typeTail_native f { typ := customType cls, custom := cls } r (customType_plain cls)
  | .list e, fuel, r, hw, hf | .set e, fuel, r, hw, hf => by
    obtain ⟨f, rfl⟩ := fuel_pos hf
    have hl : (eType e).length ≤ f := by simp [eType, eShort] at hf; omega
    have ih := readType_ok e f r (by simpa [wfType] using hw) hl
    rw [eType, List.append_assoc, readTypeInfoF_id f _ _ (by decide) (by decide)]
    exact map_ok ih
  | .map k v, fuel, r, hw, hf => by
    obtain ⟨f, rfl⟩ := fuel_pos hf
    simp only [wfType, Bool.and_eq_true] at hw
    have hl : (eType k).length ≤ f ∧ (eType v).length ≤ f := by simp [eType, eShort] at hf; omega
    have ihk := readType_ok k f (eType v ++ r) hw.1 hl.1
    have ihv := readType_ok v f r hw.2 hl.2
    rw [eType, List.append_assoc, List.append_assoc, readTypeInfoF_id f 0x21 _ (by decide) (by decide)]
    simp +decide only [typeTail, ↓reduceIte, bind_eval, andThen_ok, pure_apply, ihk, ihv, viewType]
  | .udt ks name fs, fuel, r, hw, hf => by
    obtain ⟨f, rfl⟩ := fuel_pos hf
    simp only [wfType, Bool.and_eq_true] at hw
    obtain ⟨⟨⟨hks, hname⟩, hlen⟩, hfs⟩ := hw
    have hl : (eFields fs).length ≤ f := by simp [eType, eShort, eString] at hf; omega
    have ih := readFields_ok fs f r hfs hl
    have hn : 4 * fs.length ≤ (eFields fs ++ r).length := by
      have := eFields_len fs; simp only [List.length_append]; omega
    rw [eType, List.append_assoc, readTypeInfoF_id f 0x30 _ (by decide) (by decide)]
    simp +decide only [List.append_assoc, typeTail, ↓reduceIte, bind_eval, andThen_ok, pure_apply, readString_eString, hks,
      hname, readShort_eShort _ _ (of_decide_eq_true hlen), needBytes_ok _ _ hn, ih, viewType]
  | .tuple es, fuel, r, hw, hf => by
    obtain ⟨f, rfl⟩ := fuel_pos hf
    simp only [wfType, Bool.and_eq_true] at hw
    have hl : (eTypes es).length ≤ f := by simp [eType, eShort] at hf; omega
    have ih := readTypes_ok es f r hw.2 hl
    have hn : 2 * es.length ≤ (eTypes es ++ r).length := by
      have := eTypes_len es; simp only [List.length_append]; omega
    rw [eType, List.append_assoc, readTypeInfoF_id f 0x31 _ (by decide) (by decide)]
    simp +decide only [List.append_assoc, typeTail, ↓reduceIte, bind_eval, andThen_ok, pure_apply,
      readShort_eShort _ _ (of_decide_eq_true hw.1), needBytes_ok _ _ hn, ih, viewType]
theorem readTypes_ok : ∀ (es : TypeDescs) (fuel : Nat) (r : FrameRead.Bytes),
    wfTypes es = true → (eTypes es).length ≤ fuel →
    readN (readTypeInfoF fuel) es.length (eTypes es ++ r) = .ok (viewTypes es, r)
  | .nil, fuel, r, _, _ => by simp [TypeDescs.length, eTypes, readN, pure_apply, viewTypes]
  | .cons t rest, fuel, r, hw, hf => by
    simp only [wfTypes, Bool.and_eq_true] at hw
    have hl : (eType t).length ≤ fuel ∧ (eTypes rest).length ≤ fuel := by simp [eTypes] at hf; omega
    have ih1 := readType_ok t fuel (eTypes rest ++ r) hw.1 hl.1
    have ih2 := readTypes_ok rest fuel r hw.2 hl.2
    simp only [TypeDescs.length, eTypes, readN, List.append_assoc, bind_eval, andThen_ok, pure_apply, ih1, ih2, viewTypes]
theorem readFields_ok : ∀ (fs : FieldDescs) (fuel : Nat) (r : FrameRead.Bytes),
    wfFields fs = true → (eFields fs).length ≤ fuel →
    readN (do let fname ← readString; let t ← readTypeInfoF fuel; pure (fname, t)) fs.length (eFields fs ++ r)
      = .ok (viewFields fs, r)
  | .nil, fuel, r, _, _ => by simp [FieldDescs.length, eFields, readN, pure_apply, viewFields]
  | .cons n t rest, fuel, r, hw, hf => by
    simp only [wfFields, Bool.and_eq_true] at hw
    have hl : (eType t).length ≤ fuel ∧ (eFields rest).length ≤ fuel := by simp [eFields] at hf; omega
    obtain ⟨⟨hn, ht⟩, hrest⟩ := hw
    have ih1 := readType_ok t fuel (eFields rest ++ r) ht hl.1
    have ih2 := readFields_ok rest fuel r hrest hl.2
    simp only [FieldDescs.length, eFields, readN, List.append_assoc, bind_eval, andThen_ok, pure_apply, readString_eString,
      hn, ih1, ih2, viewFields]
end

theorem readTypeInfo_ok (t : TypeDesc) (r : FrameRead.Bytes) (hw : wfType t = true) :
    readTypeInfo (eType t ++ r) = .ok (viewType t, r) := by
  unfold readTypeInfo
  exact readType_ok t _ r hw (by simp; omega)

end C04
