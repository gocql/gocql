/- Every primitive writer of the specification is inverted by the model's reader.
   The reader layer (this file, C04Types, C04Meta, C04Frames, C04Resp) has one lemma `rd (enc x ++ r) = .ok (view x, r)` per reader,
   side conditions as the `wf…` predicates state them. A composite reader is evaluated on a composite encoding by one
   `simp only [bind_eval, andThen_ok, pure_apply, <the lemmas of its parts>, <the wf hypotheses>]`; a part that is repeated goes
   through `readN_flatMap`. `rw [bind_ok …]` stands where the first step needs an argument simp cannot find (`slice_append'`,
   a reader whose result is not determined by its input's shape, `optional_ok`). -/
import Model.FrameRead
import Model.RespSpec
import Proofs.Bytes
namespace C04
open FrameRead RespSpec

def andThen {α β : Type} : Outcome (α × FrameRead.Bytes) → (α → P β) → Outcome (β × FrameRead.Bytes)
  | .ok (a, b), f => f a b
  | .err, _ => .err
  | .crash, _ => .crash

theorem bind_eval {α β : Type} (p : P α) (f : α → P β) (buf : FrameRead.Bytes) : (p >>= f) buf = andThen (p buf) f := by
  show P.bind p f buf = _
  unfold P.bind; cases p buf <;> rfl

theorem bind_ok {α β : Type} {p : P α} {f : α → P β} {buf buf' : FrameRead.Bytes} {a : α}
    (h : p buf = .ok (a, buf')) : (p >>= f) buf = f a buf' := by
  rw [bind_eval, h]; rfl

theorem andThen_ok {α β : Type} (a : α) (b : FrameRead.Bytes) (f : α → P β) : andThen (.ok (a, b)) f = f a b := rfl

theorem pure_apply {α : Type} (a : α) (buf : FrameRead.Bytes) : (pure a : P α) buf = .ok (a, buf) := rfl

theorem map_ok {α β : Type} {p : P α} {g : α → β} {buf buf' : FrameRead.Bytes} {a : α}
    (h : p buf = .ok (a, buf')) : (do let x ← p; pure (g x) : P β) buf = .ok (g a, buf') := by
  rw [bind_ok h]; rfl

/-- a part of the message that is there exactly when its flag is set -/
theorem optional_ok {α : Type} (rd : P α) (enc : Option α → FrameRead.Bytes) (o : Option α) (rest : FrameRead.Bytes)
    (hn : enc none = []) (hs : ∀ a, o = some a → rd (enc (some a) ++ rest) = .ok (a, rest)) :
    (if o.isSome = true then (do let u ← rd; pure (some u) : P (Option α)) else pure none) (enc o ++ rest)
      = .ok (o, rest) := by
  cases o with
  | none => rw [hn]; rfl
  | some a =>
    rw [if_pos (show (some a).isSome = true from rfl)]
    exact map_ok (hs a rfl)

theorem toNat_ofNat8 (n : Nat) : (UInt8.ofNat n).toNat = n % 256 := BE.toNat_ofNat n

theorem slice_append (g : Nat) (x r : FrameRead.Bytes) (hg : g ≤ x.length) :
    slice g x.length (x ++ r) = .ok (x, r) := by
  unfold slice
  have h1 : ¬ (x ++ r).length < g := by simp; omega
  have h2 : ¬ (x ++ r).length < x.length := by simp
  rw [if_neg h1, if_neg h2]
  simp

theorem slice_append' (g n : Nat) (x r : FrameRead.Bytes) (hn : x.length = n) (hg : g ≤ n) :
    slice g n (x ++ r) = .ok (x, r) := by
  subst hn; exact slice_append g x r hg

theorem needBytes_ok (need : Nat) (buf : FrameRead.Bytes) (h : need ≤ buf.length) :
    needBytes need buf = .ok ((), buf) := by
  unfold needBytes
  rw [if_neg (by omega)]

theorem eShort_eq (n : Nat) : eShort n = ValueSpec.beBytes 2 n := by
  simp only [eShort, BE.beBytes_two, BE.ofNat_mod]

theorem eUInt_eq (n : Nat) : eUInt n = ValueSpec.beBytes 4 n := by
  simp only [eUInt, BE.beBytes_four, BE.ofNat_mod]

theorem beNat_eShort (n : Nat) (h : n < 65536) : beNat (eShort n) = n :=
  eShort_eq n ▸ BE.beNat_beBytes_lt (k := 2) h

theorem beNat_eUInt (n : Nat) (h : n < 4294967296) : beNat (eUInt n) = n :=
  eUInt_eq n ▸ BE.beNat_beBytes_lt (k := 4) h

theorem int32Of_emod (z : Int) (h : isInt32 z = true) : int32Of (z % 4294967296).toNat = z := by
  simp only [isInt32, Bool.and_eq_true, decide_eq_true_eq] at h
  exact BE.wrap_emod 4294967296 rfl z (by omega) (by omega)

theorem int32Of_beNat_eInt (z : Int) (h : isInt32 z = true) : int32Of (beNat (eInt z)) = z := by
  rw [eInt, beNat_eUInt _ (by omega), int32Of_emod z h]

theorem readShort_eShort (n : Nat) (r : FrameRead.Bytes) (h : n < 65536) :
    readShort (eShort n ++ r) = .ok (n, r) := by
  simp only [readShort, bind_eval, andThen_ok, pure_apply, slice_append' 2 2 (eShort n) r rfl (Nat.le_refl 2), beNat_eShort n h]

theorem readByte_eByte (n : Nat) (r : FrameRead.Bytes) :
    readByte (eByte n ++ r) = .ok (UInt8.ofNat n, r) := by
  unfold readByte
  rw [bind_ok (slice_append' 1 1 (eByte n) r rfl (by omega))]
  rfl

theorem readInt_eInt (z : Int) (r : FrameRead.Bytes) (h : isInt32 z = true) :
    readInt (eInt z ++ r) = .ok (z, r) := by
  simp only [readInt, bind_eval, andThen_ok, pure_apply, slice_append' 4 4 (eInt z) r rfl (Nat.le_refl 4), int32Of_beNat_eInt z h]

theorem readInt_eInt_nat (n : Nat) (r : FrameRead.Bytes) (h : n < 2147483648) :
    readInt (eInt n ++ r) = .ok ((n : Int), r) :=
  readInt_eInt _ _ (by simp [isInt32]; omega)

theorem readString_eString (s r : FrameRead.Bytes) (h : fitsShort s = true) :
    readString (eString s ++ r) = .ok (s, r) := by
  have hs : s.length < 65536 := by simpa [fitsShort] using h
  simp only [readString, eString, List.append_assoc, bind_eval, andThen_ok, readShort_eShort, hs, slice_append, Nat.le_refl]

theorem readShortBytes_eString (s r : FrameRead.Bytes) (h : fitsShort s = true) :
    readShortBytes (eString s ++ r) = .ok (s, r) := readString_eString s r h

theorem readBytes_eBytes (ob : Option FrameRead.Bytes) (r : FrameRead.Bytes) (h : optFitsInt ob = true) :
    readBytes (eBytes ob ++ r) = .ok (ob, r) := by
  cases ob with
  | none => simp +decide only [readBytes, eBytes, bind_eval, andThen_ok, pure_apply, readInt_eInt, ↓reduceIte]
  | some b =>
    have hb : b.length < 2147483648 := by simpa [optFitsInt, fitsInt] using h
    simp only [readBytes, eBytes, List.append_assoc, bind_eval, andThen_ok, pure_apply, readInt_eInt_nat, hb,
      Int.not_lt.mpr (Int.natCast_nonneg _), if_false, Int.toNat_natCast, slice_append, Nat.le_refl]

theorem readUUID_ok (u r : FrameRead.Bytes) (h : u.length = 16) : readUUID (u ++ r) = .ok (u, r) :=
  slice_append' 16 16 u r h (Nat.le_refl _)

theorem readN_flatMap {α β : Type} (rd : P β) (enc : α → FrameRead.Bytes) (f : α → β)
    (xs : List α) (h : ∀ x ∈ xs, ∀ r, rd (enc x ++ r) = .ok (f x, r)) (r : FrameRead.Bytes) :
    readN rd xs.length (xs.flatMap enc ++ r) = .ok (xs.map f, r) := by
  induction xs with
  | nil => simp [readN, pure_apply]
  | cons x xs ih =>
    have hx := h x (by simp)
    have ih' := ih (fun y hy => h y (by simp [hy]))
    simp only [List.length_cons, List.flatMap_cons, List.append_assoc, readN]
    rw [bind_ok (hx _), bind_ok ih']
    rfl

theorem readN_flatMap_id {α : Type} (rd : P α) (enc : α → FrameRead.Bytes)
    (xs : List α) (h : ∀ x ∈ xs, ∀ r, rd (enc x ++ r) = .ok (x, r)) (r : FrameRead.Bytes) :
    readN rd xs.length (xs.flatMap enc ++ r) = .ok (xs, r) := by
  simpa using readN_flatMap rd enc id xs h r

theorem readStringList_eStringList (l : List FrameRead.Bytes) (r : FrameRead.Bytes)
    (hn : isShort l.length = true) (h : l.all fitsShort = true) :
    readStringList (eStringList l ++ r) = .ok (l, r) := by
  have hn' : l.length < 65536 := by simpa [isShort] using hn
  simp only [readStringList, eStringList, List.append_assoc, bind_eval, andThen_ok, readShort_eShort, hn']
  exact readN_flatMap_id readString eString l
    (fun x hx r => readString_eString x r (List.all_eq_true.mp h x hx)) r

/-! ## Go maps: inserting pairs with distinct keys keeps them all, in order -/

theorem mapInsert_fresh {κ β : Type} [BEq κ] [LawfulBEq κ] (m : List (κ × β)) (k : κ) (v : β)
    (h : k ∉ m.map (·.1)) : mapInsert m k v = m ++ [(k, v)] := by
  unfold mapInsert
  have : m.any (fun kv => kv.1 == k) = false := by
    rw [List.any_eq_false]
    intro kv hkv heq
    have : kv.1 = k := by simpa using heq
    exact h (by rw [← this]; exact List.mem_map_of_mem hkv)
  simp [this]

theorem foldl_mapInsert {κ β : Type} [BEq κ] [LawfulBEq κ] (l acc : List (κ × β))
    (h : ((acc ++ l).map (·.1)).Nodup) :
    l.foldl (fun m kv => mapInsert m kv.1 kv.2) acc = acc ++ l := by
  induction l generalizing acc with
  | nil => simp
  | cons kv l ih =>
    have hfresh : kv.1 ∉ acc.map (·.1) := by
      intro hmem
      simp only [List.map_append, List.map_cons] at h
      have := (List.nodup_append.mp h).2.2 _ hmem kv.1 (by simp)
      exact this rfl
    simp only [List.foldl_cons]
    rw [mapInsert_fresh acc kv.1 kv.2 hfresh]
    have : acc ++ [(kv.1, kv.2)] ++ l = acc ++ kv :: l := by simp
    rw [ih (acc ++ [(kv.1, kv.2)]) (by rw [this]; exact h), this]

theorem mapOfList_nodup {κ β : Type} [BEq κ] [LawfulBEq κ] (l : List (κ × β))
    (h : (l.map (·.1)).Nodup) : mapOfList l = l := by
  unfold mapOfList
  have := foldl_mapInsert l [] (by simpa using h)
  simpa using this

theorem readBytesMap_eBytesMap (m : List (FrameRead.Bytes × Option FrameRead.Bytes)) (r : FrameRead.Bytes)
    (hn : isShort m.length = true)
    (h : m.all (fun kv => fitsShort kv.1 && optFitsInt kv.2) = true)
    (hd : (m.map (·.1)).Nodup) :
    readBytesMap (eBytesMap m ++ r) = .ok (m, r) := by
  have hn' : m.length < 65536 := by simpa [isShort] using hn
  simp only [List.all_eq_true, Bool.and_eq_true] at h
  have := readN_flatMap_id (do let k ← readString; let v ← readBytes; pure (k, v))
    (fun kv : FrameRead.Bytes × Option FrameRead.Bytes => eString kv.1 ++ eBytes kv.2) m
    (fun x hx r => by
      simp only [List.append_assoc, bind_eval, andThen_ok, pure_apply, readString_eString, readBytes_eBytes, h x hx])
  simp only [readBytesMap, eBytesMap, List.append_assoc, bind_eval, andThen_ok, pure_apply, readShort_eShort, hn', this,
    mapOfList_nodup m hd]

theorem readStringMultiMap_e (m : List (FrameRead.Bytes × List FrameRead.Bytes)) (r : FrameRead.Bytes)
    (hn : isShort m.length = true)
    (h : m.all (fun kv => fitsShort kv.1 && isShort kv.2.length && kv.2.all fitsShort) = true)
    (hd : (m.map (·.1)).Nodup) :
    readStringMultiMap (eStringMultiMap m ++ r) = .ok (m, r) := by
  have hn' : m.length < 65536 := by simpa [isShort] using hn
  have := readN_flatMap_id (do let k ← readString; let v ← readStringList; pure (k, v))
    (fun kv : FrameRead.Bytes × List FrameRead.Bytes => eString kv.1 ++ eStringList kv.2) m
    (fun x hx r => by
      have hx' := List.all_eq_true.mp h x hx
      simp only [Bool.and_eq_true] at hx'
      simp only [List.append_assoc, bind_eval, andThen_ok, pure_apply, readString_eString, readStringList_eStringList, hx'])
  simp only [readStringMultiMap, eStringMultiMap, List.append_assoc, bind_eval, andThen_ok, pure_apply, readShort_eShort,
    hn', this, mapOfList_nodup m hd]

theorem readInetAdressOnly_e (a r : FrameRead.Bytes) (h : isAddr a = true) :
    readInetAdressOnly (eInetAddr a ++ r) = .ok (a, r) := by
  have ha : a.length = 4 ∨ a.length = 16 := by simpa [isAddr] using h
  unfold readInetAdressOnly eInetAddr
  rw [List.append_assoc, bind_ok (slice_append' 1 1 (eByte a.length) (a ++ r) rfl (by omega))]
  have hsz : ((eByte a.length).headD 0).toNat = a.length := by
    simp [eByte]; omega
  simp only [hsz]
  have hc : (!(a.length == 4 || a.length == 16)) = false := by
    rcases ha with h | h <;> simp [h]
  simp only [hc]
  exact slice_append a.length a r (Nat.le_refl _)

theorem readInet_e (a r : FrameRead.Bytes) (p : Int) (h : isAddr a = true) (hp : isInt32 p = true) :
    readInet (eInet a p ++ r) = .ok ((a, p), r) := by
  simp only [readInet, eInet, List.append_assoc, bind_eval, andThen_ok, pure_apply, readInetAdressOnly_e, readInt_eInt,
    h, hp]

end C04
