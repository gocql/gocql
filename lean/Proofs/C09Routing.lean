import Model.Routing
import Proofs.C09Token
/-!
# C09 — what `createRoutingKey` builds; the table's partition key; the ring order

`createRoutingKey` on indexes whose values encode (`Encodes`) is the raw value / the CompositeType framing
(`createRoutingKey_of_encodes`), and it panics only if `Marshal` does (`createRoutingKey_no_crash`). `place`: the schema rows
written into `TableMetadata.PartitionKey` by position. `mergeSort_sorted`: `List.mergeSort` by a Boolean that
decides a transitive, total relation sorts by it (the three orders `newTokenRing` sorts by are instances).
-/
namespace Routing

variable {τ ν : Type}

theorem encAt_ok_lt {enc : τ → ν → Enc} {vals : List ν} {t : τ} {i : Nat} {b : Option Bytes}
    (h : encAt enc vals t i = .ok b) : i < vals.length := by
  revert h
  fun_cases encAt enc vals t i with
  | case1 => nofun
  | case2 v hv => exact fun _ => (List.getElem?_eq_some_iff.mp hv).1

/-- the guard of the repaired `createRoutingKey` passes when every key marker has a bound value -/
theorem createRoutingKey_eq_core (enc : τ → ν → Enc) (info : Info τ) (vals : List ν)
    (h : ∀ i ∈ info.indexes, i < vals.length) :
    createRoutingKey enc info vals = createRoutingKeyCore enc info vals := by
  rw [createRoutingKey, if_neg]
  simpa using h

/-- **KF-C09-1 repaired**: a key marker without a bound value is an ERROR (no index panic), whatever else is bound -/
theorem createRoutingKey_short (enc : τ → ν → Enc) (info : Info τ) (vals : List ν) (i : Nat)
    (hi : i ∈ info.indexes) (hshort : vals.length ≤ i) : createRoutingKey enc info vals = .errValues := by
  rw [createRoutingKey, if_pos]
  exact List.any_eq_true.mpr ⟨i, hi, by simpa using hshort⟩

/-- with a bound value, `Marshal` at that index panics only if Marshal itself does -/
theorem encAt_ne_crash {enc : τ → ν → Enc} {vals : List ν} (hen : ∀ t v, enc t v ≠ .crash) (t : τ) {i : Nat}
    (hi : i < vals.length) : encAt enc vals t i ≠ .crash := by
  rw [encAt, List.getElem?_eq_getElem hi]
  exact hen t _

/-- with a bound value at every index, the loop panics only if Marshal does or a type is missing -/
theorem compositeLoop_no_crash (enc : τ → ν → Enc) (vals : List ν) (hen : ∀ t v, enc t v ≠ .crash)
    (is : List Nat) (ts : List τ) (acc : Bytes) (hl : is.length ≤ ts.length) (hb : ∀ i ∈ is, i < vals.length) :
    compositeLoop enc vals is ts acc ≠ .crash := by
  fun_induction compositeLoop enc vals is ts acc with
  | case2 => simp at hl
  | case3 i is t ts acc b he ih => exact ih (by simpa using hl) fun j hj => hb j (by simp [hj])
  | case5 i is t ts acc he => exact absurd he (encAt_ne_crash hen t (hb i (by simp)))
  | _ => nofun

/-- **the repaired `createRoutingKey` is total**: no index panic for ANY number of bound values - a panic can only come
    from Marshal itself or from an info with fewer types than indexes (routingKeyInfo never builds one) -/
theorem createRoutingKey_no_crash (enc : τ → ν → Enc) (info : Info τ) (vals : List ν)
    (hen : ∀ t v, enc t v ≠ .crash) (hl : info.indexes.length ≤ info.types.length) :
    createRoutingKey enc info vals ≠ .crash := by
  fun_cases createRoutingKey enc info vals with
  | case1 => nofun
  | case2 hany =>
    have hb : ∀ i ∈ info.indexes, i < vals.length := by simpa using hany
    fun_cases createRoutingKeyCore enc info vals with
    | case3 i t _ _ hidx he => exact absurd he (encAt_ne_crash hen t (hb i (by simp [hidx])))   -- one index, Marshal panics
    | case4 _ hidx hts => simp [hidx, hts] at hl                                                  -- one index, no type
    | case5 => exact compositeLoop_no_crash enc vals hen _ _ [] hl hb
    | _ => nofun

/-- SPEC: the components of the partition key, in partition-key order, for the marker indexes `pk` -/
def Spec.components (enc : τ → ν → Enc) (cols : List (Col τ)) (vals : List ν) : List Nat → Option (List Bytes)
  | [] => some []
  | i :: is =>
    match Spec.component enc cols vals i, Spec.components enc cols vals is with
    | some c, some cs => some (c :: cs)
    | _, _ => none

/-- SPEC: the same when the key columns are identified by NAME (schema metadata): the first marker of each -/
def Spec.componentsByName (enc : τ → ν → Enc) (cols : List (Col τ)) (vals : List ν) : List String → Option (List Bytes)
  | [] => some []
  | n :: ns =>
    match (Spec.firstMarker n cols).bind (Spec.component enc cols vals), Spec.componentsByName enc cols vals ns with
    | some c, some cs => some (c :: cs)
    | _, _ => none

/-- `Marshal` of the values at the indexes `is` with the types `ts` answers the byte strings `cs`: what both
    branches of `routingKeyInfo` hand to `createRoutingKey` when the key components are defined -/
inductive Encodes (enc : τ → ν → Enc) (vals : List ν) : List Nat → List τ → List Bytes → Prop
  | nil : Encodes enc vals [] [] []
  | cons {i t c is ts cs} : encAt enc vals t i = .ok (some c) → Encodes enc vals is ts cs →
      Encodes enc vals (i :: is) (t :: ts) (c :: cs)

theorem Encodes.bound {enc : τ → ν → Enc} {vals : List ν} {is : List Nat} {ts : List τ} {cs : List Bytes}
    (h : Encodes enc vals is ts cs) : ∀ i ∈ is, i < vals.length := by
  induction h with
  | nil => intro i hi; cases hi
  | cons he _ ih =>
    intro j hj
    rcases List.mem_cons.mp hj with rfl | hj
    · exact encAt_ok_lt he
    · exact ih j hj

/-- the loop of the composite branch appends the CompositeType framing of the components -/
theorem Encodes.compositeLoop {enc : τ → ν → Enc} {vals : List ν} {is : List Nat} {ts : List τ} {cs : List Bytes}
    (h : Encodes enc vals is ts cs) :
    ∀ acc, Routing.compositeLoop enc vals is ts acc = .key (some (acc ++ Token.composite cs)) := by
  induction h with
  | nil => intro acc; simp [Routing.compositeLoop, Token.composite]
  | cons he _ ih =>
    intro acc
    simp only [Routing.compositeLoop, he, bytesOf, ih, Token.composite, List.append_assoc]

/-- `createRoutingKey` on an info whose components encode: the raw value (one) / the CompositeType framing (several) -/
theorem createRoutingKey_of_encodes {enc : τ → ν → Enc} {vals : List ν} {is : List Nat} {ts : List τ}
    {cs : List Bytes} (h : Encodes enc vals is ts cs) (ks tb : String) :
    createRoutingKey enc ⟨is, ts, ks, tb⟩ vals = .key (some (Token.routingKey cs)) := by
  rw [createRoutingKey_eq_core enc _ vals h.bound]
  cases h with
  | nil => rfl
  | cons he hr =>
    cases hr with
    | nil => simp [createRoutingKeyCore, he, Token.routingKey]
    | cons he' hr' =>
      simp [createRoutingKeyCore, (Encodes.cons he (Encodes.cons he' hr')).compositeLoop, Token.routingKey]

theorem place_length {α : Type} : ∀ (pk : List (α × Nat)) (a : List (Option α)), (place pk a).length = a.length
  | [], a => rfl
  | (n, p) :: r, a => by simp [place, place_length r]

theorem place_other {α : Type} : ∀ (pk : List (α × Nat)) (a : List (Option α)) (i : Nat),
    (∀ x ∈ pk, x.2 ≠ i) → (place pk a)[i]? = a[i]?
  | [], a, i, _ => rfl
  | (n, p) :: r, a, i, h => by
    have hp : p ≠ i := h (n, p) (by simp)
    rw [place, place_other r _ i (fun x hx => h x (by simp [hx]))]
    simp [hp]

theorem place_get {α : Type} : ∀ (pk : List (α × Nat)) (a : List (Option α)),
    (pk.map (·.2)).Nodup → (∀ x ∈ pk, x.2 < a.length) →
    ∀ x ∈ pk, (place pk a)[x.2]? = some (some x.1)
  | [], _, _, _, x, hx => by simp at hx
  | (n, p) :: r, a, hnd, hlt, x, hx => by
    simp only [List.map_cons, List.nodup_cons] at hnd
    rw [place]
    cases hx with
    | head =>
      have hno : ∀ y ∈ r, y.2 ≠ p := by
        intro y hy hyp
        exact hnd.1 (by simpa [hyp.symm] using List.mem_map_of_mem (f := (·.2)) hy)
      rw [place_other r _ p hno]
      have : p < a.length := hlt (n, p) (by simp)
      simp [this]
    | tail _ hx' =>
      exact place_get r _ hnd.2 (by intro y hy; simpa using hlt y (by simp [hy])) x hx'

theorem pkCount_gt {α : Type} : ∀ (pk : List (α × Nat)), ∀ x ∈ pk, x.2 < pkCount pk
  | [], x, hx => by simp at hx
  | (n, p) :: r, x, hx => by
    simp only [pkCount]
    cases hx with
    | head => omega
    | tail _ hx' => have := pkCount_gt r x hx'; omega

theorem mergeSort_sorted {α : Type} {le : α → α → Bool} {R : α → α → Prop} (hle : ∀ a b, le a b = true ↔ R a b)
    (ht : ∀ a b c, R a b → R b c → R a c) (htot : ∀ a b, R a b ∨ R b a) (l : List α) :
    (l.mergeSort le).Pairwise R ∧ (l.mergeSort le).Perm l :=
  ⟨(List.pairwise_mergeSort (fun a b c h1 h2 => (hle a c).mpr (ht a b c ((hle a b).mp h1) ((hle b c).mp h2)))
      (fun a b => by simpa only [Bool.or_eq_true, hle] using htot a b) l).imp ((hle _ _).mp), List.mergeSort_perm l le⟩

end Routing
