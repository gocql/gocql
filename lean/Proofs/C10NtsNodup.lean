import Model.Placement
import Proofs.C10Nts
/-! networkTopology.replicaMap: the inner loop passes over a host it has met (`seenHosts`, KF-C10-1), so on EVERY ring,
vnodes included, replicas and skipped lists stay duplicate-free, disjoint and within the hosts met so far (invariant
`J`); what is known of a host met before (`Visited`); the two with `Good` as the one invariant of the loop (`Walked`,
`walked_walk`).  At the end, in namespace `C10`: the map `replicaMap` returns (`ntsDesc`) and what the loop of one ring position leaves
(`nts_at`, `ntsDesc_entry`), of which the per-entry theorems of `Proofs/C10.lean` are projections. -/
namespace C10NtsNodup
open Placement C10Lookup C10Simple C10Nts

/-- `st` is a state of `ntsWalk` whose seen-host list is within `pre`: `r`/`s` = replicas / skipped lists,
`nd` = duplicate-free, `dis` = disjoint, `p` = contained in `pre`. -/
structure J (pre : List Host) (st : NtsSt) : Prop where
  rnd : st.replicas.Nodup
  snd : ∀ d, (st.skipped d).Nodup
  dis : ∀ d, ∀ x ∈ st.skipped d, x ∉ st.replicas
  rp : ∀ x ∈ st.replicas, x ∈ pre
  sp : ∀ d, ∀ x ∈ st.skipped d, x ∈ pre

theorem j_init : J [] ntsInit :=
  ⟨by simp [ntsInit], by intro d; simp [ntsInit], by intro d x hx; simp [ntsInit] at hx,
   by intro x hx; simp [ntsInit] at hx, by intro d x hx; simp [ntsInit] at hx⟩

theorem J.mono {pre pre' : List Host} {st : NtsSt} (j : J pre st) (h : ∀ x ∈ pre, x ∈ pre') : J pre' st :=
  ⟨j.rnd, j.snd, j.dis, fun x hx => h x (j.rp x hx), fun d x hx => h x (j.sp d x hx)⟩

theorem take_drop_disjoint {α : Type} (l : List α) (k : Nat) (hnd : l.Nodup) :
    ∀ x, x ∈ l.take k → x ∉ l.drop k := by
  intro x h1 h2
  have := hnd
  rw [← List.take_append_drop k l, List.nodup_append] at this
  exact this.2.2 x h1 x h2 rfl

theorem j_step (c : NtsCfg) (pre : List Host) (h : Host) (st : NtsSt) (g : Good c st) (j : J pre st)
    (hnew : h ∉ pre) : J (pre ++ [h]) (ntsStep c st h) := by
  have hnr : h ∉ st.replicas := fun hx => hnew (j.rp h hx)
  have hns : ∀ d, h ∉ st.skipped d := fun d hx => hnew (j.sp d h hx)
  apply ntsStep_elim c st h
  case skip =>
    intro _; exact j.mono (fun x hx => List.mem_append_left _ hx)
  case overflow =>
    intro _; exact J.mono ⟨j.rnd, j.snd, j.dis, j.rp, j.sp⟩ (fun x hx => List.mem_append_left _ hx)
  case sameRack =>
    intro _ _ _
    refine ⟨?_, j.snd, ?_, ?_, fun d x hx => List.mem_append_left _ (j.sp d x hx)⟩
    · exact nodup_snoc j.rnd hnr
    · intro d x hx
      simp only [stA, List.mem_append, List.mem_singleton]
      rintro (hr | rfl)
      · exact j.dis d x hx hr
      · exact hns d hx
    · intro x hx
      simp only [stA, List.mem_append, List.mem_singleton] at hx
      rcases hx with hx | rfl
      · exact List.mem_append_left _ (j.rp x hx)
      · simp
  case newRack =>
    intro _ _
    have hsk := j.snd h.dc
    refine ⟨?_, ?_, ?_, ?_, ?_⟩
    · simp only [stB]
      rw [List.nodup_append]
      refine ⟨nodup_snoc j.rnd hnr, List.Sublist.nodup (List.take_sublist _ _) hsk, ?_⟩
      · intro a ha b hb
        have hb' := List.mem_of_mem_take hb
        simp only [List.mem_append, List.mem_singleton] at ha
        rcases ha with ha | rfl
        · intro e; subst e; exact j.dis _ _ hb' ha
        · intro e; subst e; exact hns _ hb'
    · exact forall_update (P := fun _ l => List.Nodup l) j.snd h.dc (List.Sublist.nodup (List.drop_sublist _ _) hsk)
    · refine forall_update' (P := fun d l => ∀ x ∈ l, x ∉ st.replicas ++ [h] ++ (st.skipped h.dc).take (drainCount c st h))
        (fun x hx => ?_) (fun d hd x hx => ?_) <;>
        simp only [List.mem_append, List.mem_singleton] <;> rintro ((hr | rfl) | ht)
      -- the skipped list of `h.dc` (what the drain left) against: an old replica, `h`, a drained host
      · exact j.dis _ x (List.mem_of_mem_drop hx) hr
      · exact hns _ (List.mem_of_mem_drop hx)
      · exact take_drop_disjoint _ _ hsk x ht hx
      -- the skipped list of another datacenter `d` against the same three
      · exact j.dis _ x hx hr
      · exact hns _ hx
      · exact hd ((g.skdc d x hx).symm.trans (g.skdc _ x (List.mem_of_mem_take ht)))
    · intro x hx
      simp only [stB, List.mem_append, List.mem_singleton] at hx
      rcases hx with (hx | rfl) | hx
      · exact List.mem_append_left _ (j.rp x hx)
      · simp
      · exact List.mem_append_left _ (j.sp _ x (List.mem_of_mem_take hx))
    · exact forall_update (P := fun _ l => ∀ x ∈ l, x ∈ pre ++ [h]) (fun d x hx => List.mem_append_left _ (j.sp d x hx)) h.dc
        (fun x hx => List.mem_append_left _ (j.sp _ x (List.mem_of_mem_drop hx)))
  case otherRack =>
    intro _ _ _
    exact ⟨j.rnd, forall_update (P := fun _ l => List.Nodup l) j.snd h.dc (nodup_snoc (j.snd _) (hns _)),
      forall_update (P := fun _ l => ∀ x ∈ l, x ∉ st.replicas) j.dis h.dc
        (fun x hx => (List.mem_append.mp hx).elim (j.dis _ x) (fun hx => List.mem_singleton.mp hx ▸ hnr)),
      fun x hx => List.mem_append_left _ (j.rp x hx),
      forall_update (P := fun _ l => ∀ x ∈ l, x ∈ pre ++ [h]) (fun d x hx => List.mem_append_left _ (j.sp d x hx)) h.dc
        (fun x hx => (List.mem_append.mp hx).elim (fun hx => List.mem_append_left _ (j.sp _ x hx))
          (fun hx => List.mem_append_right _ hx))⟩

/-- what is known of a host met before while its datacenter still needs replicas: its rack has been seen, and it is a
replica or waits on the skipped list of a datacenter whose racks are not all seen yet -/
def Visited (c : NtsCfg) (sh : List Host) (st : NtsSt) : Prop :=
  ∀ x ∈ sh, st.inDC x.dc < rfOf c.rfs x.dc →
    x.rack ∈ st.seen x.dc ∧
      (x ∈ st.replicas ∨ ((st.seen x.dc).length ≠ (c.racks x.dc).length ∧ x ∈ st.skipped x.dc))

theorem visited_step (c : NtsCfg) (sh : List Host) (h : Host) (st : NtsSt) (hr : h.rack ∈ c.racks h.dc)
    (g : Good c st) (v : Visited c sh st) : Visited c (sh ++ [h]) (ntsStep c st h) := by
  apply ntsStep_elim c st h
  case skip =>
    intro hs x hx hlt
    rcases List.mem_append.mp hx with hx | hx
    · exact v x hx hlt
    · rw [List.mem_singleton.mp hx] at hlt
      rcases hs with hs | hs | hs
      · omega
      · omega
      · exact absurd hr hs
  case overflow => exact fun hgt => absurd (g.le h.dc) (Nat.not_le.mpr hgt)
  case sameRack =>
    intro _ hs hcomp x hx hlt'
    rcases List.mem_append.mp hx with hx | hx
    · have hlt0 : st.inDC x.dc < rfOf c.rfs x.dc := by
        by_cases hd : x.dc = h.dc
        · rw [hd] at hlt' ⊢; simp only [stA, upd_same] at hlt'; omega
        · simpa only [stA, upd_other _ _ _ _ hd] using hlt'
      obtain ⟨a, b⟩ := v x hx hlt0
      exact ⟨a, b.imp (fun hb => List.mem_append_left _ hb) id⟩
    · have : x = h := by simpa using hx
      subst this
      exact ⟨hs, Or.inl (by simp [stA])⟩
  case newRack =>
    intro a hs x hx hlt'
    have hlt := a.lt
    rcases List.mem_append.mp hx with hx | hx
    · by_cases hd : x.dc = h.dc
      · rw [hd] at hlt' ⊢
        simp only [stB, upd_same] at hlt' ⊢
        obtain ⟨a, b⟩ := v x hx (by rw [hd]; omega)
        rw [hd] at a b
        refine ⟨List.mem_append_left _ a, ?_⟩
        rcases b with b | ⟨_, b⟩
        · exact Or.inl (List.mem_append_left _ (List.mem_append_left _ b))
        · rw [← List.take_append_drop (drainCount c st h) (st.skipped h.dc), List.mem_append] at b
          rcases b with b | b
          · exact Or.inl (List.mem_append_right _ b)
          · right
            refine ⟨?_, b⟩
            intro hc
            -- the last rack has just been seen and the DC still needs replicas: everything skipped was taken
            unfold drainCount at b hlt'
            simp only [List.length_append, List.length_cons, List.length_nil, Nat.zero_add] at hc
            rw [if_pos hc] at b hlt'
            have : (st.skipped h.dc).drop (min (st.skipped h.dc).length (rfOf c.rfs h.dc - (st.inDC h.dc + 1))) = [] := by
              apply List.drop_eq_nil_of_le; omega
            rw [this] at b; cases b
      · simp only [stB, upd_other _ _ _ _ hd] at hlt' ⊢
        obtain ⟨a, b⟩ := v x hx hlt'
        exact ⟨a, b.imp (fun hb => List.mem_append_left _ (List.mem_append_left _ hb)) id⟩
    · have : x = h := by simpa using hx
      subst this
      simp only [stB, upd_same]
      exact ⟨by simp, Or.inl (by simp)⟩
  case otherRack =>
    intro _ hs hncomp x hx hlt'
    have hsk : ∀ d y, y ∈ st.skipped d → y ∈ (stC st h).skipped d :=
      forall_update' (P := fun d l => ∀ y ∈ st.skipped d, y ∈ l) (fun _ hy => List.mem_append_left _ hy) (fun _ _ _ hy => hy)
    rcases List.mem_append.mp hx with hx | hx
    · obtain ⟨a, b⟩ := v x hx hlt'
      exact ⟨a, b.imp id (fun hb => ⟨hb.1, hsk _ _ hb.2⟩)⟩
    · have : x = h := by simpa using hx
      subst this
      exact ⟨hs, Or.inr ⟨hncomp, by simp [stC, upd_same]⟩⟩

/-- the code's state `st` after the distinct hosts `sh` of the walk, all among `U`: what the loop keeps -/
structure Walked (c : NtsCfg) (U sh : List Host) (st : NtsSt) : Prop where
  nd : sh.Nodup
  sub : ∀ x ∈ sh, x ∈ U
  good : Good c st
  j : J sh st
  vis : Visited c sh st

theorem walked_init (c : NtsCfg) (U : List Host) : Walked c U [] ntsInit :=
  ⟨List.nodup_nil, fun _ h => absurd h List.not_mem_nil, good_init c, j_init, fun _ h => absurd h List.not_mem_nil⟩

theorem Walked.step {c : NtsCfg} {U sh : List Host} {st : NtsSt} (w : Walked c U sh st) (h : Host) (hU : h ∈ U)
    (hr : h.rack ∈ c.racks h.dc) (hnew : h ∉ sh) : Walked c U (sh ++ [h]) (ntsStep c st h) :=
  ⟨nodup_snoc w.nd hnew, fun x hx => (List.mem_append.mp hx).elim (w.sub x) (fun hx => List.mem_singleton.mp hx ▸ hU),
    good_step c st h w.good, j_step c sh h st w.good w.j hnew, visited_step c sh h st hr w.good w.vis⟩

/-- the loop from the start over hosts of `U` whose racks `dcRacks` knows -/
theorem walked_walk (c : NtsCfg) (U l : List Host) (hl : ∀ x ∈ l, x ∈ U ∧ x.rack ∈ c.racks x.dc) :
    ∃ sh, Walked c U sh (ntsWalk c ntsInit [] l) :=
  (ntsWalk_induct c (Walked c U) (fun x => x ∈ U ∧ x.rack ∈ c.racks x.dc) (fun _ _ h hq hnew w => w.step h hq.1 hq.2 hnew)
    l [] ntsInit hl (walked_init c U)).imp fun _ h => h.2

theorem rot_nodup {α : Type} (l : List α) (i : Nat) (h : l.Nodup) : (rot l i).Nodup :=
  (rot_perm l i).nodup_iff.mpr h

end C10NtsNodup

namespace C10
open Placement C10Lookup C10Simple C10Nts C10NtsNodup

/-- what `replicaMap` computes before the token loop: `dcRacks` from the hosts of the ring entries -/
abbrev cfgOf (rfs : List (Nat × Nat)) (tokens : List Entry) : NtsCfg := mkCfg rfs (tokens.map (·.2))

/-- the replica map the loop builds: one entry per ring token whose primary's DC has rf > 0 -/
def ntsDesc (rfs : List (Nat × Nat)) (tokens : List Entry) : ReplicaRing :=
  ((indexed tokens).filter (fun p => decide (rfOf rfs p.2.2.dc ≠ 0))).map
    (fun p => (p.2.1, (ntsReplicasAt (cfgOf rfs tokens) tokens p.1).replicas))

/-- the loop of ring position `i`: the invariant of the walk, and the primary first when its datacenter is replicated -/
theorem nts_at (rfs : List (Nat × Nat)) (tokens : List Entry) (i : Nat) (hi : i < tokens.length) :
    (∃ sh, Walked (cfgOf rfs tokens) (tokens.map (·.2)) sh (ntsReplicasAt (cfgOf rfs tokens) tokens i)) ∧
    (rfOf rfs tokens[i].2.dc ≠ 0 → (ntsReplicasAt (cfgOf rfs tokens) tokens i).replicas.head? = some tokens[i].2) := by
  have hk : ∀ x ∈ tokens.map (·.2), x ∈ tokens.map (·.2) ∧ x.rack ∈ (cfgOf rfs tokens).racks x.dc :=
    fun x hx => ⟨hx, rack_known rfs _ x hx⟩
  unfold ntsReplicasAt
  rw [map_rot]
  refine ⟨walked_walk _ _ _ (fun x hx => hk x ((mem_rot _ _ x).mp hx)), fun hrf => ?_⟩
  rw [rot_head _ i (by simpa using hi), List.getElem_map]
  exact walk_head (cfgOf rfs tokens) rfl _ _ hrf (hk _ (List.mem_map.mpr ⟨_, List.getElem_mem hi, rfl⟩)).2

theorem ntsDesc_entry {rfs : List (Nat × Nat)} {tokens : List Entry} {e : Int × List Host} (he : e ∈ ntsDesc rfs tokens) :
    ∃ (i : Nat) (hi : i < tokens.length) (sh : List Host),
      e = (tokens[i].1, (ntsReplicasAt (cfgOf rfs tokens) tokens i).replicas) ∧
      Walked (cfgOf rfs tokens) (tokens.map (·.2)) sh (ntsReplicasAt (cfgOf rfs tokens) tokens i) ∧
      e.2.head? = some tokens[i].2 := by
  obtain ⟨p, hp, rfl⟩ := List.mem_map.mp he
  obtain ⟨hi, hel⟩ := mem_indexed tokens p (List.mem_filter.mp hp).1
  obtain ⟨⟨sh, w⟩, hd⟩ := nts_at rfs tokens p.1 hi
  exact ⟨p.1, hi, sh, by rw [hel], w, hd (by rw [hel]; simpa using (List.mem_filter.mp hp).2)⟩

theorem ntsLoop_desc (rfs : List (Nat × Nat)) (tokens : List Entry) :
    ntsLoop (cfgOf rfs tokens) tokens (indexed tokens) [] = .ok (ntsDesc rfs tokens) := by
  rw [ntsLoop_ok (cfgOf rfs tokens) tokens (indexed tokens) []]
  · simp only [List.nil_append]; rfl
  · intro p hp hrf
    obtain ⟨hi, hel⟩ := mem_indexed tokens p hp
    obtain ⟨⟨_, w⟩, hd⟩ := nts_at rfs tokens p.1 hi
    exact ⟨w.good.nocrash, hel ▸ hd (hel ▸ hrf)⟩

theorem ntsDesc_length (rfs : List (Nat × Nat)) (tokens : List Entry)
    (hall : ∀ d ∈ (cfgOf rfs tokens).dcs, 0 < rfOf rfs d) : (ntsDesc rfs tokens).length = tokens.length := by
  unfold ntsDesc
  rw [List.length_map, List.filter_eq_self.mpr, indexed_length]
  intro p hp
  obtain ⟨hi, he⟩ := mem_indexed tokens p hp
  have hd : p.2.2.dc ∈ (cfgOf rfs tokens).dcs := by
    simp only [cfgOf, mkCfg, mem_toSet, List.mem_map]
    exact ⟨p.2.2, ⟨p.2, he ▸ List.getElem_mem hi, rfl⟩, rfl⟩
  simpa using Nat.ne_of_gt (hall _ hd)

theorem ntsDesc_hosts {rfs : List (Nat × Nat)} {tokens : List Entry} {e : Int × List Host} (he : e ∈ ntsDesc rfs tokens)
    (x : Host) (hx : x ∈ e.2) : x ∈ tokens.map (·.2) := by
  obtain ⟨i, _, sh, rfl, w, _⟩ := ntsDesc_entry he
  exact w.sub x (w.j.rp x hx)

end C10
