import Model.ClusterView
import Proofs.C16RefreshDeb
import Proofs.C16ViewPolicyNew
import Proofs.C16ViewHist
import Proofs.C16Queue
import Proofs.C16TokenMeta
import Proofs.C16
/-! # C16 — events, refreshes and their propagation to the connection pool and the selection policy

Model: `Model/ClusterView.lean` (the view of a Session: ring + pools + policy host lists + host states +
refresh requests; `handleNodeEvent` / `handleNodeUp` / `handleNodeDown` / `handleNodeConnected` /
`Session.removeHost` / `refreshRing` with its effects in program order / `GetHosts` row validation /
`ring.addOrUpdate` with `HostInfo.update` / the receive path of EVENT frames / the two debouncers), the code
as REPAIRED for KF-C16-2 … KF-C16-6 (props/C16.fix-*.diff). The ring part is `Model/Ring.lean` (theorems in
`Proofs/C16.lean`).
Lists standing for Go maps and copy-on-write host lists are compared as sets (`Same`, `SameSet`).

Four machines are spoken of (only the fourth touches another: its policy operations are those of the view's `Policy`):
the session's view (`View`, histories `runV` of `Proofs/C16ViewHist.lean`; helpers `C16View*`), the refresh debouncer (`RDeb`, `RGhost`; `C16RefreshDeb`), the event debouncer with the memory its
slices live in (`EvQueue`; `C16Queue`), the token-aware policy's metadata with the schema cache (`TokenMeta`; `C16TokenMeta`). -/
namespace C16
open Ring ClusterView

/-! ### status events: the last one of every address wins, in any dispatch order -/

/-- For every view whose ring indexes are consistent (`SInv`: true of every
reachable ring) and every batch of node events in which the hosts of two different addresses of the batch do
not share a connect address:
(1) the map built by the coalescing loop of `handleNodeEvent` holds for every address exactly its LAST
status in the batch;
(2) that map has one entry per address;
(3) dispatching these entries in ANY order (Go iterates the map in an unspecified order) gives the same
view (as sets);
(4) hence a batch is processed exactly like any batch with the same last status per address and the same
"contains a topology event" flag — e.g. the batch reduced to the last status event of every address. -/
theorem C16_status_last_wins (env : Env) (v : View) (b : List Ev)
    (hs : SInv v.ring) (hc : ConnSep v.ring (keys (coalesce b))) :
    (∀ a, lookup (coalesce b) a = lastStatus b a) ∧ (keys (coalesce b)).Nodup ∧
    (∀ evs, evs.Perm (coalesce b) → Same (v.dispatch env (hasTopology b) evs) (v.handleBatch env b)) ∧
    (∀ b', hasTopology b' = hasTopology b → (∀ a, lastStatus b' a = lastStatus b a) →
      Same (v.handleBatch env b') (v.handleBatch env b)) := by
  refine ⟨lookup_coalesce b, keys_coalesce_nodup b, fun evs hp => dispatch_perm env v _ hs hp (keys_coalesce_nodup b) hc,
    fun b' ht hl => ?_⟩
  show Same (v.dispatch env (hasTopology b') _) _
  rw [ht]
  exact dispatch_perm env v _ hs (perm_of_lookup_eq _ _ (keys_coalesce_nodup b') (keys_coalesce_nodup b)
    fun a => by rw [lookup_coalesce, lookup_coalesce, hl]) (keys_coalesce_nodup b) hc

/-- non-vacuity ("first status wins" would give another answer): UP, DOWN for one address is DOWN -/
example :
    let env : Env := ⟨fun _ => false, fun _ => true, false, false, false⟩
    let v := (View.empty.addInitial env ⟨1, 1, 7, 7⟩).addInitial env ⟨2, 2, 8, 8⟩
    coalesce [.status .up 7, .status .down 7, .topology, .status .down 8, .status .up 8] = [(7, .down), (8, .up)] ∧
    (v.handleBatch env [.status .up 7, .status .down 7]).down = [1] ∧
    hasKey (v.handleBatch env [.status .up 7, .status .down 7]).pools 1 = false := by decide

/-! ### processing events never dereferences a nil host -/

/-- FULL theorem since the repair of KF-C16-5 (before it, when
`HostInfo.update` changed the node address of a stored host, the by-address index kept the
old key, and after the host's removal `getHostByIP` answered (nil, true), which `handleNodeDown` /
`handleNodeUp` dereferenced — a panic on a bare goroutine).
For EVERY history of node-event batches, single UP/DOWN events, connect successes and failures, refreshes
(ANY reported lists), host removals, initial hosts and control-connection (re)connects whose
`ring.addOrUpdate` changes the address fields of a stored host in place (to ANY values), no handler
dereferences a nil *HostInfo. -/
theorem C16_events_no_panic (env : Env) (ops : List VOp) : (runV env View.empty ops).crashed = false :=
  (runV_sim env ops View.empty SInv_empty).2

/-- (the oracle `evnostale` of the differential run): after EVERY history of events, refreshes,
connects, removals and in-place address updates the by-address index of the session's ring has no stale entry — the
answer of the oracle is "ok" -/
theorem C16_view_no_stale (env : Env) (ops : List VOp) (n : Nat) : (runV env View.empty ops).ring.staleAddrs n = [] := by
  obtain ⟨⟨hops, e⟩, _⟩ := runV_sim env ops View.empty SInv_empty
  rw [e]
  exact C16_stale_nil hops n

/-- non-vacuity: a history with a batch for known, unknown and removed addresses, a refresh that replaces and removes
hosts, a connect and a connect failure, and the history of KF-C16-5: the stored host's node address is changed in
place (7 → 17), the host removed, a DOWN and an UP for its old and new address arrive -/
example :
    let env : Env := ⟨fun h => h.id == 9, fun _ => true, false, false, false⟩
    (runV env View.empty [.addInitial ⟨1, 1, 7, 7⟩, .addInitial ⟨2, 2, 8, 8⟩, .batch [.status .down 8, .status .up 99, .topology],
      .refresh [⟨3, 1, 17, 17⟩, ⟨4, 3, 5, 5⟩], .batch [.status .up 8, .status .down 7, .status .down 17], .connected 3,
      .connectFailed 1, .removeHost 3, .down 5]).crashed = false ∧
    (runV env View.empty [.addInitial ⟨1, 1, 7, 7⟩, .addInitial ⟨2, 2, 8, 8⟩, .batch [.status .down 8, .status .up 99, .topology],
      .refresh [⟨3, 1, 17, 17⟩, ⟨4, 3, 5, 5⟩]]).refreshReq = 2 ∧
    (runV env View.empty [.addInitial ⟨1, 1, 7, 7⟩, .update 1 17 7]).ring.getHostByIP 17 = (some ⟨1, 1, 17, 7⟩, true) ∧
    (runV env View.empty [.addInitial ⟨1, 1, 7, 7⟩, .update 1 17 7, .removeHost 1]).ring.getHostByIP 7 = (none, false) ∧
    (runV env View.empty [.addInitial ⟨1, 1, 7, 7⟩, .update 1 17 7, .removeHost 1, .down 7, .up 17]).refreshReq = 1 := by decide

/-- regression (kernel-checked): the code BEFORE the repair of KF-C16-5 (`View.updateStoredOld`: the by-address index
keeps the old key) on that history — replay on the real code: `evhost 1 1 7 7 1 p`, `evhost 2 1 8 7 1 l`, `evadd 1`,
`evaddu 2`, `evrm 1`, `evdown 7`: `getHostByIP 7` answers (nil, true) and both handlers dereference it -/
example :
    let env : Env := ⟨fun _ => false, fun _ => true, false, false, false⟩
    let v0 := View.empty.addInitial env ⟨1, 1, 7, 7⟩
    let a := (Addrs.mk 7 0 7).update (Addrs.mk 0 8 7)
    let v1 := v0.updateStoredOld 1 a.nodeAddr a.conn
    let v2 := v1.removeHost env ⟨1, 1, 8, 7⟩
    v2.ring.getHostByIP 7 = (none, true) ∧ (v2.nodeDown env 7).crashed = true ∧ (v2.nodeUp env 7).crashed = true := by
  decide

/-! ### a node reported down is not offered until it is connected again -/

/-- what the query executor needs to use a host: the policy offers it (`Pick` iterates the policy's
lists), its state is up (`roundRobbin` / the executor skip hosts that are not `IsUp()`), it has a pool -/
def offered (v : View) (h : RHost) : Prop := h ∈ v.pol.all ∧ h.obj ∉ v.down ∧ hasKey v.pools h.id = true

/-- the op is `handleNodeConnected` for the object `o` -/
def connects (v : View) (o : Nat) : VOp → Prop
  | .connected id => ∃ h, lookup v.pools id = some h ∧ h.obj = o
  | _ => False

/-- along the run no connect of object `o` succeeds -/
def NoConnect (env : Env) (o : Nat) : View → List VOp → Prop
  | _, [] => True
  | v, op :: t => ¬ connects v o op ∧ NoConnect env o (applyV env v op) t

theorem down_applyV (env : Env) (v : View) (op : VOp) (o : Nat) (ho : o ∈ v.down) (hc : ¬ connects v o op) :
    o ∈ (applyV env v op).down := by
  refine applyV_preserves env (fun w => o ∈ w.down) (fun _ h => h) ?_ v op ?_ ?_ ?_ ?_ ?_ ho
  · exact fun w e h => (effectOf_frame env w e).2.1 o h
  · intro id hop h
    subst hop
    show o ∈ (v.connected env id).down
    fun_cases View.connected env v id with
    | case1 => exact h
    | case2 x hl | case3 x hl =>   -- only the object of the pool's host leaves `down`, and that is not `o`
      exact List.mem_filter.mpr ⟨h, by simpa using fun e : o = x.obj => hc ⟨x, hl, e.symm⟩⟩
  · exact fun rep h => refreshV_preserves env (fun w => o ∈ w.down) (fun _ _ hp _ => hp) (fun _ _ hp => hp) v h rep
  · exact fun _ _ _ h => h
  · intro x h
    rw [addInitial_eq]
    split <;> exact h
  · exact fun id a c h => updateStoredV_down v id a c ▸ h

/-- A DOWN event for the address of a known host `h` that the filter accepts:
immediately its object is marked down, its pool is gone and it is in none of the fallback policy's lists;
and after ANY further history of events, refreshes, removals, in-place address updates, connects of OTHER
hosts and connect failures — as long as no connect of this host object succeeds — no reference to this object is offered
for queries. -/
theorem C16_down_not_offered (env : Env) (v : View) (ha : Agree env v) (a : Nat) (h : RHost)
    (hg : v.ring.getHostByIP a = (some h, true)) (hf : env.filter h = false) :
    let v' := v.nodeDown env a
    (h.obj ∈ v'.down ∧ hasKey v'.pools h.id = false ∧ h ∉ v'.pol.loc ∧ h ∉ v'.pol.rem) ∧
    ∀ ops, NoConnect env h.obj v' ops → ∀ x, x.obj = h.obj → ¬ offered (runV env v' ops) x := by
  intro v'
  have hv' : v' = { v with down := h.obj :: v.down.filter (· != h.obj), pol := v.pol.dn env h, pools := erase v.pools h.id } := by
    simp only [v', View.nodeDown, hg, hf, Bool.false_eq_true, ↓reduceIte]
  have hd : h.obj ∈ v'.down := by rw [hv']; exact List.mem_cons_self
  refine ⟨⟨hd, ?_, ?_, ?_⟩, ?_⟩
  · rw [hv']
    cases hk : hasKey (erase v.pools h.id) h.id with
    | false => rfl
    | true => exact absurd rfl ((hasKey_erase _ _ _).mp hk).2
  · rw [hv']; exact (fbRemove_not_mem env v.pol ha.placed h).1
  · rw [hv']; exact (fbRemove_not_mem env v.pol ha.placed h).2
  · intro ops hn x hx hoff
    exact hoff.2.1 (hx ▸ foldl_guarded (applyV env) (NoConnect env h.obj) (h.obj ∈ ·.down)
      (fun w op _ hn hw => ⟨down_applyV env w op h.obj hw hn.1, hn.2⟩) ops v' hn hd)

/-- non-vacuity: DOWN, then UP (pool and policy entry come back) — still not offered; offered after the connect -/
example :
    let env : Env := ⟨fun _ => false, fun _ => true, false, false, false⟩
    let h : RHost := ⟨1, 1, 7, 7⟩
    let v := View.empty.addInitial env h
    let w := runV env (v.nodeDown env 7) [.up 7]
    h ∈ w.pol.all ∧ hasKey w.pools 1 = true ∧ w.down = [1] ∧ (w.connected env 1).down = [] := by decide

/-! ### refresh requests: an UP for an unknown address asks for a refresh; bursts ask for few -/

/-- `handleNodeUp` for an address the ring does not know requests a ring
refresh and changes nothing else -/
theorem C16_unknown_up_requests_refresh (env : Env) (v : View) (a : Nat) (x : Option RHost)
    (hg : v.ring.getHostByIP a = (x, false)) : v.nodeUp env a = { v with refreshReq := v.refreshReq + 1 } := by
  unfold View.nodeUp; rw [hg]

/-- the number of refresh requests of a batch, exactly: one for any number of topology events (unless
disabled) plus one per address whose LAST status is UP and which the ring does not know -/
theorem C16_batch_refresh_requests (env : Env) (v : View) (b : List Ev) (ha : Agree env v) (hc : v.crashed = false) :
    (v.handleBatch env b).refreshReq =
      v.refreshReq + (if (hasTopology b && !env.noTopo) = true then 1 else 0) +
        (if env.noStatus = true then 0 else ((coalesce b).filter (unknownUp v.ring)).length) := by
  obtain ⟨v1, hr, hcr, hq, hd⟩ := dispatch_eq env v (hasTopology b)
  rw [View.handleBatch, hd]
  split
  · rw [hq]; rfl
  · rw [foldl_status_eq]
    have := foldl_req_eq env ((coalesce b).map (effectOf env v1.ring)) (by
      intro f hf
      obtain ⟨e, _, rfl⟩ := List.mem_map.mp hf
      exact effectOf_noCrash env v1.ring (by rw [hr]; exact ha.sinv) e) v1 (hcr.trans hc)
    rw [this.1, reqSum_effects, hq, hr]

/-- (handler level), no hypothesis at all: a batch of ANY size requests at
most 1 + (number of distinct addresses whose last status is UP and which the ring does not know) refreshes -/
theorem C16_events_bounded_refreshes (env : Env) (v : View) (b : List Ev) :
    (v.handleBatch env b).refreshReq ≤ v.refreshReq + 1 + ((coalesce b).filter (unknownUp v.ring)).length := by
  obtain ⟨v1, hr, _, hq, hd⟩ := dispatch_eq env v (hasTopology b)
  have hq' : v1.refreshReq ≤ v.refreshReq + 1 := by
    rw [hq]; exact Nat.add_le_add_left (by split <;> decide) _
  rw [View.handleBatch, hd]
  split
  · omega
  · rw [foldl_status_eq]
    have := foldl_req_le env ((coalesce b).map (effectOf env v1.ring)) v1
    rw [reqSum_effects] at this
    rw [hr] at this ⊢
    omega

/-- a batch of n ≥ 1 topology events (NEW_NODE / REMOVED_NODE / MOVED_NODE, any
mixture) requests exactly one refresh and changes nothing else -/
theorem C16_topology_one_refresh (env : Env) (v : View) (b : List Ev) (hb : ∀ e ∈ b, e = .topology) (hne : b ≠ [])
    (ht : env.noTopo = false) : v.handleBatch env b = { v with refreshReq := v.refreshReq + 1 } := by
  -- topology events leave the map of status events as it is
  have hco : ∀ m, b.foldl coalesceStep m = m := fun m =>
    b.foldlRecOn (motive := (· = m)) _ rfl fun _ h e he => by cases hb e he; exact h
  have htopo : hasTopology b = true := by
    cases b with
    | nil => exact absurd rfl hne
    | cons e t => cases hb e List.mem_cons_self; rfl
  unfold View.handleBatch View.dispatch coalesce
  rw [hco, htopo, ht]
  simp only [Bool.not_false, Bool.and_self, ↓reduceIte, List.foldl_nil]
  split <;> rfl

/-- non-vacuity: 3 NEW_NODE / REMOVED_NODE events, UP for two unknown addresses (one of them twice, one followed by
DOWN), UP for a known one: 1 + 1 requests -/
example :
    let env : Env := ⟨fun _ => false, fun _ => true, false, false, false⟩
    let v := View.empty.addInitial env ⟨1, 1, 7, 7⟩
    let b : List Ev := [.topology, .status .up 50, .topology, .status .up 50, .status .up 60, .status .down 60, .topology, .status .up 7]
    (v.handleBatch env b).refreshReq = 2 ∧ ((coalesce b).filter (unknownUp v.ring)).length = 1 ∧
    (v.handleBatch env [.topology, .topology, .topology]).refreshReq = 1 := by decide

/-- (the refresh debouncer, all interleavings of requests, timer and flusher — requests
and timer expiries while the flusher is between its select and the mutex or inside refreshFn included;
logical time): from ANY state of the debouncer, if every `debounce()` of the run happens within one interval
of its start (and nobody calls `refreshNow()`), at most TWO refreshes are started in the whole run, however
long it is and however many requests it contains; from a quiet state (timer not armed, nothing pending,
flusher not on its way to a refresh) at most ONE. -/
theorem C16_refresh_debounced (I : Nat) (d : RDeb) (as : List RAct) (hr : ReqsBefore I (d.now + I) d as) :
    (rrun I d as).refreshes ≤ d.refreshes + 2 ∧
    (d.fired = false → d.nowPending = false → d.deadline = none → d.phase ≠ .woken →
      (rrun I d as).refreshes ≤ d.refreshes + 1) := by
  have h := rrun_phi I (d.now + I) as d (Nat.le_refl _) hr
  have h2 := phi_le_two (d.now + I) d
  refine ⟨by omega, fun hf hp hd hw => ?_⟩
  have := phi_quiet (d.now + I) d hf hp hd hw
  omega

/-- non-vacuity: five requests in one interval, the timer fires once, one refresh; two more requests WHILE that refresh
is running (still within the interval): one more refresh after it -/
example :
    let as : List RAct := [.debounce, .tick, .debounce, .debounce, .tick, .debounce, .debounce, .tick, .tick, .tick, .tick,
      .wakeT, .start, .done, .tick, .tick, .wakeT, .start]
    ReqsBefore 3 3 {} as ∧ (rrun 3 {} as).refreshes = 1 := by decide
/-- the bound 2 is reached: a timer expiry is in the channel, three requests arrive while the flusher is on its way to
the refresh and while the refresh is running -/
example :
    let d0 : RDeb := { fired := true }
    let as : List RAct := [.wakeT, .debounce, .start, .debounce, .tick, .debounce, .done, .tick, .tick, .tick,
      .wakeT, .start, .done, .tick, .tick, .tick, .tick, .wakeT, .wakeN, .start]
    ReqsBefore 3 3 d0 as ∧ (rrun 3 d0 as).refreshes = 2 := by decide

/-- (all schedules of requests, timer and flusher; `pre`, `post` arbitrary): after a
request — `debounce()` or `refreshNow()`, made in ANY reachable state: flusher in its select, between select
and mutex, or INSIDE refreshFn — at every later point of every schedule either a refresh has STARTED after
the request, or one is certainly still to come (`armed`: the flusher is on its way to it, a channel it
selects on holds a value, or the timer runs). In particular whenever the debouncer is not armed (e.g. quiet),
every request made so far has been followed by a refresh that started after it. -/
theorem C16_refresh_request_not_lost (I : Nat) (pre post : List RAct) (a : RAct) (ha : a = .debounce ∨ a = .refreshNow) :
    let d1 := rrun I {} (pre ++ [a])
    let d2 := rrun I d1 post
    (d1.refreshes < d2.refreshes ∨ d2.armed = true) ∧
    ((grun I {} (pre ++ a :: post)).d.armed = false → (grun I {} (pre ++ a :: post)).lost = []) := by
  refine ⟨?_, fun hq => served_lost_nil _ (grun_served I _ _ served_init) hq⟩
  -- the flusher invariant holds when the request is made, so the request leaves the debouncer armed
  have hb : Backed (rrun I {} pre) := foldl_inv Backed _ (fun d a => (rstep_facts I d a).backed) pre {} (fun h => nomatch h)
  have hd1 : rrun I {} (pre ++ [a]) = rstep I (rrun I {} pre) a := by rw [rrun_append]; rfl
  rw [hd1]
  exact rrun_armed I post _ (rstep_request_armed I _ a ha hb).2

/-- (progress / fairness): from EVERY state of the debouncer the continuation `drain`
(refreshFn returns, time passes until the timer fires, the flusher runs, refreshFn returns — no new request)
reaches a quiet state; with `C16_refresh_request_not_lost`: every request is followed by a refresh that starts
after it. -/
theorem C16_refresh_drain_quiet (I : Nat) (d : RDeb) : (rrun I d (dsched I d .drain)).quiet = true := by
  simp only [dsched, rrun_append]
  have h2 := fire_calm I _ (release_calm I d)
  exact release_quiet I _ h2.1 h2.2

/-- (all schedules): a caller of `refreshNow()` is never handed the result of a
refresh that had started before its call (the broadcaster it listens on is taken by the NEXT refresh start,
also when the call is made while a refresh is running), and in a quiet state every caller has its answer. -/
theorem C16_refresh_now_answered_by_later_refresh (I : Nat) (as : List RAct) :
    (grun I {} as).early = [] ∧ ((grun I {} as).d.quiet = true → (grun I {} as).unanswered = []) := by
  have h := grun_heard I as {} heard_init
  exact ⟨heard_early_nil _ h, heard_unanswered_nil _ (grun_served I as {} served_init) h⟩

/-- the oracles the unit-level harness evaluates on the REAL refreshDebouncer (op
`evdbserved` after `evdbdrain`: the requests not followed by a refresh start, the refreshNow() callers answered
too early or not at all) are empty in the model for every sequence of harness ops. -/
theorem C16_debouncer_oracle_ok (I : Nat) (ops : List DOp) :
    let g := dstep I (drun I {} ops) .drain
    g.lost = [] ∧ g.early = [] ∧ g.unanswered = [] ∧ g.d.quiet = true := by
  have hs := grun_served I (dsched I (drun I {} ops).d .drain) _ (drun_served I ops {} served_init)
  have hh := grun_heard I (dsched I (drun I {} ops).d .drain) _ (drun_heard I ops {} heard_init)
  have hq : (dstep I (drun I {} ops) .drain).d.quiet = true := by
    unfold dstep; rw [grun_d]; exact C16_refresh_drain_quiet I _
  exact ⟨served_lost_nil _ hs (quiet_not_armed _ hq), heard_early_nil _ hh, heard_unanswered_nil _ hs hh hq, hq⟩

/-- non-vacuity: a request while a refresh is running (the timer even fires during it), a `refreshNow()` during the
next one (answered by the third refresh): three refreshes, nothing lost -/
example :
    let g := drun 5 {} [.req, .fire, .req, .fire, .release, .now, .req, .drain]
    g.d.refreshes = 3 ∧ g.reqs = [0, 1, 2, 2] ∧ g.answers = [(2, 3)] ∧ g.lost = [] ∧ g.early = [] ∧ g.unanswered = [] ∧
    g.d.quiet = true := by decide

/-- what `early` is about: a variant (NOT the code) in which the flusher takes the broadcaster only when refreshFn has
returned would answer a `refreshNow()` made during refresh 1 with the result of refresh 1 -/
example : (RGhost.early { d := { refreshes := 1 }, reqs := [1], answers := [(0, 1)] }) = [0] := by decide

/-- the variant in which the flusher stops and drains the timer once
more AFTER refreshFn has returned (`drainAfterRefresh`) loses the request made while the refresh was running:
the debouncer ends quiet, the second request (made when 1 refresh had started) is never followed by a
refresh start — while the code that exists serves it with a second refresh on the same schedule. -/
theorem C16_cex_drain_after_refresh_loses_request :
    let as : List RAct := [.debounce, .tick, .tick, .tick, .wakeT, .start, .debounce, .done, .tick, .tick, .tick, .tick, .wakeT, .start, .done]
    let bad := grunWith drainAfterRefresh 3 {} as
    let good := grun 3 {} as
    bad.d.quiet = true ∧ bad.d.refreshes = 1 ∧ bad.lost = [1] ∧
    good.d.quiet = true ∧ good.d.refreshes = 2 ∧ good.lost = [] := by decide

/-! ### after a refresh the view follows the report -/

/-- FULL theorem since the repair of KF-C16-6 (before it, a report with a host id
twice aborted the refresh with ErrCannotFindHost: the rows after it were not processed, nothing was removed).
For every reachable view (`Agree`) and EVERY report
(of a host id reported twice the first accepted row counts), after `refreshRing`:
(1) the host ids of the ring are exactly the ids of the accepted reported hosts;
(2) the invariant `Agree` holds again, so that (3) every pool and (4) every policy entry belongs to an
accepted reported host — vanished and newly filtered hosts are gone from ring, pools and policy;
(5) every host id that is new in the ring has a pool (new nodes are connected to);
(6) the ring's object of every accepted reported host id carries the node address and connect address of
the first accepted row of that id (a node whose address changed is replaced). -/
theorem C16_view_follows_report (env : Env) (v : View) (ha : Agree env v) (reported : List RHost) :
    let r := v.refresh env reported
    (∀ id, id ∈ r.ring.ids ↔ ∃ h ∈ reported, env.filter h = false ∧ h.id = id) ∧
    Agree env r ∧
    (∀ e ∈ r.pools, ∃ h ∈ reported, env.filter h = false ∧ h.id = e.1) ∧
    (∀ x ∈ r.pol.all, ∃ h ∈ reported, env.filter h = false ∧ h.id = x.id) ∧
    (∀ id, id ∈ r.ring.ids → id ∉ v.ring.ids → hasKey r.pools id = true) ∧
    (∀ id h, firstRow env.filter reported id = some h → ∃ s, r.ring.getHost id = some s ∧ s.addr = h.addr ∧ s.caddr = h.caddr) := by
  intro r
  have hsim : r.ring = _ := refreshV_ring env v reported
  have hids : ∀ id, id ∈ r.ring.ids ↔ _ := hsim ▸ (C16_refresh_exact v.ring ha.sinv.wf env.filter reported).1
  have hag : Agree env r := agree_refresh env v ha reported
  refine ⟨hids, hag, fun e he => (hids e.1).mp (lookup_mem_keys _ _ _ (hag.pools e he)),
    fun x hx => (hids x.id).mp (lookup_mem_keys _ _ _ (hag.pol x hx)), refresh_fills_new env v reported, fun id h hh => ?_⟩
  rw [hsim]
  exact (C16_refresh_first_row_wins v.ring ha.sinv.wf ha.sinv.knodup env.filter reported id h hh).imp
    fun s hs => ⟨hs.1, hs.2.1, hs.2.2.1⟩

/-- non-vacuity: a node whose address changed, a vanished node, a new node, a filtered node, a host id reported twice -/
example :
    let env : Env := ⟨fun h => h.id == 9, fun _ => true, false, false, false⟩
    let a : RHost := ⟨1, 1, 7, 7⟩
    let b : RHost := ⟨2, 2, 8, 8⟩
    let b' : RHost := ⟨3, 2, 18, 18⟩
    let c : RHost := ⟨4, 3, 5, 5⟩
    let f : RHost := ⟨5, 9, 6, 6⟩
    let v := ((View.empty.addInitial env a).addInitial env b).addInitial env ⟨6, 4, 4, 4⟩
    let r := v.refresh env [a, b', ⟨7, 2, 8, 8⟩, c, f]
    r.ring.ids = [3, 2, 1] ∧ r.pools.map (·.1) = [1, 2, 3] ∧ r.pol.loc = [a, b', c] ∧
    r.ring.getHostByIP 18 = (some b', true) ∧ r.ring.getHostByIP 8 = (none, false) := by decide

/-- regression (kernel-checked): the code BEFORE the repair of KF-C16-6 (`View.refreshOld`) on a report with host id 2
twice — ErrCannotFindHost at the second row, the new node 4 after it is not added, the vanished node 3 not removed
(replay on the real code: `reset evc rr - 2 1:0:2:2:1:1:2;2:3:3:0:1:1:2;3:4:4:0:1:1:2`,
`evrefresh 1:0:2:2:1:1:2;2:3:3:0:1:1:2;2:5:5:0:1:1:2;4:6:6:0:1:1:2`); the repaired refresh follows the report -/
example :
    let env : Env := ⟨fun _ => false, fun _ => true, false, false, false⟩
    let v := ((View.empty.addInitial env ⟨1, 1, 2, 2⟩).addInitial env ⟨2, 2, 3, 3⟩).addInitial env ⟨3, 3, 4, 4⟩
    let rep : List RHost := [⟨11, 1, 2, 2⟩, ⟨12, 2, 3, 3⟩, ⟨13, 2, 5, 5⟩, ⟨14, 4, 6, 6⟩]
    (v.refreshOld env rep).2 = .errCannotFind ∧ (v.refreshOld env rep).1.ring.ids = [3, 2, 1] ∧
    (v.refresh env rep).ring.ids = [4, 2, 1] ∧ (v.refresh env rep).pools.map (·.1) = [1, 2, 4] := by decide

/-- FULL theorem since the repair of KF-C16-4. The policy's host lists are keyed by
CONNECT ADDRESS (`cowHostList.add` refuses a host whose connect address equals an entry's, `remove(ip)` drops
by connect address) while ring and pools are keyed by host id. Before the repair `refreshRing` added the
reported hosts BEFORE it removed the vanished ones and replaced moved hosts one by one: a node replaced by a
new host id on the same address, two nodes swapping addresses, a new node on an address another node moves
away from in the same report — the new object was refused by `policy.AddHost` (the previous owner of the
address was still listed) and the previous owner's removal then deleted the only entry of that address.
For every reachable view and EVERY report, after `refreshRing` every object of the ring that was not the
ring's object of its host id before (a new node, or the new object of a node whose address changed) is in
the policy's host lists — the token-aware list when the policy is token aware, and the fallback's local or
remote list — provided no OTHER accepted reported host has its connect address (a list keyed by connect
address cannot hold both; no cluster reports two nodes on one address). -/
theorem C16_new_host_in_policy (env : Env) (v : View) (ha : Agree env v) (reported : List RHost)
    (s : RHost) (hs : (v.refresh env reported).ring.getHost s.id = some s) (hnew : v.ring.getHost s.id ≠ some s)
    (hown : OwnConn env reported s) :
    (env.tokenAware = true → s ∈ (v.refresh env reported).pol.ta) ∧
    (s ∈ (v.refresh env reported).pol.loc ∨ s ∈ (v.refresh env reported).pol.rem) := by
  refine ((refresh_newPol env v ha reported).inpol s hs ?_ hown : InPolicy env _ s)
  rw [removeAllV_ring]
  exact (lookup_pass1 ..).trans (kept_none_of_new v.ring ha.sinv.wf _ _ s (refreshV_ring env v reported ▸ hs) hnew)

/-- non-vacuity: the history of KF-C16-4 (node 2 at address 8 replaced by host id 3 on the same address), two nodes
swapping their addresses, and a new node on the address another node moves away from in the same report, reported in
the order that defeated the old loop — every new object is in the policy after the refresh -/
example :
    let env : Env := ⟨fun _ => false, fun _ => true, true, false, false⟩
    let a : RHost := ⟨1, 1, 7, 7⟩
    let b : RHost := ⟨2, 2, 8, 8⟩
    let v := (View.empty.addInitial env a).addInitial env b
    let c : RHost := ⟨3, 3, 8, 8⟩
    let a' : RHost := ⟨4, 1, 8, 8⟩
    let b' : RHost := ⟨5, 2, 7, 7⟩
    let n : RHost := ⟨6, 4, 7, 7⟩
    let a'' : RHost := ⟨7, 1, 9, 9⟩
    OwnConn env [a, c] c ∧ (v.refresh env [a, c]).pol.loc = [a, c] ∧ (v.refresh env [a, c]).pol.ta = [a, c] ∧
    OwnConn env [a', b'] a' ∧ OwnConn env [a', b'] b' ∧ (v.refresh env [a', b']).pol.loc = [a', b'] ∧
    OwnConn env [n, a'', b] n ∧ (v.refresh env [n, a'', b]).pol.loc = [b, n, a''] := by decide

/-- regression (kernel-checked): the code BEFORE the repair of KF-C16-4 (`View.refreshOld`) on these three reports
(replay of the first on the real code: `reset evc rr - 2 1:0:2:2:1:1:2;2:3:3:0:1:1:2` then
`evrefresh 1:0:2:2:1:1:2;3:3:3:0:1:1:2`): the new objects are in the ring and have a pool, but the policy has no entry
for them -/
example :
    let env : Env := ⟨fun _ => false, fun _ => true, false, false, false⟩
    let a : RHost := ⟨1, 1, 7, 7⟩
    let b : RHost := ⟨2, 2, 8, 8⟩
    let v := (View.empty.addInitial env a).addInitial env b
    let c : RHost := ⟨3, 3, 8, 8⟩
    let a' : RHost := ⟨4, 1, 8, 8⟩
    let b' : RHost := ⟨5, 2, 7, 7⟩
    let n : RHost := ⟨6, 4, 7, 7⟩
    let a'' : RHost := ⟨7, 1, 9, 9⟩
    let r := v.refreshOld env [a, c]
    r.2 = .ok ∧ r.1.ring.getHost 3 = some c ∧ hasKey r.1.pools 3 = true ∧ r.1.pol.all = [a] ∧
    (v.refreshOld env [a', b']).1.ring.ids = [2, 1] ∧ (v.refreshOld env [a', b']).1.pol.all = [b'] ∧
    (v.refreshOld env [n, a'', b]).1.ring.ids = [1, 4, 2] ∧ (v.refreshOld env [n, a'', b]).1.pol.all = [b, a''] := by decide

/-! ### the event debouncer's buffer -/

/-- a burst of at most `eventBufferSize` (1000) frames within one debounce window is
handed to `handleNodeEvent` unchanged. The full statement (for every burst) FAILS for the code: `eventDebouncer.debounce`
drops every frame after the first 1000 of a window ("buffer full, dropping event frame"): the NEWEST events are lost,
so the last status of an address may never be processed (KF-C16-7, `C16_cex_event_buffer_drops_last`). -/
theorem C16_event_buffer_partial (burst : List Ev) (h : burst.length ≤ eventBufferSize) : debounced burst = burst := by
  rw [debounced_eq, List.take_of_length_le h]

example : debounced [.topology, .status .up 7, .status .down 7] = [.topology, .status .up 7, .status .down 7] :=
  C16_event_buffer_partial _ (by decide)

/-- the excluded case is real: 1000 × UP then DOWN for one address within one window — the DOWN is dropped and
the batch is processed as UP (replay on the real eventDebouncer: `evdeb 1000 u7,d7` delivers 1000 of 1001 frames) -/
theorem C16_cex_event_buffer_drops_last :
    let burst := List.replicate 1000 (Ev.status .up 7) ++ [Ev.status .down 7]
    lastStatus burst 7 = some .down ∧ (debounced burst).length = 1000 ∧ lastStatus (debounced burst) 7 = some .up := by
  intro burst
  have hlen : (List.replicate 1000 (Ev.status .up 7)).length = eventBufferSize := List.length_replicate
  have hd : debounced burst = List.replicate 1000 (Ev.status .up 7) := by rw [debounced_eq]; exact List.take_left' hlen
  refine ⟨lastStatus_append_status _ _ _, ?_, ?_⟩
  · rw [hd]; exact hlen
  · rw [hd]; exact lastStatus_replicate 1000 .up 7 (by omega)

/-! ### EVENT frames reach the debouncer in wire order (repair of KF-C16-2) -/

/-- since the repair of KF-C16-2 (`Conn.recv` calls `handleEvent` itself instead of
starting a goroutine per EVENT frame, which let the frames reach the debouncer in any order: UP, DOWN could be
processed as DOWN, UP). For every sequence of frames read from the control connection within one debounce window
(node events, schema events and responses interleaved in any way) with at most `eventBufferSize` node events (the
bound is KF-C16-7, open):
(1) the batch handed to `handleNodeEvent` is exactly the node events IN WIRE ORDER;
(2) hence the status `handleNodeEvent` dispatches for an address is the LAST status of that address ON THE WIRE. -/
theorem C16_wire_order_last_wins (wire : List WireFrame) (h : (wireEvents wire).length ≤ eventBufferSize) :
    recvBuffer wire = wireEvents wire ∧ ∀ a, lookup (coalesce (recvBuffer wire)) a = lastStatus (wireEvents wire) a := by
  have h1 : recvBuffer wire = wireEvents wire := by
    unfold recvBuffer
    rw [recvBuffer_eq]
    exact C16_event_buffer_partial _ h
  refine ⟨h1, fun a => ?_⟩
  rw [h1]
  exact lookup_coalesce _ a

/-- non-vacuity, and regression (kernel-checked): UP then DOWN for address 7 on the wire, a response in between — DOWN
wins; before the repair the two goroutines could run in the other order (`recvBufferOld` with schedule [1, 0]) and UP
won: the node stayed offered although the cluster last reported it DOWN (replay on the real code: `e2eorder 200`) -/
example :
    let wire : List WireFrame := [.nodeEvent (.status .up 7), .response 3, .schemaEvent, .nodeEvent (.status .down 7)]
    recvBuffer wire = [.status .up 7, .status .down 7] ∧ lookup (coalesce (recvBuffer wire)) 7 = some .down ∧
    recvBufferOld wire [1, 0] = [.status .down 7, .status .up 7] ∧ lookup (coalesce (recvBufferOld wire [1, 0])) 7 = some .up := by
  decide

/-! ### which rows of system.peers become hosts -/

/-- FULL theorem since the repair of KF-C16-3 (before it a NULL host_id cell became the
host id "00000000-0000-0000-0000-000000000000" and passed `hostId == ""`): on
EVERY row `isValidPeer` as evaluated by the code is the property's notion of a valid
peer row — all of rpc_address, host_id, data_center, rack, tokens present -/
theorem C16_valid_peers (r : Row) : r.validPeer = r.validPeerSpec := by
  -- De Morgan; `x != 0` is `!(x == 0)` by definition
  simp only [Row.validPeer, Row.validPeerSpec, bne, Bool.not_or]

/-- non-vacuity, and regression (kernel-checked; replay on the real code: `reset evc rr - 2 1:0:2:2:1:1:2` then
`evrefresh 1:0:2:2:1:1:2;0:5:5:0:1:1:2`): a peers row with a NULL host_id and everything else present is rejected now;
the test before the repair (`Row.validPeerOld`) accepted it -/
example :
    let row : Row := ⟨0, 5, 5, 0, 1, 1, 2⟩
    row.validPeerSpec = false ∧ row.validPeer = false ∧ row.validPeerOld = true ∧
    getHosts ⟨1, 0, 2, 2, 1, 1, 2⟩ [row, ⟨3, 6, 6, 0, 1, 1, 2⟩] 10 = some [⟨10, 1, 2, 2⟩, ⟨12, 3, 6, 6⟩] := by decide

/-! ### the oracles evaluated by the harness on the real snapshots: the model's answer is "ok" -/

theorem subsetB_iff (l1 l2 : List Nat) : subsetB l1 l2 = true ↔ ∀ x ∈ l1, x ∈ l2 := by
  simp [subsetB, List.all_eq_true]

/-- the oracle "the view follows the report" finds nothing when its six clauses hold, here in `Prop` form and by name -/
theorem followsViolations_nil (env : Env) (prevIds : List Nat) (v : View) (reported : List RHost)
    (idsSub : ∀ id ∈ v.ring.ids, id ∈ acceptedIds env.filter reported)
    (idsSup : ∀ id ∈ acceptedIds env.filter reported, id ∈ v.ring.ids)
    (pools : ∀ e ∈ v.pools, e.1 ∈ acceptedIds env.filter reported)
    (pol : ∀ x ∈ v.pol.all, x.id ∈ acceptedIds env.filter reported)
    (fresh : ∀ id ∈ v.ring.ids, id ∉ prevIds → hasKey v.pools id = true)
    (stored : ∀ h, firstRow env.filter reported h.id = some h → v.storedMatches h = true) :
    v.followsViolations env prevIds reported = [] := by
  unfold View.followsViolations
  dsimp only
  -- clauses 1 … 6 in the order of the oracle; the `rw` leaves them as goals last to first
  rw [if_pos, if_pos, if_pos, if_pos, if_pos, if_pos]
  · rfl
  · rw [List.all_eq_true]
    intro h _
    by_cases hf : lookup ((reported.filter (fun h => !env.filter h)).map (fun x => (x.id, x))) h.id = some h
    · rw [stored h (by unfold firstRow; rw [← lookup_map_id]; exact hf), Bool.or_true]
    · simp [hf]
  · rw [List.all_eq_true]
    intro id hid
    have := List.mem_filter.mp hid
    exact fresh id this.1 (by simpa using this.2)
  · rw [subsetB_iff]; intro x hx
    obtain ⟨e, he, rfl⟩ := List.mem_map.mp hx
    exact pol e he
  · rw [subsetB_iff]; intro x hx
    obtain ⟨e, he, rfl⟩ := List.mem_map.mp hx
    exact pools e he
  · rw [subsetB_iff]; exact idsSup
  · rw [subsetB_iff]; exact idsSub

/-- after a refresh of a reachable view with ANY report the oracle "the view follows the
report" (op `evfollows`) finds no violated clause -/
theorem C16_follows_oracle_ok (env : Env) (v : View) (ha : Agree env v) (reported : List RHost) :
    (v.refresh env reported).followsViolations env v.ring.ids reported = [] := by
  obtain ⟨hids, _, hpools, hpol, hnew, hst⟩ := C16_view_follows_report env v ha reported
  have hacc := mem_acceptedIds env.filter reported
  refine followsViolations_nil env _ _ reported (idsSub := fun x hx => (hacc x).mpr ((hids x).mp hx))
    (idsSup := fun x hx => (hids x).mpr ((hacc x).mp hx)) (pools := fun e he => (hacc e.1).mpr (hpools e he))
    (pol := fun x hx => (hacc x.id).mpr (hpol x hx)) (fresh := hnew) (stored := fun h hfr => ?_)
  obtain ⟨s, hs, h1, h2⟩ := hst h.id h hfr
  unfold View.storedMatches
  rw [hs]; simp [h1, h2]

/-- oracle "every object new in the ring is in the policy's lists" (op `evinpolicy`), under the
hypothesis of `C16_new_host_in_policy` for every new object -/
theorem C16_inpolicy_oracle_ok (env : Env) (v : View) (ha : Agree env v) (reported : List RHost)
    (hown : ∀ e ∈ (v.refresh env reported).ring.byId, e.2 ∉ v.ring.allHosts → OwnConn env reported e.2) :
    (v.refresh env reported).newNotInPolicy env v.ring.allHosts = [] := by
  have hag := agree_refresh env v ha reported
  unfold View.newNotInPolicy
  rw [List.map_eq_nil_iff, List.filter_eq_nil_iff]
  intro e he
  by_cases hold : e.2 ∈ v.ring.allHosts
  · simp [hold]
  · have hl := getHost_of_mem _ hag.sinv.wf hag.sinv.knodup e he
    have hnew : v.ring.getHost e.2.id ≠ some e.2 := by
      intro h
      exact hold (List.mem_map.mpr ⟨(e.2.id, e.2), find_key_mem h, rfl⟩)
    simp [(has_iff ..).mpr (C16_new_host_in_policy env v ha reported e.2 hl hnew (hown e he hold))]

/-- the code's reported peers are the property's reported peers -/
theorem peersHosts_spec (rows : List Row) (obj : Nat) (l : List RHost) (h : peersHosts rows obj = some l) :
    peersHostsSpec rows obj = l := by
  fun_induction peersHosts rows obj generalizing l with
  | case1 => cases h; rfl
  | case2 r t obj x l' hl' hx ih =>
    cases h
    simp only [peersHostsSpec, hx, ih l' hl', ← C16_valid_peers r]
  | case3 => cases h

/-- FULL since the repair of KF-C16-3: whenever `GetHosts` returns hosts (no
row without any usable address, for which `hostInfoFromMap` returns an error), the hosts it reports are the property's
reported hosts: the local host plus the peers rows with all of rpc_address, host_id, data_center, rack, tokens -/
theorem C16_reported_is_spec (loc : Row) (peers : List Row) (obj0 : Nat) (l : List RHost)
    (h : getHosts loc peers obj0 = some l) : getHostsSpec loc peers obj0 = l := by
  unfold getHosts at h
  split at h
  · next x l' hx hl' => cases h; simp only [getHostsSpec, hx, peersHosts_spec peers _ l' hl']
  · cases h

/-- objects that are down are not offered (op `evnotoffered`; that the tracked
objects — reported DOWN, not connected since — ARE down is `C16_down_not_offered`) -/
theorem C16_not_offered_oracle_ok (v : View) (tracked : List Nat) (ht : ∀ o ∈ tracked, o ∈ v.down) :
    v.offeredObjs tracked = [] := by
  unfold View.offeredObjs
  rw [List.filter_eq_nil_iff]
  intro o ho
  have := ht o ho
  simp [this]

/-- every view reachable from a new session by events, refreshes, connects, removals and in-place address updates
satisfies `Agree` (`LocStable`: the locality of an object — its data centre — does not depend on its address fields) -/
theorem C16_view_invariant (env : Env) (hloc : LocStable env) (ops : List VOp) : Agree env (runV env View.empty ops) :=
  foldl_inv (Agree env) _ (agree_applyV env hloc) ops _ (agree_empty env)

/-! ### event-debouncer schedules: events arriving between a flush and the start of its handler, several handlers
pending at once (Model/EventQueue.lean: the debouncer with the memory its slices live in; helper lemmas in
Proofs/C16Queue.lean) -/

open EvQueue in
/-- For EVERY schedule of the node-event debouncer — frames arriving (`debounce`), the
flusher flushing (`fire`), handler goroutine `k` getting the CPU and reading the frames it was handed (`run k`), in
any interleaving: events that arrive after a flush and BEFORE the handler of that flush has run, any number of
handlers pending at once, handlers run in any order — and for every growth policy of `append`: what the handlers
see, in the order they run, is exactly what the value-level specification says: handler `k` sees the frames that
were in the buffer when flush `k` happened, whatever arrived meanwhile. (Memory-level: `flush` leaves `e.events`
on a NEW backing array, no later `append` writes into an array a pending handler holds.) -/
theorem C16_event_batches_intact (grow : Nat → Nat) (as : List QAct) :
    (qrun grow {} as).handled = (srun {} as).handled ∧ (qrun grow {} as).intact (srun {} as) = true := by
  have h := (C16Queue.sim_run grow as {} {} C16Queue.sim_init).handled
  exact ⟨h, by simp [Q.intact, h]⟩

open EvQueue in
/-- For every schedule: (1) the batches of the flushes so far, in order, followed by the
frames still buffered are exactly the frames the debouncer ACCEPTED (all of them while no window exceeds
`eventBufferSize`: second conjunct; the bound is KF-C16-7, open) — nothing is lost, duplicated or reordered; (2) every handler
started so far, pending or done, holds / has seen the batch of its own flush; (3) the handlers pending or done are
the handlers of the flushes `0 … started-1`, each exactly once. -/
theorem C16_event_handled_once (grow : Nat → Nat) (as : List QAct) :
    let q := qrun grow {} as
    let s := srun {} as
    s.flushed.flatten ++ s.buf = EvQueue.accepted as ∧
    (C16Queue.WindowsBounded false 0 as → EvQueue.accepted as = C16Queue.frames as) ∧
    (∀ p ∈ q.handled, s.flushed[p.1]? = some p.2) ∧
    ((q.handled.map (·.1)) ++ (q.pending.map (·.1))).Perm (List.range q.started) := by
  intro q s
  have hsim := C16Queue.sim_run grow as {} {} C16Queue.sim_init
  have hinv := C16Queue.sinv_run as {} C16Queue.sinv_init
  refine ⟨?_, C16Queue.accepted_all as false 0, ?_, ?_⟩
  · have := C16Queue.flushed_accepted as {}
    simpa [EvQueue.accepted] using this
  · intro p hp
    have hp' : p ∈ s.handled := hsim.handled ▸ hp
    exact hinv.batches p (List.mem_append_left _ hp')
  · have h1 : q.handled.map (·.1) = s.handled.map (·.1) := by rw [hsim.handled]
    have h2 : q.pending.map (·.1) = s.pending.map (·.1) := by
      rw [← hsim.pending, List.map_map]; rfl
    rw [h1, h2, hsim.started, ← List.map_append]
    exact hinv.once

open EvQueue in
/-- For EVERY schedule with a `stop` (Session.Close) anywhere in it — while frames are
buffered, while handlers of earlier flushes are pending, followed by any frames, timer expiries and handler runs —:
(1) no handler goroutine is started after `stop` has returned (the flushes are exactly those before it);
(2) every handler of a flush BEFORE the stop, whenever it runs (before or after the stop), still sees exactly the batch
of its flush (`C16_event_batches_intact` holds for schedules with `stop`);
the frames buffered at the stop or debounced after it are never delivered (the session is closing). -/
theorem C16_event_stop_quiesces (grow : Nat → Nat) (pre post : List QAct) :
    (qrun grow {} (pre ++ .stop :: post)).started = (qrun grow {} pre).started ∧
    (srun {} (pre ++ .stop :: post)).flushed = (srun {} pre).flushed ∧
    (qrun grow {} (pre ++ .stop :: post)).handled = (srun {} (pre ++ .stop :: post)).handled := by
  have h1 := C16Queue.sim_run grow (pre ++ .stop :: post) {} {} C16Queue.sim_init
  have h0 := C16Queue.sim_run grow pre {} {} C16Queue.sim_init
  have hsplit : srun {} (pre ++ .stop :: post) = srun (sstep (srun {} pre) .stop) post := by
    simp [srun, List.foldl_append]
  have hs := C16Queue.stopped_run post (sstep (srun {} pre) .stop) rfl
  refine ⟨?_, ?_, h1.handled⟩
  · rw [h1.started, h0.started, hsplit]; exact hs.1
  · rw [hsplit]; exact hs.2

open EvQueue in
/-- non-vacuity: DOWN 1, flush 0, stop while handler 0 is pending, DOWN 2 and a timer expiry after the stop, handler 0 runs:
one handler, it saw DOWN 1; DOWN 2 is never flushed -/
example :
    let q := qrun goGrow {} [.debounce (.status .down 1), .fire, .stop, .debounce (.status .down 2), .fire, .run 0, .run 1]
    q.started = 1 ∧ q.handled = [(0, [.status .down 1])] ∧ q.pending = [] := by decide

open EvQueue in
/-- non-vacuity, an event between a flush and the start of its handler: DOWN 1 arrives, flush 0; DOWN 2 arrives BEFORE handler 0 has run;
handler 0 runs, flush 1, handler 1 runs: handler 0 saw DOWN 1, handler 1 saw DOWN 2 -/
example :
    (qrun goGrow {} [.debounce (.status .down 1), .fire, .debounce (.status .down 2), .run 0, .fire, .run 1]).handled
      = [(0, [.status .down 1]), (1, [.status .down 2])] := by decide

open EvQueue in
/-- (kernel-checked): the variant `e.events = e.events[:0]` of `flush`
(the buffer handed to the handler goroutine is used again) violates both theorems on that very schedule: handler 0
sees DOWN 2 — DOWN 1 is lost for good and DOWN 2 is handled twice -/
theorem C16_cex_event_buffer_reuse_clobbers_batch :
    let as := [QAct.debounce (.status .down 1), .fire, .debounce (.status .down 2), .run 0, .fire, .run 1]
    (qrunWith true goGrow {} as).handled = [(0, [.status .down 2]), (1, [.status .down 2])] ∧
    (qrunWith true goGrow {} as).handled ≠ (srun {} as).handled := by
  decide

/-! ### the token-aware policy's metadata (token ring + per-keyspace replica tables) follows the policy's host list
(Model/TokenMeta.lean; helper lemmas in Proofs/C16TokenMeta.lean) -/

open TokenMeta in
/-- For EVERY sequence of operations on the selection policy — AddHost, RemoveHost,
HostUp, HostDown, SetPartitioner, KeyspaceChanged, in any order, for any hosts, any keyspaces (known or not), i.e. in
particular those every history of refreshes, node events, connects and removals performs — the token ring of the
token-aware policy holds exactly the hosts of its host list, EVERY replica table (session keyspace and the others) is
the one computed from that list, and hence every host the metadata refers to (= every host a routed query can be
offered as a replica) is an entry of the policy's host list: a vanished node is gone from the replica tables as soon as
it is gone from the list. -/
theorem C16_token_meta_follows_policy (env : Env) (te : TEnv) (ops : List PolOp) :
    let s := prun env te {} ops
    (∀ l, s.tm.tring = some l → l = s.p.ta) ∧ (s.tm.part = true → s.tm.tring = some s.p.ta) ∧
    (∀ e ∈ s.tm.repl, e.2 = replicaHosts te s.p.ta) ∧ (∀ x ∈ s.tm.refs, x ∈ s.p.ta) := by
  intro s
  have h := C16TokenMeta.pinv_run env te ops {} (C16TokenMeta.tinv_init te)
  exact ⟨h.ring, h.haspart, fun e he => (h.repl e he).2, C16TokenMeta.refs_subset te _ _ h⟩

open TokenMeta in
/-- (the oracle `evrouted`): for every history of the session's view (events, refreshes, connects,
removals, in-place address updates) and every metadata that follows the view's token-aware list — as it does after
every sequence of policy operations (`C16_token_meta_follows_policy`) and along the driver's `follow` steps —, every
host the metadata refers to is the ring's CURRENT object of its host id: no routed query is offered a host the
session does not know. -/
theorem C16_routed_oracle_ok (env : Env) (hloc : LocStable env) (ops : List VOp) (te : TEnv) (tm : TMeta)
    (h : C16TokenMeta.TInv te tm (runV env View.empty ops).pol.ta) :
    tm.strayRefs (runV env View.empty ops).ring.allHosts = [] := by
  have hag := C16_view_invariant env hloc ops
  unfold TMeta.strayRefs
  rw [List.map_eq_nil_iff, List.filter_eq_nil_iff]
  intro x hx
  have hta := C16TokenMeta.refs_subset te tm _ h x hx
  have hall : x ∈ (runV env View.empty ops).pol.all := by
    unfold Policy.all
    exact List.mem_append_left _ (List.mem_append_left _ hta)
  have hl := hag.pol x hall
  have hm : (x.id, x) ∈ (runV env View.empty ops).ring.byId := find_key_mem hl
  have : x ∈ (runV env View.empty ops).ring.allHosts := List.mem_map.mpr ⟨(x.id, x), hm, rfl⟩
  simp [this]

open TokenMeta in
/-- the driver's step: when the view's token-aware list changes the metadata is recomputed for the new list -/
theorem C16_token_meta_follow (te : TEnv) (tm : TMeta) (ta ta' : List RHost) (h : C16TokenMeta.TInv te tm ta) :
    C16TokenMeta.TInv te (tm.follow te ta ta') ta' := by
  unfold TMeta.follow
  split
  · next he => subst he; exact h
  · exact C16TokenMeta.tinv_ringChanged te tm ta ta' h

/-- non-vacuity: two hosts, partitioner, the session keyspace 1 and keyspace 2 known; host 1 vanishes — ring and both
tables refer to host 2 only -/
example :
    let env : Env := ⟨fun _ => false, fun _ => true, true, false, false⟩
    let te : TokenMeta.TEnv := ⟨1, fun k => k == 1 || k == 2, fun _ => true⟩
    let h1 : RHost := ⟨1, 1, 7, 7⟩
    let h2 : RHost := ⟨2, 2, 8, 8⟩
    let s := TokenMeta.prun env te {} [.add h1, .add h2, .setPartitioner, .keyspaceChanged 2, .keyspaceChanged 3, .remove h1]
    s.tm.tring = some [h2] ∧ s.tm.repl = [(2, [h2]), (1, [h2])] ∧ s.tm.strayRefs [h2] = [] := by decide

/-- (kernel-checked): the variant of RemoveHost that recomputes the replica tables BEFORE it
rebuilds the token ring violates the theorem on that history: the table of the session keyspace still refers to the
vanished host 1 -/
theorem C16_cex_replicas_before_ring :
    let env : Env := ⟨fun _ => false, fun _ => true, true, false, false⟩
    let te : TokenMeta.TEnv := ⟨1, fun k => k == 1 || k == 2, fun _ => true⟩
    let h1 : RHost := ⟨1, 1, 7, 7⟩
    let h2 : RHost := ⟨2, 2, 8, 8⟩
    let s := [TokenMeta.PolOp.add h1, .add h2, .setPartitioner, .remove h1].foldl (TokenMeta.pstepWith true env te) {}
    s.p.ta = [h2] ∧ s.tm.strayRefs [h2] = [1] := by decide

/-! ### schema events (Session.handleSchemaEvent) -/

open TokenMeta in
/-- For EVERY history of schema-cache fills and batches of SCHEMA_CHANGE events
(keyspace / table / type / function / aggregate, any keyspaces, any batch sizes) handled by `handleSchemaEvent`:
(1) a keyspace's metadata is in the session's schema cache at the end iff the LATEST thing that happened to the
keyspace is a fill — no event of any kind leaves stale metadata cached; (2) the token-aware policy's metadata, which
the keyspace-level events update through KeyspaceChanged, still follows the policy's host list. -/
theorem C16_schema_events_invalidate (env : Env) (te : TEnv) (p : Policy) (hist : List SchemaOp) (ks : Nat) :
    (hist.foldl (schemaOp env te p) {}).cache.contains ks = cachedSpecRev ks hist.reverse ∧
    ∀ (s : SchemaSt) (b : List SchemaEv), C16TokenMeta.TInv te s.tm p.ta →
      C16TokenMeta.TInv te (handleSchemaEvent env te p s b).tm p.ta := by
  refine ⟨?_, fun s b => ?_⟩
  · have := C16TokenMeta.schema_cache_spec env te p ks hist.reverse
    rwa [List.reverse_reverse] at this
  -- only keyspace-level events touch the metadata, through KeyspaceChanged, a policy operation
  refine foldl_inv (fun s : SchemaSt => C16TokenMeta.TInv te s.tm p.ta) _ (fun s e h => ?_) b s
  cases e with
  | keyspace k =>
    show C16TokenMeta.TInv te (pstep env te ⟨p, s.tm⟩ (.keyspaceChanged k)).tm p.ta
    simp only [pstep, pstepWith]
    split
    · exact C16TokenMeta.tinv_updateReplicas te s.tm p.ta k h
    · exact h
  | other k => exact h

/-- non-vacuity: ks 1 and 2 cached; a table event for 1 and a keyspace event for 3; 2 is filled again — 1 is gone, 2 stays -/
example :
    let env : Env := ⟨fun _ => false, fun _ => true, true, false, false⟩
    let te : TokenMeta.TEnv := ⟨1, fun k => k == 1 || k == 2, fun _ => true⟩
    (([TokenMeta.SchemaOp.fill 1, .fill 2, .events [.other 1, .keyspace 3], .fill 2].foldl (TokenMeta.schemaOp env te {}) {}).cache) = [2] := by
  decide

/-! ### control-connection failover: the control host goes down, the driver reconnects to ANOTHER host of the ring
(setupConn: the new control host's system.local row goes through ring.addOrUpdate + pool / policy), REGISTERs again
and refreshes; the events pushed meanwhile were never received -/

/-- For EVERY history `pre` before the control connection was lost, EVERY new control
host `l0` (any host: known or not, any addresses) and EVERY report of that host: after the reconnect
(`addInitial l0` = setupConn's addOrUpdate + startPoolFill) and the refresh that follows it
(1) the view follows the new control host's report (all six clauses of the oracle `evfollows`), and
(2) the host ids of the ring are exactly the accepted reported ids — which is ALSO what the ring would hold had any batch
`missed` of node events (UP / DOWN / NEW_NODE / REMOVED_NODE / MOVED_NODE, pushed while no control connection existed and
therefore lost) been delivered before the refresh: the gap is covered by the refresh. -/
theorem C16_failover_follows_report (env : Env) (hloc : LocStable env) (pre : List VOp) (l0 : RHost)
    (reported : List RHost) (missed : List Ev) :
    let v := runV env View.empty (pre ++ [.addInitial l0])
    (v.refresh env reported).followsViolations env v.ring.ids reported = [] ∧
    (∀ id, id ∈ (v.refresh env reported).ring.ids ↔ ∃ h ∈ reported, env.filter h = false ∧ h.id = id) ∧
    (∀ id, id ∈ ((v.handleBatch env missed).refresh env reported).ring.ids ↔ id ∈ (v.refresh env reported).ring.ids) := by
  intro v
  have ha : Agree env v := C16_view_invariant env hloc _
  have ha' : Agree env (v.handleBatch env missed) := by
    have heq : runV env View.empty (pre ++ [.addInitial l0] ++ [.batch missed]) = v.handleBatch env missed := by
      simp [v, runV, List.foldl_append, applyV]
    rw [← heq]
    exact C16_view_invariant env hloc _
  have h1 := (C16_view_follows_report env v ha reported).1
  have h2 := (C16_view_follows_report env (v.handleBatch env missed) ha' reported).1
  exact ⟨C16_follows_oracle_ok env v ha reported, h1, fun id => (h2 id).trans (h1 id).symm⟩

/-- non-vacuity: control host 1 (address 7) and host 2 known; host 1 goes away, the driver lands on host 2, whose report is
{2, 3}: host 3 joined during the gap (its NEW_NODE event was lost) — the ring holds 2 and 3 -/
example :
    let env : Env := ⟨fun _ => false, fun _ => true, false, false, false⟩
    let v := runV env View.empty [.addInitial ⟨1, 1, 7, 7⟩, .addInitial ⟨2, 2, 8, 8⟩, .addInitial ⟨3, 2, 8, 8⟩]
    (v.refresh env [⟨4, 2, 8, 8⟩, ⟨5, 3, 9, 9⟩]).ring.ids = [3, 2] := by decide

/-! ### batches that MIX topology and status events for the SAME address -/

inductive TopoKind | newNode | removedNode | movedNode
deriving DecidableEq, Repr

/-- a node event as it is on the wire: topology events carry an address too -/
inductive EvA
  | topology (k : TopoKind) (addr : Nat)
  | status (c : Change) (addr : Nat)
deriving DecidableEq, Repr

/-- what `handleNodeEvent` reads of a frame: of a topology event only that it is one -/
def EvA.forget : EvA → Ev
  | .topology _ _ => .topology
  | .status c a => .status c a

/-- specification: the LAST status event of the batch for address `a` — whatever else the batch says about `a` -/
def lastStatusA : List EvA → Nat → Option Change
  | [], _ => none
  | .topology _ _ :: t, a => lastStatusA t a
  | .status c a' :: t, a =>
    match lastStatusA t a with
    | some c' => some c'
    | none => if a' = a then some c else none

theorem lastStatusA_forget (b : List EvA) (a : Nat) : lastStatus (b.map EvA.forget) a = lastStatusA b a := by
  induction b with
  | nil => rfl
  | cons e t ih =>
    cases e with
    | topology k x => simp only [List.map_cons, EvA.forget, lastStatus, lastStatusA]; exact ih
    | status c x => simp only [List.map_cons, EvA.forget, lastStatus, lastStatusA]; rw [ih]; rfl

/-- For EVERY batch of node events in which topology events (NEW_NODE / REMOVED_NODE /
MOVED_NODE) carry ANY addresses — in particular addresses that also have UP / DOWN events in the same batch, in any
order and number —: (1) the status `handleNodeEvent` dispatches for an address is the LAST status event of the batch for
that address, whatever topology events name the address; (2) two batches with the same last status per address and the
same "contains a topology event" lead to the same view: a topology event for an address never suppresses or alters the
handling of that address's status. -/
theorem C16_mixed_batch_status_decides (env : Env) (v : View) (b : List EvA)
    (hs : SInv v.ring) (hc : ConnSep v.ring (keys (coalesce (b.map EvA.forget)))) :
    (∀ a, lookup (coalesce (b.map EvA.forget)) a = lastStatusA b a) ∧
    (∀ b' : List EvA, hasTopology (b'.map EvA.forget) = hasTopology (b.map EvA.forget) →
      (∀ a, lastStatusA b' a = lastStatusA b a) →
      Same (v.handleBatch env (b'.map EvA.forget)) (v.handleBatch env (b.map EvA.forget))) := by
  obtain ⟨h1, _, _, h4⟩ := C16_status_last_wins env v (b.map EvA.forget) hs hc
  refine ⟨fun a => (h1 a).trans (lastStatusA_forget b a), fun b' ht hl => h4 _ ht (fun a => ?_)⟩
  rw [lastStatusA_forget, lastStatusA_forget]; exact hl a

/-- non-vacuity: MOVED_NODE 7, DOWN 7 (either order) on a view that has host 1 at address 7 in its policy: the host is
marked down and leaves the policy, and a refresh is requested -/
example :
    let env : Env := ⟨fun _ => false, fun _ => true, false, false, false⟩
    let v := (View.empty.addInitial env ⟨1, 1, 7, 7⟩)
    let b1 := [EvA.topology .movedNode 7, .status .down 7].map EvA.forget
    let b2 := [EvA.status .down 7, .topology .movedNode 7].map EvA.forget
    (v.handleBatch env b1).down = [1] ∧ (v.handleBatch env b1).pol.loc = [] ∧ (v.handleBatch env b1).refreshReq = 1 ∧
    (v.handleBatch env b2).down = [1] ∧ (v.handleBatch env b2).pol.loc = [] := by decide

end C16
