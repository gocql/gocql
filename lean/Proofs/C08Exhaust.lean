import Proofs.C08Seq
/-! C08: `GetStream` never reports exhaustion while some id stays free for the whole call.

The calling thread is looked at in isolation: its k-th atomic operation acts on an ARBITRARY shared state `env[k]`
(between two of its operations the other threads may have done anything), only the number of words is fixed
(`threadRun_exhausted`); and as a thread of the k-thread machine, where the environment is what the other threads
really do between its operations (`run_exhausted`).

The idea: fix any predicate `G` that holds of every id seen in use in a state the thread acts on. The scan visits the
ids in the order `scanId` (Proofs/C08Seq); `scanInv` says that `G` holds of every id in front of the scan position. A
load moves the position over set bits only, so `G` holds of them; a scan that runs off the last word has `G` of every
id. -/
namespace C08
open Streams

/-- the thread's call: its successive atomic operations read the successive states of `env` -/
def threadRun : PC → List Shared → PC × Option Ret
  | pc, [] => (pc, none)
  | pc, sh :: rest =>
    match tstep sh pc with
    | (_, _, some r) => (.idle, some r)
    | (_, pc', none) => threadRun pc' rest

def scanInv (n : Nat) (G : Nat → Prop) : PC → Prop
  | .g1 => True
  | .g2 _ => True
  | .g3 => True
  | .g4 off i => off < n ∧ i < n ∧ Seen n off G (64 * i)
  | .g5 off i j _ | .g6 off i j => off < n ∧ i < n ∧ j < 64 ∧ Seen n off G (64 * i + j)
  | .g7 _ => True
  | _ => False

/-- one load of word `i` with the j-loop at `j`: the scan goes on further along, or it has run off the last word and
    the call fails, `G` holding of every id -/
theorem scan_load {n off i j : Nat} {G : Nat → Prop} {sh : Shared} (hG : ∀ id, bitAt sh.words id = true → G id)
    (hoff : off < n) (hi : i < n) (h : Seen n off G (64 * i + j)) :
    ((afterLoad n off i j (sh.words.getD ((i + off) % n) 0)).2 = none ∧
        scanInv n G (afterLoad n off i j (sh.words.getD ((i + off) % n) 0)).1)
    ∨ ((afterLoad n off i j (sh.words.getD ((i + off) % n) 0)).2 = some (.stream 0 false) ∧ ∀ id, id < 64 * n → G id) := by
  obtain ⟨j2, hpass, ⟨h64, _, e⟩ | ⟨rfl, e⟩⟩ := afterLoad_cases n off i j (sh.words.getD ((i + off) % n) 0) <;> rw [e]
  · exact .inl ⟨rfl, hoff, hi, h64, h.load hG (by omega) hpass⟩
  · have hs : Seen n off G (64 * i + 64) := h.load hG (Nat.le_refl _) hpass
    unfold nextWord
    by_cases hlast : i + 1 < n
    · rw [if_pos hlast]; exact .inl ⟨rfl, hoff, hlast, Nat.mul_succ 64 i ▸ hs⟩
    · rw [if_neg hlast]; exact .inr ⟨rfl, ((show 64 * i + 64 = 64 * n by omega) ▸ hs).all hoff⟩

theorem scan_step {n : Nat} (hn : 0 < n) {G : Nat → Prop} {sh : Shared} (hlen : sh.words.length = n)
    (hG : ∀ id, bitAt sh.words id = true → G id) (pc : PC) (hinv : scanInv n G pc) :
    ((tstep sh pc).2.2 = none ∧ scanInv n G (tstep sh pc).2.1) ∨
    ((tstep sh pc).2.2 = some (.stream 0 false) ∧ ∀ id, id < 64 * n → G id) ∨
    (∃ id, pc = .g7 id) := by
  subst hlen
  cases pc with
  | g1 | g3 => exact .inl ⟨rfl, trivial⟩
  | g2 o =>
    left
    simp only [tstep]
    split
    · exact ⟨rfl, Nat.mod_lt _ hn, hn, fun k hk => by omega⟩
    · exact ⟨rfl, trivial⟩
  | g4 off i =>
    rw [tstep_g4]
    exact (scan_load hG hinv.1 hinv.2.1 (j := 0) hinv.2.2).imp_right .inl
  | g5 off i j b =>
    left
    simp only [tstep]
    split
    · exact ⟨rfl, trivial⟩
    · exact ⟨rfl, hinv⟩
  | g6 off i j => exact (scan_load hG hinv.1 hinv.2.1 hinv.2.2.2).imp_right .inl
  | g7 id => exact .inr (.inr ⟨id, rfl⟩)
  | _ => exact hinv.elim

theorem threadRun_cont {sh : Shared} {pc : PC} {rest : List Shared} (h : (tstep sh pc).2.2 = none) :
    threadRun pc (sh :: rest) = threadRun (tstep sh pc).2.1 rest := by
  rw [threadRun]
  split
  · rename_i hr; rw [hr] at h; cases h
  · rename_i hr; rw [hr]

theorem threadRun_exhausted {n : Nat} (hn : 0 < n) {G : Nat → Prop} :
    ∀ (env : List Shared) (pc : PC),
      (∀ sh, sh ∈ env → sh.words.length = n ∧ ∀ id, bitAt sh.words id = true → G id) →
      scanInv n G pc → (threadRun pc env).2 = some (.stream 0 false) → ∀ id, id < 64 * n → G id
  | [], pc, _, _, h => by simp [threadRun] at h
  | sh :: rest, pc, henv, hinv, hrun => by
    obtain ⟨hlen, hG⟩ := henv sh (by simp)
    rcases scan_step hn hlen hG pc hinv with ⟨h1, h2⟩ | ⟨_, h2⟩ | ⟨x, rfl⟩
    · rw [threadRun_cont h1] at hrun
      exact threadRun_exhausted hn rest _ (fun s hs => henv s (by simp [hs])) h2 hrun
    · exact h2
    · simp [threadRun, tstep] at hrun

/-- run a schedule with NO client protocol and keep the state in front of every action -/
def runVis : State → List Action → Option (State × List State)
  | s, [] => some (s, [])
  | s, a :: as =>
    match step s a with
    | some (s', _) => (runVis s' as).map (fun p => (p.1, s :: p.2))
    | none => none

def actor : Action → Nat
  | .start t _ => t
  | .step t => t

def startsCall (t : Nat) : Action → Bool
  | .start t' _ => t' == t
  | .step _ => false

/-- a schedule that `runVis` runs, `runAny anyAct` runs too, to the same state -/
theorem runVis_runAny (as : List Action) : ∀ (s s' : State) (vis : List State) (evs : List Ev),
    runVis s as = some (s', vis) → ∃ evs', runAny anyAct s evs as = some (s', evs') := by
  intro s s' vis evs h
  fun_induction runVis s as generalizing vis evs with
  | case1 s => cases h; exact ⟨evs, rfl⟩
  | case2 s a as s1 r hs ih =>
    obtain ⟨p, hr, e⟩ := Option.map_eq_some_iff.mp h
    cases e
    obtain ⟨evs', he⟩ := ih p.2 (evOf s a ++ evs) hr
    exact ⟨evs', by simp only [runAny, anyAct, ↓reduceIte, hs, he]⟩
  | case3 => cases h

theorem step_other {s s' : State} {a : Action} {r : Option Ret} {t : Nat} (hs : step s a = some (s', r))
    (ha : actor a ≠ t) : s'.threads[t]? = s.threads[t]? ∧ s'.sh.words.length = s.sh.words.length := by
  refine ⟨?_, (step_length hs).1⟩
  obtain ⟨u, _, pc, held, _, rfl, _, _, _, ⟨op, rfl, _⟩ | ⟨rfl, _⟩⟩ := step_cases hs <;>
    exact List.getElem?_set_ne ha

theorem step_self {s s' : State} {r : Option Ret} {t : Nat} {pc : PC} (ht : s.threads[t]? = some pc)
    (hs : step s (.step t) = some (s', r)) :
    pc ≠ .idle ∧ s'.sh = (tstep s.sh pc).1 ∧ s'.threads[t]? = some (tstep s.sh pc).2.1 ∧ r = (tstep s.sh pc).2.2 := by
  obtain ⟨u, _, pc', held, hu, rfl, rfl, _, _, ⟨op, h, _⟩ | ⟨h, rfl, hne, _⟩⟩ := step_cases hs
  · cases h
  · cases h
    cases ht.symm.trans hu
    exact ⟨hne, rfl, getElem?_set_of _ ht, rfl⟩

theorem actor_step {t : Nat} {a : Action} (hns : startsCall t a = false) (ha : actor a = t) : a = .step t := by
  cases a with
  | start u op => simp [startsCall, show u = t from ha] at hns
  | step u => rw [show u = t from ha]

theorem idle_stays {t : Nat} (as : List Action) (s s' : State) (vis : List State)
    (ht : s.threads[t]? = some .idle) (hns : ∀ a, a ∈ as → startsCall t a = false) (h : runVis s as = some (s', vis)) :
    s'.threads[t]? = some .idle := by
  fun_induction runVis s as generalizing vis with
  | case1 s => cases h; exact ht
  | case2 s a as s1 r hs ih =>
    obtain ⟨p, hr, e⟩ := Option.map_eq_some_iff.mp h
    cases e
    by_cases ha : actor a = t
    · -- an action of the idle thread itself can only be `.step t`, and that is not enabled
      obtain rfl := actor_step (hns a (by simp)) ha
      exact absurd rfl (step_self ht hs).1
    · exact ih p.2 ((step_other hs ha).1.trans ht) (fun a' ha' => hns a' (by simp [ha'])) hr
  | case3 => cases h

/-- the scan invariant carried along a schedule of the whole machine: `G` is any predicate that holds of every id in
    use in one of the visited states -/
theorem run_exhausted {n t : Nat} (hn : 0 < n) {G : Nat → Prop} (as : List Action) (s s2 s3 : State) (vis : List State)
    (pc : PC) (ht : s.threads[t]? = some pc) (hinv : scanInv n G pc) (hlen : s.sh.words.length = n)
    (hns : ∀ a, a ∈ as → startsCall t a = false) (h : runVis s as = some (s2, vis))
    (hlast : step s2 (.step t) = some (s3, some (.stream 0 false)))
    (hG : ∀ s', s' ∈ vis ++ [s2] → ∀ id, bitAt s'.sh.words id = true → G id) :
    ∀ id, id < 64 * n → G id := by
  fun_induction runVis s as generalizing vis pc with
  | case1 s =>
    cases h
    obtain ⟨_, _, _, hr⟩ := step_self ht hlast
    rcases scan_step hn hlen (hG _ (by simp)) pc hinv with ⟨h1, _⟩ | ⟨_, h2⟩ | ⟨x, rfl⟩
    · rw [← hr] at h1; cases h1
    · exact h2
    · cases hr
  | case2 s a as s1 r hs ih =>
    obtain ⟨p, hr, e⟩ := Option.map_eq_some_iff.mp h
    cases e
    have hns' : ∀ a', a' ∈ as → startsCall t a' = false := fun a' ha' => hns a' (by simp [ha'])
    have hG' : ∀ s', s' ∈ p.2 ++ [p.1] → ∀ id, bitAt s'.sh.words id = true → G id :=
      fun s' hs' => hG s' (List.mem_cons_of_mem _ hs')
    have hlen1 : s1.sh.words.length = n := (step_length hs).1.trans hlen
    by_cases ha : actor a = t
    · obtain rfl := actor_step (hns a (by simp)) ha
      obtain ⟨_, _, hpc, _⟩ := step_self ht hs
      rcases scan_step hn hlen (hG s (by simp)) pc hinv with ⟨_, h2⟩ | ⟨_, h2⟩ | ⟨x, rfl⟩
      · exact ih p.2 _ hpc h2 hlen1 hns' hr hG'
      · exact h2
      · -- the call returned an id: the thread is idle and cannot take the final step
        exact absurd rfl (step_self (idle_stays as s1 _ p.2 hpc hns' hr) hlast).1
    · exact ih p.2 pc ((step_other hs ha).1.trans ht) hinv hlen1 hns' hr hG'
  | case3 => cases h

end C08
