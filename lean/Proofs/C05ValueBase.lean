import Model.CrashValue
/-!
  C05 / value decoders: basic lemmas about the checked primitives and the leaf decoders of
  `Model.CrashValue` (they never crash: every index / slice they perform is inside the guard that
  precedes it).
-/
namespace C05Value
open CrashValue

def NoCrash {α : Type} (o : Res α) : Prop := ∀ s, o ≠ .crash s

/-- `NoCrash` with `≠` unfolded (equal by `rfl`); every lemma is stated with this one, the end result spells `NoCrash` out -/
def Safe {α : Type} (o : Res α) : Prop := ∀ s, o = .crash s → False

@[simp] theorem ok_bind {α β : Type} (a : α) (f : α → Res β) : (Res.ok a >>= f) = f a := rfl
@[simp] theorem err_bind {α β : Type} (f : α → Res β) : ((Res.err : Res α) >>= f) = .err := rfl
@[simp] theorem crash_bind {α β : Type} (s : Site) (f : α → Res β) : ((Res.crash s : Res α) >>= f) = .crash s := rfl

theorem Safe.noCrash {α : Type} {o : Res α} (h : Safe o) : NoCrash o := fun s hs => h s hs

@[simp] theorem safe_ok {α : Type} (a : α) : Safe (Res.ok a) := fun _ h => by cases h
@[simp] theorem safe_err {α : Type} : Safe (Res.err : Res α) := fun _ h => by cases h

theorem safe_bind_iff {α β : Type} {x : Res α} {f : α → Res β} :
    Safe (x >>= f) ↔ Safe x ∧ ∀ a, x = .ok a → Safe (f a) := by
  cases x with
  | ok a => simp
  | err => simp
  | crash s => exact ⟨fun h => (h s rfl).elim, fun h => (h.1 s rfl).elim⟩

theorem safe_bind {α β : Type} {x : Res α} {f : α → Res β}
    (hx : Safe x) (hf : ∀ a, x = .ok a → Safe (f a)) : Safe (x >>= f) := safe_bind_iff.2 ⟨hx, hf⟩

theorem safe_errIf (bad : Bool) : Safe (errIf bad) := by
  unfold errIf; split <;> simp

theorem idx_ok {fn : Fn} {d : Bytes} {i : Nat} (h : i < d.length) : idx fn d i = .ok (d.getD i 0) := by
  simp [idx, h]
theorem sliceFrom_ok {fn : Fn} {d : Bytes} {a : Nat} (h : a ≤ d.length) : sliceFrom fn d a = .ok (d.drop a) := by
  simp [sliceFrom, h]
theorem sliceTo_ok {fn : Fn} {d : Bytes} {b : Nat} (h : b ≤ d.length) : sliceTo fn d b = .ok (d.take b) := by
  simp [sliceTo, h]

theorem safe_idx {α : Type} {fn : Fn} {d : Bytes} {i : Nat} {f : UInt8 → Res α} (h : i < d.length)
    (hf : Safe (f (d.getD i 0))) : Safe (idx fn d i >>= f) := by
  rw [idx_ok h]; exact hf

/-- the five fixed-width decoders index below the length their guard has just established -/
theorem decInt_safe (d : Bytes) : Safe (decInt d) := by
  fun_cases decInt d
  · exact safe_ok _
  · iterate 4 refine safe_idx (by omega) ?_
    exact safe_ok _

theorem decShort_safe (d : Bytes) : Safe (decShort d) := by
  fun_cases decShort d
  · exact safe_ok _
  · iterate 2 refine safe_idx (by omega) ?_
    exact safe_ok _

theorem decTiny_safe (d : Bytes) : Safe (decTiny d) := by
  fun_cases decTiny d
  · exact safe_ok _
  · exact safe_idx (by omega) (safe_ok _)

theorem decBigInt_safe (d : Bytes) : Safe (decBigInt d) := by
  fun_cases decBigInt d
  · exact safe_ok _
  · iterate 8 refine safe_idx (by omega) ?_
    exact safe_ok _

theorem decBool_safe (d : Bytes) : Safe (decBool d) := by
  fun_cases decBool d
  · exact safe_ok _
  · exact safe_idx (by omega) (safe_ok _)

theorem inRange_safe (v lo hi : Int) : Safe (inRange v lo hi) := by
  unfold inRange; split <;> simp

theorem intlike_safe (ty : Native) (v : Int) (g : GT) : Safe (intlike ty v g) := by
  unfold intlike
  -- every destination kind answers `ok`, `err` or a range check, some after a test on the CQL type
  split <;> first | simp | exact inRange_safe _ _ _ | (split <;> first | simp | exact inRange_safe _ _ _)

theorem vintBody_safe (d : Bytes) (k i : Nat) (h : i + k < d.length) : Safe (vintBody d k i) := by
  fun_induction vintBody d k i
  · exact safe_ok _
  · rename_i ih; exact safe_idx (by omega) (ih (by omega))

theorem decVint_safe (d : Bytes) (start : Nat) : Safe (decVint d start) := by
  fun_cases decVint d start
  · exact safe_err
  · refine safe_idx (by omega) ?_
    split
    · exact safe_ok _
    · extract_lets nb
      split
      · exact safe_err
      · exact safe_bind (vintBody_safe _ _ _ (by omega)) fun _ _ => safe_ok _

theorem decVints_safe (d : Bytes) : Safe (decVints d) := by
  unfold decVints
  apply safe_bind (decVint_safe _ _); intro i _
  apply safe_bind (decVint_safe _ _); intro j _
  apply safe_bind (decVint_safe _ _); intro _ _
  simp

theorem unmarshalUUID_safe (g : GT) (d : Bytes) : Safe (unmarshalUUID g d) := by
  fun_cases unmarshalUUID g d <;> first | exact safe_ok _ | exact safe_err

end C05Value
