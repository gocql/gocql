import Proofs.C12Vint
/-!
# C12, duration, converse direction: marshal.go decVint (tied to the source text by GenTie.C12.decVint) reads exactly
what the SPECIFICATION's vint reader reads, for every byte string
-/
namespace C12VintDec
open ValueSpec Marshal C12Bytes C12Vint

/-- `int64((n >> 1) ^ -(n & 1))` is the inverse zig-zag code, for every uint64 -/
theorem decIntZigZag_spec (u : Nat) (hu : u < 2^64) : decIntZigZag u = unzigzag u := by
  unfold decIntZigZag unzigzag
  have hm : u % 18446744073709551616 = u := Nat.mod_eq_of_lt hu
  have hsh : (BitVec.ofNat 64 u >>> 1).toNat = u / 2 := by
    simp [BitVec.toNat_ushiftRight, hm, Nat.shiftRight_eq_div_pow]
  have hand : (BitVec.ofNat 64 u &&& 1#64).toNat = u % 2 := by
    simp [BitVec.toNat_and, hm, Nat.and_one_is_mod]
  by_cases he : u % 2 = 0
  · have h1 : BitVec.ofNat 64 u &&& 1#64 = 0#64 := by
      apply BitVec.eq_of_toNat_eq; rw [hand, he]; rfl
    rw [h1, if_pos he]
    simp only [BitVec.neg_zero, BitVec.xor_zero]
    rw [BitVec.toInt_eq_toNat_cond, hsh]
    have : 2 * (u / 2) < 2 ^ 64 := by omega
    simp [this]
  · have h1 : BitVec.ofNat 64 u &&& 1#64 = 1#64 := by
      apply BitVec.eq_of_toNat_eq; rw [hand]; simp; omega
    rw [h1, if_neg he]
    have hneg : -(1#64) = BitVec.allOnes 64 := by decide
    rw [hneg, BitVec.xor_allOnes]
    rw [BitVec.toInt_eq_toNat_cond, BitVec.toNat_not, hsh]
    have : ¬ 2 * (2 ^ 64 - 1 - u / 2) < 2 ^ 64 := by omega
    simp [this]
    omega

/-- the accumulation loop of decVint (`ret <<= 8; ret |= b`, modulo 2^64) is the big-endian value when nothing overflows -/
theorem fold_nomod : ∀ (l : Bytes) (a : Nat), a * 256 ^ l.length + beNat l < 2^64 →
    l.foldl (fun acc x => (acc * 256 + x.toNat) % 2^64) a = a * 256 ^ l.length + beNat l
  | [], a, h => by simp [beNat]
  | b :: l, a, h => by
    have hP := pow256_pos l.length
    have key : a * 256 ^ (b :: l).length + beNat (b :: l) = (a * 256 + b.toNat) * 256 ^ l.length + beNat l := by
      rw [beNat_cons, List.length_cons, Nat.pow_succ, Nat.add_mul, Nat.mul_comm (256 ^ l.length) 256, ← Nat.mul_assoc]
      omega
    rw [key] at h ⊢
    have hle : a * 256 + b.toNat ≤ (a * 256 + b.toNat) * 256 ^ l.length := Nat.le_mul_of_pos_right _ hP
    have hlt : a * 256 + b.toNat < 2^64 := by omega
    simp only [List.foldl_cons, Nat.mod_eq_of_lt hlt]
    exact fold_nomod l (a * 256 + b.toNat) h

/-- a table, by evaluation: finite, the specification's nine thresholds against `L ≤ 8` -/
theorem lead_table : ∀ L, L ≤ 8 → 8 - L =
    if ¬ L ≤ 7 then 0 else if ¬ L ≤ 6 then 1 else if ¬ L ≤ 5 then 2 else if ¬ L ≤ 4 then 3
    else if ¬ L ≤ 3 then 4 else if ¬ L ≤ 2 then 5 else if ¬ L ≤ 1 then 6 else if ¬ L ≤ 0 then 7 else 8 := by
  decide

/-- `bits.LeadingZeros32(uint32(^b)) - 24` counts the leading one bits of the byte, as the specification does: each
    threshold of `leadingOnes` is a bound on the bit length of the complement -/
theorem lead_eq (b : UInt8) : leadOnes b = leadingOnes b.toNat := by
  have hx := b.toNat_lt
  have hc : ∀ j t, t + 2 ^ j = 256 → (b.toNat < t ↔ ¬ bitLen (255 - b.toNat) ≤ j) := fun j t ht => by
    rw [bitLen_le_iff]; omega
  unfold leadOnes leadingOnes
  simp only [hc 7 128 rfl, hc 6 192 rfl, hc 5 224 rfl, hc 4 240 rfl, hc 3 248 rfl, hc 2 252 rfl, hc 1 254 rfl,
    hc 0 255 rfl]
  exact lead_table _ ((bitLen_le_iff _ 8).mpr (by omega))

/-- a first byte below 128 announces no extra byte, any other between one and eight -/
theorem leadOnes_range (b : UInt8) :
    (b.toNat < 128 → leadOnes b = 0) ∧ (¬ b.toNat < 128 → 1 ≤ leadOnes b ∧ leadOnes b ≤ 8) := by
  have hx := b.toNat_lt
  have h7 := bitLen_le_iff (255 - b.toNat) 7
  unfold leadOnes
  omega

theorem and_mask (k : Nat) (hk : k ≤ 8) (x : Nat) : x &&& (255 >>> k) = x % 2 ^ (8 - k) := by
  have : 255 >>> k = 2 ^ (8 - k) - 1 := by
    have : k = 0 ∨ k = 1 ∨ k = 2 ∨ k = 3 ∨ k = 4 ∨ k = 5 ∨ k = 6 ∨ k = 7 ∨ k = 8 := by omega
    rcases this with rfl | rfl | rfl | rfl | rfl | rfl | rfl | rfl | rfl <;> decide
  rw [this]
  exact Nat.and_two_pow_sub_one_eq_mod x (8 - k)

/-- the model of marshal.go decVint = the specification's signed-vint reader, for EVERY byte string -/
theorem decVint_spec (data : Bytes) : decVint data = specReadVint data := by
  cases data with
  | nil => rfl
  | cons first r =>
    have hx := first.toNat_lt
    simp only [specReadVint, specReadUVint, decVint, ← lead_eq]
    by_cases h128 : first.toNat < 128
    · have he : leadOnes first = 0 := (leadOnes_range first).1 h128
      have hm : first.toNat % 256 = first.toNat := by omega
      simp [h128, he, decIntZigZag_spec _ (show first.toNat < 2^64 by omega), hm, beNat]
    · have hr := (leadOnes_range first).2 h128
      rw [if_neg h128]
      generalize hk : leadOnes first = k at hr
      by_cases hl : r.length < k
      · simp [hl]
      · simp only [hl, if_false]
        have hlen : (r.take k).length = k := by simp [List.length_take]; omega
        have hs := beNat_lt (r.take k)
        rw [hlen] at hs
        have hmask := and_mask k hr.2 first.toNat
        have hb : first.toNat % 2 ^ (8 - k) * 256 ^ k + beNat (r.take k) < 2 ^ 64 := by
          have hmod : first.toNat % 2 ^ (8 - k) < 2 ^ (8 - k) := Nat.mod_lt _ (Nat.pow_pos (by decide))
          generalize beNat (r.take k) = s at hs
          generalize first.toNat % 2 ^ (8 - k) = a at hmod
          have : k = 1 ∨ k = 2 ∨ k = 3 ∨ k = 4 ∨ k = 5 ∨ k = 6 ∨ k = 7 ∨ k = 8 := by omega
          rcases this with rfl | rfl | rfl | rfl | rfl | rfl | rfl | rfl <;> simp at hs hmod ⊢ <;> omega
        have hf := fold_nomod (r.take k) (first.toNat % 2 ^ (8 - k)) (by rw [hlen]; exact hb)
        rw [hlen] at hf
        rw [hmask, hf, decIntZigZag_spec _ hb]

end C12VintDec
