/- The cells of well-formed rows through Iter.MapScan / Iter.SliceMap: the calls of a row go to consecutive
   destinations (`rowCalls_dest`), so what rowMap stores under a name is the data of that name's call (`mapOfList_stored`);
   RowData's names and goType on the driver's view of well-formed types are what the specification says. -/
import Proofs.C04Rows
import Proofs.C04Meta
import Model.RowDataSpec
namespace C04
open FrameRead RespSpec Rows

/-! ## storedAt: what destination j holds after the calls -/

theorem storedAt_fold (cs : List Call) (i j : Nat) (acc : Option (Option FrameRead.Bytes))
    (h : cs.map (·.dest) = List.range' i cs.length) :
    cs.foldl (fun acc c => if c.dest == j then some c.data else acc) acc
      = if i ≤ j ∧ j < i + cs.length then (cs[j - i]?).map (·.data) else acc := by
  induction cs generalizing i acc with
  | nil =>
    simp only [List.foldl_nil, List.length_nil, Nat.add_zero]
    have : ¬ (i ≤ j ∧ j < i) := by omega
    rw [if_neg this]
  | cons c rest ih =>
    simp only [List.map_cons, List.length_cons, List.range'_succ, List.cons.injEq] at h
    obtain ⟨hd, hrest⟩ := h
    simp only [List.foldl_cons, List.length_cons]
    rw [ih (i + 1) _ hrest]
    by_cases hji : j = i
    · subst hji
      have : ¬ (j + 1 ≤ j ∧ j < j + 1 + rest.length) := by omega
      simp [this, hd]
    · by_cases hin : i + 1 ≤ j ∧ j < i + 1 + rest.length
      · have h2 : i ≤ j ∧ j < i + (rest.length + 1) := by omega
        have h3 : j - i = (j - (i + 1)) + 1 := by omega
        simp [hin, h2, h3]
      · have h2 : ¬ (i ≤ j ∧ j < i + (rest.length + 1)) := by omega
        have hne : (c.dest == j) = false := by rw [hd]; simp; omega
        simp [hin, h2, hne]

theorem storedAt_consecutive (cs : List Call) (h : cs.map (·.dest) = List.range' 0 cs.length) (j : Nat) :
    storedAt cs j = (cs[j]?).map (·.data) := by
  unfold storedAt
  rw [storedAt_fold cs 0 j none h]
  by_cases hj : j < cs.length <;> simp [hj]

/-- after the calls of a row, destination j holds the data of the j-th call -/
theorem stored_row (tcs : List (TypeDesc × Cell)) :
    (List.range (totalWidth (tcs.map (·.1)))).map (fun j => (storedAt (rowCalls 0 tcs) j).getD none)
      = (rowCalls 0 tcs).map (·.data) := by
  have hl := rowCalls_length 0 tcs
  have hd := rowCalls_dest 0 tcs
  rw [← hl] at hd
  apply List.ext_getElem?
  intro j
  by_cases hj : j < (rowCalls 0 tcs).length
  · have := storedAt_consecutive (rowCalls 0 tcs) hd j
    have hj' : j < totalWidth (tcs.map (·.1)) := by rw [← hl]; exact hj
    simp [hj', hj, this]
  · have h1 : ¬ j < totalWidth (tcs.map (·.1)) := by rw [← hl]; exact hj
    simp [h1, hj]

theorem rowDataCol_length (col : ColumnInfo) (t : TypeDesc) (names : List FrameRead.Bytes)
    (hc : col.typ = viewType t) (h : rowDataCol col = .ok names) : names.length = destWidth t := by
  unfold rowDataCol at h
  rw [hc] at h
  cases t <;> simp only [viewType] at h <;> split at h <;> cases h <;> simp [destWidth, viewTypes_length]

theorem rowDataColumns_length (cols : List ColumnInfo) (ts : List TypeDesc) (names : List FrameRead.Bytes)
    (hm : colsMatch cols ts) (h : rowDataColumns cols = .ok names) : names.length = totalWidth ts := by
  -- along the recursion of `rowDataColumns`: names come out only when the column and the rest give theirs
  fun_induction rowDataColumns cols generalizing ts names <;> cases h
  case case1 => cases ts <;> simp_all [colsMatch, totalWidth]
  case case2 c cs names hcol rest hrest ih =>
    cases ts with
    | nil => simp [colsMatch] at hm
    | cons t ts =>
      have hm' := colsMatch_cons.mp hm
      simp [rowDataCol_length c t _ hm'.1 hcol, ih ts _ hm'.2 hrest, totalWidth]

/-! ## goType on the driver's view of a well-formed type: an answer or an error, never a panic -/

theorem goList_iff (id : Nat) :
    [0x0D, 0x01, 0x10, 0x0A, 0x02, 0x05, 0x12, 0x0B, 0x03, 0x04, 0x08, 0x07, 0x09, 0x13, 0x14,
      0x06, 0x0C, 0x0F, 0x0E, 0x11, 0x15, 0x30].contains id = true ↔ (1 ≤ id ∧ id ≤ 0x15) ∨ id = 0x30 := by
  by_cases h : id < 49
  · -- a finite table below 0x31
    revert id
    decide
  · simp only [List.contains_cons, List.contains_nil, Bool.or_false, Bool.or_eq_true, beq_iff_eq]
    omega

def goOf : Bool → GoT
  | true => .ok
  | false => .err

theorem goType_native (n : Native) (h : Plain n.typ) : goType (.native n) = goOf (goNative n.typ) := by
  unfold goType
  by_cases hg : 1 ≤ n.typ ∧ n.typ ≤ 0x15
  · rw [if_pos ((goList_iff n.typ).mpr (Or.inl hg)), show goNative n.typ = true by simpa [goNative] using hg]
    rfl
  · rw [if_neg (by rw [goList_iff]; exact fun h' => h'.elim hg h.udt),
      if_neg (by simp [typeList, typeMap, typeSet, typeTuple, h.list, h.map, h.set, h.tuple]),
      show goNative n.typ = false by simpa [goNative] using hg]
    rfl

theorem comparable_view (t : TypeDesc) : comparableGo (viewType t) = comparableKey t := by
  cases t <;> simp [viewType, comparableGo, comparableKey]

/-- KF-C04-4 repaired: for every well-formed type descriptor (any nesting) goType on the driver's
    view answers `ok` exactly when the specification says the type has a Go type, and `err`
    otherwise — in particular for a map whose key type is not comparable in Go; it never panics -/
theorem goType_view : ∀ (t : TypeDesc), wfType t = true → goType (viewType t) = goOf (hasGoType t)
  | .native id, hw => by
    simpa only [viewType, hasGoType] using
      goType_native { typ := id, custom := [] } (plain_of_native id (by simpa [wfType] using hw)).2.2
  | .custom cls, _ => by
    simpa only [viewType, hasGoType] using goType_native { typ := customType cls, custom := cls } (customType_plain cls)
  | .list e, hw | .set e, hw => by
    have ih := goType_view e (by simpa [wfType] using hw)
    simp (config := { decide := true }) only [viewType, goType, hasGoType, ↓reduceIte, ih]
  | .map k v, hw => by
    have hw' : wfType k = true ∧ wfType v = true := by simpa [wfType] using hw
    have ihk := goType_view k hw'.1
    have ihv := goType_view v hw'.2
    have heq : ((0x21 : Nat) == typeMap) = true := by decide
    simp only [viewType, goType, hasGoType, heq, if_true, ihk, ihv, comparable_view]
    cases hk : hasGoType k <;> cases hv : hasGoType v <;> cases hc : comparableKey k <;> simp [goOf]
  | .udt _ _ _, _ => by simp [viewType, goType, hasGoType, goOf]
  | .tuple _, _ => by simp [viewType, goType, hasGoType, goOf]

theorem goTypeAll_view : ∀ (es : TypeDescs), wfTypes es = true →
    goTypeAll (viewTypes es) = goOf (es.toList.all hasGoType)
  | .nil, _ => by simp [viewTypes, goTypeAll, TypeDescs.toList, goOf]
  | .cons t r, hw => by
    have hw' : wfType t = true ∧ wfTypes r = true := by simpa [wfTypes] using hw
    have ih := goTypeAll_view r hw'.2
    simp only [viewTypes, goTypeAll, goType_view t hw'.1, ih, TypeDescs.toList, List.all_cons]
    cases ht : hasGoType t <;> cases hr : r.toList.all hasGoType <;> simp [goOf]

def namesOf (ok : Bool) (names : List FrameRead.Bytes) : Outcome (List FrameRead.Bytes) :=
  match ok with
  | true => .ok names
  | false => .err

theorem rowData_here (col : ColumnInfo) (name : FrameRead.Bytes) (t : TypeDesc) (hn : col.name = name)
    (ht : col.typ = viewType t) (hw : wfType t = true) :
    rowDataCol col = namesOf (colHasGoType t) (colNames name t) := by
  unfold rowDataCol
  rw [hn, ht]
  have hgo := goType_view t hw
  cases t with
  | tuple es =>
    have hw2 : isShort es.length = true ∧ wfTypes es = true := by simpa [wfType] using hw
    have hall := goTypeAll_view es hw2.2
    simp only [viewType, hall, colHasGoType, colNames, viewTypes_length]
    cases h : es.toList.all hasGoType <;> simp [goOf, namesOf]
  | _ =>
    simp only [viewType] at hgo ⊢
    simp only [hgo, colHasGoType, colNames]
    cases hasGoType _ <;> rfl

/-- Iter.RowData's names for columns named `nts` (name, type): the specification's names when every
    column has Go destinations, an error otherwise; never a panic -/
theorem rowDataColumns_named (cols : List ColumnInfo) (nts : List (FrameRead.Bytes × TypeDesc))
    (hc : cols.map (fun c => (c.name, c.typ)) = nts.map (fun nt => (nt.1, viewType nt.2)))
    (hw : ∀ nt ∈ nts, wfType nt.2 = true) :
    rowDataColumns cols =
      namesOf (nts.all (fun nt => colHasGoType nt.2)) (nts.flatMap (fun nt => colNames nt.1 nt.2)) := by
  induction nts generalizing cols with
  | nil =>
    have : cols = [] := by simpa using hc
    subst this
    simp [rowDataColumns, namesOf]
  | cons nt nts ih =>
    obtain ⟨name, t⟩ := nt
    cases cols with
    | nil => simp at hc
    | cons col cols =>
      obtain ⟨⟨hname, htyp⟩, hrest⟩ : (col.name = name ∧ col.typ = viewType t) ∧
          cols.map (fun c => (c.name, c.typ)) = nts.map (fun nt => (nt.1, viewType nt.2)) := by
        simpa using hc
      have hwt : wfType t = true := hw (name, t) (by simp)
      have ih' := ih cols hrest (fun nt h => hw nt (by simp [h]))
      have hh := rowData_here col name t hname htyp hwt
      simp only [rowDataColumns, ih', hh, List.all_cons, List.flatMap_cons]
      cases h1 : colHasGoType t <;> cases h2 : nts.all (fun nt => colHasGoType nt.2) <;> simp [namesOf]

theorem namedCols_view (c : Cols) :
    (viewCols c).map (fun c => (c.name, c.typ)) = (namedCols c).map (fun nt => (nt.1, viewType nt.2)) := by
  cases c <;> simp [viewCols, namedCols, List.map_map, Function.comp_def]

theorem namedCols_wf (c : Cols) (hw : wfCols c = true) : ∀ nt ∈ namedCols c, wfType nt.2 = true := by
  cases c with
  | omitted n g => simp [namedCols]
  | global ks tb cs =>
    intro nt hnt
    obtain ⟨_, _, _, hall⟩ := wfCols_global.mp hw
    exact (hall nt (by simpa [namedCols] using hnt)).2
  | perCol cs =>
    intro nt hnt
    obtain ⟨c, hc, rfl⟩ : ∃ c ∈ cs, (c.name, c.typ) = nt := by simpa [namedCols] using hnt
    obtain ⟨_, _, _, ht⟩ := (wfCols_perCol.mp hw).2 c hc
    exact ht

theorem rowDataColumns_view (c : Cols) (hw : wfCols c = true) :
    rowDataColumns (viewCols c) = match rowDataSpec c with | some names => .ok names | none => .err := by
  rw [rowDataColumns_named (viewCols c) (namedCols c) (namedCols_view c) (namedCols_wf c hw)]
  unfold rowDataSpec
  cases h : (namedCols c).all (fun nt => colHasGoType nt.2) <;> simp [namesOf]

theorem rowDataColumns_some {c : Cols} {names : List FrameRead.Bytes} (hw : wfCols c = true)
    (h : rowDataSpec c = some names) : rowDataColumns (viewCols c) = .ok names := by
  rw [rowDataColumns_view c hw, h]

/-- every column of a well-formed row occupies at least one destination -/
theorem totalWidth_ge (tcs : List (TypeDesc × Cell)) (hw : wfRow tcs = true) :
    tcs.length ≤ totalWidth (tcs.map (·.1)) := by
  induction tcs with
  | nil => simp [totalWidth]
  | cons tc tcs ih =>
    obtain ⟨t, c⟩ := tc
    obtain ⟨hc, _, hr⟩ := wfRow_cons.mp hw
    have h1 : 1 ≤ destWidth t := by
      cases t <;> simp [destWidth]
      cases c <;> simp_all [wfCell]
    have := ih hr
    simp only [totalWidth, List.map_cons, List.sum_cons, List.length_cons] at this ⊢
    omega

/-- no Go type for some column: RowData's error is dropped, MapScan / SliceMap scan into no destinations
    and fail with "not enough columns to scan into" (they do not panic): the column RowData failed on occupies a destination -/
theorem noGo_row {it : Iter} {ts : List TypeDesc} {row : List Cell} {rows : List (List Cell)}
    {rest : FrameRead.Bytes} (h : AtRows it ts (row :: rows) rest) (hn : rowDataColumns it.md.columns = .err) :
    mapScan it = .stop { it with failed := true } ∧ sliceMap it = .error { it with failed := true } := by
  have hcols : 0 < ts.length := by
    rw [← h.cols_length]
    cases hc : it.md.columns with
    | nil => rw [hc] at hn; cases hn
    | cons a b => simp
  have hge := totalWidth_ge (ts.zip row) (h.wf row (by simp)).2
  rw [h.zip_fst (by simp), List.length_zip, (h.wf row (by simp)).1, Nat.min_self] at hge
  have h2 : ¬ it.pos ≥ it.numRows := by have := h.head_buf.1; omega
  have h3 : ¬ ((0 : Int) = it.md.actualColCount) := by rw [h.width]; omega
  unfold mapScan sliceMap
  simp [h.live, sliceMapRows, rowDataNames, hn, scan, h2, h3]

/-- ... and on a page without rows they end normally -/
theorem noGo_empty (it : Iter) (hf : it.failed = false) (hp : it.pos = it.numRows)
    (hn : rowDataColumns it.md.columns = .err) : mapScan it = .stop it ∧ sliceMap it = .rows [] it := by
  unfold mapScan sliceMap
  simp [hf, sliceMapRows, rowDataNames, hn, scan, hp]

theorem range_map_pair {β : Type} (names : List FrameRead.Bytes) (f : Nat → β) :
    (List.range names.length).map (fun j => (names.getD j [], f j)) = names.zip ((List.range names.length).map f) := by
  induction names generalizing f with
  | nil => simp
  | cons n ns ih =>
    have := ih (fun j => f (j + 1))
    simp only [List.length_cons, List.range_succ_eq_map, List.map_cons, List.map_map, List.zip_cons_cons]
    congr 1

/-- rowMap after the calls of a row: the entry of a name is (a function `g` of) the data of the destination that
    carries the name -/
theorem mapOfList_stored {β : Type} (names : List FrameRead.Bytes) (row : List (TypeDesc × Cell))
    (g : Option FrameRead.Bytes → β) (hlen : names.length = totalWidth (row.map (·.1))) (hd : names.Nodup) :
    mapOfList ((List.range names.length).map (fun j => (names.getD j [], g ((storedAt (rowCalls 0 row) j).getD none))))
      = names.zip ((rowCalls 0 row).map (fun c => g c.data)) := by
  rw [range_map_pair names (fun j => g ((storedAt (rowCalls 0 row) j).getD none))]
  have h1 : (List.range names.length).map (fun j => g ((storedAt (rowCalls 0 row) j).getD none))
      = ((List.range (totalWidth (row.map (·.1)))).map (fun j => (storedAt (rowCalls 0 row) j).getD none)).map g := by
    rw [hlen]; simp
  rw [h1, stored_row row, List.map_map, mapOfList_nodup]
  · rfl
  · rw [List.map_fst_zip (by rw [List.length_map, rowCalls_length, hlen]; exact Nat.le_refl _)]
    exact hd

theorem mapScan_row {it : Iter} {ts : List TypeDesc} {row : List Cell} {rows : List (List Cell)}
    {rest : FrameRead.Bytes} (h : AtRows it ts (row :: rows) rest) (names : List FrameRead.Bytes)
    (hnames : rowDataColumns it.md.columns = .ok names) (hd : names.Nodup) :
    mapScan it = .row { it with pos := it.pos + 1, buf := eRows rows ++ rest }
      (names.zip ((rowCalls 0 (ts.zip row)).map (·.data))) := by
  have hlen := rowDataColumns_length it.md.columns ts names h.cols hnames
  have hrep : names.map (fun _ => true) = List.replicate (totalWidth ts) true := by
    rw [← hlen]; exact List.map_const'
  have hmap := mapOfList_stored names (ts.zip row) id (by rw [h.zip_fst (by simp)]; exact hlen) hd
  simp only [id] at hmap
  unfold mapScan
  simp only [h.live, Bool.false_eq_true, if_false, rowDataNames, hnames, hrep]
  rw [h.scan_head]
  dsimp only  -- the `match` on what Scan returned
  rw [hmap, h.live]

/-- the whole SliceMap: one map per row; values are the cells (null reads as empty) -/
theorem sliceMapRows_ok {it : Iter} {ts : List TypeDesc} {rows : List (List Cell)} {rest : FrameRead.Bytes}
    (h : AtRows it ts rows rest) (names : List FrameRead.Bytes) (acc : List (List (FrameRead.Bytes × FrameRead.Bytes)))
    (hnames : rowDataColumns it.md.columns = .ok names) (hd : names.Nodup) :
    sliceMapRows (rows.length + 1) it acc
      = .rows (acc ++ rows.map (fun row => names.zip ((rowCalls 0 (ts.zip row)).map (fun c => c.data.getD []))))
          { it with pos := it.numRows, buf := rest } := by
  have hlen := rowDataColumns_length it.md.columns ts names h.cols hnames
  have hrep : names.map (fun _ => true) = List.replicate (totalWidth ts) true := by
    rw [← hlen]; exact List.map_const'
  induction rows generalizing it acc with
  | nil =>
    obtain ⟨hpos, hb⟩ := h.at_end
    have hf := h.live
    simp only [List.length_nil, Nat.zero_add]
    rw [sliceMapRows]
    simp only [rowDataNames, hnames, hrep]
    rw [scan_end it _ hf hpos]
    cases it
    simp_all
  | cons row rows ih =>
    simp only [List.length_cons]
    rw [sliceMapRows]
    simp only [rowDataNames, hnames, hrep]
    rw [h.scan_head]
    simp only [mapOfList_stored names (ts.zip row) (fun d => d.getD []) (by rw [h.zip_fst (by simp), hlen]) hd]
    have := ih h.next (acc ++ [names.zip ((rowCalls 0 (ts.zip row)).map (fun c => c.data.getD []))]) hnames
    simp only at this
    simp only [this]
    simp

end C04
