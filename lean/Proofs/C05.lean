import Proofs.C05TypeStr
import Proofs.C05Frame
import Proofs.C05Rows
import Proofs.C05Dispatch
import Proofs.C05Value
import Proofs.C05Seq
import Proofs.C05Event
import Proofs.C05ConnSetup
import Model.TokenRing
/-!
# C05 — no bytes from the network can crash the application

Property theorems; models in Model/{TypeStr,CrashValue,RowsCrash,FrameCrash,Dispatch,PrepLife,EventFlow,
ConnSetup,TokenRing}.lean, helper lemmas in Proofs/C05*.lean (the two of the token ring stand here). Ten more property
theorems are stated in Proofs/C05Dispatch.lean and Proofs/C05Value.lean, in the namespaces of those files. A `crash`
outcome of a model is produced exactly where the Go code would raise a run-time panic that nothing recovers.
-/
namespace C05

section typestrings
open TypeStr

/-! ## schema type strings (metadata.go parseType, helpers.go getCassandraType …)

The model is the code after the repairs of KF-C05-1 (parseParamNodes read `t.input[t.index]` at end of
input in three places), KF-C05-2/3 (parse / asTypeInfo indexed `params[count-1]`, `params[0]`,
`params[1]` and dereferenced a nil `param.name` without checking) and KF-C05-4 (apacheToCassandraType
grew exponentially). -/

/-- FULL: parseType cannot panic, for every byte string. The content: every index / slice expression of
the parser (`t.input[t.index]` ×3, `t.input[startIndex:endIndex]`, `ast.params[count-1]`,
`ast.params[:count]`, `class.params[0]`, `class.params[1]`, `*param.name`) is in bounds / non-nil for all
inputs and the recursion terminates (fuel |s|+1 is never exhausted). -/
theorem C05_typestrings_total (s : Str) : (parseType s).crashSite = none :=
  (C05TypeStr.parseType_noCrash s).crashSite

/-- getCassandraType / getTypeInfo (CQL type names of the v3 schema tables) never panic: the only
slice expression `name[:len(name)-1]` is guarded by the prefix tests, the recursion terminates. -/
theorem C05_cqltypenames_total (s : Str) :
    (getCassandraType s).crashSite = none ∧ (getTypeInfo s).crashSite = none :=
  ⟨(C05TypeStr.getCassandraType_noCrash s).crashSite, (C05TypeStr.getTypeInfo_noCrash s).crashSite⟩

/-- ALLOCATION (part of the property: "never allocates memory wildly out of proportion to the bytes
received"): the CQL translation of a Java class string is at most 18 times as long as the string -/
theorem C05_typestring_alloc_bound (t : Str) : (apacheToCassandraType t).length ≤ 18 * t.length := by
  unfold apacheToCassandraType
  have h1 := C05TypeStr.replace_len t kAPACHE [] 1 (by omega) (by simp)
  have h2 := C05TypeStr.replace_len (replace t kAPACHE []) [40] [60] 1 (by omega) (by simp)
  have h3 := C05TypeStr.replace_len (replace (replace t kAPACHE []) [40] [60]) [41] [62] 1 (by omega) (by simp)
  have h4 := C05TypeStr.translateFields_len (replace (replace (replace t kAPACHE []) [40] [60]) [41] [62]) []
  have h5 := C05TypeStr.replace_len (translateFields (replace (replace (replace t kAPACHE []) [40] [60]) [41] [62]) [])
    [44] kcommaSp 2 (by omega) (by decide)
  simp at *
  omega

def str (s : String) : Str := s.toList.map (·.toNat)

/-! regression: the strings that crashed the parser before the repairs (the `ops` of KF-C05-1..4,
replayed on the real code by the check) are custom types now; non-vacuity: a well-formed composite
comparator still parses into its components -/
example : (parseType [65, 40]).crashSite = none ∧ (parseType [65, 40, 66]).crashSite = none ∧
    (parseType [65, 40, 66, 40, 67, 41]).crashSite = none := by decide
example : renderOut renderResult (parseType [65, 40]) = "ok:S[c4128]{}" := by decide
example : renderOut renderResult (parseType kCOMPOSITE) = renderOut renderResult (.ok (customResult kCOMPOSITE)) := by decide +kernel
example : renderOut renderResult (parseType kLISTT) = renderOut renderResult (.ok (customResult kLISTT)) := by decide +kernel
example : renderOut renderResult (parseType (kMAPT ++ [40, 65, 41]))
    = renderOut renderResult (.ok (customResult (kMAPT ++ [40, 65, 41]))) := by decide +kernel
example : renderOut renderResult (parseType kREVERSED) = renderOut renderResult (.ok (customResult kREVERSED)) := by decide +kernel
example : (parseType (kCOMPOSITE ++ [40] ++ kCOLLECTION ++ [40, 65, 41, 41])).crashSite = none := by decide +kernel
example : renderOut renderResult (parseType (kCOMPOSITE ++ [40] ++ kLISTT ++ [40, 65, 41, 44] ++ kREVERSED ++ [40, 66, 41, 41]))
    = "ok:C[L(c41),r:c42]{}" := by decide +kernel
/-- `c,u,s,t,o,m` (11 bytes) became 331 bytes, `c,u,s,t,o,m,c,u` 2232 bytes before the repair of KF-C05-4 -/
example : (apacheToCassandraType [99,44,117,44,115,44,116,44,111,44,109]).length = 46 := by decide +kernel

end typestrings

/-! ## response frames (frame.go parseFrame and the primitive readers 1812-1981)

The model is the code after the repairs of KF-C05-5 (readInetAdressOnly sliced `size` (4/16) bytes
behind `len(f.buf) < 1`: EVENT STATUS_CHANGE / TOPOLOGY_CHANGE on the connection's goroutine and the v5
error map), KF-C05-6/7 (parsePreparedMetadata `make([]int, pkeyCount)` with a negative / unchecked
count) and KF-C05-8 (readTypeInfo `make` of an unchecked tuple / UDT element count). -/
section frames
open FrameCrash

/-- the generic lemma: a primitive reader whose length check is at least what it slices cannot
crash on any buffer; `C05_prim_table` checks the list `primTable`, which the readers themselves do not consult -/
theorem C05_prim_guard_ge_need (site : FrameCrash.Site) (guard need : Nat) (h : need ≤ guard) (st : St) :
    (take site guard need st).crashSite = none := C05Frame.take_noCrash site guard need h st

theorem C05_prim_table : ∀ p ∈ primTable, p.2.2 ≤ p.2.1 := by decide

/-- FULL: for every protocol version, direction bit, header flags, opcode and body, parseFrame raises
no run-time panic. The content: every read of the parser (all primitives, all error codes, result
kinds, metadata, the partition-key list, type descriptions of any nesting, schema changes, events incl.
their inet addresses, SUPPORTED, AUTH frames, tracing / warning / custom-payload prefixes) is guarded,
no `make` gets a negative size, and the type-description recursion terminates (fuel |body|+1 is never
exhausted). -/
theorem C05_frame_total (proto : Nat) (resp : Bool) (flags op : Nat) (body : Bytes) :
    (parseFrame proto resp flags op body).crashSite = none :=
  C05Frame.crashSite_of_invAt (C05Frame.inv_parseFrameP proto resp flags op { buf := body, alloc := 0 })

/-! regression: the frames that crashed the parser before the repairs (the `ops` of KF-C05-5, 6) are
parse errors now -/
/-- EVENT STATUS_CHANGE "UP", inet size 16 with 2 bytes left (protocol 4); TOPOLOGY_CHANGE with a 4-byte
address and 3 bytes left; RESULT/PREPARED (protocol 4) with partition-key count −1 -/
theorem C05_former_frame_witnesses_are_errors :
    (parseFrame 4 true 0 0x0C
      [0, 13, 83, 84, 65, 84, 85, 83, 95, 67, 72, 65, 78, 71, 69, 0, 2, 85, 80, 16, 254, 128]).isErr = true ∧
    (parseFrame 3 true 0 0x0C
      [0, 15, 84, 79, 80, 79, 76, 79, 71, 89, 95, 67, 72, 65, 78, 71, 69, 0, 8, 78, 69, 87, 95, 78, 79, 68, 69, 4, 10, 0, 0]).isErr = true ∧
    (parseFrame 4 true 0 0x08
      [0, 0, 0, 4, 0, 2, 1, 2, 0, 0, 0, 4, 0, 0, 0, 0, 255, 255, 255, 255]).isErr = true := by decide +kernel

example : (parseFrame 4 true 0 0x02 []).crashSite = none := by decide +kernel

/-! ### recursion depth (KF-C05-13, open)

The nesting depth of a parsed type description — the depth of readTypeInfo's recursion, hence its
goroutine stack use — is bounded by the number of unread body bytes and by nothing else: 2 bytes per
level suffice (`00 20` = list<…>). Go's stack limit is not part of the model; the measured
≥ 336 bytes of stack per level make a 4 MB body fatal (subprocess scenario `deep`). -/

theorem C05_typeinfo_depth_le_body (st : St) (t : TI) (st' : St) (h : readTypeInfoTop st = .ok t st') :
    tiDepth t ≤ st.buf.length + 1 := by
  have := C05Frame.tri_ok (C05Frame.readTypeInfoTop_spec st) h
  omega

/-- 8 bytes → depth 4: list<list<list<int>>> -/
theorem C05_cex_typeinfo_depth :
    (match readTypeInfoTop { buf := [0, 32, 0, 32, 0, 32, 0, 9], alloc := 0 } with
     | .ok t _ => tiDepth t
     | _ => 0) = 4 := by decide +kernel

/-- the partition-key index list: what parsePreparedMetadata allocates for it (8 bytes per index) is
at most 4 times the unread body (`pkeyCount*2 > len(f.buf)` is rejected before `make`) -/
theorem C05_alloc_pk_guard (pk : Nat) (st : St) (h : ¬ 2 * pk > st.buf.length) : 8 * pk ≤ 4 * st.buf.length := by
  omega

/-- a tuple / UDT element list: what readTypeInfo allocates for ONE description (16 / 32 bytes per
element) is at most 8 times the unread body; `guardCount` rejects the count otherwise, before `make` -/
theorem C05_alloc_typeinfo_guard (k n : Nat) (st : St) (u : Unit) (st' : St)
    (h : guardCount (k * n) st = .ok u st') : st' = st ∧ 8 * k * n ≤ 8 * st.buf.length := by
  revert h
  fun_cases guardCount (k * n) st <;> intro h <;> cases h
  exact ⟨rfl, by rw [Nat.mul_assoc]; omega⟩

/-- regression (KF-C05-7): the 18-byte PREPARED body announcing 2^24 partition-key indices allocated
128 MiB before the repair; it is rejected before the allocation now. (KF-C05-8): three nested tuple
descriptions announcing 65535 elements each allocated 3 MiB; rejected before the first `make` now. -/
theorem C05_former_alloc_witnesses :
    (parseFrame 4 true 0 0x08 [0, 0, 0, 4, 0, 0, 0, 0, 0, 4, 0, 0, 0, 0, 1, 0, 0, 0]).isErr = true ∧
    (parseFrame 4 true 0 0x08 [0, 0, 0, 4, 0, 0, 0, 0, 0, 4, 0, 0, 0, 0, 1, 0, 0, 0]).allocated = 0 ∧
    (parseFrame 4 true 0 0x08
      [0, 0, 0, 2, 0, 0, 0, 1, 0, 0, 0, 1, 0, 1, 107, 0, 1, 116, 0, 1, 99,
       0, 49, 255, 255, 0, 49, 255, 255, 0, 49, 255, 255]).allocated ≤ 256 := by
  decide +kernel

/-- NO linear bound for parseFrame as a whole (KF-C05-28, open: what is left of KF-C05-8 after its repair): the element-count
guard compares with the bytes still unread at THAT level, and nested descriptions are all alive at
once, so k nested tuple descriptions `00 31 <n_i>` with n_i = (bytes left)/2 allocate about
8·|body| each: quadratic in the body. 10 levels in 61 bytes allocate 1440 bytes of element slots
(vs 16·9 if counts were exact). -/
theorem C05_cex_alloc_nested_quadratic :
    (parseFrame 4 true 0 0x08
      ([0, 0, 0, 2, 0, 0, 0, 1, 0, 0, 0, 1, 0, 1, 107, 0, 1, 116, 0, 1, 99] ++
       [0, 49, 0, 18, 0, 49, 0, 16, 0, 49, 0, 14, 0, 49, 0, 12, 0, 49, 0, 10, 0, 49, 0, 8, 0, 49, 0, 6, 0, 49, 0, 4,
        0, 49, 0, 2, 0, 49, 0, 0])).allocated ≥ 16 * (18 + 16 + 14 + 12 + 10 + 8 + 6 + 4 + 2) := by
  decide +kernel

/-- readFrame: PARTIAL allocation bound — when the announced body arrives, what was allocated for
it is at most its size; in every case at most maxFrameSize -/
theorem C05_alloc_bound_partial (length : Int) (flags : Nat) (avail : Bytes) :
    (∀ body a, readFrame length flags avail = .ok body a → a ≤ avail.length) ∧
    (∀ a, readFrame length flags avail = .err a → a ≤ maxFrameSize) := by
  unfold readFrame
  -- what is allocated for the body is the announced length or nothing
  have ha : (if defaultBufSize ≥ length.toNat then 0 else length.toNat) ≤ length.toNat := by split <;> omega
  refine ⟨fun body a h => ?_, fun a h => ?_⟩ <;> (repeat' split at h) <;> cases h <;> omega

/-- D15 (DESIGN section 7): the FULL bound (allocation ≤ a·received + b) fails: a 9-byte header announcing 2^28 bytes
makes readFrame allocate 256 MiB before a single body byte has arrived (KF-C05-9) -/
theorem C05_cex_alloc_header :
    readHeader [132, 0, 0, 1, 8, 16, 0, 0, 0] = .ok 132 0 1 8 268435456 ∧
    readFrame 268435456 0 [] = .err 268435456 := by decide +kernel

end frames

/-! ## row iteration (session.go Iter.Scan / readColumn / scanColumn)

The model is the code after the repairs of KF-C05-10 (fewer than 4 bytes left when a cell length is
read: framer.readInt's `panic(error)` escaped Iter.Scan), KF-C05-11 (a column list ending in 0-element
tuples: `dest[0]` on an empty slice) and KF-C05-12 (a tuple cell whose field length exceeds the cell:
marshal.go readBytes). -/
section rows
open FrameCrash RowsCrash C05Rows

/-- FULL: iterating ANY result body (every row/column count, every cell length, every truncation)
never panics: short bodies and missing destinations are errors, and `dest[i:]` / `dest[:count]` are
always in bounds (the destination count is exactly what the parsed metadata adds up to). -/
theorem C05_rows_total (proto flags : Nat) (body : Bytes) (o : ROut)
    (ho : iterate proto flags body = some o) : o.crashSite = none := by
  revert ho
  -- a ROWS frame that parses, or nothing to iterate
  fun_cases iterate proto flags body <;> intro ho <;> cases ho
  exact C05Rows.scanAll_safe _ (C05Rows.parsed_meta_ok proto true flags 8 body _ _ _ ‹_›) _ _

/-- regression: the result bodies that crashed Iter.Scan before the repairs (the `ops` of KF-C05-10, 11,
12) end in an error now: one int column, 2 rows announced, body ends after the first cell; a single
column of type tuple<> (no elements); tuple<int,int> cell of 5 bytes whose first field announces 9 -/
theorem C05_former_rows_witnesses_are_errors :
    iterate 4 0 [0, 0, 0, 2, 0, 0, 0, 1, 0, 0, 0, 1, 0, 1, 107, 0, 1, 116, 0, 1, 99, 0, 9, 0, 0, 0, 2, 0, 0, 0, 1, 7]
      = some (.err 1) ∧
    iterate 4 0 [0, 0, 0, 2, 0, 0, 0, 1, 0, 0, 0, 1, 0, 1, 107, 0, 1, 116, 0, 1, 99, 0, 49, 0, 0, 0, 0, 0, 1, 255, 255, 255, 255]
      = some (.err 0) ∧
    iterate 4 0 [0, 0, 0, 2, 0, 0, 0, 1, 0, 0, 0, 1, 0, 1, 107, 0, 1, 116, 0, 1, 99, 0, 49, 0, 2, 0, 9, 0, 9,
                       0, 0, 0, 1, 0, 0, 0, 5, 0, 0, 0, 9, 7]
      = some (.err 0) := by decide +kernel

/-- non-vacuity: the same frame with both cells present iterates two rows -/
example : iterate 4 0 [0, 0, 0, 2, 0, 0, 0, 1, 0, 0, 0, 1, 0, 1, 107, 0, 1, 116, 0, 1, 99, 0, 9, 0, 0, 0, 2,
                             0, 0, 0, 1, 7, 255, 255, 255, 255] = some (.ok 2) := by decide +kernel

/-! ### allocation of the row consumers (Scan loops, Scanner, MapScan, SliceMap, RowData) -/

/-- however many rows a ROWS frame announces, a consumer gets through at most one row per 4 bytes of the
row set it received (one described column at least): the announced count costs nothing by itself -/
theorem C05_rows_scanned_le_body (m : Meta) (hc : m.cols ≠ []) (numRows : Nat) (rest : Bytes) :
    4 * (scanAll m numRows rest).rows ≤ rest.length := C05Rows.rows_scanned_le_body m hc numRows rest

/-- ALLOCATION BOUND for the row consumers: the model's allocation counter (one unit per destination and
row scanned, plus the bytes of the row set) is at most (|rows|/4 + 1)·(destinations + 1) + |rows|, for every
announced row count (spec-backed op `alloc rows …`: the real code's bytes allocated are compared with
this bound times generous per-unit constants) -/
theorem C05_rows_alloc_bound (m : Meta) (hc : m.cols ≠ []) (numRows : Nat) (rest : Bytes) :
    consumeUnits m numRows rest ≤ consumeBound m rest := by
  have h := C05_rows_scanned_le_body m hc numRows rest
  unfold consumeUnits consumeBound
  have : (scanAll m numRows rest).rows ≤ rest.length / 4 := by omega
  have h2 : ((scanAll m numRows rest).rows + 1) * (destLen m + 1) ≤ (rest.length / 4 + 1) * (destLen m + 1) :=
    Nat.mul_le_mul_right (destLen m + 1) (Nat.succ_le_succ this)
  omega

/-- non-vacuity / the witness of the trial change /verif/seeded/C05-2: one int column, 2^24 rows announced, 6 bytes of
row set: 2 allocation units per row for at most 1 + 1 rows -/
example : (match parseFrame 4 true 0 8 [0,0,0,2, 0,0,0,1, 0,0,0,1, 0,2,107,115, 0,1,116, 0,1,99, 0,9, 1,0,0,0, 0,0,0,8, 0,1] with
    | .ok (.rows m n) st => (n, consumeUnits m n st.buf, consumeBound m st.buf)
    | _ => (0, 0, 0)) = (16777216, 8, 10) := by decide +kernel

/-! ### MapScan / SliceMap destinations (Iter.RowData → helpers.go goType)

KF-C05-14: a map type whose key is not comparable as a Go type made `reflect.MapOf` panic in RowData /
MapScan / SliceMap (a map, where goType looks, keyed by blob, list, set, map, tuple or UDT — all legal
as FROZEN map keys in CQL). The model is the code after the repair (/repo commit c637d3e: the
Comparable guard). -/

/-- current tree: RowData over ANY columns without a NativeType carrying a collection id (`colNative`) never
panics. That readTypeInfo builds no such column, so that this covers every parsed ROWS frame, is not proved. -/
theorem C05_rowdata_total (cols : List TI) (n : Nat) (h : ∀ c ∈ cols, colNative c = true) :
    (rowData cols n).isCrash = false :=
  C05Rows.rowData_safe true cols n (fun c hc => ⟨Or.inl rfl, h c hc⟩)

/-- the code before the repair of KF-C05-14 (c637d3e): no panic outside the shape described above … -/
theorem C05_rowdata_old_partial (cols : List TI) (n : Nat) (h : ∀ c ∈ cols, colOk c = true ∧ colNative c = true) :
    (rowDataG false cols n).isCrash = false :=
  C05Rows.rowData_safe false cols n (fun c hc => ⟨Or.inr (h c hc).1, (h c hc).2⟩)

/-- … and a panic on the legal column type map<frozen<list<int>>, int>, which is an error now -/
theorem C05_rowdata_map_key_list_fixed :
    newRowOld 4 0 [0, 0, 0, 2, 0, 0, 0, 1, 0, 0, 0, 1, 0, 1, 107, 0, 1, 116, 0, 1, 99, 0, 33, 0, 32, 0, 9, 0, 9, 0, 0, 0, 0] = some .crashMapOf ∧
    newRow 4 0 [0, 0, 0, 2, 0, 0, 0, 1, 0, 0, 0, 1, 0, 1, 107, 0, 1, 116, 0, 1, 99, 0, 33, 0, 32, 0, 9, 0, 9, 0, 0, 0, 0] = some .err := by decide +kernel

/-- non-vacuity: map<int, list<int>> is fine -/
example : newRow 4 0 [0, 0, 0, 2, 0, 0, 0, 1, 0, 0, 0, 1, 0, 1, 107, 0, 1, 116, 0, 1, 99, 0, 33, 0, 9, 0, 32, 0, 9, 0, 0, 0, 0]
    = some (.ok 1) := by decide +kernel

end rows

/-! ## value decoders (marshal.go Unmarshal on arbitrary bytes)

Full statement, allocation bounds and the regression witnesses are in Proofs/C05Value.lean. -/
section values
open CrashValue

/-- FULL: no protocol version, type tree, destination and bytes (or NULL) crash `Unmarshal` -/
theorem C05_values_total (proto : Nat) (t : CT) (dst : Dest) (data : Option Bytes) :
    ∀ s, unmarshal proto t dst data ≠ .crash s :=
  C05Value.C05_values_total proto t dst data

end values

/-! ## response-kind dispatch (conn.go / control.go / events.go type switches)

Full statements and the lifting lemmas are in Proofs/C05Dispatch.lean; the table `Dispatch.dispatch`
is compared cell by cell with the table re-extracted from the source (go/ast) on every run, and every
drivable cell is driven through a real Session in a subprocess. -/
section dispatch
open Dispatch

/-- FULL: no (site, kind) cell crashes. -/
theorem C05_dispatch_total (s : Site) (k : FrameKind) : (dispatch s k).isCrash = false :=
  C05Dispatch.C05_dispatch_total s k
/-- FULL: no sequence of frames crashes a site's loop (heartbeats, event stream, request sites). -/
theorem C05_stream_total (s : Site) (fs : List FrameKind) : siteRun dispatch s fs = none :=
  C05Dispatch.C05_stream_total s fs
/-- FULL: no sequence of frames crashes the handshake, whatever the authenticator does. -/
theorem C05_handshake_total (cfg : AuthCfg) (fs : List FrameKind) :
    (hsRun dispatch cfg .awaitSupported fs).isCrashed = false :=
  C05Dispatch.C05_handshake_total cfg fs
/-- KF-C05-26 (open, a resource finding: no crash cell): UNPREPARED re-enters executeQuery /
    executeBatch, the recursion depth is whatever the server wants -/
theorem C05_retry_depth_unbounded (n : Nat) :
    retryDepth .executeQuery (List.replicate n .unprepared) = n ∧
    retryDepth .executeBatch (List.replicate n .unprepared) = n :=
  C05Dispatch.C05_retry_depth_unbounded n

end dispatch

/-! ## sequences of answers on the prepare / execute / unprepared / re-prepare / paging paths

Model/PrepLife.lean: the prepared-statement cache of a connection with any number of concurrent callers
(queries, paging queries, batches) as a state machine whose inputs are the peer's answers — any of the 18
frame kinds or a malformed body, to any pending PREPARE / EXECUTE / BATCH, in any order, plus frames on the
event stream. A cache entry may be absent, in flight, finished with a statement, or finished WITHOUT one; the
last state is what `evictPreparedID` would dereference (`Res.crash`). Lemmas in Proofs/C05Seq.lean; the
machine is compared step by step (frames at the peer, returns of the calls, cache contents through the hook
VerifC05dStmtCache) with a real Session in child processes (ops `seq`, `seqinv`). -/
section sequences
open PrepLife

/-- FULL: for every set of callers and EVERY sequence of answers, no step of the machine reaches the nil
    dereference in evictPreparedID, and in the state reached every cached flight that is finished holds a
    prepared statement. -/
theorem C05_prepcache_total (cs : List (CKind × List Nat)) (is : List Input) :
    (run PArm.removes (init cs) is).crashed = false ∧ Inv (run PArm.removes (init cs) is).state.core :=
  C05Seq.run_safe C05Seq.removes_ok is (init cs) C05Seq.init_inv

/-- FULL: one step from ANY state that satisfies the invariant (not only the reachable ones) neither crashes
    nor breaks it. -/
theorem C05_prepcache_step (s : State) (i : Input) (h : Inv s.core) :
    step PArm.removes s i ≠ .crash ∧ ∀ s' log, step PArm.removes s i = .next s' log → Inv s'.core := by
  rcases C05Seq.step_ok C05Seq.removes_ok i h with hs | ⟨s1, l1, hs, h1⟩ <;> rw [hs]
  · exact ⟨nofun, nofun⟩
  · exact ⟨nofun, fun _ _ he => by cases he; exact h1⟩

/-- FULL (spec-backed op `seqinv`): the model's answer is `ok` for every scenario, so an implementation
    answer `bad:nil-entry` (a finished flight without statement seen in the cache at a quiescent point) or
    `crash:..` is a failing input. -/
theorem C05_seqinv_ok (cs : List (CKind × List Nat)) (is : List Input) :
    invAnswer PArm.removes (init cs) is = "ok" :=
  C05Seq.invAnswer_ok C05Seq.removes_ok is (init cs) C05Seq.init_inv

/-- the same for every removal table in which each arm that stores an error also removes the key: that is the
    whole of what the safety of evictPreparedID needs from prepareStatement -/
theorem C05_prepcache_total_of_removal (rm : PArm → Bool) (hrm : ∀ a, a.result = .failed → rm a = true)
    (cs : List (CKind × List Nat)) (is : List Input) :
    (run rm (init cs) is).crashed = false :=
  (C05Seq.run_safe hrm is (init cs) C05Seq.init_inv).1

/-- ... and the hypothesis is needed: forget the removal in ONE arm (`default:`, a well-formed frame of an
    unexpected kind) and six answers crash the machine — statement prepared, two executions in flight, the
    first answered UNPREPARED, the re-prepare answered RESULT/Void, the second answered UNPREPARED. The cached
    entry is then `failed` (the state is representable, the invariant is not vacuous). -/
theorem C05_prepcache_removal_needed :
    (run C05Seq.rmForgetDefault (init [(.query, [0]), (.query, [0])])
      [.start 0, .pans 0 (.frame .resultPrepared 1 1), .start 1, .xans 0 (.frame .unprepared 1 false),
       .pans 0 (.frame .resultVoid 0 1), .xans 1 (.frame .unprepared 1 false)]).crashed = true ∧
    invOK (run C05Seq.rmForgetDefault (init [(.query, [0])])
      [.start 0, .pans 0 (.frame .resultVoid 0 1)]).state.core 3 = false := by
  constructor <;> decide

example : (run PArm.removes (init [(.query, [0]), (.query, [0])])
      [.start 0, .pans 0 (.frame .resultPrepared 1 1), .start 1, .xans 0 (.frame .unprepared 1 false),
       .pans 0 (.frame .resultVoid 0 1), .xans 1 (.frame .unprepared 1 false)]).state.core.cache 0 = some 2 := by
  decide

end sequences

/-! ## frames on stream -1 under every Events configuration

Model/EventFlow.lean: a session built by NewSession for ANY `ClusterConfig.Events` (what was registered does not
bind the peer), fed ANY sequence of frames on stream -1 — events of every kind, well-formed frames that are no
events, unparsable bodies — on any connection, during the handshake or later, in rounds (push, debounce timers
expire, handleSchemaEvent / handleNodeEvent run, ring refresh). `Res.crash` is the nil dereference in
`eventDebouncer.debounce` that handleEvent would reach through a session without that debouncer. Lemmas in
Proofs/C05Event.lean; the machine is compared round by round (debouncer contents through the hook
VerifC05fEventBuffers, log lines, calls of the host selection policy, schema-agreement and ring-refresh queries
at the peer, state of the node and its pool) with a real Session in child processes (ops `evt`, `evtinv`). -/
section events
open EventFlow

/-- FULL: for every Events configuration and EVERY scenario (frames pushed while OPTIONS / STARTUP / REGISTER of a
    connection are outstanding, then any number of rounds of any frames on the control and pool connections),
    the process does not die. -/
theorem C05_events_total (cfg : EvCfg) (rs : List (List Step)) : (run cfg rs).isCrash = false :=
  (C05Event.runWith_ok ctorAlways cfg rfl rfl rs).1

/-- FULL: handleEvent from ANY session state in which both debouncers exist (not only the reachable ones), for any
    frame: no crash, both still exist, and neither holds more than eventBufferSize frames if it did not before. -/
theorem C05_events_step (s : Sess) (e : Ev) (h : C05Event.Inv s) :
    ∃ s' lg, handleEvent s e = .ok s' lg ∧ C05Event.Inv s' ∧ (C05Event.BInv s → C05Event.BInv s') :=
  C05Event.handleEvent_ok s e h

/-- ALLOCATION: whatever arrives, at every observation point each debouncer holds at most eventBufferSize (1000)
    frames (the rest is logged and dropped), for every configuration and scenario. -/
theorem C05_events_buffer_bound (cfg : EvCfg) (rs : List (List Step)) : (run cfg rs).invOK = true :=
  (C05Event.runWith_ok ctorAlways cfg rfl rfl rs).2

/-- FULL (spec-backed op `evtinv`): the model's answer is `ok` for every scenario, so an implementation answer
    `crash:..` or `bad:buffer-over` is a failing input. -/
theorem C05_evtinv_ok (cfg : EvCfg) (rs : List (List Step)) : (run cfg rs).invStr = "ok" :=
  C05Event.invStr_ok _ (C05_events_total cfg rs) (C05_events_buffer_bound cfg rs)

/-- EXACTLY what the safety of handleEvent needs from NewSession: a way of building the session is crash-free
    for every configuration and scenario IF AND ONLY IF it allocates both debouncers for every configuration
    (session.go:164-165 does: `ctorAlways`). -/
theorem C05_events_total_iff (ct : Ctor) :
    (∀ cfg rs, (runWith ct cfg rs).isCrash = false) ↔ ∀ cfg, ct.node cfg = true ∧ ct.schema cfg = true := by
  constructor
  · intro h cfg
    refine ⟨?_, ?_⟩
    · cases hn : ct.node cfg with
      | true => rfl
      | false =>
        -- without the node debouncer one STATUS_CHANGE on the control connection is a crash
        have := h cfg [[], [⟨.ctl, C05Event.evStatus, 1⟩]]
        rw [C05Event.no_node_deb_crashes ct cfg hn] at this
        cases this
    · cases hs : ct.schema cfg with
      | true => rfl
      | false =>
        -- without the schema debouncer one SCHEMA_CHANGE is
        have := h cfg [[], [⟨.ctl, C05Event.evSchema, 1⟩]]
        rw [C05Event.no_schema_deb_crashes ct cfg hs] at this
        cases this
  · intro h cfg rs
    exact (C05Event.runWith_ok ct cfg (h cfg).1 (h cfg).2 rs).1

/-- ... e.g. a NewSession that builds a debouncer only for the kinds the control connection registers for
    (`ctorRegistered`): with DisableSchemaEvents one unsolicited SCHEMA_CHANGE on the control connection — or already
    while the OPTIONS of the very first connection is outstanding — kills the process; with topology and status
    events disabled one STATUS_CHANGE does. The state is representable, the invariant is not vacuous. -/
theorem C05_events_registered_ctor_crashes :
    runWith ctorRegistered ⟨false, false, true⟩ [[], [⟨.ctl, C05Event.evSchema, 1⟩]] = .crash 1 ∧
    runWith ctorRegistered ⟨false, false, true⟩ [[⟨.hsOptions, C05Event.evSchema, 1⟩]] = .crash 0 ∧
    runWith ctorRegistered ⟨true, true, false⟩ [[], [⟨.pool, C05Event.evStatus, 1⟩]] = .crash 1 := by
  refine ⟨?_, ?_, ?_⟩ <;> decide

/-- non-vacuity: the same frames on the session NewSession builds are debounced and handled
    (KEYSPACE CREATED: one schema-agreement poll and policy.KeyspaceChanged; UP of an unknown host: ring refresh);
    1005 frames: 1000 kept, 5 dropped -/
example : (match run ⟨false, false, true⟩ [[], [⟨.ctl, C05Event.evSchema, 1⟩, ⟨.pool, C05Event.evStatus, 1⟩]] with
    | .ok [_, o] => (o.nodeBuf, o.schemaBuf, o.fx.ag, o.fx.kcC, o.refresh, o.pool)
    | _ => (0, 0, 0, 0, false, false)) = (1, 1, 1, 1, true, true) := by decide
example : (match run ⟨false, false, false⟩ [[], [⟨.ctl, C05Event.evStatus, 1005⟩]] with
    | .ok [_, o] => (o.nodeBuf, o.logs.dropped)
    | _ => (0, 0)) = (1000, 5) := by decide +kernel
example : run ⟨false, false, false⟩ [[⟨.hsStartup, C05Event.evSchema, 1⟩]] = .connectError := by decide

end events

/-! ## connection set-up as a sequence of answers (handshake, then USE keyspace)

Model/ConnSetup.lean: OPTIONS -> STARTUP -> AUTH_RESPONSE.. (`Dispatch.hsStep`) -> `USE "ks"` of a pool connection,
every request answered with ANY of the 18 kinds; compared with a real session in child processes (op `hs`:
the requests the peer saw, and whether the session came up). Lemmas in Proofs/C05ConnSetup.lean. -/
section connsetup
open ConnSetup

/-- FULL: for every authenticator behaviour, with or without a session keyspace, and EVERY script of answers,
    setting up the connection never panics (it runs on a driver goroutine: startupCoordinator / hostConnPool.fill). -/
theorem C05_connsetup_total (cfg : Dispatch.AuthCfg) (useKs : Bool) (script : List Dispatch.FrameKind) :
    (run cfg useKs script).1.isDead = false :=
  C05ConnSetup.alive_not_dead Dispatch.dispatch _
    (C05ConnSetup.drive_preserves _ cfg useKs (C05ConnSetup.Alive _)
      (C05ConnSetup.step_alive _ cfg useKs (C05Dispatch.dispatch_hsRows cfg) fun k => C05Dispatch.C05_dispatch_total _ k)
      _ _ _ _ trivial)

/-- FULL: ... and it always ENDS, with the connection up or an error to the caller: whatever the script, once the
    peer answers like a server again the set-up is over within four requests (no state waits for ever). -/
theorem C05_connsetup_ends (cfg : Dispatch.AuthCfg) (useKs : Bool) (script : List Dispatch.FrameKind) :
    (run cfg useKs script).1 = .up ∨ (run cfg useKs script).1 = .failed :=
  C05ConnSetup.settled_cases _
    (C05ConnSetup.drive_preserves _ cfg useKs C05ConnSetup.Running (C05ConnSetup.step_running cfg useKs) _ _ _ _ trivial)
    (C05ConnSetup.drive_ends cfg useKs script _ _ trivial)
    (C05_connsetup_total cfg useKs script)

/-- non-vacuity: PasswordAuthenticator, keyspace: AUTHENTICATE, AUTH_SUCCESS, then the USE answered with RESULT/Void
    fails after four requests; answered by the server it comes up; an AUTH_CHALLENGE to the nil challenger fails -/
example : run Dispatch.passwordAuth true [.supported, .authenticate, .authSuccess, .resultVoid]
    = (.failed, ["O", "S", "A", "Q"]) := by decide
example : run Dispatch.passwordAuth true [.supported, .authenticate] = (.up, ["O", "S", "A", "Q"]) := by decide
example : run Dispatch.passwordAuth false [.supported, .authenticate, .authChallenge] = (.failed, ["O", "S", "A"]) := by decide

/-- FULL, configuration as a parameter: for EVERY configuration (CQLVersion set or empty, ProtoVersion fixed or
    discovered, compressor or none, Authenticator / AuthProvider / a failing AuthProvider, host lookup on or off),
    EVERY content of the SUPPORTED multimap (any keys in any order, repeated keys, zero / one / many entries, empty
    strings, unknown names), EVERY script of answers to the set-up requests and every answer to the discovery
    connection, nothing panics: the set-up as the code builds it reads no element of any list the node sent. -/
theorem C05_connsetup_cfg_total (cfg : SetupCfg) (sup : Supported) (script : List Dispatch.FrameKind) (d : Disc) :
    (runCfg .configured cfg sup script d).isDead = false := by
  fun_cases runCfg .configured cfg sup script d
  -- ended before a request, twice; the version in the STARTUP body would be missing: not for `configured`;
  -- the set-up itself dead: never (`C05_connsetup_total`); otherwise it ended
  all_goals first
    | rfl
    | exact absurd ‹cqlVersion _ _ _ = none› (by unfold cqlVersion; split <;> simp)
    | exact absurd ‹_ = true› (Bool.eq_false_iff.mp (C05_connsetup_total _ _ _))

/-- what reading an element would need: a STARTUP that takes the FIRST version the node offers when none is
    configured (`supported["CQL_VERSION"][0]`) dies on a well-formed SUPPORTED whose CQL_VERSION list is empty -
    also when a later duplicate of the key is the empty one - and only with CQLVersion "" -/
theorem C05_connsetup_first_offered_crashes :
    runCfg .firstOffered ⟨false, false, false, 0, true⟩ [(.cql, [])] [] .normal = .dead ∧
    runCfg .firstOffered ⟨false, false, true, 1, false⟩ [(.cql, [.v300]), (.comp, [.snappy]), (.cql, [])] [] .normal = .dead ∧
    (runCfg .firstOffered ⟨true, false, false, 0, true⟩ [(.cql, [])] [] .normal).isDead = false ∧
    (runCfg .firstOffered ⟨false, false, false, 0, true⟩ [(.cql, [.v345, .v300])] [] .normal).isDead = false := by
  refine ⟨?_, ?_, ?_, ?_⟩ <;> decide

/-- non-vacuity: the last COMPRESSION entry decides; discovery adopts the version an ERROR names -/
example : runCfg .configured ⟨false, false, true, 0, true⟩ [(.comp, []), (.comp, [.lz4, .snappy])] [] .normal
    = .done .up ["O", "S"] "~" "snappy" := by decide
example : runCfg .configured ⟨true, false, true, 0, true⟩ [(.comp, [.lz4, .snappy]), (.comp, [])] [] .normal
    = .done .up ["O", "S"] "3.0.0" "none" := by decide
example : runCfg .configured ⟨true, true, false, 0, true⟩ [] [] (.errGreatest (some 4)) = .done .up ["O", "S"] "3.0.0" "none" ∧
    runCfg .configured ⟨true, true, false, 0, true⟩ [] [] (.errGreatest (some 77)) = .done .failed [] "-" "-" ∧
    runCfg .configured ⟨true, true, false, 0, true⟩ [] [] (.errGreatest none) = .done .failed [] "-" "-" := by decide

end connsetup

/-! ## token strings from the network (partitioner name, `tokens` column of system.local / system.peers)

Model/TokenRing.lean: newTokenRing (partitioner by name suffix, ParseString per partitioner, sort with token.Less) and
GetHostForToken; compared with the real functions through the hook VerifC05hRing (op `ring`). -/
section tokenring
open TokenRing

/-- ParseString of the code that exists never yields a nil token -/
theorem parse_not_nil (p : Part) (s : Str) : (parse false p s).isNil = false := by
  cases p with
  | murmur3 => rfl
  | ordered => rfl
  | random =>
    simp only [parse]
    cases parseDec s <;> rfl

theorem any_nil_false (p : Part) (l : List Str) : (l.map (parse false p)).any Tok.isNil = false := by
  induction l with
  | nil => rfl
  | cons x xs ih => simp [List.any_cons, parse_not_nil, ih]

/-- FULL: for EVERY partitioner name, EVERY assignment of arbitrary byte strings as tokens to hosts and EVERY string
    looked up, building the ring and the lookup do not panic: ParseString never hands out a nil token (Murmur3: 0 /
    clamped for strings that are no int64; ordered: the string; Random: a non-nil big.Int whatever SetString says). -/
theorem C05_tokenring_total (name : Str) (hosts : List (List Str)) (lookup : Str) :
    (ringOf false name hosts lookup).isCrash = false := by
  unfold ringOf
  cases partOf name with
  | none => rfl
  | some p =>
    simp only [any_nil_false, parse_not_nil, Bool.and_false, Bool.or_false, Bool.false_eq_true, if_false]
    rfl

/-- ... and that is what it takes: a Random ParseString that returns SetString's own result (nil for a string that is
    no base-10 integer) dies as soon as such a token is sorted next to another one or looked up; numeric strings and
    the other partitioners are not affected -/
theorem C05_tokenring_nil_crashes :
    ringOf true (asc "org.apache.cassandra.dht.RandomPartitioner") [[asc "5", asc "12x4"]] (asc "1") = .crash ∧
    ringOf true (asc "RandomPartitioner") [[asc "5"], [[]]] (asc "1") = .crash ∧
    ringOf true (asc "RandomPartitioner") [[asc "5"]] (asc "x") = .crash ∧
    (ringOf true (asc "RandomPartitioner") [[asc "5", asc "-12"]] (asc "+1")).isCrash = false ∧
    (ringOf true (asc "Murmur3Partitioner") [[asc "5", asc "12x4"]] []).isCrash = false := by
  refine ⟨?_, ?_, ?_, ?_, ?_⟩ <;> decide

/-- non-vacuity: Murmur3 ring of "5", "" (= 0), "99999999999999999999" (clamped), "-3": sorted, lookup of 4 ends at 5 -/
example : ringOf false (asc "Murmur3Partitioner") [[asc "5", []], [asc "99999999999999999999", asc "-3"]] (asc "4")
    = .ok [.m (-3), .m 0, .m 5, .m 9223372036854775807] (some (.m 5)) := by decide
example : ringOf false (asc "FooPartitioner") [[asc "5"]] (asc "4") = .err := by decide

end tokenring

end C05
