/-! What the families share about state machines: schedules of a partial step function that returns the next state
    (`IsRun`: cons/append equations, "what every step keeps, every run keeps", forward simulation along a run; a run
    of another shape, with a guard or with outputs, has its principle in `fun_induction` on the model's function),
    folds of a total one (what every step keeps, also under a guard on state and remaining list; steps that do nothing
    or move; commuting steps and permutations), maps and lists updated at one position, association lists read with
    `find?`, insertion into a sorted list, decimal numerals read digit by digit. Nothing here mentions a model. -/

/-- `run` is the schedule runner of the partial step function `step`: the schedule stops (`none`) at the first action that
    is not enabled. The models define one such `run` per machine by these two equations: an instance is
    `⟨fun _ => rfl, fun s a as => by rw [run]; cases step s a <;> rfl⟩` (the `match` a model's recursion was compiled to is
    not this one, hence the case split). -/
structure IsRun {σ α : Type} (step : σ → α → Option σ) (run : σ → List α → Option σ) : Prop where
  nil : ∀ s, run s [] = some s
  cons : ∀ s a as, run s (a :: as) = match step s a with | some s' => run s' as | none => none

namespace IsRun
variable {σ α : Type} {step : σ → α → Option σ} {run : σ → List α → Option σ}

theorem cons_iff (r : IsRun step run) {s s' : σ} {a : α} {as : List α} :
    run s (a :: as) = some s' ↔ ∃ s1, step s a = some s1 ∧ run s1 as = some s' := by
  rw [r.cons]; cases step s a <;> simp

theorem append (r : IsRun step run) : ∀ (as bs : List α) (s : σ), run s (as ++ bs) = (run s as).bind (run · bs)
  | [], _, s => by rw [r.nil]; rfl
  | a :: as, bs, s => by
    rw [List.cons_append, r.cons, r.cons]
    cases step s a with
    | none => rfl
    | some s1 => exact r.append as bs s1

theorem append_iff (r : IsRun step run) {as bs : List α} {s s' : σ} :
    run s (as ++ bs) = some s' ↔ ∃ s1, run s as = some s1 ∧ run s1 bs = some s' := by
  rw [r.append, Option.bind_eq_some_iff]

/-- along a schedule whose actions are all of a kind `A`: a property kept by every enabled action of that kind -/
theorem inv_of (r : IsRun step run) {P : σ → Prop} {A : α → Prop}
    (hstep : ∀ s s' a, A a → P s → step s a = some s' → P s') {as : List α} {s s' : σ} (hA : ∀ a ∈ as, A a) (h : P s)
    (hr : run s as = some s') : P s' := by
  induction as generalizing s with
  | nil => rw [r.nil] at hr; cases hr; exact h
  | cons a as ih =>
    obtain ⟨s1, hs1, hr⟩ := r.cons_iff.mp hr
    exact ih (fun b hb => hA b (List.mem_cons_of_mem _ hb)) (hstep s s1 a (hA a List.mem_cons_self) h hs1) hr

/-- what every enabled step keeps, every schedule keeps -/
theorem inv (r : IsRun step run) {P : σ → Prop} (hstep : ∀ s s' a, P s → step s a = some s' → P s')
    {as : List α} {s s' : σ} (h : P s) (hr : run s as = some s') : P s' :=
  r.inv_of (A := fun _ => True) (fun s s' a _ => hstep s s' a) (fun _ _ => trivial) h hr

/-- forward simulation: if every enabled step is matched, under the relation `R`, by the schedule `f a` of a second
    machine, then every schedule `as` is matched by `as.flatMap f` -/
theorem sim {τ β : Type} {stepT : τ → β → Option τ} {runT : τ → List β → Option τ} (r : IsRun step run)
    (rT : IsRun stepT runT) {R : σ → τ → Prop} {f : α → List β}
    (hstep : ∀ s s' t a, R s t → step s a = some s' → ∃ t', runT t (f a) = some t' ∧ R s' t')
    {as : List α} {s s' : σ} {t : τ} (h : R s t) (hr : run s as = some s') :
    ∃ t', runT t (as.flatMap f) = some t' ∧ R s' t' := by
  induction as generalizing s t with
  | nil => rw [r.nil] at hr; cases hr; exact ⟨t, rT.nil t, h⟩
  | cons a as ih =>
    obtain ⟨s1, hs1, hr⟩ := r.cons_iff.mp hr
    obtain ⟨t1, ht1, h1⟩ := hstep s s1 t a h hs1
    obtain ⟨t', ht', h'⟩ := ih h1 hr
    exact ⟨t', List.flatMap_cons ▸ rT.append_iff.mpr ⟨t1, ht1, ht'⟩, h'⟩

end IsRun

/-- what every step of a fold keeps, the fold keeps (`List.foldlRecOn` with the step lemma in the usual argument order) -/
theorem foldl_inv {σ α : Type} (P : σ → Prop) (f : σ → α → σ) (h : ∀ s a, P s → P (f s a)) (l : List α) (s : σ)
    (hs : P s) : P (l.foldl f s) :=
  l.foldlRecOn f hs fun s hs a _ => h s a hs

/-- a runner of a total step function, given by its two equations (both `rfl` for the models' runners), is the fold -/
theorem foldl_of_eqns {σ α : Type} {step : σ → α → σ} {exec : σ → List α → σ} (h0 : ∀ w, exec w [] = w)
    (h1 : ∀ w s l, exec w (s :: l) = exec (step w s) l) : ∀ (l : List α) (w : σ), exec w l = l.foldl step w
  | [], w => h0 w
  | s :: l, w => (h1 w s l).trans (foldl_of_eqns h0 h1 l (step w s))

/-- a fold along a list guarded by a recursive condition `G` on state and remaining list: what every guarded step keeps
(handing the guard of the rest on), the fold keeps -/
theorem foldl_guarded {σ α : Type} (f : σ → α → σ) (G : σ → List α → Prop) (P : σ → Prop)
    (h : ∀ s a t, G s (a :: t) → P s → P (f s a) ∧ G (f s a) t) : ∀ (l : List α) (s : σ), G s l → P s → P (l.foldl f s)
  | [], _, _, hp => hp
  | a :: t, s, hg, hp => foldl_guarded f G P h t _ (h s a t hg hp).2 (h s a t hg hp).1

/-- a fold whose step either does nothing or makes a move `R`: what every move keeps, the fold keeps -/
theorem foldl_moves {σ α : Type} {f : σ → α → σ} {R : σ → α → σ → Prop} {P : σ → Prop}
    (hf : ∀ s a, f s a = s ∨ R s a (f s a)) (hP : ∀ s a s', R s a s' → P s → P s') (l : List α) (s : σ) (hs : P s) :
    P (l.foldl f s) :=
  foldl_inv P f (fun s a h => (hf s a).elim (fun e => (congrArg P e).mpr h) fun mv => hP s a _ mv h) l s hs

/-- a fold whose steps respect an equivalence `R` and commute up to `R` on `C`-related arguments gives `R`-related
results on the permutations of a pairwise `C`-related list -/
theorem foldl_perm_of_comm {α β : Type} {R : β → β → Prop} {C : α → α → Prop} {f : β → α → β}
    (rrefl : ∀ b, R b b) (rtrans : ∀ {a b c}, R a b → R b c → R a c) (csymm : ∀ {a a'}, C a a' → C a' a)
    (congr : ∀ a {b b'}, R b b' → R (f b a) (f b' a))
    (comm : ∀ b {a a'}, C a a' → R (f (f b a) a') (f (f b a') a))
    {l1 l2 : List α} (hp : l1.Perm l2) : l1.Pairwise C → ∀ {b b'}, R b b' → R (l1.foldl f b) (l2.foldl f b') := by
  have fcongr : ∀ (l : List α) {b b'}, R b b' → R (l.foldl f b) (l.foldl f b') := by
    intro l
    induction l with
    | nil => exact fun h => h
    | cons a t ih => exact fun h => ih (congr a h)
  induction hp with
  | nil => exact fun _ _ _ h => h
  | cons x _ ih => exact fun hpw _ _ h => ih (List.pairwise_cons.mp hpw).2 (congr x h)
  | swap x y l =>
    intro hpw b b' h
    exact fcongr l (rtrans (comm b ((List.pairwise_cons.mp hpw).1 x List.mem_cons_self)) (congr y (congr x h)))
  | trans p1 _ ih1 ih2 =>
    intro hpw b b' h
    exact rtrans (ih1 hpw (rrefl b)) (ih2 ((p1.pairwise_iff csymm).mp hpw) h)

/-! ### maps `Nat → α` written at one index (`fun x => if x = k then v else f x`; a model's own `upd`/`setPc` unfolds to it) -/

/-- what is true of what was written, and at every other index of what was there, is true at every index after the write -/
theorem forall_update' {α : Type} {P : Nat → α → Prop} {f : Nat → α} {k : Nat} {v : α} (hk : P k v)
    (h : ∀ x, x ≠ k → P x (f x)) (x : Nat) : P x (if x = k then v else f x) := by
  split
  · subst x; exact hk
  · exact h x ‹_›

theorem forall_update {α : Type} {P : Nat → α → Prop} {f : Nat → α} (h : ∀ x, P x (f x)) (k : Nat) {v : α} (hk : P k v) :
    ∀ x, P x (if x = k then v else f x) :=
  forall_update' hk fun x _ => h x

/-- … for a relation between two maps written at the same index -/
theorem forall_update₂ {α β : Type} {P : Nat → α → β → Prop} {f : Nat → α} {g : Nat → β} (h : ∀ x, P x (f x) (g x))
    (k : Nat) {v : α} {w : β} (hk : P k v w) : ∀ x, P x (if x = k then v else f x) (if x = k then w else g x) := by
  intro x; split
  · subst x; exact hk
  · exact h x

/-- … or at one of them only -/
theorem forall_update_left {α β : Type} {P : Nat → α → β → Prop} {f : Nat → α} {g : Nat → β} (h : ∀ x, P x (f x) (g x))
    (k : Nat) {v : α} (hk : P k v (g k)) : ∀ x, P x (if x = k then v else f x) (g x) :=
  forall_update (P := fun x a => P x a (g x)) h k hk

/-! ### lists and arrays updated at one position -/

theorem countP_set {α : Type} (p : α → Bool) : ∀ (l : List α) (i : Nat) (x a : α), l[i]? = some x →
    (l.set i a).countP p + (if p x then 1 else 0) = l.countP p + (if p a then 1 else 0)
  | [], _, _, _, h => by simp at h
  | y :: l, 0, x, a, h => by
    injection h with h; subst h
    simp only [List.set_cons_zero, List.countP_cons]; omega
  | y :: l, i + 1, x, a, h => by
    have := countP_set p l i x a h
    simp only [List.set_cons_succ, List.countP_cons]; omega

theorem getElem?_set_of {α : Type} {l : List α} {i : Nat} {x : α} (a : α) (h : l[i]? = some x) : (l.set i a)[i]? = some a :=
  List.getElem?_set_self (List.getElem?_eq_some_iff.1 h).1

theorem getElem?_append_of {α : Type} {l : List α} {i : Nat} {x : α} (m : List α) (h : l[i]? = some x) : (l ++ m)[i]? = some x :=
  (List.getElem?_append_left (List.getElem?_eq_some_iff.1 h).1).trans h

theorem getElem?_snoc_cases {α : Type} {l : List α} {x y : α} {i : Nat} (h : (l ++ [x])[i]? = some y) :
    (i < l.length ∧ l[i]? = some y) ∨ (i = l.length ∧ y = x) := by
  by_cases hlt : i < l.length
  · left; rw [List.getElem?_append_left hlt] at h; exact ⟨hlt, h⟩
  · right
    have hge : l.length ≤ i := Nat.le_of_not_lt hlt
    rw [List.getElem?_append_right hge] at h
    cases hi : i - l.length with
    | zero => rw [hi] at h; simp at h; exact ⟨by omega, h.symm⟩
    | succ n => rw [hi] at h; simp at h

theorem getElem?_set_cases {α : Type} {l : List α} {i j : Nat} {a y : α} (h : (l.set i a)[j]? = some y) :
    (i = j ∧ y = a) ∨ (i ≠ j ∧ l[j]? = some y) := by
  by_cases hij : i = j
  · left
    subst hij
    rw [List.getElem?_set] at h
    simp at h
    exact ⟨rfl, h.2.symm⟩
  · right; rw [List.getElem?_set_ne hij] at h; exact ⟨hij, h⟩

theorem getD_setIfInBounds {α : Type _} (xs : Array α) (i j : Nat) (v d : α) :
    (xs.setIfInBounds i v).getD j d = if j = i ∧ i < xs.size then v else xs.getD j d := by
  rw [Array.getD_eq_getD_getElem?, Array.getElem?_setIfInBounds, Array.getD_eq_getD_getElem?]
  by_cases hji : j = i
  · subst hji; by_cases h : j < xs.size <;> simp [h]
  · simp [hji, Ne.symm hji]

/-! ### association lists read with `find?` (a model's `lookup m k = (m.find? (·.1 == k)).map (·.2)` and its
    `erase m k = m.filter (·.1 != k)` unfold to these shapes: the lemmas apply as they are) -/

section FindKey
variable {κ α : Type} [BEq κ] [LawfulBEq κ]

/-- the value at the first entry with key `k` -/
abbrev findKey (l : List (κ × α)) (k : κ) : Option α := (l.find? (·.1 == k)).map (·.2)

theorem find_key_mem {l : List (κ × α)} {k : κ} {v : α} (h : findKey l k = some v) : (k, v) ∈ l := by
  obtain ⟨p, hf, rfl⟩ := Option.map_eq_some_iff.mp h
  have : p.1 = k := by simpa using List.find?_some hf
  exact this ▸ List.mem_of_find?_eq_some hf

theorem find_key_cons_ne {k k' : κ} (v : α) (l : List (κ × α)) (h : k' ≠ k) : findKey ((k', v) :: l) k = findKey l k := by
  rw [findKey, List.find?_cons_of_neg (by simpa using h)]

theorem find_key_filter_ne {k k' : κ} (l : List (κ × α)) (h : k' ≠ k) : findKey (l.filter (·.1 != k')) k = findKey l k := by
  rw [findKey, List.find?_filter]
  congr 2
  funext a
  by_cases ha : a.1 = k <;> simp [ha, h.symm]

theorem find_key_filter_self (k : κ) (l : List (κ × α)) : findKey (l.filter (·.1 != k)) k = none := by
  rw [findKey, List.find?_filter, List.find?_eq_none.mpr (by simp), Option.map_none]

theorem find_key_eq_none {l : List (κ × α)} {k : κ} : findKey l k = none ↔ k ∉ l.map (·.1) := by
  simp only [findKey, Option.map_eq_none_iff, List.find?_eq_none, beq_iff_eq, List.mem_map, not_exists, not_and]

theorem find_key_of_mem {l : List (κ × α)} {k : κ} {v : α} (hnd : (l.map (·.1)).Nodup) (hm : (k, v) ∈ l) :
    findKey l k = some v := by
  induction l with
  | nil => cases hm
  | cons a r ih =>
    rw [List.map_cons, List.nodup_cons] at hnd
    rcases List.mem_cons.mp hm with rfl | h
    · simp [findKey]
    · have : a.1 ≠ k := fun e => hnd.1 (e ▸ List.mem_map_of_mem (f := (·.1)) h)
      rw [findKey, List.find?_cons_of_neg (by simpa using this)]
      exact ih hnd.2 h

/-- with distinct keys the order of the entries does not matter -/
theorem find_key_perm {l l' : List (κ × α)} (hp : l.Perm l') (hnd : (l.map (·.1)).Nodup) (k : κ) :
    findKey l k = findKey l' k := by
  cases h : findKey l k with
  | some v => exact (find_key_of_mem ((hp.map _).nodup_iff.mp hnd) (hp.mem_iff.mp (find_key_mem h))).symm
  | none => exact (find_key_eq_none.mpr fun hm => find_key_eq_none.mp h ((hp.map _).mem_iff.mpr hm)).symm

end FindKey

/-! ### insertion into a sorted list, over the two equations of the model's `ins` (both `rfl`); rotation -/

section InsertionSort
variable {α : Type} (ins : α → List α → List α) (c : α → α → Prop) [DecidableRel c]
  (h0 : ∀ e, ins e [] = [e])
  (h1 : ∀ e x xs, ins e (x :: xs) = if c e x then e :: x :: xs else x :: ins e xs)
include h0 h1

theorem perm_ins (e : α) : ∀ l : List α, (ins e l).Perm (e :: l)
  | [] => by rw [h0]
  | x :: xs => by
    rw [h1]
    split
    · exact List.Perm.refl _
    · exact ((perm_ins e xs).cons x).trans (List.Perm.swap e x xs)

theorem perm_foldr_ins : ∀ l : List α, (l.foldr ins []).Perm l
  | [] => List.Perm.refl _
  | y :: ys => (perm_ins ins c h0 h1 y _).trans ((perm_foldr_ins ys).cons y)

theorem perm_foldl_ins : ∀ l acc : List α, (l.foldl (fun acc e => ins e acc) acc).Perm (acc ++ l)
  | [], acc => by rw [List.append_nil]; exact List.Perm.refl _
  | e :: l, acc =>
    (perm_foldl_ins l (ins e acc)).trans
      (((perm_ins ins c h0 h1 e acc).append_right l).trans List.perm_middle.symm)

/-- a list already in order is left as it is -/
theorem foldr_ins_of_pairwise : ∀ l : List α, l.Pairwise c → l.foldr ins [] = l
  | [], _ => rfl
  | a :: r, hs => by
    rw [List.pairwise_cons] at hs
    rw [List.foldr_cons, foldr_ins_of_pairwise r hs.2]
    cases r with
    | nil => exact h0 a
    | cons x xs => rw [h1, if_pos (hs.1 x (List.mem_cons_self ..))]

end InsertionSort

theorem rot_perm {α : Type} (l : List α) (i : Nat) : (l.drop i ++ l.take i).Perm l :=
  List.perm_append_comm.trans (by rw [List.take_append_drop])

/-! ### decimal numerals read from the left (`acc * 10 + digit`; a model's `strconv` digit loop satisfies the two equations by
    unfolding), against core's `Nat.toDigits` / `Nat.ofDigitChars` -/

theorem ofDigitChars_of_eqns {p : List Char → Nat → Option Nat} (h0 : ∀ a, p [] a = some a)
    (hc : ∀ c cs a, '0' ≤ c ∧ c ≤ '9' → p (c :: cs) a = p cs (a * 10 + (c.toNat - '0'.toNat))) :
    ∀ (s : List Char) (a : Nat), (∀ c ∈ s, c.isDigit = true) → p s a = some (Nat.ofDigitChars 10 s a)
  | [], a, _ => h0 a
  | c :: cs, a, h => by
    have hd : '0' ≤ c ∧ c ≤ '9' := by
      simpa [Char.isDigit, Char.le_def, UInt32.le_iff_toNat_le] using h c (List.mem_cons_self ..)
    rw [hc c cs a hd, ofDigitChars_of_eqns h0 hc cs _ fun x hx => h x (List.mem_cons_of_mem _ hx)]
    simp [Nat.ofDigitChars, Nat.mul_comm]

/-- the decimal digits of `n` (`Nat.toDigits 10 n`, what `Nat.repr` prints) are read back as `n` -/
theorem toDigits_of_eqns {p : List Char → Nat → Option Nat} (h0 : ∀ a, p [] a = some a)
    (hc : ∀ c cs a, '0' ≤ c ∧ c ≤ '9' → p (c :: cs) a = p cs (a * 10 + (c.toNat - '0'.toNat))) (n : Nat) :
    p (Nat.toDigits 10 n) 0 = some n := by
  rw [ofDigitChars_of_eqns h0 hc _ _ fun _ h => Nat.isDigit_of_mem_toDigits (by decide) (by decide) h,
    Nat.ofDigitChars_ten_toDigits]
