import Model.MurmurPlaced
/-!
  `Murmur3H1` (block loop by index, then the tail switch) equals Cassandra's `hash3_x64_128` first word as specified in
  `Murmur.Spec`. The tail switch (`tailK1`/`tailK2`, and their versions over a byte reader in `Murmur.Placed`) is written as
  `arms`, a recursion over consecutive switch arms: with the tail's own length the arms xor up exactly the bytes of the
  tail, which is the specification's fold (`tail_eq`). The block loop is compared with the chunk recursion generically in
  the mixing step (`blocksG_eq`).
-/
namespace Murmur
theorem xlc (a b c : W) : a ^^^ (b ^^^ c) = b ^^^ (a ^^^ c) := by
  rw [← BitVec.xor_assoc, BitVec.xor_comm a b, BitVec.xor_assoc]

/-- `k` consecutive arms of the fallthrough switch over a byte reader `rd`: arm `j` runs iff `n ≥ base + j + 1` and
    xors byte `base + j` of the tail, shifted to byte position `off + j`. `tailK1` is the arms 0..7, `tailK2` the arms 8..14. -/
def arms (rd : Nat → W) (n : Nat) : Nat → Nat → Nat → W
  | _, _, 0 => 0#64
  | base, off, k+1 =>
    arms rd n (base + 1) (off + 1) k ^^^ (if n ≥ base + 1 then rd base <<< (8 * off) else 0#64)

theorem tailK1R_eq_arms (rd : Nat → W) (n : Nat) : Placed.tailK1R rd n = arms rd n 0 0 8 := by
  simp only [Placed.tailK1R, arms, BitVec.shiftLeft_zero, Nat.reduceMul, Nat.reduceAdd]

theorem tailK2R_eq_arms (rd : Nat → W) (n : Nat) : Placed.tailK2R rd n = arms rd n 8 0 7 := by
  simp only [Placed.tailK2R, arms, BitVec.shiftLeft_zero, Nat.reduceMul, Nat.reduceAdd]

theorem tailK1_eq_arms (t : List UInt8) (n : Nat) : tailK1 t n = arms (tb t) n 0 0 8 := tailK1R_eq_arms (tb t) n

theorem tailK2_eq_arms (t : List UInt8) (n : Nat) : tailK2 t n = arms (tb t) n 8 0 7 := tailK2R_eq_arms (tb t) n

theorem arms_congr {rd1 rd2 : Nat → W} {n : Nat} (h : ∀ i, i < n → rd1 i = rd2 i) :
    ∀ k base off, arms rd1 n base off k = arms rd2 n base off k
  | 0, _, _ => rfl
  | k+1, base, off => by
    rw [arms, arms, arms_congr h k]
    split
    · rw [h base (by omega)]
    · rfl

/-- With `n` the length of the tail, an arm runs exactly when its byte exists, so the arms from `base` on
    xor up the bytes of `t.drop base`, as the specification's fold does. -/
theorem arms_length (t : List UInt8) : ∀ k base off,
    arms (tb t) t.length base off k = Spec.xorBytes ((t.drop base).take k) off
  | 0, _, _ => by simp [arms, Spec.xorBytes]
  | k+1, base, off => by
    rw [arms, arms_length t k, BitVec.xor_comm]
    by_cases hb : t.length ≥ base + 1
    · rw [List.drop_eq_getElem_cons hb, List.take_succ_cons, Spec.xorBytes, if_pos hb, tb,
        List.getD_eq_getElem?_getD, List.getElem?_eq_getElem hb, Option.getD_some]
    · rw [if_neg hb, List.drop_eq_nil_of_le (Nat.le_of_not_lt hb),
        List.drop_eq_nil_of_le (by omega), List.take_nil, List.take_nil]
      simp only [Spec.xorBytes, BitVec.xor_zero]

/-- the 15-arm fallthrough switch equals the xor-fold of sign-extended bytes (all tails, all bytes) -/
theorem tail_eq (h : W × W) (t : List UInt8) (hlen : t.length < 16) :
    mixTail h (tailK1 t t.length) (tailK2 t t.length) t.length = Spec.tail h t := by
  rw [tailK1_eq_arms, tailK2_eq_arms, arms_length, arms_length, List.drop_zero,
    List.take_of_length_le (l := t.drop 8) (by rw [List.length_drop]; omega)]
  rfl


theorem take8_take16 (d : List UInt8) : (d.take 16).take 8 = d.take 8 := by
  rw [List.take_take]; simp

theorem drop8_take16 (d : List UInt8) : ((d.take 16).drop 8).take 8 = (d.drop 8).take 8 := by
  rw [List.drop_take, List.take_take]; simp

section generic
variable (mix : W × W → W → W → W × W) (tl : W × W → List UInt8 → W × W)

/-- the index-based block loop followed by the tail equals the chunk-recursive specification: with `fuel` blocks
    still to go, on the bytes from block `nBlocks - fuel` on -/
theorem blocksG_eq (d : List UInt8) : ∀ (fuel : Nat) (h : W × W), fuel ≤ d.length / 16 →
    Spec.blocksG mix tl h (d.drop ((d.length / 16 - fuel) * 16)) =
      tl (bodyLoopG mix d (d.length / 16) fuel h) (d.drop (d.length / 16 * 16)) := by
  intro fuel
  induction fuel with
  | zero =>
    intro h _
    rw [Spec.blocksG, dif_neg (by rw [List.length_drop]; omega)]
    rfl
  | succ f ih =>
    intro h hle
    have h16 : (d.drop ((d.length / 16 - (f + 1)) * 16)).length ≥ 16 := by rw [List.length_drop]; omega
    rw [Spec.blocksG, dif_pos h16, bodyLoopG]
    simp only [take8_take16, drop8_take16, List.drop_drop]
    rw [show (d.length / 16 - (f + 1)) * 16 + 16 = (d.length / 16 - f) * 16 by omega]
    exact ih _ (by omega)
end generic

theorem tail_len (data : List UInt8) :
    (data.drop (data.length / 16 * 16)).length = data.length % 16 := by
  simp; omega

/-- **C09 (Murmur3)**: for every key, the model of gocql's `Murmur3H1` equals Cassandra's
    `hash3_x64_128` first word. -/
theorem murmur3H1_eq_cassandra (data : List UInt8) :
    murmur3H1 data = Spec.cassandraH1 data := by
  unfold murmur3H1 Spec.cassandraH1 Spec.blocks bodyLoop
  have hb := blocksG_eq mixBlock Spec.tail data (data.length / 16) (0#64, 0#64) (Nat.le_refl _)
  rw [Nat.sub_self, Nat.zero_mul, List.drop_zero] at hb
  have ht := tail_eq (bodyLoopG mixBlock data (data.length / 16) (data.length / 16) (0#64, 0#64))
    (data.drop (data.length / 16 * 16)) (by rw [tail_len]; omega)
  rw [tail_len] at ht
  simp only [hb, ht]

end Murmur
