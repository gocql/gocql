import Proofs.C12Scalar
import Proofs.C12Decode
/-!
# C02 — scalar columns: Marshal then Unmarshal into the same Go type gives back the value

`SRT t ty g`: whatever the model's `marshalScalar t g` (Model/Marshal.lean) returns without error, `unmarshalScalar`
(MarshalDecode.lean) of it into a fresh value of type `ty` is `g`.  Here: the equations of the two functions per kind, the
byte-level facts, and the per-kind round trips that need an argument, each for ALL values of the kind;
`C02.C02_scalar_roundtrip` puts them together with the kinds that follow from the equations at once.
-/
namespace C02Scalar
open ValueSpec Marshal C12Bytes C12Int C12Varint C12Scalar C12Decode C12

def SRT (t : CqlTy) (ty : GoTy) (g : GoVal) : Prop :=
  ∀ ob, marshalScalar t g = .ok ob → unmarshalScalar t ob.isNone (dataBytes ob) ty = .ok g

theorem fitsS8_toS64 (x : Int) : fitsS 8 (toS 64 x) = true := by
  simp only [fitsS_iff, toS]; omega

/-- the 8 bytes of `x` are the 8 bytes of `int64(x)`, which fits and so is read back -/
theorem decBigInt_encBigInt (x : Int) : decBigInt (encBigInt x) = toS 64 x := by
  rw [encBigInt_eq, ← tcEnc_toS64]; exact decodeFixed_tcEnc .big _ (fitsS8_toS64 x)

theorem encInt_length (x : Int) : (encInt x).length = 4 := rfl
theorem encBigInt_length (x : Int) : (encBigInt x).length = 8 := rfl
theorem encBigInt_ne_nil (x : Int) : encBigInt x ≠ [] := by simp [encBigInt]
theorem encInt_ne_nil (x : Int) : encInt x ≠ [] := by simp [encInt]

theorem toU32_toS32 (x : Nat) (h : x < 2^32) : (toU 32 (toS 32 (toS 32 (x:Int)))).toNat = x := by
  simp [toS, toU]; omega

theorem toU64_toS64 (x : Nat) (h : x < 2^64) : (toU 64 (toS 64 (toS 64 (x:Int)))).toNat = x := by
  simp [toS, toU]; omega

/-! ## the equations of the model for a group of column types that share one branch (at a single type the definitions
     unfold in place: `dsimp only [marshalScalar]`, `dsimp only [unmarshalScalar]`) -/

def isTextual (t : CqlTy) : Prop := t = .ascii ∨ t = .text ∨ t = .varchar ∨ t = .blob
def isUuid (t : CqlTy) : Prop := t = .uuid ∨ t = .timeuuid

theorem marshalScalar_textual {t : CqlTy} (ht : isTextual t) : marshalScalar t = marshalScalar .text := by
  rcases ht with rfl | rfl | rfl | rfl <;> rfl
theorem unmarshalScalar_textual {t : CqlTy} (ht : isTextual t) : unmarshalScalar t = unmarshalScalar .text := by
  rcases ht with rfl | rfl | rfl | rfl <;> rfl
theorem marshalScalar_uuid {t : CqlTy} (ht : isUuid t) : marshalScalar t = marshalScalar .uuid := by
  rcases ht with rfl | rfl <;> rfl
theorem us_uuid (t : CqlTy) (ht : isUuid t) (isNil : Bool) (d : Bytes) : unmarshalScalar t isNil d .uuid =
    if d = [] then .ok (.uuid (List.replicate 16 0)) else if d.length ≠ 16 then .err else .ok (.uuid d) := by
  have h1 : (GoTy.uuid == GoTy.time) = false := rfl
  rcases ht with rfl | rfl <;> (unfold unmarshalScalar; simp [h1])
theorem us_arr16 (t : CqlTy) (ht : isUuid t) (isNil : Bool) (d : Bytes) : unmarshalScalar t isNil d .arr16 =
    if d = [] then .err else if d.length ≠ 16 then .err else .ok (.arr16 d) := by
  have h1 : (GoTy.arr16 == GoTy.time) = false := rfl
  rcases ht with rfl | rfl <;> (unfold unmarshalScalar; simp [h1])
theorem ms_intcol (t : CqlTy) (col : IntCol) (h : intColOf t = some col) (g : GoVal) :
    marshalScalar t g = marshalIntColumn col g := by
  cases t <;> simp [intColOf] at h <;> subst h <;> rfl

theorem us_intcol (t : CqlTy) (col : IntCol) (h : intColOf t = some col) (isNil : Bool) (d : Bytes) (ty : GoTy) :
    unmarshalScalar t isNil d ty = unmarshalIntlike (srcOf col) (decodeFixed (srcOf col) d) d ty := by
  cases t <;> simp [intColOf] at h <;> subst h <;> rfl

theorem srt_of {t : CqlTy} {ty : GoTy} {g : GoVal} (b : Bytes) (hm : marshalScalar t g = .ok (some b))
    (hu : unmarshalScalar t false b ty = .ok g) : SRT t ty g := by
  intro ob h
  rw [hm] at h
  cases h
  exact hu

theorem srt_of_optM {t : CqlTy} {ty : GoTy} {g : GoVal} (o : Option Bytes) (hm : marshalScalar t g = optM o)
    (hu : ∀ b, o = some b → unmarshalScalar t false b ty = .ok g) : SRT t ty g := by
  intro ob h
  rw [hm] at h
  cases o with
  | none => cases h
  | some b => cases h; exact hu b rfl

/-- a nil []byte is null and null is a nil []byte -/
theorem srt_nil_bytes (t : CqlTy) (ht : isTextual t) (named : Bool) : SRT t (.bytes named) (.bytes named true []) := by
  intro ob h
  rw [marshalScalar_textual ht] at h
  cases h
  cases named
  · rw [unmarshalScalar_textual ht]; rfl
  · rw [unmarshalScalar_textual ht]; rfl

/-- all 2^32 bit patterns of a float32 (−0, subnormals, infinities, every NaN payload); a NAMED float32 passes through
    float64 (`float32(rv.Float())`), which quiets a signalling NaN: `quiet32 x = x` excludes exactly those -/
theorem srt_f32 (named : Bool) (x : Nat) (hx : x < 2^32) (hq : named = true → quiet32 x = x) :
    SRT .float (.f32 named) (.f32 named x) := by
  have hm : marshalScalar .float (.f32 named x) = .ok (some (encInt (toS 32 (x:Int)))) := by
    cases named
    · rfl
    · dsimp only [marshalScalar]; simp [hq rfl]
  refine srt_of _ hm ?_
  dsimp only [unmarshalScalar]
  rw [decInt_encInt, toU32_toS32 x hx, quiet32If]
  cases named <;> simp_all

/-- a big.Int in a bigint / counter column: the numbers of int64 come back, the others are refused -/
theorem srt_bigint_big (t : CqlTy) (ht : t = .bigint ∨ t = .counter) (v : Int) : SRT t .big (.big v) := by
  intro ob h
  have hcol : intColOf t = some .big := by rcases ht with rfl | rfl <;> rfl
  rw [ms_intcol t .big hcol] at h
  simp only [marshalIntColumn, if_true] at h
  split at h
  next hb =>
    cases h
    simp only [Bool.and_eq_true, leB_iff, ltB_iff] at hb
    have hf : fitsS 8 v = true := by rw [fitsS_iff]; omega
    rw [us_intcol t .big hcol]
    simp only [unmarshalIntlike, dataBytes, Option.getD, decBigInt2C_tc, encBigInt_eq, tcDec_tcEnc 8 v (by decide) hf]
  next => cases h

theorem goDiv_1000 (x : Int) : goDiv x 1000 = if 0 ≤ x ∨ x % 1000 = 0 then x / 1000 else x / 1000 + 1 := by
  unfold goDiv
  simp only [Int.tdiv_eq_ediv]
  have hs : Int.sign 1000 = 1 := by decide
  by_cases h0 : 0 ≤ x
  · simp [h0]
  · by_cases hd : (1000:Int) ∣ x
    · have := Int.emod_eq_zero_of_dvd hd
      simp [hd, this]
    · have hm : x % 1000 ≠ 0 := fun h => hd (Int.dvd_of_emod_eq_zero h)
      simp [h0, hd, hs, hm]

/-- unmarshalTimestamp inverts the millisecond count of an instant with whole milliseconds — before 1970 as well
    (truncating division, negative remainder, normalisation by time.Unix) -/
theorem timeOfMillis_exact (sec nsec : Int) (hn : 0 ≤ nsec ∧ nsec < 1000000000) (hms : nsec % 1000000 = 0) :
    timeOfMillis (exactMillis sec nsec) = (sec, nsec) := by
  unfold timeOfMillis exactMillis
  simp only [goDiv_1000]
  have hq : (sec * 1000 + nsec / 1000000) / 1000 = sec := by omega
  split <;> (rw [hq]; ext <;> simp <;> omega)

/-- a time.Time with whole milliseconds whose millisecond count is an int64 (years ≈ −292275055 … 292278994), the zero
    time.Time included (↦ the empty value ↦ the zero time.Time) -/
theorem srt_timestamp_time (sec nsec : Int) (hn : 0 ≤ nsec ∧ nsec < 1000000000) (hms : nsec % 1000000 = 0)
    (h1 : fitsS 8 (sec * 1000) = true) (h2 : fitsS 8 (exactMillis sec nsec) = true) :
    SRT .timestamp .time (.time sec nsec) := by
  intro ob h
  dsimp only [marshalScalar] at h
  dsimp only [unmarshalScalar]
  split at h
  next hz =>   -- the zero time.Time
    cases h
    simp [timeIsZero] at hz
    simp [dataBytes, hz.1, hz.2]
  next =>
    cases h
    simp only [dataBytes, Option.getD, if_neg (encBigInt_ne_nil _), decBigInt_encBigInt,
      timeMillis_exact sec nsec h1 h2, toS64_id _ h2, timeOfMillis_exact sec nsec hn hms]

/-- a midnight (UTC) whose day number is in the date range — pre-epoch days included -/
theorem srt_date_time (sec : Int) (hmid : sec % 86400 = 0)
    (h1 : fitsS 8 (sec * 1000) = true) (hrange : fitsU 4 (sec / 86400 + 2147483648) = true) :
    SRT .date .time (.time sec 0) := by
  intro ob h
  dsimp only [marshalScalar] at h
  dsimp only [unmarshalScalar]
  split at h
  next hz =>   -- the zero time.Time
    cases h
    simp [timeIsZero] at hz
    simp [dataBytes, hz]
  next =>
    have hex : exactMillis sec 0 = sec * 1000 := by simp [exactMillis]
    have h2 : fitsS 8 (exactMillis sec 0) = true := by rw [hex]; exact h1
    have hday : daysSinceEpoch (sec * 1000) = sec / 86400 := by rw [daysSinceEpoch_floor]; omega
    rw [timeMillis_exact sec 0 h1 h2, hex, marshalDateMillis, hday, if_pos hrange] at h
    cases h
    rw [fitsU_iff] at hrange
    have hv : ((beNat (encInt (toS 32 (sec / 86400 + 2147483648))) : Int) - 2147483648) * 86400 = sec := by
      rw [encInt_eq, BE.beNat_tcEnc]
      simp [toS]; omega
    have ht : (encInt (toS 32 (sec / 86400 + 2147483648))).take 4 = encInt (toS 32 (sec / 86400 + 2147483648)) := rfl
    have hl : ¬ (encInt (toS 32 (sec / 86400 + 2147483648))).length < 4 := by simp [encInt_length]
    simp only [dataBytes, Option.getD, encDateMillis, hday,
      if_neg (encInt_ne_nil _), if_neg hl, ht, hv]

/-- a net.IP of 4 bytes, or of 16 bytes that is not an IPv4-mapped address -/
theorem srt_inet (b : Bytes) (hb : b.length = 4 ∨ (b.length = 16 ∧ ipTo4 b = none)) : SRT .inet .ip (.ip b) := by
  rcases hb with h4 | ⟨h16, hn⟩
  · have h4' : ipTo4 b = some b := by simp [ipTo4, h4]
    exact srt_of b (by dsimp only [marshalScalar]; rw [h4']) (by dsimp only [unmarshalScalar]; rw [h4']; simp [h4])
  · have h16' : ipTo16 b = some b := by simp [ipTo16, h16]
    exact srt_of b (by dsimp only [marshalScalar]; rw [hn, h16', if_neg (List.ne_nil_of_length_eq_add_one h16)]; rfl)
      (by dsimp only [unmarshalScalar]; rw [hn]; simp [h16])

end C02Scalar
