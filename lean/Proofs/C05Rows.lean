import Model.RowsCrash
import Proofs.C05Frame
/-! C05, row iteration. The bounds of the destination slices and the bytes a row consumes go by the ways through `scanCols`
(its own induction principle); what a parsed frame guarantees about its metadata is a postcondition (`Post`)
established parser by parser. Last, the destinations of RowData: `goTypeG` reaches `reflect.MapOf` with a comparable
key or not at all (`goType_safe`, `rowData_safe`). -/
namespace C05Rows
open FrameCrash RowsCrash
open C05Frame (Known Tri tri_bind tri_mono tri_ok)

def NoCrash {α : Type} (o : Step α) : Prop := ∀ s, o ≠ .crash s

theorem tupleCell_safe (k : Nat) (data : Bytes) : NoCrash (tupleCell k data) := by
  fun_induction tupleCell k data <;> first | assumption | (intro s h; cases h)

theorem width_of_not_tuple {col : TI} (h : ∀ es, col = .tuple es → False) : width col = 1 := by
  cases col with
  | tuple es => exact (h es rfl).elim
  | _ => rfl

/-- what is left of the buffer after a cell: 4 length bytes, then the cell if the length is not negative -/
theorem after_cell_len (size : Int) {buf : Bytes} (h : ¬ buf.length < 4) :
    (if size < 0 then buf.drop 4 else (buf.drop 4).drop size.toNat).length + 4 ≤ buf.length := by
  split <;> simp <;> omega

/-- the destination slice expressions of scanColumn / Iter.Scan are in bounds as long as the
destinations still to be filled fit: `i + Σ width ≤ n` -/
theorem scanCols_safe (n : Nat) (cols : List TI) (i : Nat) (buf : Bytes)
    (h : i + (cols.map width).sum ≤ n) : NoCrash (scanCols n cols i buf) := by
  fun_induction scanCols n cols i buf
  all_goals try (intro s hs; cases hs; done)
  all_goals simp only [List.map_cons, List.sum_cons] at h
  · omega                                       -- `n < i`: the destinations would not fit
  · simp only [width] at h; omega               -- `n < i + |es|`: the same for a tuple column
  · rename_i ih; exact ih (by simpa [width, Nat.add_assoc] using h)
  · exact fun s hs => absurd ‹tupleCell _ _ = .crash _› (tupleCell_safe _ _ _)
  · rename_i hnt ih; rw [width_of_not_tuple hnt] at h; exact ih (by omega)

theorem scanLoop_safe (cols : List TI) (n : Nat) (h : (cols.map width).sum ≤ n)
    (todo done : Nat) (buf : Bytes) : (scanLoop cols n todo done buf).crashSite = none := by
  fun_induction scanLoop cols n todo done buf <;> first
    | rfl
    | assumption
    | exact absurd ‹scanCols _ _ _ _ = .crash _› (scanCols_safe n cols 0 _ (by omega) _)

def MetaOk (m : Meta) : Prop := m.cols.length ≤ m.colCount

/-- row iteration over ANY body never panics, provided the metadata lists no more columns than it
announces (true of every parsed frame: `C05Rows.parsed_meta_ok`) -/
theorem scanAll_safe (m : Meta) (hm : MetaOk m) (numRows : Nat) (rest : Bytes) :
    (scanAll m numRows rest).crashSite = none := by
  fun_cases scanAll m numRows rest
  · rfl
  · rfl
  · exact scanLoop_safe m.cols (destLen m) (by unfold destLen MetaOk at *; omega) numRows 0 rest

theorem scanCols_consumes (n : Nat) (cols : List TI) (i : Nat) (buf b : Bytes)
    (h : scanCols n cols i buf = .ok b) : b.length + 4 * cols.length ≤ buf.length := by
  revert h
  fun_induction scanCols n cols i buf <;> intro h
  -- only three ways end in `.ok`: no column left, or a column (tuple or not) and then the rest
  all_goals try (cases h; done)
  · cases h; simp
  all_goals
    rename_i ih
    exact Nat.le_trans (Nat.add_le_add_right (ih h) 4) (after_cell_len _ ‹¬ _ < 4›)

theorem scanLoop_rows (cols : List TI) (hc : cols ≠ []) (n : Nat) (todo done : Nat) (buf : Bytes) :
    4 * (scanLoop cols n todo done buf).rows ≤ 4 * done + buf.length := by
  fun_induction scanLoop cols n todo done buf <;> try (simp only [ROut.rows]; omega)
  -- a row was scanned: it took 4 bytes for each of the columns, of which there is one at least
  rename_i ih
  have := scanCols_consumes n cols 0 _ _ ‹_›
  have := List.length_pos_iff.mpr hc
  omega

/-- The row-count bound: however many rows the frame announces, a consumer gets through at most one row
per 4 bytes of row set (given at least one described column; the harness keeps the destination list
below `destCap`) -/
theorem rows_scanned_le_body (m : Meta) (hc : m.cols ≠ []) (numRows : Nat) (rest : Bytes) :
    4 * (scanAll m numRows rest).rows ≤ rest.length := by
  fun_cases scanAll m numRows rest
  · simp [ROut.rows]
  · simp [ROut.rows]
  · simpa using scanLoop_rows m.cols hc (destLen m) numRows 0 rest

/-- a postcondition on the value only (a crash is allowed). Irreducible below its lemmas: `post_frame` finds the rule
that fits a node by trying them, and a rule that does not fit is then refused without unfolding anything. -/
def Post {α : Type} (Q : α → Prop) (p : P α) : Prop := ∀ st, Tri True p st (fun a _ => Q a)

theorem post_bind {α β : Type} {Q : β → Prop} (R : α → Prop) {p : P α} {f : α → P β}
    (hp : Post R p) (hf : ∀ a, R a → Post Q (f a)) : Post Q (p >>= f) :=
  fun st => tri_bind (hp st) fun a st' h => hf a h st'

theorem post_bind_any {α β : Type} {Q : β → Prop} {p : P α} {f : α → P β}
    (hf : ∀ a, Post Q (f a)) : Post Q (p >>= f) :=
  post_bind (fun _ => True) (fun st => by unfold Tri; split <;> trivial) (fun a _ => hf a)

theorem post_pure {α : Type} {Q : α → Prop} {a : α} (h : Q a) : Post Q (pure a : P α) := fun _ => h

theorem post_fail {α : Type} {Q : α → Prop} : Post Q (fail : P α) := fun _ => trivial

theorem post_ite {α : Type} {Q : α → Prop} {c : Prop} [Decidable c] {p q : P α}
    (hp : Post Q p) (hq : Post Q q) : Post Q (if c then p else q) := by
  split <;> assumption

theorem post_mono {α : Type} {R Q : α → Prop} {p : P α} (hp : Post R p) (h : ∀ a, R a → Q a) : Post Q p :=
  fun st => tri_mono (hp st) fun a _ => h a

theorem post_ok {α : Type} {Q : α → Prop} {p : P α} {st st' : St} {a : α} (hp : Post Q p)
    (h : p st = .ok a st') : Q a := tri_ok (hp st) h

attribute [irreducible] Post

theorem colLoop_len (g : Bool) (n : Nat) (acc : List TI) :
    Post (fun l => l.length = n + acc.length) (colLoop g n acc) := by
  induction n generalizing acc with
  | zero => unfold colLoop; exact post_pure (by simp)
  | succ n ih =>
    unfold colLoop
    refine post_bind_any (fun c => ?_)
    exact post_mono (ih (c :: acc)) fun l h => by simp only [List.length_cons] at h; omega

theorem metaTail_ok (flags colCount : Nat) : Post MetaOk (metaTail flags colCount) := by
  unfold metaTail
  refine post_bind_any (fun _ => ?_)
  refine post_ite (post_pure (by simp [MetaOk])) ?_
  refine post_bind_any (fun _ => ?_)
  refine post_bind_any (fun _ => ?_)
  refine post_bind _ (colLoop_len _ colCount []) (fun cols hc => ?_)
  refine post_bind_any (fun _ => ?_)
  exact post_pure (by simp [MetaOk] at *; omega)

theorem parseResultMetadata_ok : Post MetaOk parseResultMetadata := by
  unfold parseResultMetadata
  refine post_bind_any (fun _ => ?_)
  refine post_bind_any (fun _ => ?_)
  exact post_ite post_fail (metaTail_ok _ _)

def FrameOk : Frame → Prop
  | .rows m _ => MetaOk m
  | .simple _ => True

instance (k : String) : Known (Post FrameOk (pure (Frame.simple k))) := ⟨post_pure trivial⟩
instance : Known (Post FrameOk fail) := ⟨post_fail⟩

/-- `Post FrameOk (do …)`, by recursion over binds and ifs down to results `.simple _` and to parsers
`Known` to satisfy it -/
macro "post_frame" : tactic => `(tactic| repeat (first
  | exact Known.out
  | refine post_bind_any (fun _ => ?_)
  | refine post_ite ?_ ?_))

instance (proto : Nat) : Known (Post FrameOk (parseResultSchemaChange proto)) :=
  ⟨by unfold parseResultSchemaChange; post_frame⟩

instance (proto : Nat) : Known (Post FrameOk (parseResultFrame proto)) := by
  constructor
  unfold parseResultFrame
  refine post_bind_any (fun kind => ?_)
  refine post_ite (post_pure trivial) ?_
  refine post_ite ?_ (by post_frame)
  refine post_bind _ parseResultMetadata_ok (fun m hm => ?_)
  refine post_bind_any (fun n => ?_)
  exact post_ite post_fail (post_pure hm)

instance (proto : Nat) : Known (Post FrameOk (parseErrorFrame proto)) :=
  ⟨by unfold parseErrorFrame; post_frame⟩

instance (proto : Nat) : Known (Post FrameOk (parseEventFrame proto)) :=
  ⟨by unfold parseEventFrame; post_frame⟩

theorem parsed_meta_ok (proto : Nat) (resp : Bool) (flags op : Nat) (body : Bytes)
    (m : Meta) (n : Nat) (st : St) (h : parseFrame proto resp flags op body = .ok (.rows m n) st) :
    MetaOk m :=
  post_ok (Q := FrameOk) (p := parseFrameP proto resp flags op) (by unfold parseFrameP; post_frame) h

theorem GT.ok_or_err {o : GT} (h : o.isCrash = false) : (∃ c, o = .ok c) ∨ o = .err := by
  cases o <;> first | exact .inl ⟨_, rfl⟩ | exact .inr rfl | cases h

/-- a native type other than blob and UDT is comparable as a Go type, if goType knows it at all -/
theorem goTypeG_key {g : Bool} {t : Nat} {c : Bool} (ht : (t == 0x03 || t == 0x30) = false)
    (h : goTypeG g (.simple t) = .ok c) : c = true := by
  simp only [Bool.or_eq_false_iff] at ht
  simp only [goTypeG, ht.1, ht.2, Bool.false_eq_true, if_false] at h
  split at h
  · cases h
  · split at h <;> cases h
    rfl

/-- goType panics only through reflect.MapOf on a non-comparable key — and not at all once the
Comparable guard is there (`g = true`, the current tree) — or on a NativeType carrying a collection id -/
theorem goType_safe (g : Bool) : ∀ t : TI, (g = true ∨ badMapKey t = false) → nativeCollection t = false →
    (goTypeG g t).isCrash = false
  | .simple t, _, h2 => by
    simp only [nativeCollection] at h2
    simp only [goTypeG, h2, Bool.false_eq_true, if_false]
    -- with the collection ids gone, every arm of the id switch is `.ok _` or `.err`
    repeat' split
    all_goals rfl
  | .list e, h1, h2 => by
    rcases GT.ok_or_err (goType_safe g e h1 h2) with ⟨c, he⟩ | he <;> simp only [goTypeG, he] <;> rfl
  | .map k v, h1, h2 => by
    simp only [nativeCollection, Bool.or_eq_false_iff] at h2
    simp only [badMapKey, Bool.or_eq_false_iff] at h1
    have ihk := goType_safe g k (h1.imp_right (·.1.1)) h2.1
    have ihv := goType_safe g v (h1.imp_right (·.1.2)) h2.2
    rcases GT.ok_or_err ihk with ⟨ck, hk⟩ | hk <;> rcases GT.ok_or_err ihv with ⟨cv, hv⟩ | hv <;>
      simp only [goTypeG, hk, hv] <;> try rfl
    -- both are Go types: `reflect.MapOf` is reached, with a comparable key unless the guard is there
    cases ck with
    | true => rfl
    | false =>
      rcases h1 with hg | ⟨_, hkey⟩
      · subst hg; rfl
      · cases k with
        | simple t => exact absurd (goTypeG_key hkey hk) (by decide)
        | _ => cases hkey
  | .tuple _, _, _ => rfl
  | .udt _, _, _ => rfl

theorem goTypes_safe (g : Bool) (es : List TI) (n : Nat)
    (h : ∀ t ∈ es, (g = true ∨ badMapKey t = false) ∧ nativeCollection t = false) :
    (goTypes g es n).isCrash = false := by
  induction es generalizing n with
  | nil => rfl
  | cons t r ih =>
    have ht := h t (by simp)
    rcases GT.ok_or_err (goType_safe g t ht.1 ht.2) with ⟨c, hc⟩ | hc <;> simp only [goTypes, hc]
    · exact ih _ (fun x hx => h x (by simp [hx]))
    · rfl

/-- a column is fine for the OLD goType (no Comparable guard) when (each element of a tuple column, or
the column type itself) has no map with a non-comparable key -/
def colOk : TI → Bool
  | .tuple es => es.all (fun t => !badMapKey t)
  | t => !badMapKey t

/-- no NativeType value carrying a collection id (readTypeInfo builds none, by its last arm: not proved) -/
def colNative : TI → Bool
  | .tuple es => es.all (fun t => !nativeCollection t)
  | t => !nativeCollection t

theorem rowData_safe (g : Bool) (cols : List TI) (n : Nat)
    (h : ∀ c ∈ cols, (g = true ∨ colOk c = true) ∧ colNative c = true) : (rowDataG g cols n).isCrash = false := by
  induction cols generalizing n with
  | nil => rfl
  | cons c r ih =>
    have hc := h c (by simp)
    have hr : ∀ x ∈ r, (g = true ∨ colOk x = true) ∧ colNative x = true := fun x hx => h x (by simp [hx])
    cases c with
    | tuple es =>
      simp only [colOk, colNative, List.all_eq_true] at hc
      have := goTypes_safe g es n fun t ht =>
        ⟨hc.1.imp_right fun h => by simpa using h t ht, by simpa using hc.2 t ht⟩
      simp only [rowDataG]
      split
      · exact ih _ hr
      · exact this
    | _ =>
      simp [colOk, colNative] at hc
      rcases GT.ok_or_err (goType_safe g _ hc.1 hc.2) with ⟨c, h'⟩ | h' <;> simp only [rowDataG, h']
      · exact ih _ hr
      · rfl

end C05Rows
