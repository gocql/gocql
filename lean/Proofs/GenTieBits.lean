import Proofs.Bytes
/-!
  What the tie modules share to pass between the machine integers of the generated definitions and the numbers of the
  models.  Go `int`s that hold a natural number are `BitVec.ofNat 64 n` (the literals `0x4#64` of the generated text are
  such values already); `toNat_int`, `int_*`, `slt_nat`, `sle_nat`, `len_ne` compute with them and are meant for
  `simp (disch := omega) only`.  From `slt_nat` on the lemmas stand in namespace `GenTie.C12`, the names under which
  props/C12.json lists them; they use nothing of the marshal tie, and every tie module opens that namespace for them.
-/
namespace GenTie.Bits

section
variable {a b : Nat}

theorem toNat_int (h : a < 2 ^ 64) : (BitVec.ofNat 64 a).toNat = a := Nat.mod_eq_of_lt h

theorem toInt_int (h : a < 2 ^ 63) : (BitVec.ofNat 64 a).toInt = a := by
  rw [BitVec.toInt_eq_toNat_cond, toNat_int (by omega), if_pos (by omega)]

theorem toNat_ofInt32 (z : Int) : (BitVec.ofInt 32 z).toNat = (z % 4294967296).toNat := by simp [BitVec.toNat_ofInt]

theorem toNat_ofInt64 (z : Int) : (BitVec.ofInt 64 z).toNat = (z % 18446744073709551616).toNat := by simp [BitVec.toNat_ofInt]

theorem int_add : BitVec.ofNat 64 a + BitVec.ofNat 64 b = BitVec.ofNat 64 (a + b) := (BitVec.ofNat_add a b).symm

theorem int_mul : BitVec.ofNat 64 a * BitVec.ofNat 64 b = BitVec.ofNat 64 (a * b) := (BitVec.ofNat_mul a b).symm

theorem int_sub (h : b ≤ a) (hb : b < 2 ^ 64) : BitVec.ofNat 64 a - BitVec.ofNat 64 b = BitVec.ofNat 64 (a - b) :=
  BitVec.ofNat_sub_ofNat_of_le a b hb h

theorem msb_int (h : a < 2 ^ 63) : (BitVec.ofNat 64 a).msb = false := by
  rw [BitVec.msb_eq_decide, toNat_int (by omega), decide_eq_false_iff_not]; omega

/-- Go's `/` and `%` on `int`s that are not negative -/
theorem int_sdiv (ha : a < 2 ^ 63) (hb : b < 2 ^ 63) :
    BitVec.sdiv (BitVec.ofNat 64 a) (BitVec.ofNat 64 b) = BitVec.ofNat 64 (a / b) := by
  rw [BitVec.sdiv_eq, msb_int ha, msb_int hb]
  apply BitVec.eq_of_toNat_eq
  have := Nat.div_le_self a b
  simp only [BitVec.udiv_eq, BitVec.toNat_udiv, toNat_int (show a < 2 ^ 64 by omega), toNat_int (show b < 2 ^ 64 by omega),
    toNat_int (show a / b < 2 ^ 64 by omega)]

theorem int_srem (ha : a < 2 ^ 63) (hb : b < 2 ^ 63) :
    BitVec.srem (BitVec.ofNat 64 a) (BitVec.ofNat 64 b) = BitVec.ofNat 64 (a % b) := by
  rw [BitVec.srem_eq, msb_int ha, msb_int hb]
  apply BitVec.eq_of_toNat_eq
  have := Nat.mod_le a b
  simp only [BitVec.toNat_umod, toNat_int (show a < 2 ^ 64 by omega), toNat_int (show b < 2 ^ 64 by omega),
    toNat_int (show a % b < 2 ^ 64 by omega)]
end

theorem ofBitVec_eq_ofNat {x : BitVec 8} {n : Nat} (h : x.toNat = n % 256) : UInt8.ofBitVec x = UInt8.ofNat n :=
  UInt8.toNat_inj.mp (by rw [UInt8.toNat_ofBitVec, UInt8.toNat_ofNat', h])

/-- `byte(v >> k)` of an unsigned word -/
theorem byte_ushift {w : Nat} (v : BitVec w) (k : Nat) : UInt8.ofBitVec ((v >>> k).setWidth 8) = UInt8.ofNat (v.toNat >>> k) :=
  ofBitVec_eq_ofNat (by rw [BitVec.toNat_setWidth, BitVec.toNat_ushiftRight])

theorem byte_sshift {w : Nat} (v : BitVec w) (k : Nat) (h : k + 8 ≤ w) :
    (BitVec.sshiftRight v k).setWidth 8 = (v >>> k).setWidth 8 := by
  apply BitVec.eq_of_getLsbD_eq
  intro i hi
  simp [BitVec.getLsbD_sshiftRight, hi, show k + i < w by omega, show ¬ w ≤ i by omega]

theorem ofBitVec_toBitVec : (UInt8.ofBitVec ∘ fun x : UInt8 => x.toBitVec) = id := rfl

theorem map_back (s : List UInt8) : (s.map (·.toBitVec)).map UInt8.ofBitVec = s := by
  rw [List.map_map, ofBitVec_toBitVec, List.map_id]

export BE (bit_clear bit_set)

/-- the test `proto > protoVersion2` on the version byte -/
theorem ult_two (p : BitVec 8) : BitVec.ult 0x2#8 p = decide (p.toNat > 2) := by simp [BitVec.ult]

end GenTie.Bits

namespace GenTie.C12
open GenTie.Bits

theorem slt_nat (a b : Nat) (ha : a < 2^63) (hb : b < 2^63) :
    BitVec.slt (BitVec.ofNat 64 a) (BitVec.ofNat 64 b) = decide (a < b) := by
  simp only [BitVec.slt, toInt_int ha, toInt_int hb, Int.ofNat_lt]

theorem sle_nat (a b : Nat) (ha : a < 2^63) (hb : b < 2^63) :
    BitVec.sle (BitVec.ofNat 64 a) (BitVec.ofNat 64 b) = decide (a ≤ b) := by
  simp only [BitVec.sle, toInt_int ha, toInt_int hb, Int.ofNat_le]

theorem len_ne (n k : Nat) (h : n < 2^63) (hk : k < 2^63) : (BitVec.ofNat 64 n != BitVec.ofNat 64 k) = decide (n ≠ k) := by
  rw [Bool.eq_iff_iff]
  simp only [bne_iff_ne, ne_eq, decide_eq_true_eq, ← BitVec.toNat_inj, toNat_int (show n < 2 ^ 64 by omega),
    toNat_int (show k < 2 ^ 64 by omega)]

theorem slt_small (i n : Nat) (h : i < n) (hn : n < 2^62) :
    BitVec.slt (BitVec.ofNat 64 i) (BitVec.ofNat 64 n) = true := by
  rw [slt_nat _ _ (by omega) (by omega), decide_eq_true h]

theorem or_shl (x b : Nat) (hb : b < 256) : x <<< 8 ||| b = x * 256 + b := BE.or_shl x 8 b hb

/-- big-endian OR of shifted bytes in the shape the Go code writes it: Horner form -/
theorem be2 (a b : Nat) (hb : b < 256) : a <<< 8 ||| b = a * 256 + b := or_shl a b hb

theorem be4 (a b c d : Nat) (hb : b < 256) (hc : c < 256) (hd : d < 256) :
    a <<< 24 ||| b <<< 16 ||| c <<< 8 ||| d = a * 2^24 + b * 2^16 + c * 2^8 + d := by
  have e1 : a <<< 24 = (a <<< 8) <<< 16 := by rw [← Nat.shiftLeft_add]
  rw [e1, ← Nat.shiftLeft_or_distrib, or_shl a b hb]
  have e2 : (a * 256 + b) <<< 16 = ((a * 256 + b) <<< 8) <<< 8 := by rw [← Nat.shiftLeft_add]
  rw [e2, ← Nat.shiftLeft_or_distrib, or_shl _ c hc, or_shl _ d hd]
  omega

theorem byte_mod (x : UInt8) (w : Nat) (h : 8 ≤ w) : x.toNat % 2^w = x.toNat := by
  have hb : x.toNat < 2^8 := UInt8.toNat_lt x
  exact Nat.mod_eq_of_lt (Nat.lt_of_lt_of_le hb (Nat.pow_le_pow_right (by decide) h))

theorem byte_shl (x : UInt8) (k w : Nat) (h : k + 8 ≤ w) :
    (x.toNat % 2^w) <<< k % 2^w = x.toNat <<< k ∧ x.toNat <<< k < 2^(k+8) := by
  have hb : x.toNat < 2^8 := UInt8.toNat_lt x
  have h1 : x.toNat <<< k < 2^(k+8) := by
    rw [Nat.shiftLeft_eq, Nat.pow_add, Nat.mul_comm]
    exact Nat.mul_lt_mul_of_pos_left hb (Nat.two_pow_pos k)
  rw [byte_mod x w (by omega), Nat.mod_eq_of_lt (Nat.lt_of_lt_of_le h1 (Nat.pow_le_pow_right (by decide) h))]
  exact ⟨rfl, h1⟩

theorem byte_shl_toNat {w : Nat} (x : UInt8) (k : Nat) (h : k + 8 ≤ w) :
    (x.toBitVec.setWidth w <<< k).toNat = x.toNat <<< k := by
  rw [BitVec.toNat_shiftLeft, BitVec.toNat_setWidth, UInt8.toNat_toBitVec, (byte_shl x k w h).1]

theorem byte_zext_toNat {w : Nat} (x : UInt8) (h : 8 ≤ w) : (x.toBitVec.setWidth w).toNat = x.toNat := by
  simpa using byte_shl_toNat (w := w) x 0 (by omega)

/-- the big-endian OR of zero-extended bytes, as the Go code writes a 2-byte and a 4-byte read, in any width that holds it -/
theorem be2_bv {w : Nat} (hw : 16 ≤ w) (a b : UInt8) :
    ((a.toBitVec.setWidth w <<< 8) ||| b.toBitVec.setWidth w).toNat = a.toNat * 256 + b.toNat := by
  rw [BitVec.toNat_or, byte_shl_toNat a 8 (by omega), byte_zext_toNat b (by omega), be2 _ _ b.toNat_lt]

theorem be4_bv {w : Nat} (hw : 32 ≤ w) (a b c d : UInt8) :
    ((((a.toBitVec.setWidth w <<< 24) ||| (b.toBitVec.setWidth w <<< 16)) ||| (c.toBitVec.setWidth w <<< 8)) |||
        d.toBitVec.setWidth w).toNat = a.toNat * 2^24 + b.toNat * 2^16 + c.toNat * 2^8 + d.toNat := by
  rw [BitVec.toNat_or, BitVec.toNat_or, BitVec.toNat_or, byte_shl_toNat a 24 (by omega), byte_shl_toNat b 16 (by omega),
    byte_shl_toNat c 8 (by omega), byte_zext_toNat d (by omega), be4 _ _ _ _ b.toNat_lt c.toNat_lt d.toNat_lt]

/-- a list that is not shorter than 2 (4) starts with two (four) elements: the shape after a passed length guard -/
theorem cons2_of_length {α : Type} : ∀ (l : List α), ¬ l.length < 2 → ∃ a b r, l = a :: b :: r
  | a :: b :: r, _ => ⟨a, b, r, rfl⟩
  | [], h | [_], h => (h (by simp)).elim

theorem cons4_of_length {α : Type} (l : List α) (h : ¬ l.length < 4) : ∃ a b c d r, l = a :: b :: c :: d :: r := by
  obtain ⟨a, b, l', rfl⟩ := cons2_of_length l (by omega)
  obtain ⟨c, d, r, rfl⟩ := cons2_of_length l' (by simp only [List.length_cons] at h; omega)
  exact ⟨a, b, c, d, r, rfl⟩

theorem getD_map (l : List UInt8) (i : Nat) :
    (l.map (·.toBitVec)).getD i 0#8 = (l.getD i 0).toBitVec := by
  simp [List.getD_eq_getElem?_getD, List.getElem?_map]

end GenTie.C12
