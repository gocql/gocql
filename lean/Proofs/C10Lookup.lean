import Model.Placement
import Proofs.Common
/-! Go's `sort.Search` loop is a search for the boundary of a monotone predicate (`searchLoop_spec`), so on strictly ascending
tokens the code's lookup is the specification's first token ≥ t with wrap-around (`lookupIdx_eq_ownerIdx`); the walk order `rot`. -/
namespace C10Lookup
open Placement

/-- strictly ascending tokens (what `sort.Sort` leaves when tokens are pairwise distinct) -/
def Sorted {β : Type} (l : List (Int × β)) : Prop := l.Pairwise (fun a b => a.1 < b.1)

theorem searchLoop_spec (f : Nat → Bool) (n : Nat)
    (mono : ∀ a b, a ≤ b → b < n → f a = true → f b = true) (fuel i j : Nat) :
      i ≤ j → j ≤ n → j - i ≤ fuel →
      (∀ k, k < i → f k = false) → (∀ k, j ≤ k → k < n → f k = true) →
      searchLoop f fuel i j ≤ j ∧ (∀ k, k < searchLoop f fuel i j → f k = false) ∧
      (∀ k, searchLoop f fuel i j ≤ k → k < n → f k = true) := by
  fun_induction searchLoop f fuel i j with
  | case1 i j =>
    intro hij _ hf lo hi
    have : i = j := by omega
    subst this; exact ⟨Nat.le_refl _, lo, hi⟩
  | case2 fuel i j hlt h hfh ih =>
    intro hij hjn hf lo hi
    have lo' : ∀ k, k < h + 1 → f k = false := by
      intro k hk
      cases hfk : f k with
      | false => rfl
      | true => rw [mono k h (by omega) (by omega) hfk] at hfh; cases hfh
    exact ih (by omega) hjn (by omega) lo' hi
  | case3 fuel i j hlt h hfh ih =>
    intro hij hjn hf lo hi
    have := ih (by omega) (by omega) (by omega) lo (fun k hk hkn => mono _ k hk hkn (by simpa using hfh))
    exact ⟨by omega, this.2⟩
  | case4 fuel i j hlt =>
    intro hij _ _ lo hi
    have : i = j := by omega
    subst this; exact ⟨Nat.le_refl _, lo, hi⟩

theorem tokAt_eq {β : Type} (l : List (Int × β)) (i : Nat) (h : i < l.length) : tokAt l i = l[i].1 := by
  simp [tokAt, List.getElem?_eq_getElem h]

/-- binary search over a list on which `q` is monotone = linear search for the first element satisfying `q`;
`f` is the predicate the code passes to `sort.Search`, which looks elements up by index -/
theorem sortSearch_findIdx {α : Type} (l : List α) (q : α → Bool) (f : Nat → Bool)
    (hf : ∀ i (h : i < l.length), f i = q l[i])
    (mono : ∀ a b (_ : a < b) (hb : b < l.length), q (l[a]'(by omega)) = true → q l[b] = true) :
    sortSearch l.length f = l.findIdx q := by
  have fm : ∀ a b, a ≤ b → b < l.length → f a = true → f b = true := by
    intro a b hab hb ha
    by_cases e : a = b
    · subst e; exact ha
    · rw [hf b hb]
      rw [hf a (by omega)] at ha
      exact mono a b (by omega) hb ha
  have S := searchLoop_spec f l.length fm l.length 0 l.length
    (Nat.zero_le _) (Nat.le_refl _) (by omega) (by intro k hk; omega) (by intro k h1 h2; omega)
  unfold sortSearch
  generalize searchLoop f l.length 0 l.length = r at S
  obtain ⟨hr, lo, hi⟩ := S
  have hb := @List.findIdx_le_length _ q l
  rcases Nat.lt_trichotomy r (l.findIdx q) with h | h | h
  · have h1 := hi r (Nat.le_refl _) (by omega)
    have h2 := List.not_of_lt_findIdx h
    rw [hf r (by omega)] at h1
    rw [h1] at h2
    cases h2
  · exact h
  · have hlt : l.findIdx q < l.length := by omega
    have h1 := lo _ h
    have h2 := @List.findIdx_getElem _ q l hlt
    rw [hf _ hlt, h2] at h1
    cases h1

theorem sortSearch_eq_findIdx {β : Type} (l : List (Int × β)) (t : Int) (hs : Sorted l) :
    sortSearch l.length (fun i => !(decide (tokAt l i < t))) = l.findIdx (fun e => decide (t ≤ e.1)) := by
  apply sortSearch_findIdx l (fun e => decide (t ≤ e.1))
  · intro i h
    rw [tokAt_eq l i h]
    by_cases c : l[i].1 < t <;> simp [c] <;> omega
  · intro a b hab hb ha
    have := (List.pairwise_iff_getElem.mp hs) a b (by omega) hb hab
    simp only [decide_eq_true_eq] at ha ⊢
    omega

/-- the code wraps `p == len` to 0, the specification keeps `p < len` -/
theorem wrap_eq (n i : Nat) : (if i ≥ n then 0 else i) = if i < n then i else 0 := by
  split <;> split <;> omega

theorem lookupIdx_eq_ownerIdx {β : Type} (l : List (Int × β)) (t : Int) (hs : Sorted l) :
    lookupIdx l t = Spec.ownerIdx l t := by
  unfold lookupIdx Spec.ownerIdx
  simp only [sortSearch_eq_findIdx l t hs]
  exact wrap_eq _ _

theorem ownerIdx_lt {β : Type} (l : List (Int × β)) (t : Int) (hne : l ≠ []) : Spec.ownerIdx l t < l.length := by
  unfold Spec.ownerIdx
  have : 0 < l.length := List.length_pos_iff.mpr hne
  by_cases h : l.findIdx (fun e => decide (t ≤ e.1)) < l.length <;> simp [h, this]

/-! ### sortedness and the owner index only depend on the column of tokens -/

theorem sorted_iff_tokens {β : Type} (l : List (Int × β)) : Sorted l ↔ (l.map (·.1)).Pairwise (· < ·) := by
  unfold Sorted; rw [List.pairwise_map]

theorem ownerIdx_congr {β γ : Type} (l : List (Int × β)) (l' : List (Int × γ)) (h : l.map (·.1) = l'.map (·.1))
    (t : Int) : Spec.ownerIdx l t = Spec.ownerIdx l' t := by
  have h1 := List.findIdx_map l (·.1) (fun x => decide (t ≤ x))
  have h2 := List.findIdx_map l' (·.1) (fun x => decide (t ≤ x))
  have hl : l.length = l'.length := by rw [← List.length_map (f := (·.1)), h, List.length_map]
  rw [h] at h1
  unfold Spec.ownerIdx
  rw [hl]
  exact congrArg (fun i => if i < l'.length then i else 0) (h1.symm.trans h2)

theorem replicasFor_sorted (rr : ReplicaRing) (t : Int) (hs : Sorted rr) (hne : rr ≠ []) :
    replicasFor rr t = some (rr[Spec.ownerIdx rr t]'(ownerIdx_lt rr t hne)) := by
  have := List.length_pos_iff.mpr hne
  rw [replicasFor, if_neg (by omega), lookupIdx_eq_ownerIdx rr t hs, List.getElem?_eq_getElem (ownerIdx_lt rr t hne)]

/-- owner of the range (previous token, token] with wrap-around -/
theorem ownerIdx_range {β : Type} (l : List (Int × β)) (t : Int) :
    (t ≤ tokAt l (Spec.ownerIdx l t) ∧ ∀ k, k < Spec.ownerIdx l t → tokAt l k < t) ∨
    (Spec.ownerIdx l t = 0 ∧ ∀ k, k < l.length → tokAt l k < t) := by
  have below : ∀ k, k < l.findIdx (fun e => decide (t ≤ e.1)) → k < l.length → tokAt l k < t := by
    intro k hk hkl
    have h2 := List.not_of_lt_findIdx hk
    rw [tokAt_eq l k hkl]
    simp only [decide_eq_false_iff_not] at h2
    omega
  have hb := @List.findIdx_le_length _ (fun e : Int × β => decide (t ≤ e.1)) l
  unfold Spec.ownerIdx
  by_cases h : l.findIdx (fun e => decide (t ≤ e.1)) < l.length
  · left
    simp only [h, if_true]
    refine ⟨?_, fun k hk => below k hk (by omega)⟩
    have h2 := @List.findIdx_getElem _ (fun e : Int × β => decide (t ≤ e.1)) l h
    rw [tokAt_eq l _ h]
    simpa using h2
  · right
    simp only [h, if_false, true_and]
    exact fun k hk => below k (by omega) hk

theorem mem_rot {α : Type} (l : List α) (i : Nat) (x : α) : x ∈ rot l i ↔ x ∈ l := (rot_perm l i).mem_iff

theorem map_rot {α β : Type} (f : α → β) (l : List α) (i : Nat) : (rot l i).map f = rot (l.map f) i := by
  simp [rot]

theorem rot_head {α : Type} (l : List α) (i : Nat) (h : i < l.length) :
    rot l i = l[i] :: (l.drop (i + 1) ++ l.take i) := by
  unfold rot
  rw [List.drop_eq_getElem_cons h]; rfl

/-- the literal Go indexing `tokens[(i+j) mod len]`, `j = 0 … len-1`, is the rotation used by the model -/
theorem walkIdx_eq_rot {α : Type} [Inhabited α] (l : List α) (i : Nat) (hi : i < l.length) :
    walkIdx l i = rot l i := by
  unfold walkIdx rot
  apply List.ext_getElem
  · simp; omega
  · intro j h1 h2
    simp only [List.length_map, List.length_range] at h1
    simp only [List.getElem_map, List.getElem_range, List.getElem_append, List.length_drop, List.getElem_drop,
      List.getElem_take]
    by_cases hc : j < l.length - i
    · have : ¬ (i + j ≥ l.length) := by omega
      simp only [this, if_false, hc, dite_true]
      rw [List.getElem!_eq_getElem?_getD, List.getElem?_eq_getElem (by omega)]
      rfl
    · have : i + j ≥ l.length := by omega
      simp only [this, if_true, hc, dite_false]
      rw [List.getElem!_eq_getElem?_getD, List.getElem?_eq_getElem (by omega)]
      simp only [Option.getD_some]
      congr 1
      omega

end C10Lookup
