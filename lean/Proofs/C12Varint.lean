import Proofs.C12Bytes
/-!
# C12: varint — the shortest two's complement encoding (`specVarint`), its decoder, minimality,
and the trimming loop of marshalVarint
-/
namespace C12Varint
open ValueSpec Marshal C12Bytes

theorem tcDec_snoc (l : Bytes) (x : UInt8) (h : l ≠ []) : tcDec (l ++ [x]) = tcDec l * 256 + x.toNat := by
  have := BE.tcDec_append l [x] (List.length_pos_iff.mpr h)
  simpa [beNat] using this

theorem specVarint_ne_nil (n : Int) : specVarint n ≠ [] := by
  rw [specVarint]; split <;> simp

theorem tcDec_specVarint (n : Int) : tcDec (specVarint n) = n := by
  induction n using specVarint.induct with
  | case1 n h =>
    rw [specVarint, if_pos h]
    simp [tcDec, beNat, byteOfNat]
    split <;> omega
  | case2 n h ih =>
    rw [specVarint, if_neg h, tcDec_snoc _ _ (specVarint_ne_nil _), ih, byteOfNat_toNat]
    omega

theorem specVarint_length_le (k : Nat) (n : Int) (hk : 1 ≤ k) (h : fitsS k n = true) : (specVarint n).length ≤ k := by
  induction k generalizing n with
  | zero => omega
  | succ k ih =>
    rw [specVarint]
    split
    · simp
    · simp only [List.length_append, List.length_singleton]
      have hk1 : 1 ≤ k := by
        cases k with
        | zero => simp [fitsS_iff] at h; omega
        | succ j => omega
      have : fitsS k (n / 256) = true := by
        simp only [fitsS_iff, Int.pow_succ] at h ⊢
        have hP : ((256:Int) ^ k) = ((256 ^ k : Nat) : Int) := (cast_pow256 _).symm
        obtain ⟨q, hq⟩ := pow256_even k hk1
        rw [hP] at h ⊢
        generalize 256 ^ k = P at *
        subst hq
        omega
      have := ih (n / 256) hk1 this
      omega

/-- MINIMALITY: no byte string that decodes to `n` is shorter than `specVarint n` -/
theorem specVarint_minimal (n : Int) (b : Bytes) (hb : b ≠ []) (h : tcDec b = n) :
    (specVarint n).length ≤ b.length := by
  have hlen : 1 ≤ b.length := by
    cases b with
    | nil => exact absurd rfl hb
    | cons a r => simp
  apply specVarint_length_le _ _ hlen
  have := tcDec_range b
  rw [h] at this
  simp [fitsS_iff, this.1, this.2]

theorem tcDec_zero_ext (b1 : UInt8) (rest : Bytes) (h : b1.toNat < 128) :
    tcDec (0 :: b1 :: rest) = tcDec (b1 :: rest) := by
  rw [tcDec_cons 0]
  simp only [show (0:UInt8).toNat = 0 by rfl]
  rw [if_neg (by omega)]
  have hs := (sign_iff_head b1 rest)
  rw [tcDec, if_neg (fun hh => by have := hs.mp hh; omega)]
  simp

theorem tcDec_ff_ext (b1 : UInt8) (rest : Bytes) (h : b1.toNat ≥ 128) :
    tcDec (255 :: b1 :: rest) = tcDec (b1 :: rest) := by
  rw [tcDec_cons 255]
  have hs := (sign_iff_head b1 rest).mpr h
  simp only [show (255:UInt8).toNat = 255 by rfl]
  rw [if_pos (by omega)]
  rw [tcDec, if_pos hs]
  simp only [List.length_cons, Int.pow_succ]
  omega

/-! ## canonical form: a byte string without a redundant leading byte IS the varint of its value

Every byte string is the two's complement of its value in as many bytes (`tcEnc_tcDec`); the varint of `n` is the two's
complement of `n` in the least number of bytes that hold it (`specVarint_eq_tcEnc`); and a leading byte is redundant
exactly when the value fits the bytes behind it (`minimalTC_iff`). -/

theorem specVarint_eq_tcEnc (k : Nat) (n : Int) (h : fitsS (k + 1) n = true) (hmin : k = 0 ∨ fitsS k n = false) :
    specVarint n = tcEnc (k + 1) n := by
  have hle := specVarint_length_le (k + 1) n (Nat.le_add_left 1 k) h
  have hlen : (specVarint n).length = k + 1 := by
    rcases hmin with rfl | hk
    · have := List.length_pos_iff.mpr (specVarint_ne_nil n); omega
    · refine Nat.le_antisymm hle (Nat.lt_of_not_le fun hc => ?_)
      have := fitsS_mono hc (fitsS_tcDec (specVarint n))
      rw [tcDec_specVarint, hk] at this; cases this
  have := tcEnc_tcDec (specVarint n)
  rwa [tcDec_specVarint, hlen, eq_comm] at this

theorem tcDec_redundant (a b : UInt8) (r : Bytes) (h : minimalTC (a :: b :: r) = false) :
    tcDec (a :: b :: r) = tcDec (b :: r) := by
  simp only [minimalTC, Bool.not_eq_false', decide_eq_true_eq] at h
  rcases h with ⟨ha, hb⟩ | ⟨ha, hb⟩
  · rw [show a = 0 from UInt8.toNat_inj.mp ha]; exact tcDec_zero_ext b r hb
  · rw [show a = 255 from UInt8.toNat_inj.mp ha]; exact tcDec_ff_ext b r hb

theorem minimalTC_iff (a b : UInt8) (r : Bytes) :
    minimalTC (a :: b :: r) = true ↔ fitsS (b :: r).length (tcDec (a :: b :: r)) = false := by
  constructor
  · intro h
    rw [Bool.eq_false_iff]
    intro hf
    simp only [fitsS_iff, tcDec_cons a, ← cast_pow256] at hf
    have hs := sign_iff_head b r
    have hlt := beNat_lt (b :: r)
    have ha := a.toNat_lt
    simp only [minimalTC, Bool.not_eq_true', decide_eq_false_iff_not] at h
    generalize 256 ^ (b :: r).length = Q at *
    generalize beNat (b :: r) = s at *
    -- the value is A·Q + s with 0 ≤ s < Q and A the signed first byte: it fits Q only for A = 0 or A = −1
    split at hf
    · by_cases h255 : a.toNat = 255
      · rw [h255] at hf; omega
      · have : ((a.toNat : Int) - 256) * Q ≤ -2 * Q := Int.mul_le_mul_of_nonneg_right (by omega) (by omega)
        omega
    · by_cases h0 : a.toNat = 0
      · rw [h0] at hf; omega
      · have : 1 * (Q : Int) ≤ (a.toNat : Int) * Q := Int.mul_le_mul_of_nonneg_right (by omega) (by omega)
        omega
  · intro h
    cases hm : minimalTC (a :: b :: r)
    · rw [tcDec_redundant a b r hm, fitsS_tcDec] at h; cases h
    · rfl

/-- CANONICITY: a non-empty byte string whose first byte is not redundant is the varint of its value -/
theorem specVarint_tcDec (b : Bytes) (h : minimalTC b = true) : specVarint (tcDec b) = b :=
  match b, h with
  | [x], _ => (specVarint_eq_tcEnc 0 _ (fitsS_tcDec [x]) (.inl rfl)).trans (tcEnc_tcDec [x])
  | a :: b :: r, h =>
    (specVarint_eq_tcEnc _ _ (fitsS_tcDec (a :: b :: r)) (.inr ((minimalTC_iff a b r).mp h))).trans
      (tcEnc_tcDec (a :: b :: r))

theorem u8_ne_zero {b : UInt8} (h : b ≠ 0) : b.toNat ≠ 0 := fun hh => h (UInt8.toNat_inj.mp hh)
theorem u8_ne_ff {b : UInt8} (h : b ≠ 255) : b.toNat ≠ 255 := fun hh => h (UInt8.toNat_inj.mp hh)

theorem trimTC_head {b : UInt8} (h0 : b ≠ 0) (hff : b ≠ 255) (rest : Bytes) : trimTC (b :: rest) = b :: rest := by
  cases rest with
  | nil => rfl
  | cons c r => rw [trimTC, if_pos ⟨h0, hff⟩]

/-- one turn of the loop `for ; i < len-1; i++ { … }` of marshalVarint: a redundant leading byte is dropped -/
theorem trimTC_cons (b0 b1 : UInt8) (rest : Bytes) :
    trimTC (b0 :: b1 :: rest) = if minimalTC (b0 :: b1 :: rest) = true then b0 :: b1 :: rest else trimTC (b1 :: rest) := by
  have h0 : (0:UInt8).toNat = 0 := rfl
  have hff : (255:UInt8).toNat = 255 := rfl
  have hb1 := b1.toNat_lt
  rw [trimTC]
  split
  · rename_i hc
    have := u8_ne_zero hc.1
    have := u8_ne_ff hc.2
    rw [if_pos (by simp [minimalTC]; omega)]
  · split
    · rename_i _ hc
      obtain ⟨rfl, hb1ne⟩ := hc
      have := u8_ne_zero hb1ne
      split
      · rename_i hlt
        rw [if_neg (by simp [minimalTC, h0]; omega), trimTC_head hb1ne (fun h => by rw [h, hff] at hlt; omega)]
      · rw [if_pos (by simp [minimalTC, h0]; omega)]
    · split
      · rename_i _ _ hc
        obtain ⟨rfl, hb1ne⟩ := hc
        have := u8_ne_ff hb1ne
        split
        · rename_i hge
          rw [if_neg (by simp [minimalTC, hff]; omega), trimTC_head (fun h => by rw [h, h0] at hge; omega) hb1ne]
        · rw [if_pos (by simp [minimalTC, hff]; omega)]
      · -- here b0 = b1 = 0x00 or b0 = b1 = 0xFF
        rename_i h1 h2 h3
        have e : (b0 = 0 ∧ b1 = 0) ∨ (b0 = 255 ∧ b1 = 255) := by
          by_cases hz : b0 = 0
          · exact .inl ⟨hz, Classical.byContradiction fun hb => h2 ⟨hz, hb⟩⟩
          · have hf : b0 = 255 := Classical.byContradiction fun hb => h1 ⟨hz, hb⟩
            exact .inr ⟨hf, Classical.byContradiction fun hb => h3 ⟨hf, hb⟩⟩
        rcases e with ⟨rfl, rfl⟩ | ⟨rfl, rfl⟩ <;> rw [if_neg (by simp [minimalTC])]

/-- the loop turns ANY non-empty two's complement byte string into the varint of the number it denotes -/
theorem trimTC_spec : ∀ (b : Bytes), b ≠ [] → trimTC b = specVarint (tcDec b)
  | [], h => absurd rfl h
  | [x], _ => (specVarint_tcDec [x] rfl).symm
  | b0 :: b1 :: rest, _ => by
    rw [trimTC_cons]
    cases hm : minimalTC (b0 :: b1 :: rest)
    · rw [if_neg (by simp), trimTC_spec (b1 :: rest) (by simp), tcDec_redundant b0 b1 rest hm]
    · rw [if_pos rfl, specVarint_tcDec _ hm]

end C12Varint
