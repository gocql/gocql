import Proofs.C11State
/-! # C11 — hosts handed over in BULK (`tokenAwareHostPolicy.AddHosts`, what `Session.init` calls)

`AddHosts(hosts)` puts every host into the policy's own list, rebuilds the ring and recomputes every held replica
table ONCE and unconditionally, then calls `AddHost` of the fallback policy per host (`Policies.TA.addHosts`).
Histories over `BOp` = the operations of `TAOp` + `addHosts hs` (any number of bulk calls anywhere in the history,
any host lists, hosts repeated inside a call, hosts already known) + `setPartitioner` (the partitioner learned
at any point of the history, also after hosts and keyspaces); the notifier history of a bulk call is one
`AddHost` event per host of the call, in call order (`evsOfB`). The history theorems of Proofs/C11.lean hold
for these histories too - the lists depend on a history through its notifier calls only (`runB_events`) -, by the same
lemmas about a state with the invariant `BI` (`pickSeq_struct`, `fresh_of_BI`, `exact_state`). -/
namespace C11
open Policies

inductive BOp
  | op (o : TAOp)
  | addHosts (hs : List Host)
  | setPartitioner          -- `SetPartitioner` with a supported name, possibly AFTER hosts / keyspaces are known

def _root_.Policies.TA.applyB (t : TA) : BOp → TA
  | .op o => t.apply o
  | .addHosts hs => t.addHosts hs
  | .setPartitioner => t.setPartitioner

def BOp.evs : BOp → List (Ev × Host)
  | .op o => (match o.ev with | some e => [e] | none => [])
  | .addHosts hs => hs.map (fun h => (Ev.add, h))
  | .setPartitioner => []

def evsOfB (ops : List BOp) : List (Ev × Host) := ops.flatMap BOp.evs
def hostsOfB (ops : List BOp) : List Host := (evsOfB ops).map (·.2)
def NoAliasB (ops : List BOp) : Prop := ∀ a ∈ hostsOfB ops, ∀ b ∈ hostsOfB ops, a.addr = b.addr → a = b

/-- a bulk call leaves the fallback policy's lists and the policy's own host list exactly as the sequence of
single `AddHost` calls does; what differs is WHEN the replica tables are recomputed (once, unconditionally) -/
theorem addHosts_pol (t : TA) (hs : List Host) :
    (t.addHosts hs).pol = (hs.map (fun h => (Ev.add, h))).foldl polEv t.pol := by
  rw [List.foldl_map]; rfl

theorem addHosts_hosts (t : TA) (hs : List Host) :
    (t.addHosts hs).hosts = (hs.map (fun h => (Ev.add, h))).foldl hostsEv t.hosts := by
  obtain ⟨r, e⟩ := refresh_eq { t with hosts := hs.foldl (fun l h => (cowAdd l h).1) t.hosts }
  simp only [TA.addHosts, e, List.foldl_map]
  rfl

theorem addHosts_nonlocal (t : TA) (hs : List Host) : (t.addHosts hs).nonlocal = t.nonlocal := by
  obtain ⟨r, e⟩ := refresh_eq { t with hosts := hs.foldl (fun l h => (cowAdd l h).1) t.hosts }
  simp only [TA.addHosts, e]

theorem evsOf_single (o : TAOp) : evsOf [o] = (match o.ev with | some e => [e] | none => []) := by
  unfold evsOf
  rw [List.filterMap_cons]
  cases o.ev <;> rfl

/-- the first `SetPartitioner` builds the ring from the hosts already known and computes every held table; the lists
and the policy's own host list are not touched; a later call changes nothing -/
theorem setPartitioner_fields (t : TA) :
    t.setPartitioner.pol = t.pol ∧ t.setPartitioner.hosts = t.hosts ∧ t.setPartitioner.nonlocal = t.nonlocal := by
  fun_cases TA.setPartitioner t
  · exact ⟨rfl, rfl, rfl⟩
  · obtain ⟨r, e⟩ := refresh_eq { t with partSet := true }
    rw [e]
    exact ⟨rfl, rfl, rfl⟩

/-- `dirtyStep` for bulk histories: a bulk call - and the call that sets the partitioner - recomputes every held table -/
def dirtyStepB (t : TA) (d : List Nat) : BOp → List Nat
  | .op o => dirtyStep t d o
  | .addHosts _ => []
  | .setPartitioner => if t.partSet then d else []

def runDirtyB : TA × List Nat → List BOp → TA × List Nat
  | s, [] => s
  | s, o :: r => runDirtyB (s.1.applyB o, dirtyStepB s.1 s.2 o) r

theorem runDirtyB_fst (s : TA × List Nat) (ops : List BOp) : (runDirtyB s ops).1 = ops.foldl TA.applyB s.1 := by
  induction ops generalizing s with
  | nil => rfl
  | cons o r ih => rw [runDirtyB, ih, List.foldl_cons]

def dirtyOfB (t0 : TA) (ops : List BOp) : List Nat := (runDirtyB (t0, []) ops).2

theorem evsOfB_cons (o : BOp) (r : List BOp) : evsOfB (o :: r) = o.evs ++ evsOfB r := List.flatMap_cons

/-- the policy's own host list and, up to the counter, the fallback policy after a history with bulk calls are what its
notifier calls make -/
theorem runB_events (ops : List BOp) (t : TA) (n : Nat) :
    (ops.foldl TA.applyB t).hosts = (evsOfB ops).foldl hostsEv t.hosts ∧
    (ops.foldl TA.applyB t).pol.setCtr n = (evsOfB ops).foldl polEv (t.pol.setCtr n) := by
  induction ops generalizing t with
  | nil => exact ⟨rfl, rfl⟩
  | cons o r ih =>
    rw [List.foldl_cons, evsOfB_cons, List.foldl_append, List.foldl_append, (ih _).1, (ih _).2]
    cases o with
    | op o' =>
      have h1 := run_hosts [o'] t
      have h2 := run_pol [o'] t n
      rw [evsOf_single] at h1 h2
      exact ⟨congrArg (List.foldl hostsEv · _) h1, congrArg (List.foldl polEv · _) h2⟩
    | addHosts hs =>
      exact ⟨congrArg (List.foldl hostsEv · _) (addHosts_hosts t hs),
        congrArg (List.foldl polEv · _) ((congrArg (·.setCtr n) (addHosts_pol t hs)).trans
          (List.foldl_hom (·.setCtr n) fun p e => (polEv_setCtr p e n).symm).symm)⟩
    | setPartitioner =>
      obtain ⟨e1, e2, _⟩ := setPartitioner_fields t
      exact ⟨congrArg (List.foldl hostsEv · _) e2, congrArg (fun p : Pol => List.foldl polEv (p.setCtr n) _) e1⟩

theorem dirtyB_run_at (ops : List BOp) (s : TA × List Nat) (ks : Nat) (hf : ks ∉ s.2 → TabFresh s.1 ks)
    (hd : ks ∉ (runDirtyB s ops).2) : TabFresh (runDirtyB s ops).1 ks := by
  induction ops generalizing s with
  | nil => exact hf hd
  | cons o r ih =>
    refine ih _ (fun hks => ?_) hd
    cases o with
    | op o' =>
      have := dirty_run_at [o'] s ks hf
      exact this hks
    | addHosts hs => exact tabFresh_refresh _ ks
    | setPartitioner =>
      show TabFresh s.1.setPartitioner ks
      fun_cases TA.setPartitioner s.1 with
      | case1 hp => exact hf (by simpa [dirtyStepB, hp] using hks)   -- a later call changes nothing
      | case2 => exact tabFresh_refresh _ ks

theorem BI_final (k : Kind) (ldc lrack : Nat) (sh nl ps : Bool) (sess : Option Nat) (ops : List BOp) (hna : NoAliasB ops) :
    BI (ops.foldl TA.applyB (TA.new (Pol.new k ldc lrack) sh nl ps sess))
      (fun x => statusOf (evsOfB ops) x) (dirtyOfB (TA.new (Pol.new k ldc lrack) sh nl ps sess) ops) := by
  refine BI_of_events k ldc lrack _ (evsOfB ops) _ hna (runB_events ops _ 0).2 (runB_events ops _ 0).1 (fun ks hks => ?_)
  have := dirtyB_run_at ops (TA.new (Pol.new k ldc lrack) sh nl ps sess, []) ks (fun _ e he => by simp [TA.new] at he) hks
  rwa [runDirtyB_fst] at this

theorem runB_nonlocal (t : TA) (ops : List BOp) : (ops.foldl TA.applyB t).nonlocal = t.nonlocal := by
  refine foldl_inv (fun t' : TA => t'.nonlocal = t.nonlocal) TA.applyB (fun b o h => ?_) ops t rfl
  cases o with
  | op o' => exact (run_opts b [o']).1.trans h
  | addHosts hs => exact (addHosts_nonlocal b hs).trans h
  | setPartitioner => exact (setPartitioner_fields b).2.2.trans h

/-- a query on a keyspace without an installed-and-not-recomputed table, or answered from the ring -/
def FreshQueryB (t0 : TA) (ops : List BOp) (rk : Option (Nat × Nat)) : Prop :=
  match rk with
  | none => True
  | some (ks, tok) => ks ∉ dirtyOfB t0 ops ∨ (∃ l, (ops.foldl TA.applyB t0).replicasFor ks tok = .hosts l false)

/-- COMPLETENESS against the history for EVERY history that may contain bulk calls (`AddHosts`, any host lists, at any
point, any number of times) next to AddHost / RemoveHost / HostUp / HostDown / KeyspaceChanged / installed tables /
picks, over hosts with pairwise different connect addresses (`NoAliasB`): every host the history expects is offered,
only up hosts are; no exclusion. -/
theorem C11_bulk_history_complete (k : Kind) (ldc lrack : Nat) (sh nl ps : Bool) (sess : Option Nat) (ops : List BOp)
    (up : Nat → Bool) (σ : List Host → List Host) (rk : Option (Nat × Nat)) (hna : NoAliasB ops) :
    let t := ops.foldl TA.applyB (TA.new (Pol.new k ldc lrack) sh nl ps sess)
    ∃ l, t.pickSeq up σ rk = .seq l ∧ (Pol.below t.pol → t.pickScan up σ rk = ⟨l, false⟩) ∧
      (∀ h ∈ l, up h.id = true) ∧
      ∀ x, (statusOf (evsOfB ops) x).expected (up x.id) = true → x ∈ l :=
  complete_state (BI_final k ldc lrack sh nl ps sess ops hna) up σ rk

/-- bulk histories over hosts with pairwise different addresses: every replica list taken from the ring or from a table
the policy computed itself lists hosts that are added and not removed only - in particular right after a bulk call, for
EVERY keyspace (a bulk call recomputes every held table even when it adds no new host, so it also replaces tables
installed from outside) -/
theorem C11_bulk_replica_tables_fresh (k : Kind) (ldc lrack : Nat) (sh nl ps : Bool) (sess : Option Nat) (ops : List BOp)
    (σ : List Host → List Host) (hσ : ∀ l, (σ l).Perm l) (rk : Option (Nat × Nat)) (hna : NoAliasB ops) :
    let t := ops.foldl TA.applyB (TA.new (Pol.new k ldc lrack) sh nl ps sess)
    FreshQueryB (TA.new (Pol.new k ldc lrack) sh nl ps sess) ops rk →
    ∀ x ∈ (repsOf t σ rk).getD [], x ∈ t.hosts ∧ (statusOf (evsOfB ops) x).known = true := by
  intro t hfq
  exact fresh_of_BI (BI_final k ldc lrack sh nl ps sess ops hna) σ hσ rk (fun ks tok e => by subst e; exact hfq)

/-- EXACTNESS against the history for bulk histories, under the same exclusions as `C11_history_exact_partial`
(duplicate-free tables, no ghost host KF-C11-4, no host of the specified replica head last reported down KF-C11-5,
the replica list from a table the policy computed itself / the ring, or listing known hosts only): the drained
iterator offers EXACTLY the hosts the history expects, each once. -/
theorem C11_bulk_history_exact_partial (k : Kind) (ldc lrack : Nat) (sh nl ps : Bool) (sess : Option Nat) (ops : List BOp)
    (up : Nat → Bool) (σ : List Host → List Host) (hσ : ∀ l, (σ l).Perm l) (rk : Option (Nat × Nat)) (hna : NoAliasB ops) :
    let t := ops.foldl TA.applyB (TA.new (Pol.new k ldc lrack) sh nl ps sess)
    let S := fun x => statusOf (evsOfB ops) x
    (∀ e ∈ t.replicas, ∀ f ∈ e.2, f.2.Nodup) →
    (∀ x, (S x).ghost = false) →
    (∀ x ∈ specHead t.pol.tier t.pol.maxTier up nl ((repsOf t σ rk).getD []), (S x).last ≠ some .hdown) →
    (FreshQueryB (TA.new (Pol.new k ldc lrack) sh nl ps sess) ops rk ∨
      ∀ x ∈ specHead t.pol.tier t.pol.maxTier up nl ((repsOf t σ rk).getD []), (S x).known = true) →
    ∃ l, t.pickSeq up σ rk = .seq l ∧ (Pol.below t.pol → t.pickScan up σ rk = ⟨l, false⟩) ∧ l.Nodup ∧
      (∀ x, x ∈ l ↔ (S x).expected (up x.id) = true) ∧
      ∀ univ : List Host, univ.Nodup → (∀ h ∈ hostsOfB ops, h ∈ univ) →
        l.Perm (univ.filter (fun x => (S x).expected (up x.id))) := by
  intro t S hrep hg hdown hfresh
  have hnl : t.nonlocal = nl := runB_nonlocal _ ops
  refine exact_state (BI_final k ldc lrack sh nl ps sess ops hna) up σ hσ rk hrep hg ?_ ?_ <;> rw [hnl]
  · exact hdown
  · exact hfresh.imp_left (fun hf ks tok e => by subst e; exact hf)

/-- what a bulk call does that a fold of single `AddHost` calls does not: a bulk call of KNOWN hosts
only still recomputes every held table - here it replaces a table installed from outside that lists the removed host 9 -;
the fold of `AddHost` leaves it. Both leave the same lists. -/
theorem C11_bulk_vs_single_adds :
    let h1 : Host := ⟨1, 1, 0, 0, [100]⟩
    let h9 : Host := ⟨9, 9, 1, 0, [900]⟩
    let pre := [BOp.op (.setMeta 0 (some (some 1))), .addHosts [h1, h9, h1], .op (.remove h9), .op (.setReplicas 0 [(100, [h9])])]
    let t := pre.foldl TA.applyB (TA.new (Pol.new .dc 0 0) false true true none)
    (t.applyB (.addHosts [h1])).replicas = [(0, [(100, [h1])])] ∧
    ([TAOp.add h1].foldl TA.apply t).replicas = [(0, [(100, [h9])])] ∧
    (t.applyB (.addHosts [h1])).pol.l0 = [h1] ∧ ([TAOp.add h1].foldl TA.apply t).pol.l0 = [h1] ∧
    (t.applyB (.addHosts [h1])).hosts = [h1] := by
  decide

/-- non-vacuity: a bulk start with a host listed twice and one already known, then a removal - the routed query of
the session keyspace is offered exactly the remaining hosts, replica first -/
example :
    let h1 : Host := ⟨1, 1, 0, 0, [100]⟩
    let h2 : Host := ⟨2, 2, 0, 0, [200]⟩
    let h9 : Host := ⟨9, 9, 1, 0, [900]⟩
    let ops := [BOp.op (.setMeta 0 (some (some 2))), .op (.add h2), .addHosts [h1, h9, h1, h2], .op (.remove h9)]
    let t := ops.foldl TA.applyB (TA.new (Pol.new .dc 0 0) false true true (some 0))
    t.pickScan (fun _ => true) id (some (0, 150)) = ⟨[h2, h1], false⟩ ∧
    (statusOf (evsOfB ops) h9).expected true = false ∧ (statusOf (evsOfB ops) h1).expected true = true := by
  decide

/-- non-vacuity, late partitioner: hosts and the session keyspace are known first (every query is handed to the
fallback policy), `SetPartitioner` then builds ring and table from them - the replica of token 150 leads -/
example :
    let h1 : Host := ⟨1, 1, 0, 0, [100]⟩
    let h2 : Host := ⟨2, 2, 0, 0, [200]⟩
    let pre := [BOp.op (.setMeta 0 (some (some 1))), .addHosts [h1, h2]]
    let t := pre.foldl TA.applyB (TA.new (Pol.new .rr 0 0) false false false (some 0))
    t.replicas = [] ∧ t.pickScan (fun _ => true) id (some (0, 150)) = ⟨[h1, h2], false⟩ ∧
    (t.applyB .setPartitioner).pickScan (fun _ => true) id (some (0, 150)) = ⟨[h2, h1], false⟩ ∧
    (t.applyB .setPartitioner).replicas = [(0, [(100, [h1]), (200, [h2])])] ∧
    ((t.applyB .setPartitioner).applyB .setPartitioner).replicas = [(0, [(100, [h1]), (200, [h2])])] := by
  decide

end C11
