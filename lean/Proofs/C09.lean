import Proofs.C09Murmur
import Proofs.C09Token
import Proofs.C09Routing
import Proofs.C09Names
import Proofs.C09Placed
import Proofs.C09Cache
import Proofs.Common
/-!
# C09 — partition tokens equal the ones Cassandra computes (property theorems)

Model: `Model/Murmur.lean`, `Model/Token.lean` (hand-written from internal/murmur/murmur.go,
token.go, session.go:createRoutingKey; tied to the source by the differential run of
`harness/cmd/c09`).  Spec: `Murmur.Spec` (Cassandra `MurmurHash.hash3_x64_128`), `Token.Spec`.
Further sections: the routing key from the prepared metadata and the schema (`Model/Routing.lean`; with names of any
type, `Model/RoutingNames.lean`), token order, the key as it lies in memory (`Model/MurmurPlaced.lean`), the routing-key
info cache over a history and under concurrent first uses (`Model/RoutingCache.lean`); `md5.Sum` is `Model/MD5.lean`.
`Proofs/GenTieC09.lean` ties the translated Go text of `Murmur3H1` to `Murmur.murmur3H1`.
-/
namespace C09

/-- Murmur3: hash equality for every key (every length, every tail, bytes ≥ 0x80 included). -/
theorem C09_murmur (data : List UInt8) : Murmur.murmur3H1 data = Murmur.Spec.cassandraH1 data :=
  Murmur.murmur3H1_eq_cassandra data

/-- The tail of the key has exactly `len & 15` bytes (that an arm of the switch only runs when its byte is there is
    `Murmur.arms_length`). -/
theorem C09_murmur_tail_in_bounds (data : List UInt8) :
    (data.drop (data.length / 16 * 16)).length = data.length % 16 := Murmur.tail_len data

/-- FULL STATEMENT (not provable for the unchanged code): `murmur3H1 data = Spec.cassandraToken data`.
    Cassandra's Murmur3Partitioner additionally maps a hash of Long.MIN_VALUE to Long.MAX_VALUE
    (`normalize`); gocql does not.  Proved part: equality whenever the hash is not −2⁶³.
    No key with that hash is known, so the excluded point cannot be replayed on the code. -/
theorem C09_murmur_token_partial (data : List UInt8)
    (h : Murmur.Spec.cassandraH1 data ≠ BitVec.intMin 64) :
    Murmur.murmur3H1 data = Murmur.Spec.cassandraToken data := by
  rw [C09_murmur]; simp [Murmur.Spec.cassandraToken, h]

/-- Random partitioner, every 16-byte digest. -/
theorem C09_random (digest : List UInt8) (h : digest.length = 16) :
    Token.randomToken digest = Token.Spec.randomToken digest := by
  match digest, h with
  | b :: bs, h =>
    have hl : bs.length = 15 := by simpa using h
    have hlt := Token.beNat_lt bs
    have hb : b.toNat < 256 := b.toNat_lt
    rw [hl] at hlt
    simp only [Token.randomToken, Token.Spec.randomToken, Token.beNat, List.headD_cons, hl, Nat.reducePow,
      Int.reducePow] at hlt ⊢
    -- the first byte exceeds 127 exactly when the value reaches 2^127
    split <;> split <;> omega

theorem C09_random_range (digest : List UInt8) (h : digest.length = 16) :
    0 ≤ Token.randomToken digest ∧ Token.randomToken digest ≤ (2:Int)^127 := by
  rw [C09_random digest h]
  have hlt := Token.beNat_lt digest
  simp only [h, Token.Spec.randomToken, Nat.reducePow, Int.reducePow] at hlt ⊢
  split <;> omega

/-- **Random partitioner on the KEY**, every key of every length: with `md5.Sum` = RFC 1321 (Model/MD5.lean, an
    executable specification tied to crypto/md5 by the differential op `randomk` and checked against the RFC's test
    suite below), the token is the absolute value of the digest read as a signed 128-bit integer, in 0 … 2^127. -/
theorem C09_random_of_key (key : List UInt8) :
    Token.randomTokenOfKey key = Token.Spec.randomToken (MD5.sum key) ∧
    0 ≤ Token.randomTokenOfKey key ∧ Token.randomTokenOfKey key ≤ (2:Int)^127 := by
  have h16 : (MD5.sum key).length = 16 := by simp [MD5.sum, MD5.out32, MD5.lenBytes]
  exact ⟨C09_random _ h16, C09_random_range _ h16⟩

/-- RFC 1321 appendix A.5 test suite ("", "a", "abc", "message digest", and the 80-digit message: two chunks) -/
example : MD5.sum [] = [0xd4,0x1d,0x8c,0xd9,0x8f,0x00,0xb2,0x04,0xe9,0x80,0x09,0x98,0xec,0xf8,0x42,0x7e] := by decide +kernel
example : MD5.sum [0x61] = [0x0c,0xc1,0x75,0xb9,0xc0,0xf1,0xb6,0xa8,0x31,0xc3,0x99,0xe2,0x69,0x77,0x26,0x61] := by decide +kernel
example : MD5.sum [0x61,0x62,0x63] = [0x90,0x01,0x50,0x98,0x3c,0xd2,0x4f,0xb0,0xd6,0x96,0x3f,0x7d,0x28,0xe1,0x7f,0x72] := by decide +kernel
example : MD5.sum [0x6d,0x65,0x73,0x73,0x61,0x67,0x65,0x20,0x64,0x69,0x67,0x65,0x73,0x74]
    = [0xf9,0x6b,0x69,0x7d,0x7c,0xb7,0x93,0x8d,0x52,0x5a,0x2f,0x31,0xaa,0xf1,0x61,0xd0] := by decide +kernel
example : MD5.sum ((List.replicate 8 [0x31,0x32,0x33,0x34,0x35,0x36,0x37,0x38,0x39,0x30]).flatten)
    = [0x57,0xed,0xf4,0xa2,0x2b,0xe3,0xc9,0x55,0xac,0x49,0xda,0x2e,0x21,0x07,0xb6,0x7a] := by decide +kernel
/-- a key whose digest is negative as a signed integer ("a": 0x0c… is positive; "abc": 0x90… is negative) -/
example : Token.randomTokenOfKey [0x61,0x62,0x63] = 148866708576779697295343134153845407886 := by decide +kernel

/-- Order-preserving partitioner: unsigned bytewise lexicographic order is a strict total order and
    equal tokens ↔ equal keys. -/
theorem C09_ordered :
    (∀ a, Token.lexLt a a = false) ∧
    (∀ a b c, Token.lexLt a b = true → Token.lexLt b c = true → Token.lexLt a c = true) ∧
    (∀ a b, Token.lexLt a b = true ∨ a = b ∨ Token.lexLt b a = true) ∧
    (∀ a b, a = b ↔ (Token.lexLt a b = false ∧ Token.lexLt b a = false)) := by
  -- all four are facts of core's order on lists (`Token.lexLt_iff_lt`)
  have heq : ∀ a b : List UInt8, a = b ↔ (Token.lexLt a b = false ∧ Token.lexLt b a = false) := fun a b => by
    rw [Token.lexLt_eq_false, Token.lexLt_eq_false]
    exact ⟨fun h => h ▸ ⟨List.le_refl a, List.le_refl a⟩, fun h => List.le_antisymm h.2 h.1⟩
  refine ⟨fun a => Token.lexLt_eq_false.mpr (List.le_refl a),
    fun a b c => by simp only [Token.lexLt_iff_lt]; exact List.lt_trans, fun a b => ?_, heq⟩
  cases h : Token.lexLt a b with
  | true => exact .inl rfl
  | false =>
    cases h' : Token.lexLt b a with
    | true => exact .inr (.inr rfl)
    | false => exact .inr (.inl ((heq a b).mpr ⟨h, h'⟩))

/-- unsigned comparison: 0x80 sorts after 0x7f (a signed-byte comparison would get this wrong) -/
example : Token.lexLt [0x7f] [0x80] = true ∧ Token.lexLt [0x01] [0x01, 0x00] = true := by decide

/-- The composite routing key determines its components (each below 65536 bytes). -/
theorem C09_routing_composite_injective (as bs : List (List UInt8))
    (ha : ∀ c ∈ as, c.length < 65536) (hb : ∀ c ∈ bs, c.length < 65536)
    (h : Token.composite as = Token.composite bs) : as = bs := by
  have h1 := Token.decode_composite as _ ha (Nat.le_refl _)
  rw [h, Token.decode_composite bs _ hb (Nat.le_refl _)] at h1
  exact (Option.some.inj h1).symm

theorem C09_routing_single (c : List UInt8) : Token.routingKey [c] = c := rfl

example : Token.routingKey [[1], [2, 3]] = [0, 1, 1, 0, 0, 2, 2, 3, 0] := by decide

/-- **The routing key is DEFINED, with exactly Cassandra's framing, for every component list whose components have at
    most 65535 bytes** (the whole range of the unsigned [short] length - 32768 … 65535 included; any number of
    components; one component ↦ the value itself, of any length): what `createRoutingKey` builds is
    `Spec.routingKey` = per component the length as an unsigned 16-bit big-endian number, the bytes, a 0 byte.
    `Token.routingKey` is a total function: there is no outcome "error" or "no key" for encodable components
    (ops rksz; the outcome kind is part of the answer). -/
theorem C09_routing_key_framing (cs : List (List UInt8)) (h : ∀ c ∈ cs, c.length ≤ 65535) :
    Token.routingKey cs = Token.Spec.routingKey cs := by
  unfold Token.routingKey Token.Spec.routingKey
  split
  · rfl
  · exact Token.composite_eq_frame cs h

/-- the recorded limitation above 65535 bytes (a table cannot hold such a key: Cassandra refuses it): the length field
    is the length modulo 65536 (op rkszx: model-vs-code) -/
theorem C09_routing_length_wraps_above_65535 (c : List UInt8) (cs : List (List UInt8)) :
    Token.composite (c :: cs) = Token.be16 (c.length % 65536) ++ c ++ [0] ++ Token.composite cs := rfl

example : Token.Spec.routingKey [[1], [2, 3]] = [0, 1, 1, 0, 0, 2, 2, 3, 0] ∧ Token.Spec.routingKey [[7, 7]] = [7, 7] := by decide
/-- a component of 32768 bytes: the length bytes are 80 00 (unsigned), not an error and not a negative number -/
example : (Token.Spec.routingKey [List.replicate 32768 1, []]).take 3 = [0x80, 0x00, 1] := by
  -- the length by `length_replicate` (evaluating it walks the 32768 bytes); only three bytes are then looked at
  simp only [Token.Spec.routingKey, Token.Spec.frame, List.length_replicate]
  decide

/-- the token string of every int64 parses to that number (ops parsem, lessm on valid strings) -/
theorem C09_parse_roundtrip (i : Int) (hlo : Token.int64Min ≤ i) (hhi : i ≤ Token.int64Max) :
    Token.parseInt64 (Token.printInt i) = i := by
  have hmax : Token.int64Max = 9223372036854775807 := rfl
  have hmin : Token.int64Min = -9223372036854775808 := rfl
  simp only [Token.parseInt64, Token.splitSign_printInt, Token.parseNat_natDigits, decide_eq_true_eq]
  -- by the sign of `i`, then by the range test, which never clamps an in-range number
  split <;> split <;> omega

/-- Token strings: decimal strings of in-range numbers parse to the number, so order is preserved. -/
theorem C09_parse_order (i j : Int)
    (hi : Token.int64Min ≤ i ∧ i ≤ Token.int64Max) (hj : Token.int64Min ≤ j ∧ j ≤ Token.int64Max) :
    (Token.parseInt64 (Token.printInt i) < Token.parseInt64 (Token.printInt j)) ↔ i < j := by
  rw [C09_parse_roundtrip i hi.1 hi.2, C09_parse_roundtrip j hj.1 hj.2]

theorem C09_parse_nat (n : Nat) : Token.parseNat (Token.natDigits n) = some n := Token.parseNat_natDigits n

/-- RandomPartitioner token strings (`big.Int.SetString(s, 10)`): the decimal string of EVERY integer - no size bound:
    Cassandra's range 0 … 2^127, the minimum token -1, anything beyond a machine word - parses to that integer, so
    `Less` (`big.Int.Cmp`) on parsed tokens is `<` on the denoted numbers (ops parser, lessr) -/
theorem C09_parse_big (i j : Int) :
    Token.parseBig (Token.printInt i) = some i ∧
    (∀ x y, Token.parseBig (Token.printInt i) = some x → Token.parseBig (Token.printInt j) = some y → (x < y ↔ i < j)) := by
  refine ⟨Token.parseBig_printInt i, ?_⟩
  intro x y hx hy
  rw [Token.parseBig_printInt] at hx hy
  cases hx; cases hy; exact Iff.rfl

example : Token.parseBig (Token.printInt (-1)) = some (-1) ∧
    Token.parseBig ['1','7','0','1','4','1','1','8','3','4','6','0','4','6','9','2','3','1','7','3','1','6','8','7','3','0','3','7','1','5','8','8','4','1','0','5','7','2','8']
      = some (2^127) := by decide

/-- **Which partitioner.** For EVERY package prefix, the class names Cassandra reports select the partitioner whose
    hash / order the theorems above are about: `…Murmur3Partitioner` ↦ Murmur3, `…RandomPartitioner` ↦ Random,
    `…ByteOrderedPartitioner` ↦ the order-preserving (bytewise) one; `…OrderPreservingPartitioner` (tokens are strings
    under a collation, not bytes) is refused (op part; newTokenRing then reports "unsupported partitioner" and the
    driver routes without tokens). -/
theorem C09_partitioner_selection (pkg : List Char) :
    Token.selectPartitioner (pkg ++ Token.nameMurmur3) = some .murmur3 ∧
    Token.selectPartitioner (pkg ++ Token.nameRandom) = some .random ∧
    Token.selectPartitioner (pkg ++ 'B' :: 'y' :: 't' :: 'e' :: Token.nameOrdered) = some .ordered ∧
    Token.selectPartitioner (pkg ++ ['O','r','d','e','r','P','r','e','s','e','r','v','i','n','g','P','a','r','t','i','t','i','o','n','e','r']) = none :=
  ⟨(Token.selectPartitioner_append pkg _ (by decide)).trans (by decide),
    (Token.selectPartitioner_append pkg _ (by decide)).trans (by decide),
    (Token.selectPartitioner_append pkg _ (by decide)).trans (by decide),
    (Token.selectPartitioner_append pkg _ (by decide)).trans (by decide)⟩

example : Token.selectPartitioner ['R','a','n','d','o','m','P','a','r','t','i','t','i','o','n','e','r'] = some .random ∧
    Token.selectPartitioner ['r','a','n','d','o','m','P','a','r','t','i','t','i','o','n','e','r'] = none := by decide


/-! ## routing key from the metadata of the prepared statement (session.go routingKeyInfo + createRoutingKey) -/

section RoutingFromMetadata
open Routing
variable {τ ν : Type}

/-- **Routing key from the prepared metadata (protocol ≥ 4 branch).** For EVERY statement shape — any number of
    bind markers, the partition-key markers `m.pkeys` anywhere among them and in any order (first, last, interleaved,
    permuted), any column types — whenever the value bound to each key marker encodes (with the type of THAT marker's
    column) to a byte string, `GetRoutingKey` is the raw value (one key column) or the CompositeType framing (several)
    of exactly those encodings in partition-key order. `enc` is gocql.Marshal (C02/C12). -/
theorem C09_routing_from_metadata (enc : τ → ν → Enc) (m : Meta τ) (schema : Option (List String))
    (vals : List ν) (cs : List Bytes)
    (hpk : m.pkeys ≠ []) (h : Spec.components enc m.cols vals m.pkeys = some cs) :
    getRoutingKey enc m schema vals = .key (some (Token.routingKey cs)) := by
  rw [RoutingNames.components_ofCol] at h
  obtain ⟨ts, hts, henc⟩ := RoutingNames.encodes_of_components enc _ vals m.pkeys cs h
  have hne : m.cols.isEmpty = false := by simpa using RoutingNames.isEmpty_of_typesAt hts hpk
  simp only [getRoutingKey, routingKeyInfo, hne, List.isEmpty_eq_false_iff.mpr hpk, RoutingNames.typesAt_ofCol, hts,
    Bool.not_false, Bool.false_eq_true, if_false, if_true]
  exact createRoutingKey_of_encodes henc _ _

/-- …so through `Query.GetRoutingKey` / `Batch.GetRoutingKey` the outcome is A KEY - the specification's framing - whenever
    every key component encodes to at most 65535 bytes -/
theorem C09_routing_defined_upto_65535 (enc : τ → ν → Enc) (m : Meta τ) (schema : Option (List String))
    (vals : List ν) (cs : List Bytes)
    (hpk : m.pkeys ≠ []) (h : Spec.components enc m.cols vals m.pkeys = some cs) (hlen : ∀ c ∈ cs, c.length ≤ 65535) :
    getRoutingKey enc m schema vals = .key (some (Token.Spec.routingKey cs)) := by
  rw [C09_routing_from_metadata enc m schema vals cs hpk h, C09_routing_key_framing cs hlen]

/-- **The same when the key columns come from the schema metadata** (protocol ≤ 3, or no pk indexes in the PREPARE
    answer): each key column is the FIRST bind marker whose column has that name. -/
theorem C09_routing_from_schema (enc : τ → ν → Enc) (m : Meta τ) (names : List String)
    (vals : List ν) (cs : List Bytes)
    (hpk : m.pkeys = []) (hne : m.cols ≠ [])
    (h : Spec.componentsByName enc m.cols vals names = some cs) :
    getRoutingKey enc m (some names) vals = .key (some (Token.routingKey cs)) := by
  rw [RoutingNames.componentsByName_eq] at h
  obtain ⟨is, hres, hcomp⟩ := Option.bind_eq_some_iff.mp h
  rw [RoutingNames.components_ofCol] at hcomp
  obtain ⟨ts, hb, henc⟩ := RoutingNames.byName_of_resolve enc (m.cols.map RoutingNames.ofCol) vals
    (by simpa [Function.comp_def] using hres) hcomp
  simp only [getRoutingKey, routingKeyInfo, List.isEmpty_eq_false_iff.mpr hne, hpk, RoutingNames.byName_eq_routing, hb,
    List.isEmpty_nil, Bool.not_true, Bool.false_eq_true, if_false]
  exact createRoutingKey_of_encodes henc _ _


/-- a partition key column that no marker binds: no routing key (and no error) -/
theorem C09_routing_schema_missing (enc : τ → ν → Enc) (m : Meta τ) (names : List String) (vals : List ν)
    (name : String) (hpk : m.pkeys = []) (hmem : name ∈ names) (hmiss : ∀ c ∈ m.cols, c.name ≠ name) :
    getRoutingKey enc m (some names) vals = .nokey := by
  have hb : byName m.cols names = none := by
    rw [RoutingNames.byName_eq_routing, RoutingNames.byName_eq,
      (RoutingNames.resolve_none_iff _ names).mpr ⟨name, hmem, by simpa using hmiss⟩]
    rfl
  simp only [getRoutingKey, routingKeyInfo, hpk, hb, List.isEmpty_nil, Bool.not_true, Bool.false_eq_true, if_false,
    ite_self]

/-- The position of the key markers in the statement is irrelevant: two statements (any marker order / count)
    whose key components are the same values with the same column types have the same routing key. -/
theorem C09_routing_marker_order (enc : τ → ν → Enc) (m₁ m₂ : Meta τ) (s₁ s₂ : Option (List String))
    (v₁ v₂ : List ν) (cs : List Bytes) (h₁ : m₁.pkeys ≠ []) (h₂ : m₂.pkeys ≠ [])
    (c₁ : Spec.components enc m₁.cols v₁ m₁.pkeys = some cs)
    (c₂ : Spec.components enc m₂.cols v₂ m₂.pkeys = some cs) :
    getRoutingKey enc m₁ s₁ v₁ = getRoutingKey enc m₂ s₂ v₂ := by
  rw [C09_routing_from_metadata enc m₁ s₁ v₁ cs h₁ c₁, C09_routing_from_metadata enc m₂ s₂ v₂ cs h₂ c₂]

end RoutingFromMetadata

/-- **The partition key order used by the schema branch**: metadata.go builds `TableMetadata.PartitionKey` from the rows
    of the schema's columns table — whatever order they arrive in (the server sorts them by column name) — so that the
    key column with position `p` is the `p`-th component, given distinct positions. -/
theorem C09_schema_partition_key {α : Type} (pk : List (α × Nat)) (hnd : (pk.map (·.2)).Nodup) :
    (Routing.schemaPartitionKey pk).length = Routing.pkCount pk ∧
    ∀ n p, (n, p) ∈ pk → (Routing.schemaPartitionKey pk)[p]? = some (some n) := by
  refine ⟨by simp [Routing.schemaPartitionKey, Routing.place_length], ?_⟩
  intro n p h
  exact Routing.place_get pk _ hnd (by intro x hx; simpa using Routing.pkCount_gt pk x hx) (n, p) h

example : Routing.schemaPartitionKey [("b", 1), ("z", 2), ("a", 0)] = [some "a", some "b", some "z"] := by decide

/-- non-vacuity / test vector (toy encoder: a value is its own encoding; the column type is a length to pad to):
    `UPDATE t SET v = ? WHERE id = ?` with v "bigint" (8), id "int" (4): the key is the id value as a 4-byte int -/
def toyEnc (w : Nat) (v : List UInt8) : Routing.Enc := .ok (some (List.replicate (w - v.length) 0 ++ v))
example : Routing.getRoutingKey toyEnc ⟨[⟨"v", 8⟩, ⟨"id", 4⟩], [1], "ks", "t"⟩ none [[99], [7]] = .key (some [0, 0, 0, 7]) := by decide
example : Routing.getRoutingKey toyEnc ⟨[⟨"v", 8⟩, ⟨"b", 2⟩, ⟨"a", 4⟩], [2, 1], "ks", "t"⟩ none [[99], [1, 2], [5]]
    = .key (some [0, 4, 0, 0, 0, 5, 0, 0, 2, 1, 2, 0]) := by decide
example : Routing.getRoutingKey toyEnc ⟨[⟨"v", 8⟩, ⟨"id", 4⟩], [], "ks", "t"⟩ (some ["id"]) [[99], [7]] = .key (some [0, 0, 0, 7]) := by decide
example : Routing.getRoutingKey toyEnc ⟨[⟨"v", 8⟩, ⟨"id", 4⟩], [], "ks", "t"⟩ (some ["id", "c"]) [[99], [7]] = .nokey := by decide

/-- REGRESSION (KF-C09-1, repaired by props/C09.fix-KF-C09-1.diff): a statement `… SET v = ? WHERE id = ?` (key marker 1)
    executed with ONE bound value. The unrepaired `createRoutingKey` indexed `values[1]` - a run-time panic in the
    caller's goroutine; now it is the error outcome (replay: `rkm 4 1 q 1 1 0 0 2 | v bigint | id int | 1 1 | i int64 99`
    ↦ err:values). -/
theorem C09_short_values_regression :
    Routing.getRoutingKey toyEnc ⟨[⟨"v", 8⟩, ⟨"id", 4⟩], [1], "ks", "t"⟩ none [[99]] = .errValues := by decide

section RoutingTotal
open Routing
variable {τ ν : Type}

/-- **Fewer bound values than key markers: an error, on both paths.** Whatever produced the routing info (the pk indexes
    of the PREPARE answer or the schema metadata): if some partition-key marker has no bound value, `GetRoutingKey`
    answers the error outcome - before marshalling anything, whatever the other values are. -/
theorem C09_routing_short_values (enc : τ → ν → Enc) (m : Meta τ) (schema : Option (List String)) (vals : List ν)
    (info : Info τ) (hinfo : routingKeyInfo m schema = .info info) (i : Nat) (hi : i ∈ info.indexes)
    (hshort : vals.length ≤ i) : getRoutingKey enc m schema vals = .errValues := by
  simp only [getRoutingKey, hinfo]
  exact createRoutingKey_short enc info vals i hi hshort

/-- **`GetRoutingKey` is total (no index panic), for EVERY statement shape and EVERY list of bound values** - shorter,
    longer or of the right length: unless Marshal itself panics or the PREPARE answer is malformed (a partition-key
    index that is no marker), the outcome is a key, no key, or an error. -/
theorem C09_routing_total (enc : τ → ν → Enc) (m : Meta τ) (schema : Option (List String)) (vals : List ν)
    (hen : ∀ t v, enc t v ≠ .crash) (hwf : routingKeyInfo m schema ≠ .crash) :
    getRoutingKey enc m schema vals ≠ .crash := by
  unfold getRoutingKey
  cases hr : routingKeyInfo m schema with
  | none => simp
  | errMeta => simp
  | crash => exact absurd hr hwf
  | info info =>
    simp only
    apply createRoutingKey_no_crash enc info vals hen
    exact Nat.le_of_eq (RoutingNames.typesAt_length _ _ _ (RoutingNames.rkm_info_typesAt hr)).symm

example : Routing.getRoutingKey toyEnc ⟨[⟨"v", 8⟩, ⟨"id", 4⟩], [], "ks", "t"⟩ (some ["id"]) [[99]] = .errValues := by decide

end RoutingTotal


/-! ## name / index resolution between partition-key columns and bind markers (session.go routingKeyInfo, both paths) -/

section NameResolution
open RoutingNames
variable {α τ ν β : Type} [DecidableEq α]

/-- **The resolution is exact.** For ALL lists of partition-key column names and bind-marker names (any alphabet:
    `α` is any type with decidable equality, the driver uses the BYTES of the identifiers, so case variants, quoted
    identifiers, names that are prefixes of each other are simply different names): `resolve` answers `is` iff `is` has
    one index per key column, in partition-key order, the marker at `is[k]` is named exactly `pk[k]`, and no earlier
    marker is (the same column bound twice: the first marker counts). -/
theorem C09_resolve_exact (pk markers : List α) (is : List Nat) :
    resolve pk markers = some is ↔ Spec.Resolves markers pk is := by
  induction pk generalizing is with
  | nil => cases is <;> simp [resolve, Spec.Resolves]
  | cons n ns ih =>
    cases is with
    | nil =>
      simp only [resolve_cons, Spec.Resolves, iff_false]
      cases firstIdx n markers 0 <;> cases resolve ns markers <;> simp
    | cons i is =>
      simp only [resolve_cons, Spec.Resolves, ← firstIdx_iff, ← ih is]
      cases firstIdx n markers 0 <;> cases resolve ns markers <;> simp

/-- the specification, pointwise -/
theorem C09_resolve_pointwise (pk markers : List α) (is : List Nat) (h : resolve pk markers = some is) :
    is.length = pk.length ∧
    ∀ (k : Nat) (n : α) (i : Nat), pk[k]? = some n → is[k]? = some i →
      markers[i]? = some n ∧ ∀ j : Nat, j < i → markers[j]? ≠ some n :=
  (resolves_iff markers pk is).mp ((C09_resolve_exact pk markers is).mp h)

/-- **THE marker.** When no two markers bind the same column (distinct marker names), any index list that names the
    key columns exactly (byte-equal, in key order) IS what `resolve` answers: the marker of a key column is unique. -/
theorem C09_resolve_the_marker (pk markers : List α) (is : List Nat) (hnd : markers.Nodup)
    (hlen : is.length = pk.length)
    (h : ∀ (k : Nat) (n : α) (i : Nat), pk[k]? = some n → is[k]? = some i → markers[i]? = some n) :
    resolve pk markers = some is := by
  refine (C09_resolve_exact pk markers is).mpr ((resolves_iff markers pk is).mpr
    ⟨hlen, fun k n i hn hi => ⟨h k n i hn hi, fun j hj hjn => ?_⟩⟩)
  -- two markers with the name of the key column would be the same marker
  have hi' := h k n i hn hi
  have hlt : i < markers.length := (List.getElem?_eq_some_iff.mp hi').1
  have := (List.getElem?_inj hlt hnd).mp (hi'.trans hjn.symm)
  omega

/-- no resolution iff some key column is not bound by any marker (byte-equal name) -/
theorem C09_resolve_unbound (pk markers : List α) :
    resolve pk markers = none ↔ ∃ n ∈ pk, n ∉ markers := resolve_none_iff markers pk

/-- the loops of the code (index and type found together) compute `resolve` on the names, with the types of the
    resolved markers -/
theorem C09_resolve_is_code (ms : List (Marker α τ)) (pk : List α) :
    (byName ms pk).map (·.1) = resolve pk (ms.map (·.name)) ∧
    ∀ is ts, byName ms pk = some (is, ts) → typesAt ms is = some ts :=
  ⟨byName_fst ms pk, byName_typesAt ms pk⟩

/-- the model of op rkm (names as `String`) is the same function -/
theorem C09_resolve_agrees_rkm (cols : List (Routing.Col τ)) (names : List String) :
    (Routing.byName cols names).map (·.1) = resolve names (cols.map (·.name)) := by
  rw [byName_eq_routing, (C09_resolve_is_code _ names).1]
  simp [Function.comp_def]

/-- Go map lookup (`schemaDescriber.cache[keyspace]`, `keyspaceMetadata.Tables[table]`): the entry with the byte-equal
    key, whatever other keys (case variants …) the map holds -/
theorem C09_lookup_exact (k : α) (l : List (α × β)) (hnd : (l.map (·.1)).Nodup) :
    (∀ v, lookup k l = some v ↔ (k, v) ∈ l) ∧ (lookup k l = none ↔ ∀ p ∈ l, p.1 ≠ k) :=
  ⟨fun v => ⟨lookup_mem k l v, lookup_of_mem k l v hnd⟩, lookup_none k l⟩

-- `hkey` is not used: for an empty partition key both sides are the empty framing
set_option linter.unusedVariables false in
/-- **Routing key by exact names (schema path: protocol ≤ 3, or no pk indexes in the PREPARE answer).** Whatever
    keyspaces the schema cache holds and whatever tables the keyspace has (distinct keys, as in a Go map), when the
    statement's keyspace and table are there (byte-equal names), the table's partition key is `pk` (as compiled from
    the schema rows, `C09_schema_partition_key`), `is` resolves `pk` against the marker names
    (`Spec.Resolves`: exact names, first marker) and the values bound at those markers encode with the types of THOSE
    markers to `cs`, then `GetRoutingKey` is the raw value / the CompositeType framing of `cs` in partition-key order, and its
    Murmur3 token is the one Cassandra computes for that key. -/
theorem C09_routing_exact_name (enc : τ → ν → Routing.Enc) (st : Stmt α τ) (cache : Cache α) (tables : Keyspace α)
    (rows : Table α) (pk : List α) (is : List Nat) (vals : List ν) (cs : List Routing.Bytes)
    (hpk : st.pkeys = []) (hne : st.markers ≠ []) (hkey : pk ≠ [])
    (hc : (cache.map (·.1)).Nodup) (hks : (st.keyspace, tables) ∈ cache)
    (ht : (tables.map (·.1)).Nodup) (htb : (st.table, rows) ∈ tables)
    (hrows : (Routing.schemaPartitionKey rows).mapM id = some pk)
    (hres : Spec.Resolves (st.markers.map (·.name)) pk is)
    (hcomp : Spec.components enc st.markers vals is = some cs) :
    getRoutingKey enc st cache vals = .res (.key (some (Token.routingKey cs))) ∧
    Murmur.murmur3H1 (Token.routingKey cs) = Murmur.Spec.cassandraH1 (Token.routingKey cs) := by
  refine ⟨?_, C09_murmur _⟩
  obtain ⟨ts, hb, henc⟩ := byName_of_resolve enc st.markers vals ((C09_resolve_exact pk _ is).mpr hres) hcomp
  simp only [getRoutingKey, routingKeyInfo, List.isEmpty_eq_false_iff.mpr hne, hpk,
    lookup_of_mem _ cache tables hc hks, lookup_of_mem _ tables rows ht htb, hrows, hb, List.isEmpty_nil,
    Bool.not_true, Bool.false_eq_true, if_false]
  rw [Routing.createRoutingKey_of_encodes henc]

/-- a partition-key column that no marker binds under exactly that name: no routing key and no error — in particular
    a marker whose name differs only in case does NOT bind it -/
theorem C09_routing_exact_name_unbound (enc : τ → ν → Routing.Enc) (st : Stmt α τ) (cache : Cache α)
    (tables : Keyspace α) (rows : Table α) (pk : List α) (vals : List ν) (n : α)
    (hpk : st.pkeys = []) (hne : st.markers ≠ [])
    (hc : (cache.map (·.1)).Nodup) (hks : (st.keyspace, tables) ∈ cache)
    (ht : (tables.map (·.1)).Nodup) (htb : (st.table, rows) ∈ tables)
    (hrows : (Routing.schemaPartitionKey rows).mapM id = some pk)
    (hn : n ∈ pk) (hmiss : ∀ m ∈ st.markers, m.name ≠ n) :
    getRoutingKey enc st cache vals = .res .nokey := by
  have hm : st.markers.isEmpty = false := List.isEmpty_eq_false_iff.mpr hne
  have hb : byName st.markers pk = none := by
    rw [byName_eq, (resolve_none_iff _ pk).mpr ⟨n, hn, by simpa using hmiss⟩]; rfl
  simp only [getRoutingKey, routingKeyInfo, hm, hpk, lookup_of_mem _ cache tables hc hks,
    lookup_of_mem _ tables rows ht htb, hrows, hb, List.isEmpty_nil, Bool.not_true, Bool.false_eq_true, if_false]

/-- the statement's table is not in the keyspace metadata under exactly that name (other spellings may be): ErrNoMetadata -/
theorem C09_routing_table_missing (enc : τ → ν → Routing.Enc) (st : Stmt α τ) (cache : Cache α)
    (tables : Keyspace α) (vals : List ν)
    (hpk : st.pkeys = []) (hne : st.markers ≠ [])
    (hc : (cache.map (·.1)).Nodup) (hks : (st.keyspace, tables) ∈ cache)
    (hmiss : ∀ p ∈ tables, p.1 ≠ st.table) :
    getRoutingKey enc st cache vals = .res .errMeta := by
  have hm : st.markers.isEmpty = false := List.isEmpty_eq_false_iff.mpr hne
  simp only [getRoutingKey, routingKeyInfo, hm, hpk, lookup_of_mem _ cache tables hc hks,
    (lookup_none st.table tables).mpr hmiss, List.isEmpty_nil, Bool.not_true, Bool.false_eq_true, if_false]

/-- **Protocol ≥ 4: the partition-key bind indexes of the PREPARE answer decide**, whatever the marker names and the
    schema cache are: the key is built from the values at exactly those markers (each encoded with the type of ITS
    marker), in the order of the indexes. -/
theorem C09_routing_pk_indexes (enc : τ → ν → Routing.Enc) (st : Stmt α τ) (cache : Cache α) (vals : List ν)
    (cs : List Routing.Bytes) (hpk : st.pkeys ≠ [])
    (hcomp : Spec.components enc st.markers vals st.pkeys = some cs) :
    getRoutingKey enc st cache vals = .res (.key (some (Token.routingKey cs))) ∧
    Murmur.murmur3H1 (Token.routingKey cs) = Murmur.Spec.cassandraH1 (Token.routingKey cs) := by
  refine ⟨?_, C09_murmur _⟩
  obtain ⟨ts, hts, henc⟩ := encodes_of_components enc st.markers vals st.pkeys cs hcomp
  simp only [getRoutingKey, routingKeyInfo, isEmpty_of_typesAt hts hpk, List.isEmpty_eq_false_iff.mpr hpk, hts,
    Bool.not_false, Bool.false_eq_true, if_false, if_true]
  rw [Routing.createRoutingKey_of_encodes henc]

/-- test vectors (names as byte strings; "ID" = 49 44, "id" = 69 64): `UPDATE t SET id = ? WHERE "ID" = ?` binds the
    key column "ID" at marker 1; `… WHERE k = ? AND "K" = ?` with key ("K", k) resolves to markers (1, 0); a key column
    that is only bound under another spelling is not bound; prefixes are different names; the first of two markers counts -/
example : resolve [[0x49, 0x44]] [[0x69, 0x64], [0x49, 0x44]] = some [1] := by decide
example : resolve [[0x4b], [0x6b]] [[0x6b], [0x4b]] = some [1, 0] := by decide
example : resolve [[0x49, 0x44]] [[0x69, 0x64], [0x49, 0x64]] = (none : Option (List Nat)) := by decide
example : resolve ["k1", "k"] ["k10", "k", "k1", "k"] = some [2, 1] := by decide
example : getRoutingKey toyEnc ⟨[⟨"id", 4⟩, ⟨"ID", 4⟩], [], "ks", "t"⟩
    [("KS", [("t", [("id", 0)])]), ("ks", [("T", [("id", 0)]), ("t", [("ID", 0)])])] [[7], [42]]
    = .res (.key (some [0, 0, 0, 42])) := by decide

/-- the specification tells the spellings apart: marker 0 (`id`) does not carry the key column `ID`; a resolver that
    compares names case-insensitively (seeded change C09-7) answers `[0]` here -/
example : ¬ Spec.Resolves ["id", "ID"] ["ID"] [0] := by simp [Spec.Resolves]
example : Spec.Resolves ["id", "ID"] ["ID"] [1] := by
  refine ⟨⟨rfl, ?_⟩, trivial⟩
  intro j hj; have : j = 0 := by omega
  subst this; simp

end NameResolution

/-- `Less` on tokens hashed from keys orders like Cassandra's `Long.compare` of its own hashes -/
theorem C09_murmur_order (a b : List UInt8) :
    ((Murmur.murmur3H1 a).toInt < (Murmur.murmur3H1 b).toInt) ↔
    ((Murmur.Spec.cassandraH1 a).toInt < (Murmur.Spec.cassandraH1 b).toInt) := by
  rw [C09_murmur a, C09_murmur b]

/-- RandomPartitioner token strings: decimal strings of naturals order like the naturals -/
theorem C09_parse_order_nat (m n : Nat) :
    (∃ x y, Token.parseNat (Token.natDigits m) = some x ∧ Token.parseNat (Token.natDigits n) = some y ∧ (x < y ↔ m < n)) :=
  ⟨m, n, Token.parseNat_natDigits m, Token.parseNat_natDigits n, Iff.rfl⟩

/-- The token ring order (`newTokenRing`: `sort.Sort` by `token.Less`) is THE ascending arrangement of the tokens:
    sorted by the order of the integers (Murmur3: signed 64-bit; Random: naturals) resp. unsigned bytewise
    lexicographic (ordered partitioner), and a permutation of the input. -/
theorem C09_ring_sorted :
    (∀ l : List Int, (Routing.ringSortInt l).Pairwise (· ≤ ·) ∧ (Routing.ringSortInt l).Perm l) ∧
    (∀ l : List Nat, (Routing.ringSortNat l).Pairwise (· ≤ ·) ∧ (Routing.ringSortNat l).Perm l) ∧
    (∀ l : List (List UInt8), (Routing.ringSortLex l).Pairwise (fun a b => Token.lexLt b a = false) ∧
      (Routing.ringSortLex l).Perm l) :=
  ⟨Routing.mergeSort_sorted (by simp [Routing.intLe]) (fun _ _ _ => Int.le_trans) Int.le_total,
    Routing.mergeSort_sorted (by simp [Routing.natLe]) (fun _ _ _ => Nat.le_trans) Nat.le_total,
    -- `lexLt b a = false` is `a ≤ b` in core's order on lists
    Routing.mergeSort_sorted (by simp [Routing.lexLe])
      (fun _ _ _ h1 h2 => Token.lexLt_eq_false.mpr (List.le_trans (Token.lexLt_eq_false.mp h1) (Token.lexLt_eq_false.mp h2)))
      (fun a b => by simpa only [Token.lexLt_eq_false] using List.le_total a b)⟩

/-- full-range order: −2⁶³ sorts before 2⁶³−1, 2⁶³−1 not before −1 (a comparison by subtraction gets both wrong);
    an already ascending full-range ring is left as it is -/
example : Routing.intLe (-9223372036854775808) 9223372036854775807 = true ∧ Routing.intLe 9223372036854775807 (-1) = false := by decide
example : Routing.ringSortInt [-9223372036854775808, -1, 0, 4611686018427387904, 9223372036854775807]
    = [-9223372036854775808, -1, 0, 4611686018427387904, 9223372036854775807] :=
  List.mergeSort_of_pairwise (by decide)

/-- test vectors: the repo's own vector for "hello", and the empty key -/
example : (Murmur.murmur3H1 [0x68, 0x65, 0x6c, 0x6c, 0x6f]).toInt = -3758069500696749310 := by decide
example : (Murmur.murmur3H1 []).toInt = 0 := by decide

/-! ## the token is a function of the key's BYTES only (the key as it lies in memory: `Murmur.Placed`)

`Murmur.Placed.murmur3H1` is the model of `Murmur3H1` + `getBlock` on a Go slice = (backing memory, offset = address of
the first byte, length, capacity): the block loop loads 16 bytes at the ADDRESS of `data[n*16]` (the unsafe
`*[2]int64` load of murmur_unsafe.go, no bounds check of its own), the tail indexes by address. The theorems hold for
every backing memory, every offset (alignment 0..15 and beyond), every spare capacity and whatever bytes lie before
and behind the key. -/

/-- **Murmur3 of a key anywhere in memory = Cassandra's hash of the key's bytes.** -/
theorem C09_murmur_placed (s : Murmur.Placed.Slice) (h : s.wf) :
    Murmur.Placed.murmur3H1 s = Murmur.Spec.cassandraH1 s.view := by
  rw [Murmur.Placed.murmur3H1_eq_view s h, C09_murmur]

/-- **The hash depends on the bytes only**: two slices — different buffers, different offsets / alignments, different
    capacities, different neighbouring bytes — that denote the same byte string hash to the same token. -/
theorem C09_hash_depends_on_bytes_only (s t : Murmur.Placed.Slice) (hs : s.wf) (ht : t.wf) (h : s.view = t.view) :
    Murmur.Placed.murmur3H1 s = Murmur.Placed.murmur3H1 t := by
  rw [Murmur.Placed.murmur3H1_eq_view s hs, Murmur.Placed.murmur3H1_eq_view t ht, h]

/-- the same said with the buffer spelled out: `key` placed behind ANY prefix (so at any address offset) and before any
    suffix, with any spare capacity, hashes to Cassandra's token of `key` -/
theorem C09_murmur_any_offset (pre key post : List UInt8) (spare : Nat) :
    Murmur.Placed.murmur3H1 (Murmur.Placed.place pre key post spare) = Murmur.Spec.cassandraH1 key := by
  rw [C09_murmur_placed _ (Murmur.Placed.place_wf pre key post spare), Murmur.Placed.place_view]

/-- `getBlock` is an UNCHECKED 16-byte load; every address it reads for a block `n < len/16` of the loop lies inside
    the key (never in the bytes before it, the spare capacity or beyond) -/
theorem C09_getBlock_in_window (s : Murmur.Placed.Slice) (n : Nat) (h : n < s.len / 16) :
    ∀ a ∈ Murmur.Placed.getBlockReads s n, s.off ≤ a ∧ a < s.off + s.len := by
  intro a ha
  simp only [Murmur.Placed.getBlockReads, List.mem_map, List.mem_range] at ha
  obtain ⟨j, hj, rfl⟩ := ha
  omega

/-- and what it loads there are the two little-endian words of block `n` of the key's bytes -/
theorem C09_getBlock_words (s : Murmur.Placed.Slice) (n : Nat) (h : n*16 + 16 ≤ s.len) :
    Murmur.Placed.getBlock s n =
      (Murmur.le64 ((s.view.drop (n*16)).take 8), Murmur.le64 ((s.view.drop (n*16 + 8)).take 8)) := by
  rw [Murmur.Placed.getBlock_in_view s n h, Murmur.take8_take16, Murmur.drop8_take16, List.drop_drop]

/-- **The token of a statement's routing key** (op `rktok`): blob components lying anywhere in memory; with ONE key
    column the routing key IS the caller's slice (hashed where it lies), with several a fresh buffer — in both cases the
    token the policy computes is Cassandra's hash of the CompositeType framing of the components' bytes. -/
theorem C09_routing_token_placed (cs : List Murmur.Placed.Slice) (h : ∀ c ∈ cs, c.wf) :
    Murmur.Placed.routingToken cs = Murmur.Spec.cassandraH1 (Token.routingKey (cs.map Murmur.Placed.Slice.view)) := by
  unfold Murmur.Placed.routingToken
  rw [C09_murmur_placed _ (Murmur.Placed.routingKey_wf cs h), Murmur.Placed.routingKey_view]

/-- non-vacuity: a 2-byte key at offset 1 of a 4-byte buffer, one byte of spare capacity -/
example : (Murmur.Placed.place [9] [2, 3] [4] 1).wf ∧ (Murmur.Placed.place [9] [2, 3] [4] 1).view = [2, 3] ∧
    (Murmur.Placed.place [9] [2, 3] [4] 1).off = 1 :=
  ⟨Murmur.Placed.place_wf _ _ _ _, Murmur.Placed.place_view _ _ _ _, rfl⟩

/-- test vector: "hello" at offset 3 between foreign bytes -/
example : (Murmur.Placed.murmur3H1 (Murmur.Placed.place [0xff, 0xff, 0xff] [0x68, 0x65, 0x6c, 0x6c, 0x6f] [0xff, 0xff] 1)).toInt
    = -3758069500696749310 := by decide

/-! ## the routing-key info cache (session.go `routingKeyInfoCache`, an LRU keyed by the statement text) over a HISTORY
of one session: any number of statements, uses through Query / Batch (explicit keys, binding callbacks, empty batches),
the connection going away and coming back, `Max(n)`, tables dropped and re-created with another partition key. -/

section cache
open RoutingCache
variable {τ ν : Type}

def cacheExec (enc : τ → ν → Routing.Enc) (s : State τ) (steps : List (Step τ ν)) : State τ :=
  steps.foldl (fun s st => (step enc s st).2) s

/-- FULL STATEMENT (not provable for the unchanged code — KF-C09-3, counterexample below): for EVERY history every answer
    is acceptable: THE routing key computed from what the server's PREPARE answer and the schema say at that moment
    (which C09_routing_from_metadata / C09_routing_from_schema equate with the framing of the values at the
    partition-key markers), whatever the cache holds — or, only while no connection is available, the
    "no connection available" error (`Spec.accepts`; C09_cache_answer_when_up: with a connection it is the key).
    PROVED (code repaired by props/C09.fix-KF-C09-2.diff) for every history whose steps are all SAFE (`RoutingCache.safe`,
    decided along the run): no change of a statement's key while the cache holds the statement (KF-C09-3, open). Any
    number of statements, any cache size (evictions included), any interleaving of hits, misses, hosts going down and
    coming back, ErrNoMetadata outcomes, unbound key columns, `Max(n)`, explicit keys and binding callbacks. -/
theorem C09_cache_transparent_partial (enc : τ → ν → Routing.Enc) (s : State τ) (steps : List (Step τ ν))
    (hc : Coherent s) (hs : safe enc s steps = true) :
    Spec.acceptsRun enc s.stmts s.up steps (run enc s steps) = true := by
  induction steps generalizing s with
  | nil => rfl
  | cons st rest ih =>
    simp only [safe, Bool.and_eq_true] at hs
    obtain ⟨ho, hc'⟩ := step_accepts enc s st hc hs.1
    simp only [run, Spec.acceptsRun, Bool.and_eq_true]
    refine ⟨ho, ?_⟩
    have := ih _ hc' hs.2
    rwa [step_stmts, step_up] at this

/-- …in particular from a new session (empty cache), for every cache size -/
theorem C09_cache_transparent_new_session_partial (enc : τ → ν → Routing.Enc) (stmts : List (Stmt τ)) (max : Nat)
    (steps : List (Step τ ν)) (hs : safe enc ⟨stmts, true, max, []⟩ steps = true) :
    Spec.acceptsRun enc stmts true steps (run enc ⟨stmts, true, max, []⟩ steps) = true :=
  C09_cache_transparent_partial enc _ steps (by intro p hp; cases hp) hs

/-- with a connection the acceptable answer is THE specification's answer (no cache) -/
theorem C09_cache_answer_when_up (enc : τ → ν → Routing.Enc) (stmts : List (Stmt τ)) (st : Step τ ν) (o : Option Out)
    (h : Spec.accepts enc stmts true st o = true) : o = Spec.stepOut enc stmts st := by
  simpa [Spec.accepts] using h

/-- **KF-C09-2 repaired, for every state**: a first use of a statement while no connection is available answers the
    error and caches NOTHING for the statement (every entry of the cache afterwards was there before) -/
theorem C09_cache_noconn_not_cached (enc : τ → ν → Routing.Enc) (s : State τ) (k : Nat) (vals : List ν) (st0 : Stmt τ)
    (hup : s.up = false) (hl : lookup k s.lru = none) (hst : s.stmts[k]? = some st0) :
    (step enc s (.use k vals)).1 = some .errNoConn ∧ (∀ p ∈ (step enc s (.use k vals)).2.lru, p ∈ s.lru) := by
  obtain ⟨l', hsub, -, heq⟩ := routingKeyInfoC_miss hl hst
  simp only [step, heq, hup, Bool.not_false, if_true, keyOut]
  exact ⟨trivial, fun p hp => hsub hp⟩

/-- What the key of `C09_cache_answer_when_up` IS, step by step: from any coherent state (e.g. any state reached by a safe history), a safe use
    (info cached or a connection at hand)
    of a statement whose PREPARE answer carries partition-key indexes answers the CompositeType framing (the raw value
    for one key column) of the encodings of the values AT the key markers, in partition-key order — whether the info
    came from the cache (hit), was just computed (miss), or an older statement had to be evicted for it. -/
theorem C09_cache_use_from_metadata (enc : τ → ν → Routing.Enc) (s : State τ) (k : Nat) (vals : List ν)
    (st : Stmt τ) (cs : List Routing.Bytes) (hc : Coherent s)
    (hs : safeStep s (.use k vals : Step τ ν) = true) (hcn : connected s (.use k vals : Step τ ν) = true)
    (hst : s.stmts[k]? = some st) (hpk : st.md.pkeys ≠ [])
    (h : Routing.Spec.components enc st.md.cols vals st.md.pkeys = some cs) :
    (step enc s (.use k vals)).1 = some (.res (.key (some (Token.routingKey cs)))) ∧
    Coherent (step enc s (.use k vals)).2 := by
  obtain ⟨ho, hc'⟩ := step_safe enc s (.use k vals) hc hs
  refine ⟨?_, hc'⟩
  rw [ho, if_pos hcn]
  simp only [Spec.stepOut, hst]
  rw [C09_routing_from_metadata enc st.md st.schema vals cs hpk h]

/-- EVERY history (safe or not) keeps the cache within `MaxEntries` (`MaxRoutingKeyInfo`; 0 = no limit) -/
theorem C09_cache_bounded (enc : τ → ν → Routing.Enc) (steps : List (Step τ ν)) :
    ∀ s : State τ, (s.max ≠ 0 → s.lru.length ≤ s.max) →
      (cacheExec enc s steps).max ≠ 0 → (cacheExec enc s steps).lru.length ≤ (cacheExec enc s steps).max :=
  foldl_inv (fun s => s.max ≠ 0 → s.lru.length ≤ s.max) _ (fun s st => step_bounded enc s st) steps

/-- an explicit routing key wins and a binding callback / an empty batch gives no key, whatever the cache holds -/
theorem C09_routing_front (enc : τ → ν → Routing.Enc) (s : State τ) (key : Routing.Bytes) (k : Nat) (vals : List ν) :
    step enc s (.useExplicit key k vals) = (some (.res (.key (some key))), s) ∧
    step enc s (.useBinding k : Step τ ν) = (some (.res .nokey), s) ∧
    step enc s (.batchEmpty : Step τ ν) = (some (.res .nokey), s) := ⟨rfl, rfl, rfl⟩

/-- the toy statement `… SET a = ? WHERE b = ?` of table t0 with key marker `i` -/
def toyStmt (i : Nat) : Stmt Nat := ⟨⟨[⟨"a", 2⟩, ⟨"b", 2⟩], [i], "ks", "t0"⟩, none⟩

/-- non-vacuity: a safe history with a hit, a second statement, an eviction (cache of ONE entry) and a re-computation -/
example : safe toyEnc ⟨[toyStmt 0, toyStmt 1], true, 1, []⟩
      [.use 0 [[1], [2]], .use 0 [[3], [4]], .use 1 [[5], [6]], .use 0 [[7], [8]]] = true ∧
    run toyEnc ⟨[toyStmt 0, toyStmt 1], true, 1, []⟩
      [.use 0 [[1], [2]], .use 0 [[3], [4]], .use 1 [[5], [6]], .use 0 [[7], [8]]]
      = [some (.res (.key (some [0, 1]))), some (.res (.key (some [0, 3]))), some (.res (.key (some [0, 6]))),
         some (.res (.key (some [0, 7])))] := by decide

/-- COUNTEREXAMPLE (KF-C09-3, stale routing info): the statement is used (key marker 0), its table is dropped and
    re-created with the OTHER column as partition key (the server now names key marker 1), the statement is used again:
    the key is still built from marker 0. Replayed on the real code by the rkcx op of props/C09.findings.json. -/
theorem C09_cex_cache_stale :
    run toyEnc ⟨[toyStmt 0], true, 0, []⟩ [.use 0 [[1], [2]], .change 0 (toyStmt 1), .use 0 [[1], [2]]]
      = [some (.res (.key (some [0, 1]))), none, some (.res (.key (some [0, 1])))] ∧
    Spec.run toyEnc [toyStmt 0] [.use 0 [[1], [2]], .change 0 (toyStmt 1), .use 0 [[1], [2]]]
      = [some (.res (.key (some [0, 1]))), none, some (.res (.key (some [0, 2])))] := by decide

/-- KF-C09-2 repaired, test vector: a first use while the host is down fails, the host comes back, the next use is routed -/
example :
    run toyEnc ⟨[toyStmt 0], true, 0, []⟩ [.down, .use 0 [[1], [2]], .up, .use 0 [[1], [2]], .use 0 [[3], [4]]]
      = [none, some .errNoConn, none, some (.res (.key (some [0, 1]))), some (.res (.key (some [0, 3])))] ∧
    safe toyEnc ⟨[toyStmt 0], true, 0, []⟩ [.down, .use 0 [[1], [2]], .up, .use 0 [[1], [2]], .use 0 [[3], [4]]] = true := by
  decide

end cache

/-! ### concurrent first uses of one statement (the inflight wait), conducted schedules -/
section conc
open RoutingCache.Conc

/-- **Concurrent first uses.** For EVERY schedule of events on one statement - any number of goroutines asking for the
    routing key, in any interleaving with the arrival of the server's answer to PREPARE and with PREPARE failures - the
    owner / waiter machinery of the inflight cache entry answers exactly what the specification without a cache answers:
    every goroutine gets the key of ITS OWN bound values computed from the statement's metadata as soon as the
    statement is prepared (the owner and all waiters at that moment, later ones at once), and exactly the goroutines in
    flight when a PREPARE fails get that failure - the failure is not kept. (op rkq; statements with a malformed PREPARE
    answer - an index panic - are excluded as in C09_cache_transparent_partial.) -/
theorem C09_cache_concurrent_first_use (enc : τ → ν → Routing.Enc) (st : RoutingCache.Stmt τ)
    (hcr : RoutingCache.crashes st = false) (evs : List (Ev ν)) :
    run enc st (false, .idle) evs = Spec.run enc st (false, []) evs :=
  run_spec enc st hcr evs _ _ ⟨rfl, rfl⟩

/-- non-vacuity: two goroutines wait (g1 owner, g2 waiter), the answer arrives: each gets the key of its own values; g3
    then hits the cache; and a failed PREPARE reaches owner and waiter, the next use starts afresh -/
example : run toyEnc (toyStmt 0) (false, .idle) [.go 1 [[1], [2]], .go 2 [[3], [4]], .ansOk, .go 3 [[5], [6]]]
    = [[], [], [(1, .res (.key (some [0, 1]))), (2, .res (.key (some [0, 3])))], [(3, .res (.key (some [0, 5])))]] := by decide
example : run toyEnc (toyStmt 0) (false, .idle) [.go 1 [[1], [2]], .go 2 [[3], [4]], .ansFail, .go 3 [[5], [6]], .ansOk]
    = [[], [], [(1, .errPrepare), (2, .errPrepare)], [], [(3, .res (.key (some [0, 5])))]] := by decide

end conc


end C09
