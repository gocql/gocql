import Model.Pool
import Proofs.Common
/-! The host pool (`Pool.St` of `Model/Pool.lean`): its invariant `C17.Inv` (the properties' namespace), kept by every step,
    and `size_const`. -/
namespace C17
open Pool

structure Inv (s : St) : Prop where
  bound : s.conns + s.pending ≤ s.size
  idle : s.filling = false → s.pending = 0
  opened : s.opened = s.conns
  closedEmpty : s.closed = true → s.conns = 0

theorem inv_init (n : Nat) : Inv (init n) := by constructor <;> simp [init]

theorem inv_step (s s' : St) (a : Act) (h : Inv s) (hs : step s a = some s') : Inv s' := by
  obtain ⟨h1, h2, h3, h4⟩ := h
  -- per enabled branch the four fields are linear arithmetic over the guard: `fillStart` sets `pending` to what is missing,
  -- a dial that ends takes one from `pending` (and adds a connection unless the pool is closed), `connError` takes one
  -- connection and its socket, `close` empties the pool
  revert hs; fun_cases step s a <;> intro hs <;> cases hs <;> constructor <;> simp_all <;> omega

theorem isRun : IsRun step run := ⟨fun _ => rfl, fun s a as => by rw [run]; cases step s a <;> rfl⟩

theorem inv_run : ∀ (as : List Act) (s s' : St), Inv s → run s as = some s' → Inv s' :=
  fun _ _ _ => isRun.inv inv_step

theorem size_const (as : List Act) (s s' : St) (hr : run s as = some s') : s'.size = s.size :=
  isRun.inv (P := fun t => t.size = s.size) (fun t t' a ht hs => by
    rw [← ht]
    revert hs; fun_cases step t a <;> intro hs <;> cases hs <;> rfl) rfl hr

end C17
