import Proofs.C16ViewAgree
import Proofs.C16ViewUpdate
/-! histories of everything that updates a session's view (`VOp`, `applyV`, `runV`): a property kept by the elementary steps
(counting a refresh request, the effect of a status event, `connected`, a refresh, `removeHost`, an initial host, an address
update) is kept by every op (`applyV_preserves`), so `Agree` holds along every history; the session's ring is a history of the ring
machine `HOp` (`applyV_sim`, `runV_sim`) -/
namespace C16
open Ring ClusterView

inductive VOp
  | batch (b : List Ev)            -- handleNodeEvent(frames)
  | up (a : Nat)                   -- handleNodeUp
  | down (a : Nat)                 -- handleNodeDown
  | connected (id : Nat)           -- handleNodeConnected(pool.host): a connect of the pool of host id succeeded
  | connectFailed (id : Nat)       -- fillingStopped(err): the first connect of the pool of host id failed
  | refresh (reported : List RHost) -- refreshRing, GetHosts having returned these hosts
  | removeHost (id : Nat)          -- Session.removeHost of the ring's host
  | addInitial (h : RHost)         -- Session.init's treatment of an initial host
  | update (id a c : Nat)          -- ring.addOrUpdate (controlConn.setupConn) finding host id `id` stored, HostInfo.update
                                   -- leaving the stored object with node address a, connectAddress field c (ANY values)

def applyV (env : Env) (v : View) : VOp → View
  | .batch b => v.handleBatch env b
  | .up a => v.nodeUp env a
  | .down a => v.nodeDown env a
  | .connected id => v.connected env id
  | .connectFailed id => v.connectFailed env id
  | .refresh rep => v.refresh env rep
  | .removeHost id => match v.ring.getHost id with | some h => v.removeHost env h | none => v
  | .addInitial h => v.addInitial env h
  | .update id a c => v.updateStored id a c

def runV (env : Env) (v : View) (ops : List VOp) : View := ops.foldl (applyV env) v

/-- `handleNodeEvent` first counts the refresh request of the batch's topology events (view `v1`), then dispatches -/
theorem dispatch_eq (env : Env) (v : View) (topo : Bool) :
    ∃ v1, v1.ring = v.ring ∧ v1.crashed = v.crashed ∧
      v1.refreshReq = v.refreshReq + (if (topo && !env.noTopo) = true then 1 else 0) ∧
      ∀ evs, v.dispatch env topo evs = if env.noStatus = true then v1 else evs.foldl (View.status env) v1 :=
  ⟨_, by split <;> rfl, by split <;> rfl, by split <;> rfl, fun _ => rfl⟩

/-- status events for distinct addresses whose hosts share no connect address are dispatched to the same view in any order -/
theorem dispatch_perm (env : Env) (v : View) (topo : Bool) (hs : SInv v.ring) {evs evs' : List (Nat × Change)}
    (hp : evs'.Perm evs) (hn : (keys evs).Nodup) (hc : ConnSep v.ring (keys evs)) :
    Same (v.dispatch env topo evs') (v.dispatch env topo evs) := by
  obtain ⟨v1, hr, _, _, hd⟩ := dispatch_eq env v topo
  rw [hd, hd]
  split
  · exact Same.refl _
  · rw [foldl_status_eq, foldl_status_eq, hr]
    exact (foldl_perm_of_comm Same.refl Same.trans Indep.symm (applyG_congr env) (fun w _ _ => applyG_comm env w _ _)
      (hp.symm.map _) (effects_pairwise env v.ring hs evs hn hc) (Same.refl _)).symm

theorem dispatch_preserves (env : Env) (P : View → Prop)
    (hreq : ∀ v, P v → P { v with refreshReq := v.refreshReq + 1 })
    (heff : ∀ v e, P v → P (applyEff env v (effectOf env v.ring e)))
    (v : View) (topo : Bool) (evs : List (Nat × Change)) (hp : P v) : P (v.dispatch env topo evs) := by
  unfold View.dispatch
  have h1 : P (if (topo && !env.noTopo) = true then { v with refreshReq := v.refreshReq + 1 } else v) := by
    split
    · exact hreq v hp
    · exact hp
  dsimp only
  split
  · exact h1
  · refine foldl_inv P _ (fun w e hw => ?_) evs _ h1
    rw [status_eq]
    unfold applyG
    split
    · exact hw
    · exact heff w e hw

/-- the hypotheses on `connected`, `refresh`, `removeHost`, `addInitial`, `updateStored` are needed at `v` only -/
theorem applyV_preserves (env : Env) (P : View → Prop)
    (hreq : ∀ v, P v → P { v with refreshReq := v.refreshReq + 1 })
    (heff : ∀ v e, P v → P (applyEff env v (effectOf env v.ring e)))
    (v : View) (op : VOp)
    (hconn : ∀ id, op = .connected id → P v → P (v.connected env id))
    (hrefresh : ∀ rep, P v → P (v.refresh env rep))
    (hrm : ∀ id h, v.ring.getHost id = some h → P v → P (v.removeHost env h))
    (hinit : ∀ h, P v → P (v.addInitial env h))
    (hupd : ∀ id a c, P v → P (v.updateStored id a c))
    (hp : P v) : P (applyV env v op) := by
  cases op with
  | batch b => exact dispatch_preserves env P hreq heff v _ _ hp
  | up a => exact (nodeUp_eq env v a ▸ heff v _ hp : P (v.nodeUp env a))
  | down a => exact (nodeDown_eq env v a ▸ heff v _ hp : P (v.nodeDown env a))
  | connected id => exact hconn id rfl hp
  | connectFailed id =>
    show P (v.connectFailed env id)
    unfold View.connectFailed
    split
    · exact hp
    · exact nodeDown_eq env v _ ▸ heff v _ hp
  | refresh rep => exact hrefresh rep hp
  | removeHost id =>
    show P (match v.ring.getHost id with | some h => v.removeHost env h | none => v)
    cases hg : v.ring.getHost id with
    | none => exact hp
    | some h => exact hrm id h hg hp
  | addInitial h => exact hinit h hp
  | update id a c => exact hupd id a c hp

theorem agree_empty (env : Env) : Agree env View.empty := by
  refine ⟨SInv_empty, ?_, ?_, ⟨fun _ => rfl, ?_, ?_⟩⟩
  · intro e he; cases he
  · intro h hh; simp [View.empty, Policy.all] at hh
  · intro x hx; cases hx
  · intro x hx; cases hx

/-- `Session.init`'s treatment of an initial host: the ring's `addIfMissing`, then the pool fill of the stored object
unless it is filtered -/
theorem addInitial_eq (env : Env) (v : View) (h : RHost) :
    v.addInitial env h =
      if env.filter (v.ring.addIfMissing h).2.1 then { v with ring := (v.ring.addIfMissing h).1 }
      else ({ v with ring := (v.ring.addIfMissing h).1 }).startPoolFill env (v.ring.addIfMissing h).2.1 := rfl

theorem agree_addInitial (env : Env) (v : View) (h : RHost) (ha : Agree env v) : Agree env (v.addInitial env h) := by
  rw [addInitial_eq]
  have h1 := agree_ringAdd env v h ha
  split
  · exact h1
  · exact agree_startPoolFill env _ _ h1 (addIfMissing_stored v.ring h ha.sinv.wf)

theorem agree_applyV (env : Env) (hloc : LocStable env) (v : View) (op : VOp) (ha : Agree env v) : Agree env (applyV env v op) :=
  applyV_preserves env (Agree env) (fun _ h => ⟨h.sinv, h.pools, h.pol, h.placed⟩) (agree_effectOf env) v op
    (fun id _ => agree_connected env v id) (fun rep h => agree_refresh env v h rep)
    (fun _ h hg h' => agree_removeHost env v h h' (by rw [h'.sinv.wf _ (find_key_mem hg)]; exact hg))
    (agree_addInitial env v) (fun id a c h => agree_updateStored env hloc v h id a c) ha

/-- a status event leaves the ring alone, takes no object out of `down`, and dereferences no nil host when the
by-address index has no stale entry -/
theorem effectOf_frame (env : Env) (v : View) (e : Nat × Change) :
    (applyEff env v (effectOf env v.ring e)).ring = v.ring ∧
    (∀ o ∈ v.down, o ∈ (applyEff env v (effectOf env v.ring e)).down) ∧
    (SInv v.ring → (applyEff env v (effectOf env v.ring e)).crashed = v.crashed) :=
  ⟨rfl, fun o ho => (mem_downApp _ _ o).mpr (Or.inr ho),
    fun hs => (congrArg (v.crashed || ·) (effectOf_noCrash env v.ring hs e)).trans (Bool.or_false _)⟩

theorem connected_frame (env : Env) (v : View) (id : Nat) :
    (v.connected env id).ring = v.ring ∧ (v.connected env id).crashed = v.crashed := by
  fun_cases View.connected env v id <;> exact ⟨rfl, rfl⟩

/-- the session's ring is driven by the ring machine: every op acts on it as a (possibly empty) history of ring
operations, refreshes and address updates; and from a ring without stale by-address entries no handler dereferences a
nil host -/
theorem applyV_sim (env : Env) (v : View) (op : VOp) (hs : SInv v.ring) :
    (∃ hops : List HOp, (applyV env v op).ring = hops.foldl applyH v.ring) ∧ (applyV env v op).crashed = v.crashed := by
  refine applyV_preserves env (fun w => (∃ hops : List HOp, w.ring = hops.foldl applyH v.ring) ∧ w.crashed = v.crashed)
    (fun _ h => h) ?_ v op ?_ ?_ ?_ ?_ ?_ ⟨⟨[], rfl⟩, rfl⟩
  · rintro w e ⟨⟨hops, hr⟩, hc⟩
    exact ⟨⟨hops, hr⟩, ((effectOf_frame env w e).2.2 (hr ▸ SInv_runH hops _ hs)).trans hc⟩
  · intro id _ _
    obtain ⟨hr, hc⟩ := connected_frame env v id
    exact ⟨⟨[], hr⟩, hc⟩
  · intro rep _
    exact ⟨⟨[.refresh env.filter rep], refreshV_ring env v rep⟩,
      refreshV_preserves env (fun w => w.crashed = v.crashed) (fun _ _ hp _ => hp) (fun _ _ hp => hp) v rfl rep⟩
  · exact fun _ x _ _ => ⟨⟨[.op (.remove x.id)], rfl⟩, rfl⟩
  · intro x _
    rw [addInitial_eq]
    split <;> exact ⟨⟨[.op (.addIfMissing x)], rfl⟩, rfl⟩
  · exact fun id a c _ => ⟨⟨[.update id a c], updateStoredV_ring v id a c⟩, updateStoredV_crashed v id a c⟩

theorem runV_sim (env : Env) (ops : List VOp) (v : View) (hs : SInv v.ring) :
    (∃ hops : List HOp, (runV env v ops).ring = hops.foldl applyH v.ring) ∧ (runV env v ops).crashed = v.crashed := by
  refine foldl_inv (fun w => (∃ hops : List HOp, w.ring = hops.foldl applyH v.ring) ∧ w.crashed = v.crashed) _ ?_ ops v
    ⟨⟨[], rfl⟩, rfl⟩
  rintro w op ⟨⟨hops, hr⟩, hc⟩
  obtain ⟨⟨h1, e1⟩, c1⟩ := applyV_sim env w op (hr ▸ SInv_runH hops _ hs)
  exact ⟨⟨hops ++ h1, by rw [List.foldl_append, ← hr]; exact e1⟩, c1.trans hc⟩

end C16
