import Model.ExecutorConc
import Proofs.Common
import Proofs.C13Exec
/-! The interleaving machine of `Model/ExecutorConc.lean` (concurrent executions of one statement sharing the attempt
    counter and the host iterator): a step leaves the machine alone or ONE execution makes one of four moves (`Move`,
    `step_move`), and the invariants — the accounting of attempts and requests (`Acc`), the budget (`Inv`), the hosts
    handed out — are proved move by move, with the executions' states summed up by weights (`wsum`). -/
namespace ExecutorConc
open Executor

def wI : Ex → Nat | .inflight => 1 | _ => 0
def wC : Ex → Nat | .counted _ => 1 | _ => 0
def wS : Ex → Nat | .idle => 0 | _ => 1
def wD : Ex → Nat | .done => 1 | _ => 0

def wsum (w : Ex → Nat) : List Ex → Nat
  | [] => 0
  | x :: l => w x + wsum w l

theorem started_eq : ∀ l, started l = wsum wS l
  | [] => rfl
  | x :: l => by cases x <;> simp [started, wsum, wS, started_eq l] <;> omega

theorem wsum_set (w : Ex → Nat) : ∀ (l : List Ex) (i : Nat) (x y : Ex), l[i]? = some y →
    wsum w (l.set i x) + w y = wsum w l + w x
  | [], i, x, y, h => by simp at h
  | z :: l, 0, x, y, h => by
    simp at h; subst h; simp [wsum]; omega
  | z :: l, i+1, x, y, h => by
    simp only [List.getElem?_cons_succ] at h
    have := wsum_set w l i x y h
    simp only [List.set_cons_succ, wsum]; omega

theorem wsum_le_length (w : Ex → Nat) (hw : ∀ x, w x ≤ 1) : ∀ l, wsum w l ≤ l.length
  | [] => by simp [wsum]
  | x :: l => by have := hw x; have := wsum_le_length w hw l; simp only [wsum, List.length_cons]; omega

theorem wsum_replicate_idle (w : Ex → Nat) (h : w .idle = 0) : ∀ e, wsum w (List.replicate e .idle) = 0
  | 0 => rfl
  | e+1 => by simp [List.replicate_succ, wsum, h, wsum_replicate_idle w h e]

/-- a launched execution has a request in flight, or a counted attempt, or has returned -/
theorem wsum_launched : ∀ l, wsum wI l + wsum wC l + wsum wD l = wsum wS l
  | [] => rfl
  | x :: l => by have := wsum_launched l; cases x <;> simp only [wsum, wI, wC, wD, wS] <;> omega

theorem wD_le_S : ∀ l, wsum wD l ≤ wsum wS l :=
  fun l => wsum_launched l ▸ Nat.le_add_left ..

/-- `[c0 + n - 1, …, c0 + 1, c0]` -/
def down (c0 : Nat) : Nat → List Nat
  | 0 => []
  | n+1 => (c0 + n) :: down c0 n

theorem down_reverse (c0 : Nat) : ∀ n, (down c0 n).reverse = List.range' c0 n
  | 0 => rfl
  | n+1 => by simp [down, down_reverse c0 n, List.range'_concat]

theorem down_length (c0 n : Nat) : (down c0 n).length = n := by
  rw [← List.length_reverse, down_reverse, List.length_range']

theorem down_add (c0 a b : Nat) : down c0 (a + b) = down (c0 + a) b ++ down c0 a :=
  List.reverse_inj.mp (by rw [List.reverse_append, down_reverse, down_reverse, down_reverse, List.range'_append_1])

/-! ### what a step does -/

/-- `y` is a counted attempt whose retry the policy licenses at the present value of the counter -/
def Licensed (pol : Option Policy) (m : M) (y : Ex) : Prop :=
  ∃ r p, y = .counted r ∧ pol = some p ∧ p.attempt m.cnt = true

/-- an execution in state `y` may go on to a request: it is not launched yet, or its retry is licensed -/
def MaySend (pol : Option Policy) (m : M) (y : Ex) : Prop := y = .idle ∨ Licensed pol m y

/-- under the action `a`, execution `i`, in state `y` (in `finish`, `request`, `dead`: not launched, or with a counted
    attempt, hence with weights `wI y = wD y = 0`) moves on -/
inductive Move (pol : Option Policy) (m : M) : Act → M → Prop
  /-- `do` returns; on a live context it has a value for the caller. The action `a` is not tied to the execution
      `i`: the relation allows more than `step` does, which is all the invariants need -/
  | finish {a i y} : m.exs[i]? = some y → wI y = 0 → wD y = 0 → ((∀ j, a ≠ .abort j) → returned pol m a ≠ none) →
      Move pol m a { m with exs := m.exs.set i .done }
  /-- a new request: on the next host of the shared iterator (the first one, or after `RetryNextHost`), which then
      holds `l` hosts, or — `Retry` — on the same host -/
  | request {a i y} (l : Nat) : m.exs[i]? = some y → MaySend pol m y → a = .launch i ∨ a = .decide i →
      (l + 1 = m.left ∨ l = m.left ∧ ∃ p e, pol = some p ∧ p.rtype e = .retry) →
      Move pol m a { m with sent := m.sent + 1, left := l, exs := m.exs.set i .inflight }
  /-- the attempt ends and is counted -/
  | count {i} (r : Res) : m.exs[i]? = some .inflight →
      Move pol m (.complete i r) { m.count with exs := m.exs.set i (.counted r) }
  /-- an attempt on a cancelled context (with or without a host taken from the iterator for it) -/
  | dead {i y} (l : Nat) : m.exs[i]? = some y → wI y = 0 → wD y = 0 → l ≤ m.left →
      Move pol m (.abort i) { m.deadAttempt i with left := l }

theorem MaySend.weights {pol : Option Policy} {m : M} {y : Ex} (h : MaySend pol m y) : wI y = 0 ∧ wD y = 0 := by
  rcases h with rfl | ⟨r, p, rfl, _⟩ <;> exact ⟨rfl, rfl⟩

namespace Move

theorem sendNext {pol : Option Policy} {m : M} {a : Act} {i : Nat} {y : Ex} (h : m.exs[i]? = some y)
    (hy : MaySend pol m y) (ha : a = .launch i ∨ a = .decide i)
    (hret : m.left = 0 → returned pol m a ≠ none) :
    Move pol m a (m.sendNext i) := by
  unfold M.sendNext
  split
  · exact .finish h hy.weights.1 hy.weights.2 fun _ => hret ‹_›
  · exact .request _ h hy ha (.inl (by omega))

theorem deadNext {pol : Option Policy} {m : M} {i : Nat} {y : Ex} (h : m.exs[i]? = some y)
    (hI : wI y = 0) (hD : wD y = 0) : Move pol m (.abort i) (m.deadNext i) := by
  unfold M.deadNext
  split
  · exact .finish h hI hD fun hab => absurd rfl (hab i)
  · exact .dead _ h hI hD (Nat.sub_le _ _)

end Move

theorem step_move (pol : Option Policy) (m : M) (a : Act) : step pol m a = m ∨ Move pol m a (step pol m a) := by
  cases a with
  | launch i =>
    simp only [step]
    split
    · rename_i h
      exact .inr (.sendNext h (.inl rfl) (.inl rfl) fun hl => by simp [returned, h, hl])
    · exact .inl rfl
  | complete i r =>
    simp only [step]
    split
    · exact .inr (.count r ‹_›)
    · exact .inl rfl
  | decide i =>
    simp only [step]
    split
    · right
      rename_i e h
      split
      · exact .finish h rfl rfl fun _ => by simp [returned, h]
      · rename_i p
        split
        · rename_i hat
          exact .finish h rfl rfl fun _ => by simp [returned, h, hat]
        · rename_i hat
          have lic : Licensed (some p) m (.counted (.err e)) := ⟨_, p, rfl, rfl, by simpa using hat⟩
          split
          · exact .request _ h (.inr lic) (.inr rfl) (.inr ⟨rfl, p, e, rfl, ‹_›⟩)
          · rename_i hrt
            exact .sendNext h (.inr lic) (.inr rfl) fun hl => by simp [returned, h, hat, hrt, hl]
          · rename_i h1 h2
            refine .finish h rfl rfl fun _ => ?_
            simp only [returned, h, hat]
            cases hrt : p.rtype e <;> simp_all
    · rename_i r _ h
      exact .inr (.finish h rfl rfl fun _ => by cases r <;> simp_all [returned])
    · exact .inl rfl
  | abort i =>
    have fin : ∀ {y}, m.exs[i]? = some y → wI y = 0 → wD y = 0 →
        Move pol m (.abort i) { m with exs := m.exs.set i .done } :=
      fun h hI hD => .finish h hI hD fun hab => absurd rfl (hab i)
    simp only [step]
    split
    · exact .inr (.deadNext ‹_› rfl rfl)
    · right
      rename_i e h
      split
      · exact fin h rfl rfl
      · split
        · exact fin h rfl rfl
        · split
          · exact .dead _ h rfl rfl (Nat.le_refl _)
          · exact .deadNext h rfl rfl
          · exact fin h rfl rfl
    · exact .inr (fin ‹_› rfl rfl)
    · exact .inl rfl

theorem step_cases {pol : Option Policy} {m : M} {a : Act} {P : M → Prop} (h0 : P m) (h : ∀ m', Move pol m a m' → P m') :
    P (step pol m a) :=
  (step_move pol m a).elim (fun e => e.symm ▸ h0) (h _)

theorem run_preserves {pol : Option Policy} {P : M → Prop} (hP : ∀ m a m', Move pol m a m' → P m → P m') :
    ∀ (sched : List Act) (m : M), P m → P (run pol m sched) :=
  foldl_moves (step_move pol) hP

/-- requests sent + attempts on a cancelled context = attempts counted since the start + attempts in flight; the
    attempts were numbered c0, c0+1, … in the order they were counted; an execution makes at most one attempt on a
    cancelled context, its last -/
structure Acc (c0 e : Nat) (m : M) : Prop where
  acc : m.sent + m.unsent + c0 = m.cnt + wsum wI m.exs
  mono : c0 ≤ m.cnt
  log : m.log = down c0 (m.cnt - c0)
  dead : m.unsent ≤ wsum wD m.exs
  len : m.exs.length = e

theorem acc_init (c0 hosts e : Nat) : Acc c0 e (init c0 hosts e) := by
  refine ⟨?_, Nat.le_refl _, ?_, ?_, by simp [init]⟩
  · simp [init, wsum_replicate_idle wI rfl]
  · simp [init, down]
  · simp [init]

macro "wsolve" hy:ident hd:ident : tactic =>
  `(tactic| (first | rw [$hy:ident] | rw [$hd:ident] | skip) <;> (simp only [wI, wD, M.deadAttempt, M.count] <;> omega))

/-- one execution moves from `y` to `x` while `dc` attempts are counted -/
theorem acc_upd {c0 e : Nat} {m : M} {i : Nat} {x y : Ex} (hi : Acc c0 e m) (h : m.exs[i]? = some y) (m' : M)
    (hexs : m'.exs = m.exs.set i x) (dc : Nat) (hcnt : m'.cnt = m.cnt + dc) (hlog : m'.log = down m.cnt dc ++ m.log)
    (hacc : m'.sent + m'.unsent + wI y = m.sent + m.unsent + dc + wI x)
    (hdead : m'.unsent + wD y ≤ m.unsent + wD x) : Acc c0 e m' := by
  obtain ⟨a, b, c, d, l⟩ := hi
  refine ⟨?_, Nat.le_trans b (hcnt ▸ Nat.le_add_right ..), ?_, ?_, by rw [hexs, List.length_set]; exact l⟩
  · have hI := wsum_set wI m.exs i x y h
    -- needs `a`, `hI`, `hacc` only; with the rest in the context `omega` is much slower
    rw [hexs, hcnt]; clear hdead hlog c l d b hexs hcnt; omega
  · have e2 : c0 + (m.cnt - c0) = m.cnt := Nat.add_sub_cancel' b
    rw [hlog, c, hcnt, Nat.sub_add_comm b, down_add, e2]
  · have hD := wsum_set wD m.exs i x y h
    -- needs `d`, `hD`, `hdead` only
    rw [hexs]; clear hacc hlog c l a b hexs hcnt; omega

namespace Move

theorem acc {pol : Option Policy} {m m' : M} {a : Act} (mv : Move pol m a m') {c0 e : Nat} (hi : Acc c0 e m) : Acc c0 e m' := by
  -- the two side goals of `acc_upd`: the one on requests and attempts needs `wI y = 0` (first `wsolve`), the one on
  -- dead attempts needs `wD y = 0` (second `wsolve`); `wsolve` rewrites with its first argument
  cases mv with
  | finish h hI hD => exact acc_upd hi h _ rfl 0 rfl rfl (by wsolve hI hD) (by wsolve hD hI)
  | request l h hy =>
    obtain ⟨hI, hD⟩ := hy.weights
    exact acc_upd hi h _ rfl 0 rfl rfl (by wsolve hI hD) (by wsolve hD hI)
  | count r h => exact acc_upd hi h _ rfl 1 rfl rfl rfl (Nat.le_refl _)
  | dead l h hI hD _ => exact acc_upd hi h _ rfl 1 rfl rfl (by wsolve hI hD) (by wsolve hD hI)

end Move

theorem wsum_wI_quiet : ∀ l, quiet l = true → wsum wI l = 0
  | [], _ => rfl
  | x :: l, h => by
    obtain ⟨hx, hl⟩ := (Bool.and_eq_true _ _).mp (show ((x != .inflight) && quiet l) = true from h)
    have := wsum_wI_quiet l hl
    -- `x` in flight contradicts `hx`; every other state weighs 0
    cases x <;> first | exact (Nat.zero_add _).trans this | exact absurd hx (by decide)

namespace Acc

theorem wsum_le {c0 e : Nat} {m : M} (h : Acc c0 e m) (w : Ex → Nat) (hw : ∀ x, w x ≤ 1) : wsum w m.exs ≤ e :=
  h.len ▸ wsum_le_length w hw m.exs

theorem quiescent {c0 e : Nat} {m : M} (h : Acc c0 e m) (hq : quiet m.exs = true) : m.cnt = c0 + m.sent + m.unsent := by
  have := wsum_wI_quiet m.exs hq
  have := h.acc
  omega

end Acc

theorem run_acc (pol : Option Policy) (c0 hosts e : Nat) (sched : List Act) : Acc c0 e (run pol (init c0 hosts e) sched) :=
  run_preserves (fun _ _ _ mv => mv.acc) sched _ (acc_init c0 hosts e)

/-- `N` = the bound of the policy (`Upto pol N`), `c0` = the counter at the start, `e` = the number of executions -/
structure Inv (N c0 e : Nat) (m : M) : Prop where
  toAcc : Acc c0 e m
  bound : m.sent ≤ (N - c0) + wsum wS m.exs

theorem inv_init (N c0 hosts e : Nat) : Inv N c0 e (init c0 hosts e) :=
  ⟨acc_init c0 hosts e, by simp [init]⟩

theorem wS_le_done (y : Ex) : wS y ≤ wS .done := by cases y <;> simp [wS]

/-- the execution moves on without a new request: launched executions do not decrease -/
theorem bound_keep {N c0 : Nat} {m : M} {i : Nat} {x y : Ex} (h : m.exs[i]? = some y) (hxy : wS y ≤ wS x)
    (hb : m.sent ≤ (N - c0) + wsum wS m.exs) : m.sent ≤ (N - c0) + wsum wS (m.exs.set i x) := by
  have hS := wsum_set wS m.exs i x y h
  omega

/-- a new request: of an execution that had none so far, or licensed by `cnt ≤ N` — the deciding execution has a
    counted attempt, so in-flight + 1 ≤ launched -/
theorem bound_send {pol : Option Policy} {N c0 e : Nat} {m : M} {i : Nat} {y : Ex}
    (hp : Upto pol N) (h : m.exs[i]? = some y)
    (hy : MaySend pol m y) (ha : Acc c0 e m) (hb : m.sent ≤ (N - c0) + wsum wS m.exs) :
    m.sent + 1 ≤ (N - c0) + wsum wS (m.exs.set i .inflight) := by
  have hS := wsum_set wS m.exs i .inflight y h
  rcases hy with rfl | ⟨r, p, rfl, hpol, hat⟩
  · simp only [wS] at hS; omega
  · have hle := hp p hpol _ hat
    have hC := wsum_set wC m.exs i .inflight _ h
    have hL := wsum_launched m.exs
    have a := ha.acc
    have b := ha.mono
    simp only [wS, wC] at hS hC
    omega

namespace Move

theorem inv {pol : Option Policy} {N : Nat} (hp : Upto pol N) {m m' : M}
    {a : Act} (mv : Move pol m a m') {c0 e : Nat} (hi : Inv N c0 e m) : Inv N c0 e m' := by
  refine ⟨mv.acc hi.toAcc, ?_⟩
  obtain ⟨ha, hb⟩ := hi
  cases mv with
  | finish h _ _ => exact bound_keep h (wS_le_done _) hb
  | request l h hy => exact bound_send hp h hy ha hb
  | count r h => exact bound_keep h (Nat.le_refl _) hb
  | dead l h _ _ _ => exact bound_keep h (wS_le_done _) hb

/-- the shared iterator hands out every host once, and a policy that never answers `Retry` sends only to hosts it
    handed out -/
theorem hosts {pol : Option Policy} (hnr : ∀ p, pol = some p → ∀ e, p.rtype e ≠ .retry) {m m' : M}
    {a : Act} (mv : Move pol m a m') {hosts : Nat} (hi : m.sent + m.left ≤ hosts) : m'.sent + m'.left ≤ hosts := by
  cases mv with
  | finish => exact hi
  | request l _ _ _ hl =>
    rcases hl with hl | ⟨_, p, e, hp, hrt⟩
    · show m.sent + 1 + l ≤ hosts; omega
    · exact absurd hrt (hnr _ hp _)
  | count => exact hi
  | dead l _ _ _ hl => show m.sent + l ≤ hosts; omega

end Move

theorem Inv.started {N c0 e : Nat} {m : M} (hi : Inv N c0 e m) : m.sent ≤ (N - c0) + started m.exs ∧ started m.exs ≤ e := by
  rw [started_eq]
  exact ⟨hi.bound, hi.toAcc.wsum_le wS wS_le_done⟩

theorem Inv.budget {N c0 e : Nat} {m : M} (hi : Inv N c0 e m) : m.sent ≤ budget (N - c0) e := by
  have := hi.started
  unfold ExecutorConc.budget; omega

theorem run_inv {pol : Option Policy} {N : Nat} (hp : Upto pol N) (c0 hosts e : Nat) (sched : List Act) :
    Inv N c0 e (run pol (init c0 hosts e) sched) :=
  run_preserves (fun _ _ _ mv => mv.inv hp) sched _ (inv_init N c0 hosts e)

end ExecutorConc
