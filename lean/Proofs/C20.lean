import Proofs.C20Tls
import Proofs.C20Runs
/-!
# C20 — TLS verification and credential disclosure are exactly as documented (property theorems)

Model: `Model/TlsAuth.lean` (hand-written from connectionpool.go `setupTLSConfig`, dial.go `tlsConfigForAddr`,
conn.go `approve` / `PasswordAuthenticator.Challenge` / `options` / `startup` / `authenticateHandshake`; tied to the
source by the differential run of `harness/cmd/c20`, which also reads the three copies of the documented table out
of doc.go / conn.go / connectionpool.go and compares them with `TlsAuth.Spec.docRows`); on top of it
`Model/TlsAuthSess.lean` (several connections of one session), `Model/TlsAuthDial.lean` (dialer configurations, several
dials) and `Model/TlsAuthHist.lean` (sessions over time, tokens held across `Challenge` calls).
-/
namespace C20
open TlsAuth

/-- The derived config verifies the server exactly in the documented cases.  The quantifier is the whole finite
    domain (Config nil / InsecureSkipVerify false / true) × (EnableHostVerification false / true). -/
theorem C20_table (cfg : Option Bool) (ehv : Bool) :
    Spec.documented cfg ehv = some (!effectiveInsecure cfg ehv) :=
  documented_eq cfg ehv

/-- every documented row, one by one, and the rows cover each combination exactly once -/
theorem C20_table_rows :
    (∀ r ∈ Spec.docRows, (!effectiveInsecure r.1 r.2.1) = r.2.2) ∧
    (Spec.docRows.map (fun r => (r.1, r.2.1))).Nodup ∧ Spec.docRows.length = 6 := by decide

/-- The table holds for what `setupTLSConfig` actually returns, whatever the other fields of the caller's config
    and whatever the files: if a config is returned, its InsecureSkipVerify is the documented one, the caller's
    ServerName is kept, and (plain English of the table) a config is insecure only if the caller asked for it:
    no Config and no EnableHostVerification, or Config.InsecureSkipVerify without EnableHostVerification. -/
theorem C20_setup_follows_table (o : SslOpts) (c : OutCfg) (h : setupTLSConfig o = .ok c) :
    Spec.documented (o.cfg.map (·.insecure)) o.enableHostVerification = some (!c.insecure) ∧
    c.serverName = (o.cfg.map (·.serverName)).getD [] ∧
    (c.insecure = true ↔ (o.enableHostVerification = false ∧ (o.cfg = none ∨ ∃ u, o.cfg = some u ∧ u.insecure = true))) := by
  cases setupTLSConfig_ok h
  refine ⟨C20_table _ _, rfl, (effectiveInsecure_eq_true _ _).trans ?_⟩
  cases o.cfg <;> simp

example : ∃ c, setupTLSConfig ⟨none, true, .valid, .valid, .valid⟩ = .ok c ∧ c.insecure = false := ⟨_, rfl, rfl⟩

/-- FULL STATEMENT (false for the unchanged code): "`setupTLSConfig` leaves every object reachable from the
    caller's tls.Config untouched".  The scalar settings (InsecureSkipVerify, ServerName) are written on a
    `Clone()`; that is checked on the real code by the harness for every combination (any write shows up as an
    `ALIAS:` answer the model never gives).  But `Clone()` copies the RootCAs POINTER: with CaPath set the CA file is
    appended to the caller's own pool (KF-C20-1, open: needs x509.CertPool.Clone, Go >= 1.19).
    Proved part: nothing of the caller's is written unless the caller supplied a RootCAs pool together with a
    (valid) CaPath.  The Certificates backing array is never written (KF-C20-2 repaired: C20_caller_backing_untouched). -/
theorem C20_caller_config_untouched_partial (o : SslOpts) (spare : Bool)
    (h : o.ca ≠ .valid ∨ ∀ u, o.cfg = some u → u.hasRootCAs = false) :
    callerPoolMutated o = false ∧ callerBackingWritten o spare = false := by
  refine ⟨?_, rfl⟩
  rw [← Bool.not_eq_true, callerPoolMutated_iff]
  rintro ⟨hca, u, hu, hr⟩
  rcases h with h | h
  · exact h hca
  · simp [h u hu] at hr

/-- counterexample: Config with its own RootCAs + CaPath ⇒ the caller's pool object grows (replayed on the real
    code by the op `tls I0S0R1C0 1 valid absent absent 0` → `… callerpool=grew`) -/
theorem C20_cex_caller_pool :
    callerPoolMutated ⟨some ⟨false, [], true, 0⟩, true, .valid, .absent, .absent⟩ = true := by decide

/-- FULL (after the repair of KF-C20-2): for every SslOptions, every caller Certificates slice (any length, spare
    capacity or not) and every key pair, the key pair is appended to a fresh array — the caller's backing array is
    never written. -/
theorem C20_caller_backing_untouched (o : SslOpts) (spare : Bool) : callerBackingWritten o spare = false := rfl

/-- non-vacuity: the former counterexample of KF-C20-2 (one own certificate, spare capacity, a valid key pair) yields a
    config with TWO certificates while the caller's array is left alone -/
example : (setupTLSConfig ⟨some ⟨false, [], false, 1⟩, true, .absent, .valid, .valid⟩).toOption.map (·.nCerts) = some 2 ∧
    callerBackingWritten ⟨some ⟨false, [], false, 1⟩, true, .absent, .valid, .valid⟩ true = false := by decide

/-- When verifying without an explicit name, the name is the host part of the dialled address (everything before
    the LAST colon; the whole string if there is none) on a clone; otherwise the caller's config is used as is. -/
theorem C20_server_name (insecure : Bool) (serverName addr : List UInt8) :
    (insecure = false → serverName = [] → tlsConfigForAddr insecure serverName addr = (hostPart addr, true)) ∧
    ((insecure = true ∨ serverName ≠ []) → tlsConfigForAddr insecure serverName addr = (serverName, false)) := by
  constructor
  · rintro rfl rfl; rfl
  · rintro (rfl | h)
    · rfl
    · cases insecure <;> cases serverName <;> simp_all [tlsConfigForAddr]

/-- what "the host part" is: the split at the last colon -/
theorem C20_host_part (addr : List UInt8) :
    (colon ∉ addr ∧ hostPart addr = addr) ∨
    (∃ port, addr = hostPart addr ++ colon :: port ∧ colon ∉ port) := by
  have h := beforeLastColon_spec addr
  unfold hostPart
  cases hb : beforeLastColon addr with
  | none => rw [hb] at h; exact Or.inl ⟨h, rfl⟩
  | some p => rw [hb] at h; exact Or.inr h

/-- For the address the default dialer passes (`net.JoinHostPort(hostname, port)`): a name or IPv4 literal is
    the server name itself; an IPv6 literal (anything containing a colon) is used IN BRACKETS — as produced;
    crypto/x509 strips the brackets when matching IP SANs. -/
theorem C20_server_name_of_host (host port : List UInt8) (hp : colon ∉ port) :
    hostPart (joinHostPort host port) = if host.contains colon then [91] ++ host ++ [93] else host := by
  rw [joinHostPort_eq, hostPart_split _ _ hp]

example : hostPart (strBytes "[2001:db8::1]:9042") = strBytes "[2001:db8::1]" := by
  simp only [strBytes_fun]; decide +kernel
example : hostPart (strBytes "cassandra-1.example.com:9042") = strBytes "cassandra-1.example.com" := by
  simp only [strBytes_fun]; decide +kernel

/-- A CA path or key-pair path that is given and unreadable / unparsable / not a pair is an error — never a
    config without it; and a config is returned exactly when every given file is good. -/
theorem C20_bad_files_error (o : SslOpts) :
    ((∃ c, setupTLSConfig o = .ok c) ↔
      ((o.ca = .absent ∨ o.ca = .valid) ∧ ((o.cert = .absent ∧ o.key = .absent) ∨ keyPairLoads o.cert o.key = true))) ∧
    (o.ca = .unreadable → setupTLSConfig o = .error .caOpen) ∧
    ((o.ca = .unparsable ∨ o.ca = .foreign) → setupTLSConfig o = .error .caParse) ∧
    ((o.ca = .absent ∨ o.ca = .valid) → (o.cert ≠ .absent ∨ o.key ≠ .absent) → keyPairLoads o.cert o.key = false →
      setupTLSConfig o = .error .keyPair) := by
  rw [setupTLSConfig_eq, ← filesError_eq_none]
  refine ⟨?_, ?_, ?_, ?_⟩
  · cases filesError o <;> simp
  · intro h; simp [filesError, h]
  · rintro (h | h) <;> simp [filesError, h]
  · rintro (h | h) hb hk <;> simp [filesError, h, hb, hk]

/-- a good CA file ends up in the pool, a good pair is appended to the certificates -/
theorem C20_good_files_used (o : SslOpts) (c : OutCfg) (h : setupTLSConfig o = .ok c) :
    (o.ca = .valid → c.hasRootCAs = true) ∧
    ((o.cert ≠ .absent ∨ o.key ≠ .absent) → c.nCerts = (o.cfg.map (·.nCerts)).getD 0 + 1) := by
  cases setupTLSConfig_ok h
  exact ⟨fun h => by simp [derived, h], fun h => by simp [derived, h]⟩

/-- SASL PLAIN: the token is 0 ‖ user ‖ 0 ‖ password, byte for byte (non-ASCII preserved), and determines
    (user, password) whenever the user name is NUL-free. -/
theorem C20_plain_token (user pass : List UInt8) :
    plainToken user pass = [0] ++ user ++ [0] ++ pass ∧
    (plainToken user pass).length = 2 + user.length + pass.length ∧
    ((0 : UInt8) ∉ user → Spec.decodePlain (plainToken user pass) = some (user, pass)) := by
  refine ⟨by simp [plainToken], by simp [plainToken]; omega, fun h => ?_⟩
  have hu : ∀ a ∈ user, (a != 0) = true := fun a ha => bne_iff_ne.mpr fun e => h (e ▸ ha)
  simp [plainToken, Spec.decodePlain, Spec.splitAtNul, List.takeWhile_append_of_pos hu, List.dropWhile_append_of_pos hu]

example : plainToken (strBytes "ü") (strBytes "pw") = [0, 0xc3, 0xbc, 0, 0x70, 0x77] := by decide +kernel

/-- Credentials are produced ⇔ the offered class is on the caller's list, or on the built-in default list when
    the caller's is empty — for every class name. -/
theorem C20_only_approved (p : PwAuth) (cls : List UInt8) :
    ((challenge p cls).isSome ↔ cls ∈ (if p.allowed = [] then defaultApprovedAuthenticators.map strBytes else p.allowed)) ∧
    (∀ tok, challenge p cls = some tok → tok = plainToken p.user p.pass) := by
  constructor
  · unfold challenge approve effectiveList
    cases hp : p.allowed with
    | nil => simp
    | cons a as => simp
  · exact fun tok h => (challenge_eq_some.mp h).2

example : approve (strBytes "org.apache.cassandra.auth.PasswordAuthenticator") [] = true := by
  simp only [approve, effectiveList, strBytes_fun]; decide +kernel
example : approve (strBytes "org.apache.cassandra.auth.AllowAllAuthenticator") [] = false := by
  simp only [approve, effectiveList, strBytes_fun]; decide +kernel
example : approve (strBytes "org.apache.cassandra.auth.PasswordAuthenticator") [strBytes "com.example.Custom"] = false := by
  simp only [strBytes_fun]; decide +kernel

/-! ## the start-up handshake, given the connection's authenticator (`Conn.auth`) -/

/-- A server that demands authentication from a connection WITHOUT an authenticator gets an error:
    for every class name and whatever else the server sends, nothing beyond OPTIONS and STARTUP is written, no
    `Challenge`/`Success` call is made, the process does not die, and the connection is never reported ready.
    More generally, without an authenticator the start-up ends `ready` only on SUPPORTED followed directly by READY. -/
theorem C20_no_auth_no_session (cls : List UInt8) (rest fs : List SFrame) :
    handshake none (.supported :: .authenticate cls :: rest) =
      { sent := [.options, .startup], calls := [], provCalls := [], outcome := .errAuthRequired } ∧
    ((handshake none fs).outcome = .ready → ∃ tl, fs = .supported :: .ready :: tl) ∧
    (∀ tok, Sent.authResponse tok ∉ (handshake none fs).sent) ∧
    (handshake none fs).calls = [] ∧ (handshake none fs).outcome ≠ .crash := by
  have h := handshake_none fs
  exact ⟨rfl, h.ready, h.noToken, h.calls, h.noCrash⟩

/-- Password credentials leave the client only as the PLAIN token, only in reply to an AUTHENTICATE naming an
    approved class, for every frame sequence the server may send; and after an AUTHENTICATE the session becomes
    ready only through AUTH_SUCCESS. -/
theorem C20_credentials_only_if_approved (p : PwAuth) (fs : List SFrame) :
    (∀ tok, Sent.authResponse tok ∈ (handshake (some (.pw p)) fs).sent →
      ∃ cls tl, fs = .supported :: .authenticate cls :: tl ∧ approve cls p.allowed = true ∧
        tok = plainToken p.user p.pass) ∧
    ((handshake (some (.pw p)) fs).outcome = .ready →
      (∃ tl, fs = .supported :: .ready :: tl) ∨
      (∃ cls d tl, fs = .supported :: .authenticate cls :: .authSuccess d :: tl ∧ approve cls p.allowed = true)) := by
  rcases handshake_split fs with ⟨cls, rest, rfl⟩ | hs
  · rw [handshake_pw]
    by_cases ha : approve cls p.allowed = true
    · rw [if_pos ha]
      refine ⟨fun tok h => ⟨cls, rest, rfl, ha, ?_⟩, fun h => .inr ?_⟩
      · simpa [authLoop_none] using h
      · obtain ⟨d, tl, rfl⟩ := (authLoop_none_outcome rest).1.mp h
        exact ⟨cls, d, tl, rfl, ha⟩
    · simp [ha]
  · rw [hs]
    exact ⟨fun tok h => absurd h ((handshake_none fs).noToken tok), fun h => .inl ((handshake_none fs).ready h)⟩

/-- non-vacuity: an approved class gets the token, an unapproved one gets nothing -/
example : handshake (some (.pw ⟨[117], [112], []⟩))
    [.supported, .authenticate (strBytes "org.apache.cassandra.auth.PasswordAuthenticator"), .authSuccess []] =
    { sent := [.options, .startup, .authResponse [0, 117, 0, 112]],
      calls := [.challenge (strBytes "org.apache.cassandra.auth.PasswordAuthenticator")],
      provCalls := [], outcome := .ready } := by
  simp only [handshake_pw, approve, effectiveList, strBytes_fun]; decide +kernel
example : (handshake (some (.pw ⟨[117], [112], []⟩))
    [.supported, .authenticate (strBytes "com.evil.Harvester"), .authSuccess []]).sent =
    [.options, .startup] := by
  simp only [handshake_pw, approve, effectiveList, strBytes_fun]; decide +kernel

/-- "never an unauthenticated session", for EVERY authenticator (gocql's or the caller's): once the server has demanded
    authentication, the connection is reported ready only after an AUTH_RESPONSE was sent and the server answered
    AUTH_SUCCESS. -/
theorem C20_ready_only_after_success (auth : Option AuthImpl) (cls : List UInt8) (rest : List SFrame)
    (h : (handshake auth (.supported :: .authenticate cls :: rest)).outcome = .ready) :
    (∃ tok, Sent.authResponse tok ∈ (handshake auth (.supported :: .authenticate cls :: rest)).sent) ∧
    (∃ d, SFrame.authSuccess d ∈ rest) := by
  rcases auth with _ | a
  · cases h
  · simp only [handshake_authenticate, authLoop] at h ⊢
    cases hc : a.challenge cls with
    | error e => rw [hc] at h; rcases challenge_error a cls e hc with rfl | rfl <;> cases h
    | ok r => rw [hc] at h; exact ⟨⟨r.1, by simp⟩, authLoop_ready r.2 rest h⟩

/-- What a caller-supplied authenticator sends: exactly the tokens its successive `Challenge` calls returned, in
    order (a prefix of the script), nothing else — for every server frame sequence. -/
theorem C20_custom_tokens_in_order (rs : List Round) (sf : Bool) (fs : List SFrame) :
    tokens (handshake (some (.custom rs sf)) fs).sent <+: rs.map (·.resp) := by
  rcases handshake_split fs with ⟨cls, rest, rfl⟩ | hs
  · rw [handshake_authenticate]; exact authLoop_custom_tokens rs sf _
  · rw [hs, List.eq_nil_iff_forall_not_mem.mpr fun t ht => (handshake_none fs).noToken t ((mem_tokens _ _).mp ht)]
    exact List.nil_prefix

/-- `Challenge` is called with what the server sent and nothing else: first the class name of the AUTHENTICATE frame,
    then the payloads of the AUTH_CHALLENGE frames that follow, in order — for every authenticator. -/
theorem C20_challenge_requests (a : AuthImpl) (cls : List UInt8) (rest : List SFrame) :
    challengeReqs (handshake (some a) (.supported :: .authenticate cls :: rest)).calls <+: cls :: leadingChallenges rest := by
  rw [handshake_authenticate]; exact authLoop_reqs (some a) (.authChallenge cls :: rest)

/-- An authenticator's verdict on the server's final data is honoured: if its `Success` fails, the connection is
    reported ready only when `Success` was never called (its chain had ended by returning a nil challenger). -/
theorem C20_success_error_fails (rs : List Round) (fs : List SFrame)
    (h : (handshake (some (.custom rs true)) fs).outcome = .ready) :
    ∀ d, Call.success d ∉ (handshake (some (.custom rs true)) fs).calls := by
  rcases handshake_split fs with ⟨cls, rest, rfl⟩ | hs
  · rw [handshake_authenticate] at h ⊢
    exact authLoop_success_fails rs _ h
  · intro d
    rw [hs, (handshake_none fs).calls]
    exact List.not_mem_nil

/-! ## process death (C05's subject; modelled here because the handshake model must say what the code does) -/

/-- FULL: no authenticator (none, gocql's PasswordAuthenticator, any caller-supplied implementation — also one that
    returns a nil next-challenger) and no frame sequence make the start-up kill the process.  (Before the repair of
    KF-C20-3 / KF-C05-24 `authenticateHandshake` called `challenger.Challenge` on a nil interface when the server
    answered the AUTH_RESPONSE with an AUTH_CHALLENGE; it returns an error now.) -/
theorem C20_no_crash (auth : Option AuthImpl) (fs : List SFrame) : (handshake auth fs).outcome ≠ .crash := by
  rcases handshake_split fs with ⟨cls, rest, rfl⟩ | hs
  · rcases auth with _ | a
    · intro h; cases h
    · rw [handshake_authenticate]; exact authLoop_noCrash _ _
  · rw [hs]; exact (handshake_none fs).noCrash

/-- for gocql's own PasswordAuthenticator the start-up ends with the "no challenger" error exactly on: SUPPORTED,
    AUTHENTICATE(approved class), AUTH_CHALLENGE (the inputs that killed the process before the repair) -/
theorem C20_pw_no_challenger_iff (p : PwAuth) (fs : List SFrame) :
    (handshake (some (.pw p)) fs).outcome = .errNoChallenger ↔
      ∃ cls d tl, fs = .supported :: .authenticate cls :: .authChallenge d :: tl ∧ approve cls p.allowed = true := by
  constructor
  · intro h
    rcases handshake_split fs with ⟨cls, rest, rfl⟩ | hs
    · rw [handshake_pw] at h
      by_cases ha : approve cls p.allowed = true
      · rw [if_pos ha] at h
        obtain ⟨d, tl, rfl⟩ := (authLoop_none_outcome rest).2.mp h
        exact ⟨cls, d, tl, rfl, ha⟩
      · rw [if_neg ha] at h; cases h
    · have := (handshake_none fs).outcome
      rw [← hs, h] at this
      simp at this
  · rintro ⟨cls, d, tl, rfl, ha⟩
    rw [handshake_pw, if_pos ha]; rfl

/-- regression: the witness of KF-C20-3 (replayed on the real code in a child process by the op
    `hs pw:75:70:none sup auth:<PasswordAuthenticator> chal`) ends in that error, after the one AUTH_RESPONSE -/
theorem C20_nil_challenger_is_error :
    (handshake (some (.pw ⟨[117], [112], []⟩))
      [.supported, .authenticate (strBytes "org.apache.cassandra.auth.PasswordAuthenticator"), .authChallenge [0x78]]).outcome
      = .errNoChallenger := by
  simp only [handshake_pw, approve, effectiveList, strBytes_fun]; decide +kernel

/-! ## which authenticator a connection gets: Authenticator, AuthProvider, per host -/

/-- `Conn.init`: with an AuthProvider configured, it is asked exactly once, for the host being dialled, and its answer
    alone decides (the static Authenticator is not consulted; its error ends the attempt before a single byte is
    written); without one the static Authenticator is used and no provider is called.  In terms of the documented
    roles (`Spec.credentials`): the connection behaves as the start-up with exactly those credentials. -/
theorem C20_auth_resolution (cfg : AuthCfg) (host : Nat) (fs : List SFrame) :
    (∀ a, Spec.credentials cfg host = some a →
      (connect cfg host fs).sent = (handshake a fs).sent ∧ (connect cfg host fs).calls = (handshake a fs).calls ∧
      (connect cfg host fs).outcome = (handshake a fs).outcome) ∧
    (Spec.credentials cfg host = none →
      (connect cfg host fs).sent = [] ∧ (connect cfg host fs).calls = [] ∧ (connect cfg host fs).outcome = .errProvider) ∧
    (connect cfg host fs).provCalls = (if cfg.provider.isSome then [host] else []) := by
  rw [connect_eq]
  exact ⟨fun a h => by rw [h]; exact ⟨rfl, rfl, rfl⟩, fun h => by rw [h]; exact ⟨rfl, rfl, rfl⟩, rfl⟩

/-- THE CLAUSE OF THE PROPERTY: "a server that demands authentication from a client configured without credentials
    gets an error, never an unauthenticated session" — for every configuration that has no credentials for the host
    being dialled (nothing configured at all, OR an AuthProvider that hands out no authenticator for this host,
    whatever it hands out for other hosts), every class name and every server frame sequence:
    no AUTH_RESPONSE is ever written, no Challenge/Success call is made (there is nothing to call them on), the
    process does not die, AUTHENTICATE is answered by the error "authentication required" after exactly OPTIONS and
    STARTUP, and `ready` is reached only through SUPPORTED, READY. -/
theorem C20_no_credentials_no_session (cfg : AuthCfg) (host : Nat) (fs : List SFrame)
    (h : Spec.credentials cfg host = some none) :
    (∀ tok, Sent.authResponse tok ∉ (connect cfg host fs).sent) ∧
    (connect cfg host fs).calls = [] ∧
    (connect cfg host fs).outcome ≠ .crash ∧
    ((connect cfg host fs).outcome = .ready → ∃ tl, fs = .supported :: .ready :: tl) ∧
    (∀ cls rest, fs = .supported :: .authenticate cls :: rest →
      (connect cfg host fs).sent = [.options, .startup] ∧ (connect cfg host fs).outcome = .errAuthRequired) := by
  have hn := handshake_none fs
  rw [connect_eq, h]
  refine ⟨hn.noToken, hn.calls, hn.noCrash, hn.ready, ?_⟩
  rintro cls rest rfl
  exact ⟨rfl, rfl⟩

/-- Per-host credential disclosure, for every configuration, host and frame sequence: an AUTH_RESPONSE leaves the
    client only if the configuration has credentials for THIS host (`Spec.credentials`), and if those are password
    credentials, only as their PLAIN token in reply to an AUTHENTICATE naming a class approved by THAT authenticator's
    list.  A provider error means nothing at all is sent. -/
theorem C20_credentials_per_host (cfg : AuthCfg) (host : Nat) (fs : List SFrame) (tok : List UInt8)
    (h : Sent.authResponse tok ∈ (connect cfg host fs).sent) :
    ∃ a, Spec.credentials cfg host = some (some a) ∧
      (∀ p, a = .pw p → ∃ cls tl, fs = .supported :: .authenticate cls :: tl ∧ approve cls p.allowed = true ∧
        tok = plainToken p.user p.pass) ∧
      (∀ rs sf, a = .custom rs sf → tok ∈ rs.map (·.resp)) := by
  rw [connect_eq] at h
  generalize Spec.credentials cfg host = r at h ⊢
  rcases r with _ | _ | a
  · cases h
  · exact absurd h ((handshake_none fs).noToken tok)
  · refine ⟨a, rfl, ?_, ?_⟩
    · rintro p rfl; exact (C20_credentials_only_if_approved p fs).1 tok h
    · rintro rs sf rfl
      exact (C20_custom_tokens_in_order rs sf fs).subset ((mem_tokens _ _).mpr h)

/-! ## "only after TLS verification as configured" -/

/-- End to end, for every SslOptions (that yield a config), host name, port, server certificate, authenticator and
    server frame sequence: the TLS handshake is accepted exactly when the documented table says "do not verify" or
    the certificate is signed by a CA the client was given (CaPath file, own RootCAs) and is valid for the expected
    name (the caller's ServerName, else the host being dialled); when it is not accepted NOTHING is sent on the
    connection (no OPTIONS, no credentials) and the dial fails; hence an AUTH_RESPONSE leaves the client only after
    verification as configured.
    (crypto/tls itself is assumed: `tlsAccepts`.) -/
theorem C20_credentials_only_after_verification (o : SslOpts) (hostname port : List UInt8) (cert : ServerCert)
    (auth : Option AuthImpl) (fs : List SFrame) (t : TlsDial) (hp : colon ∉ port)
    (h : dialTLS o hostname port cert auth fs = .ok t) :
    t.accepted = Spec.mayProceed o hostname cert ∧
    (t.accepted = false → t.trace.sent = [] ∧ t.trace.calls = [] ∧ t.trace.outcome = .errTlsVerify) ∧
    (t.accepted = true → t.trace = handshake auth fs) ∧
    (∀ tok, Sent.authResponse tok ∈ t.trace.sent → Spec.mayProceed o hostname cert = true) := by
  simp only [dialTLS] at h
  cases hs : setupTLSConfig o with
  | error e => rw [hs] at h; cases h
  | ok c =>
    cases setupTLSConfig_ok hs
    rw [hs] at h
    simp only [accepts_eq_mayProceed o hostname port cert hp] at h
    by_cases hm : Spec.mayProceed o hostname cert = true
    · simp only [hm, if_true] at h; cases h
      exact ⟨hm.symm, nofun, fun _ => rfl, fun _ _ => hm⟩
    · simp only [hm] at h; cases h
      exact ⟨by simpa using hm, fun _ => ⟨rfl, rfl, rfl⟩, nofun, fun _ h => nomatch h⟩

/-- non-vacuity: host verification on, CA given; the node presents a certificate for another name → rejected, nothing
    sent; the right certificate → the password token goes out -/
example : (dialTLS ⟨none, true, .valid, .absent, .absent⟩ (strBytes "node-b") (strBytes "9042")
    ⟨[strBytes "node-a"], .fileCA⟩ (some (.pw ⟨[117], [112], []⟩))
    [.supported, .authenticate (strBytes "org.apache.cassandra.auth.PasswordAuthenticator"), .authSuccess []]).toOption =
    some ⟨strBytes "node-b", false, .stop .errTlsVerify⟩ := by
  simp only [dialTLS, handshake_pw, approve, effectiveList, strBytes_fun]; decide +kernel
example : (dialTLS ⟨none, true, .valid, .absent, .absent⟩ (strBytes "node-b") (strBytes "9042")
    ⟨[strBytes "node-b"], .fileCA⟩ (some (.pw ⟨[117], [112], []⟩))
    [.supported, .authenticate (strBytes "org.apache.cassandra.auth.PasswordAuthenticator"), .authSuccess []]).toOption.map
      (·.trace.sent) = some [.options, .startup, .authResponse [0, 117, 0, 112]] := by
  simp only [dialTLS, handshake_pw, approve, effectiveList, strBytes_fun]; decide +kernel

/-- `NewSession` refuses a configuration with both an Authenticator and an AuthProvider before dialling anything;
    every other configuration dials and connects as above. -/
theorem C20_session_config (cfg : AuthCfg) (host : Nat) (fs : List SFrame) :
    (cfg.static.isSome = true → cfg.provider.isSome = true → newSession cfg host fs = (.stop .errBoth, 0)) ∧
    ((cfg.static = none ∨ cfg.provider.isNone = true) → newSession cfg host fs = (connect cfg host fs, 1)) := by
  obtain ⟨st, pv⟩ := cfg
  constructor
  · intro h1 h2; simp only at h1 h2; simp [newSession, h1, h2]
  · rintro (h | h) <;> simp only at h <;> simp_all [newSession]

/-- non-vacuity: a provider with credentials for host 7 only, host 1 dialled, server demands
    authentication → error after OPTIONS, STARTUP; host 7 gets the token -/
example : connect ⟨none, some (fun h => if h = 7 then .auth (some (.pw ⟨[117], [112], []⟩)) else .auth none)⟩ 1
    [.supported, .authenticate (strBytes "org.apache.cassandra.auth.PasswordAuthenticator"), .authSuccess []] =
    { sent := [.options, .startup], calls := [], provCalls := [1], outcome := .errAuthRequired } := by decide +kernel
example : (connect ⟨none, some (fun h => if h = 7 then .auth (some (.pw ⟨[117], [112], []⟩)) else .auth none)⟩ 7
    [.supported, .authenticate (strBytes "org.apache.cassandra.auth.PasswordAuthenticator"), .authSuccess []]).sent =
    [.options, .startup, .authResponse [0, 117, 0, 112]] := by
  simp only [connect, ↓reduceIte, handshake_pw, approve, effectiveList, strBytes_fun]; decide +kernel

/-! ## several hosts, one session: the authenticator of a connection is a function of (configuration, host) -/

/-- PER-HOST AUTHENTICATION, for every configuration (static Authenticator, AuthProvider with any host-dependent
    answers, both, neither), every number of hosts, every sequence of connections of one session — pool connections
    through the session-wide `*ConnConfig`, control-connection dials through a copy of it, in every order, hosts
    re-dialled any number of times — and every frame sequence each node answers with:
    (1) the trace of the i-th connection is what ONE connection to that host with that configuration gives
        (`connect cfg host fs`): nothing is carried over from the connections opened before it;
    (2) the session-wide configuration object is the same after the connections as before (`Conn.init` only reads it);
    (3) hence, at every position, the AuthProvider is consulted exactly once and for the host being dialled, and
        every AUTH_RESPONSE that leaves the client is the token of THAT host's own authenticator
        (`Spec.credentials cfg host`), for password credentials only in reply to a class approved by THAT
        authenticator's list. -/
theorem C20_auth_per_host (cfg : AuthCfg) (ds : List Dial) :
    session cfg ds = ds.map (fun d => connect cfg d.host d.fs) ∧
    sessFinal initConn cfg ds = cfg ∧
    (∀ i (hi : i < ds.length) (hj : i < (session cfg ds).length),
      ((session cfg ds)[i]).provCalls = (if cfg.provider.isSome then [ds[i].host] else []) ∧
      ∀ tok, Sent.authResponse tok ∈ ((session cfg ds)[i]).sent →
        ∃ a, Spec.credentials cfg ds[i].host = some (some a) ∧
          (∀ p, a = .pw p → ∃ cls tl, ds[i].fs = .supported :: .authenticate cls :: tl ∧
            approve cls p.allowed = true ∧ tok = plainToken p.user p.pass) ∧
          (∀ rs sf, a = .custom rs sf → tok ∈ rs.map (·.resp))) := by
  obtain ⟨(h1' : session cfg ds = ds.map fun d => connect cfg d.host d.fs), h2⟩ :=
    sessRun_readonly initConn cfg (fun _ _ => rfl) ds
  refine ⟨h1', h2, ?_⟩
  intro i hi hj
  have he : (session cfg ds)[i] = connect cfg ds[i].host ds[i].fs := by
    simp [h1']
  rw [he]
  exact ⟨(C20_auth_resolution cfg ds[i].host ds[i].fs).2.2,
    fun tok hm => C20_credentials_per_host cfg ds[i].host ds[i].fs tok hm⟩

/-- The same in terms of what each NODE observes, for the nodes of the scenarios (a node demands authentication
    advertising its own authenticator class and accepts the first token, or demands none): for every configuration
    and every sequence of (pool | control, host, node), the observation of every connection — provider consulted for,
    first token received, connection established — is `Spec.expectFor cfg host node`: the token ITS authenticator
    would send and only if ITS allow-list approves the advertised class.  (`Spec.expectFor` is written without the
    handshake code; this theorem makes the op `sessauth` spec-backed.) -/
theorem C20_session_observations (cfg : AuthCfg) (ds : List (Via × Nat × Spec.Node)) :
    (session cfg (ds.map (fun d => ⟨d.1, d.2.1, d.2.2.script⟩))).map observe =
      ds.map (fun d => Spec.expectFor cfg d.2.1 d.2.2) := by
  rw [(C20_auth_per_host cfg _).1, List.map_map, List.map_map]
  exact List.map_congr_left fun d _ => observe_connect_node cfg d.2.1 d.2.2

/-- COUNTEREXAMPLE for the pinned variant (`initPinned`: `Conn.init` stores the authenticator obtained from the
    AuthProvider in the configuration object it was handed, and later connections find it there): a provider with
    alice's credentials (allow-list: class A only) for host 1 and bob's (class B only) for host 2, both nodes
    advertise class A; pool connection to host 1, then to host 2.  The second node receives ALICE's token although
    host 2's own authenticator does not approve class A (the property demands: no token, no session) — and a
    control-connection dial made after the pool connection carries the pin too, whereas one made before does not.
    `session` (the code that exists) gives the demanded observations on the same input. -/
theorem C20_cex_pinned_auth :
    let clsA := strBytes "A"
    let clsB := strBytes "B"
    let cfg : AuthCfg := ⟨none, some (fun h => if h = 1 then .auth (some (.pw ⟨[97], [49], [clsA]⟩))
                                               else .auth (some (.pw ⟨[98], [50], [clsB]⟩)))⟩
    let nodeA := (Spec.Node.auth clsA).script
    (sessRun initPinned cfg [⟨.pool, 1, nodeA⟩, ⟨.pool, 2, nodeA⟩]).map observe =
      [⟨[1], some [0, 97, 0, 49], true⟩, ⟨[], some [0, 97, 0, 49], true⟩] ∧
    (session cfg [⟨.pool, 1, nodeA⟩, ⟨.pool, 2, nodeA⟩]).map observe =
      [⟨[1], some [0, 97, 0, 49], true⟩, ⟨[2], none, false⟩] ∧
    [Spec.expectFor cfg 1 (.auth clsA), Spec.expectFor cfg 2 (.auth clsA)] =
      [⟨[1], some [0, 97, 0, 49], true⟩, ⟨[2], none, false⟩] ∧
    (sessRun initPinned cfg [⟨.control, 2, nodeA⟩, ⟨.pool, 1, nodeA⟩, ⟨.control, 2, nodeA⟩]).map observe =
      [⟨[2], none, false⟩, ⟨[1], some [0, 97, 0, 49], true⟩, ⟨[], some [0, 97, 0, 49], true⟩] := by
  decide +kernel

/-- where the pinned variant and the code agree: with a static Authenticator (or none) and no provider, for every
    sequence of connections -/
theorem C20_pinned_same_without_provider (st : Option AuthImpl) (ds : List Dial) :
    sessRun initPinned ⟨st, none⟩ ds = session ⟨st, none⟩ ds := by
  -- without a provider the pinned `Conn.init` has nothing to store: it only reads, like the code
  rw [(sessRun_readonly initPinned ⟨st, none⟩ (fun _ _ => by cases st <;> rfl) ds).1]
  exact ((sessRun_readonly initConn ⟨st, none⟩ (fun _ _ => rfl) ds).1.trans
    (List.map_congr_left fun _ _ => by cases st <;> rfl)).symm

/-! ## every dialer configuration: HostDialer / Dialer / defaults × SslOpts; several dials, one shared tls.Config -/

/-- EVERY DIALER.  For every cluster configuration (HostDialer set or not, Dialer set or not, SslOpts absent or any
    options and files), every host (hostname or none, IPv4 / IPv6 connect address, any port text without a colon;
    `[48]` is the text "0": `HostInfo.port == 0`, which `DialHost` refuses with "host missing port"),
    every certificate the node presents:
    (1) the `Dialer` field never changes what is dialled or how it is wrapped (a caller's TCP dialer cannot switch
        TLS off);
    (2) a caller's `HostDialer` is the only thing called — SslOpts (and its files) are not even looked at
        (documented: "SslOpts is ignored if HostDialer is set");
    (3) otherwise bad CA / key-pair files are an error before anything is dialled;
    (4) otherwise the TCP dial goes to the CONNECT ADDRESS (never the hostname), and what the node sees and the caller
        gets is `Spec.dialDemand`: with SslOpts a TLS handshake is started on EVERY connection and the connection is
        handed on exactly when `Spec.mayProceed` (documented table, expected name = ServerName else the host's
        name, the CAs the client was given); without SslOpts the connection is plain and coalescing stays allowed;
        when verifying, the ServerName handed to crypto/tls is the expected name; a node the caller's own verification
        callback rejects is never handed on when the caller supplied a Config (the derived config still carries it). -/
theorem C20_every_dialer (c : DialCfg) (d : DialTry) :
    (∀ b, dialHost { c with dialer := b } d = dialHost c d) ∧
    (c.hostDialer = true → dialHost c d = .ok ⟨none, none, .caller⟩) ∧
    (∀ o e, c.hostDialer = false → c.ssl = some o → setupTLSConfig o = .error e → dialHost c d = .error e) ∧
    (∀ ip obs, c.hostDialer = false → d.host.ip = some ip → d.host.port ≠ [48] → colon ∉ d.host.port →
      d.dialOk = true → dialHost c d = .ok obs →
        obs.tcp = some (joinHostPort ip d.host.port) ∧
        obs.demand = Spec.dialDemand c.ssl d.host.name d.cert d.veto ∧
        (c.ssl = none → obs.res = .plain) ∧
        (∀ o, c.ssl = some o → obs.res ≠ .plain ∧
          (Spec.mustVerify o = true → obs.serverName = some (Spec.expectedName o d.host.name)))) := by
  refine ⟨?_, ?_, ?_, ?_⟩
  · intro b
    simp only [dialHost, connConfig_dialer c b]
    cases connConfig c with
    | error e => rfl
    | ok k => cases k <;> rfl
  · intro h
    simp [dialHost, connConfig, h]
  · intro o e hh hs he
    simp [dialHost, connConfig, hh, hs, he]
  · intro ip obs hh hip hport hp hok h
    obtain ⟨hd, dl, ssl⟩ := c
    simp only at hh
    subst hh
    cases ssl with
    | none =>
      simp only [dialHost, connConfig, Bool.false_eq_true, if_false, dialDefault, hip, hport, hok, Bool.not_true,
        Except.ok.injEq] at h
      subst h
      exact ⟨rfl, rfl, fun _ => rfl, fun o ho => by cases ho⟩
    | some o =>
      cases hs : setupTLSConfig o with
      | error e => simp [dialHost, connConfig, hs] at h
      | ok t =>
        cases setupTLSConfig_ok hs
        have hacc := accepts_eq_mayProceed o d.host.name d.host.port d.cert hp
        simp only [dialHost, connConfig, Bool.false_eq_true, if_false, hs, dialDefault, hip, hport, hok, Bool.not_true,
          wrapCode, trustOf, cbOf, hacc, Except.ok.injEq] at h
        subst h
        refine ⟨rfl, ?_, (fun h => by cases h), ?_⟩
        · simp only [DialObs.demand, Spec.dialDemand]
          cases (Spec.mayProceed o d.host.name d.cert && !(o.cfg.isSome && d.veto)) <;> rfl
        · intro o' ho'
          cases ho'
          exact ⟨by split <;> nofun, fun hv => by rw [serverName_when_verifying o d.host.name d.host.port hp hv]⟩

/-- non-vacuity: the caller's own Dialer, host verification on, CA given: node b presenting node a's certificate is
    refused after a TLS handshake was started; the TCP dial went to the address, the name checked is the host's -/
example : (dialHost ⟨false, true, some ⟨none, true, .valid, .absent, .absent⟩⟩
    ⟨⟨strBytes "b", some (strBytes "10.0.0.2"), strBytes "9042"⟩, true, ⟨[strBytes "a"], .fileCA⟩, false⟩).toOption =
    some ⟨some (strBytes "10.0.0.2:9042"), some (strBytes "b"), .errTls⟩ := by
  simp only [strBytes_fun]; decide +kernel
example : (dialHost ⟨false, false, none⟩
    ⟨⟨strBytes "b", some (strBytes "::1"), strBytes "9042"⟩, true, ⟨[], .rogue⟩, false⟩).toOption =
    some ⟨some (strBytes "[::1]:9042"), none, .plain⟩ := by decide +kernel

/-- non-vacuity: the caller's Config (InsecureSkipVerify even) with a callback that rejects the node: refused -/
example : (dialHost ⟨false, false, some ⟨some ⟨true, [], false, 0⟩, false, .absent, .absent, .absent⟩⟩
    ⟨⟨strBytes "b", some (strBytes "10.0.0.2"), strBytes "9042"⟩, true, ⟨[strBytes "b"], .rogue⟩, true⟩).toOption.map (·.res) =
    some .errTls := by decide +kernel

/-- SEVERAL DIALS, ONE SHARED tls.Config.  For every configuration and every sequence of dials of one session's
    dialer (any hosts in any order, re-dials, failing TCP dials, hosts without address or port in between):
    (1) the i-th dial is what ONE dial of that host with that configuration gives (`dialHost`): no server name, no
        verification setting is carried over from the dials made before it;
    (2) the dialer's `*tls.Config` is the same after the dials as before (`tlsConfigForAddr` writes to a clone);
    (3) hence, for the dials that reach a node, what every node sees and every caller gets is `Spec.dialDemand` of
        THAT host — a function of (configuration, host, certificate).  (This makes the op `dialsec` spec-backed.) -/
theorem C20_tls_per_dial (c : DialCfg) (ds : List DialTry) (obs : List DialObs) (h : dialAll c ds = .ok obs) :
    obs.length = ds.length ∧
    (∀ i (hi : i < ds.length) (hj : i < obs.length), dialHost c ds[i] = .ok obs[i]) ∧
    (∀ b tls, connConfig c = .ok (.dflt b tls) → dialFinal wrapCode (trustOf c) (cbOf c) tls ds = tls) ∧
    (c.hostDialer = false →
      (∀ d ∈ ds, d.host.ip.isSome = true ∧ d.host.port ≠ [48] ∧ colon ∉ d.host.port ∧ d.dialOk = true) →
      obs.map DialObs.demand = ds.map (fun d => Spec.dialDemand c.ssl d.host.name d.cert d.veto)) := by
  obtain ⟨f, rfl, hf⟩ := dialAll_ok h
  refine ⟨by simp, fun i hi hj => by simp [hf], ?_, ?_⟩
  · intro b tls _
    exact (dialSeq_readonly wrapCode (fun _ _ => rfl) (trustOf c) (cbOf c) tls ds).2
  · intro hh hv
    rw [List.map_map]
    refine List.map_congr_left fun d hd => ?_
    obtain ⟨hip, hport, hp, hok⟩ := hv d hd
    obtain ⟨ip, hip⟩ := Option.isSome_iff_exists.mp hip
    -- the fourth clause of `C20_every_dialer` for this dial; its second part is the demand
    obtain ⟨-, hdemand, -⟩ := (C20_every_dialer c d).2.2.2 ip (f d) hh hip hport hp hok (hf d)
    exact hdemand

/-- COUNTEREXAMPLE for the pinned variant (`wrapPinned`: the server name is filled in on the dialer's shared config
    instead of a per-dial clone): no SslOptions.Config, host verification on, CA given; host "a" is dialled first,
    then host "b", whose node presents a certificate valid for "a" only (signed by the same CA — e.g. node a's own
    certificate on another machine).  The pinned variant checks the second node against the name "a" and ACCEPTS
    it; the code that exists checks it against "b" and refuses, as `Spec.dialDemand` demands. -/
theorem C20_cex_pinned_server_name :
    let o : SslOpts := ⟨none, true, .valid, .absent, .absent⟩
    let c : DialCfg := ⟨false, false, some o⟩
    let certA : ServerCert := ⟨[strBytes "a"], .fileCA⟩
    let da : DialTry := ⟨⟨strBytes "a", some (strBytes "10.0.0.1"), strBytes "9042"⟩, true, certA, false⟩
    let db : DialTry := ⟨⟨strBytes "b", some (strBytes "10.0.0.2"), strBytes "9042"⟩, true, certA, false⟩
    (dialSeq wrapPinned (trustOf c) (cbOf c) (some ⟨false, [], true, 0, false⟩) [da, db]).map (·.res) = [.tls, .tls] ∧
    (dialAll c [da, db]).toOption.map (·.map (·.res)) = some [.tls, .errTls] ∧
    [Spec.dialDemand c.ssl da.host.name da.cert false, Spec.dialDemand c.ssl db.host.name db.cert false] =
      [⟨true, true⟩, ⟨true, false⟩] ∧
    (dialAll c [db, da]).toOption.map (·.map (·.res)) = some [.errTls, .tls] := by
  decide +kernel

/-! ## the credentials influence nothing but the token -/

/-- NON-INTERFERENCE.  Two password authenticators with the same allow-list but ANY user names and passwords give,
    for every server frame sequence, the same connection attempt up to the bytes of the PLAIN token: the same
    requests in the same order, the same calls, the same outcome.  So nothing the driver reports about an attempt —
    the error it returns, the lines its logger prints (all of them functions of the outcome and of what the SERVER
    sent) — can depend on the user name or the password; the only place they go is the AUTH_RESPONSE body. -/
theorem C20_credentials_noninterference (p p' : PwAuth) (ha : p.allowed = p'.allowed) (fs : List SFrame) :
    (handshake (some (.pw p)) fs).redact = (handshake (some (.pw p')) fs).redact := by
  rcases handshake_split fs with ⟨cls, rest, rfl⟩ | hs
  · rw [handshake_pw, handshake_pw, ha]
    cases approve cls p'.allowed <;> simp [Trace.redact, Trace.pre, Sent.redact]
  · rw [hs (some (.pw p)), hs (some (.pw p'))]

/-- … and so for every sequence of connections of a session (pool / control, any hosts, any order) -/
theorem C20_session_noninterference (p p' : PwAuth) (ha : p.allowed = p'.allowed) (ds : List Dial) :
    (session ⟨some (.pw p), none⟩ ds).map Trace.redact = (session ⟨some (.pw p'), none⟩ ds).map Trace.redact := by
  rw [(C20_auth_per_host _ ds).1, (C20_auth_per_host _ ds).1, List.map_map, List.map_map]
  apply List.map_congr_left
  intro d _
  exact C20_credentials_noninterference p p' ha d.fs

/-- non-vacuity: the tokens themselves do differ -/
example : handshake (some (.pw ⟨[97], [49], []⟩))
      [.supported, .authenticate (strBytes "org.apache.cassandra.auth.PasswordAuthenticator"), .authSuccess []] ≠
    handshake (some (.pw ⟨[98], [50], []⟩))
      [.supported, .authenticate (strBytes "org.apache.cassandra.auth.PasswordAuthenticator"), .authSuccess []] := by
  simp only [handshake_pw, approve, effectiveList, strBytes_fun]; decide +kernel

/-! ## histories in one process: sessions over time, tokens held across further Challenge calls -/

/-- one session: the verdict of the derived config is the property's demand on the option values it was derived from -/
theorem verdict_setup (o : SslOpts) : verdictOf (setupTLSConfig o) = Spec.sessionVerdict o := by
  have hC : ((o.ca = .absent || o.ca = .valid) && ((o.cert = .absent && o.key = .absent) || keyPairLoads o.cert o.key)) =
      decide (filesError o = none) := by simp [filesError_eq_none]
  rw [setupTLSConfig_eq, Spec.sessionVerdict, hC, mustVerify_eq]
  cases filesError o with
  | some e => rfl
  | none => simp only [verdictOf]; cases (derived o).insecure <;> rfl

/-- HISTORY INDEPENDENCE.  For every sequence of sessions created in one process and every way the option values
    change in between (the same caller tls.Config with InsecureSkipVerify / ServerName flipped back and forth, the
    same paths with files rewritten, removed, repaired, EnableHostVerification toggled): the dial config of the k-th
    session is `setupTLSConfig` of the values AT THAT MOMENT — a function of the current values only — and so its
    verdict is the property's demand on those values: bad files are an error every time they are bad, otherwise the
    documented table decides every time.  (This makes the op `tlshist` spec-backed.) -/
theorem C20_config_history_independent (os : List SslOpts) :
    histRun deriveCode () os = os.map setupTLSConfig ∧
    (histRun deriveCode () os).map verdictOf = os.map Spec.sessionVerdict := by
  have h := histRun_stateless deriveCode setupTLSConfig (fun _ _ => rfl) () os
  refine ⟨h, ?_⟩
  rw [h, List.map_map]
  exact List.map_congr_left (fun o _ => verdict_setup o)

/-- COUNTEREXAMPLE for the cached variant (`deriveCached`: the config derived the first time "the same options" —
    same Config object, same paths, same EnableHostVerification — are seen is kept): the caller's Config is
    InsecureSkipVerify=true for the first session and false for the second → the second session still does not
    verify; a CA file that is valid for the first session and unreadable for the second is not reported.  The code
    that exists gives the demanded verdicts on the same histories. -/
theorem C20_cex_cached_config :
    let o1 : SslOpts := ⟨some ⟨true, [], false, 0⟩, false, .absent, .absent, .absent⟩
    let o2 : SslOpts := ⟨some ⟨false, [], false, 0⟩, false, .absent, .absent, .absent⟩
    let c1 : SslOpts := ⟨none, true, .valid, .absent, .absent⟩
    let c2 : SslOpts := ⟨none, true, .unreadable, .absent, .absent⟩
    (histRun deriveCached [] [o1, o2]).map verdictOf = [.noverify, .noverify] ∧
    (histRun deriveCode () [o1, o2]).map verdictOf = [.noverify, .verify] ∧
    [Spec.sessionVerdict o1, Spec.sessionVerdict o2] = [.noverify, .verify] ∧
    (histRun deriveCached [] [c1, c2]).map verdictOf = [.verify, .verify] ∧
    (histRun deriveCode () [c1, c2]).map verdictOf = [.verify, .error] := by decide

/-- RETURNED-BUFFER INDEPENDENCE.  For every sequence of `Challenge` calls on any password authenticators (any
    credentials, allow-lists, class names — several connections, several hosts, interleaved in any order), with every
    caller still holding the slice it was returned: what each caller reads in its token AFTER all the calls is the
    PLAIN token of ITS OWN authenticator (or nothing, if that call was refused) — no later call touches an earlier
    caller's bytes.  Together with C20_credentials_per_host: the AUTH_RESPONSE body built from a held token is the
    own host's token however many other handshakes ran in between.  (Makes `tokalias` / `tokpar` spec-backed.) -/
theorem C20_tokens_not_aliased (cs : List ChalCall) :
    held (chalRun placeCode [] [] cs) = cs.map (fun c => challenge c.1 c.2) ∧
    (∀ i (hi : i < cs.length) (hj : i < (held (chalRun placeCode [] [] cs)).length) t,
      (held (chalRun placeCode [] [] cs))[i] = some t →
        approve cs[i].2 cs[i].1.allowed = true ∧ t = plainToken cs[i].1.user cs[i].1.pass) := by
  have h' : held (chalRun placeCode [] [] cs) = cs.map (fun c => challenge c.1 c.2) :=
    chalRun_fresh cs [] [] nofun
  refine ⟨h', ?_⟩
  intro i hi hj t ht
  simp only [h', List.getElem_map] at ht
  exact challenge_eq_some.mp ht

/-- COUNTEREXAMPLE for the pooled variant (`placePooled`: one scratch buffer re-used by every call while the
    returned slices still point into it): alice's Challenge, then bob's; alice's caller now reads BOB's bytes
    (cut to the length of her token) — what would go into the AUTH_RESPONSE for alice's node. -/
theorem C20_cex_pooled_token :
    let alice : PwAuth := ⟨[97, 108], [49, 49], []⟩
    let bob : PwAuth := ⟨[98, 111], [50, 50], []⟩
    let cls := strBytes "org.apache.cassandra.auth.PasswordAuthenticator"
    held (chalRun placePooled [] [] [(alice, cls), (bob, cls)]) =
      [some [0, 98, 111, 0, 50, 50], some [0, 98, 111, 0, 50, 50]] ∧
    held (chalRun placeCode [] [] [(alice, cls), (bob, cls)]) =
      [some [0, 97, 108, 0, 49, 49], some [0, 98, 111, 0, 50, 50]] := by decide +kernel

end C20
