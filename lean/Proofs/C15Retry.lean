import Model.PagingRetry
import Proofs.C15Paging
/-! The retry model (`Model/PagingRetry.lean`), what the property theorems of `Proofs/C15.lean` use about it: what a failed
    attempt does to a fetch (`runR_fail`), which state the requests of one attempt carry (`states_here`), and that the
    outcome of a fetch depends on the rest of the script only through the later fetches (`runR_congr`). -/
namespace C15Retry
open Paging PagingRetry

/-- a failed attempt either ends the fetch — this request, no row, an error — or the fetch goes on with the
    rest of the script (same host or next), for the same page -/
theorem runR_fail (pol : Option Policy) (nodes : Nat) (q0 : Qry) (manualC : Bool) (f : Fail) (d : Dec)
    (rest : List RReply) (c : Bool) (att h : Nat) (q : Qry) :
    (∃ f' a, runR pol nodes q0 manualC (.fail f d :: rest) c att h q =
      { rows := [], reqs := prep c q ++ [request q], err := some f', atts := a }) ∨
    (∃ h' id o, o = runR pol nodes q0 manualC rest true (att + 1) h' (setIdent q id) ∧
      runR pol nodes q0 manualC (.fail f d :: rest) c att h q =
        { o with reqs := (prep c q ++ [request q]) ++ o.reqs, atts := (att + 1) :: o.atts }) := by
  generalize hs : RReply.fail f d :: rest = script
  -- of the arms of `runR` those for a failed attempt remain; each ends the fetch or goes on with the rest
  fun_cases runR pol nodes q0 manualC script c att h q <;> cases hs <;>
    first | exact Or.inl ⟨_, _, rfl⟩ | exact Or.inr ⟨_, _, _, rfl, rfl⟩

theorem firstState_setIdent (q : Qry) (id : Option Nat) : firstState (setIdent q id) = firstState q := by
  cases id <;> simp [setIdent, firstState]

theorem states_here (c : Bool) (q : Qry) (l : List Req) :
    (prep c q ++ request q :: l).filterMap reqState = firstState q :: l.filterMap reqState := by
  have h1 : (prep c q).filterMap reqState = [] := by unfold prep; split <;> rfl
  have h2 : reqState (request q) = some (firstState q) := by simp [reqState, request, firstState]
  rw [List.filterMap_append, h1, List.filterMap_cons_some h2]; rfl

/-- Ignore and Rethrow are the same decision about a failed fetch -/
def ignoreToRethrow : RReply → RReply
  | .fail f .ignore => .fail f .rethrow
  | r => r

theorem runR_congr (pol : Option Policy) (nodes : Nat) (q0 : Qry) (manualC : Bool) (r : RReply)
    (rest rest' : List RReply)
    (hr : ∀ c att h q, runR pol nodes q0 manualC rest c att h q = runR pol nodes q0 manualC rest' c att h q)
    (c : Bool) (att h : Nat) (q : Qry) :
    runR pol nodes q0 manualC (r :: rest) c att h q = runR pol nodes q0 manualC (r :: rest') c att h q := by
  cases r with
  | page rows st => cases st <;> simp only [runR, hr]
  | _ => simp only [runR, hr]

end C15Retry
