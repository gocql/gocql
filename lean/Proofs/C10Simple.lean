import Model.Placement
import Proofs.C10Lookup
/-! SimpleStrategy — the code's walk equals "first rf distinct nodes clockwise": the distinct elements of a list in order of first
occurrence (`Spec.firsts`, `take_firsts`; `dedup sh` = the same without the elements of a seen-list `sh`), the closed form of the
inner loop (`simpleWalk_eq`), rotation at the owner index = clockwise order on a sorted ring (`rot_owner_eq_clockwise`), and the
replica ring read at a token (`replicasFor_simple`; sorting the already sorted map changes nothing, `sortReps_of_sorted`). -/
namespace C10Simple
open Placement C10Lookup

theorem nodup_snoc {α : Type} {l : List α} {x : α} (h : l.Nodup) (hx : x ∉ l) : (l ++ [x]).Nodup := by
  rw [List.nodup_append]
  refine ⟨h, by simp, ?_⟩
  intro a ha b hb e
  subst e
  exact hx (List.mem_singleton.mp hb ▸ ha)

theorem mem_firsts {α : Type} [DecidableEq α] (l : List α) (x : α) : x ∈ Spec.firsts l ↔ x ∈ l := by
  induction l with
  | nil => simp [Spec.firsts]
  | cons a l ih =>
    simp only [Spec.firsts, List.mem_cons, List.mem_filter, ih, ne_eq, decide_not, Bool.not_eq_eq_eq_not,
      Bool.not_true, decide_eq_false_iff_not]
    by_cases h : x = a <;> simp [h]

theorem nodup_firsts {α : Type} [DecidableEq α] (l : List α) : (Spec.firsts l).Nodup := by
  induction l with
  | nil => simp [Spec.firsts]
  | cons a l ih =>
    simp only [Spec.firsts, List.nodup_cons]
    exact ⟨by simp [List.mem_filter], List.Sublist.nodup List.filter_sublist ih⟩

theorem firsts_of_nodup {α : Type} [DecidableEq α] (l : List α) (h : l.Nodup) : Spec.firsts l = l := by
  induction l with
  | nil => rfl
  | cons a l ih =>
    rw [List.nodup_cons] at h
    simp only [Spec.firsts, ih h.2]
    congr 1
    rw [List.filter_eq_self]
    intro x hx
    simp only [ne_eq, decide_not, Bool.not_eq_eq_eq_not, Bool.not_true, decide_eq_false_iff_not]
    intro hxa; subst hxa; exact h.1 hx

/-- the first `rf` distinct elements of `l`: none twice, and min(rf, number of distinct elements) of them, a number that only
depends on which elements occur -/
theorem take_firsts {α : Type} [DecidableEq α] (l l' : List α) (rf : Nat) (h : ∀ x, x ∈ l ↔ x ∈ l') :
    ((Spec.firsts l).take rf).Nodup ∧ ((Spec.firsts l).take rf).length = min rf (Spec.firsts l').length := by
  refine ⟨List.Sublist.nodup (List.take_sublist _ _) (nodup_firsts _), ?_⟩
  rw [List.length_take, (List.perm_ext_iff_of_nodup (nodup_firsts l) (nodup_firsts l')).mpr
    (fun a => by rw [mem_firsts, mem_firsts, h])|>.length_eq]

/-- the elements of `l` not in `sh`, first occurrences only, in order -/
def dedup {α : Type} [DecidableEq α] (sh : List α) : List α → List α
  | [] => []
  | h :: r => if h ∈ sh then dedup sh r else h :: dedup (sh ++ [h]) r

theorem dedup_eq_filter_firsts {α : Type} [DecidableEq α] (l sh : List α) :
    dedup sh l = (Spec.firsts l).filter (fun x => decide (x ∉ sh)) := by
  fun_induction dedup sh l with
  | case1 => rfl
  | case2 sh h rest hm ih =>
    rw [ih, Spec.firsts, List.filter_cons, if_neg (by simpa using hm), List.filter_filter]
    refine List.filter_congr fun x _ => ?_
    by_cases hx : x ∈ sh
    · simp [hx]
    · simp [hx, show x ≠ h from fun e => hx (e ▸ hm)]
  | case3 sh h rest hm ih =>
    rw [ih, Spec.firsts, List.filter_cons, if_pos (by simpa using hm), List.filter_filter]
    congr 1
    refine List.filter_congr fun x _ => ?_
    by_cases hx : x ∈ sh <;> by_cases hxh : x = h <;> simp [hx, hxh]

theorem dedup_nil_eq_firsts {α : Type} [DecidableEq α] (l : List α) : dedup [] l = Spec.firsts l := by
  rw [dedup_eq_filter_firsts]; simp

/-- closed form of the inner loop: `seen` always equals `replicas`; the result is the accumulated list plus the
first not yet seen distinct hosts, up to `rf` in total. -/
theorem simpleWalk_eq (rf : Nat) : ∀ (l acc : List Host),
    simpleWalk rf (acc, acc) l =
      (acc ++ (dedup acc l).take (rf - acc.length), acc ++ (dedup acc l).take (rf - acc.length))
  | [], acc => by simp [simpleWalk, dedup]
  | h :: rest, acc => by
    rw [simpleWalk, dedup]
    by_cases hlen : acc.length < rf
    · rw [if_pos hlen]
      by_cases hmem : h ∈ acc
      · rw [if_pos hmem, if_pos hmem, simpleWalk_eq rf rest acc]
      · have h1 : rf - acc.length = (rf - (acc ++ [h]).length) + 1 := by
          rw [List.length_append, List.length_singleton]; omega
        rw [if_neg hmem, if_neg hmem, simpleWalk_eq rf rest (acc ++ [h]), h1, List.take_succ_cons,
          List.append_assoc, List.singleton_append]
    · rw [if_neg hlen, show rf - acc.length = 0 by omega]
      simp

theorem simpleWalk_init (rf : Nat) (l : List Host) :
    (simpleWalk rf ([], []) l).1 = (Spec.firsts l).take rf := by
  rw [simpleWalk_eq rf l [], dedup_nil_eq_firsts]
  rfl

theorem mem_clockwise {β : Type} (ring : List (Int × β)) (t : Int) (x : Int × β) :
    x ∈ Spec.clockwise ring t ↔ x ∈ ring := by
  unfold Spec.clockwise
  simp only [List.mem_append, List.mem_filter, decide_eq_true_eq]
  constructor
  · rintro (h | h) <;> exact h.1
  · intro h
    by_cases hx : t ≤ x.1
    · exact Or.inl ⟨h, hx⟩
    · exact Or.inr ⟨h, by omega⟩

theorem filter_sorted {β : Type} (l : List (Int × β)) (t : Int) (hs : Sorted l) :
    l.filter (fun e => decide (t ≤ e.1)) = l.drop (l.findIdx (fun e => decide (t ≤ e.1))) ∧
    l.filter (fun e => decide (e.1 < t)) = l.take (l.findIdx (fun e => decide (t ≤ e.1))) := by
  induction l with
  | nil => simp
  | cons a r ih =>
    have hs' : Sorted r := (List.pairwise_cons.mp hs).2
    have hall := (List.pairwise_cons.mp hs).1
    rw [List.findIdx_cons]
    by_cases ha : t ≤ a.1
    · simp only [ha, decide_true, cond_true, List.drop_zero, List.take_zero]
      refine ⟨?_, ?_⟩
      · rw [List.filter_eq_self]
        intro x hx
        rcases List.mem_cons.mp hx with rfl | hx
        · simpa using ha
        · have := hall x hx
          simp only [decide_eq_true_eq]; omega
      · rw [List.filter_eq_nil_iff]
        intro x hx
        rcases List.mem_cons.mp hx with rfl | hx
        · simp only [decide_eq_true_eq]; omega
        · have := hall x hx
          simp only [decide_eq_true_eq]; omega
    · have ha' : a.1 < t := by omega
      simp only [ha, decide_false, cond_false, List.drop_succ_cons, List.take_succ_cons]
      rw [List.filter_cons, List.filter_cons]
      simp only [ha, decide_false, Bool.false_eq_true, if_false, ha', decide_true, if_true]
      exact ⟨(ih hs').1, by rw [(ih hs').2]⟩

theorem rot_owner_eq_clockwise {β : Type} (l : List (Int × β)) (t : Int) (hs : Sorted l) :
    rot l (Spec.ownerIdx l t) = Spec.clockwise l t := by
  unfold rot Spec.clockwise Spec.ownerIdx
  obtain ⟨h1, h2⟩ := filter_sorted l t hs
  rw [h1, h2]
  by_cases h : l.findIdx (fun e => decide (t ≤ e.1)) < l.length
  · simp [h]
  · simp only [h, if_false, List.drop_zero, List.take_zero, List.append_nil]
    rw [List.drop_of_length_le (by omega), List.take_of_length_le (by omega)]
    simp

theorem sortReps_of_sorted (l : ReplicaRing) (hs : Sorted l) : sortReps l = l :=
  foldr_ins_of_pairwise insertRep (fun e x => e.1 ≤ x.1) (fun _ => rfl) (fun _ _ _ => rfl) l
    (hs.imp (fun h => Int.le_of_lt h))

theorem perm_sortReps (l : ReplicaRing) : (sortReps l).Perm l :=
  perm_foldr_ins insertRep (fun e x => e.1 ≤ x.1) (fun _ => rfl) (fun _ _ _ => rfl) l

theorem tokens_mapped (ring : List Entry) (g : Nat → List Host) :
    ((List.range ring.length).map (fun i => (tokAt ring i, g i))).map (·.1) = ring.map (·.1) := by
  apply List.ext_getElem
  · simp
  · intro i h1 h2
    simp only [List.length_map, List.length_range] at h1
    simp [tokAt_eq ring i h1]

theorem replicasFor_simple (ring : List Entry) (rf : Nat) (t : Int) (hs : Sorted ring) (hne : ring ≠ []) :
    replicasFor (simpleReplicaMap rf ring) t =
      some (tokAt ring (Spec.ownerIdx ring t), simpleReplicasAt rf ring (Spec.ownerIdx ring t)) := by
  have hcol := tokens_mapped ring (simpleReplicasAt rf ring)
  have hs' : Sorted ((List.range ring.length).map (fun i => (tokAt ring i, simpleReplicasAt rf ring i))) := by
    rw [sorted_iff_tokens, hcol, ← sorted_iff_tokens]; exact hs
  have hne' : (List.range ring.length).map (fun i => (tokAt ring i, simpleReplicasAt rf ring i)) ≠ [] := by
    simpa using hne
  unfold simpleReplicaMap
  rw [sortReps_of_sorted _ hs', replicasFor_sorted _ t hs' hne']
  simp [ownerIdx_congr _ ring hcol]

end C10Simple
