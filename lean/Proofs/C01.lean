import Proofs.C01Mux
import Proofs.C01Monitor
import Proofs.C01Rx
import Proofs.C01Own
import Proofs.C01Refine
import Proofs.C01Pool
/-!
# C01 — every response reaches the request that caused it, and only that one (property theorems)

Model: `Model/Mux.lean` — per wire identifier: the call that holds it (allocator bit + `c.calls` entry)
and what the server side holds for it; per call a program counter. `deliver s` hands the response to
whoever is REGISTERED for `s` (as `recv` does: `c.calls[head.stream]`), while the response's origin is
a ghost field; the theorems show the two always coincide. All theorems: every action list (any number
of callers, any answer order incl. never, any mix of timeouts / cancellations / write failures / close).
Then, each under its own heading: the receive loop at byte level (`MuxRx`), the connection's own requests and the sender's
steps (`MuxOwn`), its release window and several connections, the refinement of `Mux` by `MuxOwn`, pooled call objects (`MuxPool`).
-/
namespace C01
open Mux

/-- whenever a caller takes a response from its rendezvous, it is the response to its own request … -/
theorem C01_routing (cap : Nat) (as : List Act) (st : St) (h : run (init cap) as = some st)
    (d c k w : Nat) (hr : st.pc d = .done (.resp c k w)) : c = d :=
  ((inv_reach h).resp_ok d c k w hr).1

/-- … and what it decodes — kind (opcode, result kind / error code, header flags) and token content — is
    what the server answered to THAT request, whatever mix of kinds the server uses for the requests in
    flight and whatever other frames (events, frames for unknown ids) it interleaves -/
theorem C01_routing_content (cap : Nat) (as : List Act) (st : St) (h : run (init cap) as = some st)
    (d c k w : Nat) (hr : st.pc d = .done (.resp c k w)) : st.sent d = some (k, w) := by
  have inv := inv_reach h
  have := (inv.resp_ok d c k w hr).1
  subst this
  exact (inv.resp_ok c c k w hr).2.2

/-- while a request (or its unconsumed response) is outstanding on id `s`, `s` stays reserved for the
    call that sent it — also after that call timed out or was cancelled — … -/
theorem C01_no_reuse_while_late (cap : Nat) (as : List Act) (st : St) (h : run (init cap) as = some st)
    (s c : Nat) (hw : st.wire s = .pending c ∨ ∃ k w, st.wire s = .answered c k w) : st.owner s = some c := by
  have := (inv_reach h).wire_own s
  grind

/-- … hence the allocator cannot hand `s` to another request until the late response has arrived -/
theorem C01_late_response_not_misdelivered (cap : Nat) (as : List Act) (st : St)
    (h : run (init cap) as = some st) (s c c' : Nat)
    (hw : st.wire s = .pending c ∨ ∃ k w, st.wire s = .answered c k w) : step st (.acquire c' s) = none := by
  have := C01_no_reuse_while_late cap as st h s c hw
  simp [step, this]

/-- every reserved id is in 1..cap-1 -/
theorem C01_ids_in_range (cap : Nat) (as : List Act) (st : St) (h : run (init cap) as = some st)
    (s c : Nat) (ho : st.owner s = some c) : 1 ≤ s ∧ s < st.cap := by
  have := (inv_reach h).own_pc s c ho
  exact ⟨this.2.1, this.2.2.1⟩

/-- Soundness of the observation monitor that ties this model to the code: the observable projection
    (`req` / `resp` seen by the server, `got` seen by the callers) of EVERY run of the machine is accepted by
    `Mon` — the monitor that `vdrv C01` runs over the observations of real connections never rejects a
    behaviour of the model. Hence a `reject:` on a real run is never an artefact of the monitor. -/
theorem C01_monitor_sound (cap : Nat) (as : List Act) (st : St) (h : run (init cap) as = some st) :
    (Mon.run (Mon.init cap) (trace (init cap) as)).bad = none :=
  (sim_reach h).ok

/-- … and the monitor's bookkeeping is exact: after the run it holds an unanswered request on `s` with
    token `t` iff the server side still holds the unanswered request of call `t` on `s` -/
theorem C01_monitor_exact (cap : Nat) (as : List Act) (st : St) (h : run (init cap) as = some st) (s t : Nat) :
    (Mon.run (Mon.init cap) (trace (init cap) as)).lookup s = some (t, false) ↔ st.wire s = .pending t :=
  (sim_reach h).pend s t

/-- … and so is its record of what the server answered to which request (kind and token content) -/
theorem C01_monitor_answers_exact (cap : Nat) (as : List Act) (st : St) (h : run (init cap) as = some st)
    (t : Nat) (p : Nat × Nat) :
    (Mon.run (Mon.init cap) (trace (init cap) as)).answer t = some p ↔ st.sent t = some p :=
  (sim_reach h).ans t p

/-- non-vacuity: a history with a timeout, a late reply and a reuse — caller 1 times out on id 5, caller 2
    runs on id 6, the late answer for caller 1 is released, then caller 3 gets id 5 and its own response
    (that id 5 is refused before the late answer has come is the last example of this section). -/
def lateReplyHistory : List Act :=
  [.acquire 1 5, .wrote 1, .timeout 1, .acquire 2 6, .wrote 2, .answer 5 0 1, .event, .deliver 5, .acquire 3 5, .wrote 3,
   .stray 63, .answer 5 2 3, .deliver 5, .answer 6 17 2, .deliver 6]

example : ∃ st, run (init 128) lateReplyHistory = some st ∧
    st.pc 1 = .done .timeout ∧ st.pc 2 = .done (.resp 2 17 2) ∧ st.pc 3 = .done (.resp 3 2 3) ∧ st.owner 5 = none := by
  refine ⟨_, rfl, ?_, ?_, ?_, ?_⟩ <;> decide

example : trace (init 128) lateReplyHistory =
    [.req 5 1, .req 6 2, .resp 5 1 0 1, .event, .req 5 3, .stray 63, .resp 5 3 2 3, .got 3 2 3, .resp 6 2 17 2, .got 2 17 2] := by
  decide

/-- the monitor has teeth: two requests in flight answered with different kinds, the caller of the first
    reports the kind of the second (a frame header shared between two frames) — rejected; so is a response
    reported for a request the server never answered, and a second response for one call -/
example : (Mon.run (Mon.init 128) [.req 5 1, .req 6 2, .resp 5 1 0 1, .resp 6 2 2 2, .got 1 2 1]).bad.isSome = true := by
  decide
example : (Mon.run (Mon.init 128) [.req 5 1, .req 6 2, .resp 5 1 0 1, .got 2 0 2]).bad.isSome = true := by decide
example : (Mon.run (Mon.init 128) [.req 5 1, .resp 5 1 0 1, .got 1 0 1, .got 1 0 1]).bad.isSome = true := by decide
example : (Mon.run (Mon.init 128) [.req 5 1, .req 6 2, .resp 5 1 0 1, .resp 6 2 2 2, .got 2 2 2, .got 1 0 1]).bad = none := by
  decide

example : (do let st ← run (init 128) [.acquire 1 5, .wrote 1, .timeout 1]; step st (.acquire 2 5)).isNone = true := by
  decide

/-! ## The receive loop at byte level (`Model/MuxRx.lean`)

The machine above hands "the response for id s" to the call registered for s. That presupposes that the
receive loop cuts the server's byte stream into the frames the server sent, whatever the write boundaries
(several frames in one write, one frame in several) and whatever the pauses (shorter or longer than the
read deadline), and that each call finds ITS frame's header and body in what it is handed. -/

open Rx in
/-- Conn.Read: what it returns is a prefix of the byte stream, its count is the number of bytes it put
    into `p` over ALL its attempts (never more than asked), all of them when it reports success, and the
    socket is left exactly behind them -/
theorem C01_rx_read_exact (dl : Bool) (src : Src) (k : Nat) :
    (connRead dl maxAttempts src k).1 ++ bytes (connRead dl maxAttempts src k).2.2 = bytes src ∧
    (connRead dl maxAttempts src k).1.length ≤ k ∧
    ((connRead dl maxAttempts src k).2.1 = .ok → (connRead dl maxAttempts src k).1.length = k) :=
  connRead_prefix dl maxAttempts src k

open Rx in
/-- with fewer than five deadline expiries before the k-th byte (or no deadline at all) it returns exactly the
    next k bytes and leaves the socket behind them -/
theorem C01_rx_read_ok (dl : Bool) (src : Src) (k : Nat) (h : k ≤ (bytes src).length)
    (he : dl = true → expiriesBefore k src < maxAttempts) :
    connRead dl maxAttempts src k = ((bytes src).take k, .ok, dropBytes k src) :=
  (connRead_cases dl src k h).resolve_right fun ht => by have := he ht.2.1; omega

open Rx in
/-- FULL property (the code after the repair of KF-C01-1):
     ∀ frames `fs` well-formed for the protocol, ∀ sockets `src` carrying exactly their encoding (cut and
     delayed in ANY way, any number of read deadlines expiring anywhere), `recv` hands every frame, own header
     and own body, to the call registered for its stream id and never anything else to any call — either all
     of them (`⟨dispatch cs fs, eof⟩`), or, when a body read gave up after five read deadlines, exactly the
     frames before that one, nothing of the frame the loop ended in, and the loop ends with the time-out error
     (Conn.serve closes the connection): it never goes on reading inside a body. -/
theorem C01_rx_sync (proto : Nat) (hp1 : 1 ≤ proto) (hp5 : proto ≤ 5) (dl : Bool) (fs : List Frame)
    (cs : Calls) (src : Src) (hwf : ∀ f ∈ fs, f.wf proto) (hb : bytes src = encodeAll proto fs) :
    recv proto dl cs src = ⟨dispatch cs fs, .eof⟩ ∨
    ∃ n f d r, fs[n]? = some f ∧ r ≠ .ok ∧
      recv proto dl cs src = ⟨(dispatch cs fs).take n ++ [⟨d, r, f.h, []⟩], .tmo⟩ :=
  (recvLoop_sync proto hp1 hp5 dl fs _ cs src (frames_le_bytes proto fs src hb) hwf hb).imp_right And.right

open Rx in
/-- … and when fewer than five read deadlines expire while any ONE frame body is awaited (`Calm`; any number
    may expire while a header is awaited, and between frames) nothing is lost: the first alternative -/
theorem C01_rx_sync_calm (proto : Nat) (hp1 : 1 ≤ proto) (hp5 : proto ≤ 5) (dl : Bool) (fs : List Frame)
    (cs : Calls) (src : Src) (hwf : ∀ f ∈ fs, f.wf proto) (hb : bytes src = encodeAll proto fs)
    (hcalm : dl = true → Calm proto fs src) :
    recv proto dl cs src = ⟨dispatch cs fs, .eof⟩ :=
  (recvLoop_sync proto hp1 hp5 dl fs _ cs src (frames_le_bytes proto fs src hb) hwf hb).resolve_right
    fun h => h.1.2 (hcalm h.1.1)

open Rx in
/-- without a read deadline (Config.Timeout = 0) nothing is ever lost -/
theorem C01_rx_sync_no_deadline (proto : Nat) (hp1 : 1 ≤ proto) (hp5 : proto ≤ 5) (fs : List Frame)
    (cs : Calls) (src : Src) (hwf : ∀ f ∈ fs, f.wf proto) (hb : bytes src = encodeAll proto fs) :
    recv proto false cs src = ⟨dispatch cs fs, .eof⟩ :=
  C01_rx_sync_calm proto hp1 hp5 false fs cs src hwf hb (by simp)

/-! Regression (kernel-checked; the replay input `rxk 4 1 1,2 - 840000010800…` of KF-C01-1 for the real
    code): the server answers the request on stream 1 with ONE well-formed frame, whose 11-byte body stalls
    after its first byte for five read deadlines. Conn.Read gives up; readFrame wraps the timeout with %w,
    recv finds the net.Error and returns it: the loop ends, nothing is handed to call 1, and call 2 — to which
    the server has sent nothing — gets nothing. (Before the repair recv handed the error to call 1 and went on
    reading "headers" from the rest of that body, which here looks like a frame for stream 2: call 2 was
    handed bytes of the answer to call 1.) -/
namespace Cex
open Rx
def inner : Frame := ⟨⟨0x84, 0, 2, 8, 1⟩, [0xBB]⟩
def answer1 : Frame := ⟨⟨0x84, 0, 1, 8, 11⟩, 0xAA :: encode 4 inner⟩
def calls : Calls := [(1, true), (2, true)]
def socket : Src :=
  (encodeHdr 4 answer1.h).map some ++ [some 0xAA, none, none, none, none, none] ++ (encode 4 inner).map some
end Cex

open Rx in
set_option maxRecDepth 8192 in
theorem C01_rx_stalled_body_closes :
    Cex.answer1.wf 4 ∧ bytes Cex.socket = encodeAll 4 [Cex.answer1] ∧
    recv 4 true Cex.calls Cex.socket = ⟨[⟨.call, .lost, Cex.answer1.h, []⟩], .tmo⟩ := by
  refine ⟨by decide, by decide, by decide⟩

/-- non-vacuity of `C01_rx_sync_calm`: two frames in one write, the second cut inside its header and
    inside its body with four expiries in the body, an event frame in between -/
example : ∃ fs src, (∀ f ∈ fs, Rx.Frame.wf 3 f) ∧ Rx.bytes src = Rx.encodeAll 3 fs ∧ Rx.Calm 3 fs src ∧
    (Rx.recv 3 true [(5, true), (9, false)] src).recs.length = 3 := by
  refine ⟨[⟨⟨0x83, 0, 5, 8, 2⟩, [1, 2]⟩, ⟨⟨0x83, 0, -1, 12, 1⟩, [7]⟩, ⟨⟨0x83, 2, 9, 0, 3⟩, [4, 5, 6]⟩],
    (Rx.encode 3 ⟨⟨0x83, 0, 5, 8, 2⟩, [1, 2]⟩ ++ Rx.encode 3 ⟨⟨0x83, 0, -1, 12, 1⟩, [7]⟩).map some ++
      [some 0x83, none, none, none, none, none, none, some 2, some 0, some 9, some 0, some 0, some 0, some 0, some 3,
       none, some 4, none, none, some 5, none, some 6, none], ?_, ?_, ?_, ?_⟩
  · decide
  · decide
  · simp only [Rx.Calm]; decide
  · decide

/-! ## The connection's OWN requests and the sender's steps (`Model/MuxOwn.lean`)

The heartbeat's OPTIONS, `USE`, PREPARE, REGISTER and user requests share the stream ids and the `c.calls` map of one
connection; a call goes through reserve → register → write → writeReturned. Configuration `Cfg.code` = the code that
exists: the call is registered BEFORE its frame is written, heartBeat does nothing on an ERROR answer. All theorems:
every action list (any number of calls of any kind, any answer kinds, answers arriving while the sender is still
inside Write, timeouts / cancellations / write failures / close at any point). -/

/-- whatever a call is handed — user request or the connection's own — is the frame the peer sent FOR ITS stream id,
    or an error of the connection that carries no frame: never a frame (response or ERROR) the peer addressed to another
    request, neither as a response nor as an error value -/
theorem C01_no_foreign_frame (cap : Nat) (as : List MuxOwn.Act) (st : MuxOwn.St)
    (h : MuxOwn.run .code (MuxOwn.init cap) as = some st) (c : Nat) (o : MuxOwn.Outcome) (hd : st.pc c = .done o) :
    (∀ f, o = .resp f → st.sent c = some f ∧ f.sid = st.sidOf c) ∧ (∀ e, o = .connErr e → e = .plain) := by
  have inv := MuxOwn.inv_reach h
  constructor
  · intro f hf; subst hf; exact inv.resp_ok c f hd
  · intro e he; subst he; exact inv.at_pc hd

/-- closeWithError never runs with a frame of the peer as its error value -/
theorem C01_close_error_is_no_frame (cap : Nat) (as : List MuxOwn.Act) (st : MuxOwn.St)
    (h : MuxOwn.run .code (MuxOwn.init cap) as = some st) (e : MuxOwn.CErr) (hc : st.closed = some e) : e = .plain :=
  (MuxOwn.inv_reach h).closed_plain e hc

/-- in every state in which a frame for id `s` can arrive (the peer holds the request, or its answer is under way —
    also while the sender has not come back from Write), a handler for `s` is registered: the call that sent it -/
theorem C01_registered_before_written (cap : Nat) (as : List MuxOwn.Act) (st : MuxOwn.St)
    (h : MuxOwn.run .code (MuxOwn.init cap) as = some st) (s c : Nat)
    (hw : st.wire s = .pending c ∨ ∃ f, st.wire s = .answered c f) : st.reg s = some c := by
  exact (MuxOwn.inv_reach h).wire_reg s c hw

/-- … hence no answer is ever discarded for want of a handler -/
theorem C01_no_response_lost (cap : Nat) (as : List MuxOwn.Act) (st : MuxOwn.St)
    (h : MuxOwn.run .code (MuxOwn.init cap) as = some st) (c : Nat) : st.lost c = false :=
  (MuxOwn.inv_reach h).not_lost c

/-- … and when the receive loop holds the whole answer for `s`, the call it answers is registered under `s` and has
    started; while in flight it is so under `s` and registered (in Write or waiting), else it has given up or is done -/
theorem C01_answer_has_receiver (cap : Nat) (as : List MuxOwn.Act) (st : MuxOwn.St)
    (h : MuxOwn.run .code (MuxOwn.init cap) as = some st) (s c : Nat) (f : MuxOwn.Frame)
    (hw : st.wire s = .answered c f) :
    st.reg s = some c ∧ st.pc c ≠ .idle ∧ (∀ s' r wr ret, st.pc c = .flight s' r wr ret → s' = s ∧ r = true) := by
  have inv := MuxOwn.inv_reach h
  have hr := inv.wire_reg s c (.inr ⟨f, hw⟩)
  have := inv.reg_pc s c hr
  exact ⟨hr, this.2.2.1, this.2.2.2.1⟩

/-- the code that exists: heartBeat's reaction to an ERROR answer changes nothing (the `TODO` arm) -/
theorem C01_heartbeat_error_ignored (st st' : MuxOwn.St) (c : Nat) (f : MuxOwn.Frame)
    (hp : st.pc c = .done (.resp f)) (hk : f.kind = 1)
    (hs : MuxOwn.step .code st (.hbReact c) = some st') : st'.closed = st.closed ∧ st'.pc = st.pc := by
  simp only [MuxOwn.step, hp, MuxOwn.Cfg.code, hk] at hs
  split at hs
  · injection hs with hs; subst hs; simp
  · simp at hs

/-- Counterexample for the variant that registers the call only AFTER the write has returned (seeded change C01-5):
    the peer answers before Write returns, the receive loop finds no handler and discards the answer; the call then
    registers and waits for an answer that will never come (nothing is left on the wire). Replay: `dr 3 0 0 !q5 d1 w1`. -/
theorem C01_cex_register_after_write :
    ∃ st, MuxOwn.run { lateRegister := true, hbErrFatal := false } (MuxOwn.init 128)
        [.reserve 1 5 .user, .write 1, .answer 5 0 1, .deliver 5, .writeReturned 1, .register 1] = some st ∧
      st.lost 1 = true ∧ st.pc 1 = .flight 5 true true true ∧ st.wire 5 = .none := by
  refine ⟨_, rfl, ?_, ?_, ?_⟩ <;> decide

/-- Counterexample for the variant in which heartBeat treats an ERROR answer as fatal and closes the connection with
    that frame as the error value (seeded change C01-6): user call 1 (stream 5) is handed the ERROR frame that the peer
    addressed to the heartbeat's stream 6. Replay: `dr 3 0 1 q5 h A2:E4097 h`. -/
theorem C01_cex_heartbeat_error_fatal :
    ∃ st, MuxOwn.run { lateRegister := false, hbErrFatal := true } (MuxOwn.init 128)
        [.reserve 1 5 .user, .register 1, .write 1, .writeReturned 1,
         .reserve 2 6 .heartbeat, .register 2, .write 2, .writeReturned 2,
         .answer 6 1 77, .deliver 6, .hbReact 2, .connDone 1] = some st ∧
      st.pc 1 = .done (.connErr (.frame ⟨6, 1, 77⟩)) ∧ st.sidOf 1 = 5 := by
  refine ⟨_, rfl, ?_, ?_⟩ <;> decide

/-- non-vacuity (the code that exists): the same two histories end well — the answer that arrives while the sender is
    inside Write waits for it and is handed over; the heartbeat's ERROR answer leaves the user call waiting, which then
    gets its own response -/
example : ∃ st, MuxOwn.run .code (MuxOwn.init 128)
    [.reserve 1 5 .user, .register 1, .write 1, .answer 5 0 1, .writeReturned 1, .deliver 5, .release 1, .relDone 1] = some st ∧
    st.pc 1 = .done (.resp ⟨5, 0, 1⟩) ∧ st.lost 1 = false ∧ st.owner 5 = none := by
  refine ⟨_, rfl, ?_, ?_, ?_⟩ <;> decide

example : MuxOwn.step .code ((MuxOwn.run .code (MuxOwn.init 128)
    [.reserve 1 5 .user, .register 1, .write 1, .answer 5 0 1]).getD (MuxOwn.init 0)) (.deliver 5) = none := by decide

example : ∃ st, MuxOwn.run .code (MuxOwn.init 128)
    [.reserve 1 5 .user, .register 1, .write 1, .writeReturned 1,
     .reserve 2 6 .heartbeat, .register 2, .write 2, .writeReturned 2,
     .answer 6 1 77, .deliver 6, .hbReact 2, .answer 5 0 9, .deliver 5] = some st ∧
    st.pc 1 = .done (.resp ⟨5, 0, 9⟩) ∧ st.closed = none := by
  refine ⟨_, rfl, ?_, ?_⟩ <;> decide

/-! ## Schedule points inside exec's exits and releaseStream; several connections

`releaseStream` frees the id (`release`: streams.Clear) and then runs user code (the StreamObserver's StreamFinished
callback) before it returns (`relDone`): between the two a new request may be given the very same id, register itself
and write. The exits of exec before anything was written (`buildFailed`, `writeCancelled`) free the id too. All
theorems: every action list of the machine in the configuration of the code that exists. -/

/-- whenever a call is about to free its id (streams.Clear has not run yet) it still holds the id, it is NO LONGER
    registered under it (recv's look-up or the early exit removed the registration BEFORE) and the peer holds nothing
    for it: the id becomes free only when no response for it can arrive and nobody is registered under it -/
theorem C01_release_window_safe (cap : Nat) (as : List MuxOwn.Act) (st : MuxOwn.St)
    (h : MuxOwn.run .code (MuxOwn.init cap) as = some st) (c : Nat) (hr : st.rel c = .due) :
    st.owner (st.sidOf c) = some c ∧ st.wire (st.sidOf c) = .none ∧ (st.closed = none → st.reg (st.sidOf c) = none) := by
  have := (MuxOwn.inv_reach h).rel_ok c hr
  exact ⟨this.1, this.2.1, this.2.2.1⟩

/-- while a handler is registered for `s` on an open connection the id is held by that very call: the allocator cannot
    hand `s` to another request, whatever other calls are doing inside releaseStream -/
theorem C01_registered_id_is_held (cap : Nat) (as : List MuxOwn.Act) (st : MuxOwn.St)
    (h : MuxOwn.run .code (MuxOwn.init cap) as = some st) (s d : Nat) (hr : st.reg s = some d) (ho : st.closed = none)
    (c' : Nat) (w : MuxOwn.Who) : st.owner s = some d ∧ MuxOwn.step .code st (.reserve c' s w) = none := by
  have := ((MuxOwn.inv_reach h).reg_pc s d hr).1 ho
  refine ⟨this, ?_⟩
  simp [MuxOwn.step, this]

/-- the second sentence of the property on the finer machine: while the peer holds the request of call `c` on id `s`, or
    its answer is under way - also after `c` timed out or was cancelled, and whatever other calls are doing inside
    releaseStream - `s` is held by `c` and no other request can be given it -/
theorem C01_own_no_reuse_while_late (cap : Nat) (as : List MuxOwn.Act) (st : MuxOwn.St)
    (h : MuxOwn.run .code (MuxOwn.init cap) as = some st) (s c : Nat) (ho : st.closed = none)
    (hw : st.wire s = .pending c ∨ ∃ f, st.wire s = .answered c f) (c' : Nat) (w : MuxOwn.Who) :
    st.owner s = some c ∧ MuxOwn.step .code st (.reserve c' s w) = none :=
  C01_registered_id_is_held cap as st h s c (C01_registered_before_written cap as st h s c hw) ho c' w

/-- non-vacuity: call 1 on id 1 is cancelled, call 2 is parked inside releaseStream having freed id 64: id 64 can be
    given out again, id 1 can not -/
example : ∃ st, MuxOwn.run .code (MuxOwn.init 128)
    [.reserve 1 1 .user, .register 1, .write 1, .writeReturned 1, .cancel 1,
     .reserve 2 64 .user, .register 2, .write 2, .writeReturned 2, .answer 64 0 2, .deliver 64, .release 2] = some st ∧
    st.wire 1 = .pending 1 ∧ (MuxOwn.step .code st (.reserve 3 1 .user)).isNone = true ∧
    (MuxOwn.step .code st (.reserve 3 64 .user)).isSome = true := by
  refine ⟨_, rfl, ?_, ?_, ?_⟩ <;> decide

/-- addCall never finds another call registered under the id it was given ("attempting to use stream already in use"
    is dead code as long as ids are freed only after the registration is gone) -/
theorem C01_no_duplicate_registration (cap : Nat) (as : List MuxOwn.Act) (st : MuxOwn.St)
    (h : MuxOwn.run .code (MuxOwn.init cap) as = some st) (c : Nat) : st.pc c ≠ .done .dupErr :=
  (MuxOwn.inv_reach h).at_pc

/-- after an exit of exec before anything was written (buildFrame failed / context done while waiting for the write
    slot) on an open connection, and the release that follows, the id is free, nobody is registered under it and the
    peer holds nothing for it: the next request may use it safely -/
theorem C01_early_exit_frees_id (cap : Nat) (as : List MuxOwn.Act) (st st1 st2 : MuxOwn.St)
    (h : MuxOwn.run .code (MuxOwn.init cap) as = some st) (c : Nat) (ho : st.closed = none)
    (h1 : MuxOwn.step .code st (.writeCancelled c) = some st1 ∨ MuxOwn.step .code st (.buildFailed c) = some st1)
    (h2 : MuxOwn.step .code st1 (.release c) = some st2) :
    st2.owner (st2.sidOf c) = none ∧ st2.reg (st2.sidOf c) = none ∧ st2.wire (st2.sidOf c) = .none := by
  have inv := MuxOwn.inv_reach h
  have inv1 : MuxOwn.Inv st1 := by
    rcases h1 with h1 | h1 <;> exact MuxOwn.inv_step st st1 _ inv h1
  have hc1 : st1.closed = none ∧ st1.rel c = .due := by
    rcases h1 with h1 | h1 <;>
    · simp only [MuxOwn.step] at h1
      split at h1
      · injection h1 with h1; subst h1; simp [MuxOwn.earlyExit, MuxOwn.upd, ho]
      · simp at h1
  have r := inv1.rel_ok c hc1.2
  simp only [MuxOwn.step, hc1.2, if_true] at h2
  injection h2 with h2; subst h2
  simp only [MuxOwn.upd, if_true]
  exact ⟨trivial, r.2.2.1 hc1.1, r.2.1⟩

/-- Counterexample for the variant in which releaseStream removes the `c.calls` entry of its id AFTER it has freed the
    id and run the observer callback (seeded change C01-8): call 1 is answered and, inside releaseStream, has freed id 1;
    call 2 is given id 1, registers and writes; call 1's releaseStream now deletes the entry of id 1 - call 2's; the
    peer's answer to call 2 finds no handler and is discarded. Replay: `ds 2 0 q5% d1 q5 q5 f1 d3`. -/
theorem C01_cex_delete_after_clear :
    ∃ st, MuxOwn.run { lateRegister := false, hbErrFatal := false, lateDelete := true } (MuxOwn.init 128)
        [.reserve 1 1 .user, .register 1, .write 1, .writeReturned 1, .answer 1 0 1, .deliver 1, .release 1,
         .reserve 2 1 .user, .register 2, .write 2, .writeReturned 2, .relDone 1, .answer 1 0 2, .deliver 1] = some st ∧
      st.lost 2 = true ∧ st.pc 2 = .flight 1 true true true ∧ st.wire 1 = .none := by
  refine ⟨_, rfl, ?_, ?_, ?_⟩ <;> decide

/-- non-vacuity (the code that exists): the same history ends well - the second holder of id 1 gets its own answer -/
example : ∃ st, MuxOwn.run .code (MuxOwn.init 128)
    [.reserve 1 1 .user, .register 1, .write 1, .writeReturned 1, .answer 1 0 1, .deliver 1, .release 1,
     .reserve 2 1 .user, .register 2, .write 2, .writeReturned 2, .relDone 1, .answer 1 0 2, .deliver 1] = some st ∧
    st.pc 1 = .done (.resp ⟨1, 0, 1⟩) ∧ st.pc 2 = .done (.resp ⟨1, 0, 2⟩) ∧ st.lost 2 = false := by
  refine ⟨_, rfl, ?_, ?_, ?_⟩ <;> decide

/-- non-vacuity of the early exits: call 2 waits for the write slot behind call 1, its context is cancelled, its id is
    freed and at once reused by call 3, which gets its own answer -/
example : ∃ st, MuxOwn.run .code (MuxOwn.init 128)
    [.reserve 1 1 .user, .register 1, .write 1, .reserve 2 64 .user, .register 2, .writeCancelled 2, .release 2, .relDone 2,
     .writeReturned 1, .reserve 3 64 .user, .register 3, .write 3, .writeReturned 3, .answer 64 0 3, .deliver 64] = some st ∧
    st.pc 2 = .done .ctxErr ∧ st.pc 3 = .done (.resp ⟨64, 0, 3⟩) := by
  refine ⟨_, rfl, ?_, ?_⟩ <;> decide

/-- SEVERAL CONNECTIONS of one process, their steps interleaved in any way: a call of connection `k` is handed only the
    frame the peer OF CONNECTION `k` sent for its stream id, or an error of connection `k` that carries no frame -
    nothing that happens on another connection (its answers, its close, the error it was closed with, calls leaving it
    early) reaches it: the per-request rendezvous objects are not shared between connections -/
theorem C01_connections_independent (cap : Nat) (as : List (Nat × MuxOwn.Act)) (m : Nat → MuxOwn.St)
    (h : MuxOwn.mrun .code (fun _ => MuxOwn.init cap) as = some m) (k : Nat) :
    MuxOwn.run .code (MuxOwn.init cap) (MuxOwn.proj k as) = some (m k) ∧
    ∀ c o, (m k).pc c = .done o →
      (∀ f, o = .resp f → (m k).sent c = some f ∧ f.sid = (m k).sidOf c) ∧ (∀ e, o = .connErr e → e = .plain) := by
  have hk := MuxOwn.mrun_proj .code as _ m h k
  exact ⟨hk, fun c o hd => C01_no_foreign_frame cap _ (m k) hk c o hd⟩

/-- non-vacuity: connection 1 is closed by its peer while call 1 is inside Write and call 2 left early; call 3 on
    connection 2 gets its own answer -/
example : ∃ m, MuxOwn.mrun .code (fun _ => MuxOwn.init 128)
    [(1, .reserve 1 1 .user), (1, .register 1), (1, .write 1), (1, .reserve 2 64 .user), (1, .register 2), (1, .close),
     (1, .writeCancelled 2), (1, .release 2), (1, .relDone 2), (2, .reserve 3 1 .user), (2, .register 3), (2, .write 3),
     (2, .writeReturned 3), (1, .writeReturned 1), (1, .connDone 1), (2, .answer 1 0 3), (2, .deliver 1)] = some m ∧
    (m 1).pc 1 = .done (.connErr .plain) ∧ (m 1).pc 2 = .done .ctxErr ∧ (m 2).pc 3 = .done (.resp ⟨1, 0, 3⟩) := by
  refine ⟨_, rfl, ?_, ?_, ?_⟩ <;> decide

/-! ## The two machines are one: `Model/MuxOwn.lean` REFINES `Model/Mux.lean` (`Proofs/C01Refine.lean`) -/

/-- REFINEMENT: every run of the machine with the sender's steps, the connection's own requests, the early exits and the
    two-step releaseStream (code configuration) is matched, action by action (`MuxOwn.trAll`), by a run of the abstract
    multiplexing machine that ends in a related state and shows the same observable events `req` / `resp` / `got` /
    `stray` / `event` -/
theorem C01_own_refines_mux (cap : Nat) (as : List MuxOwn.Act) (st : MuxOwn.St)
    (h : MuxOwn.run .code (MuxOwn.init cap) as = some st) :
    ∃ m, Mux.run (Mux.init cap) (MuxOwn.trAll (MuxOwn.init cap) as) = some m ∧ MuxOwn.R st m ∧
      Mux.trace (Mux.init cap) (MuxOwn.trAll (MuxOwn.init cap) as) = MuxOwn.otrace .code (MuxOwn.init cap) as :=
  MuxOwn.sim_run as _ st _ (MuxOwn.inv_init cap) (MuxOwn.R_init cap) h

/-- … hence the observation monitor that judges real Session runs accepts the observable projection of every run of
    the finer machine too (soundness of the monitor, transferred) -/
theorem C01_own_monitor_sound (cap : Nat) (as : List MuxOwn.Act) (st : MuxOwn.St)
    (h : MuxOwn.run .code (MuxOwn.init cap) as = some st) :
    (Mux.Mon.run (Mux.Mon.init cap) (MuxOwn.otrace .code (MuxOwn.init cap) as)).bad = none := by
  obtain ⟨m, hm, _, ht⟩ := C01_own_refines_mux cap as st h
  rw [← ht]
  exact C01_monitor_sound cap _ m hm

/-- … and the routing theorem proved on the abstract machine transfers: what a call of the finer machine is handed is,
    kind and content, what the peer answered to THAT call (here derived from `C01_routing_content` of Mux through the
    refinement, not from MuxOwn's own invariant) -/
theorem C01_own_routing_transferred (cap : Nat) (as : List MuxOwn.Act) (st : MuxOwn.St)
    (h : MuxOwn.run .code (MuxOwn.init cap) as = some st) (d : Nat) (f : MuxOwn.Frame)
    (hd : st.pc d = .done (.resp f)) : (st.sent d).map (fun g => (g.kind, g.tag)) = some (f.kind, f.tag) := by
  obtain ⟨m, hm, r, _⟩ := C01_own_refines_mux cap as st h
  have := C01_routing_content cap _ m hm d d f.kind f.tag (r.pc_resp d f hd)
  rw [← r.sent d]; exact this

/-- non-vacuity: a history with a registration, a late Write return, a cancelled call, a reuse of a freed id and an
    early exit; its Mux counterpart and the common observation stream -/
def refineHistory : List MuxOwn.Act :=
  [.reserve 1 1 .user, .register 1, .write 1, .answer 1 0 11, .writeReturned 1, .deliver 1, .release 1,
   .reserve 2 1 .user, .register 2, .write 2, .writeReturned 2, .relDone 1, .cancel 2,
   .reserve 3 64 .user, .register 3, .writeCancelled 3, .release 3, .relDone 3, .answer 1 0 22, .deliver 1, .stray 99]

example : MuxOwn.trAll (MuxOwn.init 128) refineHistory =
    [.acquire 1 1, .wrote 1, .answer 1 0 11, .deliver 1, .acquire 2 1, .wrote 2, .cancel 2, .acquire 3 64,
     .writeCancelled 3, .answer 1 0 22, .deliver 1, .stray 99] := by rfl

example : MuxOwn.otrace .code (MuxOwn.init 128) refineHistory =
    [.req 1 1, .resp 1 1 0 11, .got 1 0 11, .req 1 2, .resp 1 2 0 22, .stray 99] := by decide

/-! ## Call objects as entities; a pool of them (`Model/MuxPool.lean`)

closeWithError walks a snapshot of POINTERS to call objects and sends the connection's error to whoever reads the channel
of each. The code that exists allocates a fresh call object per request (`Policy.never`). -/

/-- for the code that exists AND for a pool that takes an object back only when no `c.calls` map and no closeWithError
    snapshot refers to it: over all connections, all interleavings of requests starting, being answered, leaving early,
    connections closing and closeWithError getting round to each object - the error of connection `k` is only ever
    handed to a request of connection `k` -/
theorem C01_recycling_safe (p : MuxPool.Policy) (hp : p ≠ .onRelease) (as : List MuxPool.Act) (st : MuxPool.St)
    (h : MuxPool.run p MuxPool.init as = some st) (r k : Nat) (hd : st.pc r = .done (.connErr k)) : st.conn r = k :=
  (MuxPool.inv_run p hp as _ st MuxPool.inv_init h).err_ok r k hd

/-- the invariant that makes it safe: an object that a `c.calls` map or a snapshot refers to is not in the pool, and
    whoever reads its channel is a request of that very connection -/
theorem C01_referenced_object_not_pooled (p : MuxPool.Policy) (hp : p ≠ .onRelease) (as : List MuxPool.Act) (st : MuxPool.St)
    (h : MuxPool.run p MuxPool.init as = some st) (o k : Nat) (hr : st.inCalls o = some k ∨ st.inWalk o = some k) :
    st.pool o = false ∧ ∀ r, st.user o = some r → st.conn r = k := by
  have inv := MuxPool.inv_run p hp as _ st MuxPool.inv_init h
  rcases hr with hr | hr
  · exact ⟨(inv.calls_ok o k hr).1, (inv.calls_ok o k hr).2.2.2⟩
  · exact ⟨(inv.walk_ok o k hr).1, (inv.walk_ok o k hr).2.2⟩

/-- Counterexample for the pool that takes an object back whenever its stream is released (seeded change C01-7):
    connection 1 closes while requests 1 and 2 are inside exec; request 2 leaves through the nothing-written exit and puts
    object 1 back although closeWithError's snapshot still holds it; request 3 on CONNECTION 2 is given object 1; when
    closeWithError(1) gets to object 1, request 3 is handed the error of connection 1.
    Replay: `ds 2 0 !q5 q5 z c2 @2 q5 w1 …`. -/
theorem C01_cex_recycle_on_release :
    ∃ st, MuxPool.run .onRelease MuxPool.init
        [.start 1 1 0, .start 2 1 1, .close 1, .leave 2, .start 3 2 1, .visit 1 1] = some st ∧
      st.pc 3 = .done (.connErr 1) ∧ st.conn 3 = 2 := by
  refine ⟨_, rfl, ?_, ?_⟩ <;> decide

/-- non-vacuity: the safe pool does recycle (object 0 serves request 1 on connection 1, then request 2 on connection
    2), refuses the put-back of the history above (request 3 cannot be given object 1), and the error of connection 1
    reaches request 1 -/
example : ∃ st, MuxPool.run .whenUnreferenced MuxPool.init
    [.start 1 1 0, .respond 1, .start 2 2 0, .respond 2] = some st ∧ st.pc 2 = .done .own ∧ st.pool 0 = true := by
  refine ⟨_, rfl, ?_, ?_⟩ <;> decide

example : (MuxPool.run .whenUnreferenced MuxPool.init
    [.start 1 1 0, .start 2 1 1, .close 1, .leave 2, .start 3 2 1]).isNone = true := by decide

example : ∃ st, MuxPool.run .never MuxPool.init
    [.start 1 1 0, .start 2 1 1, .close 1, .leave 2, .start 3 2 2, .visit 1 1, .visit 1 0, .respond 3] = some st ∧
    st.pc 1 = .done (.connErr 1) ∧ st.pc 2 = .done .ctx ∧ st.pc 3 = .done .own := by
  refine ⟨_, rfl, ?_, ?_, ?_⟩ <;> decide

end C01
