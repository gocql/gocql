/- Bound values: one value (null / unset / bytes, with or without its name) and a counted list of values are read back
   as asked for, and whatever is read satisfies `Val.ok` / `NVal.ok` / `valuesOk`; what `valuesOk` says about names is what
   makes writeQueryParams' look at values[0] alone sufficient. -/
import Proofs.C03Express
namespace C03
open FrameSpec FrameWrite

theorem rdValue_wVal (v : Nat) (x : GVal) (r : Bytes) (h : (askVal x).val.ok v = true) :
    rdValue v (wVal x ++ r) = some ((askVal x).val, r) := by
  unfold wVal askVal at *
  cases hu : x.isUnset with
  | true =>
    simp only [hu, if_true, Val.ok, decide_eq_true_eq] at h ⊢
    have hv : ¬ v < 4 := by omega
    simp [rdValue, rdInt_wInt, hv]
  | false =>
    cases hval : x.value with
    | none =>
      by_cases hv : v < 4 <;> simp [wBytes, rdValue, rdInt_wInt, hv]
    | some b =>
      simp only [hu, hval, Val.ok, fitsInt, decide_eq_true_eq, Bool.false_eq_true, if_false] at h ⊢
      have h2 : (b.length : Int) < 2147483648 := by omega
      have h1 : -2147483648 ≤ (b.length : Int) := by omega
      have h0 : ¬ ((b.length : Int) < 0) := by omega
      simp only [rdValue, wBytes, List.append_assoc, rdInt_wInt _ _ h1 h2, h0, if_false,
        Int.toNat_natCast, takeN_append]

theorem rdNVal_wQVal (v : Nat) (names : Bool) (x : GVal) (r : Bytes) (h : NVal.ok v (askVal x) = true)
    (hn : names = true → x.name ≠ []) (hp : names = false → x.name = []) :
    rdNVal v names (wQVal names x ++ r) = some (askVal x, r) := by
  simp only [NVal.ok, Bool.and_eq_true] at h
  have hval := rdValue_wVal v x r h.2
  -- the name read is the name asked for; the rest is the record put together again
  cases names with
  | true =>
    have hnm : (askVal x).name = some x.name := by simp [askVal, hn rfl]
    have hfs : fitsShort x.name = true := by simpa [hnm, optAll] using h.1
    simp only [rdNVal, wQVal, if_true, List.append_assoc, fString.inv _ _ hfs, hval]
    rw [← hnm]
  | false =>
    have hnm : (askVal x).name = none := by simp [askVal, hp rfl]
    simp only [rdNVal, wQVal, Bool.false_eq_true, if_false, List.nil_append, hval]
    rw [← hnm]

/-- unnamed values written by a bare writeBytes/writeUnset loop (v1 EXECUTE, BATCH) -/
theorem rdNVal_wVal (v : Nat) (x : GVal) (r : Bytes) (h : NVal.ok v (askVal x) = true) (hp : x.name = []) :
    rdNVal v false (wVal x ++ r) = some (askVal x, r) := by
  have := rdNVal_wQVal v false x r h (by simp) (fun _ => hp)
  simpa [wQVal] using this

theorem askVal_name_isNone (x : GVal) : (askVal x).name.isNone = true ↔ x.name = [] := by
  unfold askVal; by_cases h : x.name = [] <;> simp [h]

theorem askVal_name_isSome (x : GVal) : (askVal x).name.isSome = true ↔ x.name ≠ [] := by
  unfold askVal; by_cases h : x.name = [] <;> simp [h]

/-- what `valuesOk` says of the values a Go struct asks for -/
theorem valuesOk_ask (v : Nat) (b : Bool) (vals : List GVal) :
    valuesOk v b (vals.map askVal) = true ↔
      (vals.length ≤ 65535 ∧ ∀ x ∈ vals, NVal.ok v (askVal x) = true) ∧
      ((∀ x ∈ vals, x.name = []) ∨ (b = true ∧ v ≥ 3) ∧ ∀ x ∈ vals, x.name ≠ []) := by
  simp only [valuesOk_iff, List.mem_map, forall_exists_index, and_imp, forall_apply_eq_imp_iff₂, List.length_map,
    ← Option.isNone_iff_eq_none, askVal_name_isNone, askVal_name_isSome]

/-- writeQueryParams looks at values[0] only; for an expressible request that is enough -/
theorem names_consistent (v : Nat) (vals : List GVal) (h : valuesOk v true (vals.map askVal) = true) :
    ∀ x ∈ vals, (namesFlag v vals = true → x.name ≠ []) ∧ (namesFlag v vals = false → x.name = []) := by
  cases vals with
  | nil => intro x hx; simp at hx
  | cons y ys =>
    intro x hx
    simp only [namesFlag, Bool.and_eq_true, decide_eq_true_eq]
    rcases ((valuesOk_ask ..).mp h).2 with hnone | ⟨⟨_, hv⟩, hsome⟩
    · simp [hnone y (by simp), hnone x hx]
    · have hv : v > 2 := by omega
      simp [hsome y (by simp), hsome x hx, hv]

/-- `<n><value_1>...<value_n>` without names -/
theorem rdValues_unnamed (v : Nat) (vals : List GVal) (r : Bytes) (h : valuesOk v false (vals.map askVal) = true) :
    rdCounted (rdNVal v false) (wShort vals.length ++ (vals.flatMap wVal ++ r)) = some (vals.map askVal, r) := by
  obtain ⟨⟨hn, hok⟩, hnames⟩ := (valuesOk_ask ..).mp h
  have hun := hnames.resolve_right (by simp)
  exact rdCounted_flatMap (rdNVal v false) wVal askVal vals r hn
    (fun x hx r => rdNVal_wVal v x r (hok x hx) (hun x hx))

/-- `<n>[name_1]<value_1>...` as writeQueryParams writes it -/
theorem rdValues_named (v : Nat) (vals : List GVal) (r : Bytes) (h : valuesOk v true (vals.map askVal) = true) :
    rdCounted (rdNVal v (namesFlag v vals)) (wShort vals.length ++ (vals.flatMap (wQVal (namesFlag v vals)) ++ r))
      = some (vals.map askVal, r) := by
  obtain ⟨⟨hn, hok⟩, _⟩ := (valuesOk_ask ..).mp h
  have hc := names_consistent v vals h
  exact rdCounted_flatMap (rdNVal v (namesFlag v vals)) (wQVal (namesFlag v vals)) askVal vals r hn
    (fun x hx r => rdNVal_wQVal v _ x r (hok x hx) (hc x hx).1 (hc x hx).2)

/-- the values block of `<query_parameters>`: written, and announced by flag 0x01, exactly when there are values -/
theorem rdValues_flagged (v : Nat) (vals : List GVal) (r : Bytes) (h : valuesOk v true (vals.map askVal) = true) :
    (if decide (vals.length > 0) = true then
      rdCounted (rdNVal v (namesFlag v vals))
        ((if vals.length > 0 then wShort vals.length ++ vals.flatMap (wQVal (namesFlag v vals)) else []) ++ r)
     else some ([], (if vals.length > 0 then wShort vals.length ++ vals.flatMap (wQVal (namesFlag v vals)) else []) ++ r)) =
      some (vals.map askVal, r) := by
  by_cases hn : vals.length > 0
  · simpa [hn, List.append_assoc] using rdValues_named v vals r h
  · simp [List.eq_nil_of_length_eq_zero (Nat.eq_zero_of_not_pos hn)]

theorem rdValue_post {v : Nat} {bs : Bytes} {x : Val} {r : Bytes} (h : rdValue v bs = some (x, r)) :
    x.ok v = true := by
  revert h
  fun_cases rdValue v bs <;> intro h <;> cases h
  -- a negative length: null (three ways), or "not set" from v4; otherwise that many bytes
  · rfl
  · rfl
  · simp only [Val.ok, decide_eq_true_eq]; omega
  · exact takeN_int_post ‹rdInt bs = some _› ‹takeN _ _ = some _›

theorem rdNVal_post {v : Nat} {names : Bool} {bs : Bytes} {x : NVal} {r : Bytes}
    (h : rdNVal v names bs = some (x, r)) : NVal.ok v x = true ∧ x.name.isSome = names := by
  revert h
  fun_cases rdNVal v names bs <;> intro h <;> cases h
  · simp [NVal.ok, optAll, fString.post ‹rdString bs = some _›, rdValue_post ‹rdValue v _ = some _›, ‹names = true›]
  · simp [NVal.ok, optAll, rdValue_post ‹rdValue v bs = some _›, ‹¬ names = true›]

theorem rdValues_post {v : Nat} {names allow : Bool} {bs : Bytes} {xs : List NVal} {r : Bytes}
    (h : rdCounted (rdNVal v names) bs = some (xs, r)) (hn : names = true → allow = true ∧ v ≥ 3) :
    valuesOk v allow xs = true := by
  obtain ⟨hl, hp⟩ := rdCounted_post (rdNVal v names) (fun x => NVal.ok v x = true ∧ x.name.isSome = names)
    rdNVal_post h
  refine valuesOk_iff.mpr ⟨⟨hl, fun x hx => (hp x hx).1⟩, ?_⟩
  cases names with
  | false => exact .inl fun x hx => by simpa using (hp x hx).2
  | true => exact .inr ⟨hn rfl, fun x hx => (hp x hx).2⟩

end C03
