import Proofs.C11
/-! # C11 — live iterators WHILE the topology changes

Property text: "for safety (no panic, no nil host), all interleavings of picks with concurrent host add / remove /
up / down". In the sequential model (every call atomic; `C11_cow_concurrent_linearizable` reduces the concurrent
list calls to that) a schedule is any list of: `Pick` into a slot, one call of the iterator of a slot, somebody
else's pick, and ANY operation of `TAOp` (AddHost / RemoveHost / HostUp / HostDown / KeyspaceChanged / installed
table / counter preset / metadata change) in between. `C11_iterators_independent` needs the lists fixed; here
they change under the feet of the iterators.

What makes it work in the code: `Pick` of the token-aware policy fixes its replica list and - the up/down state of
the host objects being fixed - the hosts of its replica phases (`used`); the fallback policy's `Pick` takes ONE
snapshot of the copy-on-write lists at the call where the iterator leaves its replica phases. So whatever happens
in between, an iterator offers `used ++ (snapshot of the fallback at ONE state tL of the run) minus used`: the invariant
`Slot` of Proofs/C11Slot.lean, kept here along schedules with topology operations (`xslot_run`). -/
namespace C11
open Policies

inductive XOp
  | i (o : IOp)
  | topo (o : TAOp)

def xstep (up : Nat → Bool) (st : TA × (Nat → Option GSlot)) : XOp → TA × (Nat → Option GSlot)
  | .i o => istep up st o
  | .topo o => (st.1.apply o, st.2)

def xrun (up : Nat → Bool) (st : TA × (Nat → Option GSlot)) (sched : List XOp) : TA × (Nat → Option GSlot) :=
  sched.foldl (xstep up) st

theorem xrun_Inv (up : Nat → Bool) (ops : List XOp) (st : TA × (Nat → Option GSlot)) (hp : Inv st.1.pol) :
    Inv (xrun up st ops).1.pol := by
  refine foldl_inv (fun st : TA × (Nat → Option GSlot) => Inv st.1.pol) (xstep up) (fun st o hp => ?_) ops st hp
  cases o with
  | topo o' => exact TAInv_apply st.1 hp o'
  | i o' =>
    show Inv (istep up st o').1.pol
    rcases istep_eq up st o' with e | e <;> rw [e]
    · exact hp
    · exact Inv_ctr _ hp _

theorem xslot_run (up : Nat → Bool) (Q : TA → Prop) (ops : List XOp) :
    ∀ (st : TA × (Nat → Option GSlot)), (∀ n, n ≤ ops.length → Q (xrun up st (ops.take n)).1) →
    (∀ k g, st.2 k = some g → Slot up Q g) → ∀ k g, (xrun up st ops).2 k = some g → Slot up Q g := by
  induction ops with
  | nil => intro st _ hs; exact hs
  | cons o r ih =>
    intro st hQ hs
    have hq : Q st.1 := hQ 0 (Nat.zero_le _)
    refine ih (xstep up st o) (fun n hn => ?_) ?_
    · have := hQ (n + 1) (by simp; omega)
      simpa [xrun] using this
    · cases o with
      | topo o' => exact hs
      | i o' => exact istep_slots up _ st o' (fun σ rk => open_slot up Q st.1 hq σ rk) (fun g hg => next_slot up Q st.1 hq g hg) hs

/-- ITERATORS UNDER TOPOLOGY CHANGES. From any state with the list invariant (every reachable state has it), for EVERY
schedule of `Pick`s into slots, single iterator calls, other picks and ANY topology / metadata operations in any
order, for every live iterator `g` at the end of the schedule:
 * every host it has offered is up (the up/down state of the host objects is fixed; no down host, for every counter);
 * if it has got past its replica phases there is ONE state `tL` of the run (the state after some prefix of the
   schedule: the moment it left its replica phases) such that, below the counter bound in `tL` (KF-C11-3), the
   iterator does not panic, what it has offered and will still offer has no host twice (the replica list of its
   `Pick` having none), and contains EVERY host the fallback policy listed in `tL` that is up - in particular every up
   host that stays listed during the whole run, whatever is added, removed or reported meanwhile. -/
theorem C11_iterator_topology_interleaved (up : Nat → Bool) (t0 : TA) (hp0 : Inv t0.pol) (sched : List XOp)
    (slot : Nat) (g : GSlot) :
    let st := xrun up (t0, fun _ => none) sched
    st.2 slot = some g →
    (∀ x ∈ g.it.given, up x.id = true) ∧
    ∀ sc, g.it.fb = some sc →
      (∀ x ∈ sc.offered, up x.id = true) ∧
      ∃ n, n ≤ sched.length ∧
        let tL := (xrun up (t0, fun _ => none) (sched.take n)).1
        Inv tL.pol ∧
        (Pol.below tL.pol →
          sc.crashed = false ∧ (g.it.used.Nodup → (g.it.given ++ sc.offered).Nodup) ∧
          ∀ h, known tL.pol h → up h.id = true → h ∈ g.it.given ++ sc.offered) := by
  intro st hslot
  obtain ⟨tP, _, hused, hg⟩ := xslot_run up (fun t => ∃ n, n ≤ sched.length ∧ t = (xrun up (t0, fun _ => none) (sched.take n)).1)
    sched (t0, fun _ => none) (fun n hn => ⟨n, hn, rfl⟩) (fun k g hk => by cases hk) slot g hslot
  have hu : ∀ x ∈ g.it.used, up x.id = true := hused ▸ headOf_up tP up g.σ g.rk
  rcases hg with ⟨h1, _, h2⟩ | ⟨sc, tL, h1, _, ⟨n, hn, hq⟩, h6⟩
  · exact ⟨fun x hx => hu x (by rw [← h2]; exact List.mem_append_left _ hx), fun sc hsc => by rw [h1] at hsc; cases hsc⟩
  · have h4 : Inv tL.pol := hq ▸ xrun_Inv up (sched.take n) (t0, fun _ => none) hp0
    have h5 : sc.crashed = (tL.pol.pickScan up).crashed := (congrArg Scan.crashed h6).trans (viaHead_crashed _ _ _)
    replace h6 : g.it.given ++ sc.offered = (viaHead _ g.it.used (tL.pol.pickScan up)).offered := congrArg Scan.offered h6
    have hall : ∀ x ∈ g.it.given ++ sc.offered, up x.id = true := fun x hx =>
      ((mem_viaHead _ _ _ x).mp (h6 ▸ hx)).elim (fun a => hu x a.2) (runScan_up up _ x)
    refine ⟨fun x hx => hall x (List.mem_append_left _ hx), ?_⟩
    intro sc' hsc'
    rw [h1] at hsc'
    injection hsc' with hsc'
    subst hsc'
    refine ⟨fun x hx => hall x (List.mem_append_right _ hx), n, hn, ?_⟩
    show Inv (xrun up (t0, fun _ => none) (sched.take n)).1.pol ∧ _
    rw [← hq]
    refine ⟨h4, fun hb => ?_⟩
    -- below the bound the fallback's scan in `tL` is the ideal sequence: no panic, no duplicates, every known up host
    rw [pickScan_small tL.pol up hb] at h5 h6
    rw [h6]
    exact ⟨h5, fun hnd => viaHead_nodup _ _ _ hnd (pickSeq_nodup tL.pol h4 up),
      fun h hk hup => (mem_viaHead _ _ _ h).mpr (Or.inr ((mem_pickSeq tL.pol h4 up h).mpr ⟨hk, hup⟩))⟩

/-- non-vacuity: rack-aware fallback, iterator A opened on token 50 (replicas a, c), one call; then host b is REMOVED
and host d reported down-and-up again while A is alive; A drained: it offers the replicas first, never b (gone when
it left its replica phases), d once -/
example :
    let sched := [XOp.i (.openI 0 id (some (0, 50))), .i (.nextI 0), .topo (.remove cexB'), .topo (.hostDown cexD'),
      .topo (.hostUp cexD'), .i (.nextI 0), .i (.nextI 0), .i (.nextI 0)]
    let st := xrun (fun _ => true) (cexTAok, fun _ => none) sched
    (st.2 0).map (·.it.given) = some [cexA', cexC', cexD'] ∧
    (st.2 0).map (fun g => g.it.fb.map (·.offered)) = some (some []) := by
  decide

end C11
