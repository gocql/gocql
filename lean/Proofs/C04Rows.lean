/- The cells of well-formed rows through Iter.Scan / Scanner (tuple expansion). First the specification's side: when a cell fits
   its column (`wfCell`) and the recorder calls it stands for (`cellCalls`, `rowCalls`).
   One cell, one column (`scanColumn_ok`), one row (`scanCols_ok`); `AtRows`: an iterator standing before encoded rows, and the one
   induction over them (`scanRows_ok`). What the other consumers do is stated against the recorder loop `scanRows` on any
   iterator; the Scanner is a simulation of Scan (`scanner_of_scan`). -/
import Proofs.C04Types
import Model.Rows
namespace C04
open FrameRead RespSpec Rows

/-! ## what the server means by a row: the destinations it fills -/

/-- a cell fits its column: a tuple column carries null or one `[bytes]` field per element (at least
    one element), any other column null or opaque bytes; sizes fit `[bytes]` -/
def wfCell : TypeDesc → Cell → Bool
  | .tuple es, .null => es.length ≥ 1
  | .tuple es, .tuple fs => es.length ≥ 1 && fs.length == es.length && fs.all optFitsInt && fitsInt (eTupleBody fs)
  | .tuple _, .bytes _ => false
  | _, .null => true
  | _, .bytes b => fitsInt b
  | _, .tuple _ => false

/-- the bytes of the cell as the row carries them -/
def cellData : Cell → Option FrameRead.Bytes
  | .null => none
  | .bytes b => some b
  | .tuple fs => some (eTupleBody fs)

/-- destination `i + j` receives field `j` of a tuple -/
def tupleCalls : Nat → List TypeInfo → List (Option FrameRead.Bytes) → List Call
  | _, [], _ => []
  | i, e :: es, [] => { dest := i, typ := e, data := none } :: tupleCalls (i + 1) es []
  | i, e :: es, f :: fs => { dest := i, typ := e, data := f } :: tupleCalls (i + 1) es fs

/-- the recorder calls the server's cell stands for, first destination `i` -/
def cellCalls (i : Nat) : TypeDesc → Cell → List Call
  | .tuple es, .tuple fs => tupleCalls i (viewTypes es) fs
  | .tuple es, _ => tupleCalls i (viewTypes es) []
  | t, c => [{ dest := i, typ := viewType t, data := cellData c }]

def rowCalls : Nat → List (TypeDesc × Cell) → List Call
  | _, [] => []
  | i, (t, c) :: r => cellCalls i t c ++ rowCalls (i + destWidth t) r

def totalWidth (ts : List TypeDesc) : Nat := (ts.map destWidth).sum

def colOf (ks tb name : FrameRead.Bytes) (t : TypeDesc) : ColumnInfo :=
  { keyspace := ks, table := tb, name := name, typ := viewType t }

theorem tupleCalls_dest (i : Nat) (es : List TypeInfo) (fs : List (Option FrameRead.Bytes)) :
    (tupleCalls i es fs).map (·.dest) = List.range' i es.length := by
  fun_induction tupleCalls i es fs <;> simp_all [List.range'_succ]

theorem cellCalls_dest (i : Nat) (t : TypeDesc) (c : Cell) :
    (cellCalls i t c).map (·.dest) = List.range' i (destWidth t) := by
  cases t <;> cases c <;> simp [cellCalls, destWidth, tupleCalls_dest, viewTypes_length, List.range'_succ]

theorem rowCalls_dest (i : Nat) (tcs : List (TypeDesc × Cell)) :
    (rowCalls i tcs).map (·.dest) = List.range' i (totalWidth (tcs.map (·.1))) := by
  induction tcs generalizing i with
  | nil => simp [rowCalls, totalWidth]
  | cons tc tcs ih =>
    obtain ⟨t, c⟩ := tc
    simp only [rowCalls, List.map_append, cellCalls_dest, ih, totalWidth, List.map_cons, List.sum_cons]
    rw [List.range'_append_1]

theorem rowCalls_length (i : Nat) (tcs : List (TypeDesc × Cell)) :
    (rowCalls i tcs).length = totalWidth (tcs.map (·.1)) := by
  have := congrArg List.length (rowCalls_dest i tcs)
  simpa using this

theorem eInt_length (z : Int) : (eInt z).length = 4 := rfl

theorem eBytes_length_ge (f : Option FrameRead.Bytes) : 4 ≤ (eBytes f).length := by
  cases f <;> simp [eBytes, eInt_length]

/-- Iter.readColumn is marshal.go's readBytes behind the `len < 4` guard -/
theorem readColumn_eq_readField (buf : FrameRead.Bytes) (h : 4 ≤ buf.length) : readColumn buf = readField buf := by
  unfold readColumn readField
  rw [if_neg (by omega)]

theorem readField_eBytes (f : Option FrameRead.Bytes) (r : FrameRead.Bytes) (h : optFitsInt f = true) :
    readField (eBytes f ++ r) = .ok (f, r) := by
  unfold readField
  cases f with
  | none =>
    simp only [eBytes, List.take_left' (eInt_length _), List.drop_left' (eInt_length _),
      int32Of_beNat_eInt (-1) (by decide)]
    rfl
  | some b =>
    have hb : b.length < 2147483648 := by simpa [optFitsInt, fitsInt] using h
    simp only [eBytes, List.append_assoc, List.take_left' (eInt_length _), List.drop_left' (eInt_length _),
      int32Of_beNat_eInt (b.length : Int) (by simp [isInt32]; omega), Int.toNat_natCast]
    rw [if_neg (by omega), if_neg (by simp), List.take_left' rfl, List.drop_left' rfl]

theorem readColumn_eBytes (f : Option FrameRead.Bytes) (r : FrameRead.Bytes) (h : optFitsInt f = true) :
    readColumn (eBytes f ++ r) = .ok (f, r) := by
  rw [readColumn_eq_readField _ (by have := eBytes_length_ge f; simp only [List.length_append]; omega),
    readField_eBytes f r h]

theorem readColumn_eCell (t : TypeDesc) (c : Cell) (r : FrameRead.Bytes) (hw : wfCell t c = true) :
    readColumn (eCell c ++ r) = .ok (cellData c, r) := by
  have hfit : optFitsInt (cellData c) = true := by cases t <;> cases c <;> simp_all [wfCell, cellData, optFitsInt]
  have he : eCell c = eBytes (cellData c) := by cases c <;> rfl
  rw [he, readColumn_eBytes _ r hfit]

/-- the fields of a tuple cell go to consecutive destinations; elements the cell has no field for (all of them for a null or
    empty cell) receive null -/
theorem unmarshalTuple_fields (es : List TypeInfo) (fs : List (Option FrameRead.Bytes)) (i : Nat) (acc : List Call)
    (hf : fs.all optFitsInt = true) :
    unmarshalTuple es (eTupleBody fs) (List.replicate es.length true) i acc
      = .ok (i + es.length) (acc ++ tupleCalls i es fs) := by
  induction es generalizing fs i acc with
  | nil => simp [unmarshalTuple, tupleCalls]
  | cons e es ih =>
    cases fs with
    | nil =>
      have := ih [] (i + 1) (acc ++ [{ dest := i, typ := e, data := none }]) rfl
      simp only [eTupleBody, List.flatMap_nil] at this ⊢
      simp only [List.length_cons, List.replicate_succ, unmarshalTuple, List.length_nil, ge_iff_le,
        show ¬ (4 ≤ 0) by omega, if_false, if_true]
      rw [this]
      simp [tupleCalls, Nat.add_assoc, Nat.add_comm 1]
    | cons f fs =>
      have hf' : optFitsInt f = true ∧ fs.all optFitsInt = true := by simpa using hf
      have hlen : (eTupleBody (f :: fs)).length ≥ 4 := by
        have := eBytes_length_ge f
        simp [eTupleBody]; omega
      have hrd : readField (eTupleBody (f :: fs)) = .ok (f, eTupleBody fs) := by
        have := readField_eBytes f (eTupleBody fs) hf'.1
        simpa [eTupleBody] using this
      simp only [List.length_cons, List.replicate_succ, unmarshalTuple, hlen, if_true, hrd]
      rw [ih fs (i + 1) _ hf'.2]
      simp [tupleCalls, Nat.add_assoc, Nat.add_comm 1]

theorem destWidth_view (t : TypeDesc) :
    (match viewType t with | .tuple _ es => es.length | _ => 1) = destWidth t := by
  cases t <;> simp [viewType, destWidth, viewTypes_length]

theorem scanColumn_ok (col : ColumnInfo) (t : TypeDesc) (c : Cell) (k i : Nat) (hcol : col.typ = viewType t)
    (hw : wfCell t c = true) (hwt : wfType t = true) (hk : destWidth t ≤ k) :
    scanColumn (cellData c) col (List.replicate k true) i
      = .ok (destWidth t) (cellCalls i t c) := by
  cases t with
  | tuple es =>
    have hes : es.length ≥ 1 := by cases c <;> simp_all [wfCell]
    have hk' : es.length ≤ k := by simpa [destWidth] using hk
    obtain ⟨k', rfl⟩ : ∃ k', k = k' + 1 := ⟨k - 1, by omega⟩
    simp only [scanColumn, List.replicate_succ, hcol, viewType, Bool.not_true, Bool.false_eq_true, if_false]
    have hlen : ¬ ((viewTypes es).length > (true :: List.replicate k' true).length) := by
      simp [viewTypes_length]; omega
    rw [if_neg hlen]
    have htake : (true :: List.replicate k' true).take (viewTypes es).length = List.replicate (viewTypes es).length true := by
      rw [← List.replicate_succ, List.take_replicate]
      congr 1
      simp [viewTypes_length]; omega
    rw [htake]
    -- a null cell reads as a cell without fields
    obtain ⟨fs, hfs, hdata, hcalls⟩ : ∃ fs, fs.all optFitsInt = true ∧ (cellData c).getD [] = eTupleBody fs ∧
        cellCalls i (.tuple es) c = tupleCalls i (viewTypes es) fs := by
      cases c with
      | null => exact ⟨[], rfl, rfl, rfl⟩
      | bytes b => simp [wfCell] at hw
      | tuple fs => exact ⟨fs, by simp_all [wfCell], rfl, rfl⟩
    rw [hdata, unmarshalTuple_fields _ fs i [] hfs, hcalls]
    simp [destWidth, viewTypes_length]
  | native id =>
    obtain ⟨k', rfl⟩ : ∃ k', k = k' + 1 := ⟨k - 1, by simp [destWidth] at hk; omega⟩
    have hid : id ≠ 0x31 := (plain_of_native id (by simpa [wfType] using hwt)).2.2.tuple
    cases c <;> simp_all [scanColumn, List.replicate_succ, viewType, cellCalls, destWidth, wfCell, typeTuple]
  | custom cls =>
    obtain ⟨k', rfl⟩ : ∃ k', k = k' + 1 := ⟨k - 1, by simp [destWidth] at hk; omega⟩
    have hid : customType cls ≠ 0x31 := (customType_plain cls).tuple
    cases c <;> simp_all [scanColumn, List.replicate_succ, viewType, cellCalls, destWidth, wfCell, typeTuple]
  | _ =>
    obtain ⟨k', rfl⟩ : ∃ k', k = k' + 1 := ⟨k - 1, by simp [destWidth] at hk; omega⟩
    cases c <;> simp_all [scanColumn, List.replicate_succ, viewType, cellCalls, destWidth, wfCell]

def eRow (cs : List Cell) : FrameRead.Bytes := cs.flatMap eCell

def colsMatch (cols : List ColumnInfo) (ts : List TypeDesc) : Prop := cols.map (·.typ) = ts.map viewType

theorem colsMatch_cons {c : ColumnInfo} {cs : List ColumnInfo} {t : TypeDesc} {ts : List TypeDesc} :
    colsMatch (c :: cs) (t :: ts) ↔ c.typ = viewType t ∧ colsMatch cs ts := by
  simp [colsMatch]

def wfRow (tcs : List (TypeDesc × Cell)) : Bool :=
  tcs.all (fun tc => wfCell tc.1 tc.2 && wfType tc.1)

theorem wfRow_cons {t : TypeDesc} {c : Cell} {tcs : List (TypeDesc × Cell)} :
    wfRow ((t, c) :: tcs) = true ↔ wfCell t c = true ∧ wfType t = true ∧ wfRow tcs = true := by
  simp [wfRow, and_assoc]

theorem scanCols_ok (cols : List ColumnInfo) (tcs : List (TypeDesc × Cell)) (i W : Nat) (rest : FrameRead.Bytes)
    (acc : List Call) (hm : colsMatch cols (tcs.map (·.1))) (hw : wfRow tcs = true)
    (hW : i + totalWidth (tcs.map (·.1)) = W) :
    scanCols cols i (List.replicate W true) (eRow (tcs.map (·.2)) ++ rest) acc
      = .done rest (acc ++ rowCalls i tcs) := by
  induction tcs generalizing cols i acc with
  | nil =>
    have : cols = [] := by simpa [colsMatch] using hm
    subst this
    simp [scanCols, eRow, rowCalls]
  | cons tc tcs ih =>
    obtain ⟨t, c⟩ := tc
    cases cols with
    | nil => simp [colsMatch] at hm
    | cons col cols =>
      have hm' := colsMatch_cons.mp hm
      obtain ⟨hc, ht, hr⟩ := wfRow_cons.mp hw
      have hW' : i + destWidth t + totalWidth (tcs.map (·.1)) = W := by
        simp [totalWidth] at hW ⊢; omega
      have hk : destWidth t ≤ W - i := by omega
      simp only [scanCols, List.map_cons, eRow, List.flatMap_cons, List.append_assoc]
      rw [readColumn_eCell t c _ hc]
      have hdrop : (List.replicate W true).drop i = List.replicate (W - i) true := by simp
      simp only [hdrop]
      rw [scanColumn_ok col t c (W - i) i hm'.1 hc ht hk]
      have := ih cols (i + destWidth t) (acc ++ cellCalls i t c) hm'.2 hr hW'
      simp only [eRow] at this
      simp only [this]
      simp [rowCalls]

/-- `n` successive calls of Iter.Scan, all returning true -/
def scanRows (dests : List Bool) : Nat → Iter → Option (List (List Call) × Iter)
  | 0, it => some ([], it)
  | n + 1, it =>
    match scan it dests with
    | .row it' calls =>
      match scanRows dests n it' with
      | some (cs, it'') => some (calls :: cs, it'')
      | none => none
    | _ => none

theorem scanRows_zero {dests : List Bool} {it it' : Iter} {cs : List (List Call)} (h : scanRows dests 0 it = some (cs, it')) :
    cs = [] ∧ it' = it := by
  simp only [scanRows, Option.some.injEq, Prod.mk.injEq] at h
  exact ⟨h.1.symm, h.2.symm⟩

theorem scanRows_succ {dests : List Bool} {n : Nat} {it it' : Iter} {cs : List (List Call)}
    (h : scanRows dests (n + 1) it = some (cs, it')) :
    ∃ it1 calls cs1, scan it dests = .row it1 calls ∧ scanRows dests n it1 = some (cs1, it') ∧ cs = calls :: cs1 := by
  generalize hm : n + 1 = m at h
  revert h
  fun_cases scanRows dests m it <;> intro h <;> cases h <;> cases hm
  exact ⟨_, _, _, ‹_›, ‹_›, rfl⟩

/-- the iterator stands before the rows `rs` — each with one well-formed cell per column type of `ts` —, `rest` follows them
    in the buffer, and its metadata describes columns of the types `ts` -/
structure AtRows (it : Iter) (ts : List TypeDesc) (rs : List (List Cell)) (rest : FrameRead.Bytes) : Prop where
  live : it.failed = false
  count : it.pos + rs.length = it.numRows
  cols : colsMatch it.md.columns ts
  width : it.md.actualColCount = (totalWidth ts : Int)
  wf : ∀ row ∈ rs, row.length = ts.length ∧ wfRow (ts.zip row) = true
  buf : it.buf = eRows rs ++ rest

theorem AtRows.next {it : Iter} {ts : List TypeDesc} {row : List Cell} {rows : List (List Cell)}
    {rest : FrameRead.Bytes} (h : AtRows it ts (row :: rows) rest) :
    AtRows { it with pos := it.pos + 1, buf := eRows rows ++ rest } ts rows rest :=
  ⟨h.live, by have := h.count; simp at this ⊢; omega, h.cols, h.width, fun r hr => h.wf r (by simp [hr]), rfl⟩

theorem AtRows.head_buf {it : Iter} {ts : List TypeDesc} {row : List Cell} {rows : List (List Cell)}
    {rest : FrameRead.Bytes} (h : AtRows it ts (row :: rows) rest) :
    it.pos < it.numRows ∧ it.buf = eRow row ++ (eRows rows ++ rest) :=
  ⟨by have := h.count; simp at this; omega, by simpa [eRows, eRow] using h.buf⟩

theorem AtRows.at_end {it : Iter} {ts : List TypeDesc} {rest : FrameRead.Bytes} (h : AtRows it ts [] rest) :
    it.pos = it.numRows ∧ it.buf = rest :=
  ⟨by simpa using h.count, by simpa [eRows] using h.buf⟩

theorem AtRows.zip_fst {it : Iter} {ts : List TypeDesc} {rs : List (List Cell)} {rest : FrameRead.Bytes}
    (h : AtRows it ts rs rest) {row : List Cell} (hr : row ∈ rs) : (ts.zip row).map (·.1) = ts :=
  List.map_fst_zip (by have := (h.wf row hr).1; omega)

theorem AtRows.scan_head {it : Iter} {ts : List TypeDesc} {row : List Cell} {rows : List (List Cell)}
    {rest : FrameRead.Bytes} (h : AtRows it ts (row :: rows) rest) :
    scan it (List.replicate (totalWidth ts) true)
      = .row { it with pos := it.pos + 1, buf := eRows rows ++ rest } (rowCalls 0 (ts.zip row)) := by
  obtain ⟨hlen, hwf⟩ := h.wf row (by simp)
  have hfst := h.zip_fst (row := row) (by simp)
  have h2 : ¬ it.pos ≥ it.numRows := by have := h.head_buf.1; omega
  have h3 : ¬ ((List.replicate (totalWidth ts) true).length : Int) ≠ it.md.actualColCount := by simp [h.width]
  unfold scan
  simp only [h.live, Bool.false_eq_true, if_false, h2, h3, h.head_buf.2]
  rw [← List.map_snd_zip (l₁ := ts) (l₂ := row) (by omega),
    scanCols_ok it.md.columns (ts.zip row) 0 _ _ [] (by rw [hfst]; exact h.cols) hwf (by rw [hfst]; omega)]
  simp [List.map_snd_zip (l₁ := ts) (l₂ := row) (by omega)]

theorem scanRows_ok {it : Iter} {ts : List TypeDesc} {rs : List (List Cell)} {rest : FrameRead.Bytes}
    (h : AtRows it ts rs rest) :
    scanRows (List.replicate (totalWidth ts) true) rs.length it
      = some (rs.map (fun row => rowCalls 0 (ts.zip row)), { it with pos := it.numRows, buf := rest }) := by
  induction rs generalizing it with
  | nil =>
    obtain ⟨hp, hb⟩ := h.at_end
    cases it
    simp_all [scanRows]
  | cons row rows ih =>
    simp only [List.length_cons, scanRows, h.scan_head, ih h.next]
    simp

theorem scan_end (it : Iter) (dests : List Bool) (hf : it.failed = false) (hp : it.pos = it.numRows) :
    scan it dests = .stop it [] := by
  unfold scan
  simp [hf, hp]

/-- what it takes for Scan to return true -/
theorem scan_row {it it' : Iter} {dests : List Bool} {calls : List Call} (h : scan it dests = .row it' calls) :
    it.failed = false ∧ it.pos < it.numRows ∧ (dests.length : Int) = it.md.actualColCount ∧
    ∃ buf, scanCols it.md.columns 0 dests it.buf [] = .done buf calls ∧ it' = { it with pos := it.pos + 1, buf := buf } := by
  revert h
  fun_cases scan it dests <;> intro h <;> cases h
  next hf hp hl _ hsc => exact ⟨by simpa using hf, by omega, by simpa using hl, _, hsc, rfl⟩

theorem scan_row_next {it it' : Iter} {dests : List Bool} {calls : List Call} (h : scan it dests = .row it' calls) :
    it'.pos = it.pos + 1 ∧ it'.failed = false ∧ it'.md = it.md := by
  obtain ⟨hf, _, _, _, _, rfl⟩ := scan_row h
  exact ⟨rfl, hf, rfl⟩

/-- `n` rounds of `Next() == true; Scan(dests) == nil` -/
def scannerRows (dests : List Bool) : Nat → Scanner → Option (List (List Call) × Scanner)
  | 0, s => some ([], s)
  | n + 1, s =>
    match s.next with
    | .ok (s1, true) =>
      match s1.scan dests with
      | .ok s2 calls =>
        match scannerRows dests n s2 with
        | some (cs, s3) => some (calls :: cs, s3)
        | none => none
      | _ => none
    | _ => none

/-- the cells Next reads ahead are the cells Scan reads one at a time: when the column loop of Iter.Scan gets through a row,
    the column loop of iterScanner.Scan over the cells read ahead (`pre`: the cells of the columns before) makes the same calls -/
theorem scannerCols_of_scanCols (dests : List Bool) (cols : List ColumnInfo) (i : Nat) (buf buf' : FrameRead.Bytes)
    (acc calls : List Call) (h : scanCols cols i dests buf acc = .done buf' calls) :
    ∃ cells, readCells cols.length buf = .ok (cells, buf') ∧ cells.length = cols.length ∧
      ∀ pre : List (Option FrameRead.Bytes), scannerCols cols pre.length i dests (pre ++ cells) acc = .done [] calls := by
  revert h
  fun_induction scanCols cols i dests buf acc <;> intro h <;> try cases h
  · exact ⟨[], rfl, rfl, fun pre => rfl⟩
  case case6 col cols i dests buf acc p buf1 hrc n cs hsc ih =>  -- the column is read and scanned: the loop goes on
    obtain ⟨cells, h1, h2, h3⟩ := ih h
    refine ⟨p :: cells, ?_, by simp [h2], fun pre => ?_⟩
    · simp only [List.length_cons, readCells, hrc, h1]
    · have := h3 (pre ++ [p])
      simp only [List.length_append, List.length_singleton, List.append_assoc, List.singleton_append] at this
      have hget : (pre ++ p :: cells).getD pre.length none = p := by simp [List.getD_eq_getElem?_getD]
      simp only [scannerCols, hget, hsc, this]
      rw [if_neg (by simp)]

theorem scanner_of_scan {it it' : Iter} {dests : List Bool} {calls : List Call}
    (h : scan it dests = .row it' calls) (cols0 : List (Option FrameRead.Bytes)) (valid0 : Bool)
    (hc : cols0.length = it.md.columns.length) :
    ∃ cells, cells.length = it.md.columns.length ∧ it'.md = it.md ∧
      Scanner.next ⟨it, cols0, valid0⟩ = .ok (⟨it', cells, true⟩, true) ∧
      Scanner.scan ⟨it', cells, true⟩ dests = .ok ⟨it', cells, false⟩ calls := by
  obtain ⟨hf, hp, hl, buf, hsc, rfl⟩ := scan_row h
  obtain ⟨cells, h1, h2, h3⟩ := scannerCols_of_scanCols dests _ 0 _ _ _ _ hsc
  refine ⟨cells, h2, rfl, ?_, ?_⟩
  · simp only [Scanner.next, hf, Int.not_le.mpr hp, if_false, hc, h1, Bool.false_eq_true]
  · have := h3 []
    simp only [List.length_nil, List.nil_append] at this
    simp only [Scanner.scan, Bool.not_true, Bool.false_eq_true, if_false, hl, ne_eq, not_true_eq_false, this]

theorem scannerRows_of_scanRows (dests : List Bool) : ∀ (n : Nat) (it it' : Iter) (cs : List (List Call)) (s : Scanner),
    scanRows dests n it = some (cs, it') → s.it = it → s.cols.length = it.md.columns.length →
    ∃ s', scannerRows dests n s = some (cs, s') ∧ s'.it = it' ∧ s'.cols.length = it'.md.columns.length
  | 0, it, it', cs, s, h, hs, hc => by
    obtain ⟨rfl, rfl⟩ := scanRows_zero h
    exact ⟨s, rfl, hs, hc⟩
  | n + 1, it, it', cs, s, h, hs, hc => by
    obtain ⟨sit, scols, svalid⟩ := s
    subst hs
    obtain ⟨it1, calls, cs1, hsc, hr, rfl⟩ := scanRows_succ h
    obtain ⟨cells, hcl, hmd, hnext, hscan⟩ := scanner_of_scan hsc scols svalid hc
    obtain ⟨s', h1, h2, h3⟩ := scannerRows_of_scanRows dests n it1 it' cs1 ⟨it1, cells, false⟩ hr rfl (by rw [hmd]; exact hcl)
    exact ⟨s', by simp only [scannerRows, hnext, hscan, h1], h2, h3⟩

theorem AtRows.cols_length {it : Iter} {ts : List TypeDesc} {rs : List (List Cell)} {rest : FrameRead.Bytes}
    (h : AtRows it ts rs rest) : it.md.columns.length = ts.length := by
  simpa using congrArg List.length h.cols

theorem scannerRows_ok {s : Scanner} {ts : List TypeDesc} {rs : List (List Cell)} {rest : FrameRead.Bytes}
    (h : AtRows s.it ts rs rest) (hc : s.cols.length = ts.length) :
    ∃ s1, scannerRows (List.replicate (totalWidth ts) true) rs.length s
        = some (rs.map (fun row => rowCalls 0 (ts.zip row)), s1) ∧
      s1.it = { s.it with pos := s.it.numRows, buf := rest } := by
  obtain ⟨s1, h1, h2, _⟩ := scannerRows_of_scanRows _ _ _ _ _ s (scanRows_ok h) rfl (hc.trans h.cols_length.symm)
  exact ⟨s1, h1, h2⟩

theorem scanner_end (s : Scanner) (hf : s.it.failed = false) (hp : s.it.pos = s.it.numRows) :
    s.next = .ok (s, false) := by
  unfold Scanner.next
  simp [hf, hp]

theorem colsMatch_view (c : Cols) : colsMatch (viewCols c) (colTypes c) := by
  cases c <;> simp [colsMatch, viewCols, colTypes, List.map_map, Function.comp_def]

theorem viewCols_length (c : Cols) : (viewCols c).length = (colTypes c).length := by
  simpa using congrArg List.length (colsMatch_view c)

theorem sum_width (ts : List TypeDesc) :
    ((ts.length : Int) + (ts.map (fun t => (destWidth t : Int) - 1)).sum) = (totalWidth ts : Int) := by
  induction ts with
  | nil => simp [totalWidth]
  | cons t ts ih =>
    simp only [totalWidth, List.map_cons, List.sum_cons, List.length_cons] at ih ⊢
    push_cast
    omega

theorem actualCount_eq (c : Cols) (h : ∀ n g, c ≠ .omitted n g) : actualCount c = (totalWidth (colTypes c) : Int) := by
  cases c with
  | omitted n g => exact absurd rfl (h n g)
  | global ks tb cs =>
    have := sum_width (colTypes (.global ks tb cs))
    simpa [actualCount, Cols.count, colTypes] using this
  | perCol cs =>
    have := sum_width (colTypes (.perCol cs))
    simpa [actualCount, Cols.count, colTypes] using this

/-- the rows of a page paired with the column types, and (`wfRowsP`) their well-formedness (`typedRows` / `wfRows` of
    `Proofs/C04.lean` are the same functions) -/
def typedRowsP (ts : List TypeDesc) (rs : List (List Cell)) : List (List (TypeDesc × Cell)) := rs.map (fun row => ts.zip row)

def wfRowsP (ts : List TypeDesc) (rs : List (List Cell)) : Bool :=
  rs.all (fun row => row.length == ts.length && wfRow (ts.zip row))

/-- the iterator executeQuery builds for a well-formed page of rows `rs` under metadata for the columns `c` stands
    before its rows -/
theorem atRows_page (md : ResultMeta) (c : Cols) (rs : List (List Cell)) (hc : ∀ n g, c ≠ .omitted n g)
    (hw : wfRowsP (colTypes c) rs = true) (hcol : md.columns = viewCols c) (hact : md.actualColCount = actualCount c) :
    AtRows (iterOf md rs.length (eRows rs)) (colTypes c) rs [] :=
  ⟨rfl, by simp [iterOf], by rw [iterOf, hcol]; exact colsMatch_view c, by rw [iterOf, hact]; exact actualCount_eq c hc,
    by simpa [wfRowsP] using hw, by simp [iterOf]⟩

theorem atRows_view (m : Meta) (rs : List (List Cell)) (hc : ∀ n g, m.cols ≠ .omitted n g)
    (hw : wfRowsP (colTypes m.cols) rs = true) : AtRows (iterOf (viewMeta m) rs.length (eRows rs)) (colTypes m.cols) rs [] :=
  atRows_page (viewMeta m) m.cols rs hc hw rfl rfl

theorem page_scanRows (md : ResultMeta) (c : Cols) (rs : List (List Cell)) (hc : ∀ n g, c ≠ .omitted n g)
    (hw : wfRowsP (colTypes c) rs = true) (hcol : md.columns = viewCols c) (hact : md.actualColCount = actualCount c) :
    scanRows (List.replicate (totalWidth (colTypes c)) true) rs.length (iterOf md rs.length (eRows rs))
      = some ((typedRowsP (colTypes c) rs).map (rowCalls 0), { iterOf md rs.length (eRows rs) with pos := rs.length, buf := [] }) := by
  rw [scanRows_ok (atRows_page md c rs hc hw hcol hact), typedRowsP, List.map_map]
  rfl

end C04
