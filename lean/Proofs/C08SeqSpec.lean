import Proofs.C08Seq
/-! C08: the sequential big-step semantics refines the abstract id-set specification (`Streams.specStep` /
`Streams.specCheck`). The abstraction relation `LinInv` (the table of the specification is the bitset without the reserved
bit, its count the number of set bits − 1) is kept by the three moves the specification knows (`lin_get`,
`lin_clear_true`, `lin_clear_false`; the concurrent machine uses them too, Proofs/C08Lin). With the counter it is
`SpecInv`: every op that is not `Clear(0)` is accepted (`specInv_step`), along every history, also with the offset word —
the only state that depends on the NUMBER of past calls — preset to arbitrary values between the calls (`specInv_runH`). -/
namespace C08
open Streams

/-- the fused monitor of the driver is `specCheck` applied to the model's trace -/
theorem seqMon_eq (cap : Nat) (ops : List Op) (sh : Shared) (tbl : Array Bool) (cnt : Nat) :
    seqMon cap sh tbl cnt ops = specCheck cap { tbl := tbl, cnt := cnt } (seqTrace sh ops) := by
  fun_induction seqMon cap sh tbl cnt ops <;> simp_all [seqTrace, specCheck]

/-- abstraction relation: the table of the specification is the bitset without the reserved bit -/
structure LinInv (n : Nat) (ws : List Word) (tbl : Array Bool) (cnt : Nat) : Prop where
  size : tbl.size = 64 * n
  tblOk : ∀ id, id < 64 * n → tbl.getD id false = (decide (id ≠ 0) && bitAt ws id)
  count : countBelow (bitAt ws) (64 * n) = 1 + cnt

/-- handing out a free id is accepted by the specification -/
theorem lin_get {n : Nat} {ws : List Word} {tbl : Array Bool} {cnt : Nat} (hL : LinInv n ws tbl cnt)
    (hlen : ws.length = n) (hres : bitAt ws 0 = true) {id : Nat} (hlt : id < 64 * n) (hfree : bitAt ws id = false) :
    specStep (64 * n) tbl cnt .get (some (.stream id true)) = some { tbl := tbl.setIfInBounds id true, cnt := cnt + 1 } ∧
    LinInv n (setBit ws id) (tbl.setIfInBounds id true) (cnt + 1) := by
  have hid0 : id ≠ 0 := (ne_of_bitAt hres hfree).symm
  obtain ⟨hbits, hcnt⟩ := setBit_view (by omega) hlt hfree
  rw [hL.count] at hcnt
  refine ⟨?_, by simpa using hL.size, fun x hx => ?_, hcnt⟩
  · simp only [specStep]
    rw [if_pos ⟨Nat.pos_of_ne_zero hid0, hlt, by rw [hL.tblOk id hlt, hfree]; simp⟩]
  · rw [getD_setIfInBounds, hbits, hL.tblOk x hx]
    by_cases hxi : x = id
    · subst hxi; simp [hid0, hL.size, hlt]
    · simp [hxi]

/-- releasing an id that is handed out is accepted (and some id is handed out) -/
theorem lin_clear_true {n : Nat} {ws : List Word} {tbl : Array Bool} {cnt : Nat} (hL : LinInv n ws tbl cnt)
    (hlen : ws.length = n) (hres : bitAt ws 0 = true) {id : Nat} (hid0 : id ≠ 0) (hset : bitAt ws id = true)
    (hin : id / 64 < n) :
    specStep (64 * n) tbl cnt (.clear id) (some (.cleared true)) = some { tbl := tbl.setIfInBounds id false, cnt := cnt - 1 } ∧
    1 ≤ cnt ∧ LinInv n (clrBit ws id) (tbl.setIfInBounds id false) (cnt - 1) := by
  have hlt : id < 64 * n := by omega
  have h2 := countBelow_two (p := bitAt ws) (a := 0) (by omega) hlt (Ne.symm hid0) hres hset
  obtain ⟨hbits, hcnt⟩ := clrBit_view (by omega) hlt hset
  rw [hL.count] at hcnt
  rw [hL.count] at h2
  refine ⟨?_, by omega, by simpa using hL.size, fun x hx => ?_, by omega⟩
  · simp only [specStep]
    rw [if_pos (by rw [hL.tblOk id hlt, hset]; simp [hid0])]; rfl
  · rw [getD_setIfInBounds, hbits, hL.tblOk x hx]
    by_cases hxi : x = id
    · subst hxi; simp [hL.size, hlt]
    · simp [hxi]

/-- releasing what is not handed out (a free id, or no id of the generator at all) is answered false -/
theorem lin_clear_false {n : Nat} {ws : List Word} {tbl : Array Bool} {cnt : Nat} (hL : LinInv n ws tbl cnt)
    {id : Nat} (hfree : bitAt ws id = false) :
    specStep (64 * n) tbl cnt (.clear id) (some (.cleared false)) = some { tbl := tbl.setIfInBounds id false, cnt := cnt } ∧
    LinInv n ws (tbl.setIfInBounds id false) cnt := by
  have htb : tbl.getD id false = false := by
    by_cases hlt : id < 64 * n
    · rw [hL.tblOk id hlt, hfree]; simp
    · rw [Array.getD_eq_getD_getElem?, Array.getElem?_eq_none (by rw [hL.size]; omega)]; rfl
  refine ⟨?_, by simpa using hL.size, fun x hx => ?_, hL.count⟩
  · simp only [specStep]
    rw [if_pos htb.symm]; rfl
  · rw [getD_setIfInBounds, hL.tblOk x hx]
    by_cases hxi : x = id
    · subst hxi; simp [hfree]
    · simp [hxi]

structure SpecInv (n : Nat) (sh : Shared) (tbl : Array Bool) (cnt : Nat) : Prop where
  len : sh.words.length = n
  size : tbl.size = 64 * n
  reserved : bitAt sh.words 0 = true
  tblOk : ∀ id, id < 64 * n → tbl.getD id false = (decide (id ≠ 0) && bitAt sh.words id)
  count : countBelow (bitAt sh.words) (64 * n) = 1 + cnt
  inuse : sh.inuse = cnt

theorem SpecInv.of_lin {n : Nat} {sh : Shared} {tbl : Array Bool} {cnt : Nat} (hlen : sh.words.length = n)
    (hres : bitAt sh.words 0 = true) (hL : LinInv n sh.words tbl cnt) (hu : sh.inuse = cnt) : SpecInv n sh tbl cnt :=
  ⟨hlen, hL.size, hres, hL.tblOk, hL.count, hu⟩

theorem SpecInv.lin {n : Nat} {sh : Shared} {tbl : Array Bool} {cnt : Nat} (h : SpecInv n sh tbl cnt) :
    LinInv n sh.words tbl cnt := ⟨h.size, h.tblOk, h.count⟩

/-- `Available()` is the number of non-reserved ids not handed out -/
theorem SpecInv.avail {n : Nat} {sh : Shared} {tbl : Array Bool} {cnt : Nat} (h : SpecInv n sh tbl cnt) :
    available sh = ((64 * n - 1 - cnt : Nat) : Int) := by
  have := h.count
  have := countBelow_le (bitAt sh.words) (64 * n)
  simp only [available, h.len, h.inuse]; omega

theorem specInv_init (n : Nat) (hn : 0 < n) : SpecInv n (init n) (specInit (64 * n)).tbl 0 := by
  refine ⟨length_init n, by simp [specInit], by simp [bitAt_init n hn], fun id hid => ?_, count_init n hn, rfl⟩
  rw [bitAt_init n hn]
  simp only [specInit, Array.getD_eq_getD_getElem?, Array.getElem?_replicate]
  by_cases h0 : id = 0 <;> simp [h0, hid, hn]

theorem seqOp_avail (sh : Shared) : seqOp sh .avail = (sh, some (.avail (available sh))) := by
  simp only [seqOp, startPC, runThread, tstep, available]

theorem specInv_step {n : Nat} (hn : 0 < n) {sh : Shared} {tbl : Array Bool} {cnt : Nat}
    (hI : SpecInv n sh tbl cnt) (op : Op) (hop : op ≠ .clear 0) :
    ∃ st', specStep (64 * n) tbl cnt op (seqOp sh op).2 = some st' ∧ SpecInv n (seqOp sh op).1 st'.tbl st'.cnt := by
  have hlen := hI.len
  cases op with
  | avail =>
    rw [seqOp_avail]
    exact ⟨{ tbl := tbl, cnt := cnt }, by simp only [specStep, hI.avail, ↓reduceIte], hI⟩
  | get =>
    show ∃ st', specStep (64 * n) tbl cnt .get (getStream sh).2 = some st' ∧ SpecInv n (getStream sh).1 st'.tbl st'.cnt
    rcases getStream_spec sh (by omega) with ⟨id, h1, h2, h3⟩ | ⟨h1, h2⟩
    · rw [hlen] at h1
      obtain ⟨e, hL⟩ := lin_get hI.lin hlen hI.reserved h1 h2
      rw [h3]
      refine ⟨_, e, .of_lin (by simpa [length_setBit] using hlen) ?_ hL ?_⟩
      · exact bitAt_setBit_of (by omega) hI.reserved
      · simp only [hI.inuse]; omega
    · -- every bit is set: all ids are handed out
      rw [hlen] at h1
      have := countBelow_all _ h1
      have := hI.count
      rw [h2]
      exact ⟨{ tbl := tbl, cnt := cnt }, by simp [specStep, show cnt = 64 * n - 1 by omega],
        .of_lin hlen hI.reserved hI.lin hI.inuse⟩
  | clear id =>
    have hid0 : id ≠ 0 := fun h => hop (by rw [h])
    show ∃ st', specStep (64 * n) tbl cnt (.clear id) (clear sh id).2 = some st' ∧ SpecInv n (clear sh id).1 st'.tbl st'.cnt
    by_cases hb : bitAt sh.words id = true
    · have hr : id / 64 < sh.words.length := bitAt_lt hb
      obtain ⟨e, hpos, hL⟩ := lin_clear_true hI.lin hlen hI.reserved hid0 hb (hlen ▸ hr)
      rw [clear_inuse sh id hb, if_neg (by have := hI.inuse; omega)]
      refine ⟨_, e, .of_lin (by simpa [length_clrBit] using hlen) ?_ hL ?_⟩
      · exact bitAt_clrBit_of hr (Ne.symm hid0) hI.reserved
      · simp only [hI.inuse]; omega
    · have hb : bitAt sh.words id = false := by simpa using hb
      obtain ⟨e, hL⟩ := lin_clear_false hI.lin hb
      rw [clear_miss sh id hb]
      exact ⟨_, e, .of_lin hlen hI.reserved hL hI.inuse⟩

theorem specInv_runH {n : Nat} (hn : 0 < n) (ops : List HOp) (hops : HOp.op (.clear 0) ∉ ops)
    (sh : Shared) (tbl : Array Bool) (cnt : Nat) (hI : SpecInv n sh tbl cnt) :
    specCheck (64 * n) { tbl := tbl, cnt := cnt } (hTrace sh ops) = true := by
  fun_induction hTrace sh ops generalizing tbl cnt with
  | case1 => rfl
  | case2 sh o ops ih =>  -- a call
    obtain ⟨st', h1, h3⟩ := specInv_step hn hI o (fun h => hops (by simp [h]))
    simp only [specCheck, h1, h3.avail, decide_true, Bool.true_and]
    exact ih (fun h => hops (by simp [h])) _ _ h3
  | case3 sh v ops ih =>  -- a preset: the relation with the abstract state does not mention the offset word
    exact ih (fun h => hops (by simp [h])) _ _ (.of_lin hI.len hI.reserved hI.lin hI.inuse)
  | case4 sh k ops ih =>  -- a release of something that is not an id: answers false, nothing changes
    obtain ⟨e, hL⟩ := lin_clear_false hI.lin (bitAt_oob sh.words (64 * sh.words.length + k) (by omega))
    simp only [specCheck, clearNeg, e, hI.avail, decide_true, Bool.true_and]
    exact ih (fun h => hops (by simp [h])) _ _ (.of_lin hI.len hI.reserved hL hI.inuse)

theorem seqMonH_eq (cap : Nat) (ops : List HOp) (sh : Shared) (tbl : Array Bool) (cnt : Nat) :
    seqMonH cap sh tbl cnt ops = specCheck cap { tbl := tbl, cnt := cnt } (hTrace sh ops) := by
  fun_induction seqMonH cap sh tbl cnt ops <;> simp_all [hTrace, specCheck]

/-- without presets the histories are the op sequences of `C08_sequential_spec` -/
theorem hTrace_map_op (ops : List Op) : ∀ sh, hTrace sh (ops.map .op) = seqTrace sh ops := by
  intro sh; fun_induction seqTrace sh ops <;> simp_all [hTrace]

end C08
