import Model.Writer
/-!
  The functions of `Model/Writer.lean` that are not the machine: the attribution loop `attrib` against its positional
  specification; `glue` (pieces to chunks) keeps the byte stream and, for the next bytes of the newest frame, is an equation
  (`addPiece_newest`); the monitor's checks `framed` (clause by clause) and `scanFrom` (what acceptance and rejection mean).
-/
namespace Writer

theorem attrib_eq_spec : ∀ (ls : List Nat), (∀ l ∈ ls, 0 < l) → ∀ (n pre : Nat),
    attrib ls (n - pre) = Spec.attrib ls n pre
  | [], _, _, _ => rfl
  | l :: ls, hpos, n, pre => by
    have hl0 : 0 < l := hpos l (by simp)
    have hrest : ∀ x ∈ ls, 0 < x := fun x hx => hpos x (by simp [hx])
    simp only [attrib, Spec.attrib]
    by_cases hl : l ≤ n - pre
    · have h2 : pre + l ≤ n := by omega
      simp only [hl, h2, if_true]
      have : n - pre - l = n - (pre + l) := by omega
      rw [this, attrib_eq_spec ls hrest n (pre + l)]
    · have h2 : ¬ pre + l ≤ n := by omega
      simp only [hl, h2, if_false]
      have : (0:Nat) = n - (pre + l) := by omega
      rw [this, attrib_eq_spec ls hrest n (pre + l)]

theorem attrib_length : ∀ (ls : List Nat) (n : Nat), (attrib ls n).length = ls.length := by
  intro ls n
  fun_induction attrib ls n <;> simp [*]

/-- the reported byte counts add up to what the socket accepted, at most the whole batch -/
theorem attrib_sum (ls : List Nat) (n : Nat) :
    ((attrib ls n).map (·.1)).foldr (· + ·) 0 = min n (ls.foldr (· + ·) 0) := by
  fun_induction attrib ls n
  case case1 => exact (Nat.min_zero _).symm
  case case2 l ls n hl ih =>
    -- the buffer is taken whole; the rest of the count goes to the buffers behind it
    simp only [List.map_cons, List.foldr_cons, ih]; omega
  case case3 l ls n hl ih =>
    -- the cut buffer takes what is left, the buffers behind it nothing
    simp only [List.map_cons, List.foldr_cons, ih]; omega

theorem glue_snoc (wire : List Piece) (p : Piece) : glue (wire ++ [p]) = addPiece (glue wire) p := by
  simp [glue, List.foldl_append]

theorem range_bytes_append (id a n m : Nat) :
    ((List.range n).map fun i => (id, a + i)) ++ ((List.range m).map fun i => (id, a + n + i)) =
    (List.range (n + m)).map fun i => (id, a + i) := by
  rw [List.range_add, List.map_append, List.map_map]
  congr 1
  apply List.map_congr_left
  intro i _
  simp [Nat.add_assoc]

theorem addPiece_bytes (cs : List Chunk) (p : Piece) :
    (addPiece cs p).reverse.flatMap Chunk.bytes = cs.reverse.flatMap Chunk.bytes ++ p.bytes := by
  fun_cases addPiece cs p
  · simp [Chunk.bytes, Piece.bytes]
  case case2 c cs hc =>
    -- the piece continues the newest chunk
    obtain ⟨hid, hoff⟩ := hc
    simp only [List.reverse_cons, List.flatMap_append, List.flatMap_cons, List.flatMap_nil, List.append_nil,
      List.append_assoc]
    congr 1
    simp only [Chunk.bytes, Piece.bytes, ← hid, ← hoff]
    exact (range_bytes_append c.id c.start c.n p.n).symm
  · simp [Chunk.bytes, Piece.bytes]

theorem foldl_addPiece_bytes (wire : List Piece) : ∀ (acc : List Chunk),
    (wire.foldl addPiece acc).reverse.flatMap Chunk.bytes = acc.reverse.flatMap Chunk.bytes ++ wire.flatMap Piece.bytes := by
  induction wire with
  | nil => intro acc; simp
  | cons p wire ih =>
    intro acc
    rw [List.foldl_cons, ih, addPiece_bytes]
    simp [List.append_assoc]

/-- `glue` does not change the byte stream: the bytes of the chunks (oldest first) are the bytes of the pieces -/
theorem glue_bytes (wire : List Piece) :
    (glue wire).reverse.flatMap Chunk.bytes = wire.flatMap Piece.bytes := by
  simpa [glue] using foldl_addPiece_bytes wire []

theorem framed_iff {lens : Nat → Nat} {cs : List Chunk} :
    framed lens cs = true ↔ (∀ c ∈ cs, c.start = 0 ∧ 0 < c.n ∧ c.n ≤ lens c.id) ∧ (cs.map (·.id)).Nodup := by
  simp only [framed, Bool.and_eq_true, List.all_eq_true, decide_eq_true_eq, beq_iff_eq, and_assoc]

/-- the next bytes of a frame whose chunk, if it has one, is the newest: the chunk is extended (or begun) and stays the newest -/
theorem addPiece_newest {cs : List Chunk} {w off k : Nat} (hnd : (cs.map (·.id)).Nodup)
    (h0 : off = 0 → ∀ c ∈ cs, c.id ≠ w) (hhead : 0 < off → cs.head? = some ⟨w, 0, off⟩) :
    addPiece cs ⟨w, off, k⟩ = ⟨w, 0, off + k⟩ :: cs.filter (·.id ≠ w) := by
  by_cases hoff : off = 0
  · subst hoff
    rw [List.filter_eq_self.mpr fun c hc => decide_eq_true (h0 rfl c hc), Nat.zero_add]
    cases cs with
    | nil => rfl
    | cons c cs => exact if_neg fun e => h0 rfl c List.mem_cons_self e.1
  · cases cs with
    | nil => cases hhead (Nat.pos_of_ne_zero hoff)
    | cons c cs =>
      cases Option.some.inj (hhead (Nat.pos_of_ne_zero hoff))
      have hne : ∀ c ∈ cs, c.id ≠ w := fun c hc e => (List.nodup_cons.mp hnd).1 (List.mem_map.mpr ⟨c, hc, e⟩)
      rw [List.filter_cons_of_neg (by simp), List.filter_eq_self.mpr fun c hc => decide_eq_true (hne c hc)]
      exact if_pos ⟨rfl, Nat.zero_add off⟩

theorem mem_ids_addPiece (cs : List Chunk) (p : Piece) (x : Nat) :
    x ∈ (addPiece cs p).map (·.id) ↔ x = p.id ∨ x ∈ cs.map (·.id) := by
  fun_cases addPiece cs p
  · simp
  case case2 c cs hc => simp [hc.1]
  · simp

theorem mem_ids_foldl (wire : List Piece) (x : Nat) : ∀ (acc : List Chunk),
    x ∈ (wire.foldl addPiece acc).map (·.id) ↔ x ∈ wire.map (·.id) ∨ x ∈ acc.map (·.id) := by
  induction wire with
  | nil => simp
  | cons p wire ih =>
    intro acc
    rw [List.foldl_cons, ih, mem_ids_addPiece, List.map_cons, List.mem_cons, or_assoc]
    exact or_left_comm

theorem scanFrom_snoc (lens : Nat → Nat) (ps : List Piece) (cs : List Chunk) (p : Piece) :
    scanFrom lens cs (ps ++ [p]) =
      match scanFrom lens cs ps with
      | some cs' => if framed lens (addPiece cs' p) then some (addPiece cs' p) else none
      | none => none := by
  fun_induction scanFrom lens cs ps
  case case1 => simp [scanFrom]
  case case2 cs q ps hf ih => simpa only [List.cons_append, scanFrom, hf, if_true] using ih
  case case3 cs q ps hf => simp only [List.cons_append, scanFrom, hf]; rfl

theorem scanFrom_some (lens : Nat → Nat) (ps : List Piece) (cs cs' : List Chunk)
    (h : scanFrom lens cs ps = some cs') : cs' = ps.foldl addPiece cs ∧ (ps ≠ [] → framed lens cs' = true) := by
  fun_induction scanFrom lens cs ps
  case case1 => cases h; exact ⟨rfl, nofun⟩
  case case2 cs q ps hf ih =>
    obtain ⟨h1, h2⟩ := ih h
    refine ⟨h1, fun _ => ?_⟩
    -- the last piece accepted: this one, or a later one
    cases ps with
    | nil => cases h; exact hf
    | cons r rs => exact h2 nofun
  case case3 => cases h

theorem scanFrom_none (lens : Nat → Nat) (ps : List Piece) (cs : List Chunk)
    (h : scanFrom lens cs ps = none) : ∃ pre, pre <+: ps ∧ framed lens (pre.foldl addPiece cs) = false := by
  fun_induction scanFrom lens cs ps
  case case1 => cases h
  case case2 cs q ps hf ih =>
    obtain ⟨pre, hpre, hf⟩ := ih h
    exact ⟨q :: pre, by simpa using hpre, by simpa using hf⟩
  case case3 cs q ps hf => exact ⟨[q], by simp, by simpa using hf⟩

end Writer
