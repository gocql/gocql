import Model.ClusterView
import Proofs.C16Ring
import Proofs.C16Index
import Proofs.C16ViewCoalesce
/-! views compared as SETS (`Same`, `SameSet`: Go's map iteration order decides the order of the lists), and the
list operations of the handlers (policy lists keyed by connect address, pools keyed by host id): operations on
different keys commute — what makes the dispatch of coalesced status events independent of the dispatch order -/
namespace C16
open Ring ClusterView

def SameSet {α : Type} (l1 l2 : List α) : Prop := ∀ x, x ∈ l1 ↔ x ∈ l2

theorem SameSet.refl {α : Type} (l : List α) : SameSet l l := fun _ => Iff.rfl
theorem SameSet.symm {α : Type} {l1 l2 : List α} (h : SameSet l1 l2) : SameSet l2 l1 := fun x => (h x).symm
theorem SameSet.trans {α : Type} {l1 l2 l3 : List α} (h : SameSet l1 l2) (h' : SameSet l2 l3) : SameSet l1 l3 :=
  fun x => (h x).trans (h' x)

/-- equality of views up to the order (and multiplicity) of the pool / policy / down lists -/
structure Same (v w : View) : Prop where
  ring : v.ring = w.ring
  pools : SameSet v.pools w.pools
  ta : SameSet v.pol.ta w.pol.ta
  loc : SameSet v.pol.loc w.pol.loc
  rem : SameSet v.pol.rem w.pol.rem
  down : SameSet v.down w.down
  req : v.refreshReq = w.refreshReq
  crashed : v.crashed = w.crashed

theorem Same.refl (v : View) : Same v v := ⟨rfl, .refl _, .refl _, .refl _, .refl _, .refl _, rfl, rfl⟩
theorem Same.symm {v w : View} (h : Same v w) : Same w v :=
  ⟨h.ring.symm, h.pools.symm, h.ta.symm, h.loc.symm, h.rem.symm, h.down.symm, h.req.symm, h.crashed.symm⟩
theorem Same.trans {u v w : View} (h : Same u v) (h' : Same v w) : Same u w :=
  ⟨h.ring.trans h'.ring, h.pools.trans h'.pools, h.ta.trans h'.ta, h.loc.trans h'.loc, h.rem.trans h'.rem,
   h.down.trans h'.down, h.req.trans h'.req, h.crashed.trans h'.crashed⟩

/-! ### lists keyed by a function `κ`: `cowHostList` (by connect address) and the pool map (by host id) are both
"append unless the key is taken" / "drop the key" -/

section keyed
variable {α : Type} (κ : α → Nat)

def kAdd (l : List α) (a : α) : List α := if l.any (fun e => κ e == κ a) then l else l ++ [a]
def kRm (l : List α) (k : Nat) : List α := l.filter (fun e => κ e != k)

theorem mem_kAdd (l : List α) (a x : α) : x ∈ kAdd κ l a ↔ x ∈ l ∨ (x = a ∧ ∀ y ∈ l, κ y ≠ κ a) := by
  unfold kAdd
  by_cases hc : (l.any (fun e => κ e == κ a)) = true
  · rw [if_pos hc]
    simp only [List.any_eq_true, beq_iff_eq] at hc
    obtain ⟨y, hy, hyc⟩ := hc
    exact ⟨Or.inl, fun h => h.elim id fun h => absurd hyc (h.2 y hy)⟩
  · rw [if_neg hc]
    simp only [List.any_eq_true, beq_iff_eq, not_exists, not_and] at hc
    rw [List.mem_append, List.mem_singleton]
    exact ⟨fun h => h.imp id fun h => ⟨h, hc⟩, fun h => h.imp id And.left⟩

theorem mem_kRm (l : List α) (k : Nat) (x : α) : x ∈ kRm κ l k ↔ x ∈ l ∧ κ x ≠ k := by
  simp only [kRm, List.mem_filter, bne_iff_ne]

inductive KOp (α : Type) | id | add (a : α) | rm (k : Nat)
def KOp.app : KOp α → List α → List α
  | .id, l => l
  | .add a, l => kAdd κ l a
  | .rm k, l => kRm κ l k
def KOp.key : KOp α → Option Nat
  | .id => none
  | .add a => some (κ a)
  | .rm k => some k

theorem KOp.congr (o : KOp α) {l l' : List α} (h : SameSet l l') : SameSet (o.app κ l) (o.app κ l') := by
  intro x
  cases o with
  | id => exact h x
  | add a =>
    simp only [KOp.app, mem_kAdd]
    exact or_congr (h x) (and_congr_right fun _ => forall_congr' fun y => by rw [h y])
  | rm k =>
    simp only [KOp.app, mem_kRm]
    exact and_congr_left fun _ => h x

theorem KOp.comm (o1 o2 : KOp α) (l : List α)
    (hk : ∀ k1 k2, o1.key κ = some k1 → o2.key κ = some k2 → k1 ≠ k2) :
    SameSet (o2.app κ (o1.app κ l)) (o1.app κ (o2.app κ l)) := by
  -- adding `a` and then dropping the key `k ≠ κ a`, either order
  have add_rm : ∀ (a : α) (k : Nat), κ a ≠ k → SameSet (kRm κ (kAdd κ l a) k) (kAdd κ (kRm κ l k) a) := by
    intro a k hne x
    simp only [mem_kAdd, mem_kRm]
    constructor
    · rintro ⟨(hx | ⟨hx, ha⟩), hxi⟩
      · exact Or.inl ⟨hx, hxi⟩
      · exact Or.inr ⟨hx, fun y hy => ha y hy.1⟩
    · rintro (⟨hx, hxi⟩ | ⟨hx, ha⟩)
      · exact ⟨Or.inl hx, hxi⟩
      · refine ⟨Or.inr ⟨hx, fun y hy => ?_⟩, by rw [hx]; exact hne⟩
        by_cases hyi : κ y = k
        · rw [hyi]; exact fun e => hne e.symm
        · exact ha y ⟨hy, hyi⟩
  intro x
  cases o1 with
  | id => exact Iff.rfl
  | add a1 =>
    cases o2 with
    | id => exact Iff.rfl
    | add a2 =>
      have hne : κ a1 ≠ κ a2 := hk _ _ rfl rfl
      -- one direction, for both orders
      have dir : ∀ (a b : α), κ a ≠ κ b → x ∈ kAdd κ (kAdd κ l a) b → x ∈ kAdd κ (kAdd κ l b) a := by
        intro a b hab
        simp only [mem_kAdd]
        rintro ((hx | ⟨hx, ha⟩) | ⟨hx, hb⟩)
        · exact Or.inl (Or.inl hx)
        · refine Or.inr ⟨hx, ?_⟩
          rintro y (hy | ⟨hy, _⟩)
          · exact ha y hy
          · subst hy; exact fun e => hab e.symm
        · exact Or.inl (Or.inr ⟨hx, fun y hy => hb y (Or.inl hy)⟩)
      exact ⟨dir a1 a2 hne, dir a2 a1 fun e => hne e.symm⟩
    | rm k => exact add_rm a1 k (hk _ _ rfl rfl) x
  | rm k1 =>
    cases o2 with
    | id => exact Iff.rfl
    | add a2 => exact (add_rm a2 k1 fun e => hk _ _ rfl rfl e.symm) x |>.symm
    | rm k2 =>
      simp only [KOp.app, mem_kRm]
      exact ⟨fun ⟨⟨hx, h1⟩, h2⟩ => ⟨⟨hx, h2⟩, h1⟩, fun ⟨⟨hx, h2⟩, h1⟩ => ⟨⟨hx, h1⟩, h2⟩⟩

end keyed

theorem mem_cowAdd (l : List RHost) (h x : RHost) :
    x ∈ cowAdd l h ↔ x ∈ l ∨ (x = h ∧ ∀ y ∈ l, cAddr y ≠ cAddr h) := mem_kAdd cAddr l h x

theorem mem_cowRemove (l : List RHost) (ip : Nat) (x : RHost) :
    x ∈ cowRemove l ip ↔ x ∈ l ∧ cAddr x ≠ ip := mem_kRm cAddr l ip x

theorem mem_poolAdd (m : List (Nat × RHost)) (h : RHost) (x : Nat × RHost) :
    x ∈ poolAdd m h ↔ x ∈ m ∨ (x = (h.id, h) ∧ ∀ y ∈ m, y.1 ≠ h.id) := mem_kAdd Prod.fst m (h.id, h) x

inductive LOp | id | add (h : RHost) | rm (ip : Nat)
def LOp.app : LOp → List RHost → List RHost
  | .id, l => l
  | .add h, l => cowAdd l h
  | .rm ip, l => cowRemove l ip
def LOp.key : LOp → Option Nat
  | .id => none
  | .add h => some (cAddr h)
  | .rm ip => some ip

def LOp.toK : LOp → KOp RHost
  | .id => .id
  | .add h => .add h
  | .rm ip => .rm ip

theorem LOp.app_eq (o : LOp) (l : List RHost) : o.app l = o.toK.app cAddr l := by cases o <;> rfl
theorem LOp.key_eq (o : LOp) : o.key = o.toK.key cAddr := by cases o <;> rfl

theorem LOp.congr (o : LOp) {l l' : List RHost} (h : SameSet l l') : SameSet (o.app l) (o.app l') := by
  rw [o.app_eq, o.app_eq]; exact KOp.congr cAddr _ h

theorem LOp.comm (o1 o2 : LOp) (l : List RHost)
    (hk : ∀ k1 k2, o1.key = some k1 → o2.key = some k2 → k1 ≠ k2) :
    SameSet (o2.app (o1.app l)) (o1.app (o2.app l)) := by
  rw [o1.key_eq, o2.key_eq] at hk
  simp only [LOp.app_eq]; exact KOp.comm cAddr _ _ l hk

inductive POp | id | add (h : RHost) | rm (id : Nat)
def POp.app : POp → List (Nat × RHost) → List (Nat × RHost)
  | .id, m => m
  | .add h, m => poolAdd m h
  | .rm k, m => erase m k
def POp.key : POp → Option Nat
  | .id => none
  | .add h => some h.id
  | .rm k => some k

def POp.toK : POp → KOp (Nat × RHost)
  | .id => .id
  | .add h => .add (h.id, h)
  | .rm k => .rm k

theorem POp.app_eq (o : POp) (l : List (Nat × RHost)) : o.app l = o.toK.app Prod.fst l := by cases o <;> rfl
theorem POp.key_eq (o : POp) : o.key = o.toK.key Prod.fst := by cases o <;> rfl

theorem POp.congr (o : POp) {l l' : List (Nat × RHost)} (h : SameSet l l') : SameSet (o.app l) (o.app l') := by
  rw [o.app_eq, o.app_eq]; exact KOp.congr _ _ h

theorem POp.comm (o1 o2 : POp) (l : List (Nat × RHost))
    (hk : ∀ k1 k2, o1.key = some k1 → o2.key = some k2 → k1 ≠ k2) :
    SameSet (o2.app (o1.app l)) (o1.app (o2.app l)) := by
  rw [o1.key_eq, o2.key_eq] at hk
  simp only [POp.app_eq]; exact KOp.comm _ _ _ l hk

/-- `setState(NodeDown)` of an object -/
def downApp : Option Nat → List Nat → List Nat
  | none, d => d
  | some o, d => o :: d.filter (· != o)

theorem mem_downApp (o : Option Nat) (d : List Nat) (x : Nat) :
    x ∈ downApp o d ↔ o = some x ∨ x ∈ d := by
  cases o with
  | none => simp [downApp]
  | some o =>
    simp only [downApp, List.mem_cons, List.mem_filter, bne_iff_ne, ne_eq, Option.some.injEq]
    constructor
    · rintro (h | ⟨h, _⟩)
      · exact Or.inl h.symm
      · exact Or.inr h
    · rintro (h | h)
      · exact Or.inl h.symm
      · by_cases hx : x = o
        · exact Or.inl hx
        · exact Or.inr ⟨h, hx⟩

end C16
