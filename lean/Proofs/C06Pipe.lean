import Model.MuxPipe
import Proofs.C01Mux
/-!
# Invariants of the receive pipeline `Model/MuxPipe.lean`

`PInv` is the coarse machine's invariant on `st.m` plus what the receiver holds and the discipline of the timeout channels.
A caller-side action is a step of the coarse machine: it keeps `PInv` by three facts about ANY such step (`held_kept`,
`closes_done`, `done_from`); the three arms of the final select are the coarse machine's hand-over effects
(`Mux.Inv.handOver` / `handGone` / `discard`); the other receive steps only move the receiver (`PInv.recv`).
-/
namespace MuxPipe
open Mux (Wire Outcome Pc upd)

structure PInv (st : St) : Prop where
  base : Mux.Inv st.m
  /-- while the receiver reads the body of / hands over the response on id `s`, the response is still "on the
      wire" and the id is still reserved for the call `d` that recv found in `c.calls` -/
  held_wire : ∀ s d c k w, (st.rcv = .body s d c k w ∨ st.rcv = .hand s d c k w) →
    st.m.wire s = .answered c k w ∧ st.m.owner s = some d
  /-- only a call that has produced its outcome has closed its timeout channel … -/
  tc_done : ∀ c, st.tclosed c = true → ∃ o, st.m.pc c = .done o
  /-- … and every registered call that has produced its outcome HAS closed it (conn.go:1070: "we need to either
      read from call.resp or close(call.timeout)") -/
  done_tc : ∀ s c o, st.m.owner s = some c → st.m.pc c = .done o → st.tclosed c = true

theorem pinv_init (cap : Nat) : PInv (init cap) := by
  constructor
  · exact Mux.inv_init cap
  all_goals simp [init, Mux.init]

/-! What a caller-side step of the coarse machine does to the three things the receiver's clauses read. -/

theorem held_kept {m m' : Mux.St} {a : Mux.Act} (hs : Mux.Step m a m') (h : Mux.Inv m) (hnd : ∀ s, a ≠ .deliver s)
    {s c k w : Nat} (hw : m.wire s = .answered c k w) : m'.wire s = .answered c k w ∧ m'.owner s = m.owner s := by
  have := h.wire_own s
  cases hs with
  -- the id these write carries nothing yet (`acq_ok`); `acquire` takes a free id, `answer` one that carries a request
  | buildFail c₀ s₀ hc | writeCancelled c₀ s₀ hc | wrote c₀ s₀ hc => have := h.acq_ok c₀ s₀ hc; simp only [upd]; grind
  | handOver s₀ | handGone s₀ | discard s₀ => exact absurd rfl (hnd s₀)
  | _ => first | exact ⟨hw, rfl⟩ | (simp only [upd]; grind)

theorem closes_done {m m' : Mux.St} {a : Mux.Act} (hs : Mux.Step m a m') {c : Nat} (hc : closesTimeout a = some c) :
    ∃ o, m'.pc c = .done o := by
  -- `hc` leaves the rules whose action closes a timeout channel; each of them writes `.done _` at that very call
  cases hs <;> simp only [closesTimeout, Option.some.injEq, reduceCtorEq] at hc <;> subst hc <;>
    simp only [upd, ↓reduceIte] <;> exact ⟨_, rfl⟩

theorem done_from {m m' : Mux.St} {a : Mux.Act} (hs : Mux.Step m a m') (h : Mux.Inv m) (hnd : ∀ s, a ≠ .deliver s)
    {s c : Nat} {o : Outcome} (ho : m'.owner s = some c) (hp : m'.pc c = .done o) :
    (m.owner s = some c ∧ m.pc c = .done o) ∨ closesTimeout a = some c := by
  have := h.own_pc s c
  cases hs with
  | handOver s₀ | handGone s₀ | discard s₀ => exact absurd rfl (hnd s₀)
  | _ => first | exact .inl ⟨ho, hp⟩ | (simp only [upd, closesTimeout] at *; grind)

theorem pinv_mux {st : St} {a : Mux.Act} {m' : Mux.St} (h : PInv st) (hm : Mux.Step st.m a m') (hnd : ∀ s, a ≠ .deliver s) :
    PInv { st with m := m', tclosed := match closesTimeout a with | some c => upd st.tclosed c true | none => st.tclosed } := by
  refine ⟨hm.inv h.base, fun s d c k w hh => ?_, fun c hc => ?_, fun s c o ho hp => ?_⟩
  · have hk := h.held_wire s d c k w hh
    exact hk.2 ▸ held_kept hm h.base hnd hk.1
  · cases hct : closesTimeout a with
    | none => simp only [hct] at hc; exact (h.tc_done c hc).imp fun o ho => hm.done ho
    | some c₀ =>
      simp only [hct, upd] at hc
      split at hc
      · subst c; exact closes_done hm hct
      · exact (h.tc_done c hc).imp fun o ho => hm.done ho
  · rcases done_from hm h.base hnd ho hp with ⟨ho', hp'⟩ | hct
    · have := h.done_tc s c o ho' hp'
      show (match closesTimeout a with | some c => upd st.tclosed c true | none => st.tclosed) c = true
      cases closesTimeout a with
      | none => exact this
      | some c₀ => simp only [upd]; split <;> first | rfl | exact this
    · simp [hct, upd]

theorem PInv.recv {st : St} (h : PInv st) (r : Rcv)
    (hr : ∀ s d c k w, (r = .body s d c k w ∨ r = .hand s d c k w) → st.m.wire s = .answered c k w ∧ st.m.owner s = some d) :
    PInv { st with rcv := r } :=
  { h with held_wire := hr }

/-- the two arms of recv's final select that release the id, in the state in which recv holds the response -/
theorem step_handResp {st : St} {s d c k w : Nat} (hr : st.rcv = .hand s d c k w) :
    step st .handResp = if st.m.pc d = .waiting s then
      some { st with rcv := .idle, tclosed := upd st.tclosed d true,
                     m := { st.m with wire := upd st.m.wire s .none, owner := upd st.m.owner s none,
                                      pc := upd st.m.pc d (.done (.resp c k w)),
                                      clears := upd st.m.clears d (st.m.clears d + 1) } }
    else none := by
  simp only [step, hr]

theorem step_handGone {st : St} {s d c k w : Nat} (hr : st.rcv = .hand s d c k w) :
    step st .handGone = if st.tclosed d = true then
      some { st with rcv := .idle,
                     m := { st.m with wire := upd st.m.wire s .none, owner := upd st.m.owner s none,
                                      clears := upd st.m.clears d (st.m.clears d + 1) } }
    else none := by
  simp only [step, hr]

theorem pinv_step (st st' : St) (a : Act) (h : PInv st) (hs : step st a = some st') : PInv st' := by
  revert hs
  fun_cases step st a <;> intro hs <;> cases hs
  case case4 a hnd _ _ m' hm c hc | case5 a hnd _ _ m' hm hc =>  -- a caller-side action of the coarse machine
    simpa only [hc] using pinv_mux h (Mux.step_iff.1 hm) hnd
  case case23 s₀ d₀ c₀ k₀ w₀ hr hp =>  -- handResp
    have hk := h.held_wire s₀ d₀ c₀ k₀ w₀ (Or.inr hr)
    exact { h with
      base := h.base.handOver s₀ d₀ c₀ k₀ w₀ hk.1 hk.2
      held_wire := fun s d c k w => by upd_from h.held_wire s d c k w
      tc_done := fun c => by
        simp only [upd]
        split
        · exact fun _ => ⟨_, rfl⟩  -- the call that took the response
        · exact h.tc_done c
      done_tc := fun s c o => by upd_from h.done_tc s c o }
  case case26 s₀ d₀ c₀ k₀ w₀ hr hp =>  -- handGone
    have hk := h.held_wire s₀ d₀ c₀ k₀ w₀ (Or.inr hr)
    have hdone := h.tc_done d₀ hp
    exact { h with
      base := h.base.handGone s₀ d₀ c₀ k₀ w₀ hk.1 hk.2 (by grind)
      held_wire := fun s d c k w => by upd_from h.held_wire s d c k w
      done_tc := fun s c o => by upd_from h.done_tc s c o }
  case case29 s₀ d₀ c₀ k₀ w₀ hr hp =>  -- handCtx
    exact { h with
      base := h.base.discard s₀ (.inr hp)
      held_wire := fun s d c k w => by upd_from h.held_wire s d c k w }
  -- the receive steps up to the final select: whatever the receiver holds afterwards it held before (`recvBodyEnd`) or has
  -- just found on the wire (`recvHeader`)
  all_goals first | exact h | exact h.recv _ fun s d c k w hh => by have := h.held_wire s d c k w; grind

theorem isRun : IsRun step run := ⟨fun _ => rfl, fun s a as => by rw [run]; cases step s a <;> rfl⟩

theorem pinv_reach {cap : Nat} {as : List Act} {st : St} (h : run (init cap) as = some st) : PInv st :=
  isRun.inv pinv_step (pinv_init cap) h

theorem pdone_step (st st' : St) (a : Act) (c : Nat) (o : Outcome) (hd : st.m.pc c = .done o)
    (hs : step st a = some st') : st'.m.pc c = .done o := by
  revert hs
  fun_cases step st a <;> intro hs <;> cases hs
  case case4 _ _ _ _ _ hm _ _ | case5 _ _ _ _ _ hm _ => exact (Mux.step_iff.1 hm).done hd
  case case23 => simp only [upd]; grind  -- handResp finishes a waiting call
  -- the other receive steps leave `m.pc` alone
  all_goals exact hd

end MuxPipe
