import Proofs.C01Mux
import Proofs.C06Pipe
import Proofs.C06Lock
import Proofs.C06Exec
import Proofs.C06Ctl
/-!
# C06 — every request ends exactly once; streams are never leaked (property theorems)

Same machine as C01 (`Model/Mux.lean`), then its refinements and neighbours: the receive pipeline (`MuxPipe`), the
program points of Conn.exec (`MuxExec`), the heartbeat against close (`CtlBeat`), the event debouncer (`EvDeb`) and the
pool's lock discipline (`PoolLock`). Wall-clock bounds ("within a bounded time") are not
expressible; the harness measures them with a watchdog (supporting evidence, see props/C06.json).
-/

namespace C06
open Mux

/-- a request's outcome is set at most once: once a call is done, no schedule changes its outcome -/
theorem C06_exactly_one_outcome (as : List Act) (st st' : St) (c : Nat) (o : Outcome)
    (hd : st.pc c = .done o) (hr : run st as = some st') : st'.pc c = .done o :=
  isRun.inv (fun s s' a h hs => done_step s s' a c o h hs) hd hr

/-- each acquired id is released at most once (so the allocator's "negative streams" panic is unreachable) -/
theorem C06_release_once (cap : Nat) (as : List Act) (st : St) (h : run (init cap) as = some st) (c : Nat) :
    st.clears c ≤ 1 := (inv_reach h).clears_le c

/-- … and exactly once, with the id free again, when its response was consumed -/
theorem C06_released_when_consumed (cap : Nat) (as : List Act) (st : St) (h : run (init cap) as = some st)
    (d c k w : Nat) (hr : st.pc d = .done (.resp c k w)) : st.clears d = 1 ∧ ∀ s, st.owner s ≠ some d := by
  have inv := inv_reach h
  refine ⟨(inv.resp_ok d c k w hr).2.1, ?_⟩
  intro s hs
  have := inv.own_pc s d hs
  have := (inv.resp_ok d c k w hr).2.1
  omega

/-- a connection with nothing outstanding has its full complement of ids: an id is only reserved by a call
    that is still in flight, or by one that gave up waiting while its response has not come (yet) -/
theorem C06_quiescent_full (cap : Nat) (as : List Act) (st : St) (h : run (init cap) as = some st)
    (hq : ∀ c s, st.pc c ≠ .acquired s ∧ st.pc c ≠ .waiting s) (hab : ∀ c, st.abandoned c = false) :
    ∀ s, st.owner s = none := fun s => Option.eq_none_iff_forall_ne_some.2 fun c ho => by
  have := (inv_reach h).own_pc s c ho
  have := hq c s
  have := hab c
  grind

/-- closing unblocks every waiting caller: after `close`, `connDone` is enabled for each of them -/
theorem C06_close_unblocks (st : St) (c s : Nat) (hc : st.closed = true) (hw : st.pc c = .waiting s) :
    (step st (.connDone c)).isSome = true :=
  (Step.connDone c s hw hc).isSome

/-- a waiting caller is never stuck: its timer (an environment action) is always enabled -/
theorem C06_waiting_never_stuck (st : St) (c s : Nat) (hw : st.pc c = .waiting s) :
    (step st (.timeout c)).isSome = true :=
  (Step.timeout c s hw).isSome

/-- non-vacuity: a request answered between a stray frame and an event; its id is released once -/
example : ∃ st, run (init 128) [.acquire 1 5, .wrote 1, .stray 63, .answer 5 18 1, .event, .deliver 5] = some st ∧
    st.pc 1 = .done (.resp 1 18 1) ∧ st.clears 1 = 1 ∧ st.owner 5 = none := by
  refine ⟨_, rfl, ?_, ?_, ?_⟩ <;> decide

/-! ## The finer receive pipeline (`Model/MuxPipe.lean`): `deliver` split into recvHeader / recvBody* / recvBodyEnd
    and the three arms of recv's final select, with a caller giving up (`timeout` / `cancel` / `connDone`)
    between ANY two of them. All theorems: every action list of the fine machine. -/

/-- a caller can give up at every point of its response's journey: its timer and its context are enabled
    whatever the receive loop is doing (reading the header, in the middle of the body, in the final select) -/
theorem C06_pipe_giveup_anywhere (st : MuxPipe.St) (c s : Nat) (hw : st.m.pc c = .waiting s) :
    (MuxPipe.step st (.mux (.timeout c))).isSome = true ∧ (MuxPipe.step st (.mux (.cancel c))).isSome = true := by
  simp [MuxPipe.step, Mux.step, hw, MuxPipe.closesTimeout]

/-- the receive loop never blocks forever in its final select — and needs neither the server nor a closer for
    that: whenever it holds a response for call `d`, either `d` is in its select (the hand-over is a rendezvous)
    or `d` has closed its timeout channel (recv releases the id itself). The receiver's counterpart of
    `C06_waiting_never_stuck`; this is the theorem that seeded change C06-5 falsifies (`C06_pipe_probe_early_stuck`). -/
theorem C06_pipe_recv_never_stuck (cap : Nat) (as : List MuxPipe.Act) (st : MuxPipe.St)
    (h : MuxPipe.run (MuxPipe.init cap) as = some st) (s d c k w : Nat) (hr : st.rcv = .hand s d c k w) :
    (MuxPipe.step st .handResp).isSome = true ∨ (MuxPipe.step st .handGone).isSome = true := by
  have inv := MuxPipe.pinv_reach h
  obtain ⟨hw, ho⟩ := inv.held_wire s d c k w (Or.inr hr)
  have hp := inv.base.own_pc s d ho
  rcases hp.2.2.2 with hp | hp | ⟨_, o, hp⟩
  · have := (inv.base.acq_ok d s hp).2; simp [hw] at this
  · left; simp [MuxPipe.step_handResp hr, hp]
  · right; have := inv.done_tc s d o ho hp; simp [MuxPipe.step_handGone hr, this]

/-- whichever of the two arms is taken, the id is released exactly once and the receive loop goes on: after
    the hand-over the id is free, its release count is 1, and recv is reading the next header … -/
theorem C06_pipe_handover_releases (cap : Nat) (as : List MuxPipe.Act) (st st' : MuxPipe.St)
    (h : MuxPipe.run (MuxPipe.init cap) as = some st) (s d c k w : Nat) (hr : st.rcv = .hand s d c k w)
    (a : MuxPipe.Act) (ha : a = .handResp ∨ a = .handGone) (hs : MuxPipe.step st a = some st') :
    st'.m.owner s = none ∧ st'.m.clears d = 1 ∧ st'.rcv = .idle := by
  have inv := MuxPipe.pinv_reach h
  obtain ⟨hw, ho⟩ := inv.held_wire s d c k w (Or.inr hr)
  have hc := (inv.base.own_pc s d ho).1
  rcases ha with rfl | rfl
  · rw [MuxPipe.step_handResp hr] at hs
    split at hs <;> cases hs
    simp [upd, hc]
  · rw [MuxPipe.step_handGone hr] at hs
    split at hs <;> cases hs
    simp [upd, hc]

/-- … and the caller that was still in its select got the response of ITS OWN request -/
theorem C06_pipe_handover_routing (cap : Nat) (as : List MuxPipe.Act) (st st' : MuxPipe.St)
    (h : MuxPipe.run (MuxPipe.init cap) as = some st) (s d c k w : Nat) (hr : st.rcv = .hand s d c k w)
    (hs : MuxPipe.step st .handResp = some st') : c = d ∧ st'.m.pc d = .done (.resp d k w) ∧ st.m.sent d = some (k, w) := by
  have inv := MuxPipe.pinv_reach h
  obtain ⟨hw, ho⟩ := inv.held_wire s d c k w (Or.inr hr)
  have hcd : c = d := by
    have := inv.base.wire_own s
    grind
  subst hcd
  refine ⟨rfl, ?_, inv.base.ans_sent s c k w hw⟩
  rw [MuxPipe.step_handResp hr] at hs
  split at hs <;> cases hs
  simp [upd]

/-- each acquired id is released at most once on every schedule of the fine machine (`C06_release_once` restated) -/
theorem C06_pipe_release_once (cap : Nat) (as : List MuxPipe.Act) (st : MuxPipe.St)
    (h : MuxPipe.run (MuxPipe.init cap) as = some st) (c : Nat) : st.m.clears c ≤ 1 :=
  (MuxPipe.pinv_reach h).base.clears_le c

/-- a call's outcome is set at most once (`C06_exactly_one_outcome` restated) -/
theorem C06_pipe_exactly_one_outcome (as : List MuxPipe.Act) (st st' : MuxPipe.St) (c : Nat) (o : Outcome)
    (hd : st.m.pc c = .done o) (hr : MuxPipe.run st as = some st') : st'.m.pc c = .done o :=
  MuxPipe.isRun.inv (fun s s' a h hs => MuxPipe.pdone_step s s' a c o h hs) hd hr

/-- while the receive loop is reading the body of (or handing over) the response on id `s`, `s` stays reserved for
    the call that sent the request — also when that call gives up in the middle of the body — so no other
    request can be sent on `s` -/
theorem C06_pipe_body_keeps_id (cap : Nat) (as : List MuxPipe.Act) (st : MuxPipe.St)
    (h : MuxPipe.run (MuxPipe.init cap) as = some st) (s d c k w : Nat)
    (hr : st.rcv = .body s d c k w ∨ st.rcv = .hand s d c k w) (c' : Nat) :
    st.m.owner s = some d ∧ MuxPipe.step st (.mux (.acquire c' s)) = none := by
  have inv := MuxPipe.pinv_reach h
  obtain ⟨hw, ho⟩ := inv.held_wire s d c k w hr
  refine ⟨ho, ?_⟩
  simp [MuxPipe.step, Mux.step, ho]

/-- what a reserved id stands for on an open connection: an id is reserved only for a call that is still in
    flight, or while the request / response it was used for is still outstanding (unanswered, on its way, or in
    the receive loop's hand). This is what the harness compares AvailableStreams() with (`a=`). -/
theorem C06_pipe_reserved_exact (cap : Nat) (as : List MuxPipe.Act) (st : MuxPipe.St)
    (h : MuxPipe.run (MuxPipe.init cap) as = some st) (hc : st.m.closed = false) (s c : Nat) (ho : st.m.owner s = some c) :
    st.m.pc c = .acquired s ∨ st.m.pc c = .waiting s ∨ st.m.wire s ≠ .none := by
  have inv := MuxPipe.pinv_reach h
  rcases (inv.base.own_pc s c ho).2.2.2 with hp | hp | ⟨_, o, hp⟩
  · exact Or.inl hp
  · exact Or.inr (Or.inl hp)
  · exact Or.inr (Or.inr (inv.base.done_wire s c o ho hp hc))

/-- hence a quiescent open connection has its full complement of ids (`C06_quiescent_full` restated, without the
    hypothesis that nobody ever gave up) -/
theorem C06_pipe_quiescent_full (cap : Nat) (as : List MuxPipe.Act) (st : MuxPipe.St)
    (h : MuxPipe.run (MuxPipe.init cap) as = some st) (hc : st.m.closed = false)
    (hq : ∀ c s, st.m.pc c ≠ .acquired s ∧ st.m.pc c ≠ .waiting s) (hw : ∀ s, st.m.wire s = .none) :
    ∀ s, st.m.owner s = none := fun s => Option.eq_none_iff_forall_ne_some.2 fun c ho => by
  have := C06_pipe_reserved_exact cap as st h hc s c ho
  have := hq c s
  have := hw s
  grind

/-- closing unblocks a caller whatever the receive loop is doing with its response -/
theorem C06_pipe_close_unblocks (st : MuxPipe.St) (c s : Nat) (hc : st.m.closed = true) (hw : st.m.pc c = .waiting s) :
    (MuxPipe.step st (.mux (.connDone c))).isSome = true := by
  simp [MuxPipe.step, Mux.step, hw, hc, MuxPipe.closesTimeout]

/-- Counterexample for the receive loop of seeded change C06-5 (`MuxPipe.stepProbeEarly`: `call.timeout` probed once
    after the header, no `<-call.timeout` arm in the final select): the caller gives up while the body is being
    read, and the receive loop is stuck in its select with the id never released. -/
theorem C06_pipe_probe_early_stuck :
    ∃ st, MuxPipe.runProbeEarly (MuxPipe.init 128)
        [.mux (.acquire 1 5), .mux (.wrote 1), .mux (.answer 5 0 1), .recvHeader 5, .recvBody, .mux (.cancel 1), .recvBodyEnd] = some st ∧
      st.rcv = .hand 5 1 1 0 1 ∧ st.m.closed = false ∧ st.m.owner 5 = some 1 ∧
      MuxPipe.stepProbeEarly st .handResp = none ∧ MuxPipe.stepProbeEarly st .handGone = none ∧
      MuxPipe.stepProbeEarly st .handCtx = none := by
  refine ⟨_, rfl, ?_, ?_, ?_, ?_, ?_, ?_⟩ <;> decide

/-- non-vacuity: the same schedule on the machine of the code that exists: the receiver takes the `<-call.timeout`
    arm, the id comes back, and a probe request on the same id is served -/
example : ∃ st, MuxPipe.run (MuxPipe.init 128)
    [.mux (.acquire 1 5), .mux (.wrote 1), .mux (.answer 5 0 1), .recvHeader 5, .recvBody, .mux (.cancel 1), .recvBodyEnd,
     .handGone, .mux (.acquire 2 5), .mux (.wrote 2), .mux (.answer 5 1 2), .recvHeader 5, .recvBodyEnd, .handResp] = some st ∧
    st.m.pc 1 = .done .ctxErr ∧ st.m.pc 2 = .done (.resp 2 1 2) ∧ st.m.clears 1 = 1 ∧ st.m.owner 5 = none ∧ st.rcv = .idle := by
  refine ⟨_, rfl, ?_, ?_, ?_, ?_, ?_⟩ <;> decide

/-! ## The program points of Conn.exec (`Model/MuxExec.lean`): GetStream and addCall as two steps, the 'frame was never
    written' exits as three (close(call.timeout) / delete from c.calls / Clear), releaseStream after a response as its
    own step, closeWithError as its first critical section, ONE ROUND of its delivery loop per step, and its end (only
    then is the connection's context cancelled). All theorems: every action list from the initial state, i.e. every
    interleaving of any number of callers, the receive loop, the server and a closer. -/

/-- exec is never refused with "attempting to use stream already in use": an id the allocator hands out is never still
    registered in c.calls (the refusal would also leak the id: exec returns from a failed addCall without clearing it).
    This is the theorem that seeded changes C06-7 and C01-8 falsify (`C06_exec_cex_clear_before_unregister`). -/
theorem C06_exec_never_refused_in_use (cap : Nat) (as : List MuxExec.Act) (st : MuxExec.St)
    (h : MuxExec.run (MuxExec.init cap) as = some st) (c : Nat) : st.pc c ≠ .done .inUse :=
  fun hp => ((MuxExec.inv_reach h).loc c).out (congrArg MuxExec.Pc.out hp)

/-- … because on an open connection a registered id is reserved, for the call it is registered for -/
theorem C06_exec_registered_reserved (cap : Nat) (as : List MuxExec.Act) (st : MuxExec.St)
    (h : MuxExec.run (MuxExec.init cap) as = some st) (hc : st.closed = false) (s c : Nat) (hr : st.reg s = some c) :
    st.holder s = some c := by
  have := (MuxExec.inv_reach h).reg_hold s c hr
  grind

/-- no Clear ever finds its bit already clear or clears a bit that was handed to another call, and every call clears
    at most once (the allocator's count never goes negative) -/
theorem C06_exec_release_once (cap : Nat) (as : List MuxExec.Act) (st : MuxExec.St)
    (h : MuxExec.run (MuxExec.init cap) as = some st) : st.bad = false ∧ ∀ c, st.clears c ≤ 1 :=
  ⟨(MuxExec.inv_reach h).not_bad, fun c => ((MuxExec.inv_reach h).loc c).le⟩

/-- a call that took its response, or whose frame was never built, has released its id exactly once when it returns
    (and already when it is inside releaseStream's observer call-back) -/
theorem C06_exec_released_exactly_once (cap : Nat) (as : List MuxExec.Act) (st : MuxExec.St)
    (h : MuxExec.run (MuxExec.init cap) as = some st) (c : Nat)
    (hp : (∃ o, st.pc c = .fin o) ∨ st.pc c = .done .buildErr ∨ ∃ k, st.pc c = .done (.resp k)) :
    st.clears c = 1 ∧ ∀ s, st.holder s ≠ some c := by
  have inv := MuxExec.inv_reach h
  have h1 := (inv.loc c).cleared hp
  refine ⟨h1, ?_⟩
  intro s hs
  have := (inv.hold_rng s c hs).2.2
  omega

/-- a quiescent open connection has its full complement of ids: nobody inside exec, nothing outstanding on the wire -/
theorem C06_exec_quiescent_full (cap : Nat) (as : List MuxExec.Act) (st : MuxExec.St)
    (h : MuxExec.run (MuxExec.init cap) as = some st) (hc : st.closed = false)
    (hq : ∀ c, st.pc c = .idle ∨ ∃ o, st.pc c = .done o) (hw : ∀ s, st.wire s = .none) : ∀ s, st.holder s = none :=
  fun s => Option.eq_none_iff_forall_ne_some.2 fun c ho => by
    have inv := MuxExec.inv_reach h
    have h1 := inv.hold_pc s c ho
    have h2 := hq c
    have h3 := hw s
    have h4 := inv.reg_hold s c
    grind

/-- the receive loop can always dispose of a response it has read on an open connection: the registered call is in its
    select (rendezvous) or has closed its timeout channel (recv releases the id) — never still building / writing -/
theorem C06_exec_recv_never_stuck (cap : Nat) (as : List MuxExec.Act) (st : MuxExec.St)
    (h : MuxExec.run (MuxExec.init cap) as = some st) (hc : st.closed = false) (s c : Nat) (hw : st.wire s = .answered c) :
    (MuxExec.step st (.deliver s)).isSome = true := by
  have inv := MuxExec.inv_reach h
  obtain ⟨_, hp, hr⟩ := inv.wire_hold s c (Or.inr hw)
  have hr : st.reg s = some c := by grind
  rcases hp with hp | hp
  · simp [MuxExec.step, hw, hc, hr, hp]
  · by_cases hq : st.pc c = .waiting s <;> simp [MuxExec.step, hw, hc, hr, hp, hq]

/-- closeWithError's delivery loop is never stuck for good (the rendezvous the comment at conn.go:1070 is about, one
    round per step in this model): every call it has still to visit is in its select (`req.resp <- err` is ready), or has
    closed its timeout channel (`<-req.timeout` is ready), or is registered with its frame not yet written — and then
    the call can move on its own (the write is enabled) and EVERY step it can take makes it ready for the closer -/
theorem C06_exec_closer_never_stuck (cap : Nat) (as : List MuxExec.Act) (st : MuxExec.St)
    (h : MuxExec.run (MuxExec.init cap) as = some st) (c : Nat) (hs : c ∈ st.snap) :
    (MuxExec.step st (.closeDeliver c)).isSome = true ∨
    (∃ s, st.pc c = .reg s ∧ (MuxExec.step st (.wrote c)).isSome = true ∧
      ∀ a st', (a = .wrote c ∨ a = .buildFail c ∨ a = .writeCancelled c ∨ a = .writeFailed c) →
        MuxExec.step st a = some st' → MuxExec.deliverable st' c = true) := by
  have inv := MuxExec.inv_reach h
  have hcl := (inv.snap_closing c hs).1
  rcases inv.snap_ok c hs with ⟨s, hp⟩ | hp | ⟨s, hp⟩
  · left; simp [MuxExec.step, hcl, hs, hp]
  · left
    simp only [MuxExec.step, hcl, hs, and_self, if_true]
    split <;> simp [hp]
  · right
    refine ⟨s, hp, by simp [MuxExec.step, hp], ?_⟩
    intro a st' ha hst
    -- each of the four steps a call at `.reg s` can take leaves it in its select or with its timeout channel closed
    rcases ha with rfl | rfl | rfl | rfl <;> simp only [MuxExec.step, hp] at hst <;> cases hst <;>
      simp [MuxExec.deliverable, MuxExec.upd]

/-- … and when it is through, closing completes: the connection's context is cancelled and every caller still in its
    select can return -/
theorem C06_exec_close_completes (st st' : MuxExec.St) (hc : st.closing = true) (hs : st.snap = [])
    : (MuxExec.step st .closeFinish).isSome = true ∧
      (MuxExec.step st .closeFinish = some st' → ∀ c s, st'.pc c = .waiting s → (MuxExec.step st' (.connDone c)).isSome = true) := by
  refine ⟨by simp [MuxExec.step, hc, hs], ?_⟩
  intro h c s hw
  simp only [MuxExec.step, hc, hs, and_self, if_true] at h
  injection h with h; subst h
  simp [MuxExec.step] at hw ⊢
  simp [hw]

/-- Counterexample for the never-written exits of seeded changes C06-7 / C01-8 (`MuxExec.stepClearFirst`: the id is
    cleared BEFORE the call is removed from c.calls): call 1's frame build fails, its id 1 is cleared, call 2 is handed
    id 1 and is refused with "stream already in use" - and id 1 stays reserved for ever on an idle open connection. -/
theorem C06_exec_cex_clear_before_unregister :
    ∃ st, MuxExec.runClearFirst (MuxExec.init 128)
        [.getStream 1 1, .addCall 1, .buildFail 1, .nwDelete 1, .getStream 2 1, .addCall 2, .nwClear 1, .finish 1] = some st ∧
      st.pc 2 = .done .inUse ∧ st.pc 1 = .done .buildErr ∧ st.closed = false ∧ st.holder 1 = some 2 := by
  refine ⟨_, rfl, ?_, ?_, ?_, ?_⟩ <;> decide

/-- non-vacuity: the same schedule on the machine of the code that exists (delete, THEN clear): call 2 can only be
    handed id 1 after call 1 has unregistered; it is registered, written, answered, and both ids come back; and a run
    in which the server closes the transport while call 1 is registered but unwritten: the closer waits, the call
    writes, the closer delivers the error, closing completes -/
example : ∃ st, MuxExec.run (MuxExec.init 128)
    [.getStream 1 1, .addCall 1, .buildFail 1, .nwDelete 1, .nwClear 1, .getStream 2 1, .addCall 2, .finish 1, .wrote 2,
     .answer 1, .deliver 1, .release 2, .finish 2] = some st ∧
    st.pc 1 = .done .buildErr ∧ st.pc 2 = .done (.resp 2) ∧ st.clears 1 = 1 ∧ st.clears 2 = 1 ∧ st.holder 1 = none ∧ st.bad = false := by
  refine ⟨_, rfl, ?_, ?_, ?_, ?_, ?_, ?_⟩ <;> decide

example : ∃ st, MuxExec.run (MuxExec.init 128)
    [.getStream 1 1, .addCall 1, .closeBegin true, .wrote 1, .closeDeliver 1, .closeFinish] = some st ∧
    st.pc 1 = .done .connErr ∧ st.ctxDone = true ∧ st.snap = [] := by
  refine ⟨_, rfl, ?_, ?_, ?_⟩ <;> decide

/-! ## controlConn.close() against the heartbeat loop (`Model/CtlBeat.lean`): close() sends on the unbuffered `quit`,
    which only the heartbeat goroutine receives, and only in the select at the top of its loop. All schedules. -/

/-- while close() is blocked in its send, the heartbeat goroutine is alive; in its select the handshake is enabled; and
    anywhere else EVERY step it can take brings it nearer to that select (at most two steps away: a heartbeat in
    flight that fails, then reconnect(), which returns at once when the state is closing) -/
theorem C06_ctl_close_never_stuck (as : List CtlBeat.Act) (st : CtlBeat.St) (h : CtlBeat.run CtlBeat.init as = some st)
    (hc : st.cl = .sending) :
    (st.hb = .sel ∨ st.hb = .inflight ∨ st.hb = .reconn) ∧
    (st.hb = .sel → (CtlBeat.step st .takeQuit).isSome = true) ∧
    (st.hb ≠ .sel → (∃ a, CtlBeat.hbAct a = true ∧ (CtlBeat.step st a).isSome = true) ∧
      ∀ a st', CtlBeat.hbAct a = true → CtlBeat.step st a = some st' → CtlBeat.toSel st'.hb < CtlBeat.toSel st.hb) := by
  have inv := CtlBeat.inv_reach h
  have hl := (inv.sending hc).1
  refine ⟨hl, ?_, ?_⟩
  · intro hs; simp [CtlBeat.step, hs, hc]
  · intro hns
    rcases hl with hl | hl | hl
    · exact absurd hl hns
    · refine ⟨⟨.beatOk, rfl, by simp [CtlBeat.step, hl]⟩, ?_⟩
      intro a st' ha hst
      -- `ha` leaves the goroutine's four actions, `hst` the ones enabled here, and each of those lowers `toSel`
      cases a <;> simp [CtlBeat.hbAct] at ha <;> simp [CtlBeat.step, hl] at hst <;> subst hst <;> simp [CtlBeat.toSel, hl]
    · refine ⟨⟨.reconnect, rfl, by simp [CtlBeat.step, hl]⟩, ?_⟩
      intro a st' ha hst
      cases a <;> simp [CtlBeat.hbAct] at ha <;> simp [CtlBeat.step, hl] at hst <;> subst hst <;> simp [CtlBeat.toSel, hl]

/-- closing can always complete: from every reachable state in which close() is blocked in its send there is a
    continuation of at most four steps after which close() has returned, the heartbeat goroutine has returned and the
    control connection is closed -/
theorem C06_ctl_close_returns (as : List CtlBeat.Act) (st : CtlBeat.St) (h : CtlBeat.run CtlBeat.init as = some st)
    (hc : st.cl = .sending) :
    ∃ bs st', bs.length ≤ 4 ∧ CtlBeat.run st bs = some st' ∧ st'.cl = .done ∧ st'.hb = .exited ∧ st'.connClosed = true := by
  have inv := CtlBeat.inv_reach h
  rcases (inv.sending hc).1 with hl | hl | hl
  · exact ⟨[.takeQuit, .closeConn], { st with hb := .exited, cl := .done, connClosed := true }, by simp,
      by simp [CtlBeat.run, CtlBeat.step, hl, hc], rfl, rfl, rfl⟩
  · exact ⟨[.beatOk, .takeQuit, .closeConn], { st with hb := .exited, cl := .done, connClosed := true }, by simp,
      by simp [CtlBeat.run, CtlBeat.step, hl, hc], rfl, rfl, rfl⟩
  · exact ⟨[.reconnect, .takeQuit, .closeConn], { st with hb := .exited, cl := .done, connClosed := true }, by simp,
      by simp [CtlBeat.run, CtlBeat.step, hl, hc], rfl, rfl, rfl⟩

/-- Counterexample for the heartbeat loop of seeded change C06-8 (`CtlBeat.stepEarlyReturn`: the goroutine returns at
    `reconn` when the state is closing): close() arrives while a heartbeat is in flight, the heartbeat fails, the
    goroutine leaves without taking the handshake - close() is blocked in its send and NOTHING can move any more. -/
theorem C06_ctl_cex_early_return :
    ∃ st, CtlBeat.runEarlyReturn CtlBeat.init [.hbStart, .timer, .closeCas, .beatFail, .reconnect] = some st ∧
      st.cl = .sending ∧ st.hb = .exited ∧ st.connClosed = false ∧
      ∀ a, CtlBeat.stepEarlyReturn st a = none := by
  refine ⟨_, rfl, by decide, by decide, by decide, ?_⟩
  intro a; cases a <;> decide

/-- non-vacuity: the same history on the machine of the code that exists -/
example : ∃ st, CtlBeat.run CtlBeat.init [.hbStart, .timer, .closeCas, .beatFail, .reconnect, .takeQuit, .closeConn] = some st ∧
    st.cl = .done ∧ st.hb = .exited ∧ st.connClosed = true := by
  refine ⟨_, rfl, ?_, ?_, ?_⟩ <;> decide

/-! ## Event handling against the receive loop (`Model/EvDeb.lean`): recv hands every EVENT frame to
    eventDebouncer.debounce, which needs the debouncer's mutex. All schedules, any number of events and handlers. -/

/-- the receive loop is never blocked by event handling: in every reachable state recv's debounce() can take the mutex
    at once, or the flusher holds it and needs exactly ONE step of its own to give it back - a step that is enabled
    whatever the handlers of earlier batches are doing (however many are running, whether or not they ever return) -/
theorem C06_ev_recv_never_blocked (as : List EvDeb.Act) (st : EvDeb.St) (h : EvDeb.run EvDeb.init as = some st) :
    (EvDeb.step st .event).isSome = true ∨
    ((EvDeb.step st .flush).isSome = true ∧ ∀ st', EvDeb.step st .flush = some st' → (EvDeb.step st' .event).isSome = true) := by
  have inv := EvDeb.inv_reach h
  cases hf : st.fl with
  | idle => left; simp [EvDeb.step, hf]
  | inCallback => exact absurd hf inv
  | locked =>
    right
    constructor
    · simp only [EvDeb.step, hf, if_true]; split <;> simp
    · intro st' hs
      simp only [EvDeb.step, hf, if_true] at hs
      split at hs <;> (injection hs with hs; subst hs; simp [EvDeb.step])

/-- no event is lost and none is handed over twice: at every point the count of events handed to handlers plus the
    buffer is the number of events received -/
theorem C06_ev_all_handed (as : List EvDeb.Act) (st : EvDeb.St) (h : EvDeb.run EvDeb.init as = some st) :
    st.handed + st.buf = (as.filter (· == .event)).length := by
  suffices H : ∀ (as : List EvDeb.Act) (s s' : EvDeb.St), EvDeb.run s as = some s' →
      s'.handed + s'.buf = s.handed + s.buf + (as.filter (· == .event)).length by
    simpa [EvDeb.init] using H as _ st h
  intro as
  induction as with
  | nil => intro s s' hr; simp [EvDeb.run] at hr; subst hr; simp
  | cons a as ih =>
    intro s s' hr
    obtain ⟨s1, hs1, hr⟩ := EvDeb.isRun.cons_iff.mp hr
    have := ih s1 s' hr
    revert hs1
    fun_cases EvDeb.step s a <;> intro hs1 <;> cases hs1 <;> simp_all <;> omega

/-- Counterexample for the flusher of seeded change C06-10 (`EvDeb.stepSync`: the handler runs on the flusher goroutine
    under the mutex): one event, the timer fires, the handler is running - a second EVENT frame blocks the receive loop,
    and the only step left is the handler returning (which, being a query on this very connection, needs the receive loop) -/
theorem C06_ev_cex_handler_under_lock :
    ∃ st, EvDeb.runSync EvDeb.init [.event, .timerFire, .flush] = some st ∧
      EvDeb.stepSync st .event = none ∧ EvDeb.stepSync st .flush = none ∧ EvDeb.stepSync st .timerFire = none := by
  refine ⟨_, rfl, ?_, ?_, ?_⟩ <;> decide

/-- non-vacuity: on the machine of the code that exists the second event is buffered while the first handler runs, and
    is handed to a second handler by the next flush -/
example : ∃ st, EvDeb.run EvDeb.init [.event, .timerFire, .flush, .event, .timerFire, .flush] = some st ∧
    st.running = 2 ∧ st.handed = 2 ∧ st.buf = 0 := by
  refine ⟨_, rfl, ?_, ?_, ?_⟩ <;> decide

/-! ## Closing calls back into the owner: the lock discipline of hostConnPool (`Model/PoolLock.lean`)

    FULL PROPERTY ("closing a connection or a session returns"), proved below without exclusion since the repair of
    KF-C06-1 (props/C06.fix-KF-C06-1.diff): for every set of goroutines each running ANY sequence of the pool's
    methods (`PoolLock.Meth`: Close, HandleError, Pick / Size, Conn.Close, closeWithError(err), the tail of
    connect()) on connections of which ANY may have a transport whose Close() reports an error (`cerr` arbitrary),
    under every schedule, no goroutine ever waits for pool.mu while holding it, the holder of pool.mu can always
    move, and as long as anybody has work left somebody can move.

    Before the repair hostConnPool.connect closed a connection that finished connecting after the pool was closed
    UNDER pool.mu (`PoolLock.pConnectTailOld`); `C06_pool_cex_connect_after_close_old` keeps the kernel-checked
    counterexample about that OLD definition as a regression witness (replay `cf 4 2 01 0 1 P`). -/

/-- the programs of the pool's methods respect the lock discipline, whatever the transports do on Close -/
theorem C06_pool_methods_ok (cerr : Nat → Bool) (c : Nat) :
    PoolLock.ok cerr false PoolLock.pClose = true ∧ PoolLock.ok cerr false (PoolLock.pHandleError c) = true ∧
    PoolLock.ok cerr false PoolLock.pPick = true ∧ PoolLock.ok cerr false [.connClose c] = true ∧
    PoolLock.ok cerr false [.connError c] = true ∧
    PoolLock.ok cerr false (PoolLock.pConnectTail c) = true :=
  ⟨PoolLock.ok_meth cerr .close, PoolLock.ok_meth cerr (.handleError c), PoolLock.ok_meth cerr .pick,
    PoolLock.ok_meth cerr (.connClose c), PoolLock.ok_meth cerr (.connError c), PoolLock.ok_meth cerr (.connectTail c)⟩

/-- … and so does every sequence of them run by one goroutine -/
theorem C06_pool_methods_compose (cerr : Nat → Bool) (a b : List PoolLock.Instr)
    (ha : PoolLock.ok cerr false a = true) (hb : PoolLock.ok cerr false b = true) : PoolLock.ok cerr false (a ++ b) = true := by
  rw [PoolLock.ok_append cerr a b false ha]; exact hb

/-- no goroutine ever waits for pool.mu while holding it: any goroutines, any sequences of the pool's methods, any
    transports (faulty Close or not), any schedule -/
theorem C06_pool_no_self_deadlock (cerr : Nat → Bool) (conns : List Nat) (ms : Nat → List PoolLock.Meth)
    (ts : List Nat) (st : PoolLock.St)
    (hr : PoolLock.run cerr (PoolLock.init conns (fun t => PoolLock.progOf (ms t))) ts = some st) (t : Nat) :
    PoolLock.selfDeadlocked st t = false := by
  have inv := PoolLock.inv_reach hr t
  unfold PoolLock.selfDeadlocked
  split
  · rename_i r hpr
    by_cases hh : st.holder = some t
    · simp [hpr, hh, PoolLock.ok] at inv
    · simpa using hh
  · rfl

/-- whoever holds pool.mu can always move: a goroutine blocked on pool.mu (Pick, Size, HandleError, a second Close)
    waits for somebody who is not blocked -/
theorem C06_pool_holder_moves (cerr : Nat → Bool) (conns : List Nat) (ms : Nat → List PoolLock.Meth)
    (ts : List Nat) (st : PoolLock.St)
    (hr : PoolLock.run cerr (PoolLock.init conns (fun t => PoolLock.progOf (ms t))) ts = some st) (t : Nat)
    (hh : st.holder = some t) : (PoolLock.step cerr st t).isSome = true :=
  PoolLock.holder_steps cerr st t (PoolLock.inv_reach hr) hh

/-- no global deadlock: as long as some goroutine has not finished, some goroutine can move -/
theorem C06_pool_never_stuck (cerr : Nat → Bool) (conns : List Nat) (ms : Nat → List PoolLock.Meth)
    (ts : List Nat) (st : PoolLock.St)
    (hr : PoolLock.run cerr (PoolLock.init conns (fun t => PoolLock.progOf (ms t))) ts = some st) (u : Nat)
    (hu : st.prog u ≠ []) : ∃ t, (PoolLock.step cerr st t).isSome = true :=
  PoolLock.some_thread_steps cerr st u (PoolLock.inv_reach hr) hu

/-- the formerly failing history (KF-C06-1) on the repaired connect(): goroutine 0 closes the pool; goroutine 1 is the
    tail of connect() for connection 7, whose transport reports an error from Close. connect() finds the pool closed,
    gives the lock back, closes the connection; HandleError gets the lock; everybody finishes. -/
theorem C06_pool_late_connect_after_close_ok :
    ∃ st, PoolLock.run (fun c => c == 7) (PoolLock.init [1] (fun t => PoolLock.progOf (if t = 0 then [.close] else if t = 1 then [.connectTail 7] else [])))
        [0, 0, 0, 0, 0, 1, 1, 1, 1, 1, 1] = some st ∧
      st.holder = none ∧ st.closes 7 = 1 ∧ st.closes 1 = 1 ∧ st.prog 0 = [] ∧ st.prog 1 = [] := by
  refine ⟨_, rfl, ?_, ?_, ?_, ?_, ?_⟩ <;> decide

/-- Regression witness about the OLD tail of connect() (before the repair of KF-C06-1, NOT the code that exists):
    connect() found the pool closed and closed the connection under pool.mu; closeWithError reported the transport's
    error to HandleError, which waited for pool.mu on the goroutine that held it. -/
theorem C06_pool_cex_connect_after_close_old :
    ∃ st, PoolLock.run (fun c => c == 7) (PoolLock.init [1] (fun t => if t = 0 then PoolLock.pClose else if t = 1 then PoolLock.pConnectTailOld 7 else []))
        [0, 0, 0, 0, 0, 1, 1, 1] = some st ∧
      PoolLock.selfDeadlocked st 1 = true ∧ st.holder = some 1 ∧ PoolLock.step (fun c => c == 7) st 1 = none := by
  refine ⟨_, rfl, ?_, ?_, ?_⟩ <;> decide

/-- Counterexample for hostConnPool.Close of seeded change C06-6 (`pCloseHoldingLock`: the connections are closed
    while pool.mu is held): one pooled connection whose transport reports an error from Close is enough. -/
theorem C06_pool_cex_close_holding_lock :
    ∃ st, PoolLock.run (fun _ => true) (PoolLock.init [1] (fun t => if t = 0 then PoolLock.pCloseHoldingLock else []))
        [0, 0, 0, 0] = some st ∧ PoolLock.selfDeadlocked st 0 = true := by
  refine ⟨_, rfl, ?_⟩; decide

/-- non-vacuity: the code that exists closes a pool of two connections with faulty transports, both report their
    Close error to HandleError after the lock was released, a concurrent Pick and a second Close get through -/
example : ∃ st, PoolLock.run (fun _ => true)
    (PoolLock.init [1, 2] (fun t => if t = 0 then PoolLock.pClose else if t = 1 then PoolLock.pPick else if t = 2 then PoolLock.pClose else []))
    [0, 0, 0, 0, 0, 1, 1, 1, 0, 0, 0, 0, 0, 0, 0, 2, 2, 2, 2] = some st ∧
    st.holder = none ∧ st.closed = true ∧ st.conns = [] ∧ st.closes 1 = 1 ∧ st.closes 2 = 1 ∧ st.prog 0 = [] ∧ st.prog 1 = [] ∧ st.prog 2 = [] := by
  refine ⟨_, rfl, ?_, ?_, ?_, ?_, ?_, ?_, ?_, ?_⟩ <;> decide

end C06
