import Gen.Streams
import Model.Streams
import Proofs.GenTieBits
/-!
  Tie theorems between the definitions REGENERATED from /repo/internal/streams/streams.go by tools/go2lean
  (`Gen.Streams`, Go `int` = BitVec 64 with signed `/` and `%`) and the hand-written `Nat` model the C08 theorems
  are about (`Streams`), for every non-negative `int` argument.
-/
namespace GenTie.C08
open GenTie.Bits GenTie.C12

theorem bucketBits : Gen.Streams.bucketBits_int = 64 := rfl

/-- `bucketOffset(i) = i / bucketBits` -/
theorem bucketOffset (j : Nat) (h : j < 2^63) :
    (Gen.Streams.bucketOffset (BitVec.ofNat 64 j)).toNat = Streams.bucketOffset j := by
  rw [Gen.Streams.bucketOffset, int_sdiv h (by decide), toNat_int (by omega), Streams.bucketOffset]

/-- `streamOffset(stream) = bucketBits - uint64(stream%bucketBits) - 1` -/
theorem streamOffset (j : Nat) (h : j < 2^63) :
    (Gen.Streams.streamOffset (BitVec.ofNat 64 j)).toNat = Streams.streamOffset j := by
  rw [Gen.Streams.streamOffset, int_srem h (by decide), int_sub (by omega) (by omega), int_sub (by omega) (by decide),
    toNat_int (by omega), Streams.streamOffset]

/-- `streamFromBucket(bucket, streamInBucket)`, stated for `b < 2^50` (the product overflows only from 2^57 buckets on) -/
theorem streamFromBucket (b j : Nat) (hb : b < 2^50) (hj : j < 64) :
    (Gen.Streams.streamFromBucket (BitVec.ofNat 64 b) (BitVec.ofNat 64 j)).toNat = Streams.streamFromBucket b j := by
  rw [Gen.Streams.streamFromBucket, int_mul, int_add, toNat_int (by omega), Streams.streamFromBucket]

/-- `isSet(bits, stream)`: bit `streamOffset(stream)` of the word -/
theorem isSet (w : BitVec 64) (j : Nat) (h : j < 2^63) :
    Gen.Streams.isSet w (BitVec.ofNat 64 j) = w.getLsbD (Streams.streamOffset j) := by
  rw [Gen.Streams.isSet, streamOffset j h, show (0x1#64 : BitVec 64) = BitVec.twoPow 64 0 from rfl,
    bit_set _ 0 (by decide), BitVec.getLsbD_ushiftRight, Nat.add_zero]

/-- `New`: 128 streams / 2 words for protocol ≤ 2, 32768 / 512 above; the tie is on the word count (second component) -/
theorem newSizes (p : Nat) (h : p < 2^63) :
    (Gen.Streams.newSizes (BitVec.ofNat 64 p)).2.toNat = Streams.wordsOfProto p := by
  unfold Gen.Streams.newSizes Streams.wordsOfProto
  rw [slt_nat _ _ (by decide) h]
  by_cases hp : p > 2 <;> simp [hp] <;> decide

/-- `offset = (offset + 1) % s.numBuckets` in uint32 arithmetic -/
theorem nextOffset (n o : Nat) (hn : n < 2^32) (ho : o < 2^32) :
    (Gen.Streams.nextOffset (BitVec.ofNat 32 n) (BitVec.ofNat 32 o)).toNat = Streams.nextOffset n o := by
  unfold Gen.Streams.nextOffset Streams.nextOffset
  have h1 : n % 4294967296 = n := Nat.mod_eq_of_lt hn
  have h2 : o % 4294967296 = o := Nat.mod_eq_of_lt ho
  simp [BitVec.toNat_umod, BitVec.toNat_add, h1, h2]

/-- `pos := int((i + offset) % s.numBuckets)` after `offset = (offset + 1) % s.numBuckets`: the model's `scanPos32` -/
theorem scanPos (nb o i : UInt32) :
    Gen.Streams.scanPos nb.toBitVec (Gen.Streams.nextOffset nb.toBitVec o.toBitVec) i.toBitVec
      = (Streams.scanPos32 nb o i).toBitVec.setWidth 64 := rfl

/-- `mask := uint64(1 << streamOffset(j))` (GetStream) -/
theorem getMask (j : Nat) (h : j < 2^63) : Gen.Streams.getMask (BitVec.ofNat 64 j) = Streams.mask j := by
  unfold Gen.Streams.getMask Streams.mask
  rw [streamOffset j h]

/-- `mask := uint64(1) << streamOffset(stream)` (Clear) -/
theorem clearMask (j : Nat) (h : j < 2^63) : Gen.Streams.clearMask (BitVec.ofNat 64 j) = Streams.mask j := by
  unfold Gen.Streams.clearMask Streams.mask
  rw [streamOffset j h]

end GenTie.C08
