import Model.Pool
import Proofs.Common
/-!
  policyConnPool's map entry for ONE host id under any number of addHost / removeHost / Close callers (`Reg` of `Model/Pool.lean`).
  The notion is `Reach s i`: somebody answers for pool object `i`. In the code that exists every open pool has it (`RInv`): lookup
  and store of addHost sit in one critical section, so a store never overwrites an entry (`missLock`). In the split-lock variant
  a store can, and the pool that loses its entry is open and out of reach for good (`Orphan`). What the two machines share —
  removeHost, Close, the callers outside the mutex — is walked once (`shared_step`): it hands responsibility on and creates none.
-/
namespace C17Reg
open Reg

theorem setClosed_eq_set : ∀ (l : List Bool) (i : Nat), setClosed l i = l.set i true
  | [], _ => rfl
  | _ :: _, 0 => rfl
  | b :: bs, i + 1 => congrArg (b :: ·) (setClosed_eq_set bs i)

theorem setClosed_get (l : List Bool) (i j : Nat) (h : (setClosed l i)[j]? = some false) : l[j]? = some false ∧ j ≠ i := by
  rw [setClosed_eq_set] at h
  rcases getElem?_set_cases h with ⟨_, ⟨⟩⟩ | ⟨hne, h⟩
  exact ⟨h, Ne.symm hne⟩

theorem setClosed_ne (l : List Bool) {i j : Nat} (hi : i ≠ j) : (setClosed l i)[j]? = l[j]? := by
  rw [setClosed_eq_set, List.getElem?_set_ne hi]

/-- somebody answers for pool object `i`: the map holds it, the caller inside the mutex has built it and not stored it yet or has
    unregistered it, or a caller is on its way to close it -/
abbrev Reach (s : St) (i : Nat) : Prop :=
  s.reg = some i ∨ s.crit = some (.addCreated i) ∨ s.crit = some (.rmDeleted i) ∨ i ∈ s.toClose

theorem Reach.reg {s : St} {i : Nat} (h : s.reg = some i) : Reach s i := .inl h
theorem Reach.created {s : St} {i : Nat} (h : s.crit = some (.addCreated i)) : Reach s i := .inr (.inl h)
theorem Reach.deleted {s : St} {i : Nat} (h : s.crit = some (.rmDeleted i)) : Reach s i := .inr (.inr (.inl h))
theorem Reach.doomed {s : St} {i : Nat} (h : i ∈ s.toClose) : Reach s i := .inr (.inr (.inr h))

structure RInv (s : St) : Prop where
  missLock : (s.crit = some (.addLooked none) ∨ ∃ i, s.crit = some (.addCreated i)) → s.reg = none
  noOrphan : ∀ i, s.pools[i]? = some false → Reach s i

/-- pool `i` is open and nothing refers to it: not the map, not a caller inside the mutex, not a caller on its way to a
    store or to `go pool.Close()` -/
structure Orphan (i : Nat) (s : St) : Prop where
  opn : s.pools[i]? = some false
  out : ¬ Reach s i
  notMade : i ∉ s.made
  crit : s.crit ≠ some (.addLooked (some i)) ∧ s.crit ≠ some (.addStored i)

/-- the points of addHost inside the mutex -/
def adding : Crit → Bool
  | .addIn | .addRefused | .addLooked _ | .addCreated _ | .addStored _ => true
  | _ => false

theorem rinv_init (b : Bool) : RInv (St.init b) := by
  constructor
  · intro h; simp [St.init] at h
  · intro i h
    cases b
    · simp [St.init] at h
    · simp only [St.init, if_true] at h ⊢
      cases i with
      | zero => left; rfl
      | succ n => simp at h

theorem isRun : IsRun step run := ⟨fun _ => rfl, fun s a as => by rw [run]; cases step s a <;> rfl⟩
theorem isRunSplit : IsRun stepSplit runSplit := ⟨fun _ => rfl, fun s a as => by rw [runSplit]; cases stepSplit s a <;> rfl⟩

/-- what an action does that hands responsibility for pool objects on and creates none -/
structure HandsOn (s s' : St) : Prop where
  made : s'.made = s.made
  /-- the caller inside the mutex is not moved to a point of addHost -/
  crit : ∀ c, s'.crit = some c → adding c = true → s.crit = some c ∧ s'.reg = s.reg
  /-- no pool is opened, and for an open pool it does not change whether somebody answers for it -/
  back : ∀ i, s'.pools[i]? = some false → s.pools[i]? = some false ∧ (Reach s' i ↔ Reach s i)
  /-- a pool nobody answers for is not closed -/
  keep : ∀ i, s.pools[i]? = some false → ¬ Reach s i → s'.pools[i]? = some false

/-- The actions that the code that exists and the split-lock variant have in common (the callers arriving, `fill`, removeHost,
    `go pool.Close()`, policyConnPool.Close: both step functions enable them) hand responsibility on. -/
theorem shared_step {s s' : St} {a : Act} (hs : step s a = some s') (hs' : stepSplit s a = some s') : HandsOn s s' := by
  revert hs hs'; fun_cases step s a <;> intro hs hs' <;> cases hs
  -- the steps of addHost inside the mutex: the split-lock variant has none of them
  case case4 | case6 | case7 | case9 | case11 | case13 | case14 | case15 => simp [stepSplit] at hs'
  -- a caller arrives, `fill`: nothing the invariants read changes
  case case1 | case2 | case3 | case17 => exact ⟨rfl, fun c h _ => ⟨h, rfl⟩, fun i h => ⟨h, Iff.rfl⟩, fun i h _ => h⟩
  -- `go pool.Close()` of pool `k`: a pool somebody answers for
  case case27 k hm =>
    refine ⟨rfl, fun c h _ => ⟨h, rfl⟩, fun i h => ?_, fun i h hn => ?_⟩
    · have ⟨h', hne⟩ := setClosed_get _ _ _ h
      exact ⟨h', by simp [Reach, List.mem_erase_of_ne hne]⟩
    · exact (setClosed_ne (i := k) (j := i) _ fun e => hn (.doomed (e ▸ hm))).trans h
  -- policyConnPool.Close finds the entry `k`: it closes the pool the map answers for
  case case32 hc k hr =>
    refine ⟨rfl, by simp [adding], fun i h => ?_, fun i h hn => ?_⟩
    · have ⟨h', hne⟩ := setClosed_get _ _ _ h
      exact ⟨h', by simp [Reach, hc, hr, Ne.symm hne]⟩
    · exact (setClosed_ne (i := k) (j := i) _ fun e => hn (.reg (e ▸ hr))).trans h
  -- the other steps of removeHost and Close: the pools stay as they are; the caller inside the mutex answers for nothing before
  -- and after, except that removeHost's entry goes from the map to the caller (lookup) and from the caller to `toClose` (unlock)
  all_goals exact ⟨rfl, by simp [adding], fun i h => ⟨h, by simp [Reach, *, or_comm, eq_comm]⟩, fun i h _ => h⟩

theorem RInv.handsOn {s s' : St} (h : RInv s) (on : HandsOn s s') : RInv s' := by
  refine ⟨fun hm => ?_, fun i hi => (on.back i hi).2.mpr (h.noOrphan i (on.back i hi).1)⟩
  rcases hm with hm | ⟨i, hm⟩ <;> have ⟨e, hr⟩ := on.crit _ hm rfl
  · exact hr.trans (h.missLock (.inl e))
  · exact hr.trans (h.missLock (.inr ⟨i, e⟩))

theorem rinv_step (s s' : St) (a : Act) (h : RInv s) (hs : step s a = some s') : RInv s' := by
  have ⟨h1, h2⟩ := h
  have hs0 := hs
  revert hs; fun_cases step s a <;> intro hs <;> cases hs
  -- addHost builds a pool: the lookup under the same lock missed
  case case9 hc =>
    have hr := h1 (Or.inl hc)
    refine ⟨fun _ => hr, fun i hi => ?_⟩
    rcases getElem?_snoc_cases hi with ⟨_, hi'⟩ | ⟨hi', _⟩
    · exact .doomed (by simpa [Reach, hc, hr] using h2 i hi')
    · subst hi'; exact .created rfl
  -- … and stores it: it overwrites no entry
  case case11 i hc =>
    have hr := h1 (Or.inr ⟨i, hc⟩)
    exact ⟨by simp, fun j hj => by simpa [Reach, hc, hr] using h2 j hj⟩
  -- the other steps of addHost inside the mutex (lock, lookup, unlock): the caller answers for nothing before and after
  case case4 | case6 | case7 | case13 | case14 | case15 => exact ⟨by simp, fun i hi => by simpa [Reach, *] using h2 i hi⟩
  -- everything else is shared with the split-lock variant (`stepSplit s a` is `step s a` by definition)
  all_goals exact h.handsOn (shared_step hs0 hs0)

theorem rinv_run : ∀ (as : List Act) (s s' : St), RInv s → run s as = some s' → RInv s' :=
  fun _ _ _ => isRun.inv rinv_step

/-- once policyConnPool.Close has swept the map (`closed`, set under the mutex) nothing is registered any more and no
    addHost caller is on its way to a store: every later caller finds `closed` under the mutex and leaves -/
def RClosed (s : St) : Prop :=
  s.closed = true → s.reg = none ∧ (∀ x, s.crit ≠ some (.addLooked x)) ∧ ∀ i, s.crit ≠ some (.addCreated i)

theorem rclosed_init (b : Bool) : RClosed (St.init b) := by
  intro h; cases b <;> simp [St.init] at h

theorem rclosed_step (s s' : St) (a : Act) (h : RClosed s) (hs : step s a = some s') : RClosed s' := by
  unfold RClosed at h ⊢
  revert hs; fun_cases step s a <;> intro hs <;> cases hs
  -- a rule that writes none of `closed`, `reg`, `crit` hands `h` on; the others write them as literals
  all_goals first | exact h | (intro hc; simp_all)

theorem closed_mono (s s' : St) (a : Act) (hc : s.closed = true) (hs : step s a = some s') : s'.closed = true := by
  revert hs; fun_cases step s a <;> intro hs <;> cases hs
  all_goals first | exact hc | rfl       -- `closed` is untouched, or set

theorem Orphan.handsOn {i : Nat} {s s' : St} (h : Orphan i s) (on : HandsOn s s') : Orphan i s' :=
  have ho := on.keep i h.opn h.out
  ⟨ho, fun hr => h.out ((on.back i ho).2.mp hr), on.made ▸ h.notMade,
    fun e => h.crit.1 (on.crit _ e rfl).1, fun e => h.crit.2 (on.crit _ e rfl).1⟩

/-- the split-lock variant: its addHost can leave an orphan behind (`sStore` overwrites the map entry), but like every other
    action it never touches one that exists -/
theorem orphan_step (i : Nat) (s s' : St) (a : Act) (h : Orphan i s) (hs : stepSplit s a = some s') : Orphan i s' := by
  have hs0 := hs
  revert hs; fun_cases stepSplit s a <;> intro hs
  -- everything but addHost is the code that exists
  case case13 => exact h.handsOn (shared_step hs hs0)
  all_goals cases hs
  -- the lookup under the read lock, hit or miss
  case case6 | case7 => exact { h with }
  -- a pool is built: it has the next index, and `i` is an index in use
  case case9 =>
    have := (List.getElem?_eq_some_iff.1 h.opn).1
    exact { h with opn := getElem?_append_of _ h.opn, notMade := by simp [h.notMade]; omega }
  -- pool `k` is stored under the write lock, over whatever the map holds
  case case11 k hc =>
    have hk : k ≠ i := fun hk => h.notMade (hk ▸ hc.2)
    exact { h with out := fun hr => h.out (.inr (hr.resolve_left (by simpa using hk)))
                   notMade := fun hm => h.notMade (List.mem_of_mem_erase hm) }

end C17Reg
