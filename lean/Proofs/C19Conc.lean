import Model.UuidConc
import Proofs.C19Gen
/-! The small-step machine of concurrent `TimeUUID()` callers (`Model/UuidConc.lean`):
    every schedule is a `genRun` of the readings in increment order (linearization), the counter, frame lemmas,
    whole calls of one goroutine (`callsOf`), the driver's newest-first run (`revOut_run`), the per-goroutine order
    of readings under a monotone wall clock (`MonoInv`), the driver's monitors. -/
namespace Uuid

theorem timeUUID_congr {c c' : Nat} (h : c % 2 ^ 32 = c' % 2 ^ 32) (hw : List UInt8) (r : Int × Nat) :
    timeUUID c hw r = timeUUID c' hw r := by
  simp only [timeUUID, uuidFromTime]
  rw [Nat.add_mod c, h, ← Nat.add_mod]

theorem genRun_snoc (hw : List UInt8) (rs : List (Int × Nat)) (r : Int × Nat) : ∀ c,
    genRun hw c (rs ++ [r]) = genRun hw c rs ++ [(timeUUID (c + rs.length) hw r).1] := by
  induction rs with
  | nil => intro c; rfl
  | cons x xs ih =>
    intro c
    simp only [List.cons_append, genRun, ih, List.length_cons]
    rw [timeUUID_congr (c := (timeUUID c hw x).2 + xs.length) (c' := c + (xs.length + 1))
      (show ((c + 1) % 2 ^ 32 + xs.length) % 2 ^ 32 = _ by rw [Nat.mod_add_mod, Nat.add_assoc, Nat.add_comm 1])]

/-- the linearization invariant relative to a base state: what has been returned since is a generator run from
    the base counter over the readings in increment order, and the counter has moved by their number (uint32) -/
def LinInv (hw : List UInt8) (base s : Conc) : Prop :=
  ∃ new : List Ret, s.out = base.out ++ new ∧
    new.map (·.uuid) = genRun hw base.clockSeq (new.map (·.reading)) ∧
    s.clockSeq % 2 ^ 32 = (base.clockSeq + new.length) % 2 ^ 32 ∧ (base.clockSeq < 2 ^ 32 → s.clockSeq < 2 ^ 32)

theorem linInv_refl (hw : List UInt8) (s : Conc) : LinInv hw s s :=
  ⟨[], by simp, rfl, rfl, id⟩

theorem linInv_step (hw : List UInt8) (base s : Conc) (a : Act) (h : LinInv hw base s) :
    LinInv hw base (concStep hw s a) := by
  obtain ⟨new, ho, hu, hc, hb⟩ := h
  fun_cases concStep hw s a
  case case4 g r _ =>  -- a goroutine holding `r` increments and returns; every other step keeps `out` and the counter
    refine ⟨new ++ [⟨g, r, (timeUUID s.clockSeq hw r).1⟩], ?_, ?_, ?_, fun _ => Nat.mod_lt _ (by decide)⟩
    · simp [ho]
    · simp only [List.map_append, List.map_cons, List.map_nil, genRun_snoc, hu, List.length_map]
      rw [timeUUID_congr hc]
    · show (s.clockSeq + 1) % 2 ^ 32 % 2 ^ 32 = _
      rw [Nat.mod_mod, Nat.add_mod, hc, ← Nat.add_mod, List.length_append, Nat.add_assoc]; rfl
  all_goals exact ⟨new, ho, hu, hc, hb⟩

theorem linInv_run (hw : List UInt8) (base : Conc) (acts : List Act) (s : Conc) (h : LinInv hw base s) :
    LinInv hw base (concRun hw s acts) :=
  foldl_inv _ _ (linInv_step hw base) acts s h

theorem conc_counter (hw : List UInt8) (s : Conc) (acts : List Act) :
    s.out.length ≤ (concRun hw s acts).out.length ∧
    (concRun hw s acts).clockSeq % 2 ^ 32 = (s.clockSeq + ((concRun hw s acts).out.length - s.out.length)) % 2 ^ 32 ∧
    (s.clockSeq < 2 ^ 32 → (concRun hw s acts).clockSeq < 2 ^ 32) := by
  obtain ⟨new, ho, _, hcs, hb⟩ := linInv_run hw s acts s (linInv_refl hw s)
  rw [ho, hcs]
  simpa using hb

/-! frame: what the others do never touches the reading a goroutine holds -/

def actOf : Act → Option Nat
  | .now g => some g
  | .inc g => some g
  | .wall _ => none

theorem heldOf_cons_ne (h : List (Nat × (Int × Nat))) (g g' : Nat) (t : Int × Nat) (hne : g' ≠ g) :
    heldOf ((g', t) :: h) g = heldOf h g :=
  find_key_cons_ne t h hne

theorem heldOf_filter_ne (g g' : Nat) (hne : g' ≠ g) (h : List (Nat × (Int × Nat))) :
    heldOf (h.filter (·.1 != g')) g = heldOf h g :=
  find_key_filter_ne h hne

theorem heldOf_filter_self (g : Nat) (h : List (Nat × (Int × Nat))) : heldOf (h.filter (·.1 != g)) g = none :=
  find_key_filter_self g h

theorem held_frame_step (hw : List UInt8) (s : Conc) (g : Nat) (a : Act) (ha : actOf a ≠ some g) :
    heldOf (concStep hw s a).held g = heldOf s.held g := by
  fun_cases concStep hw s a <;> simp_all [actOf, heldOf_cons_ne, heldOf_filter_ne]

theorem held_frame_run (hw : List UInt8) (g : Nat) (acts : List Act) (ha : ∀ a ∈ acts, actOf a ≠ some g) (s : Conc) :
    heldOf (concRun hw s acts).held g = heldOf s.held g :=
  -- `foldlRecOn`, not `foldl_inv`: the step needs `a ∈ acts`
  acts.foldlRecOn (motive := fun s' => heldOf s'.held g = heldOf s.held g) _ rfl
    fun s' h a hm => (held_frame_step hw s' g a (ha a hm)).trans h

theorem conc_call (hw : List UInt8) (s : Conc) (g : Nat) (t : Int × Nat) (hg : heldOf s.held g = none) :
    (concRun hw s [.wall t, .now g, .inc g]).out = s.out ++ [⟨g, t, (timeUUID s.clockSeq hw t).1⟩] ∧
    heldOf (concRun hw s [.wall t, .now g, .inc g]).held g = none := by
  have h1 : heldOf ((g, t) :: s.held) g = some t := by simp [heldOf]
  have e : concRun hw s [.wall t, .now g, .inc g] =
      { clockSeq := (timeUUID s.clockSeq hw t).2, wall := t,
        held := ((g, t) :: s.held).filter (·.1 != g),
        out := s.out ++ [⟨g, t, (timeUUID s.clockSeq hw t).1⟩] } := by
    simp only [concRun, List.foldl_cons, List.foldl_nil, concStep, hg, h1]
  rw [e]
  exact ⟨rfl, heldOf_filter_self g _⟩

/-- `k` whole calls of goroutine `g`, the wall clock set to `f i` before the `i`-th -/
def callsOf (g : Nat) (f : Nat → Int × Nat) (k : Nat) : List Act :=
  (List.range k).flatMap fun i => [Act.wall (f i), .now g, .inc g]

theorem callsOf_succ (g : Nat) (f : Nat → Int × Nat) (k : Nat) :
    callsOf g f (k + 1) = callsOf g f k ++ [Act.wall (f k), .now g, .inc g] := by
  simp [callsOf, List.range_succ, List.flatMap_append]

theorem concRun_append (hw : List UInt8) (s : Conc) (a b : List Act) :
    concRun hw s (a ++ b) = concRun hw (concRun hw s a) b := by
  simp [concRun, List.foldl_append]

theorem conc_calls (hw : List UInt8) (g : Nat) (f : Nat → Int × Nat) : ∀ (k : Nat) (s : Conc),
    heldOf s.held g = none →
    heldOf (concRun hw s (callsOf g f k)).held g = none ∧
    ∃ new, (concRun hw s (callsOf g f k)).out = s.out ++ new ∧
      new.map (fun r => (r.g, r.reading)) = (List.range k).map fun i => (g, f i)
  | 0, s, hg => ⟨hg, [], (List.append_nil _).symm, rfl⟩
  | k + 1, s, hg => by
    obtain ⟨hh, new, ho, hm⟩ := conc_calls hw g f k s hg
    obtain ⟨ho', hh'⟩ := conc_call hw _ g (f k) hh
    rw [callsOf_succ, concRun_append]
    refine ⟨hh', new ++ [⟨g, f k, _⟩], by rw [ho', ho, List.append_assoc], ?_⟩
    rw [List.map_append, hm, List.range_succ, List.map_append]; rfl

theorem callsOf_frame (g g' : Nat) (hne : g' ≠ g) (f : Nat → Int × Nat) (k : Nat) :
    ∀ a ∈ callsOf g' f k, actOf a ≠ some g := by
  intro a ha
  simp only [callsOf, List.mem_flatMap, List.mem_range] at ha
  obtain ⟨i, _, hm⟩ := ha
  simp only [List.mem_cons, List.not_mem_nil, or_false] at hm
  rcases hm with rfl | rfl | rfl <;> simp [actOf, hne]

theorem concStep_inc {hw : List UInt8} {s : Conc} {g : Nat} {r : Int × Nat} (h : heldOf s.held g = some r) :
    concStep hw s (.inc g) =
      { s with clockSeq := (timeUUID s.clockSeq hw r).2, held := s.held.filter (·.1 != g),
               out := s.out ++ [⟨g, r, (timeUUID s.clockSeq hw r).1⟩] } := by
  simp only [concStep, h]

theorem revOut_revOut (s : Conc) : revOut (revOut s) = s := by
  cases s; simp [revOut]

theorem revOut_step (hw : List UInt8) (s : Conc) (a : Act) :
    revOut (concStep hw s a) = concStepR hw (revOut s) a := by
  fun_cases concStep hw s a <;> simp_all [concStepR, revOut]

theorem revOut_run (hw : List UInt8) (acts : List Act) (s : Conc) :
    revOut (concRun hw s acts) = acts.foldl (concStepR hw) (revOut s) :=
  (List.foldl_hom revOut (H := fun s a => (revOut_step hw s a).symm)).symm

theorem out_tick (hw : List UInt8) (acts : List Act) (s : Conc) (h : ∀ r ∈ s.out, timestamp r.uuid = tick r.reading) :
    ∀ r ∈ (concRun hw s acts).out, timestamp r.uuid = tick r.reading :=
  foldl_inv (fun s => ∀ r ∈ s.out, timestamp r.uuid = tick r.reading) _
    (fun s a h => by fun_cases concStep hw s a <;> simp_all [or_imp, timestamp_timeUUID]) acts s h

theorem readingLe_refl (a : Int × Nat) : readingLe a a := Or.inr ⟨rfl, Nat.le_refl _⟩

theorem readingLe_trans (a b c : Int × Nat) (h1 : readingLe a b) (h2 : readingLe b c) : readingLe a c := by
  unfold readingLe at *; omega

/-- along the schedule the environment only moves the wall clock forward, inside the representable range -/
def WallOk (w : Int × Nat) : List Act → Prop
  | [] => True
  | .wall t :: as => readingLe w t ∧ Representable t.1 t.2 ∧ WallOk t as
  | .now _ :: as => WallOk w as
  | .inc _ :: as => WallOk w as

/-- `x` is a reading the wall clock showed between the start `t0` and now (`w`) -/
structure Seen (t0 w x : Int × Nat) : Prop where
  after : readingLe t0 x
  before : readingLe x w
  repr : Representable x.1 x.2

theorem Seen.mono {t0 w w' x : Int × Nat} (h : Seen t0 w x) (hle : readingLe w w') : Seen t0 w' x :=
  ⟨h.after, readingLe_trans _ _ _ h.before hle, h.repr⟩

/-- every reading held or returned was seen on the wall clock; a goroutine's returned readings are in order, and below
    the one it holds -/
structure MonoInv (t0 : Int × Nat) (s : Conc) : Prop where
  wallSeen : Seen t0 s.wall s.wall
  heldSeen : ∀ p ∈ s.held, Seen t0 s.wall p.2
  outSeen : ∀ r ∈ s.out, Seen t0 s.wall r.reading
  heldOut : ∀ p ∈ s.held, ∀ r ∈ s.out, r.g = p.1 → readingLe r.reading p.2
  pw : s.out.Pairwise (fun a b => a.g = b.g → readingLe a.reading b.reading)

theorem heldOf_mem (h : List (Nat × (Int × Nat))) (g : Nat) (r : Int × Nat) (e : heldOf h g = some r) : (g, r) ∈ h :=
  find_key_mem e

theorem monoInv_step (hw : List UInt8) (t0 : Int × Nat) (s : Conc) (a : Act) (h : MonoInv t0 s)
    (hok : WallOk s.wall [a]) : MonoInv t0 (concStep hw s a) := by
  obtain ⟨hwl, hh, ho, hho, pw⟩ := h
  -- along `concStep`: the three steps that change the state (the other two leave it as it is)
  fun_cases concStep hw s a
  case case5 t =>  -- the wall clock is set
    obtain ⟨hle, hrep, _⟩ := hok
    exact ⟨⟨readingLe_trans _ _ _ hwl.after hle, readingLe_refl _, hrep⟩, fun p hp => (hh p hp).mono hle,
      fun r hr => (ho r hr).mono hle, hho, pw⟩
  case case2 g _ =>  -- a goroutine outside a call takes a reading
    exact ⟨hwl, List.forall_mem_cons.mpr ⟨hwl, hh⟩, ho,
      List.forall_mem_cons.mpr ⟨fun r hr _ => (ho r hr).before, hho⟩, pw⟩
  case case4 g r hr =>  -- a goroutine holding `r` increments and returns
    have hmem := heldOf_mem _ _ _ hr
    refine ⟨hwl, fun p hp => hh p (List.mem_filter.mp hp).1,
      List.forall_mem_append.mpr ⟨ho, List.forall_mem_singleton.mpr (hh _ hmem)⟩, ?_, ?_⟩
    · intro p hp
      have hpne : p.1 ≠ g := by simpa using (List.mem_filter.mp hp).2
      exact List.forall_mem_append.mpr ⟨hho p (List.mem_filter.mp hp).1,
        List.forall_mem_singleton.mpr fun hg => absurd hg.symm hpne⟩
    · rw [List.pairwise_append]
      refine ⟨pw, List.pairwise_singleton _ _, fun x hx y hy hg => ?_⟩
      obtain rfl := List.mem_singleton.mp hy
      exact hho _ hmem x hx hg
  all_goals exact ⟨hwl, hh, ho, hho, pw⟩

theorem monoInv_run (hw : List UInt8) (t0 : Int × Nat) (acts : List Act) : ∀ s : Conc, MonoInv t0 s →
    WallOk s.wall acts → MonoInv t0 (concRun hw s acts) := fun s h hok =>
  foldl_guarded (concStep hw) (fun s as => WallOk s.wall as) (MonoInv t0) (fun s a as hok h => by
    cases a with
    | wall t => exact ⟨monoInv_step hw t0 s _ h ⟨hok.1, hok.2.1, trivial⟩, hok.2.2⟩
    | now g => exact ⟨monoInv_step hw t0 s _ h trivial, by simp only [concStep]; split <;> exact hok⟩
    | inc g => exact ⟨monoInv_step hw t0 s _ h trivial, by simp only [concStep]; split <;> exact hok⟩) acts s hok h

theorem monFold_true (lo hi : Nat) : ∀ (rs : List Ret) (last : List (Nat × Nat)),
    (∀ r ∈ rs, lo ≤ timestamp r.uuid ∧ timestamp r.uuid ≤ hi) →
    rs.Pairwise (fun a b => a.g = b.g → timestamp a.uuid ≤ timestamp b.uuid) →
    (∀ p ∈ last, ∀ r ∈ rs, r.g = p.1 → p.2 ≤ timestamp r.uuid) →
    (rs.foldl (monStep lo hi) (true, last)).1 = true := by
  intro rs
  induction rs with
  | nil => intro last _ _ _; rfl
  | cons r rs ih =>
    intro last hb hp hl
    have hr := hb r (List.mem_cons_self ..)
    have hprev : ((last.find? (·.1 == r.g)).map (·.2)).getD 0 ≤ timestamp r.uuid := by
      cases hf : last.find? (·.1 == r.g) with
      | none => simp
      | some p =>
        have hm := List.mem_of_find?_eq_some hf
        have hg : p.1 = r.g := by simpa using List.find?_some hf
        simpa using hl p hm r (List.mem_cons_self ..) hg.symm
    have hstep : monStep lo hi (true, last) r = (true, (r.g, timestamp r.uuid) :: last.filter (·.1 != r.g)) := by
      simp only [monStep, hr.1, hr.2, hprev, decide_true, Bool.and_self]
    rw [List.foldl_cons, hstep]
    rw [List.pairwise_cons] at hp
    apply ih _ (fun x hx => hb x (List.mem_cons_of_mem _ hx)) hp.2
    intro p hpm x hx hg
    rcases List.mem_cons.mp hpm with rfl | hpm
    · exact hp.1 x hx hg.symm
    · exact hl p (List.mem_filter.mp hpm).1 x (List.mem_cons_of_mem _ hx) hg

end Uuid
