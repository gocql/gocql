import Model.CompressSnappy
import Proofs.C18Frame
/-! The snappy block format. The uvarint length prefix read back; the element loop ends at the declared length;
    then: the decoder computes the LZ77 meaning of EVERY well-formed element stream — whatever encoder chose the
    elements (golang/snappy's matcher emits literals of at most 65536 bytes, 1-byte-offset copies of 4..11 bytes
    below offset 2048 and 2-byte-offset copies of 1..64 bytes). -/
namespace Compress

theorem uvarintGo_small (i m x n : Nat) (rest : Bytes) (hn : n < 128) (hi : i < 9) :
    uvarintGo i m x (UInt8.ofNat n :: rest) = some (x + n * m, rest) := by
  have hb : (UInt8.ofNat n).toNat = n := BE.toNat_ofNat_lt (by omega)
  have h10 : ¬ i = 10 := by omega
  have h9 : ¬ (i = 9 ∧ n > 1) := by omega
  simp only [uvarintGo, h10, if_false, hb, hn, if_true, h9]

theorem uvarintGo_put (f n : Nat) (i m x : Nat) (rest : Bytes) (hn : n < 128 ^ (f + 1)) (hi : i + f < 9) :
    uvarintGo i m x (putUvarint f n ++ rest) = some (x + n * m, rest) := by
  fun_induction putUvarint f n generalizing i m x with
  | case1 n => exact uvarintGo_small i m x n rest (by simpa using hn) (by omega)
  | case2 f n hlt => exact uvarintGo_small i m x n rest hlt (by omega)
  | case3 f n hge ih =>
    have hb : (UInt8.ofNat (n % 128 + 128)).toNat = n % 128 + 128 := BE.toNat_ofNat_lt (by omega)
    have hdiv : n / 128 < 128 ^ (f + 1) := by
      apply Nat.div_lt_of_lt_mul
      rw [Nat.pow_succ, Nat.mul_comm] at hn; exact hn
    rw [List.cons_append, uvarintGo, if_neg (by omega), hb, if_neg (by omega), Nat.add_sub_cancel,
      ih (i + 1) (m * 128) _ hdiv (by omega)]
    congr 2
    calc x + n % 128 * m + n / 128 * (m * 128)
        = x + (128 * (n / 128) + n % 128) * m := by
          rw [Nat.add_mul, Nat.mul_comm m 128, ← Nat.mul_assoc, Nat.mul_comm (n / 128) 128]; omega
      _ = x + n * m := by rw [Nat.div_add_mod n 128]

theorem snappyDecode_put (n : Nat) (rest : Bytes) (hn : n ≤ 0xffffffff) :
    snappyDecode (putUvarint 4 n ++ rest) =
      match snapLoop (rest.length + 1) rest n #[] with
      | .error e => .error e
      | .ok out => .ok out.toList := by
  have hu : uvarint (putUvarint 4 n ++ rest) = some (n, rest) := by
    have := uvarintGo_put 4 n 0 1 0 rest (by omega) (by omega)
    simpa [uvarint] using this
  have hgt : ¬ n > 0xffffffff := by omega
  simp only [snappyDecode, snappyDecodedLen, hu, hgt, if_false]
  rfl

theorem tag_lit : ∀ k : Fin 60, (UInt8.ofNat (k.val * 4)) &&& 3 = 0 ∧ ((UInt8.ofNat (k.val * 4)) >>> 2).toNat = k.val := by
  decide +kernel

theorem snapLoop_size (g : Nat) (src : Bytes) (n : Nat) (out o : Array UInt8)
    (h : snapLoop g src n out = .ok o) : o.size = n := by
  fun_induction snapLoop g src n out with
  | case1 | case3 | case4 => cases h
  | case2 => cases h; rfl
  | case5 _ _ _ _ _ _ _ _ ih => exact ih h

/-- an element as an encoder means it -/
inductive SnapEl
  | lit (bs : Bytes)
  | copy (offset length : Nat)

/-- what an element does to the output (LZ77 semantics; a copy may overlap what it writes) -/
def SnapEl.apply (out : Array UInt8) : SnapEl → Array UInt8
  | .lit bs => out ++ bs.toArray
  | .copy off len => copyFwd off len out

def snapInterp (es : List SnapEl) (out : Array UInt8) : Array UInt8 := es.foldl SnapEl.apply out

/-- well-formed at output position `d`: literal of 1..65536 bytes; copy of 1..64 bytes from 1..min(d,65535) back -/
def SnapEl.wf (d : Nat) : SnapEl → Prop
  | .lit bs => 1 ≤ bs.length ∧ bs.length ≤ 65536
  | .copy off len => 1 ≤ off ∧ off ≤ d ∧ off < 65536 ∧ 1 ≤ len ∧ len ≤ 64

def SnapEl.size : SnapEl → Nat
  | .lit bs => bs.length
  | .copy _ len => len

def snapWF : Nat → List SnapEl → Prop
  | _, [] => True
  | d, e :: es => e.wf d ∧ snapWF (d + e.size) es

/-- the bytes of an element: shortest literal header; the 1-byte-offset copy when it applies -/
def SnapEl.ser : SnapEl → Bytes
  | .lit bs =>
    let n := bs.length - 1
    (if n < 60 then [UInt8.ofNat (n * 4)]
     else if n < 256 then [0xF0, UInt8.ofNat n]
     else [0xF4, UInt8.ofNat (n % 256), UInt8.ofNat (n / 256)]) ++ bs
  | .copy off len =>
    if 4 ≤ len ∧ len ≤ 11 ∧ off < 2048 then
      [UInt8.ofNat (1 + (len - 4) * 4 + (off / 256) * 32), UInt8.ofNat (off % 256)]
    else [UInt8.ofNat (2 + (len - 1) * 4), UInt8.ofNat (off % 256), UInt8.ofNat (off / 256)]

def snapSer (es : List SnapEl) : Bytes := es.flatMap SnapEl.ser

theorem copyFwd_size (off : Nat) : ∀ (k : Nat) (out : Array UInt8), (copyFwd off k out).size = out.size + k := by
  intro k
  induction k with
  | zero => intro out; rfl
  | succ k ih => intro out; simp [copyFwd, ih]; omega

theorem SnapEl.apply_size (out : Array UInt8) (e : SnapEl) : (e.apply out).size = out.size + e.size := by
  cases e with
  | lit bs => simp [SnapEl.apply, SnapEl.size]
  | copy off len => simp [SnapEl.apply, SnapEl.size, copyFwd_size]

theorem snapInterp_size_ge (es : List SnapEl) (out : Array UInt8) : out.size ≤ (snapInterp es out).size :=
  es.foldlRecOn (motive := fun o : Array UInt8 => out.size ≤ o.size) _ (Nat.le_refl _) fun o h e _ => by rw [SnapEl.apply_size]; omega

theorem ser_length_pos (e : SnapEl) : 1 ≤ e.ser.length := by
  cases e with
  | lit bs =>
    simp only [SnapEl.ser]
    split
    · simp
    · split <;> simp <;> omega
  | copy off len => simp only [SnapEl.ser]; split <;> simp

theorem tag_copy1 : ∀ (l : Fin 8) (h : Fin 8),
    (UInt8.ofNat (1 + l.val * 4 + h.val * 32)) &&& 3 = 1 ∧
    ((UInt8.ofNat (1 + l.val * 4 + h.val * 32)) >>> 2).toNat % 8 = l.val ∧
    ((UInt8.ofNat (1 + l.val * 4 + h.val * 32)) &&& 0xe0).toNat * 8 = h.val * 256 := by decide +kernel

theorem tag_copy2 : ∀ l : Fin 64,
    (UInt8.ofNat (2 + l.val * 4)) &&& 3 = 2 ∧ ((UInt8.ofNat (2 + l.val * 4)) >>> 2).toNat = l.val := by decide +kernel

/-- a literal: `hdr` = the extra length bytes the tag announces, `bs` = the literal bytes -/
theorem snapElem_lit (tag : UInt8) (hdr bs rest : Bytes) (n : Nat) (out : Array UInt8)
    (hk : tag &&& 3 = 0)
    (hhdr : (if (tag >>> 2).toNat < 60 then 0 else (tag >>> 2).toNat - 59) = hdr.length)
    (hx : (if (tag >>> 2).toNat < 60 then (tag >>> 2).toNat else leNat hdr) + 1 = bs.length)
    (hfit : out.size + bs.length ≤ n) :
    snapElem tag (hdr ++ (bs ++ rest)) n out = some (rest, out ++ bs.toArray) := by
  have hl : ¬ (hdr ++ (bs ++ rest)).length < hdr.length := by rw [List.length_append]; omega
  have hA : ¬ (bs.length > n - out.size ∨ bs.length > (bs ++ rest).length) := by
    rw [List.length_append]; omega
  unfold snapElem
  simp only [hk, if_true]
  rw [hhdr, if_neg hl, List.take_left, List.drop_left, hx, if_neg hA, List.take_left, List.drop_left]

/-- a copy of any of the three kinds: `bs` = the offset bytes the tag announces; length and offset as the decoder
    computes them from the tag and `bs` -/
theorem snapElem_copy (tag : UInt8) (bs rest : Bytes) (off len n : Nat) (out : Array UInt8) (hk : tag &&& 3 ≠ 0)
    (hbs : bs.length = if tag &&& 3 = 1 then 1 else if tag &&& 3 = 2 then 2 else 4)
    (hl : (if tag &&& 3 = 1 then 4 + (tag >>> 2).toNat % 8 else 1 + (tag >>> 2).toNat) = len)
    (ho : (if tag &&& 3 = 1 then (tag &&& 0xe0).toNat * 8 + leNat bs else leNat bs) = off)
    (h1 : 1 ≤ off) (h2 : off ≤ out.size) (hfit : out.size + len ≤ n) :
    snapElem tag (bs ++ rest) n out = some (rest, copyFwd off len out) := by
  have hlen : ¬ (bs ++ rest).length < bs.length := by rw [List.length_append]; omega
  have hA : ¬ (off = 0 ∨ out.size < off ∨ len > n - out.size) := by omega
  unfold snapElem
  simp only [hk, if_false, ← hbs]
  rw [if_neg hlen, List.take_left, List.drop_left]
  by_cases h1k : tag &&& 3 = 1 <;> simp only [h1k, if_true, if_false] at hl ho hbs ⊢
  · rw [List.take_left' hbs, hl, ho, if_neg hA]
  · rw [hl, ho, if_neg hA]

theorem snapLoop_step {tag : UInt8} {tl rest : Bytes} {n g : Nat} {out o : Array UInt8}
    (h : snapElem tag tl n out = some (rest, o)) : snapLoop (g + 1) (tag :: tl) n out = snapLoop g rest n o := by
  simp only [snapLoop, h]

theorem snapLoop_ser (e : SnapEl) (rest : Bytes) (n g : Nat) (out : Array UInt8)
    (hwf : e.wf out.size) (hfit : out.size + e.size ≤ n) :
    snapLoop (g + 1) (e.ser ++ rest) n out = snapLoop g rest n (e.apply out) := by
  cases e with
  | lit bs =>
    obtain ⟨h1, h2⟩ := hwf
    simp only [SnapEl.size] at hfit
    simp only [SnapEl.ser, SnapEl.apply]
    by_cases h60 : bs.length - 1 < 60
    · obtain ⟨hk, hh⟩ := tag_lit ⟨bs.length - 1, h60⟩
      simp only at hk hh
      rw [if_pos h60]
      refine snapLoop_step (snapElem_lit _ [] bs rest n out hk ?_ ?_ hfit) <;> rw [hh, if_pos h60]
      · rfl
      · omega
    · by_cases h256 : bs.length - 1 < 256
      · have hF : (0xF0 : UInt8) &&& 3 = 0 ∧ ((0xF0 : UInt8) >>> 2).toNat = 60 := by decide
        rw [if_neg h60, if_pos h256]
        refine snapLoop_step (snapElem_lit 0xF0 [_] bs rest n out hF.1 ?_ ?_ hfit) <;> rw [hF.2]
        · rfl
        · rw [if_neg (by omega)]; simp only [leNat, BE.toNat_ofNat]; omega
      · have hF : (0xF4 : UInt8) &&& 3 = 0 ∧ ((0xF4 : UInt8) >>> 2).toNat = 61 := by decide
        rw [if_neg h60, if_neg h256]
        have h16 := BE.le16_roundtrip (n := bs.length - 1) (by omega)
        refine snapLoop_step (snapElem_lit 0xF4 [_, _] bs rest n out hF.1 ?_ ?_ hfit) <;> rw [hF.2]
        · rfl
        · rw [if_neg (by omega)]; simp only [leNat]; omega
  | copy off len =>
    obtain ⟨h1, h2, h3, h4, h5⟩ := hwf
    simp only [SnapEl.size] at hfit
    simp only [SnapEl.ser, SnapEl.apply]
    by_cases hc1 : 4 ≤ len ∧ len ≤ 11 ∧ off < 2048
    · obtain ⟨hk, hl, ho⟩ := tag_copy1 ⟨len - 4, by omega⟩ ⟨off / 256, by omega⟩
      simp only at hk hl ho
      rw [if_pos hc1]
      refine snapLoop_step (snapElem_copy _ [_] rest off len n out ?_ ?_ ?_ ?_ h1 h2 hfit) <;> rw [hk]
      · decide
      · rfl
      · rw [if_pos rfl, hl]; omega
      · rw [if_pos rfl, ho]; simp only [leNat, BE.toNat_ofNat]; omega
    · obtain ⟨hk, hl⟩ := tag_copy2 ⟨len - 1, by omega⟩
      simp only at hk hl
      rw [if_neg hc1]
      refine snapLoop_step (snapElem_copy _ [_, _] rest off len n out ?_ ?_ ?_ ?_ h1 h2 hfit) <;> rw [hk]
      · decide
      · rfl
      · rw [if_neg (by decide), hl]; omega
      · rw [if_neg (by decide)]; simpa [leNat] using BE.le16_roundtrip h3

theorem snapSer_cons (e : SnapEl) (es : List SnapEl) : snapSer (e :: es) = e.ser ++ snapSer es := by
  simp [snapSer]

/-- every element takes at least its tag byte -/
theorem snapSer_length (es : List SnapEl) : es.length ≤ (snapSer es).length := by
  induction es with
  | nil => exact Nat.le_refl _
  | cons e es ih => have := ser_length_pos e; rw [snapSer_cons, List.length_append, List.length_cons]; omega

theorem snapLoop_stream (es : List SnapEl) : ∀ (out : Array UInt8) (n g : Nat), snapWF out.size es →
    (snapInterp es out).size = n → es.length ≤ g →
    snapLoop (g + 1) (snapSer es) n out = .ok (snapInterp es out) := by
  induction es with
  | nil =>
    intro out n g _ hn _
    simp [snapInterp] at hn; simp [snapSer, snapLoop, snapInterp, hn]
  | cons e es ih =>
    intro out n g ⟨hwe, hwr⟩ hn hg
    obtain ⟨g, rfl⟩ : ∃ g', g = g' + 1 := ⟨g - 1, by simp only [List.length_cons] at hg; omega⟩
    have hsz := SnapEl.apply_size out e
    have hge := snapInterp_size_ge es (e.apply out)
    have hfit : out.size + e.size ≤ n := by
      simp only [snapInterp, List.foldl] at hn hge; omega
    rw [snapSer_cons, snapLoop_ser e _ n (g + 1) out hwe hfit]
    exact ih (e.apply out) n g (hsz ▸ hwr) hn (by simpa using hg)

theorem snappyDecode_stream (es : List SnapEl) (hwf : snapWF 0 es)
    (hlen : (snapInterp es #[]).size ≤ 0xffffffff) :
    snappyDecode (putUvarint 4 (snapInterp es #[]).size ++ snapSer es) = .ok (snapInterp es #[]).toList := by
  have hl := snapLoop_stream es #[] (snapInterp es #[]).size _ (by simpa using hwf) rfl
    (snapSer_length es)
  rw [snappyDecode_put _ _ hlen, hl]

/-- the elements the literal-only encoder emits: literals of at most 60 bytes -/
def litEls : Nat → Bytes → List SnapEl
  | 0, _ => []
  | f + 1, x => if x = [] then [] else .lit (x.take 60) :: litEls f (x.drop 60)

theorem litChunks_eq_ser (f : Nat) (x : Bytes) : litChunks f x = snapSer (litEls f x) := by
  fun_induction litEls f x with
  | case1 => rfl
  | case2 => simp [litChunks, snapSer]
  | case3 f x hx ih =>
    have h60 : (x.take 60).length - 1 < 60 := by rw [List.length_take]; omega
    simp only [litChunks, hx, if_false, snapSer, List.flatMap_cons, SnapEl.ser, h60, if_true, ih]
    rfl

theorem litEls_interp (f : Nat) (x : Bytes) (out : Array UInt8) (h : x.length ≤ f) :
    snapInterp (litEls f x) out = out ++ x.toArray := by
  fun_induction litEls f x generalizing out with
  | case1 x => have : x = [] := List.eq_nil_of_length_eq_zero (by omega); simp [this, snapInterp]
  | case2 => simp [snapInterp]
  | case3 f x hx ih =>
    have := ih (out ++ (x.take 60).toArray) (by rw [List.length_drop]; omega)
    simp only [snapInterp] at this
    simp only [snapInterp, List.foldl_cons, SnapEl.apply, this, Array.append_assoc,
      List.append_toArray, List.take_append_drop]

theorem litEls_wf (f : Nat) (x : Bytes) (d : Nat) : snapWF d (litEls f x) := by
  fun_induction litEls f x generalizing d with
  | case1 => trivial
  | case2 => trivial
  | case3 f x hx ih =>
    have hpos : 0 < x.length := List.length_pos_iff.mpr hx
    exact ⟨⟨by rw [List.length_take]; omega, by rw [List.length_take]; omega⟩, ih _⟩

/-- the literal-only encoder is one of the encoders of the format -/
theorem snappyLit_decodes (x : Bytes) (hx : x.length ≤ 0xffffffff) : snappyDecode (snappyLit x) = .ok x := by
  have hi := litEls_interp x.length x #[] (Nat.le_refl _)
  have := snappyDecode_stream (litEls x.length x) (litEls_wf _ _ _) (by rw [hi]; simpa using hx)
  rw [hi] at this
  simpa [snappyLit, litChunks_eq_ser] using this

end Compress
