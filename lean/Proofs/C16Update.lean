import Model.Ring
import Proofs.C16Ring
import Proofs.C16Refresh
import Proofs.C16Index
/-! `ring.addOrUpdate` on a stored host whose node address is changed by `HostInfo.update`
(repaired for KF-C16-5: the by-address index is re-keyed); histories that interleave it with ring operations and refreshes
(`HOp`, `applyH`, `HGuarded`) keep `SInv` always and `RInv` when guarded -/
namespace C16
open Ring

theorem updateStored_of_none (r : Ring.Ring) (id a c : Nat) (hn : lookup r.byId id = none) : r.updateStored id a c = r := by
  unfold Ring.updateStored; rw [hn]

theorem updateStored_of_some (r : Ring.Ring) (id a c : Nat) (h : RHost) (hs : lookup r.byId id = some h) :
    r.updateStored id a c =
      { byId := r.byId.map (fun e => if e.1 == id then (e.1, ({ h with addr := a, caddr := c } : RHost)) else e),
        byIp := if a == h.addr then r.byIp
                else put (if lookup r.byIp h.addr = some id then erase r.byIp h.addr else r.byIp) a id,
        list := r.list.map (fun x => if x == h then ({ h with addr := a, caddr := c } : RHost) else x) } := by
  unfold Ring.updateStored; rw [hs]

theorem byIp_updateStored (r : Ring.Ring) (id a c : Nat) (h : RHost) (hs : lookup r.byId id = some h) :
    (r.updateStored id a c).byIp = if a == h.addr then r.byIp
      else put (if lookup r.byIp h.addr = some id then erase r.byIp h.addr else r.byIp) a id := by
  rw [updateStored_of_some r id a c h hs]

theorem keys_updateStored (r : Ring.Ring) (id a c : Nat) : keys (r.updateStored id a c).byId = keys r.byId := by
  cases hl : lookup r.byId id with
  | none => rw [updateStored_of_none r id a c hl]
  | some h =>
    rw [updateStored_of_some r id a c h hl]
    simp only [keys, List.map_map]
    apply List.map_congr_left
    intro e _
    simp only [Function.comp]
    split <;> rfl

theorem mem_updateStored (r : Ring.Ring) (id a c : Nat) (h : RHost) (hs : lookup r.byId id = some h) (e' : Nat × RHost) :
    e' ∈ (r.updateStored id a c).byId ↔
      (e' ∈ r.byId ∧ e'.1 ≠ id) ∨ (e' = (id, ({ h with addr := a, caddr := c } : RHost))) := by
  rw [updateStored_of_some r id a c h hs]
  simp only [List.mem_map]
  constructor
  · rintro ⟨e, he, rfl⟩
    by_cases hk : e.1 = id
    · right; simp [hk]
    · left; simp [hk, he]
  · rintro (⟨he, hk⟩ | rfl)
    · exact ⟨e', he, by simp [hk]⟩
    · exact ⟨(id, h), find_key_mem hs, by simp⟩

theorem WF_updateStored (r : Ring.Ring) (hw : WF r.byId) (id a c : Nat) : WF (r.updateStored id a c).byId := by
  cases hl : lookup r.byId id with
  | none => rw [updateStored_of_none r id a c hl]; exact hw
  | some h =>
    intro e' he'
    rcases (mem_updateStored r id a c h hl e').mp he' with ⟨he, _⟩ | rfl
    · exact hw e' he
    · exact hw (id, h) (find_key_mem hl)

theorem lookup_updateStored (r : Ring.Ring) (id a c : Nat) (h : RHost) (hs : lookup r.byId id = some h) (k : Nat) :
    lookup (r.updateStored id a c).byId k =
      if k = id then some ({ h with addr := a, caddr := c } : RHost) else lookup r.byId k := by
  rw [updateStored_of_some r id a c h hs]
  dsimp only
  have : ∀ y : RHost, (fun e : Nat × RHost => if e.1 == id then (e.1, y) else e) = fun e => if e.1 == id then (id, y) else e :=
    fun y => funext fun e => by
      split
      · rename_i hb; rw [eq_of_beq hb]
      · rfl
  rw [this, lookup_setVal, hs]
  rfl

/-- as far as the two indexes go, a change of the node address is the removal of the host followed by the addition of
the object with its new fields: the same by-address index, the same entries by id -/
theorem updateStored_as_remove_add (r : Ring.Ring) (hw : WF r.byId) (id a c : Nat) (h : RHost)
    (hs : lookup r.byId id = some h) (hne : a ≠ h.addr) :
    (r.updateStored id a c).byIp = ((r.remove id).1.addIfMissing { h with addr := a, caddr := c }).1.byIp ∧
    ∀ e, e ∈ (r.updateStored id a c).byId ↔ e ∈ ((r.remove id).1.addIfMissing { h with addr := a, caddr := c }).1.byId := by
  have hid : h.id = id := hw _ (find_key_mem hs)
  have hrem : lookup (r.remove id).1.byId ({ h with addr := a, caddr := c } : RHost).id = none := by
    rw [lookup_remove]; exact if_pos hid
  refine ⟨?_, fun e => ?_⟩
  · rw [byIp_updateStored r id a c h hs, if_neg (by simpa using hne), byIp_add_new _ _ hrem, remove_of_some r id h hs]
    show _ = put _ a h.id
    rw [hid]
  · rw [mem_updateStored r id a c h hs, mem_add_new _ _ hrem, mem_remove]
    show _ ↔ e = (h.id, _) ∨ _
    rw [hid]
    exact Or.comm

theorem NoStale_updateStored (r : Ring.Ring) (hw : WF r.byId) (hn : (keys r.byId).Nodup) (hs : NoStale r) (id a c : Nat) :
    NoStale (r.updateStored id a c) := by
  cases hl : lookup r.byId id with
  | none => rw [updateStored_of_none r id a c hl]; exact hs
  | some h =>
    intro a0 id0 hlk
    by_cases hsame : a = h.addr
    · -- the by-address index is untouched, and the object still has its node address
      rw [byIp_updateStored r id a c h hl, if_pos (by simpa using hsame)] at hlk
      obtain ⟨x, hx, hxa⟩ := hs a0 id0 hlk
      by_cases hid : id0 = id
      · subst hid
        cases (find_key_of_mem hn hx).symm.trans hl
        exact ⟨_, (mem_updateStored r id0 a c _ hl _).mpr (Or.inr rfl), hsame.trans hxa⟩
      · exact ⟨x, (mem_updateStored r id a c h hl _).mpr (Or.inl ⟨hx, hid⟩), hxa⟩
    · obtain ⟨hip, hmem⟩ := updateStored_as_remove_add r hw id a c h hl hsame
      rw [hip] at hlk
      obtain ⟨x, hx, hxa⟩ := NoStale_addIfMissing _ (NoStale_remove r hn hs id) _ a0 id0 hlk
      exact ⟨x, (hmem _).mpr hx, hxa⟩

theorem SInv_updateStored (r : Ring.Ring) (hr : SInv r) (id a c : Nat) : SInv (r.updateStored id a c) :=
  ⟨WF_updateStored r hr.wf id a c, by rw [keys_updateStored]; exact hr.knodup, NoStale_updateStored r hr.wf hr.knodup hr.ns id a c⟩

def AddrFreeFor (r : Ring.Ring) (id a : Nat) : Prop := ∀ e ∈ r.byId, e.2.addr = a → e.1 = id

instance (r : Ring.Ring) (id a : Nat) : Decidable (AddrFreeFor r id a) := by unfold AddrFreeFor; infer_instance

theorem RInv_updateStored (r : Ring.Ring) (hr : RInv r) (id a c : Nat) (hfree : AddrFreeFor r id a) :
    RInv (r.updateStored id a c) := by
  cases hl : lookup r.byId id with
  | none => rw [updateStored_of_none r id a c hl]; exact hr
  | some h =>
    refine .of_ip (WF_updateStored r hr.wf id a c) (by rw [keys_updateStored]; exact hr.knodup) fun e' he' => ?_
    by_cases hsame : a = h.addr
    · rw [byIp_updateStored r id a c h hl, if_pos (by simpa using hsame)]
      rcases (mem_updateStored r id a c h hl e').mp he' with ⟨he, _⟩ | rfl
      · exact hr.ip e' he
      · exact hsame ▸ hr.ip (id, h) (find_key_mem hl)
    · -- no host that is left after the removal has the new address
      obtain ⟨hip, hmem⟩ := updateStored_as_remove_add r hr.wf id a c h hl hsame
      have hfree' : AddrFree (r.remove id).1 { h with addr := a, caddr := c } := fun e he heq =>
        absurd (hfree e ((mem_remove r id e).mp he).1 heq) ((mem_remove r id e).mp he).2
      rw [hip]
      exact (RInv_addIfMissing _ (RInv_remove r hr id) _ hfree').ip e' ((hmem e').mp he')

/-- a ring operation, a refresh with an ARBITRARY report (duplicates, shared addresses), or `addOrUpdate`
finding the host id stored and `HostInfo.update` leaving the stored object with node address `a` and
connectAddress field `c` (ANY values: `update` only fills unset fields, this covers more) -/
inductive HOp | op (o : ROp) | refresh (filter : RHost → Bool) (reported : List RHost) | update (id a c : Nat)

def applyH (r : Ring.Ring) : HOp → Ring.Ring
  | .op o => applyOp r o
  | .refresh f rep => (r.refresh f rep).1
  | .update id a c => r.updateStored id a c

theorem SInv_runH (ops : List HOp) : ∀ (r : Ring.Ring), SInv r → SInv (ops.foldl applyH r) := by
  refine foldl_inv SInv applyH (fun r o h => ?_) ops
  cases o with
  | op o =>
    cases o with
    | addIfMissing h' => exact SInv_addIfMissing r h h'
    | addOrUpdate h' => exact SInv_addIfMissing r h h'
    | remove k => exact SInv_remove r h k
  | refresh f rep => exact SInv_refresh r h f rep
  | update id a c => exact SInv_updateStored r h id a c

/-- along the history: no host is added by a ring operation, or moved by an address update, while a host
with another id has its (new) address, and every refresh has a `GoodReport`; removals are unrestricted,
everything may be interleaved -/
def HGuarded : Ring.Ring → List HOp → Prop
  | _, [] => True
  | r, .op (.addIfMissing h) :: t => AddrFree r h ∧ HGuarded (r.addIfMissing h).1 t
  | r, .op (.addOrUpdate h) :: t => AddrFree r h ∧ HGuarded (r.addOrUpdate h).1 t
  | r, .op (.remove id) :: t => HGuarded (r.remove id).1 t
  | r, .refresh f rep :: t => GoodReport (f, rep) ∧ HGuarded (r.refresh f rep).1 t
  | r, .update id a c :: t => AddrFreeFor r id a ∧ HGuarded (r.updateStored id a c) t

theorem RInv_runH (r : Ring.Ring) (hr : RInv r) (ops : List HOp) (hg : HGuarded r ops) : RInv (ops.foldl applyH r) := by
  refine foldl_guarded applyH HGuarded RInv (fun r o t hg hr => ?_) ops r hg hr
  cases o with
  | op o =>
    cases o with
    | addIfMissing h => exact ⟨RInv_addIfMissing r hr h hg.1, hg.2⟩
    | addOrUpdate h => exact ⟨RInv_addIfMissing r hr h hg.1, hg.2⟩
    | remove id => exact ⟨RInv_remove r hr id, hg⟩
  | refresh f rep => exact ⟨refresh_RInv r hr f rep hg.1, hg.2⟩
  | update id a c => exact ⟨RInv_updateStored r hr id a c hg.1, hg.2⟩

end C16
