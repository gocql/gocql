import Model.MarshalMemo
/-!
# C12: history independence of Marshal inside one process (helpers for `C12_history_independent`, `C12_memo_sound`)
-/
namespace C12Hist
open MarshalMemo
variable {α β ρ κ : Type}

theorem pureRun_eq (F : α → β) : ∀ (s : Unit) (as : List α), pureRun F s as = as.map F
  | _, [] => rfl
  | s, a :: as => by simp [pureRun, pureStep, pureRun_eq F () as]

/-- every cache entry is the resolution of SOME earlier call with that key -/
def CacheInv [DecidableEq κ] (M : Memo α β ρ κ) (c : List (κ × ρ)) : Prop :=
  ∀ k r, lookupK k c = some r → ∃ a', M.key a' = k ∧ M.resolve a' = r

theorem inv_nil [DecidableEq κ] (M : Memo α β ρ κ) : CacheInv M [] := by
  intro k r h; simp [lookupK] at h

theorem inv_cons [DecidableEq κ] (M : Memo α β ρ κ) (c : List (κ × ρ)) (a : α) (h : CacheInv M c) :
    CacheInv M ((M.key a, M.resolve a) :: c) := by
  intro k r hl
  by_cases hk : M.key a = k
  · exact ⟨a, hk, by simpa [lookupK, hk] using hl⟩
  · exact h k r (by simpa [lookupK, hk] using hl)

/-- a memo whose ACCEPTED cache hits give the stateless answer answers every call of every sequence statelessly -/
theorem memo_run [DecidableEq κ] (M : Memo α β ρ κ)
    (hs : ∀ a a', M.key a' = M.key a → M.valid (M.resolve a') a = true → M.apply (M.resolve a') a = M.direct a) :
    ∀ (as : List α) (c : List (κ × ρ)), CacheInv M c → M.run c as = as.map M.direct
  | [], _, _ => rfl
  | a :: as, c, hc => by
    have hstep : (M.step c a).2 = M.direct a ∧ CacheInv M (M.step c a).1 := by
      unfold Memo.step
      cases hl : lookupK (M.key a) c with
      | none => exact ⟨rfl, inv_cons M c a hc⟩
      | some r =>
        obtain ⟨a', hk, hr⟩ := hc _ r hl
        by_cases hv : M.valid r a = true
        · simp only [hv, if_true]
          exact ⟨by rw [← hr] at hv ⊢; exact hs a a' hk hv, hc⟩
        · simp only [hv]
          exact ⟨rfl, inv_cons M c a hc⟩
    simp only [Memo.run, List.map_cons, hstep.1, memo_run M hs as _ hstep.2]

end C12Hist
