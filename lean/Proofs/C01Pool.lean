import Proofs.C01Upd
/-!
# Recycled call objects: the invariant that makes a pool of `callReq`s safe

Kept by four moves every state of which satisfies it: a request stops reading its object's channel (`Inv.stop`), an object
leaves a `c.calls` map (`Inv.uncall`) or a closeWithError snapshot (`Inv.unwalk`), and goes back to the pool (`inv_putBack`,
the two safe policies); `inv_step` composes them.
-/
namespace MuxPool

structure Inv (st : St) : Prop where
  /-- a waiting request reads the channel of its own object, on its own connection -/
  wait_ok : ∀ r k o, st.pc r = .waiting k o → st.user o = some r ∧ st.conn r = k
  /-- the reader of an object's channel is a waiting request that was given that object -/
  user_ok : ∀ o r, st.user o = some r → st.pc r = .waiting (st.conn r) o
  /-- an object that a `c.calls` map or a closeWithError snapshot refers to is not in the pool, and whoever reads its
      channel is a request of THAT connection -/
  calls_ok : ∀ o k, st.inCalls o = some k → st.pool o = false ∧ st.fresh o = false ∧ st.closed k = false ∧
    (∀ r, st.user o = some r → st.conn r = k)
  walk_ok : ∀ o k, st.inWalk o = some k → st.pool o = false ∧ st.fresh o = false ∧ (∀ r, st.user o = some r → st.conn r = k)
  /-- an object in the pool, and one never allocated, has no reader -/
  pool_ok : ∀ o, st.pool o = true → st.user o = none ∧ st.fresh o = false
  fresh_ok : ∀ o, st.fresh o = true → st.user o = none ∧ st.inCalls o = none ∧ st.inWalk o = none ∧ st.pool o = false
  /-- the error of connection k only reaches requests of connection k -/
  err_ok : ∀ r k, st.pc r = .done (.connErr k) → st.conn r = k

theorem inv_init : Inv init := by
  constructor <;> simp [init]

macro "close_pool" h:ident : tactic => `(tactic| (
  obtain ⟨h1, h2, h3, h4, h5, h6, h7⟩ := $h
  constructor <;> simp only [upd, putBack] <;> grind))

macro "pol_cases" p:ident hp:ident h:ident : tactic => `(tactic| (
  cases $p:ident with
  | onRelease => exact absurd rfl $hp
  | never => close_pool $h
  | whenUnreferenced => first | (simp only [putBack]; split <;> close_pool $h) | close_pool $h))

/-- releaseStream's last line under the two safe policies -/
theorem inv_putBack (p : Policy) (hp : p ≠ .onRelease) {st : St} (h : Inv st) (o₀ : Nat) (hu : st.user o₀ = none)
    (hf : st.fresh o₀ = false) : Inv (putBack p st o₀) := by
  cases p with
  | onRelease => exact absurd rfl hp
  | never => exact h
  | whenUnreferenced =>
    simp only [putBack]
    split
    · rename_i hg
      exact { h with
        calls_ok := fun o k => by upd_from h.calls_ok o k
        walk_ok := fun o k => by upd_from h.walk_ok o k
        pool_ok := fun o => by upd_from h.pool_ok o
        fresh_ok := fun o => by upd_from h.fresh_ok o }
    · exact h

theorem Inv.stop {st : St} (h : Inv st) (r₀ k₀ o₀ : Nat) (hpc : st.pc r₀ = .waiting k₀ o₀) (x : Out)
    (hx : ∀ k, x = .connErr k → st.conn r₀ = k) :
    Inv { st with pc := upd st.pc r₀ (.done x), user := upd st.user o₀ none } := by
  have hw := h.wait_ok r₀ k₀ o₀ hpc
  exact { h with
    wait_ok := fun r k o => by upd_from h.wait_ok r k o
    user_ok := fun o r => by upd_from h.user_ok o r
    calls_ok := fun o k => by upd_from h.calls_ok o k
    walk_ok := fun o k => by upd_from h.walk_ok o k
    pool_ok := fun o => by upd_from h.pool_ok o
    fresh_ok := fun o => by upd_from h.fresh_ok o
    err_ok := fun r k => by upd_from h.err_ok r k }

theorem Inv.uncall {st : St} (h : Inv st) (o₀ : Nat) : Inv { st with inCalls := upd st.inCalls o₀ none } :=
  { h with
    calls_ok := fun o k => by upd_from h.calls_ok o k
    fresh_ok := fun o => by upd_from h.fresh_ok o }

theorem Inv.unwalk {st : St} (h : Inv st) (o₀ : Nat) : Inv { st with inWalk := upd st.inWalk o₀ none } :=
  { h with
    walk_ok := fun o k => by upd_from h.walk_ok o k
    fresh_ok := fun o => by upd_from h.fresh_ok o }

theorem inv_step (p : Policy) (hp : p ≠ .onRelease) (st st' : St) (a : Act) (h : Inv st) (hs : step p st a = some st') :
    Inv st' := by
  revert hs
  fun_cases step p st a <;> intro hs <;> cases hs
  case case1 r₀ k₀ o₀ hg =>  -- start
    have hp' := h.pool_ok o₀
    have hf' := h.fresh_ok o₀
    exact { h with
      wait_ok := fun r k o => by upd_from h.wait_ok r k o
      user_ok := fun o r => by upd_from h.user_ok o r
      calls_ok := fun o k => by have := h.user_ok o; upd_from h.calls_ok o k
      walk_ok := fun o k => by have := h.user_ok o; upd_from h.walk_ok o k
      pool_ok := fun o => by upd_from h.pool_ok o
      fresh_ok := fun o => by upd_from h.fresh_ok o
      err_ok := fun r k => by upd_from h.err_ok r k }
  case case3 r₀ k₀ o₀ hpc hg =>  -- respond
    exact inv_putBack p hp ((h.stop r₀ k₀ o₀ hpc .own nofun).uncall o₀) o₀ (by simp [upd]) (h.calls_ok o₀ k₀ hg.1).2.1
  case case6 r₀ k₀ o₀ hpc =>  -- leave
    have hf : st.fresh o₀ = false := by have := h.fresh_ok o₀; have := h.wait_ok r₀ k₀ o₀ hpc; grind
    have h1 := h.stop r₀ k₀ o₀ hpc .ctx nofun
    refine inv_putBack p hp ?_ o₀ (by simp [upd]) hf
    cases hc : st.closed k₀ <;> simp only [↓reduceIte, Bool.true_eq_false]
    · exact h1.uncall o₀
    · exact h1
  case case8 k₀ _ =>  -- close
    exact { h with
      calls_ok := fun o k => by upd_from h.calls_ok o k
      walk_ok := fun o k => by have := h.calls_ok o k; upd_from h.walk_ok o k
      fresh_ok := fun o => by upd_from h.fresh_ok o }
  case case10 k₀ o₀ hwk r₀ hu k' o' hpc =>  -- visit, somebody reads the channel
    have hk := h.walk_ok o₀ k₀ hwk
    -- whoever reads the channel of an object in connection k₀'s snapshot is a request of connection k₀
    have h1 := (h.stop r₀ _ o₀ (h.user_ok o₀ r₀ hu) (.connErr k₀) fun k e => by cases e; exact hk.2.2 r₀ hu).unwalk o₀
    cases hc : st.closed k' <;> simp only [↓reduceIte, Bool.true_eq_false]
    · exact inv_putBack p hp h1 o₀ (by simp [upd]) hk.2.1
    · exact h1
  case case11 o₀ _ _ _ _ | case12 o₀ _ _ => exact h.unwalk o₀  -- visit, nobody reads it

theorem isRun (p : Policy) : IsRun (step p) (run p) :=
  ⟨fun _ => rfl, fun s a as => by rw [run]; cases step p s a <;> rfl⟩

theorem inv_run (p : Policy) (hp : p ≠ .onRelease) : ∀ (as : List Act) (s s' : St), Inv s → run p s as = some s' → Inv s' :=
  fun _ _ _ => (isRun p).inv (inv_step p hp)

end MuxPool
