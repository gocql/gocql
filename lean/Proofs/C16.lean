import Model.Ring
import Proofs.C16Ring
import Proofs.C16Refresh
import Proofs.C16Index
import Proofs.C16Update
/-! # C16 — the driver's picture of the cluster follows what the cluster reports (ring level)

Model: `Model/Ring.lean` — the three indexes of `ring` (ring.go) and the diff part of `refreshRing`
(host_source.go), with `removeHost` as REPAIRED for KF-C16-1 (the by-address entry is deleted only when
it still maps to the host id being removed), `addOrUpdate` as repaired for KF-C16-5 (the by-address index
follows a node address changed by `HostInfo.update`) and `refreshRing` as repaired for KF-C16-4 / KF-C16-6
(what is gone is removed before anything is added; of a host id reported twice the first row counts).
Histories: ring operations (`ROp`, `applyOp`) and refreshes (`Report`, `runRefreshes`), both in `Proofs/C16Index.lean`, and
their interleaving with in-place address updates (`HOp`, `applyH`: `Proofs/C16Update.lean`) — the machine the session's ring
is a history of (`applyV_sim`, `Proofs/C16ViewHist.lean`). Events, debouncing, pool and policy propagation: `Proofs/C16Events.lean`. -/
namespace C16
open Ring

/-- FULL theorem (before the repair of KF-C16-6 a host id reported twice aborted the refresh).
For every prior ring (well-formed: entries stored under their own id — true of every reachable ring), every host
filter and EVERY reported host list (duplicates included):
after the refresh the ids in the ring are EXACTLY the ids of the accepted reported hosts (new ones added,
vanished ones removed, filtered ones absent). -/
theorem C16_refresh_exact (r : Ring.Ring) (hw : WF r.byId) (filter : RHost → Bool) (reported : List RHost) :
    (∀ id, id ∈ (r.refresh filter reported).1.ids ↔ ∃ h ∈ reported, filter h = false ∧ h.id = id) ∧
    WF (r.refresh filter reported).1.byId := by
  refine ⟨fun id => ?_, refresh_preserves (fun r => WF r.byId) (fun r h => WF_addIfMissing r h) (fun r k => WF_remove r k)
    r hw filter reported⟩
  rw [← mem_acceptedIds, ← keys_reportedMap]
  show id ∈ keys (r.refresh filter reported).1.byId ↔ _
  rw [mem_keys_iff, lookup_refresh, mem_keys_iff]
  cases hk : kept r filter reported id with
  | none => exact Iff.rfl
  | some s =>
    -- an object that stays has its id among the reported ones
    obtain ⟨x, hx, _⟩ := (kept_stays r hw filter reported id s hk).2
    exact ⟨fun _ => ⟨x, hx⟩, fun _ => ⟨s, rfl⟩⟩

example :
    let a : RHost := ⟨1, 1, 7, 7⟩
    let b : RHost := ⟨2, 2, 8, 8⟩
    let b' : RHost := ⟨3, 2, 9, 9⟩   -- id 2 moved to address 9
    let c : RHost := ⟨4, 3, 5, 5⟩
    let r := (Ring.empty.refresh (fun _ => false) [a, b]).1
    (r.refresh (fun _ => false) [b', c]).1.getHost 2 = some b' ∧
    (r.refresh (fun _ => false) [b', c]).1.ids = [3, 2] ∧
    (r.refresh (fun _ => false) [b', c]).1.getHostByIP 9 = (some b', true) ∧
    (r.refresh (fun _ => false) [b', c]).1.getHostByIP 8 = (none, false) := by decide

def firstRow (filter : RHost → Bool) (reported : List RHost) (id : Nat) : Option RHost :=
  (reported.filter (fun h => !filter h)).find? (fun h => h.id == id)

theorem lookup_reportedMap (filter : RHost → Bool) (reported : List RHost) (id : Nat) :
    lookup (reportedMap filter reported) id = firstRow filter reported id :=
  lookup_map_id _ id

/-- (before the repair of KF-C16-6 a host id reported twice made the refresh return
ErrCannotFindHost half way). For every reachable ring and
EVERY report: of the accepted rows of one host id the FIRST counts — the ring's object of that id carries
its node address and connect address (a host whose address changed is replaced), and it is the object that
was stored before when that one already had these addresses, else the row's own object. -/
theorem C16_refresh_first_row_wins (r : Ring.Ring) (hw : WF r.byId) (hn : (keys r.byId).Nodup) (filter : RHost → Bool)
    (reported : List RHost) (id : Nat) (h : RHost) (hf : firstRow filter reported id = some h) :
    ∃ s, (r.refresh filter reported).1.getHost id = some s ∧ s.addr = h.addr ∧ s.caddr = h.caddr ∧
      (r.getHost id = some s ∨ s = h) := by
  have _ := hn
  rw [← lookup_reportedMap] at hf
  show ∃ s, lookup (r.refresh filter reported).1.byId id = some s ∧ _ ∧ _ ∧ (lookup r.byId id = some s ∨ s = h)
  rw [lookup_refresh]
  cases hk : kept r filter reported id with
  | none => exact ⟨h, hf, rfl, rfl, Or.inr rfl⟩
  | some s =>
    -- the object that was there stays: the first row of its id has its addresses
    obtain ⟨hs, x, hx, hc, had⟩ := kept_stays r hw filter reported id s hk
    cases hf.symm.trans hx
    exact ⟨s, rfl, had.symm, hc.symm, Or.inl hs⟩

/-- non-vacuity: host id 1 reported twice (a stale row next to the current one) between two other hosts — the
refresh completes, the first row counts, the host after the duplicate is added, the vanished host removed -/
example :
    let a : RHost := ⟨1, 1, 7, 7⟩
    let a2 : RHost := ⟨2, 1, 8, 8⟩
    let c : RHost := ⟨3, 3, 9, 9⟩
    let r0 := (Ring.empty.refresh (fun _ => false) [⟨9, 5, 4, 4⟩]).1
    firstRow (fun _ => false) [a, a2, c] 1 = some a ∧
    (r0.refresh (fun _ => false) [a, a2, c]).1.ids = [3, 1] ∧ (r0.refresh (fun _ => false) [a, a2, c]).1.getHost 1 = some a ∧
    (r0.refresh (fun _ => false) [a, a2, c]).2.filled = [a, c] := by decide

/-! ### index consistency (KF-C16-1 repaired)

The property: node details are looked up by id and by address consistently — after every history of
topology refreshes every host of the ring is found by its id and by its address:
`getHost h.id = some h ∧ getHostByIP h.addr = (some h, true)`. -/

/-- FULL theorem (after the repair of KF-C16-1).
For every consistent prior ring `r0` (`RInv`: hosts stored under their own id, every host indexed by its
address, no two hosts on one address — in particular the empty ring) and EVERY history of refreshes whose
accepted reported hosts have pairwise distinct node addresses — including
refreshes that replace a host id on the same address (dead node replaced), hosts whose address changed,
hosts that swap addresses, filtered hosts — every host of the resulting ring is found by its id and by
its address. -/
theorem C16_refresh_index_consistent (r0 : Ring.Ring) (h0 : RInv r0) (hist : List Report)
    (hg : ∀ x ∈ hist, GoodReport x) :
    let r := runRefreshes r0 hist
    ∀ h ∈ r.allHosts, r.getHost h.id = some h ∧ r.getHostByIP h.addr = (some h, true) := by
  intro r h hh
  exact RInv_lookup r (RInv_runRefreshes r0 h0 hist hg) h hh

/-- the same from the empty ring (a new session) -/
theorem C16_refresh_index_consistent_from_empty (hist : List Report) (hg : ∀ x ∈ hist, GoodReport x) :
    let r := runRefreshes Ring.empty hist
    ∀ h ∈ r.allHosts, r.getHost h.id = some h ∧ r.getHostByIP h.addr = (some h, true) :=
  C16_refresh_index_consistent Ring.empty RInv_empty hist hg

/-- after such a history the ring holds exactly the accepted hosts of the LAST report and each of them is
found by id and by address -/
theorem C16_refresh_history_follows_last_report (r0 : Ring.Ring) (h0 : RInv r0) (pre : List Report) (x : Report)
    (hg : ∀ y ∈ pre ++ [x], GoodReport y) :
    let r := runRefreshes r0 (pre ++ [x])
    (∀ id, id ∈ r.ids ↔ ∃ h ∈ x.2, x.1 h = false ∧ h.id = id) ∧
    (∀ h ∈ r.allHosts, r.getHost h.id = some h ∧ r.getHostByIP h.addr = (some h, true)) := by
  intro r
  refine ⟨?_, C16_refresh_index_consistent r0 h0 (pre ++ [x]) hg⟩
  simp only [r, runRefreshes, List.foldl_append, List.foldl_cons, List.foldl_nil]
  exact (C16_refresh_exact _ (RInv_runRefreshes r0 h0 pre fun y hy => hg y (List.mem_append_left _ hy)).wf x.1 x.2).1

/-- non-vacuity: the history of KF-C16-1 — a dead node (id 1 on address 7) replaced by a new host id
on the same address — and two hosts swapping their addresses in one report -/
example :
    let h1 : RHost := ⟨1, 1, 7, 7⟩
    let h2 : RHost := ⟨2, 2, 7, 7⟩
    let hist : List Report := [(fun _ => false, [h1]), (fun _ => false, [h2])]
    (∀ x ∈ hist, GoodReport x) ∧ (runRefreshes Ring.empty hist).ids = [2] ∧
    (runRefreshes Ring.empty hist).getHostByIP 7 = (some h2, true) := by
  refine ⟨?_, by decide, by decide⟩
  intro x hx
  simp only [List.mem_cons, List.not_mem_nil, or_false] at hx
  rcases hx with rfl | rfl <;> decide

example :
    let a : RHost := ⟨1, 1, 7, 7⟩
    let b : RHost := ⟨2, 2, 8, 8⟩
    let a' : RHost := ⟨3, 1, 8, 8⟩
    let b' : RHost := ⟨4, 2, 7, 7⟩
    let r := runRefreshes Ring.empty [(fun _ => false, [a, b]), (fun _ => false, [a', b'])]
    GoodReport (fun _ => false, [a', b']) ∧
    r.getHostByIP 8 = (some a', true) ∧ r.getHostByIP 7 = (some b', true) ∧ r.getHost 1 = some a' := by
  refine ⟨by decide, by decide, by decide, by decide⟩

/-- For EVERY history of `addHostIfMissing` / `addOrUpdate` / `removeHost` (additions unrestricted: hosts
may be added on the address of another live host) in which every removal is harmless (`RemOk`: the removed
host is the only host of the ring on its address, or its address is indexed to another host id):
every host of the ring is found by its id, its address always leads to a host of the ring WITH THAT
ADDRESS, and to the host itself whenever no other host of the ring has its address. -/
theorem C16_ops_index_consistent (ops : List ROp) (hg : RemGuarded Ring.empty ops) :
    let r := ops.foldl applyOp Ring.empty
    ∀ h ∈ r.allHosts, r.getHost h.id = some h ∧
      (∃ h' ∈ r.allHosts, h'.addr = h.addr ∧ r.getHostByIP h.addr = (some h', true)) ∧
      ((∀ h' ∈ r.allHosts, h'.addr = h.addr → h' = h) → r.getHostByIP h.addr = (some h, true)) := by
  intro r h hh
  have hi : CInv r := CInv_run _ ⟨RInv_empty.wf, RInv_empty.knodup, RInv_cov _ RInv_empty⟩ ops hg
  exact Cov_lookup r hi.wf hi.knodup hi.cov h hh

/-- the history of KF-C16-1 at the level of ring operations: add(id1@7), add(id2@7),
removeHost(id1) — `RemOk` holds (address 7 is indexed to id 2) and the live node is found by its address -/
example :
    let h1 : RHost := ⟨1, 1, 7, 7⟩
    let h2 : RHost := ⟨2, 2, 7, 7⟩
    let ops := [ROp.addIfMissing h1, .addIfMissing h2, .remove 1]
    RemGuarded Ring.empty ops ∧ (ops.foldl applyOp Ring.empty).getHostByIP 7 = (some h2, true) := by
  refine ⟨⟨?_, trivial⟩, by decide⟩
  decide

/-- For every history in which no host is added while a host with a DIFFERENT id has its address
(removals unrestricted) every host of the ring is found by its id and by its address. -/
theorem C16_ops_index_consistent_distinct_addr (ops : List ROp) (hg : Guarded Ring.empty ops) :
    let r := ops.foldl applyOp Ring.empty
    ∀ h ∈ r.allHosts, r.getHost h.id = some h ∧ r.getHostByIP h.addr = (some h, true) := by
  intro r h hh
  exact RInv_lookup r (RInv_run _ RInv_empty ops hg) h hh

example : Guarded Ring.empty [.addIfMissing ⟨1, 1, 7, 7⟩, .addIfMissing ⟨2, 2, 8, 8⟩, .remove 1, .addOrUpdate ⟨3, 3, 7, 7⟩] := by
  refine ⟨?_, ?_, ?_, trivial⟩ <;> decide

/-- FULL theorem since the repair of KF-C16-5 (before it, when `HostInfo.update` changed the node address of a
stored host, the old key stayed behind).
After EVERY history of ring operations, refreshes and in-place address updates (no hypothesis at all) the by-address index has
no stale entry: when `getHostByIP a` answers "known address" the host it returns is a host of the ring
with address `a` — never nil (`handleNodeUp` / `handleNodeDown` dereference it). -/
theorem C16_byip_never_stale (ops : List HOp) :
    let r := ops.foldl applyH Ring.empty
    ∀ a x, r.getHostByIP a = (x, true) → ∃ h, x = some h ∧ h ∈ r.allHosts ∧ h.addr = a := by
  intro r a x hx
  have hi : SInv r := SInv_runH ops _ SInv_empty
  exact NoStale_lookup r hi.knodup hi.ns a x hx

theorem notFound_nil_of (r : Ring.Ring)
    (h : ∀ h ∈ r.allHosts, r.getHost h.id = some h ∧ r.getHostByIP h.addr = (some h, true)) : r.notFound = [] := by
  unfold Ring.notFound
  rw [List.filter_eq_nil_iff]
  intro a ha
  have := h a ha
  simp [this.1, this.2]

/-- The interleaved form (subsumes `C16_refresh_index_consistent_from_empty` and
`C16_ops_index_consistent_distinct_addr`; it is the condition under which the differential run treats the
observation `consistent` = `Ring.notFound` as specified): for every history of ring operations,
refreshes and in-place address updates satisfying `HGuarded`, every host of the ring is found by its id and by its address. -/
theorem C16_history_index_consistent (ops : List HOp) (hg : HGuarded Ring.empty ops) :
    let r := ops.foldl applyH Ring.empty
    (∀ h ∈ r.allHosts, r.getHost h.id = some h ∧ r.getHostByIP h.addr = (some h, true)) ∧ r.notFound = [] := by
  intro r
  have h1 : ∀ h ∈ r.allHosts, r.getHost h.id = some h ∧ r.getHostByIP h.addr = (some h, true) :=
    fun h hh => RInv_lookup r (RInv_runH _ RInv_empty ops hg) h hh
  exact ⟨h1, notFound_nil_of r h1⟩

/-- non-vacuity: a session's first host, then a report that replaces it by a new host id on its address, an
address update of that host, then a removal -/
example : HGuarded Ring.empty [.op (.addOrUpdate ⟨1, 1, 7, 7⟩), .refresh (fun _ => false) [⟨2, 2, 7, 7⟩, ⟨3, 3, 8, 8⟩],
    .update 2 9 7, .op (.remove 3)] := by
  refine ⟨by decide, by decide, by decide, trivial⟩

/-- the observation `covered` = `Ring.uncovered` of the differential run is empty after every
`RemGuarded` history of ring operations -/
theorem C16_ops_uncovered_nil (ops : List ROp) (hg : RemGuarded Ring.empty ops) :
    (ops.foldl applyOp Ring.empty).uncovered = [] := by
  have hall := C16_ops_index_consistent ops hg
  dsimp only at hall
  generalize ops.foldl applyOp Ring.empty = r at hall
  unfold Ring.uncovered
  rw [List.filter_eq_nil_iff]
  intro a ha
  obtain ⟨h1, ⟨h', hm, hadr, hget⟩, _⟩ := hall a ha
  rw [hget]
  by_cases e : h' = a
  · subst e
    simp [h1, ha]
  · simp only [h1, hm, hadr, decide_true, beq_self_eq_true, Bool.and_true, Bool.true_and, e, decide_false,
      Bool.false_or, Bool.not_eq_eq_eq_not, Bool.not_true, Bool.not_eq_false]
    exact List.any_eq_true.mpr ⟨h', hm, by simp [e, hadr]⟩

/-- the observation `nostale` = `Ring.staleAddrs` of the differential run is empty after EVERY history -/
theorem C16_stale_nil (ops : List HOp) (n : Nat) : (ops.foldl applyH Ring.empty).staleAddrs n = [] := by
  have hi := SInv_runH ops _ SInv_empty
  generalize ops.foldl applyH Ring.empty = r at hi
  unfold Ring.staleAddrs
  rw [List.filter_eq_nil_iff]
  intro a _
  have := NoStale_lookup r hi.knodup hi.ns a
  generalize r.getHostByIP a = res at this
  obtain ⟨x, b⟩ := res
  cases b with
  | false => cases x <;> simp
  | true =>
    obtain ⟨h, rfl, hm, ha⟩ := this x rfl
    simp [hm, ha]

/-- RESIDUAL case (kernel-checked), outside what the property demands: two LIVE hosts on one address is
not a state a cluster reports (`GoodReport`) and, since refreshRing removes what is gone before it adds
anything, not a state inside a refresh with a `GoodReport` either. With the repaired code the by-address index
still points to only one of two live hosts that share an address, and removing THAT one un-indexes the
address: add(id1@7), add(id2@7), removeHost(id2) — id1 is in the ring and is not found by address 7.
The history violates `RemOk` at the removal. -/
theorem C16_cex_residual_shared_address :
    let h1 : RHost := ⟨1, 1, 7, 7⟩
    let h2 : RHost := ⟨2, 2, 7, 7⟩
    let ops := [ROp.addIfMissing h1, .addIfMissing h2, .remove 2]
    let r := ops.foldl applyOp Ring.empty
    h1 ∈ r.allHosts ∧ r.getHost 1 = some h1 ∧ r.getHostByIP 7 = (none, false) ∧ ¬ RemGuarded Ring.empty ops := by
  refine ⟨by decide, by decide, by decide, fun hg => ?_⟩
  have h : RemOk ((Ring.empty.addIfMissing ⟨1, 1, 7, 7⟩).1.addIfMissing ⟨2, 2, 7, 7⟩).1 2 := hg.1
  revert h
  decide

/-! ### regression: the definition before the repair (`Ring.removeOld`) fails on the histories of KF-C16-1 -/

example :
    let h1 : RHost := ⟨1, 1, 7, 7⟩
    let h2 : RHost := ⟨2, 2, 7, 7⟩
    let r := (((Ring.empty.addIfMissing h1).1.addIfMissing h2).1.removeOld 1).1
    h2 ∈ r.allHosts ∧ r.getHost 2 = some h2 ∧ r.getHostByIP 7 = (none, false) := by decide

example :
    let h1 : RHost := ⟨1, 1, 7, 7⟩
    let h2 : RHost := ⟨2, 2, 7, 7⟩
    let r := (((Ring.empty.addIfMissing h1).1.addIfMissing h2).1.remove 1).1
    h2 ∈ r.allHosts ∧ r.getHost 2 = some h2 ∧ r.getHostByIP 7 = (some h2, true) := by decide

/-! ### regression: `addOrUpdate` before the repair of KF-C16-5 (`Ring.updateStoredOld`) — a peer-sourced
host (peer 7) receives broadcast_address 8 and is removed: the by-address entry of 7 is left behind and
`getHostByIP 7` answers (nil, true), which `handleNodeDown` / `handleNodeUp` dereferenced -/

example :
    let r := (((Ring.empty.addIfMissing ⟨1, 1, 7, 7⟩).1.updateStoredOld 1 8 7).remove 1).1
    r.getHostByIP 7 = (none, true) ∧ r.staleAddrs 9 = [7] := by decide

example :
    let r1 := (Ring.empty.addIfMissing ⟨1, 1, 7, 7⟩).1.updateStored 1 8 7
    r1.getHostByIP 8 = (some ⟨1, 1, 8, 7⟩, true) ∧ r1.getHostByIP 7 = (none, false) ∧
    (r1.remove 1).1.getHostByIP 7 = (none, false) ∧ (r1.remove 1).1.staleAddrs 9 = [] := by decide

end C16
