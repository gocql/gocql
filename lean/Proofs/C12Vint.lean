import Proofs.C12Bytes
/-!
# C12: zig-zag and the unsigned vint of marshal.go (encIntZigZag, encVint) against the specification
-/
namespace C12Vint
open ValueSpec Marshal C12Bytes

export BE (beBytes_head beBytes_add_mul)

/-- `uint64((n >> 63) ^ (n << 1))` is the zig-zag code, for every int64 -/
theorem encIntZigZag_spec (n : Int) (h : fitsS 8 n = true) : encIntZigZag n = zigzag n := by
  simp [fitsS_iff] at h
  unfold encIntZigZag zigzag
  have hx : (BitVec.ofInt 64 n).toInt = n := by
    rw [BitVec.toInt_ofInt]
    unfold Int.bmod
    simp
    omega
  have hs : ((BitVec.ofInt 64 n).sshiftRight 63).toInt = n >>> 63 := by
    rw [BitVec.toInt_sshiftRight, hx]
  have hnat : (BitVec.ofInt 64 n).toNat = (n % 2^64).toNat := by
    rw [BitVec.toNat_ofInt]; simp
  by_cases hn : 0 ≤ n
  · have h0 : (BitVec.ofInt 64 n).sshiftRight 63 = 0#64 := by
      apply BitVec.eq_of_toInt_eq
      rw [hs]
      simp [Int.shiftRight_eq_div_pow]
      omega
    rw [h0, if_pos hn]
    simp [BitVec.toNat_shiftLeft, hnat]
    omega
  · have h1 : (BitVec.ofInt 64 n).sshiftRight 63 = BitVec.allOnes 64 := by
      apply BitVec.eq_of_toInt_eq
      rw [hs]
      simp [Int.shiftRight_eq_div_pow]
      omega
    rw [h1, if_neg hn, BitVec.allOnes_xor]
    simp [BitVec.toNat_not, BitVec.toNat_shiftLeft, hnat]
    omega

theorem zigzag_lt (n : Int) (h : fitsS 8 n = true) : zigzag n < 2^64 := by
  simp [fitsS_iff] at h
  unfold zigzag; split <;> omega

theorem unzigzag_zigzag (n : Int) : unzigzag (zigzag n) = n := by
  unfold unzigzag zigzag
  split <;> split <;> omega

/-- `(639 - lead0*9) >> 6` as a function of the bit length: a finite table -/
theorem numBytes_table : ∀ L, L ≤ 64 → max 1 ((639 - (64 - L) * 9) >>> 6) =
    if L ≤ 7 then 1 else if L ≤ 14 then 2 else if L ≤ 21 then 3 else if L ≤ 28 then 4
    else if L ≤ 35 then 5 else if L ≤ 42 then 6 else if L ≤ 49 then 7 else if L ≤ 56 then 8 else 9 := by
  decide

/-- `(639 - lead0*9) >> 6` is the size of the unsigned vint (0 and 1 both mean one byte) -/
theorem numBytes_spec (u : Nat) (hu : u < 2^64) :
    max 1 ((639 - leadingZeros64 u * 9) >>> 6) = uvintSize u := by
  rw [leadingZeros64, numBytes_table _ ((bitLen_le_iff u 64).mpr hu)]
  simp only [uvintSize, bitLen_le_iff]

theorem lowBytes_eq (e u : Nat) : lowBytes e u = beBytes (e + 1) u := by
  induction e generalizing u with
  | zero => simp [lowBytes, beBytes]
  | succ e ih => rw [lowBytes, ih]; rfl

/-- OR-ing the length marker into the first byte = adding it (the bits do not overlap) -/
theorem or_marker (e : Nat) (he : 1 ≤ e ∧ e ≤ 8) (x : Nat) (hx : x < 2 ^ (8 - e)) :
    byteOfNat x ||| UInt8.ofNat (255 - (255 >>> e)) = byteOfNat (x + (256 - 2 ^ (8 - e))) := by
  obtain ⟨h1, h8⟩ := he
  have : e = 1 ∨ e = 2 ∨ e = 3 ∨ e = 4 ∨ e = 5 ∨ e = 6 ∨ e = 7 ∨ e = 8 := by omega
  rcases this with rfl | rfl | rfl | rfl | rfl | rfl | rfl | rfl <;> (revert x; decide)

theorem marked (e : Nat) (he : 1 ≤ e ∧ e ≤ 8) (u : Nat) (hx : u / 256 ^ e < 2 ^ (8 - e)) :
    (match lowBytes e u with
      | b0 :: r => (b0 ||| UInt8.ofNat (255 - (255 >>> e))) :: r
      | [] => []) = beBytes (e + 1) (u + (256 - 2 ^ (8 - e)) * 256 ^ e) := by
  rw [lowBytes_eq, beBytes_head, beBytes_head]
  simp only
  rw [or_marker e he _ hx, beBytes_add_mul, Nat.add_mul_div_right _ _ (Nat.pow_pos (by decide))]

/-- a property of both branches of an `if` (`split` on a long chain of `if`s over large numerals is slow to check) -/
theorem ite_ind {α : Type} {c : Prop} [Decidable c] {a b : α} (P : α → Prop) (ha : c → P a) (hb : ¬ c → P b) :
    P (if c then a else b) := by
  by_cases h : c
  · rw [if_pos h]; exact ha h
  · rw [if_neg h]; exact hb h

/-- the size of an unsigned vint is `e + 1` with `e ≤ 8` extra bytes, and what is left of `u` above them fits the
    `7 − e` bits that the first byte has below its `e` ones and the zero that ends them -/
theorem uvintSize_bound (u : Nat) (hu : u < 2 ^ 64) :
    ∃ e, uvintSize u = e + 1 ∧ e ≤ 8 ∧ u / 256 ^ e < 2 ^ (7 - e) :=
  let P : Nat → Prop := fun s => ∃ e, s = e + 1 ∧ e ≤ 8 ∧ u / 256 ^ e < 2 ^ (7 - e)
  ite_ind P (fun h => ⟨0, rfl, by decide, by omega⟩) fun _ => ite_ind P (fun h => ⟨1, rfl, by decide, by omega⟩) fun _ =>
  ite_ind P (fun h => ⟨2, rfl, by decide, by omega⟩) fun _ => ite_ind P (fun h => ⟨3, rfl, by decide, by omega⟩) fun _ =>
  ite_ind P (fun h => ⟨4, rfl, by decide, by omega⟩) fun _ => ite_ind P (fun h => ⟨5, rfl, by decide, by omega⟩) fun _ =>
  ite_ind P (fun h => ⟨6, rfl, by decide, by omega⟩) fun _ => ite_ind P (fun h => ⟨7, rfl, by decide, by omega⟩) fun _ =>
  ⟨8, rfl, by decide, by omega⟩

/-- encVint (marshal.go:1564-1581) writes the specification's signed vint, for every int64 -/
theorem encVint_spec (n : Int) (h : fitsS 8 n = true) : encVint n = specVint n := by
  have hu := zigzag_lt n h
  unfold encVint specVint specUVint
  rw [encIntZigZag_spec n h]
  generalize zigzag n = u at *
  have hN := numBytes_spec u hu
  obtain ⟨e, hs, he, hx⟩ := uvintSize_bound u hu
  simp only
  generalize (639 - leadingZeros64 u * 9) >>> 6 = N at *
  rw [hs] at hN ⊢
  cases e with
  | zero => rw [if_pos (by omega)]; simp [beBytes]
  | succ e =>
    -- `N − 1` extra bytes
    rw [if_neg (by omega), show N - 1 = e + 1 by omega, show 9 - (e + 1 + 1) = 8 - (e + 1) by omega,
      Nat.add_sub_cancel]
    exact marked (e + 1) (by omega) u (Nat.lt_of_lt_of_le hx (Nat.pow_le_pow_right (by decide) (by omega)))

end C12Vint
