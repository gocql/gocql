import Proofs.C01Own
import Proofs.C01Monitor
/-!
# The machine with the sender's steps (`Model/MuxOwn.lean`, code configuration) REFINES the abstract multiplexing
# machine (`Model/Mux.lean`)

Every step of MuxOwn is matched by zero, one or two steps of Mux such that the two states stay related (`R`) and the
observable events (`req` / `resp` / `got` / `stray` / `event`, the alphabet of the monitor that judges real runs) are
the same. Mux's `owner s` is "the call registered under s whose id has not been put up for release"; Mux's
`acquire` happens at MuxOwn's `register` (GetStream + addCall are one action of Mux), `wrote` at `write`;
`reserve`, `writeReturned`, `release`, `relDone` are stutter steps. Mux's ghost fields `clears` / `abandoned` are not
constrained (no step of Mux reads them).
-/
namespace MuxOwn

/-- the Mux actions that match one MuxOwn action -/
def tr (st : St) : Act → List Mux.Act
  | .reserve _ _ _ => []
  | .register c => match st.pc c with
      | .flight s false _ _ => if st.closed = none then [.acquire c s] else []
      | _ => []
  | .write c => [.wrote c]
  | .writeReturned _ => []
  | .writeFailed c => match st.pc c with
      | .flight _ false _ _ => [.close]
      | .flight _ true false _ => [.writeFailed c]
      | .flight _ true true _ => [.close, .connDone c]
      | _ => []
  | .answer s k t => [.answer s k t]
  | .stray s => [.stray s]
  | .event => [.event]
  | .deliver s => [.deliver s]
  | .timeout c => [.timeout c]
  | .cancel c => [.cancel c]
  | .hbReact c => match st.pc c with
      | .done (.resp f) => if f.kind = 0 ∨ f.kind = 1 then [] else [.close]
      | _ => []
  | .close => [.close]
  | .connDone c => [.connDone c]
  | .connDoneCtx c => [.connDone c]
  | .buildFailed c => [.buildFail c]
  | .writeCancelled c => [.writeCancelled c]
  | .release _ => []
  | .relDone _ => []

/-- what can be observed of one MuxOwn step from outside (the peer's log, the callers' reports) -/
def obs (st : St) : Act → List Mux.Obs
  | .write c => match st.pc c with
      | .flight s _ false false => [.req s c]
      | _ => []
  | .answer s k t => match st.wire s with
      | .pending c => [.resp s c k t]
      | _ => []
  | .deliver s => match st.wire s, st.reg s with
      | .answered _ f, some d => (match st.pc d with
          | .flight _ _ _ true => [.got d f.kind f.tag]
          | _ => [])
      | _, _ => []
  | .stray s => [.stray s]
  | .event => [.event]
  | _ => []

def otrace (cfg : Cfg) : St → List Act → List Mux.Obs
  | _, [] => []
  | st, a :: as => match step cfg st a with
    | some st' => obs st a ++ otrace cfg st' as
    | none => []

structure R (st : St) (m : Mux.St) : Prop where
  cap : m.cap = st.cap
  own : ∀ s d, m.owner s = some d ↔ (st.reg s = some d ∧ st.owner s = some d ∧ st.rel d ≠ .due)
  wire_none : ∀ s, st.wire s = .none → m.wire s = .none
  wire_pend : ∀ s c, st.wire s = .pending c → m.wire s = .pending c
  wire_ans : ∀ s c f, st.wire s = .answered c f → m.wire s = .answered c f.kind f.tag
  pc_idle : ∀ c, st.pc c = .idle → m.pc c = .idle
  pc_unreg : ∀ c s wr ret, st.pc c = .flight s false wr ret → m.pc c = .idle
  pc_acq : ∀ c s ret, st.pc c = .flight s true false ret → m.pc c = .acquired s
  pc_wait : ∀ c s ret, st.pc c = .flight s true true ret → m.pc c = .waiting s
  pc_resp : ∀ c f, st.pc c = .done (.resp f) → m.pc c = .done (.resp c f.kind f.tag)
  pc_done : ∀ c o, st.pc c = .done o → (∀ f, o ≠ .resp f) →
    (m.pc c = .idle ∨ ∃ o', m.pc c = .done o' ∧ ∀ a k w, o' ≠ .resp a k w)
  sent : ∀ c, m.sent c = (st.sent c).map fun f => (f.kind, f.tag)
  closed : m.closed = st.closed.isSome

theorem R_init (cap : Nat) : R (init cap) (Mux.init cap) := by
  constructor <;> simp [init, Mux.init]

theorem own_none (st : St) (m : Mux.St) (r : R st m) (s : Nat)
    (h : ∀ d, ¬ (st.reg s = some d ∧ st.owner s = some d ∧ st.rel d ≠ .due)) : m.owner s = none := by
  cases hm : m.owner s with
  | none => rfl
  | some d => exact absurd ((r.own s d).1 hm) (h d)

def PcRel (c : Nat) : Pc → Mux.Pc → Prop
  | .idle, q | .flight _ false _ _, q => q = .idle
  | .flight s true false _, q => q = .acquired s
  | .flight s true true _, q => q = .waiting s
  | .done (.resp f), q => q = .done (.resp c f.kind f.tag)
  | .done _, q => q = .idle ∨ ∃ o', q = .done o' ∧ ∀ a k w, o' ≠ .resp a k w

def WireRel : Wire → Mux.Wire → Prop
  | .none, q => q = .none
  | .pending c, q => q = .pending c
  | .answered c f, q => q = .answered c f.kind f.tag

theorem R.pcs {st : St} {m : Mux.St} (r : R st m) (c : Nat) : PcRel c (st.pc c) (m.pc c) := by
  cases h : st.pc c with
  | idle => exact r.pc_idle c h
  | flight s rg wr ret =>
    cases rg with
    | false => exact r.pc_unreg c s wr ret h
    | true => cases wr with
      | false => exact r.pc_acq c s ret h
      | true => exact r.pc_wait c s ret h
  | done o =>
    cases o with
    | resp f => exact r.pc_resp c f h
    | _ => exact r.pc_done c _ h (by simp)

theorem R.wires {st : St} {m : Mux.St} (r : R st m) (s : Nat) : WireRel (st.wire s) (m.wire s) := by
  cases h : st.wire s with
  | none => exact r.wire_none s h
  | pending c => exact r.wire_pend s c h
  | answered c f => exact r.wire_ans s c f h

theorem R.of {st : St} {m : Mux.St} (cap : m.cap = st.cap)
    (own : ∀ s d, m.owner s = some d ↔ (st.reg s = some d ∧ st.owner s = some d ∧ st.rel d ≠ .due))
    (wires : ∀ s, WireRel (st.wire s) (m.wire s)) (pcs : ∀ c, PcRel c (st.pc c) (m.pc c))
    (sent : ∀ c, m.sent c = (st.sent c).map fun f => (f.kind, f.tag)) (closed : m.closed = st.closed.isSome) : R st m := by
  have pa : ∀ {c p}, st.pc c = p → PcRel c p (m.pc c) := fun h => h ▸ pcs _
  have wa : ∀ {s w}, st.wire s = w → WireRel w (m.wire s) := fun h => h ▸ wires _
  exact { cap, own, sent, closed, wire_none := fun _ => wa, wire_pend := fun _ _ => wa, wire_ans := fun _ _ _ => wa,
          pc_idle := fun _ => pa, pc_unreg := fun _ _ _ _ => pa, pc_acq := fun _ _ _ => pa, pc_wait := fun _ _ _ => pa,
          pc_resp := fun _ _ => pa
          pc_done := fun c o h hno => by
            have := pa h
            cases o <;> first | exact this | exact absurd rfl (hno _) }

theorem PcRel.gaveUp (c : Nat) {o : Outcome} {o' : Mux.Outcome} (hno : ∀ f, o ≠ .resp f) (hno' : ∀ a k w, o' ≠ .resp a k w) :
    PcRel c (.done o) (.done o') := by
  cases o <;> first | exact absurd rfl (hno _) | exact .inr ⟨_, rfl, hno'⟩

theorem R.giveUp {st : St} {m : Mux.St} (r : R st m) (c : Nat) (o : Outcome) (o' : Mux.Outcome) (hno : ∀ f, o ≠ .resp f)
    (hno' : ∀ a k w, o' ≠ .resp a k w) :
    R { st with pc := upd st.pc c (.done o) }
      { m with pc := Mux.upd m.pc c (.done o'), abandoned := Mux.upd m.abandoned c true } :=
  .of r.cap r.own r.wires (forall_update₂ r.pcs c (.gaveUp c hno hno')) r.sent r.closed

/-- a call that Mux has not seen yet (not registered) ends on the MuxOwn side only -/
theorem R.doneUnreg {st : St} {m : Mux.St} (r : R st m) (c : Nat) (o : Outcome) (hno : ∀ f, o ≠ .resp f)
    (hm : m.pc c = .idle) : R { st with pc := upd st.pc c (.done o) } m :=
  .of r.cap r.own r.wires
    (forall_update_left r.pcs c (by cases o <;> first | exact absurd rfl (hno _) | exact .inl hm)) r.sent r.closed

theorem R.close {st : St} {m : Mux.St} (r : R st m) : R { st with closed := closeWith st .plain } { m with closed := true } :=
  { r with closed := by upd_from r.closed }

/-- the exits of exec before anything was written, on both sides: the call ends with an outcome that is no response and
    gives its id back (Mux frees it at once; MuxOwn has it marked for release, which `R.own` counts as free) -/
theorem R.earlyExit {st : St} {m : Mux.St} (inv : Inv st) (r : R st m) (c s : Nat) (o : Outcome) (o' : Mux.Outcome)
    (hpc : st.pc c = .flight s true false false) (hno : ∀ f, o ≠ .resp f) (hno' : ∀ a k w, o' ≠ .resp a k w) :
    R (earlyExit Cfg.code st c s o)
      { m with owner := Mux.upd m.owner s none, pc := Mux.upd m.pc c (.done o'),
               clears := Mux.upd m.clears c (m.clears c + 1) } := by
  have hm := r.pc_acq c s false hpc
  have hfo := inv.flight_ok c s true false false hpc
  simp only [MuxOwn.earlyExit, Cfg.code, and_true]
  split <;> exact .of r.cap (fun s d => by have := inv.reg_pc s d; upd_from r.own s d) r.wires
    (forall_update₂ r.pcs c (.gaveUp c hno hno')) r.sent r.closed

theorem run_one {m m' : Mux.St} {a : Mux.Act} (h : Mux.Step m a m') :
    Mux.run m [a] = some m' ∧ Mux.trace m [a] = Mux.obsOf m a := by
  simp [Mux.run, Mux.trace, Mux.step_iff.2 h]

/-- Each case names the step of Mux with its guards (`run_one`) and gives `R` from its six parts (`R.of`): program points
    and wire are related point by point (`PcRel`, `WireRel`; `forall_update₂`, `forall_update_left`); only `own` needs the
    invariant. -/
theorem sim_step (st st' : St) (a : Act) (m : Mux.St) (inv : Inv st) (r : R st m)
    (hs : step Cfg.code st a = some st') :
    ∃ m', Mux.run m (tr st a) = some m' ∧ R st' m' ∧ Mux.trace m (tr st a) = obs st a := by
  revert hs
  fun_cases step Cfg.code st a <;> intro hs <;> cases hs
  case case1 c s w hg =>  -- reserve
    obtain ⟨hidle, hfree, _, _, hopen⟩ := hg
    have hf := inv.free_ok hopen s hfree
    have hi := r.pc_idle c hidle
    refine ⟨m, rfl, ?_, rfl⟩
    exact .of r.cap (fun s d => by upd_from r.own s d) r.wires (forall_update_left r.pcs c hi) r.sent r.closed
  case case3 c s wr ret hpc hwr hcl hreg =>  -- register
    simp only [Cfg.code, Bool.false_eq_true, ↓reduceIte] at hwr
    have hm := r.pc_unreg c s wr ret hpc
    have hrg : 1 ≤ s ∧ s < st.cap := inv.at_pc hpc
    have hfo := inv.flight_ok c s false wr ret hpc
    have hown : m.owner s = none := own_none st m r s (by intro d hd; rw [hreg] at hd; simp at hd)
    have ⟨h1, h2⟩ := run_one (.acquire c s hm hown hrg.1 (r.cap ▸ hrg.2) (by rw [r.closed, hcl]; rfl))
    have hrel := inv.rel_ok c
    rw [show tr st (.register c) = [.acquire c s] by simp [tr, hpc, hcl]]
    exact ⟨_, h1, .of r.cap (fun s d => by upd_from r.own s d) r.wires (forall_update₂ r.pcs c (by subst hwr; exact rfl))
      r.sent r.closed, h2⟩
  case case4 c s wr ret hpc _ _ hreg =>  -- unreachable: an unregistered flight has `reg s = none`
    exact absurd ((inv.flight_ok c s false wr ret hpc).2.2.2.1 rfl).1 hreg
  case case5 c s wr ret hpc _ hcl =>  -- register on a closed connection
    simp only [tr, hpc, hcl, if_false]
    exact ⟨m, rfl, r.doneUnreg c _ (by simp) (r.pc_unreg c s wr ret hpc), rfl⟩
  case case9 c s rr hpc hg =>  -- write
    obtain rfl : rr = true := by simpa [Cfg.code] using hg
    have hm := r.pc_acq c s false hpc
    have ⟨h1, h2⟩ := run_one (.wrote c s hm)
    exact ⟨_, h1, .of r.cap r.own (forall_update₂ r.wires s rfl) (forall_update₂ r.pcs c rfl) r.sent r.closed,
      h2.trans (by simp [obs, Mux.obsOf, hm, hpc])⟩
  case case11 c s rr hpc =>  -- writeReturned
    refine ⟨m, rfl, ?_, rfl⟩
    have hp := r.pcs c; rw [hpc] at hp
    exact .of r.cap r.own r.wires (forall_update_left r.pcs c (by cases rr <;> exact hp)) r.sent r.closed
  case case13 c s rr wr hpc =>  -- writeFailed
    cases rr with
    | false =>
      have ⟨h1, h2⟩ := run_one (m := m) .close
      simp only [tr, hpc]
      exact ⟨_, h1, (r.doneUnreg c _ (by simp) (r.pc_unreg c s wr false hpc)).close, h2⟩
    | true =>
      cases wr with
      | false =>
        have ⟨h1, h2⟩ := run_one (.writeFailed c s (r.pc_acq c s false hpc))
        simp only [tr, hpc]
        exact ⟨_, h1, (r.giveUp c _ _ (by simp) (by simp)).close, h2⟩
      | true =>
        have hm := r.pc_wait c s false hpc
        refine ⟨{ m with closed := true, pc := Mux.upd m.pc c (.done .connClosed),
                         abandoned := Mux.upd m.abandoned c true }, ?_, ?_, ?_⟩
        · simp [tr, hpc, Mux.run, Mux.step, hm]
        · exact (r.giveUp c _ _ (by simp) (by simp)).close
        · simp [tr, hpc, obs, Mux.trace, Mux.step, Mux.obsOf, hm]
  case case15 s kind tag c hw =>  -- answer
    have hm := r.wire_pend s c hw
    have ⟨h1, h2⟩ := run_one (.answer s kind tag c hm)
    exact ⟨_, h1, .of r.cap r.own (forall_update₂ r.wires s rfl) r.pcs (fun c => by upd_from r.sent c) r.closed,
      h2.trans (by simp [obs, Mux.obsOf, hm, hw])⟩
  case case17 s hc =>  -- stray
    have hw := r.wire_none s hc.1
    have hown : m.owner s = none := own_none st m r s (by intro d hd; rw [hc.2] at hd; simp at hd)
    have ⟨h1, h2⟩ := run_one (.stray s hw hown)
    exact ⟨_, h1, r, h2⟩
  case case19 =>  -- event
    have ⟨h1, h2⟩ := run_one (m := m) .event
    exact ⟨_, h1, r, h2⟩
  case case21 s c f hw _ hnone =>  -- deliver, no handler: unreachable, the sender of an answer under way is registered
    exact absurd (inv.wire_reg s c (.inr ⟨f, hw⟩)) (by simp [hnone])
  case case23 s c f hw hcl d hd s' r' wr' hpc =>  -- deliver to the registered caller
    have hmw := r.wire_ans s c f hw
    have hreg := inv.wire_reg s c (.inr ⟨f, hw⟩)
    obtain rfl : d = c := by rw [hreg] at hd; exact (Option.some.inj hd).symm
    have hopen : st.closed = none := by simpa using hcl
    have hmc : m.closed = false := by rw [r.closed, hopen]; rfl
    have hrp := inv.reg_pc s d hreg
    obtain ⟨rfl, rfl⟩ := hrp.2.2.2.1 s' r' wr' true hpc
    have hwr : wr' = true := by
      cases wr' with
      | true => rfl
      | false => have := (inv.flight_ok d s' true false true hpc).2.2.2.2 rfl; simp at this
    subst hwr
    have hm := r.pc_wait d s' true hpc
    have hrel : st.rel d ≠ .due := fun h => (inv.rel_ok d h).2.2.2.1 s' true true true hpc
    have hown : m.owner s' = some d := (r.own s' d).2 ⟨hreg, hrp.1 hopen, hrel⟩
    have ⟨h1, h2⟩ := run_one (.handOver s' d f.kind f.tag d hmw hmc hown hm)
    exact ⟨_, h1, .of r.cap (fun s d => by have := inv.reg_pc s d; upd_from r.own s d) (forall_update₂ r.wires s' rfl)
        (forall_update₂ r.pcs d rfl) r.sent r.closed, h2.trans (by simp [obs, Mux.obsOf, hmw, hown, hm, hw, hreg, hpc])⟩
  case case24 s c f hw hcl d hd o hpc =>  -- deliver, the caller gave up: the id is released
    have hmw := r.wire_ans s c f hw
    have hreg := inv.wire_reg s c (.inr ⟨f, hw⟩)
    obtain rfl : d = c := by rw [hreg] at hd; exact (Option.some.inj hd).symm
    have hopen : st.closed = none := by simpa using hcl
    have hmc : m.closed = false := by rw [r.closed, hopen]; rfl
    have hrp := inv.reg_pc s d hreg
    have hno : ∀ g, o ≠ .resp g := fun g h => hrp.2.2.2.2 g (by rw [hpc, h])
    have hmp := r.pc_done d o hpc hno
    have hnw : m.pc d ≠ .waiting s := by
      rcases hmp with h | ⟨o', h, _⟩ <;> simp [h]
    have hrel : st.rel d ≠ .due := fun h => by
      have := (inv.rel_ok d h).2.2.1 hopen
      rw [hrp.2.1] at this; rw [hreg] at this; simp at this
    have hown : m.owner s = some d := (r.own s d).2 ⟨hreg, hrp.1 hopen, hrel⟩
    have ⟨h1, h2⟩ := run_one (.handGone s d f.kind f.tag d hmw hmc hown hnw)
    exact ⟨_, h1, .of r.cap (fun s d => by have := inv.reg_pc s d; upd_from r.own s d) (forall_update₂ r.wires s rfl) r.pcs
      r.sent r.closed, h2.trans (by simp [obs, Mux.obsOf, hmw, hown, hnw, hw, hreg, hpc])⟩
  case case27 c s hpc =>  -- timeout
    have ⟨h1, h2⟩ := run_one (.timeout c s (r.pc_wait c s true hpc))
    exact ⟨_, h1, r.giveUp c _ _ (by simp) (by simp), h2⟩
  case case29 c s hpc =>  -- cancel
    have ⟨h1, h2⟩ := run_one (.cancel c s (r.pc_wait c s true hpc))
    exact ⟨_, h1, r.giveUp c _ _ (by simp) (by simp), h2⟩
  case case31 c f hpc _ =>  -- hbReact
    simp only [Cfg.code]
    by_cases h0 : f.kind = 0
    · simp only [tr, hpc, h0, true_or, if_true]
      exact ⟨m, rfl, { r with }, rfl⟩
    · by_cases h1 : f.kind = 1
      · simp only [tr, hpc, h1, or_true, if_true, if_false, Bool.false_eq_true]
        exact ⟨m, rfl, { r with }, rfl⟩
      · have ⟨h1', h2⟩ := run_one (m := m) .close
        simp only [tr, hpc, h0, h1, or_self, if_false]
        exact ⟨_, h1', { r.close with }, h2⟩
  case case34 =>  -- close
    have ⟨h1, h2⟩ := run_one (m := m) .close
    exact ⟨_, h1, r.close, h2⟩
  case case35 c s e hcl hpc | case37 c s e hcl hpc =>  -- connDone, connDoneCtx
    have ⟨h1, h2⟩ := run_one (.connDone c s (r.pc_wait c s true hpc) (by rw [r.closed, hcl]; rfl))
    exact ⟨_, h1, r.giveUp c _ _ (by simp) (by simp), h2⟩
  case case39 c s hpc =>  -- buildFailed
    have ⟨h1, h2⟩ := run_one (.buildFail c s (r.pc_acq c s false hpc))
    exact ⟨_, h1, r.earlyExit inv c s _ .buildErr hpc (by simp) (by simp), h2⟩
  case case41 c s hpc =>  -- writeCancelled
    have ⟨h1, h2⟩ := run_one (.writeCancelled c s (r.pc_acq c s false hpc))
    exact ⟨_, h1, r.earlyExit inv c s _ .ctxErr hpc (by simp) (by simp), h2⟩
  case case43 c hr =>  -- release
    have hk := inv.rel_ok c hr
    refine ⟨m, rfl, ?_, rfl⟩
    exact { r with
      own := fun s d => by have := inv.reg_pc s d; upd_from r.own s d }
  case case45 c _ =>  -- relDone
    simp only [Cfg.code, Bool.false_eq_true, false_and, ↓reduceIte]
    refine ⟨m, rfl, ?_, rfl⟩
    exact { r with
      own := fun s d => by upd_from r.own s d }

/-- the actions of Mux that match a whole history of MuxOwn -/
def trAll : St → List Act → List Mux.Act
  | _, [] => []
  | st, a :: as => match step Cfg.code st a with
    | some st' => tr st a ++ trAll st' as
    | none => []

/-- REFINEMENT: every run of MuxOwn (code configuration) is matched by the run `trAll` of Mux, which ends in a related
    state and shows the same observable events -/
theorem sim_run : ∀ (as : List Act) (st st' : St) (m : Mux.St), Inv st → R st m → run Cfg.code st as = some st' →
    ∃ m', Mux.run m (trAll st as) = some m' ∧ R st' m' ∧ Mux.trace m (trAll st as) = otrace Cfg.code st as
  | [], st, st', m, _, r, h => by
    simp [run] at h; subst h
    exact ⟨m, by simp [trAll, Mux.run], r, by simp [trAll, Mux.trace, otrace]⟩
  | a :: as, st, st', m, inv, r, h => by
    obtain ⟨s1, hs1, h⟩ := (isRun _).cons_iff.mp h
    obtain ⟨m1, hr1, r1, ht1⟩ := sim_step st s1 a m inv r hs1
    obtain ⟨m2, hr2, r2, ht2⟩ := sim_run as s1 st' m1 (inv_step st s1 a inv hs1) r1 h
    refine ⟨m2, ?_, r2, ?_⟩
    · simp only [trAll, hs1]; exact Mux.isRun.append_iff.mpr ⟨m1, hr1, hr2⟩
    · simp only [trAll, otrace, hs1]
      rw [Mux.trace_append _ _ m m1 hr1, ht1, ht2]

end MuxOwn
