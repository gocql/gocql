import Model.MuxRx
import Proofs.Bytes
/-!
# The receive loop never loses its place in the byte stream (lemmas)

`Model/MuxRx.lean`: `readFull` (io.ReadFull over the buffered socket), `connRead` (Conn.Read: five attempts,
count accumulated), `discard`, `readHeader`, `recvLoop`. Here: whatever way the server's bytes are cut
into writes and however many read deadlines expire while a HEADER is awaited, and as long as fewer than
five expire while any one BODY is awaited, the loop hands every frame — own header, own body — to the
call registered for its stream id. The proof follows the call chain: `readFull` (by its own induction) → `connRead` →
`discard` / `readBody`, each with the alternative "or it timed out, with a deadline set and five expiries before the k-th
byte".
-/
namespace Rx

@[simp] theorem bytes_nil : bytes [] = [] := rfl
@[simp] theorem bytes_some (b : UInt8) (r : Src) : bytes (some b :: r) = b :: bytes r := by simp [bytes]
@[simp] theorem bytes_none (r : Src) : bytes (none :: r) = bytes r := by simp [bytes]

theorem bytes_dropBytes (src : Src) (n : Nat) : bytes (dropBytes n src) = (bytes src).drop n := by
  fun_induction dropBytes n src <;> simp_all

theorem dropBytes_add (src : Src) (a b : Nat) : dropBytes (a + b) src = dropBytes b (dropBytes a src) := by
  fun_induction dropBytes a src with
  | case1 src => simp
  | case2 => cases b <;> simp [dropBytes]
  | case3 k _ r ih => rw [Nat.succ_add]; exact ih
  | case4 k r ih => rw [Nat.succ_add]; simp only [dropBytes]; rw [Nat.add_right_comm]; exact ih

theorem expiriesBefore_add (src : Src) (a b : Nat) :
    expiriesBefore (a + b) src = expiriesBefore a src + expiriesBefore b (dropBytes a src) := by
  fun_induction dropBytes a src with
  | case1 src => simp [expiriesBefore]
  | case2 => cases b <;> simp [expiriesBefore]
  | case3 k _ r ih => rw [Nat.succ_add]; exact ih
  | case4 k r ih => rw [Nat.succ_add]; simp only [expiriesBefore]; rw [Nat.add_right_comm, ih]; omega

/-! ### io.ReadFull -/

/-- without a deadline expiry points are waited through; with one, the read completes when there is no expiry
    point before the k-th byte -/
theorem readFull_clear (dl : Bool) (src : Src) (k : Nat) (h : k ≤ (bytes src).length)
    (he : dl = true → expiriesBefore k src = 0) : readFull dl src k = ((bytes src).take k, .ok, dropBytes k src) := by
  fun_induction readFull dl src k
  -- `case4`: the equation for `some b :: r`, `k + 1`, whose `let x := readFull dl r k` has to be opened
  case case4 b r k x ih => simp_all [x, dropBytes, expiriesBefore]
  all_goals simp_all [dropBytes, expiriesBefore]

/-- whatever happens, ReadFull returns a prefix of the stream, not more than asked for, all of it when it
    reports success, and leaves the socket exactly behind what it returned (or behind the expiry that
    ended it) -/
theorem readFull_prefix (dl : Bool) (src : Src) (k : Nat) :
    (readFull dl src k).1 ++ bytes (readFull dl src k).2.2 = bytes src ∧ (readFull dl src k).1.length ≤ k ∧
    ((readFull dl src k).2.1 = .ok → (readFull dl src k).1.length = k) := by
  fun_induction readFull dl src k
  case case4 b r k x ih => simp_all [x]
  all_goals simp_all

/-- with a deadline and an expiry point before the k-th byte: a timeout, with the bytes before that point -/
theorem readFull_dl_expiry (src : Src) (k : Nat) (h : k ≤ (bytes src).length) (he : 0 < expiriesBefore k src) :
    (readFull true src k).2.1 = .timeout ∧
    (bytes src).take k = (readFull true src k).1 ++ (bytes (readFull true src k).2.2).take (k - (readFull true src k).1.length) ∧
    dropBytes k src = dropBytes (k - (readFull true src k).1.length) (readFull true src k).2.2 ∧
    expiriesBefore k src = expiriesBefore (k - (readFull true src k).1.length) (readFull true src k).2.2 + 1 ∧
    k - (readFull true src k).1.length ≤ (bytes (readFull true src k).2.2).length := by
  fun_induction readFull true src k
  case case4 b r k x ih =>
    simp only [expiriesBefore] at he
    have ih := ih (by simpa using h) he
    simp only [x, bytes_some, List.take_succ_cons, List.length_cons, dropBytes, expiriesBefore, List.cons_append,
      Nat.succ_eq_add_one, Nat.add_sub_add_right] at ih ⊢
    exact ⟨ih.1, by rw [← ih.2.1], ih.2.2.1, ih.2.2.2.1, ih.2.2.2.2⟩
  all_goals simp_all [dropBytes, expiriesBefore]

/-! ### Conn.Read -/

/-- Conn.Read never returns anything but a prefix of the stream, and its count is the number of bytes it
    has put into p — over ALL attempts (this is what a caller relying on io.ReadFull(c, buf) needs) -/
theorem connRead_prefix (dl : Bool) : ∀ (a : Nat) (src : Src) (k : Nat),
    (connRead dl a src k).1 ++ bytes (connRead dl a src k).2.2 = bytes src ∧ (connRead dl a src k).1.length ≤ k ∧
    ((connRead dl a src k).2.1 = .ok → (connRead dl a src k).1.length = k)
  | 0, src, k => by simp [connRead]
  | a + 1, src, k => by
    have hx := readFull_prefix dl src k
    simp only [connRead]
    split
    · rename_i ht
      have ih := connRead_prefix dl a (readFull dl src k).2.2 (k - (readFull dl src k).1.length)
      refine ⟨?_, ?_, ?_⟩
      · simp only [List.append_assoc]; rw [ih.1]; exact hx.1
      · simp only [List.length_append]; have := ih.2.1; have := hx.2.1; omega
      · intro h; simp only [List.length_append]; have := ih.2.2 h; have := hx.2.1; omega
    · exact hx

/-- with a deadline and `a` attempts left, Conn.Read completes with exactly the next k bytes, or gives up on a
    read deadline; it gives up only when at least `a` deadlines expire before the k-th byte -/
theorem connRead_dl : ∀ (a : Nat) (src : Src) (k : Nat), k ≤ (bytes src).length →
    connRead true a src k = ((bytes src).take k, .ok, dropBytes k src) ∨
    ((connRead true a src k).2.1 = .timeout ∧ a ≤ expiriesBefore k src)
  | 0, _, _, _ => .inr (by simp [connRead])
  | a + 1, src, k, h => by
    by_cases h0 : expiriesBefore k src = 0
    · left; simp [connRead, readFull_clear true src k h fun _ => h0]
    · have hx := readFull_dl_expiry src k h (by omega)
      simp only [connRead, hx.1]
      rcases connRead_dl a _ _ hx.2.2.2.2 with ih | ih
      · left; rw [ih, ← hx.2.1, ← hx.2.2.1]
      · exact .inr ⟨ih.1, by have := hx.2.2.2.1; omega⟩

/-- Conn.Read with the five attempts of conn.go; without a deadline it never gives up -/
theorem connRead_cases (dl : Bool) (src : Src) (k : Nat) (h : k ≤ (bytes src).length) :
    connRead dl maxAttempts src k = ((bytes src).take k, .ok, dropBytes k src) ∨
    ((connRead dl maxAttempts src k).2.1 = .timeout ∧ dl = true ∧ maxAttempts ≤ expiriesBefore k src) := by
  cases dl with
  | false => exact .inl (by simp [connRead, maxAttempts, readFull_clear false src k h])
  | true => exact (connRead_dl _ src k h).imp_right fun ht => ⟨ht.1, rfl, ht.2⟩

/-! ### discardFrame -/

theorem discard_cases (dl : Bool) : ∀ (f : Nat) (src : Src) (n : Nat), n ≤ f → n ≤ (bytes src).length →
    discard dl f src n = (.ok, dropBytes n src) ∨
    ((discard dl f src n).1 = .timeout ∧ dl = true ∧ maxAttempts ≤ expiriesBefore n src)
  | 0, src, n, hf, _ => by
    have : n = 0 := by omega
    subst this; left; simp [discard, dropBytes]
  | f + 1, src, n, hf, h => by
    by_cases h0 : n = 0
    · subst h0; left; simp [discard, dropBytes]
    · have hk : min n discardChunk ≤ (bytes src).length := by omega
      have hsplit : n = min n discardChunk + (n - min n discardChunk) := by omega
      have hpos : 0 < min n discardChunk := by simp [discardChunk]; omega
      have he := expiriesBefore_add src (min n discardChunk) (n - min n discardChunk)
      rw [← hsplit] at he
      simp only [discard, h0, if_false]
      rcases connRead_cases dl src (min n discardChunk) hk with hc | hc
      · rw [hc]
        rcases discard_cases dl f (dropBytes (min n discardChunk) src) (n - min n discardChunk) (by omega)
          (by rw [bytes_dropBytes]; simp; omega) with ih | ih
        · left; rw [ih, ← dropBytes_add, ← hsplit]
        · exact .inr ⟨ih.1, ih.2.1, by have := ih.2.2; omega⟩
      · right; rw [hc.1]; exact ⟨rfl, hc.2.1, by have := hc.2.2; omega⟩

/-! ### readHeader inverts the header encoding of the protocol specification -/

theorem be16_u8 (l : Nat) : be16 (u8 (l / 256)) (u8 (l % 256)) = l % 65536 := by
  rw [u8, u8, BE.ofNat_mod]; exact BE.two_roundtrip l

theorem be32_u8 (l : Nat) :
    be32 (u8 (l / 16777216)) (u8 (l / 65536 % 256)) (u8 (l / 256 % 256)) (u8 (l % 256)) = l % 4294967296 := by
  simp only [u8, BE.ofNat_mod]; exact BE.four_roundtrip l

theorem s16_roundtrip (x : Int) (h : -32768 ≤ x ∧ x < 32768) : s16 ((x % 65536).toNat % 65536) = x := by
  rw [s16]
  split <;> omega

theorem s8_roundtrip (x : Int) (h : -128 ≤ x ∧ x < 128) : s8 (u8 (x % 256).toNat) = x := by
  simp only [s8, u8, BE.toNat_ofNat]
  split <;> omega

theorem s32_roundtrip (x : Int) (h : 0 ≤ x ∧ x ≤ 268435456) : s32 ((x % 4294967296).toNat % 4294967296) = x := by
  rw [s32]
  split <;> omega

theorem encodeHdr_length (proto : Nat) (h : Hdr) : (encodeHdr proto h).length = hdrLen proto := by
  simp only [encodeHdr, hdrLen]; split <;> simp

theorem readHeader_encode (proto : Nat) (hp1 : 1 ≤ proto) (hp5 : proto ≤ 5) (h : Hdr)
    (hv : h.version.toNat % 128 = proto)
    (hs : -1 ≤ h.stream ∧ h.stream < numStreams proto) (hl : 0 ≤ h.length ∧ h.length ≤ maxFrameSize)
    (src : Src) (rest : List UInt8) (hb : bytes src = encodeHdr proto h ++ rest) :
    readHeader src = .hdr h (dropBytes (hdrLen proto) src) := by
  have hver : ¬ (h.version.toNat % 128 < 1 ∨ h.version.toNat % 128 > 5) := by omega
  obtain ⟨version, flags, stream, op, length⟩ := h
  simp only [numStreams] at hv hs hl hver
  have h32 := s32_roundtrip length (by simp [maxFrameSize] at hl; omega)
  have hd : ∀ k, dropBytes k (dropBytes 1 src) = dropBytes (1 + k) src := fun k => (dropBytes_add src 1 k).symm
  have h2 := fun hk => readFull_clear false (dropBytes 1 src) (hdrLen proto - 1) hk nofun
  rw [bytes_dropBytes, hb] at h2
  -- the two header layouts (1-byte stream id before v3, 2-byte from v3 on) go through the same steps
  by_cases hlt : proto < 3 <;>
  · have hlt' : (version.toNat % 128 < 3) = (proto < 3) := by rw [hv]
    simp only [hdrLen, encodeHdr, hlt, if_true, if_false, List.cons_append, List.nil_append] at hb h2 ⊢
    have h1 := readFull_clear false src 1 (by rw [hb]; simp) nofun
    simp only [readHeader, h1, hb, List.take_succ_cons, List.take_zero, hver, if_false, hlt', hlt, if_true, h2 (by simp),
      List.drop_succ_cons, List.drop_zero, hd, be16_u8, be32_u8]
    -- the stream id read back: one byte (its range makes `s8_roundtrip` apply) or two
    first
      | (have := s8_roundtrip stream (by omega); simp_all)
      | (have := s16_roundtrip stream (by omega); simp_all)

theorem readHeader_empty (src : Src) (h : bytes src = []) : readHeader src = .eof := by
  have := (readFull_prefix false src 1).1
  rw [h] at this
  simp only [readHeader]
  split
  · rename_i v hx he; rw [hx] at this; simp at this
  · rfl

theorem encode_length (proto : Nat) (f : Frame) : (encode proto f).length = hdrLen proto + f.body.length := by
  simp [encode, encodeHdr_length]

/-- enough fuel for `recv`: every frame has at least 8 bytes -/
theorem frames_le_bytes (proto : Nat) (fs : List Frame) (src : Src) (hb : bytes src = encodeAll proto fs) :
    fs.length < src.length + 1 := by
  have hlen : ∀ (gs : List Frame), gs.length ≤ (encodeAll proto gs).length := by
    intro gs
    induction gs with
    | nil => simp [encodeAll]
    | cons g gs ih =>
      simp only [encodeAll, List.flatMap_cons, List.length_append, List.length_cons] at ih ⊢
      have := encode_length proto g
      have : 8 ≤ hdrLen proto := by simp [hdrLen]; split <;> omega
      omega
  have := hlen fs
  have : (bytes src).length ≤ src.length := List.length_filterMap_le _ _
  rw [hb] at this
  omega

theorem readBody_cases (dl : Bool) (src : Src) (f : Frame) (rest : List UInt8) (proto : Nat) (hwf : f.wf proto)
    (hb : bytes src = f.body ++ rest) :
    readBody dl src f.h = (.ok, f.body, .ok, dropBytes f.body.length src) ∨
    ((readBody dl src f.h).1 = .gaveUp ∧ (readBody dl src f.h).2.2.1 = .timeout ∧
      dl = true ∧ maxAttempts ≤ expiriesBefore f.body.length src) := by
  obtain ⟨_, hfl, _, hlen, _⟩ := hwf
  have hn : ¬ f.h.length < 0 := by omega
  have ht : f.h.length.toNat = f.body.length := by omega
  have hfl' : ¬ f.h.flags.toNat % 2 = 1 := by omega
  simp only [readBody, hn, if_false, ht]
  rcases connRead_cases dl src f.body.length (by rw [hb]; simp) with hcr | hcr
  · left; simp only [hcr, hfl', hb, List.take_left', if_false]
  · right; rw [hcr.1]; exact ⟨rfl, rfl, hcr.2⟩

/-- what the loop may return for well-formed frames `fs`: everything dispatched; or — only with a read deadline
and a frame body awaited through five expiries of it — the dispatch of the frames before the one whose body read
gave up, one record for the frame the loop ended in (its own header, nothing of it handed to anyone) and the
time-out status, with which Conn.serve closes the connection -/
def SyncOut (proto : Nat) (dl : Bool) (cs : Calls) (fs : List Frame) (src : Src) (o : Out) : Prop :=
  o = ⟨dispatch cs fs, .eof⟩ ∨
  (dl = true ∧ ¬ Calm proto fs src) ∧
    ∃ n f d r, fs[n]? = some f ∧ r ≠ .ok ∧ o = ⟨(dispatch cs fs).take n ++ [⟨d, r, f.h, []⟩], .tmo⟩

theorem syncOut_stop {proto : Nat} {dl : Bool} {src : Src} (cs : Calls) (f : Frame) (fs : List Frame) (d : Disp)
    (r : BodyRes) (hs : dl = true ∧ maxAttempts ≤ expiriesBefore f.body.length (dropBytes (hdrLen proto) src))
    (hr : r ≠ .ok) : SyncOut proto dl cs (f :: fs) src ⟨[⟨d, r, f.h, []⟩], .tmo⟩ :=
  .inr ⟨⟨hs.1, fun c => by have := c.1; omega⟩, 0, f, d, r, rfl, hr, by simp⟩

theorem syncOut_cons {proto : Nat} {dl : Bool} {src : Src} (cs cs' : Calls) (f : Frame) (fs : List Frame) (r0 : Rec)
    (o : Out) (hd : dispatch cs (f :: fs) = r0 :: dispatch cs' fs)
    (ho : SyncOut proto dl cs' fs (dropBytes f.body.length (dropBytes (hdrLen proto) src)) o) :
    SyncOut proto dl cs (f :: fs) src ⟨r0 :: o.recs, o.status⟩ := by
  rcases ho with ho | ⟨hs, n, g, d, r, hg, hr, ho⟩
  · left; rw [ho, hd]
  · refine .inr ⟨⟨hs.1, fun c => hs.2 c.2⟩, n + 1, g, d, r, by simpa using hg, hr, ?_⟩
    rw [ho, hd]; simp

theorem recvLoop_sync (proto : Nat) (hp1 : 1 ≤ proto) (hp5 : proto ≤ 5) (dl : Bool) :
    ∀ (fs : List Frame) (fuel : Nat) (cs : Calls) (src : Src), fs.length < fuel →
    (∀ f ∈ fs, f.wf proto) → bytes src = encodeAll proto fs →
    SyncOut proto dl cs fs src (recvLoop proto dl fuel cs src)
  | [], fuel, cs, src, hf, _, hb => by
    obtain ⟨f, rfl⟩ : ∃ f, fuel = f + 1 := ⟨fuel - 1, by simp at hf; omega⟩
    have : readHeader src = .eof := readHeader_empty src (by simpa [encodeAll] using hb)
    left; simp [recvLoop, this, dispatch]
  | f :: fs, fuel, cs, src, hf, hwf, hb => by
    obtain ⟨fuel, rfl⟩ : ∃ g, fuel = g + 1 := ⟨fuel - 1, by simp at hf; omega⟩
    have hw := hwf f (by simp)
    have ⟨hv, hfl, hst, hlen, hmax⟩ := hw
    have hb' : bytes src = encodeHdr proto f.h ++ (f.body ++ encodeAll proto fs) := by
      simpa [encodeAll, encode, List.append_assoc] using hb
    have hsr : -1 ≤ f.h.stream ∧ f.h.stream < numStreams proto := by
      rcases hst with h | h
      · rw [h]; simp [numStreams]; split <;> omega
      · omega
    have hh := readHeader_encode proto hp1 hp5 f.h hv hsr (by omega) src _ hb'
    have hs1 : bytes (dropBytes (hdrLen proto) src) = f.body ++ encodeAll proto fs := by
      rw [bytes_dropBytes, hb', ← encodeHdr_length proto f.h, List.drop_left]
    have hs2 : bytes (dropBytes f.body.length (dropBytes (hdrLen proto) src)) = encodeAll proto fs := by
      rw [bytes_dropBytes, hs1, List.drop_left]
    have ih := fun cs' => recvLoop_sync proto hp1 hp5 dl fs fuel cs' _ (by simp at hf; omega)
      (fun g hg => hwf g (by simp [hg])) hs2
    have hnb : ¬ f.h.stream > numStreams proto := by omega
    have hnbig : ¬ f.h.length > maxFrameSize := by omega
    have hrbc := readBody_cases dl (dropBytes (hdrLen proto) src) f _ proto hw hs1
    by_cases hev : f.h.stream = -1
    · have hns : (-1 : Int) ≤ numStreams proto := by simp only [numStreams]; split <;> omega
      have hns' : ¬ numStreams proto < -1 := by omega
      rcases hrbc with hrb | ⟨hg, ht, hs⟩
      · have := syncOut_cons cs cs f fs ⟨.event, .ok, f.h, []⟩ _ (by simp [dispatch, hev]) (ih cs)
        simpa [recvLoop, hh, hnbig, hev, hrb, hns, hns'] using this
      · have := syncOut_stop cs f fs .event .gaveUp hs (by decide)
        simpa [recvLoop, hh, hnbig, hev, hns, hns', hg, ht, errStatus] using this
    · have hpos : 1 ≤ f.h.stream := by rcases hst with h | h <;> omega
      have hle : ¬ f.h.stream ≤ 0 := by omega
      cases hfind : cs.find f.h.stream with
      | none =>
        have hk : f.body.length ≤ (bytes (dropBytes (hdrLen proto) src)).length := by rw [hs1]; simp
        have hn : ¬ f.h.length < 0 := by omega
        have ht : f.h.length.toNat = f.body.length := by omega
        rcases discard_cases dl (f.body.length + 1) (dropBytes (hdrLen proto) src) f.body.length (by omega) hk
          with hdis | ⟨hdis, hs⟩
        · have := syncOut_cons cs cs f fs ⟨.discard, .ok, f.h, []⟩ _ (by simp [dispatch, hev, hfind]) (ih cs)
          simpa [recvLoop, hh, hnb, hnbig, hle, hev, hfind, hn, ht, hdis] using this
        · have := syncOut_stop cs f fs .discard .gaveUp hs (by decide)
          simpa [recvLoop, hh, hnb, hnbig, hle, hev, hfind, hn, ht, hdis, errStatus] using this
      | some w =>
        rcases hrbc with hrb | ⟨hg, ht, hs⟩
        · have := syncOut_cons cs (cs.erase f.h.stream) f fs ⟨if w then .call else .gone, .ok, f.h, f.body⟩ _
            (by cases w <;> simp [dispatch, hev, hfind]) (ih _)
          simpa [recvLoop, hh, hnb, hnbig, hle, hev, hfind, hrb] using this
        · have := syncOut_stop cs f fs (if w then .call else .gone) .lost hs (by decide)
          simpa [recvLoop, hh, hnb, hnbig, hle, hev, hfind, hg, ht] using this

end Rx
