import Gen.Frame
import Model.FrameWrite
import Proofs.GenTieBits
/-!
  Tie theorems between the primitive writers REGENERATED from /repo/frame.go by tools/go2lean (`Gen.Frame`) and the
  hand-written request model the C03 theorems are about (`FrameWrite`).
-/
namespace GenTie.Frame
open FrameWrite GenTie.Bits

theorem low_byte_sshift {w : Nat} (n : BitVec w) (k : Nat) (h : k + 8 ≤ w) :
    (BitVec.sshiftRight n k).setWidth 8 = (n >>> k).setWidth 8 := byte_sshift n k h

theorem low_byte {w : Nat} (n : BitVec w) (k : Nat) :
    UInt8.ofBitVec ((n >>> k).setWidth 8) = byteOf (n.toNat / 2^k) := by
  rw [byte_ushift, Nat.shiftRight_eq_div_pow]; rfl

theorem low_byte0 {w : Nat} (n : BitVec w) : UInt8.ofBitVec (n.setWidth 8) = byteOf n.toNat :=
  byte_ushift n 0

theorem appendShort (p : List (BitVec 8)) (n : Nat) (h : n < 65536) :
    (Gen.Frame.appendShort p (BitVec.ofNat 16 n)).map UInt8.ofBitVec = p.map UInt8.ofBitVec ++ wShort n := by
  have e : (BitVec.ofNat 16 n).toNat = n := Nat.mod_eq_of_lt h
  simp only [Gen.Frame.appendShort, wShort, List.map_append, List.map_cons, List.map_nil, low_byte, e]
  simp only [low_byte0, e]

theorem appendUint (p : List (BitVec 8)) (n : Nat) (h : n < 4294967296) :
    (Gen.Frame.appendUint p (BitVec.ofNat 32 n)).map UInt8.ofBitVec = p.map UInt8.ofBitVec ++ wUInt n := by
  have e : (BitVec.ofNat 32 n).toNat = n := Nat.mod_eq_of_lt h
  simp only [Gen.Frame.appendUint, wUInt, List.map_append, List.map_cons, List.map_nil, low_byte, e]
  simp only [low_byte0, e]

/-- `appendInt(p, n)`: the model's `wInt z` for every int32 -/
theorem appendInt (p : List (BitVec 8)) (z : Int) :
    (Gen.Frame.appendInt p (BitVec.ofInt 32 z)).map UInt8.ofBitVec = p.map UInt8.ofBitVec ++ wInt z := by
  have e := toNat_ofInt32 z
  simp only [Gen.Frame.appendInt, wInt, wUInt, List.map_append, List.map_cons, List.map_nil,
    low_byte_sshift (w := 32) _ 24 (by decide), low_byte_sshift (w := 32) _ 16 (by decide), low_byte_sshift (w := 32) _ 8 (by decide),
    low_byte, e]
  simp only [low_byte0, e]

/-- `appendLong(p, n)`: the model's `wLong z` for every int64 -/
theorem appendLong (p : List (BitVec 8)) (z : Int) :
    (Gen.Frame.appendLong p (BitVec.ofInt 64 z)).map UInt8.ofBitVec = p.map UInt8.ofBitVec ++ wLong z := by
  have e := toNat_ofInt64 z
  simp only [Gen.Frame.appendLong, wLong, wUInt, List.map_append, List.map_cons, List.map_nil,
    low_byte_sshift (w := 64) _ 56 (by decide), low_byte_sshift (w := 64) _ 48 (by decide),
    low_byte_sshift (w := 64) _ 40 (by decide), low_byte_sshift (w := 64) _ 32 (by decide),
    low_byte_sshift (w := 64) _ 24 (by decide), low_byte_sshift (w := 64) _ 16 (by decide),
    low_byte_sshift (w := 64) _ 8 (by decide), low_byte, e]
  simp only [low_byte0, e]
  generalize (z % 18446744073709551616).toNat = n
  simp [Nat.div_div_eq_div_mul]

/-- `protoVersion.request/response/version`: direction bit and version mask -/
theorem proto_version (p : BitVec 8) :
    Gen.Frame.protoVersion_request p = !(p.getLsbD 7) ∧ Gen.Frame.protoVersion_response p = p.getLsbD 7 ∧
    (Gen.Frame.protoVersion_version p).toNat = p.toNat % 128 :=
  ⟨bit_clear p 7 (by decide), bit_set p 7 (by decide),
    (BitVec.toNat_and _ _).trans (Nat.and_two_pow_sub_one_eq_mod _ 7)⟩

theorem byteOf_congr {a b : Nat} (h : a % 256 = b % 256) : byteOf a = byteOf b := BE.ofNat_congr h

/-- `writeHeader` followed by `setLength`: the model's header, for both stream widths -/
theorem header (buf0 : List (BitVec 8)) (p fl op : BitVec 8) (stream : Int) (len : Nat) (hl : len < 2^63) :
    (Gen.Frame.setLength p (Gen.Frame.writeHeader buf0 p fl op (BitVec.ofInt 64 stream)) (BitVec.ofNat 64 len)).map UInt8.ofBitVec
      = wHeader p.toNat fl.toNat stream op.toNat len := by
  have e := toNat_ofInt64 stream
  have hb : ∀ x : BitVec 8, UInt8.ofBitVec x = byteOf x.toNat := fun x => by
    have := low_byte0 x; rwa [BitVec.setWidth_eq] at this
  have hs8 : UInt8.ofBitVec ((BitVec.sshiftRight (BitVec.ofInt 64 stream) 8).setWidth 8) = byteOf (stream / 256 % 256).toNat := by
    rw [low_byte_sshift _ 8 (by decide), low_byte, e]; apply byteOf_congr; omega
  have hs0 : UInt8.ofBitVec ((BitVec.ofInt 64 stream).setWidth 8) = byteOf (stream % 256).toNat := by
    rw [low_byte0, e]; apply byteOf_congr; omega
  have hlen : ∀ k, k + 8 ≤ 64 →
      UInt8.ofBitVec ((BitVec.sshiftRight (BitVec.ofNat 64 len) k).setWidth 8) = byteOf (len / 2 ^ k) := fun k hk => by
    rw [low_byte_sshift _ k hk, low_byte, toNat_int (by omega)]
  have hl0 : byteOf (len % 256) = byteOf len := byteOf_congr (Nat.mod_mod _ _)
  unfold Gen.Frame.setLength Gen.Frame.writeHeader wHeader
  rw [ult_two]
  by_cases hv : p.toNat > 2 <;> simp [hv, hlen, hl0, hs8, hs0, hb, wUInt]

/-! ### The framer's primitive writers (methods with the pointer receiver `f *framer`, translated as functions from
  the receiver field `f.buf` they read to the field they assign): each appends the model's bytes to the buffer -/

theorem wShort_mod (n : Nat) : wShort (n % 65536) = wShort n :=
  (BE.beBytes_two _).symm.trans ((BE.beBytes_congr (k := 2) (Nat.mod_mod n 65536)).trans (BE.beBytes_two n))

theorem map_ofBitVec_toBitVec (s : List UInt8) : (s.map (·.toBitVec)).map UInt8.ofBitVec = s := map_back s

/-- `appendShort` for every uint16 -/
theorem appendShort16 (p : List (BitVec 8)) (v : BitVec 16) :
    (Gen.Frame.appendShort p v).map UInt8.ofBitVec = p.map UInt8.ofBitVec ++ wShort v.toNat := by
  have := appendShort p v.toNat v.isLt
  simpa using this

theorem writeByte (buf : List (BitVec 8)) (b : BitVec 8) :
    (Gen.Frame.framer_writeByte buf b).map UInt8.ofBitVec = buf.map UInt8.ofBitVec ++ [UInt8.ofBitVec b] := by
  simp [Gen.Frame.framer_writeByte]

theorem writeShort (buf : List (BitVec 8)) (v : BitVec 16) :
    (Gen.Frame.framer_writeShort buf v).map UInt8.ofBitVec = buf.map UInt8.ofBitVec ++ wShort v.toNat :=
  appendShort16 buf v

theorem writeConsistency (buf : List (BitVec 8)) (v : BitVec 16) :
    (Gen.Frame.framer_writeConsistency buf v).map UInt8.ofBitVec = buf.map UInt8.ofBitVec ++ wShort v.toNat :=
  appendShort16 buf v

theorem writeInt (buf : List (BitVec 8)) (z : Int) :
    (Gen.Frame.framer_writeInt buf (BitVec.ofInt 32 z)).map UInt8.ofBitVec = buf.map UInt8.ofBitVec ++ wInt z :=
  appendInt buf z

theorem writeUint (buf : List (BitVec 8)) (n : Nat) (h : n < 4294967296) :
    (Gen.Frame.framer_writeUint buf (BitVec.ofNat 32 n)).map UInt8.ofBitVec = buf.map UInt8.ofBitVec ++ wUInt n :=
  appendUint buf n h

theorem writeLong (buf : List (BitVec 8)) (z : Int) :
    (Gen.Frame.framer_writeLong buf (BitVec.ofInt 64 z)).map UInt8.ofBitVec = buf.map UInt8.ofBitVec ++ wLong z :=
  appendLong buf z

theorem writeUnset (buf : List (BitVec 8)) :
    (Gen.Frame.framer_writeUnset buf).map UInt8.ofBitVec = buf.map UInt8.ofBitVec ++ wInt (-2) := by
  have e : (0xfffffffe#32 : BitVec 32) = BitVec.ofInt 32 (-2) := by decide
  unfold Gen.Frame.framer_writeUnset
  simp only [e, writeInt]

theorem len16 (n : Nat) : ((BitVec.ofNat 64 n).setWidth 16).toNat = n % 65536 := by
  simp

theorem len32 (n : Nat) : (BitVec.ofNat 64 n).setWidth 32 = BitVec.ofInt 32 (n : Int) := by
  apply BitVec.eq_of_toNat_eq
  simp

/-- `writeString(s)`: `uint16(len(s))` (truncating) then all the bytes -/
theorem writeString (buf : List (BitVec 8)) (s : List UInt8) :
    (Gen.Frame.framer_writeString buf (s.map (·.toBitVec))).map UInt8.ofBitVec = buf.map UInt8.ofBitVec ++ wString s := by
  unfold Gen.Frame.framer_writeString wString
  simp only [List.map_append, writeShort, List.length_map, len16, wShort_mod, map_ofBitVec_toBitVec, List.append_assoc]

theorem writeShortBytes (buf : List (BitVec 8)) (s : List UInt8) :
    (Gen.Frame.framer_writeShortBytes buf (s.map (·.toBitVec))).map UInt8.ofBitVec = buf.map UInt8.ofBitVec ++ wString s := by
  unfold Gen.Frame.framer_writeShortBytes wString
  simp only [List.map_append, writeShort, List.length_map, len16, wShort_mod, map_ofBitVec_toBitVec, List.append_assoc]

theorem writeLongString (buf : List (BitVec 8)) (s : List UInt8) :
    (Gen.Frame.framer_writeLongString buf (s.map (·.toBitVec))).map UInt8.ofBitVec = buf.map UInt8.ofBitVec ++ wLongString s := by
  unfold Gen.Frame.framer_writeLongString wLongString
  simp only [List.map_append, List.length_map, len32, writeInt, map_ofBitVec_toBitVec, List.append_assoc]

/-- the two arms of `writeBytes` (`p == nil` is not translated: a nil slice and an empty one are the same list) -/
theorem writeBytes_nil (buf : List (BitVec 8)) :
    (Gen.Frame.writeBytesNil buf).map UInt8.ofBitVec = buf.map UInt8.ofBitVec ++ wBytes none := by
  have e : (0xffffffff#32 : BitVec 32) = BitVec.ofInt 32 (-1) := by decide
  unfold Gen.Frame.writeBytesNil wBytes
  simp only [e, writeInt]

theorem writeBytes_some (buf : List (BitVec 8)) (p : List UInt8) :
    (Gen.Frame.writeBytesSome buf (p.map (·.toBitVec))).map UInt8.ofBitVec = buf.map UInt8.ofBitVec ++ wBytes (some p) := by
  unfold Gen.Frame.writeBytesSome wBytes
  simp only [List.map_append, List.length_map, len32, writeInt, map_ofBitVec_toBitVec, List.append_assoc]

end GenTie.Frame
