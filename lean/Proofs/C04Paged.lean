/- A whole query over its pages (Model/RowsPaged.lean). The specification's side: the iterator each kind of answer must give
   (`qOf`, `qErr`, `qEmpty`), a well-formed page (`PageOk`) and its calls (`pageCalls`).
   What executeQuery makes of one response (`step1_*`); `Delivers`: a loop over the pages delivers some rows and then goes on as
   from another state, whatever follows — inside a page from the recorder loop (`pdrain_of_scanRows`, `pdrainS_of_scanRows`),
   across pages by one induction for any such loop (`pages_deliver`), of which Scan and the Scanner are the two instances. -/
import Proofs.C04Wire
import Proofs.C04Rows
import Proofs.C04Meta
import Model.RowsPaged
namespace C04
open FrameRead RespSpec Rows Paged

/-- `Paged.recv v` unfolds to C04Wire's `recvParse` on a connection without compressor -/
theorem recv_wf (v : Nat) (r : LResp) (hw : wf v r = true) (hlen : (encodeBody v r).length ≤ Compress.maxFrameSize) :
    Paged.recv v (encodeFrame v r) = .ok (view v r, restOf r) :=
  recvParse_plain none v r hw hlen

theorem morePages_flag (m : Meta) : hasFlag (viewMeta m).flags flagHasMorePages = m.paging.isSome :=
  (hasFlag_flagBits m).1

/-- what the application must see of a response (everything but the rows themselves) -/
def hdrSpec (r : LResp) : PageHdr := { traceId := r.tracing, warnings := r.warnings, payload := r.payload }

/-- the Iter a page of rows must give -/
def qOf (r : LResp) (m : Meta) (rs : List (List Cell)) : QIter :=
  { it := iterOf (viewMeta m) rs.length (eRows rs), err := none, hdr := some (hdrSpec r), more := m.paging.isSome }

/-- the Iter an ERROR response must give: `iter.err` is the error with the code, message and fields the server sent -/
def qErr (r : LResp) (msg : FrameRead.Bytes) (e : ErrBody) : QIter :=
  { it := failedIter [], err := some (.server e.code msg (viewErr e)), hdr := some (hdrSpec r), more := false }

/-- the Iter of a result without rows (void, set keyspace, schema change) -/
def qEmpty (r : LResp) : QIter :=
  { it := iterOf ResultMeta.zero 0 [], err := none, hdr := some (hdrSpec r), more := false }

theorem step1_rows (v : Nat) (r : LResp) (m : Meta) (rs : List (List Cell)) (hw : wf v r = true)
    (hlen : (encodeBody v r).length ≤ Compress.maxFrameSize) (hb : r.body = .result (.rows m rs)) :
    step1 v true (encodeFrame v r) = .iter (qOf r m rs) := by
  simp only [step1, recv_wf v r hw hlen, dispatch, view, hb, viewBody, restOf, restOfBody, morePages_flag, Bool.and_true]
  rfl

theorem step1_error (v : Nat) (ap : Bool) (r : LResp) (msg : FrameRead.Bytes) (e : ErrBody) (hw : wf v r = true)
    (hlen : (encodeBody v r).length ≤ Compress.maxFrameSize) (hb : r.body = .error msg e) (hu : ∀ id, e ≠ .unprepared id) :
    step1 v ap (encodeFrame v r) = .iter (qErr r msg e) := by
  simp only [step1, recv_wf v r hw hlen, dispatch, view, hb, viewBody, restOf, restOfBody]
  cases e <;> first | rfl | (exact absurd rfl (hu _))

theorem step1_empty (v : Nat) (ap : Bool) (r : LResp) (hw : wf v r = true)
    (hlen : (encodeBody v r).length ≤ Compress.maxFrameSize)
    (hb : r.body = .result .void ∨ (∃ ks, r.body = .result (.setKeyspace ks)) ∨ (∃ sc, r.body = .result (.schemaChange sc))) :
    step1 v ap (encodeFrame v r) = .iter (qEmpty r) := by
  simp only [step1, recv_wf v r hw hlen, view, restOf]
  rcases hb with hb | ⟨ks, hb⟩ | ⟨sc, hb⟩
  · simp only [hb, viewBody, restOfBody, dispatch]; rfl
  · simp only [hb, viewBody, restOfBody, dispatch]; rfl
  · simp only [hb, viewBody, restOfBody]
    cases sc <;> rfl

theorem needFetch_of_scan_row {q : QIter} {dests : List Bool} {it' : Iter} {calls : List Call}
    (h : scan q.it dests = .row it' calls) : needFetch q = false := by
  simp [needFetch, Int.not_le.mpr (scan_row h).2.1]

theorem pscan_of_scan_row (v : Nat) (ap : Bool) (dests : List Bool) (fut : List FrameRead.Bytes) (q : QIter) (it' : Iter)
    (calls : List Call) (h : scan q.it dests = .row it' calls) :
    pscan v ap dests fut q = .row { q with it := it' } fut calls := by
  cases fut <;> simp [pscan, needFetch_of_scan_row h, scanHere, h]

def atEnd (q : QIter) : QIter := { q with it := { q.it with pos := q.it.numRows, buf := [] } }

/-- what a loop over the pages yields: the calls of the rows it delivered, its state and the answers left; `none`: out of
    fuel, or a panic -/
abbrev Yield (σ : Type) := Option (List (List Call) × σ × List FrameRead.Bytes)

/-- the rows `a` in front of what a loop yields -/
def pre {σ : Type} (a : List (List Call)) :
    Yield σ → Yield σ
  | some (cs, s, f) => some (a ++ cs, s, f)
  | none => none

theorem pre_nil {σ : Type} (x : Yield σ) : pre [] x = x := by
  rcases x with _ | ⟨cs, s, f⟩ <;> rfl

theorem pre_pre {σ : Type} (a b : List (List Call)) (x : Yield σ) :
    pre a (pre b x) = pre (a ++ b) x := by
  rcases x with _ | ⟨cs, s, f⟩ <;> simp [pre]

/-- the loop `drain` delivers the rows `a` from `(s, fut)` and then goes on as from `(s', fut')`, whatever follows -/
def Delivers {σ : Type} (drain : Nat → List FrameRead.Bytes → σ → Yield σ)
    (s : σ) (fut : List FrameRead.Bytes) (a : List (List Call)) (s' : σ) (fut' : List FrameRead.Bytes) : Prop :=
  ∀ k, drain (a.length + (k + 1)) fut s = pre a (drain (k + 1) fut' s')

theorem Delivers.trans {σ : Type} {drain : Nat → List FrameRead.Bytes → σ → Yield σ}
    {s s1 s2 : σ} {f f1 f2 : List FrameRead.Bytes} {a b : List (List Call)}
    (h1 : Delivers drain s f a s1 f1) (h2 : Delivers drain s1 f1 b s2 f2) : Delivers drain s f (a ++ b) s2 f2 := fun k => by
  rw [List.length_append, Nat.add_assoc, ← Nat.add_assoc b.length, h1, Nat.add_assoc, h2, pre_pre]

/-- the rows Iter.Scan delivers inside the current page are delivered by the loop over the pages, which then goes on from
    the iterator they leave -/
theorem pdrain_of_scanRows (v : Nat) (dests : List Bool) (k : Nat) (fut : List FrameRead.Bytes) :
    ∀ (n : Nat) (q : QIter) (it' : Iter) (callss : List (List Call)), scanRows dests n q.it = some (callss, it') →
    pdrain v dests (n + k) fut q = pre callss (pdrain v dests k fut { q with it := it' })
  | 0, q, it', callss, h => by
    obtain ⟨rfl, rfl⟩ := scanRows_zero h
    rw [Nat.zero_add, pre_nil]
  | n + 1, q, it', callss, h => by
    obtain ⟨it1, calls, cs1, hsc, hr, rfl⟩ := scanRows_succ h
    rw [show n + 1 + k = (n + k) + 1 by omega, pdrain, pscan_of_scan_row v true dests fut q _ _ hsc]
    simp only [pdrain_of_scanRows v dests k fut n { q with it := it1 } it' cs1 hr]
    rcases pdrain v dests k fut { q with it := it' } with _ | ⟨cs, q', f⟩ <;> rfl

theorem needFetch_atEnd (q : QIter) (hf : q.it.failed = false) : needFetch (atEnd q) = q.more := by
  simp [needFetch, atEnd, hf]

/-- at the end of a page that announces more the next Scan goes on in the iterator of the NEXT response -/
theorem pscan_switch (v : Nat) (dests : List Bool) (q : QIter) (hf : q.it.failed = false) (hm : q.more = true)
    (w : FrameRead.Bytes) (ws : List FrameRead.Bytes) (q' : QIter) (hs : step1 v true w = .iter q') :
    pscan v true dests (w :: ws) (atEnd q) = pscan v true dests ws q' := by
  simp [pscan, needFetch_atEnd q hf, hm, hs]

theorem pdrain_switch (v : Nat) (dests : List Bool) (q : QIter) (hf : q.it.failed = false) (hm : q.more = true)
    (w : FrameRead.Bytes) (ws : List FrameRead.Bytes) (q' : QIter) (hs : step1 v true w = .iter q') (k : Nat) :
    pdrain v dests (k + 1) (w :: ws) (atEnd q) = pdrain v dests (k + 1) ws q' := by
  simp only [pdrain, pscan_switch v dests q hf hm w ws q' hs]

/-- Scan returns false at once — no page to fetch, nothing scanned, no new error — and the loop ends where it stands -/
theorem pdrain_stop (v : Nat) (dests : List Bool) {q : QIter} (h1 : needFetch q = false)
    (h2 : scan q.it dests = .stop q.it []) (h3 : q.it.failed = true → q.err.isNone = false)
    (fut : List FrameRead.Bytes) (k : Nat) : pdrain v dests (k + 1) fut q = some ([], q, fut) := by
  have he : (if (q.it.failed && q.err.isNone) = true then some IterErr.scan else q.err) = q.err := by
    cases hf : q.it.failed <;> simp [h3, hf]
  cases fut <;> simp only [pdrain, pscan, h1, scanHere, h2, he, Bool.false_eq_true, if_false]

/-- at the end of a page that does not announce more: `false`, no error, nothing written -/
theorem pdrain_last (v : Nat) (dests : List Bool) (q : QIter) (hf : q.it.failed = false) (hm : q.more = false)
    (fut : List FrameRead.Bytes) (k : Nat) :
    pdrain v dests (k + 1) fut (atEnd q) = some ([], atEnd q, fut) :=
  pdrain_stop v dests (by rw [needFetch_atEnd q hf, hm]) (scan_end (atEnd q).it dests hf rfl) (fun h => by simp [atEnd, hf] at h) fut k

/-- an ERROR response: Scan returns false at once, `iter.err` stays the server's error -/
theorem pdrain_error (v : Nat) (dests : List Bool) (r : LResp) (msg : FrameRead.Bytes) (e : ErrBody)
    (fut : List FrameRead.Bytes) (k : Nat) :
    pdrain v dests (k + 1) fut (qErr r msg e) = some ([], qErr r msg e, fut) :=
  pdrain_stop v dests (by simp [needFetch, qErr, failedIter]) (by simp [scan, qErr, failedIter]) (fun _ => rfl) fut k

/-- one RESULT/Rows response of a query: the response, its metadata, its rows -/
structure RowsPage where
  r : LResp
  m : Meta
  rs : List (List Cell)

/-- a well-formed page for protocol version `v` whose rows fill `W` destinations: the response is well-formed and
    fits a frame, it carries its column specifications, every row has one cell per column and every cell fits -/
def PageOk (v W : Nat) (p : RowsPage) : Prop :=
  wf v p.r = true ∧ (encodeBody v p.r).length ≤ Compress.maxFrameSize ∧ p.r.body = .result (.rows p.m p.rs) ∧
  (∀ n g, p.m.cols ≠ .omitted n g) ∧ wfRowsP (colTypes p.m.cols) p.rs = true ∧ totalWidth (colTypes p.m.cols) = W

/-- the recorder calls the rows of a page stand for, row by row -/
def pageCalls (p : RowsPage) : List (List Call) := (typedRowsP (colTypes p.m.cols) p.rs).map (rowCalls 0)

def pageQ (p : RowsPage) : QIter := qOf p.r p.m p.rs

def lastPage (p : RowsPage) : List RowsPage → RowsPage
  | [] => p
  | x :: xs => lastPage x xs

/-- every page but the last announces more pages -/
def chained (p : RowsPage) : List RowsPage → Prop
  | [] => True
  | x :: xs => p.m.paging.isSome = true ∧ chained x xs

def rowCount (ps : List RowsPage) : Nat := (ps.map (fun p => p.rs.length)).sum

theorem rowCount_eq (ps : List RowsPage) : (ps.flatMap pageCalls).length = rowCount ps := by
  induction ps with
  | nil => rfl
  | cons p ps ih => simp [rowCount, pageCalls, typedRowsP, List.flatMap_cons] at ih ⊢

/-- the pages `p :: rest` through a loop that delivers every page (`hpage`: from a state `At` the page to a state at its
    `End`) and goes over to the next response at the end of a page that announces more (`hswitch`) -/
theorem pages_deliver {σ : Type} (drain : Nat → List FrameRead.Bytes → σ → Yield σ)
    (v : Nat) (OK : RowsPage → Prop) (At End : RowsPage → σ → Prop)
    (hpage : ∀ x s fut, OK x → At x s → ∃ s1, End x s1 ∧ Delivers drain s fut (pageCalls x) s1 fut)
    (hswitch : ∀ p x s1 ws, OK x → End p s1 → p.m.paging.isSome = true →
      ∃ s2, At x s2 ∧ Delivers drain s1 (encodeFrame v x.r :: ws) [] s2 ws)
    (tail : List FrameRead.Bytes) : ∀ (rest : List RowsPage) (p : RowsPage) (s : σ), OK p → (∀ x ∈ rest, OK x) →
      chained p rest → At p s → ∃ s', End (lastPage p rest) s' ∧
        Delivers drain s (rest.map (fun x => encodeFrame v x.r) ++ tail) ((p :: rest).flatMap pageCalls) s' tail
  | [], p, s, hp, _, _, hs => by
    obtain ⟨s1, he, hd⟩ := hpage p s tail hp hs
    exact ⟨s1, he, by simpa using hd⟩
  | x :: xs, p, s, hp, hall, hch, hs => by
    obtain ⟨s1, he, hd1⟩ := hpage p s ((x :: xs).map (fun x => encodeFrame v x.r) ++ tail) hp hs
    obtain ⟨s2, ha, hd2⟩ := hswitch p x s1 (xs.map (fun x => encodeFrame v x.r) ++ tail) (hall x (by simp)) he hch.1
    obtain ⟨s', he', hd3⟩ := pages_deliver drain v OK At End hpage hswitch tail xs x s2 (hall x (by simp))
      (fun y hy => hall y (by simp [hy])) hch.2 ha
    exact ⟨s', he', by simpa [List.flatMap_cons] using hd1.trans (hd2.trans hd3)⟩

theorem PageOk.step1 {v W : Nat} {p : RowsPage} (h : PageOk v W p) : step1 v true (encodeFrame v p.r) = .iter (pageQ p) :=
  have ⟨hw, hlen, hbody, _⟩ := h
  step1_rows v p.r p.m p.rs hw hlen hbody

theorem PageOk.scanRows {v W : Nat} {p : RowsPage} (h : PageOk v W p) :
    scanRows (List.replicate W true) (pageCalls p).length (pageQ p).it = some (pageCalls p, (atEnd (pageQ p)).it) := by
  obtain ⟨_, _, _, hcols, hwr, rfl⟩ := h
  rw [show (pageCalls p).length = p.rs.length by simp [pageCalls, typedRowsP]]
  exact page_scanRows (viewMeta p.m) p.m.cols p.rs hcols hwr rfl rfl

theorem page_delivers (v W : Nat) (p : RowsPage) (hp : PageOk v W p) (fut : List FrameRead.Bytes) :
    Delivers (pdrain v (List.replicate W true)) (pageQ p) fut (pageCalls p) (atEnd (pageQ p)) fut := fun k => by
  exact pdrain_of_scanRows v _ (k + 1) fut _ (pageQ p) _ _ hp.scanRows

/-- ALL PAGES: the Scan loop over the pages `p :: rest` (each answered to the request the page before made
    necessary), followed by whatever the server answers afterwards (`tailFut`), delivers the calls of every row of
    every page in order — each page read with the metadata IT carries — and goes on at the end of the last page -/
theorem pages_drain (v W : Nat) (rest : List RowsPage) : ∀ (p : RowsPage), PageOk v W p → (∀ x ∈ rest, PageOk v W x) →
    chained p rest → ∀ (k : Nat) (tailFut : List FrameRead.Bytes),
    pdrain v (List.replicate W true) (rowCount (p :: rest) + (k + 1)) (rest.map (fun x => encodeFrame v x.r) ++ tailFut) (pageQ p)
      = (match pdrain v (List.replicate W true) (k + 1) tailFut (atEnd (pageQ (lastPage p rest))) with
         | some (cs, q', f) => some ((p :: rest).flatMap pageCalls ++ cs, q', f)
         | none => none) := by
  intro p hp hall hch k tailFut
  obtain ⟨_, rfl, hd⟩ := pages_deliver (pdrain v (List.replicate W true)) v (PageOk v W) (fun x s => s = pageQ x)
    (fun x s => s = atEnd (pageQ x)) (fun x s fut hx hs => ⟨_, rfl, hs ▸ page_delivers v W x hx fut⟩)
    (fun p x s1 ws hx he hm => ⟨pageQ x, rfl, fun k => by
      rw [he, List.length_nil, Nat.zero_add, pre_nil]
      exact pdrain_switch v _ (pageQ p) rfl (by simpa [pageQ, qOf] using hm) _ ws _ hx.step1 k⟩)
    tailFut rest p _ hp hall hch rfl
  rw [← rowCount_eq, hd k]
  -- the fixed statement spells `pre` out as a `match`: the two agree on each shape of what the loop yields
  rcases pdrain v (List.replicate W true) (k + 1) tailFut (atEnd (pageQ (lastPage p rest))) with _ | ⟨cs, q', f⟩ <;> rfl

theorem pnext_here (v : Nat) (fut : List FrameRead.Bytes) (s : PScanner) (h : needFetch s.q = false) :
    pnext v true fut s = nextHere s fut := by
  cases fut <;> simp [pnext, h]

/-- the same through the Scanner, whose cell buffer has the length of the page's column list -/
theorem pdrainS_of_scanRows (v : Nat) (dests : List Bool) (fut : List FrameRead.Bytes) :
    ∀ (n : Nat) (s : PScanner) (it' : Iter) (callss : List (List Call)), scanRows dests n s.q.it = some (callss, it') →
    s.cols.length = s.q.it.md.columns.length →
    ∃ s1 : PScanner, s1.q = { s.q with it := it' } ∧ s1.cols.length = s.cols.length ∧
      ∀ k, pdrainS v dests (n + k) fut s = pre callss (pdrainS v dests k fut s1)
  | 0, s, it', callss, h, _ => by
    obtain ⟨rfl, rfl⟩ := scanRows_zero h
    exact ⟨s, rfl, rfl, fun k => by rw [Nat.zero_add, pre_nil]⟩
  | n + 1, s, it', callss, h, hc => by
    obtain ⟨it1, calls, cs1, hsc, hr, rfl⟩ := scanRows_succ h
    obtain ⟨cells, hcl, hmd, hnext, hscan⟩ := scanner_of_scan hsc s.cols s.valid hc
    obtain ⟨s1, h1, h2, h3⟩ := pdrainS_of_scanRows v dests fut n ⟨{ s.q with it := it1 }, cells, false⟩ it' cs1 hr
      (by rw [hmd]; exact hcl)
    refine ⟨s1, h1, by rw [h2, hcl, hc], fun k => ?_⟩
    rw [show n + 1 + k = (n + k) + 1 by omega, pdrainS, pnext_here v fut s (needFetch_of_scan_row hsc)]
    simp only [nextHere, hnext, pscannerScan, hscan, (scan_row_next hsc).2.1, Bool.false_and, Bool.false_eq_true, if_false, h3]
    rcases pdrainS v dests k fut s1 with _ | ⟨cs, s', f⟩ <;> rfl

theorem pdrainS_switch (v : Nat) (dests : List Bool) (s : PScanner) (hf : s.q.it.failed = false)
    (hp : s.q.it.pos ≥ s.q.it.numRows) (hm : s.q.more = true)
    (w : FrameRead.Bytes) (ws : List FrameRead.Bytes) (q' : QIter) (hs : step1 v true w = .iter q') (k : Nat) :
    pdrainS v dests (k + 1) (w :: ws) s = pdrainS v dests (k + 1) ws { s with q := q' } := by
  have hn : needFetch s.q = true := by simp [needFetch, hf, hp, hm]
  simp only [pdrainS, pnext, hn, if_true, hs]

theorem pdrainS_stop (v : Nat) (dests : List Bool) {s : PScanner} (h1 : needFetch s.q = false)
    (h2 : Scanner.next ⟨s.q.it, s.cols, s.valid⟩ = .ok (⟨s.q.it, s.cols, s.valid⟩, false))
    (h3 : s.q.it.failed = true → s.q.err.isNone = false) (fut : List FrameRead.Bytes) (k : Nat) :
    pdrainS v dests (k + 1) fut s = some ([], s, fut) := by
  have he : (if (s.q.it.failed && s.q.err.isNone) = true then some IterErr.scan else s.q.err) = s.q.err := by
    cases hf : s.q.it.failed <;> simp [h3, hf]
  simp only [pdrainS, pnext_here v fut s h1, nextHere, h2, he]

theorem pdrainS_last (v : Nat) (dests : List Bool) (s : PScanner) (hf : s.q.it.failed = false)
    (hp : s.q.it.pos = s.q.it.numRows) (hm : s.q.more = false) (fut : List FrameRead.Bytes) (k : Nat) :
    pdrainS v dests (k + 1) fut s = some ([], s, fut) :=
  pdrainS_stop v dests (by simp [needFetch, hm]) (scanner_end _ hf hp) (fun h => by simp [hf] at h) fut k

theorem pdrainS_error (v : Nat) (dests : List Bool) (s : PScanner) (r : LResp) (msg : FrameRead.Bytes) (e : ErrBody)
    (hq : s.q = qErr r msg e) (fut : List FrameRead.Bytes) (k : Nat) :
    pdrainS v dests (k + 1) fut s = some ([], s, fut) := by
  have hf : s.q.it.failed = true := by rw [hq]; rfl
  exact pdrainS_stop v dests (by simp [needFetch, hf]) (by simp [Scanner.next, hf]) (fun _ => by rw [hq]; rfl) fut k

/-- a page whose rows have `C` columns (the Scanner's cell buffer is made once, from the first page) -/
def PageOkS (v W C : Nat) (p : RowsPage) : Prop := PageOk v W p ∧ (colTypes p.m.cols).length = C

theorem pageS_delivers (v W C : Nat) (p : RowsPage) (hp : PageOkS v W C p) (fut : List FrameRead.Bytes)
    (s : PScanner) (hq : s.q = pageQ p) (hc : s.cols.length = C) :
    ∃ s1 : PScanner, (s1.q = atEnd (pageQ p) ∧ s1.cols.length = C) ∧
      Delivers (pdrainS v (List.replicate W true)) s fut (pageCalls p) s1 fut := by
  obtain ⟨q, cols, valid⟩ := s
  have hq' : q = pageQ p := hq
  subst hq'
  obtain ⟨s1, hq1, hc1, hd⟩ := pdrainS_of_scanRows v _ fut _ ⟨pageQ p, cols, valid⟩ _ _ hp.1.scanRows
    ((hc.trans hp.2.symm).trans (viewCols_length _).symm)
  exact ⟨s1, ⟨hq1, hc1.trans hc⟩, fun k => hd (k + 1)⟩

/-- ALL PAGES through the Scanner -/
theorem pagesS_drain (v W C : Nat) (rest : List RowsPage) : ∀ (p : RowsPage), PageOkS v W C p → (∀ x ∈ rest, PageOkS v W C x) →
    chained p rest → ∀ (k : Nat) (tailFut : List FrameRead.Bytes) (s : PScanner), s.q = pageQ p → s.cols.length = C →
    ∃ s1 : PScanner, s1.q = atEnd (pageQ (lastPage p rest)) ∧ s1.cols.length = C ∧
    pdrainS v (List.replicate W true) (rowCount (p :: rest) + (k + 1)) (rest.map (fun x => encodeFrame v x.r) ++ tailFut) s
      = (match pdrainS v (List.replicate W true) (k + 1) tailFut s1 with
         | some (cs, s', f) => some ((p :: rest).flatMap pageCalls ++ cs, s', f)
         | none => none) := by
  intro p hp hall hch k tailFut s hq hc
  obtain ⟨s1, ⟨hq1, hc1⟩, hd⟩ := pages_deliver (pdrainS v (List.replicate W true)) v (PageOkS v W C)
    (fun x s => s.q = pageQ x ∧ s.cols.length = C) (fun x s => s.q = atEnd (pageQ x) ∧ s.cols.length = C)
    (fun x s fut hx hs => pageS_delivers v W C x hx fut s hs.1 hs.2)
    (fun p x s1 ws hx he hm => ⟨{ s1 with q := pageQ x }, ⟨rfl, he.2⟩, fun k => by
      rw [List.length_nil, Nat.zero_add, pre_nil]
      exact pdrainS_switch v _ s1 (by rw [he.1]; rfl) (by rw [he.1]; simp [atEnd])
        (by rw [he.1]; simpa [atEnd, pageQ, qOf] using hm) _ ws _ hx.1.step1 k⟩)
    tailFut rest p s hp hall hch ⟨hq, hc⟩
  refine ⟨s1, hq1, hc1, ?_⟩
  rw [← rowCount_eq, hd k]
  rcases pdrainS v (List.replicate W true) (k + 1) tailFut s1 with _ | ⟨cs, s', f⟩ <;> rfl

end C04
