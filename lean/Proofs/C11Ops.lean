import Model.Policies
import Proofs.C11Cow
import Proofs.C11Pol
import Proofs.C11Hist
/-! Operation histories of the token-aware policy (`TAOp`, `TA.apply`) and two invariants along them: the table of a
keyspace - ANY keyspace, after the repair of KF-C10-4 - into which nothing was installed from outside only lists hosts of
the policy's host list (`TabFresh`; `dirtyStep`, `runDirty` keep the keyspaces that hold an installed table); the policy's
host list = the hosts the history knows. The one idea of the history proofs: a history acts on the host list and on the
fallback policy only through its notifier calls (`evsOf`; `run_hosts`, `run_pol`), so the invariants are inductions over
events. -/
namespace C11
open Policies

theorem mem_sortByTok {β : Type} (l : List (Nat × β)) (x : Nat × β) : x ∈ sortByTok l ↔ x ∈ l :=
  (perm_foldl_ins ringInsert (fun e x => e.1 < x.1) (fun _ => rfl) (fun _ _ _ => rfl) l []).mem_iff

theorem ringOf_sub (hosts : List Host) (e : Nat × Host) (he : e ∈ ringOf hosts) : e.2 ∈ hosts := by
  unfold ringOf at he
  rw [mem_sortByTok, List.mem_flatMap] at he
  obtain ⟨h, hh, hm⟩ := he
  rw [List.mem_map] at hm
  obtain ⟨t, _, rfl⟩ := hm
  exact hh

theorem lookupTok_mem {β : Type} (tab : List (Nat × β)) (t : Nat) (v : β) (h : lookupTok tab t = some v) :
    ∃ k, (k, v) ∈ tab := by
  revert h
  -- arms: an entry with token ≥ `t` | none: the first entry
  fun_cases lookupTok tab t <;> intro h
  · cases h
    exact ⟨_, List.mem_of_find?_eq_some ‹tab.find? _ = some _›⟩
  · obtain ⟨e, he, rfl⟩ := Option.map_eq_some_iff.mp h
    exact ⟨e.1, List.mem_of_head? he⟩

theorem simpleWalk_sub (rf : Nat) (l acc : List Host) (x : Host) (hx : x ∈ simpleWalk rf acc l) : x ∈ acc ++ l := by
  -- arms: end of the ring | a host met before | a new replica | `rf` replicas found
  fun_induction simpleWalk rf acc l
  · exact List.mem_append_left _ hx
  · rename_i ih
    exact List.mem_append.mpr ((List.mem_append.mp (ih hx)).imp_right (List.mem_cons_of_mem _))
  · rename_i ih
    have := ih hx
    rwa [List.append_assoc] at this
  · exact List.mem_append_left _ hx

theorem simpleMap_sub (rf : Nat) (ring : List (Nat × Host)) (f : Nat × List Host) (hf : f ∈ simpleMap rf ring)
    (x : Host) (hx : x ∈ f.2) : ∃ e ∈ ring, e.2 = x := by
  unfold simpleMap at hf
  rw [List.mem_map] at hf
  obtain ⟨i, _, rfl⟩ := hf
  obtain ⟨e, he, rfl⟩ := List.mem_map.mp (simpleWalk_sub rf _ [] x hx)
  exact ⟨e, (_root_.rot_perm ring i).mem_iff.mp he, rfl⟩

inductive TAOp
  | add (h : Host) | remove (h : Host) | hostUp (h : Host) | hostDown (h : Host)
  | setReplicas (ks : Nat) (tab : List (Nat × List Host))      -- a replica table installed from outside (hook)
  | pick (up : Nat → Bool) (σ : List Host → List Host) (rk : Option (Nat × Nat)) (limit : Nat)
  | setCtr (n : Nat)     -- the fallback policy has served n picks already (hook VerifSetPickCount)
  | keyspaceChanged (ks : Nat)
  | setMeta (ks : Nat) (v : Option (Option Nat))               -- the keyspace metadata changes (no call into the policy)

def _root_.Policies.TA.apply (t : TA) : TAOp → TA
  | .add h => t.add h
  | .remove h => t.remove h
  | .hostUp h => t.hostUp h
  | .hostDown h => t.hostDown h
  | .setReplicas ks tab => t.setReplicas ks tab
  | .pick up σ rk limit => (t.pick up σ rk limit).1
  | .setCtr n => { t with pol := t.pol.setCtr n }
  | .keyspaceChanged ks => t.keyspaceChanged ks
  | .setMeta ks v => t.setMeta ks v

theorem updateReplicas_eq (t : TA) (ks : Nat) : ∃ r, t.updateReplicas ks = { t with replicas := r } := by
  fun_cases TA.updateReplicas t ks <;> exact ⟨_, rfl⟩

theorem refresh_eq (t : TA) : ∃ r, t.refresh = { t with replicas := r } := by
  unfold TA.refresh
  generalize t.refreshKeys = keys
  induction keys generalizing t with
  | nil => exact ⟨t.replicas, rfl⟩
  | cons k keys ih =>
    obtain ⟨r, e⟩ := updateReplicas_eq t k
    rw [List.foldl_cons, e]
    exact ih _

/-- the shape of `AddHost` / `RemoveHost`: the host list becomes `l`, the tables are recomputed if it changed (`c`),
then the fallback policy is called -/
theorem refreshIf_eq (t : TA) (l : List Host) (c : Bool) (p : Pol) :
    ∃ r, ({ (if c then ({ t with hosts := l } : TA).refresh else { t with hosts := l }) with pol := p } : TA) =
      { t with pol := p, hosts := l, replicas := r } := by
  cases c
  · exact ⟨t.replicas, rfl⟩
  · obtain ⟨r, e⟩ := refresh_eq { t with hosts := l }
    exact ⟨r, by rw [if_pos rfl, e]⟩

theorem add_eq (t : TA) (h : Host) :
    ∃ r, t.add h = { t with pol := t.pol.add h, hosts := (cowAdd t.hosts h).1, replicas := r } := refreshIf_eq t _ _ _

theorem remove_eq (t : TA) (h : Host) :
    ∃ r, t.remove h = { t with pol := t.pol.remove h, hosts := (cowRemove t.hosts h.addr).1, replicas := r } :=
  refreshIf_eq t _ _ _

/-- `Pick` advances the fallback policy's counter or does nothing (all offered hosts were replicas) -/
theorem pick_eq (t : TA) (up : Nat → Bool) (σ : List Host → List Host) (rk : Option (Nat × Nat)) (limit : Nat) :
    (t.pick up σ rk limit).1 = t ∨ (t.pick up σ rk limit).1 = { t with pol := t.pol.bump } := by
  -- arms: no routing key | no ring | empty ring | the replica phases cover the `limit` calls | the calls go beyond them
  fun_cases TA.pick t up σ rk limit
  · exact Or.inr rfl
  · exact Or.inr rfl
  · exact Or.inr rfl
  · exact Or.inl rfl
  · exact Or.inr rfl

theorem apply_eq (t : TA) (o : TAOp) :
    ∃ p l r m, t.apply o = { t with pol := p, hosts := l, replicas := r, ksMeta := m } := by
  cases o with
  | add h => obtain ⟨r, e⟩ := add_eq t h; exact ⟨_, _, r, _, e⟩
  | remove h => obtain ⟨r, e⟩ := remove_eq t h; exact ⟨_, _, r, _, e⟩
  | pick up σ rk limit => rcases pick_eq t up σ rk limit with e | e <;> exact ⟨_, _, _, _, e⟩
  | keyspaceChanged ks => obtain ⟨r, e⟩ := updateReplicas_eq t ks; exact ⟨_, _, r, _, e⟩
  | _ => exact ⟨_, _, _, _, rfl⟩

theorem pick_pol (t : TA) (up : Nat → Bool) (σ : List Host → List Host) (rk : Option (Nat × Nat)) (limit : Nat) :
    (t.pick up σ rk limit).1.pol = t.pol ∨ (t.pick up σ rk limit).1.pol = t.pol.bump :=
  (pick_eq t up σ rk limit).imp (congrArg TA.pol) (congrArg TA.pol)

theorem run_eq (ops : List TAOp) (t : TA) :
    ∃ p l r m, ops.foldl TA.apply t = { t with pol := p, hosts := l, replicas := r, ksMeta := m } := by
  induction ops generalizing t with
  | nil => exact ⟨_, _, _, _, rfl⟩
  | cons o ops ih =>
    obtain ⟨p, l, r, m, e⟩ := apply_eq t o
    rw [List.foldl_cons, e]
    exact ih _

theorem run_opts (t : TA) (ops : List TAOp) :
    (ops.foldl TA.apply t).nonlocal = t.nonlocal ∧ (ops.foldl TA.apply t).shuffle = t.shuffle ∧
    (ops.foldl TA.apply t).sessKs = t.sessKs ∧ (ops.foldl TA.apply t).partSet = t.partSet := by
  obtain ⟨p, l, r, m, e⟩ := run_eq ops t
  rw [e]
  exact ⟨rfl, rfl, rfl, rfl⟩

theorem apply_pol (t : TA) (o : TAOp) :
    (t.apply o).pol = match o with
      | .add h => t.pol.add h
      | .remove h => t.pol.remove h
      | .hostUp h => t.pol.add h
      | .hostDown h => t.pol.remove h
      | .setCtr n => t.pol.setCtr n
      | .pick up σ rk limit => (t.pick up σ rk limit).1.pol
      | _ => t.pol := by
  cases o with
  | keyspaceChanged ks => obtain ⟨r, e⟩ := updateReplicas_eq t ks; exact (congrArg TA.pol e :)
  | _ => rfl

theorem apply_hosts (t : TA) (o : TAOp) :
    (t.apply o).hosts = match o with
      | .add h => (cowAdd t.hosts h).1
      | .remove h => (cowRemove t.hosts h.addr).1
      | _ => t.hosts := by
  cases o with
  | add h => obtain ⟨r, e⟩ := add_eq t h; exact congrArg TA.hosts e
  | remove h => obtain ⟨r, e⟩ := remove_eq t h; exact congrArg TA.hosts e
  | pick up σ rk limit => rcases pick_eq t up σ rk limit with e | e <;> exact (congrArg TA.hosts e :)
  | keyspaceChanged ks => obtain ⟨r, e⟩ := updateReplicas_eq t ks; exact (congrArg TA.hosts e :)
  | _ => rfl

/-- every host listed by the table of keyspace `ks` is in the policy's own host list -/
def TabFresh (t : TA) (ks : Nat) : Prop :=
  ∀ e ∈ t.replicas, e.1 = ks → ∀ f ∈ e.2, ∀ x ∈ f.2, x ∈ t.hosts

theorem tabFresh_updateReplicas (t : TA) (k ks : Nat) (hf : ks ≠ k → TabFresh t ks) : TabFresh (t.updateReplicas k) ks := by
  have hrest : ∀ e ∈ t.replicas.filter (fun e => e.1 != k), e.1 = ks → ∀ f ∈ e.2, ∀ x ∈ f.2, x ∈ t.hosts := by
    intro e he hes
    rw [List.mem_filter] at he
    exact hf (hes ▸ by simpa using he.2) e he.1 hes
  fun_cases TA.updateReplicas t k <;> intro e he hes f hfe x hx
  · rcases List.mem_cons.mp he with rfl | he
    · rw [mem_sortByTok] at hfe
      obtain ⟨en, hen, rfl⟩ := simpleMap_sub _ _ f hfe x hx
      exact ringOf_sub t.hosts en hen
    · exact hrest e he hes f hfe x hx
  · exact hrest e he hes f hfe x hx
  · exact hrest e he hes f hfe x hx

theorem tabFresh_foldl (keys : List Nat) (t : TA) (ks : Nat) (hf : ks ∉ keys → TabFresh t ks) :
    TabFresh (keys.foldl TA.updateReplicas t) ks := by
  induction keys generalizing t with
  | nil => exact hf List.not_mem_nil
  | cons k r ih =>
    exact ih _ fun hr => tabFresh_updateReplicas t k ks fun hne => hf fun hm => (List.mem_cons.mp hm).elim hne hr

theorem mem_refreshKeys (t : TA) (e : Nat × List (Nat × List Host)) (he : e ∈ t.replicas) : e.1 ∈ t.refreshKeys := by
  unfold TA.refreshKeys
  rw [List.mem_append]
  by_cases h : t.sessKs = some e.1
  · left; rw [h]; exact List.mem_singleton.mpr rfl
  · right
    rw [List.mem_filter]
    exact ⟨List.mem_map.mpr ⟨e, he, rfl⟩, by simpa using h⟩

/-- after `refresh` (= `updateAllReplicas`) the table of EVERY keyspace is fresh whatever it was before: `refresh`
recomputes the table of every keyspace it holds one for -/
theorem tabFresh_refresh (t : TA) (ks : Nat) : TabFresh t.refresh ks :=
  tabFresh_foldl t.refreshKeys t ks fun hn e he hes => absurd (hes ▸ mem_refreshKeys t e he) hn

/-- `AddHost` / `RemoveHost` (the shape of `refreshIf_eq`): every table is recomputed if the host list changed;
if it did not, `l` is the old list and the tables stay -/
theorem tabFresh_refreshIf (t : TA) (l : List Host) (c : Bool) (p : Pol) (ks : Nat)
    (hf : c = false → l = t.hosts ∧ TabFresh t ks) :
    TabFresh { (if c then ({ t with hosts := l } : TA).refresh else { t with hosts := l }) with pol := p } ks := by
  cases c
  · obtain ⟨rfl, h⟩ := hf rfl
    exact h
  · exact tabFresh_refresh { t with hosts := l } ks

def TAOp.noInject (ks : Nat) : TAOp → Prop
  | .setReplicas k _ => k ≠ ks
  | _ => True

/-- the keyspaces whose CURRENT table was installed from outside and has not been recomputed by the policy since:
`setReplicas ks` marks `ks`, `KeyspaceChanged ks` clears `ks`, an `AddHost` / `RemoveHost` that changes the policy's
host list (ring change: `updateAllReplicas`) clears all -/
def dirtyStep (t : TA) (d : List Nat) : TAOp → List Nat
  | .setReplicas ks _ => ks :: d
  | .keyspaceChanged ks => d.filter (fun k => k != ks)
  | .add h => if (cowAdd t.hosts h).2 then [] else d
  | .remove h => if (cowRemove t.hosts h.addr).2 then [] else d
  | _ => d

def runDirty : TA × List Nat → List TAOp → TA × List Nat
  | s, [] => s
  | s, o :: r => runDirty (s.1.apply o, dirtyStep s.1 s.2 o) r

theorem runDirty_fst (s : TA × List Nat) (ops : List TAOp) : (runDirty s ops).1 = ops.foldl TA.apply s.1 := by
  induction ops generalizing s with
  | nil => rfl
  | cons o r ih => rw [runDirty, ih, List.foldl_cons]

def dirtyOf (t0 : TA) (ops : List TAOp) : List Nat := (runDirty (t0, []) ops).2

theorem dirty_apply (t : TA) (d : List Nat) (o : TAOp) (ks : Nat) (hf : ks ∉ d → TabFresh t ks)
    (hks : ks ∉ dirtyStep t d o) : TabFresh (t.apply o) ks := by
  cases o with
  | add h =>
    exact tabFresh_refreshIf t _ _ _ ks fun hc =>
      ⟨cowAdd_unchanged _ _ hc, hf fun hm => hks (by rw [dirtyStep, hc]; exact hm)⟩
  | remove h =>
    exact tabFresh_refreshIf t _ _ _ ks fun hc =>
      ⟨cowRemove_unchanged _ _ hc, hf fun hm => hks (by rw [dirtyStep, hc]; exact hm)⟩
  | keyspaceChanged k =>
    refine tabFresh_updateReplicas t k ks fun hne => hf fun hm => hks ?_
    exact List.mem_filter.mpr ⟨hm, bne_iff_ne.mpr hne⟩
  | setReplicas k tab =>
    rw [dirtyStep, List.mem_cons, not_or] at hks
    intro e he hes f hfe x hx
    rcases List.mem_cons.mp he with rfl | he
    · exact absurd hes.symm hks.1
    · exact hf hks.2 e (List.mem_filter.mp he).1 hes f hfe x hx
  | pick up σ rk limit =>
    rcases pick_eq t up σ rk limit with e | e <;> rw [TA.apply, e] <;> exact hf hks
  | _ => exact hf hks

theorem dirty_run_at (ops : List TAOp) (s : TA × List Nat) (ks : Nat) (hf : ks ∉ s.2 → TabFresh s.1 ks)
    (hks : ks ∉ (runDirty s ops).2) : TabFresh (runDirty s ops).1 ks := by
  induction ops generalizing s with
  | nil => exact hf hks
  | cons o r ih => exact ih (s.1.apply o, dirtyStep s.1 s.2 o) (dirty_apply s.1 s.2 o ks hf) hks

theorem dirtyStep_noInject (t : TA) (d : List Nat) (o : TAOp) (ks : Nat) (hd : ks ∉ d) (hn : o.noInject ks) :
    ks ∉ dirtyStep t d o := by
  cases o with
  | add h | remove h => simp only [dirtyStep]; split <;> simp [hd]
  | keyspaceChanged k => simp only [dirtyStep, List.mem_filter]; exact fun h => hd h.1
  | setReplicas k tab =>
    simp only [dirtyStep, List.mem_cons, not_or]
    exact ⟨fun e => hn e.symm, hd⟩
  | _ => exact hd

theorem runDirty_noInject (ops : List TAOp) (s : TA × List Nat) (ks : Nat) (hd : ks ∉ s.2)
    (hn : ∀ o ∈ ops, o.noInject ks) : ks ∉ (runDirty s ops).2 := by
  induction ops generalizing s with
  | nil => exact hd
  | cons o r ih =>
    exact ih (s.1.apply o, dirtyStep s.1 s.2 o) (dirtyStep_noInject s.1 s.2 o ks hd (hn o List.mem_cons_self))
      (fun o' ho' => hn o' (List.mem_cons_of_mem _ ho'))

/-- along any history that installs no table for `ks` from outside, the table of `ks` - session keyspace or
not - only lists hosts of the policy's own host list -/
theorem tabFresh_run (ops : List TAOp) (t : TA) (ks : Nat) (hf : TabFresh t ks)
    (hn : ∀ o ∈ ops, o.noInject ks) : TabFresh (ops.foldl TA.apply t) ks := by
  have := dirty_run_at ops (t, []) ks (fun _ => hf) (runDirty_noInject ops (t, []) ks List.not_mem_nil hn)
  rwa [runDirty_fst] at this

def TAOp.ev : TAOp → Option (Ev × Host)
  | .add h => some (.add, h)
  | .remove h => some (.remove, h)
  | .hostUp h => some (.hup, h)
  | .hostDown h => some (.hdown, h)
  | _ => none

def evsOf (ops : List TAOp) : List (Ev × Host) := ops.filterMap TAOp.ev
def hostsOf (ops : List TAOp) : List Host := (evsOf ops).map (·.2)
def NoAlias (ops : List TAOp) : Prop := ∀ a ∈ hostsOf ops, ∀ b ∈ hostsOf ops, a.addr = b.addr → a = b

def hostsEv (l : List Host) : Ev × Host → List Host
  | (.add, h) => (cowAdd l h).1
  | (.remove, h) => (cowRemove l h.addr).1
  | _ => l

theorem run_hosts (ops : List TAOp) (t : TA) : (ops.foldl TA.apply t).hosts = (evsOf ops).foldl hostsEv t.hosts := by
  induction ops generalizing t with
  | nil => rfl
  | cons o r ih =>
    rw [List.foldl_cons, ih, apply_hosts]
    cases o <;> rfl

def polEv (p : Pol) : Ev × Host → Pol
  | (.add, h) | (.hup, h) => p.add h
  | (.remove, h) | (.hdown, h) => p.remove h

theorem setLayer_setCtr (p : Pol) (i : Nat) (l : List Host) (n : Nat) :
    (p.setLayer i l).setCtr n = (p.setCtr n).setLayer i l := by
  rcases i with _ | _ | i <;> rfl

theorem polEv_setCtr (p : Pol) (eh : Ev × Host) (n : Nat) : (polEv p eh).setCtr n = polEv (p.setCtr n) eh := by
  obtain ⟨e, h⟩ := eh
  cases e <;> exact setLayer_setCtr _ _ _ _

/-- up to the counter (which `Pick` and the hook `setCtr` change and no list depends on), the fallback policy after a
history is the one its notifier calls make -/
theorem run_pol (ops : List TAOp) (t : TA) (n : Nat) :
    (ops.foldl TA.apply t).pol.setCtr n = (evsOf ops).foldl polEv (t.pol.setCtr n) := by
  induction ops generalizing t with
  | nil => rfl
  | cons o r ih =>
    rw [List.foldl_cons, ih, apply_pol]
    cases o with
    | add h => exact congrArg (List.foldl polEv · _) (polEv_setCtr t.pol (.add, h) n)
    | remove h => exact congrArg (List.foldl polEv · _) (polEv_setCtr t.pol (.remove, h) n)
    | hostUp h => exact congrArg (List.foldl polEv · _) (polEv_setCtr t.pol (.hup, h) n)
    | hostDown h => exact congrArg (List.foldl polEv · _) (polEv_setCtr t.pol (.hdown, h) n)
    | pick up σ rk limit =>
      show List.foldl polEv ((t.pick up σ rk limit).1.pol.setCtr n) _ = _
      rcases pick_pol t up σ rk limit with e | e <;> rw [e] <;> rfl
    | _ => rfl

end C11
