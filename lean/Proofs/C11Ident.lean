import Model.Policies
import Proofs.C11Cow
import Proofs.C11Pol
import Proofs.C11Hist
import Proofs.C11Ops
/-! HOST IDENTITY in the policy host lists

* `cowHostList` as the Go code has it (nil entries, panics) for any pair of identities `sameAdd` / `keyOf` (`rawStep_ok`);
* the lists of the policies against the history PER KEY (tier, address): the list holds exactly the object that
  stands for each key (`ownerOf`), for every history - hosts sharing an address included;
* the same for the token-aware policy's own list `t.hosts`, whose identity is the address alone (`taOwner_evs`).

The per-key invariant holds for any hosts and says WHICH object a list holds. For hosts with pairwise different
addresses a host owns its key iff `statusOf`, the property's own "known and not reported down", says it is listed
(`ownerOf_noAlias`, `taOwnerOf_noAlias`: facts about the event list alone), which gives the per-host invariant `BI` of
Proofs/C11State.lean. -/
namespace C11
open Policies

section Raw
variable {α κ : Type} [BEq κ] [LawfulBEq κ]

def KeyNodup (keyOf : α → κ) (l : List α) : Prop := l.Pairwise (fun a b => keyOf a ≠ keyOf b)

inductive RawOp (α κ : Type)
  | add (h : α)
  | remove (ip : κ)

/-- `none` = a call panicked -/
def rawStep (sameAdd : α → α → Bool) (keyOf : α → κ) (s : Option (List (Option α))) (o : RawOp α κ) : Option (List (Option α)) :=
  match s with
  | none => none
  | some l => match o with
    | .add h => (rawAdd sameAdd l h).map (·.1)
    | .remove ip => (rawRemove keyOf l ip).map (·.1)

def rawRun (sameAdd : α → α → Bool) (keyOf : α → κ) (s : Option (List (Option α))) (ops : List (RawOp α κ)) : Option (List (Option α)) :=
  ops.foldl (rawStep sameAdd keyOf) s

/-- what an operation makes of a list without nil entries that has the invariant -/
def listStep (sameAdd : α → α → Bool) (keyOf : α → κ) (l : List α) : RawOp α κ → List α
  | .add h => if l.any (fun x => sameAdd h x) then l else l ++ [h]
  | .remove ip => l.filter (fun x => !(keyOf x == ip))

theorem rawAddScan_some (sameAdd : α → α → Bool) (h : α) (l : List α) :
    rawAddScan sameAdd h (l.map some) = some (l.any (fun x => sameAdd h x)) := by
  induction l with
  | nil => rfl
  | cons x r ih =>
    simp only [List.map_cons, rawAddScan, List.any_cons, ih]
    cases sameAdd h x <;> rfl

omit [BEq κ] [LawfulBEq κ] in
theorem keyNodup_add (sameAdd : α → α → Bool) (keyOf : α → κ) (href : ∀ a b, keyOf a = keyOf b → sameAdd a b = true)
    (l : List α) (hl : KeyNodup keyOf l) (h : α) (hany : l.any (fun x => sameAdd h x) = false) :
    KeyNodup keyOf (l ++ [h]) := by
  unfold KeyNodup
  rw [List.pairwise_append]
  refine ⟨hl, List.pairwise_singleton _ _, fun a ha b hb e => ?_⟩
  obtain rfl := List.mem_singleton.mp hb
  exact List.any_eq_false.mp hany a ha (href b a e.symm)

theorem filter_key_length (keyOf : α → κ) (l : List α) (hl : KeyNodup keyOf l) (ip : κ) :
    l.length ≤ (l.filter (fun x => !(keyOf x == ip))).length + 1 := by
  induction l with
  | nil => simp
  | cons x r ih =>
    unfold KeyNodup at hl
    rw [List.pairwise_cons] at hl
    rw [List.filter_cons]
    by_cases hx : keyOf x = ip
    · -- `x` has the key, so no entry of the rest has it
      subst hx
      rw [List.filter_eq_self.mpr fun y hy => by simpa using Ne.symm (hl.1 y hy)]
      simp
    · rw [beq_false_of_ne hx]
      exact Nat.succ_le_succ (ih hl.2)

/-- `remove` on a list without nil entries that has the invariant: no panic, NO NIL ENTRY in the result, exactly the
entries with the key are dropped (at most one), the invariant is kept -/
theorem rawRemove_ok (keyOf : α → κ) (l : List α) (hl : KeyNodup keyOf l) (ip : κ) :
    ∃ c, rawRemove keyOf (l.map some) ip = some ((l.filter (fun x => !(keyOf x == ip))).map some, c) ∧
      KeyNodup keyOf (l.filter (fun x => !(keyOf x == ip))) := by
  have hk : KeyNodup keyOf (l.filter (fun x => !(keyOf x == ip))) := List.Pairwise.sublist List.filter_sublist hl
  have hnone : (l.map some).any (·.isNone) = false := by
    rw [List.any_map]
    exact List.any_eq_false.mpr fun _ _ => Bool.false_ne_true
  have hfil : (l.map some).filter (keepEntry keyOf ip) =
      (l.filter (fun x => !(keyOf x == ip))).map some := by
    rw [List.filter_map]
    rfl
  unfold rawRemove
  simp only [hnone, Bool.false_eq_true, if_false, hfil, List.length_map]
  split
  · rename_i e
    have := (List.filter_sublist (l := l)).eq_of_length (eq_of_beq e)
    exact ⟨false, by rw [this], hk⟩
  · -- at most one entry was dropped (`filter_key_length`): the re-slicing to `size-1` appends no nil
    refine ⟨true, ?_, hk⟩
    rw [Nat.sub_eq_zero_of_le (Nat.sub_le_of_le_add (filter_key_length keyOf l hl ip)), List.replicate_zero,
      List.append_nil]

/-- on a list without nil entries that has the invariant no call panics, no nil entry appears and the invariant is
kept, if `add` refuses whatever `remove` would conflate -/
theorem rawStep_ok (sameAdd : α → α → Bool) (keyOf : α → κ) (href : ∀ a b, keyOf a = keyOf b → sameAdd a b = true)
    (l : List α) (hl : KeyNodup keyOf l) (o : RawOp α κ) :
    rawStep sameAdd keyOf (some (l.map some)) o = some ((listStep sameAdd keyOf l o).map some) ∧
      KeyNodup keyOf (listStep sameAdd keyOf l o) := by
  cases o with
  | add h =>
    simp only [rawStep, rawAdd, rawAddScan_some, listStep]
    cases hany : l.any (fun x => sameAdd h x)
    · exact ⟨by simp, keyNodup_add sameAdd keyOf href l hl h hany⟩
    · exact ⟨rfl, hl⟩
  | remove ip =>
    obtain ⟨c, e, hk⟩ := rawRemove_ok keyOf l hl ip
    exact ⟨by rw [rawStep, e]; rfl, hk⟩

theorem rawRun_eq (sameAdd : α → α → Bool) (keyOf : α → κ) (href : ∀ a b, keyOf a = keyOf b → sameAdd a b = true)
    (ops : List (RawOp α κ)) : ∀ (l : List α), KeyNodup keyOf l →
    rawRun sameAdd keyOf (some (l.map some)) ops = some ((ops.foldl (listStep sameAdd keyOf) l).map some) ∧
      KeyNodup keyOf (ops.foldl (listStep sameAdd keyOf) l) := by
  induction ops with
  | nil => intro l hl; exact ⟨rfl, hl⟩
  | cons o r ih =>
    intro l hl
    obtain ⟨e, hk⟩ := rawStep_ok sameAdd keyOf href l hl o
    rw [rawRun, List.foldl_cons, e]
    exact ih _ hk

end Raw

theorem equal_refines (a b : Host) (e : a.addr = b.addr) : a.equal b = true := (equal_iff a b).mpr e

theorem keyNodup_addr (l : List Host) : KeyNodup (fun h : Host => h.addr) l ↔ AddrNodup l := Iff.rfl

def absStep (l : List Host) : RawOp Host Nat → List Host
  | .add h => (cowAdd l h).1
  | .remove ip => (cowRemove l ip).1

/-- the abstract `cowAdd` / `cowRemove` (the model every other theorem uses) are what the raw `add` / `remove` do on
a list with the invariant -/
theorem absStep_eq : absStep = listStep Host.equal (fun h : Host => h.addr) := by
  funext l o
  cases o with
  | add h =>
    simp only [absStep, cowAdd, listStep]
    split <;> rfl
  | remove ip =>
    simp only [absStep, cowRemove, listStep]
    split
    · rfl
    · rename_i hn
      refine (List.filter_eq_self.mpr fun y hy => ?_).symm
      simp only [List.any_eq_true, not_exists, not_and] at hn
      simpa using hn y hy

theorem rawRun_abs (ops : List (RawOp Host Nat)) : ∀ l, AddrNodup l →
    rawRun Host.equal (fun h : Host => h.addr) (some (l.map some)) ops = some ((ops.foldl absStep l).map some) ∧
      AddrNodup (ops.foldl absStep l) := by
  intro l hl
  rw [absStep_eq]
  exact rawRun_eq Host.equal _ equal_refines ops l hl

def ownerFrom (key : Host → Nat × Nat) (o0 : Option Host) (evs : List (Ev × Host)) (k : Nat × Nat) : Option Host :=
  evs.foldl (fun o e => if key e.2 = k then ownerStep o e.1 e.2 else o) o0

theorem owner_isSome_inList (key : Host → Nat × Nat) (evs : List (Ev × Host)) (k : Nat × Nat) :
    (ownerOf key evs k).isSome = (keyStatus key evs k).inList :=
  List.foldl_rel (r := fun (o : Option Host) (s : Status) => o.isSome = s.inList) rfl (fun e _ o s h => by
    split
    · obtain ⟨ev, hh⟩ := e
      cases ev <;> cases o <;> rfl
    · exact h)

/-- after a call about `h` the owner of a key still has that key (`key` = the key of the fallback policy's lists, or
the address for the token-aware policy's own list) -/
theorem ownerStep_key {κ : Type} [DecidableEq κ] (key : Host → κ) (o : Option Host) (e : Ev) (h : Host) (k : κ)
    (ho : ∀ z, o = some z → key z = k) (z : Host)
    (hz : (if key h = k then ownerStep o e h else o) = some z) : key z = k := by
  split at hz
  · rename_i hk
    revert hz
    fun_cases ownerStep o e h <;> intro hz <;> cases hz
    -- `AddHost`, then `HostUp`: the key was free and `h` takes it, or the owner stays
    · exact hk
    · exact ho _ rfl
    · exact hk
    · exact ho _ rfl
  · exact ho z hz

/-- the owner of a key has that key -/
theorem owner_key (key : Host → Nat × Nat) (evs : List (Ev × Host)) (k : Nat × Nat) :
    ∀ (o0 : Option Host), (∀ z, o0 = some z → key z = k) → ∀ z, ownerFrom key o0 evs k = some z → key z = k :=
  foldl_inv (fun o => ∀ z, o = some z → key z = k) _ (fun o e h => ownerStep_key key o e.1 e.2 k h) evs

/-- the configuration (kind, local DC, local rack) - hence tier and key - never changes -/
theorem key_polEv (p : Pol) (eh : Ev × Host) : (polEv p eh).key = p.key := by
  obtain ⟨e, h⟩ := eh
  funext x
  unfold Pol.key
  cases e <;> exact congrArg (·, x.addr) (tier_setLayer _ _ _ x)

theorem Inv_polEv (p : Pol) (hp : Inv p) (eh : Ev × Host) : Inv (polEv p eh) := by
  obtain ⟨e, h⟩ := eh
  cases e with
  | add | hup => exact Inv_add p hp h
  | remove | hdown => exact Inv_remove p hp h

theorem owner_polEv (p : Pol) (hp : Inv p) (O : Nat × Nat → Option Host) (e : Ev) (h : Host)
    (hO : ∀ k z, O k = some z → p.key z = k) (hs : ∀ x, known p x ↔ O (p.key x) = some x) (x : Host) :
    known (polEv p (e, h)) x ↔ (if p.key h = p.key x then ownerStep (O (p.key x)) e h else O (p.key x)) = some x := by
  cases e with
  | add | hup => exact owner_add_keyed p.key _ _ h O (known_add_key p hp h) hO hs x
  | remove | hdown => exact owner_remove_keyed p.key _ _ h O (known_remove_key p hp h) hs x

/-- Along any history of notifier calls about ANY hosts (shared addresses included): the fallback
policy's lists hold exactly the objects that stand for their key by the history -/
theorem owner_evs (key : Host → Nat × Nat) (evs : List (Ev × Host)) :
    ∀ (p : Pol) (O : Nat × Nat → Option Host), p.key = key → Inv p → (∀ k z, O k = some z → key z = k) →
    (∀ x, known p x ↔ O (key x) = some x) →
    Inv (evs.foldl polEv p) ∧ (evs.foldl polEv p).key = key ∧
      ∀ x, known (evs.foldl polEv p) x ↔ ownerFrom key (O (key x)) evs (key x) = some x := by
  induction evs with
  | nil => intro p O hk hp _ hs; exact ⟨hp, hk, hs⟩
  | cons eh r ih =>
    obtain ⟨e, h⟩ := eh
    intro p O hk hp hO hs
    subst hk
    exact ih (polEv p (e, h)) (fun k => if p.key h = k then ownerStep (O k) e h else O k) (key_polEv p _)
      (Inv_polEv p hp _) (fun k => ownerStep_key p.key (O k) e h k (hO k)) (owner_polEv p hp O e h hO hs)

/-- in every reachable state, any hosts: the fallback policy lists exactly the object that stands for each key
(the operations that are no notifier calls change its counter at most, `run_pol`) -/
theorem owner_final (k : Kind) (ldc lrack : Nat) (sh nl ps : Bool) (sess : Option Nat) (ops : List TAOp) :
    let t := ops.foldl TA.apply (TA.new (Pol.new k ldc lrack) sh nl ps sess)
    let key := (Pol.new k ldc lrack).key
    Inv t.pol ∧ (∀ x, t.pol.key x = key x) ∧ ∀ x, known t.pol x ↔ ownerOf key (evsOf ops) (key x) = some x := by
  intro t key
  have e : t.pol.setCtr 0 = (evsOf ops).foldl polEv ((Pol.new k ldc lrack).setCtr 0) := run_pol ops _ 0
  obtain ⟨h1, h2, h3⟩ := owner_evs key (evsOf ops) ((Pol.new k ldc lrack).setCtr 0) (fun _ => none) rfl
    (Inv_ctr _ (Inv_new k ldc lrack) 0) (fun _ _ h => nomatch h) (fun x => by simp [known, Pol.new, Pol.setCtr])
  rw [← e] at h1 h2 h3
  exact ⟨⟨h1.a0, h1.a1, h1.a2, h1.t0, h1.t1, h1.t2⟩, congrFun h2, h3⟩

/-! ### the token-aware policy's OWN list (`t.hosts`) per address

`t.hosts` is one list, changed by `AddHost` / `RemoveHost` only: the identity of a host object there is its connect
address alone. -/

def taOwnerStep (o : Option Host) (e : Ev) (h : Host) : Option Host :=
  match e with
  | .add => (match o with | none => some h | some x => some x)
  | .remove => none
  | _ => o

/-- the object `t.hosts` holds for address `a`, by the history alone -/
def taOwnerFrom (o0 : Option Host) (evs : List (Ev × Host)) (a : Nat) : Option Host :=
  evs.foldl (fun o e => if e.2.addr = a then taOwnerStep o e.1 e.2 else o) o0

def taOwnerOf (evs : List (Ev × Host)) (a : Nat) : Option Host := taOwnerFrom none evs a

theorem taOwner_evs (evs : List (Ev × Host)) :
    ∀ (l : List Host) (O : Nat → Option Host), AddrNodup l → (∀ a z, O a = some z → z.addr = a) →
    (∀ x, x ∈ l ↔ O x.addr = some x) →
    AddrNodup (evs.foldl hostsEv l) ∧
      ∀ x, x ∈ evs.foldl hostsEv l ↔ taOwnerFrom (O x.addr) evs x.addr = some x := by
  induction evs with
  | nil => intro l O hn _ hs; exact ⟨hn, hs⟩
  | cons eh r ih =>
    obtain ⟨e, h⟩ := eh
    intro l O hn hO hs
    refine ih (hostsEv l (e, h)) (fun a => if h.addr = a then taOwnerStep (O a) e h else O a) ?_ ?_ ?_
    · cases e with
      | add => exact cowAdd_inv l h hn
      | remove => exact cowRemove_inv l _ hn
      | _ => exact hn
    · intro a
      cases e with
      | add => exact ownerStep_key Host.addr (O a) .add h a (hO a)
      | remove => exact ownerStep_key Host.addr (O a) .remove h a (hO a)
      | _ => intro z hz; split at hz <;> exact hO a z hz
    · intro x
      cases e with
      | add => exact owner_add_keyed Host.addr _ _ h O (mem_cowAdd l h) hO hs x
      | remove => exact owner_remove_keyed Host.addr _ _ h O (mem_cowRemove l h.addr) hs x
      | _ => split <;> exact hs x

/-- a fold that follows the calls about the key of `x` and a fold that follows the calls about `x` itself stay related
when every call of the history about that key is a call about `x` -/
theorem track_collapse {σ τ κ : Type} [DecidableEq κ] (ix : Host → κ) (x : Host) (f : σ → Ev → Host → σ)
    (g : τ → Ev → τ) (R : σ → τ → Prop) (hstep : ∀ o s e, R o s → R (f o e x) (g s e)) (evs : List (Ev × Host))
    (hx : ∀ e ∈ evs, ix e.2 = ix x → e.2 = x) (o0 : σ) (s0 : τ) (h0 : R o0 s0) :
    R (evs.foldl (fun o e => if ix e.2 = ix x then f o e.1 e.2 else o) o0)
      (evs.foldl (fun s e => if e.2 = x then g s e.1 else s) s0) := by
  exact List.foldl_rel (r := R) h0 (fun e he o s h => by
    by_cases hk : ix e.2 = ix x
    · have hx' := hx e he hk
      rw [if_pos hk, if_pos hx', hx']
      exact hstep _ _ _ h
    · rw [if_neg hk, if_neg (fun he' : e.2 = x => hk (he' ▸ rfl))]
      exact h)

/-- a fold over a history in which no call is about `x` never comes to hold `x`, if a call can only put its own host -/
theorem track_absent {σ κ : Type} [DecidableEq κ] (ix : Host → κ) (k : κ) (x : Host) (f : σ → Ev → Host → σ)
    (P : σ → Prop) (hstep : ∀ o e h, h ≠ x → P o → P (f o e h)) (evs : List (Ev × Host))
    (hx : x ∉ evs.map (·.2)) (o0 : σ) (h0 : P o0) :
    P (evs.foldl (fun o e => if ix e.2 = k then f o e.1 e.2 else o) o0) :=
  evs.foldlRecOn _ h0 fun o h e he => by
    split
    · exact hstep _ _ _ (fun e' : e.2 = x => hx (e' ▸ List.mem_map_of_mem he)) h
    · exact h

theorem ownerStep_ne (x : Host) (o : Option Host) (e : Ev) (h : Host) (hne : h ≠ x) (ho : o ≠ some x) :
    ownerStep o e h ≠ some x := by
  cases e with
  | add | hup =>
    cases o with
    | none => exact fun h' => hne (Option.some.inj h')
    | some z => exact ho
  | remove | hdown => exact fun h' => nomatch h'

theorem taOwnerStep_ne (x : Host) (o : Option Host) (e : Ev) (h : Host) (hne : h ≠ x) (ho : o ≠ some x) :
    taOwnerStep o e h ≠ some x := by
  cases e with
  | add => exact ownerStep_ne x o .add h hne ho
  | remove => exact fun h' => nomatch h'
  | hup | hdown => exact ho

/-- hosts with pairwise different addresses: a host stands for its key iff the last call about it put it into the list -/
theorem ownerOf_noAlias (key : Host → Nat × Nat) (hkey : ∀ a b, key a = key b → a.addr = b.addr) (evs : List (Ev × Host))
    (hna : ∀ a ∈ evs.map (·.2), ∀ b ∈ evs.map (·.2), a.addr = b.addr → a = b) (x : Host) :
    ownerOf key evs (key x) = some x ↔ (statusOf evs x).inList = true := by
  by_cases hm : x ∈ evs.map (·.2)
  · have := track_collapse key x ownerStep Status.step (fun o s => o = if s.inList then some x else none)
      (fun o s e h => by subst h; cases e <;> cases s.inList <;> rfl)
      evs (fun e he hk => hna _ (List.mem_map_of_mem he) x hm (hkey _ _ hk)) none Status.init rfl
    rw [show ownerOf key evs (key x) = _ from this]
    exact Option.ite_none_right_eq_some.trans (and_iff_left rfl)
  · have h1 := statusOf_not_mem evs x hm
    have h2 := track_absent key (key x) x ownerStep (· ≠ some x) (ownerStep_ne x) evs hm none (fun h => nomatch h)
    rw [h1]
    exact ⟨fun h => absurd h h2, fun h => nomatch h⟩

/-- the same for the token-aware policy's own list: a host stands for its address iff it was added and not removed since -/
theorem taOwnerOf_noAlias (evs : List (Ev × Host))
    (hna : ∀ a ∈ evs.map (·.2), ∀ b ∈ evs.map (·.2), a.addr = b.addr → a = b) (x : Host) :
    taOwnerOf evs x.addr = some x ↔ (statusOf evs x).known = true := by
  by_cases hm : x ∈ evs.map (·.2)
  · have := track_collapse Host.addr x taOwnerStep Status.step (fun o s => o = if s.known then some x else none)
      (fun o s e h => by subst h; obtain ⟨kn, _⟩ := s; cases e <;> cases kn <;> rfl)
      evs (fun e he hk => hna _ (List.mem_map_of_mem he) x hm hk) none Status.init rfl
    rw [show taOwnerOf evs x.addr = _ from this]
    exact Option.ite_none_right_eq_some.trans (and_iff_left rfl)
  · have h1 := statusOf_not_mem evs x hm
    have h2 := track_absent Host.addr x.addr x taOwnerStep (· ≠ some x) (taOwnerStep_ne x) evs hm none (fun h => nomatch h)
    rw [h1]
    exact ⟨fun h => absurd h h2, fun h => nomatch h⟩

end C11
