import Proofs.C18Conn
import Proofs.C18Heap
import Proofs.C18SnappyStream
import Proofs.C18Lz4Stream
import Model.CompressRecv
import Model.CompressSend
/-!
# C18 — compression is transparent and only used as negotiated (property theorems)

Model: `Model/Compress.lean` (frame.go newFramer/writeHeader/setLength/finish/readHeader/readFrame,
the OPTIONS/STARTUP builders' `&^ flagCompress`, lz4/lz4.go, conn.go startup negotiation);
`Model/CompressSend.lean`, `Model/CompressRecv.lean` (Conn.exec / Conn.recv around the framer);
`Model/CompressLz4Block.lean`, `Model/CompressSnappy.lean` (the two block formats);
`Model/CompressHeap.lean` (who owns the buffers that cross the compressor boundary).
The block codecs (snappy, pierrec/lz4) are parameters; `Codec.RoundTrips` / `BlockCodec.RoundTrips`
is the trusted-base hypothesis, sampled by `harness/cmd/c18` on every run.
Helper modules: `Proofs/C18Frame.lean` (the frame, written and read), `C18Conn` (what a connection does around the framer),
`C18Lz4Stream`, `C18SnappyStream` (the wrapper and the two block formats), `C18Heap` (the buffers).
-/
namespace C18
open Compress

/-- **Transparency.** For every framer (any version 1..5, any flag byte), any compressor that
    round-trips, every header-flag byte, opcode, stream and every body: if the frame is built, a
    reader with the same compressor gets back exactly the body, and the header's length field is the
    length of what is on the wire after the header (the compressed length when compressed). -/
theorem C18_transparent_at (f : Framer) (hv : ValidProto f)
    (fl op : UInt8) (s : Int) (body wire : Bytes)
    (hc : ∀ c z, f.comp = some c → c.enc body = .ok z → c.dec z = .ok body)
    (hb : f.build fl op s body = .ok wire)
    (hsz : wire.length - f.headSize ≤ maxFrameSize) :
    f.decode wire = .ok (f.headOf fl op s (wire.length - f.headSize), body) :=
  f.decode_build hv fl op s body wire hb hc

/-- **Transparency** in the form with the trusted-base hypothesis `Codec.RoundTrips` (all bodies). -/
theorem C18_transparent (f : Framer) (hv : ValidProto f)
    (hc : ∀ c, f.comp = some c → c.RoundTrips)
    (fl op : UInt8) (s : Int) (body wire : Bytes)
    (hb : f.build fl op s body = .ok wire)
    (hsz : wire.length - f.headSize ≤ maxFrameSize) :
    f.decode wire = .ok (f.headOf fl op s (wire.length - f.headSize), body) :=
  C18_transparent_at f hv fl op s body wire (fun c z hcomp henc => hc c hcomp body z henc) hb hsz

/-- non-vacuity: a compressor that prepends one byte, version 4, QUERY opcode, 3-byte body -/
example :
    let c : Codec := { enc := fun x => .ok (0xAA :: x), dec := fun y => .ok (y.drop 1) }
    let f := newFramer (some c) 4
    (f.build f.flags 7 1 [1, 2, 3]).toOption = some [4, 1, 0, 1, 7, 0, 0, 0, 4, 0xAA, 1, 2, 3] := by
  decide +kernel

/-- **Flag ⇔ compressed, OPTIONS/STARTUP never.** For every framer flag byte (tracing, custom
    payload, beta … in any combination), every request kind, stream and body: the compress bit on the
    wire is set iff the framer's bit is set and the request is neither STARTUP nor OPTIONS; when it
    is set the bytes after the header are exactly `Encode(body)`, when it is clear they are exactly
    the body. -/
theorem C18_flag_iff (f : Framer) (r : Req) (s : Int) (body wire : Bytes)
    (h : f.buildReq r s body = .ok wire) :
    ((wire.getD 1 0 &&& flagCompress = flagCompress) ↔
        (f.flags &&& flagCompress = flagCompress ∧ Req.compressible r)) ∧
    ((wire.getD 1 0 &&& flagCompress = flagCompress) →
        ∃ c z, f.comp = some c ∧ c.enc body = .ok z ∧ wire.drop f.headSize = z) ∧
    (¬ (wire.getD 1 0 &&& flagCompress = flagCompress) → wire.drop f.headSize = body) := by
  have hB := f.builtReq r s body
  rw [h] at hB
  cases hB <;> rw [Framer.frame_flag, Framer.frame_drop] <;> refine ⟨headerFlags_bit f r, ?_⟩
  case plain _ hfl => exact ⟨fun hy => absurd hy hfl, fun _ => rfl⟩
  case packed c z _ hfl hcomp henc _ => exact ⟨fun _ => ⟨c, z, hcomp, henc, rfl⟩, fun hn => absurd hfl hn⟩

/-- OPTIONS and STARTUP are never compressed, whatever the framer's flags and compressor. -/
theorem C18_options_startup_plain (f : Framer) (r : Req) (hr : r = .startup ∨ r = .options)
    (s : Int) (body wire : Bytes) (h : f.buildReq r s body = .ok wire) :
    wire.getD 1 0 &&& flagCompress ≠ flagCompress ∧ wire.drop f.headSize = body := by
  have ⟨h1, _, h3⟩ := C18_flag_iff f r s body wire h
  have hn : ¬ (wire.getD 1 0 &&& flagCompress = flagCompress) := fun hb => not_compressible hr (h1.1 hb).2
  exact ⟨hn, h3 hn⟩

example :
    let c : Codec := { enc := fun x => .ok (0xAA :: x), dec := fun y => .ok (y.drop 1) }
    ((newFramer (some c) 4).buildReq .startup 0 [9]).toOption = some [4, 0, 0, 0, 1, 0, 0, 0, 1, 9] ∧
    ((newFramer (some c) 4).buildReq .query 0 [9]).toOption = some [4, 1, 0, 0, 7, 0, 0, 0, 2, 0xAA, 9] := by
  decide +kernel

/-- the sender-side panic ("compress flag set with no compressor") is unreachable for framers made
    by `newFramer`, whatever extra flag bits (tracing 0x02, custom payload 0x04, …) are or-ed in later -/
theorem C18_no_finish_panic (comp : Option Codec) (version extra : UInt8) (hx : extra &&& 1 = 0)
    (r : Req) (s : Int) (body : Bytes) :
    ({ newFramer comp version with flags := (newFramer comp version).flags ||| extra } : Framer).buildReq r s body
      ≠ .error .panic := by
  intro h
  have hB := (connFramer comp version extra).builtReq r s body
  -- the record update in the statement is `connFramer comp version extra` spelt out
  rw [show (connFramer comp version extra).buildReq r s body = .error .panic from h] at hB
  cases hB with
  | panic _ hbit hn =>
    have hn : comp = none := hn
    subst hn
    exact connFramer_none_bit version extra hx ((headerFlags_bit (connFramer none version extra) r).1 hbit).1

/-- "every body is delivered" with the compressor's hypotheses at THIS body only: Encode answers and
    Decode inverts that answer -/
theorem delivered_at (comp : Option Codec) (version extra : UInt8) (hx : extra &&& 1 = 0)
    (hv : ValidProto (connFramer comp version extra))
    (r : Req) (s : Int) (body : Bytes)
    (hc : ∀ c, comp = some c → ∃ z, c.enc body = .ok z ∧ c.dec z = .ok body)
    (hsz : 9 + body.length ≤ maxFrameSize) :
    (∃ wire, (connFramer comp version extra).buildReq r s body = .ok wire ∧
      (connFramer comp version extra).decode wire =
        .ok ((connFramer comp version extra).headOf (r.headerFlags (connFramer comp version extra)) r.opcode s
              (wire.length - (connFramer comp version extra).headSize), body)) ∨
    ((connFramer comp version extra).buildReq r s body = .error .tooBig ∧
      ∃ c z, comp = some c ∧ c.enc body = .ok z ∧
        maxFrameSize < (connFramer comp version extra).headSize + z.length) := by
  have hhs := (connFramer comp version extra).headSize_le
  have hB := (connFramer comp version extra).builtReq r s body
  generalize hb : (connFramer comp version extra).buildReq r s body = res at hB
  cases hB with
  | tooBig hbig => omega
  | panic => exact absurd hb (C18_no_finish_panic comp version extra hx r s body)
  | codec c u _ _ hcc hu =>
    obtain ⟨y, hy, _⟩ := hc c hcc
    rw [hy] at hu; cases hu
  | expanded c z _ _ hcc hez hbig => exact .inr ⟨rfl, c, z, hcc, hez, hbig⟩
  | plain | packed =>
    refine .inl ⟨_, rfl, Framer.decode_build _ hv _ _ s body _ hb fun c z hcc hez => ?_⟩
    obtain ⟨y, hy, hd⟩ := hc c hcc
    rw [hy] at hez; cases hez; exact hd

/-- **Every body is delivered, or the sender is told** (FULL statement, after the repair of KF-C18-2:
    props/C18.fix-KF-C18-2.diff). With a compressor that round-trips and whose Encode does not fail (or
    with none), on a framer the connection makes, for every request kind, stream and every body that
    fits a frame: EITHER the request is built (no error, no panic) and a reader with the same compressor
    gets back exactly the body, OR the compressor expanded the body over the limit and the sender gets
    ErrFrameTooBig — nothing in between (no frame that declares more than the limit). -/
theorem C18_delivered (comp : Option Codec) (version extra : UInt8) (hx : extra &&& 1 = 0)
    (hv : ValidProto (connFramer comp version extra))
    (hc : ∀ c, comp = some c → c.RoundTrips ∧ c.Total)
    (r : Req) (s : Int) (body : Bytes)
    (hsz : 9 + body.length ≤ maxFrameSize) :
    (∃ wire, (connFramer comp version extra).buildReq r s body = .ok wire ∧
      (connFramer comp version extra).decode wire =
        .ok ((connFramer comp version extra).headOf (r.headerFlags (connFramer comp version extra)) r.opcode s
              (wire.length - (connFramer comp version extra).headSize), body)) ∨
    ((connFramer comp version extra).buildReq r s body = .error .tooBig ∧
      ∃ c z, comp = some c ∧ c.enc body = .ok z ∧
        maxFrameSize < (connFramer comp version extra).headSize + z.length) :=
  delivered_at comp version extra hx hv r s body
    (fun c h => let ⟨z, hz⟩ := (hc c h).2 body; ⟨z, hz, (hc c h).1 body z hz⟩) hsz

example :
    let c : Codec := { enc := fun x => .ok (0xAA :: x), dec := fun y => .ok (y.drop 1) }
    ((connFramer (some c) 4 2).buildReq .query 1 [1, 2, 3]).toOption = some [4, 3, 0, 1, 7, 0, 0, 0, 4, 0xAA, 1, 2, 3] ∧
    ((connFramer (some c) 4 2).decode [4, 3, 0, 1, 7, 0, 0, 0, 4, 0xAA, 1, 2, 3]).toOption =
      some ({ version := 4, flags := 3, stream := 1, op := 7, length := 4 }, [1, 2, 3]) := by
  decide +kernel

/-- **The destination lz4.go allocates is large enough.** `make([]byte, CompressBlockBound(len+4))`
    minus the 4 prefix bytes is never below `CompressBlockBound(len)`: the block encoder is always
    called inside its documented no-failure domain. (An input-sized first attempt, a bound computed
    after slicing, a hand-made `len + len/255` … all break exactly this inequality.) -/
theorem C18_lz4_dst_bound (n : Nat) : blockBound n ≤ lz4DstLen n := by
  unfold lz4DstLen blockBound; omega

/-- **lz4 Encode never fails** for any body, given the documented contract of the block encoder. -/
theorem C18_lz4_encode_total (b : BlockCodec) (ht : b.TotalAtBound) (x : Bytes) :
    ∃ z, b.encB x (lz4DstLen x.length) = .ok z ∧ lz4Encode b x = .ok (be32 x.length ++ z) := by
  obtain ⟨z, hz⟩ := ht x (lz4DstLen x.length) (C18_lz4_dst_bound x.length)
  exact ⟨z, hz, by simp [lz4Encode, hz]⟩

/-- **lz4 length prefix.** Given the block codec round-trips, the wrapper round-trips for every
    body shorter than 2³² (the frame size limit is 2²⁸), including the empty body. -/
theorem C18_lz4_prefix (b : BlockCodec) (hb : b.RoundTrips) (x y : Bytes) (hx : x.length < 4294967296)
    (he : lz4Encode b x = .ok y) : lz4Decode b y = .ok x := by
  obtain ⟨z, hz, rfl⟩ := lz4Encode_ok b x y he
  exact lz4Decode_be32 b x z hx fun hne => hb x _ z hne (C18_lz4_dst_bound _) hz

/-- the lz4 wrapper as a gocql Compressor satisfies the transparency hypothesis for bodies below 2³² -/
theorem C18_lz4_codec (b : BlockCodec) (hb : b.RoundTrips) (x y : Bytes) (hx : x.length < 4294967296)
    (he : (lz4 b).enc x = .ok y) : (lz4 b).dec y = .ok x := C18_lz4_prefix b hb x y hx he

/-- … and the totality hypothesis -/
theorem C18_lz4_codec_total (b : BlockCodec) (ht : b.TotalAtBound) : (lz4 b).Total := fun x =>
  let ⟨_, _, h⟩ := C18_lz4_encode_total b ht x
  ⟨_, h⟩

/-- **What an independent reader of Cassandra's lz4 framing sees** (op `lz4rt`): for every body
    below 2³² Encode succeeds, the first four bytes are the big-endian body length, the rest is a
    block that the block decoder (called directly, with a destination of that length) turns back
    into the body (a reader does not call it for length 0), and the wrapper's own Decode agrees. -/
theorem C18_lz4_delivered (b : BlockCodec) (hb : b.RoundTrips) (ht : b.TotalAtBound) (x : Bytes)
    (hx : x.length < 4294967296) :
    ∃ y, lz4Encode b x = .ok y ∧ 4 ≤ y.length ∧ lz4Prefix y = x.length ∧
         (x ≠ [] → b.decB (y.drop 4) x.length = .ok x) ∧ lz4Decode b y = .ok x := by
  obtain ⟨z, hz, he⟩ := C18_lz4_encode_total b ht x
  exact ⟨_, he, by simp [be32_length], lz4Prefix_be32 _ hx z,
    fun hne => hb x _ z hne (C18_lz4_dst_bound x.length) hz, C18_lz4_prefix b hb x _ hx he⟩

/-- FULL STATEMENT ("Encode never fails, whatever buffer strategy") does not hold for a wrapper that
    hands the block encoder LESS than the bound: kernel-checked witness of the library behaviour the
    seeded `len(data)`-sized first attempt ran into — a block encoder that honours its contract
    (total and round-tripping at the bound) yet reports a short destination as an error. -/
theorem C18_cex_short_dst_fails :
    let b : BlockCodec := { encB := fun x n => if blockBound x.length ≤ n then .ok x else .error (),
                            decB := fun z _ => .ok z }
    b.RoundTrips ∧ b.TotalAtBound ∧ b.encB [1, 2, 3] 3 = .error () := by
  refine ⟨?_, ?_, by simp [blockBound]⟩
  · intro x n z _ hn h; simp [hn] at h; simp [h]
  · intro x n hn; exact ⟨x, by simp [hn]⟩

/-- empty body: prefix 00000000, decoded without calling the block decoder -/
theorem C18_lz4_empty (b : BlockCodec) (z : Bytes) (h : b.encB [] (lz4DstLen 0) = .ok z) :
    lz4Encode b [] = .ok ([0, 0, 0, 0] ++ z) ∧ lz4Decode b ([0, 0, 0, 0] ++ z) = .ok [] := by
  simp [lz4Encode, lz4Decode, lz4Prefix, h, be32, readBE32]

/-- a prefix shorter than 4 bytes is an error -/
theorem C18_lz4_short (b : BlockCodec) (d : Bytes) (h : d.length < 4) : lz4Decode b d = .error () := by
  simp [lz4Decode, h]

/-- a failing block decode is an error (never a crash, never silently accepted) -/
theorem C18_lz4_corrupt (b : BlockCodec) (d : Bytes) (h4 : 4 ≤ d.length)
    (hn : lz4Prefix d ≠ 0) (hd : b.decB (d.drop 4) (lz4Prefix d) = .error ()) :
    lz4Decode b d = .error () := by
  have : ¬ d.length < 4 := by omega
  simp [lz4Decode, this, hn, hd]

/-- why the bound: the prefix is `uint32(len)`, so a body of exactly 2³² bytes would decode to the
    empty body. Unreachable through frames (`finish` refuses buffers above 2²⁸ bytes). -/
theorem C18_lz4_wraps (b : BlockCodec) (x y : Bytes) (hx : x.length = 4294967296)
    (he : lz4Encode b x = .ok y) : lz4Decode b y = .ok [] := by
  obtain ⟨z, _, rfl⟩ := lz4Encode_ok b x y he
  simp [lz4Decode, lz4Prefix, be32, hx, readBE32]

example :
    let b : BlockCodec := { encB := fun x _ => .ok (0x55 :: x), decB := fun y n => .ok ((y.drop 1).take n) }
    (lz4Encode b [7, 8]).toOption = some [0, 0, 0, 2, 0x55, 7, 8] ∧
    (lz4Decode b [0, 0, 0, 2, 0x55, 7, 8]).toOption = some [7, 8] ∧
    (lz4Decode b [0, 0, 0]).toOption = none := by decide +kernel

/-- **The declared length is checked** (after the repair of KF-C18-1, props/C18.fix-KF-C18-1.diff): for
    every block codec and every input, whatever lz4 Decode returns has exactly the length its 4-byte
    prefix declares — a body whose prefix over- or under-declares is an error, never a short result.
    (Before the repair: prefix 5, one byte back, no error.) -/
theorem C18_lz4_length_checked (b : BlockCodec) (d x : Bytes) (h : lz4Decode b d = .ok x) :
    x.length = lz4Prefix d := by
  revert h
  -- the five ways through Decode; two of them answer `ok`
  fun_cases lz4Decode b d <;> intro h <;> cases h
  · exact (‹lz4Prefix d = 0›).symm
  · assumption

/-- a block that decodes to fewer bytes than declared is an error; one that decodes to the declared length
    is accepted -/
example :
    let b : BlockCodec := { encB := fun x _ => .ok x, decB := fun src n => .ok (src.take n) }
    (lz4Decode b [0, 0, 0, 5, 0x41]).toOption = none ∧ (lz4Decode b [0, 0, 0, 1, 0x41]).toOption = some [0x41] := by decide +kernel

/-! ### lz4: the block format as a concrete block codec (Model/CompressLz4Block.lean) -/

/-- **The LZ4 block format satisfies both block-codec hypotheses, for every body**: the literal-only
    block is never longer than `CompressBlockBound` (so it fits every destination lz4.go allocates),
    and the format's decoder, given a destination of exactly the body's length, gives the body back.
    `BlockCodec.RoundTrips` / `TotalAtBound` are therefore satisfiable by the real wire format. -/
theorem C18_lz4_format_codec : lz4Ref.RoundTrips ∧ lz4Ref.TotalAtBound := by
  constructor
  · intro x n z hx _ he
    simp only [lz4Ref] at he
    split at he
    · injection he with he; subst he; exact lz4LitBlock_decodes x
    · cases he
  · intro x n hn
    have := lz4LitBlock_length x
    exact ⟨lz4LitBlock x, by simp only [lz4Ref]; rw [if_pos (by omega)]⟩

/-- **Cassandra's lz4 framing end to end, no codec hypothesis**: for every body below 2³² bytes the
    wrapper of lz4/lz4.go around the LZ4 block format encodes (prefix = big-endian length, then ONE
    block), an independent reader of that framing gets the body, and the wrapper's own Decode does. -/
theorem C18_lz4_format_delivered (x : Bytes) (hx : x.length < 4294967296) :
    ∃ y, lz4Encode lz4Ref x = .ok y ∧ 4 ≤ y.length ∧ lz4Prefix y = x.length ∧
         (x ≠ [] → lz4BlockDecode (y.drop 4) x.length = .ok x) ∧ lz4Decode lz4Ref y = .ok x :=
  C18_lz4_delivered lz4Ref C18_lz4_format_codec.1 C18_lz4_format_codec.2 x hx

example : (lz4Encode lz4Ref [7, 8, 9]).toOption = some [0, 0, 0, 3, 0x30, 7, 8, 9] ∧
    (lz4Decode lz4Ref [0, 0, 0, 3, 0x30, 7, 8, 9]).toOption = some [7, 8, 9] ∧
    (lz4Decode lz4Ref [0, 0, 0, 0]).toOption = some [] := by decide +kernel

/-- **The LZ4 block decoder inverts EVERY encoder of the format.** For every list of sequences that
    is well-formed (matches of at least 4 bytes from 1..65535 bytes back, never from before the start of
    the output; literal and match lengths of any size, written as nibble + 255-extension bytes) and any
    last literals — whatever matcher chose them —: the block decodes, into any destination that is large
    enough, to the LZ77 meaning of the sequences; so through lz4.go's wrapper a body is delivered as soon
    as the sequences CompressBlock emits MEAN the body (second part: prefix = body length, one block). -/
theorem C18_lz4_decodes_any_stream (qs : List Lz4Sq) (last : Bytes) (hwf : lz4WF 0 qs) :
    (∀ n, (lz4Interp qs last #[]).size ≤ n →
        lz4BlockDecode (lz4Ser qs last) n = .ok (lz4Interp qs last #[]).toList) ∧
    ∀ x : Bytes, (lz4Interp qs last #[]).toList = x → x.length < 4294967296 →
      lz4Decode lz4Ref (be32 x.length ++ lz4Ser qs last) = .ok x := by
  refine ⟨fun n hn => lz4BlockDecode_stream qs last n hwf hn, fun x hx hlen =>
    lz4Decode_be32 lz4Ref x _ hlen fun _ => ?_⟩
  show lz4BlockDecode (lz4Ser qs last) x.length = .ok x
  rw [lz4BlockDecode_stream qs last x.length hwf (by rw [← hx]; simp), hx]

/-- non-vacuity: literals "AB", an overlapping match (offset 1, length 6), last literals "C" -/
example :
    let qs : List Lz4Sq := [{ lits := [0x41, 0x42], offset := 1, mlen := 6 }]
    lz4WF 0 qs ∧ lz4Ser qs [0x43] = [0x22, 0x41, 0x42, 0x01, 0x00, 0x10, 0x43] ∧
    (lz4Interp qs [0x43] #[]).toList = [0x41, 0x42, 0x42, 0x42, 0x42, 0x42, 0x42, 0x42, 0x43] ∧
    (lz4Decode lz4Ref ([0, 0, 0, 9] ++ lz4Ser qs [0x43])).toOption
      = some [0x41, 0x42, 0x42, 0x42, 0x42, 0x42, 0x42, 0x42, 0x43] := by
  refine ⟨by simp [lz4WF, Lz4Sq.wf], by decide, by decide, by decide⟩

/-- the format's decoder on matches: a literal then an OVERLAPPING match (offset 1: a run), then the
    last literals; and the errors of the format: offset 0, an offset before the start of the output, a
    match past the destination, literals past the input, a block that stops right after a match with no
    last token, a length extension that never ends -/
theorem C18_lz4_format_examples :
    (lz4BlockDecode [0x11, 0x41, 0x01, 0x00, 0x10, 0x42] 7).toOption = some [0x41, 0x41, 0x41, 0x41, 0x41, 0x41, 0x42] ∧
    (lz4BlockDecode [0x11, 0x41, 0x00, 0x00, 0x10, 0x42] 7).toOption = none ∧
    (lz4BlockDecode [0x11, 0x41, 0x02, 0x00, 0x10, 0x42] 7).toOption = none ∧
    (lz4BlockDecode [0x11, 0x41, 0x01, 0x00, 0x10, 0x42] 6).toOption = none ∧
    (lz4BlockDecode [0x30, 0x41] 3).toOption = none ∧
    (lz4BlockDecode [0x11, 0x41, 0x01, 0x00] 7).toOption = none ∧
    (lz4BlockDecode [0xF0, 0xFF, 0xFF] 1000).toOption = none := by decide +kernel

/-- the one ending on which decoders differ: a LAST sequence without literals (token `00` right after a
    match, or alone). The format's decoder accepts it (the last token is there, its literals are empty); pierrec's
    amd64 decoder answers an error, its pure-Go decoder accepts (props `partial`; op `lz4blk` skips them). -/
example : (lz4BlockDecode [0x11, 0x41, 0x01, 0x00, 0x00] 6).toOption = some [0x41, 0x41, 0x41, 0x41, 0x41, 0x41] ∧
    (lz4BlockDecode [0x00] 6).toOption = some [] := by decide +kernel

/-- FULL STATEMENT ("a corrupt compressed body yields an error") for the detectable corruption "match
    offset 0": holds for the format's decoder — kernel-checked on the block that pierrec/lz4 v4.1.8's
    amd64 decoder ACCEPTS (it copies 8 not-yet-written destination bytes: zeros through lz4.go);
    replay input of the proposed finding KF-C18-3 (op `lz4dec … err`). -/
theorem C18_cex_lz4_zero_offset :
    (lz4Decode lz4Ref [0, 0, 0, 0x22, 0xe4, 0x41, 0x42, 0x43, 0x44, 0x45, 0x46, 0x47, 0x48, 0x49, 0x4a, 0x4b, 0x4c, 0x4d, 0x4e,
      0x00, 0x00, 0xc0, 0x50, 0x51, 0x52, 0x53, 0x54, 0x55, 0x56, 0x57, 0x58, 0x59, 0x5a, 0x5b]).toOption = none ∧
    (lz4Decode lz4Ref [0, 0, 0, 0x22, 0xe4, 0x41, 0x42, 0x43, 0x44, 0x45, 0x46, 0x47, 0x48, 0x49, 0x4a, 0x4b, 0x4c, 0x4d, 0x4e,
      0x01, 0x00, 0xc0, 0x50, 0x51, 0x52, 0x53, 0x54, 0x55, 0x56, 0x57, 0x58, 0x59, 0x5a, 0x5b]).toOption
      = some [0x41, 0x42, 0x43, 0x44, 0x45, 0x46, 0x47, 0x48, 0x49, 0x4a, 0x4b, 0x4c, 0x4d, 0x4e,
              0x4e, 0x4e, 0x4e, 0x4e, 0x4e, 0x4e, 0x4e, 0x4e,
              0x50, 0x51, 0x52, 0x53, 0x54, 0x55, 0x56, 0x57, 0x58, 0x59, 0x5a, 0x5b] := by decide +kernel

/-- the format's decoder may legitimately produce fewer bytes than the destination holds — lz4.go
    refuses that short result (`C18_lz4_length_checked`) -/
example : (lz4BlockDecode [0x10, 0x41] 9).toOption = some [0x41] ∧
    (lz4Decode lz4Ref [0, 0, 0, 9, 0x10, 0x41]).toOption = none := by decide +kernel

/-! ### snappy: the block format as a second concrete codec (Model/CompressSnappy.lean) -/

/-- **The declared length is checked.** Whatever bytes arrive: if the snappy decoder accepts them, the
    body it returns has exactly the length the block's uvarint prefix declares (at most 2³²-1) — a body
    whose prefix over- or under-declares is an error, never a short or padded result. (The lz4 wrapper
    has it since the repair of KF-C18-1: `C18_lz4_length_checked`.) -/
theorem C18_snappy_length_checked (src b : Bytes) (h : snappyDecode src = .ok b) :
    ∃ rest, uvarint src = some (b.length, rest) ∧ b.length ≤ 0xffffffff := by
  revert h
  fun_cases snappyDecode src <;> intro h <;> cases h
  rename_i n rest hlen o hl
  rw [Array.length_toList, snapLoop_size _ _ _ _ _ hl]
  revert hlen
  fun_cases snappyDecodedLen src <;> intro hlen <;> cases hlen
  exact ⟨rest, ‹_›, by omega⟩

/-- a block without a complete length prefix is an error (empty input; a prefix that never ends) -/
theorem C18_snappy_short : (snappyDecode []).toOption = none ∧ (snappyDecode [0x80]).toOption = none ∧
    (snappyDecode [0xff, 0xff, 0xff, 0xff, 0xff, 0xff, 0xff, 0xff, 0xff, 0xff, 0x01]).toOption = none ∧
    (snappyDecode [0x80, 0x80, 0x80, 0x80, 0x10]).toOption = none := by decide +kernel

/-- corrupt blocks are errors: declared 5 but one literal byte; declared 1 but two literal bytes; a
    literal that runs past the input; a copy with offset 0; a copy reaching before the start of the
    output; a copy running past the declared length; a 2-byte literal length cut short -/
theorem C18_snappy_corrupt :
    (snappyDecode [5, 0x00, 0x41]).toOption = none ∧
    (snappyDecode [1, 0x04, 0x41, 0x42]).toOption = none ∧
    (snappyDecode [3, 0x08, 0x41]).toOption = none ∧
    (snappyDecode [5, 0x00, 0x41, 0x01, 0x00]).toOption = none ∧
    (snappyDecode [5, 0x00, 0x41, 0x01, 0x02]).toOption = none ∧
    (snappyDecode [3, 0x00, 0x41, 0x01, 0x01]).toOption = none ∧
    (snappyDecode [9, 0xf4, 0x01]).toOption = none := by decide +kernel

/-- **The snappy decoder inverts EVERY encoder of the format.** For every list of elements that is
    well-formed (literals of 1..65536 bytes; copies of 1..64 bytes from 1..65535 bytes back, never from
    before the start of the output) — whatever matcher chose them —: the block `uvarint(length) ‖`
    the elements' bytes (shortest literal header, the 1-byte-offset copy where it applies: exactly what
    golang/snappy's emitLiteral / emitCopy write) decodes to the LZ77 meaning of the elements. So an
    encoder is transparent as soon as the elements it emits MEAN its input (second part) — the decoder
    side of the round-trip hypothesis holds for all encoders at once. -/
theorem C18_snappy_decodes_any_stream (es : List SnapEl) (hwf : snapWF 0 es)
    (hlen : (snapInterp es #[]).size ≤ 0xffffffff) :
    snappyDecode (putUvarint 4 (snapInterp es #[]).size ++ snapSer es) = .ok (snapInterp es #[]).toList ∧
    ∀ x : Bytes, (snapInterp es #[]).toList = x →
      snappyDecode (putUvarint 4 x.length ++ snapSer es) = .ok x := by
  have h := snappyDecode_stream es hwf hlen
  refine ⟨h, fun x hx => ?_⟩
  have hl : x.length = (snapInterp es #[]).size := by rw [← hx]; simp
  rw [hl, h, hx]

/-- non-vacuity: a literal, an overlapping 1-byte-offset copy (a run), a 2-byte-offset copy -/
example :
    let es : List SnapEl := [.lit [0x41, 0x42], .copy 1 4, .copy 5 3]
    snapWF 0 es ∧ snapSer es = [0x04, 0x41, 0x42, 0x01, 0x01, 0x0a, 0x05, 0x00] ∧
    (snapInterp es #[]).toList = [0x41, 0x42, 0x42, 0x42, 0x42, 0x42, 0x42, 0x42, 0x42] ∧
    (snappyDecode ([9] ++ snapSer es)).toOption = some [0x41, 0x42, 0x42, 0x42, 0x42, 0x42, 0x42, 0x42, 0x42] := by
  refine ⟨by simp [snapWF, SnapEl.wf, SnapEl.size], by decide, by decide, by decide⟩

/-- non-vacuity of the decoder: a literal, then an OVERLAPPING copy (offset 1, length 4: a run), then a
    2-byte-offset copy of the first four bytes -/
example : (snappyDecode [9, 0x00, 0x41, 0x01, 0x01, 0x0e, 0x05, 0x00]).toOption
    = some [0x41, 0x41, 0x41, 0x41, 0x41, 0x41, 0x41, 0x41, 0x41] := by
  decide +kernel

/-- **The snappy format round-trips for every body below 2³² bytes**: the literal-only encoder of the
    format, decoded by the format's decoder, gives the body back — for all bodies, no hypothesis. So
    the transparency hypothesis `Codec.RoundTrips` is satisfiable by a real wire format, and Encode is
    total on that domain. -/
theorem C18_snappy_format_roundtrip (x : Bytes) (hx : x.length ≤ 0xffffffff) :
    (∃ y, snappyRef.enc x = .ok y) ∧ ∀ y, snappyRef.enc x = .ok y → snappyRef.dec y = .ok x := by
  have he : snappyRef.enc x = .ok (snappyLit x) := if_pos hx
  refine ⟨⟨_, he⟩, fun y hy => ?_⟩
  rw [he] at hy; cases hy
  exact snappyLit_decodes x hx

example : (snappyRef.enc [1, 2, 3]).toOption = some [3, 8, 1, 2, 3] ∧
    (snappyRef.dec [3, 8, 1, 2, 3]).toOption = some [1, 2, 3] := by decide +kernel

/-- **End to end with a concrete format, no codec hypothesis.** On a connection whose compressor is the
    snappy format, for every request kind, version 1..5, flag bits, stream and EVERY body that fits a
    frame (compressed form included): the request is built and the reader gets back exactly the body. -/
theorem C18_snappy_format_delivered (version extra : UInt8) (hx : extra &&& 1 = 0)
    (hv : ValidProto (connFramer (some snappyRef) version extra))
    (r : Req) (s : Int) (body : Bytes)
    (hsz : 9 + body.length ≤ maxFrameSize) (hz : 9 + (snappyLit body).length ≤ maxFrameSize) :
    ∃ wire, (connFramer (some snappyRef) version extra).buildReq r s body = .ok wire ∧
      (connFramer (some snappyRef) version extra).decode wire =
        .ok ((connFramer (some snappyRef) version extra).headOf
              (r.headerFlags (connFramer (some snappyRef) version extra)) r.opcode s
              (wire.length - (connFramer (some snappyRef) version extra).headSize), body) := by
  have hlen : body.length ≤ 0xffffffff := by unfold maxFrameSize at hsz; omega
  have henc : snappyRef.enc body = .ok (snappyLit body) := if_pos hlen
  rcases delivered_at (some snappyRef) version extra hx hv r s body
    (fun c h => by cases h; exact ⟨_, henc, snappyLit_decodes body hlen⟩) hsz with h | ⟨_, c, z, hc, hez, hbig⟩
  · exact h
  · cases hc
    rw [henc] at hez; cases hez
    have := (connFramer (some snappyRef) version extra).headSize_le
    omega

example : ((connFramer (some snappyRef) 4 0).buildReq .query 1 [7, 7, 7]).toOption
    = some [4, 1, 0, 1, 7, 0, 0, 0, 5, 3, 8, 7, 7, 7] := by decide +kernel

/-! ### protocol v5: what is sent

gocql at this revision does NOT implement the v5 framing of Cassandra 4 (after STARTUP: segments of at
most 128 KiB, each with a CRC24-protected header and a CRC32 trailer, compression per SEGMENT and the
envelope's compress bit unused). FULL STATEMENT of what it sends instead, for all inputs: one
v3/v4-style envelope — 9 header bytes with version byte 5, the BETA bit 0x10 and (compressor
negotiated, kind not STARTUP/OPTIONS) the compress bit 0x01 in the flags byte, a 4-byte length, then
the WHOLE body as one compressor block — no segment header, no checksum, no 128 KiB split. -/

/-- **v5 frames are legacy envelopes.** For every compressor, flag bits, request kind, stream and body
    on a version-5 framer: the bytes are `05 ‖ flags ‖ stream(2) ‖ opcode ‖ be32(|payload|) ‖ payload`
    with the beta bit set, payload = Encode(body) as ONE block when the compress bit is set and the body
    itself otherwise; nothing precedes or follows. -/
theorem C18_v5_legacy_envelope (comp : Option Codec) (extra : UInt8) (r : Req) (s : Int) (body wire : Bytes)
    (h : (connFramer comp 5 extra).buildReq r s body = .ok wire) :
    ∃ fl payload,
      wire = [5, fl, byteOfInt (s / 256), byteOfInt s, r.opcode] ++ be32 payload.length ++ payload ∧
      fl &&& 0x10 = 0x10 ∧
      wire.length = 9 + payload.length ∧
      ((fl &&& flagCompress = flagCompress ∧ ∃ c, comp = some c ∧ c.enc body = .ok payload) ∨
       (fl &&& flagCompress ≠ flagCompress ∧ payload = body)) := by
  have hf : (connFramer comp 5 extra).flags &&& 0x10 = 0x10 := or_or_and_self _ extra 0x10
  have hfl16 : (r.headerFlags (connFramer comp 5 extra)) &&& 0x10 = 0x10 := by
    cases r <;> simp only [Req.headerFlags, and_and_of_and_eq (show (0xFE : UInt8) &&& 0x10 = 0x10 by decide)] <;> exact hf
  have hB := (connFramer comp 5 extra).builtReq r s body
  rw [h] at hB
  cases hB with
  | plain _ hfl => exact ⟨_, body, rfl, hfl16, Framer.frame_length .., .inr ⟨hfl, rfl⟩⟩
  | packed c z _ hfl hcomp henc _ => exact ⟨_, z, rfl, hfl16, Framer.frame_length .., .inl ⟨hfl, c, hcomp, henc⟩⟩

example :
    let c : Codec := { enc := fun x => .ok (0xAA :: x), dec := fun y => .ok (y.drop 1) }
    ((connFramer (some c) 5 0).buildReq .query 1 [1, 2, 3]).toOption = some [5, 0x11, 0, 1, 7, 0, 0, 0, 4, 0xAA, 1, 2, 3] ∧
    ((connFramer (some c) 5 0).buildReq .options 1 []).toOption = some [5, 0x10, 0, 1, 5, 0, 0, 0, 0] := by decide +kernel

/-! ### frames at the size limit

After the repair of KF-C18-2 (props/C18.fix-KF-C18-2.diff) `finish` compares the COMPRESSED frame with
the 256 MiB limit, too: a body the compressor expands over the limit is refused with ErrFrameTooBig
instead of being sent in a frame the reader refuses (`C18_expanded_over_limit_refused`).
`C18_delivered` is the full statement without the hypothesis that the compressed form fits. -/

/-- **A body the compressor expands over the limit is refused at the sender** (for ALL framers,
    compressors and bodies in that situation): `finish` answers ErrFrameTooBig; no frame is built. -/
theorem C18_expanded_over_limit_refused (f : Framer) (fl op : UInt8) (s : Int)
    (body z : Bytes) (c : Codec)
    (hfl : fl &&& flagCompress = flagCompress) (hcomp : f.comp = some c) (henc : c.enc body = .ok z)
    (hfit : f.headSize + body.length ≤ maxFrameSize)
    (hbig : maxFrameSize < f.headSize + z.length) :
    f.build fl op s body = .error .tooBig := by
  rw [f.build_eq, if_neg (by omega), if_pos hfl]
  simp only [hcomp, henc]
  rw [if_pos hbig]

/-- the hypotheses are satisfiable: a codec that prepends 16 bytes, any body 9 bytes under the limit -/
example (body : Bytes) (hb : body.length = maxFrameSize - 9) :
    let c : Codec := { enc := fun x => .ok (List.replicate 16 0 ++ x), dec := fun y => .ok (y.drop 16) }
    (newFramer (some c) 4).headSize + body.length ≤ maxFrameSize ∧
    (∃ z, c.enc body = .ok z ∧ maxFrameSize < (newFramer (some c) 4).headSize + z.length) := by
  intro c
  have h9 : (newFramer (some c) 4).headSize = 9 := by decide
  refine ⟨?_, List.replicate 16 0 ++ body, rfl, ?_⟩
  · rw [h9, hb]; unfold maxFrameSize; omega
  · rw [h9]; simp [hb]; unfold maxFrameSize; omega

/-- **`finish` through lengths only** (what op `big` answers with): whether a frame is built, and how
    long it is, depends on the body and on the compressor's output through their LENGTHS only. -/
theorem C18_finish_by_length (f : Framer) (fl op : UInt8) (s : Int) (body : Bytes) :
    (match f.build fl op s body with | .ok w => Except.ok w.length | .error e => .error e) =
    finishLen f.headSize (f.headSize + body.length) (fl &&& flagCompress == flagCompress)
      (f.comp.map fun c => match c.enc body with | .ok z => .ok z.length | .error e => .error e) := by
  have hB := f.built fl op s body
  generalize f.build fl op s body = res at hB
  cases hB <;> simp [finishLen, Framer.frame_length, Nat.not_lt_of_le, *]

/-- **`readFrame` through lengths only.** -/
theorem C18_read_by_length (f : Framer) (h : Head) (r : Bytes) :
    (match f.readFrame h r with | .ok b => Except.ok b.length | .error e => .error e) =
    readLen h.length r.length (h.flags &&& flagCompress == flagCompress)
      (f.comp.map fun c => match c.dec (r.take h.length.toNat) with | .ok b => .ok b.length | .error e => .error e) := by
  -- the eight ways through `readFrame`; `readLen` makes the same tests in the same order
  fun_cases Framer.readFrame f h r <;> simp +zetaDelta [readLen, *]
  -- left: the uncompressed body, `(r.take n).length = n` as `n ≤ r.length`
  omega

example : finishLen 9 (9 + 100) true (some (.ok 120)) = .ok 129 ∧
    finishLen 9 (9 + 100) true (some (.ok maxFrameSize)) = .error .tooBig ∧
    readLen 120 120 true (some (.ok 100)) = .ok 100 ∧
    finishLen 9 (maxFrameSize + 1) true (some (.ok 5)) = .error .tooBig ∧
    readLen (maxFrameSize + 1) (maxFrameSize + 1) true (some (.ok 5)) = .error .tooBig :=
  ⟨by rfl, by rfl, by rfl, by rfl, by rfl⟩

/-! ### compressor errors on the send path (Model/CompressSend.lean)

FULL STATEMENT: for every request kind, whatever the compressor answers: an Encode error reaches the
caller as that error, NOTHING of the request is written, its stream is free again and the calls in
flight are untouched; every other request is on the wire whole, in order, and decodes to its body;
OPTIONS and STARTUP never call the compressor, so they cannot fail that way. -/

/-- **An Encode error leaves no trace.** For every request kind whose builder keeps the compress bit,
    on a framer with the bit set, a body that fits and a compressor that refuses it: `exec` returns the
    codec's error, the frames written and the registered calls are exactly what they were. -/
theorem C18_send_error_clean (f : Framer) (st : SendSt) (r : Req) (s : Int) (body : Bytes) (c : Codec) (u : Unit)
    (hr : Req.compressible r) (hfl : f.flags &&& flagCompress = flagCompress)
    (hcomp : f.comp = some c) (henc : c.enc body = .error u)
    (hsz : f.headSize + body.length ≤ maxFrameSize) :
    execSend f st r s body = (st, .failed .codec) := by
  unfold execSend Framer.buildReq
  rw [f.build_eq, if_neg (by omega), if_pos ((headerFlags_bit f r).2 ⟨hfl, hr⟩)]
  simp only [hcomp, henc]

/-- **OPTIONS and STARTUP never fail because of the compressor** (they never call it). -/
theorem C18_send_plain_never_codec (f : Framer) (r : Req) (hr : r = .startup ∨ r = .options)
    (s : Int) (body : Bytes) : f.buildReq r s body ≠ .error .codec := by
  intro h
  have hB := f.builtReq r s body
  rw [h] at hB
  cases hB with
  | codec _ _ _ hbit => exact not_compressible hr ((headerFlags_bit f r).1 hbit).2

/-- **The wire is exactly the frames of the requests that were built**, for EVERY sequence of requests
    (any kinds, streams, bodies; Encode failing on any of them) and responses: in order, each whole,
    nothing from a failed request, nothing else. -/
theorem C18_send_wire_exact (f : Framer) (ops : List SendOp) :
    (runSend f ops).wire = ops.flatMap (fun op => (op.frame f).toList) := by
  have := foldl_sendStep_wire f ops SendSt.init
  simpa [runSend, SendSt.init] using this

/-- … and each of them decodes, with the same compressor, to the body of ITS request. -/
theorem C18_send_wire_decodes (f : Framer) (hv : ValidProto f) (hc : ∀ c, f.comp = some c → c.RoundTrips)
    (ops : List SendOp) (w : Bytes) (hw : w ∈ (runSend f ops).wire)
    (hsz : w.length - f.headSize ≤ maxFrameSize) :
    ∃ r s body, SendOp.req r s body ∈ ops ∧ f.buildReq r s body = .ok w ∧
      f.decode w = .ok (f.headOf (r.headerFlags f) r.opcode s (w.length - f.headSize), body) := by
  rw [C18_send_wire_exact, List.mem_flatMap] at hw
  obtain ⟨op, hop, hwf⟩ := hw
  cases op with
  | resp s => simp [SendOp.frame] at hwf
  | req r s body =>
    simp only [SendOp.frame, Option.mem_toList] at hwf
    cases hb : f.buildReq r s body with
    | error e => simp [hb, Except.toOption] at hwf
    | ok w' =>
      simp [hb, Except.toOption] at hwf
      subst hwf
      exact ⟨r, s, body, hop, hb, C18_transparent f hv hc _ _ s body w' hb hsz⟩

/-- non-vacuity: three requests on a connection whose compressor refuses bodies starting with 0xEE;
    the second fails: two frames on the wire, the OPTIONS one uncompressed -/
example :
    let c : Codec := { enc := fun x => if x.head? = some 0xEE then .error () else .ok (0xAA :: x),
                       dec := fun y => .ok (y.drop 1) }
    let f := newFramer (some c) 4
    (runSend f [.req .query 1 [1, 2], .req .execute 2 [0xEE, 3], .req .options 3 [], .resp 1]).wire
      = [[4, 1, 0, 1, 7, 0, 0, 0, 3, 0xAA, 1, 2], [4, 0, 0, 3, 5, 0, 0, 0, 0]] ∧
    (runSend f [.req .query 1 [1, 2], .req .execute 2 [0xEE, 3], .req .options 3 [], .resp 1]).calls = [3] := by
  decide +kernel

theorem conn_none_plain (version extra : UInt8) (r : Req) (s : Int) (body wire : Bytes) (hx : extra &&& 1 = 0)
    (h : (connFramer none version extra).buildReq r s body = .ok wire) :
    wire.getD 1 0 &&& flagCompress ≠ flagCompress ∧ wire.drop (newFramer none version).headSize = body :=
  have ⟨h1, _, h3⟩ := C18_flag_iff _ r s body wire h
  have hn : ¬ (wire.getD 1 0 &&& flagCompress = flagCompress) := fun hb =>
    connFramer_none_bit version extra hx (h1.1 hb).1
  ⟨hn, h3 hn⟩

/-- **Negotiation.** The configured compressor survives startup iff its name is in the server's
    COMPRESSION list; the STARTUP frame names it iff it survives; and when it does not survive every
    later frame (built by `newFramer nil`) has the compress bit clear and carries the body verbatim. -/
theorem C18_negotiation (c : Option Named) (supported : List (String × List String)) :
    (∀ n, c = some n →
        ((connCompressor c supported).isSome ↔ n.name ∈ lookup supported "COMPRESSION") ∧
        (negotiate (some n.name) supported).startupOpt =
          (if n.name ∈ lookup supported "COMPRESSION" then some n.name else none)) ∧
    (c = none → (connCompressor c supported).isNone ∧ (negotiate none supported).startupOpt = none) ∧
    (∀ version extra r s body wire, extra &&& 1 = 0 →
        ({ newFramer none version with flags := (newFramer none version).flags ||| extra } : Framer).buildReq r s body = .ok wire →
        wire.getD 1 0 &&& flagCompress ≠ flagCompress ∧
        wire.drop (newFramer none version).headSize = body) := by
  refine ⟨?_, ?_, fun version extra r s body wire => conn_none_plain version extra r s body wire⟩
  · rintro n rfl
    by_cases hm : n.name ∈ lookup supported "COMPRESSION" <;> simp [connCompressor, negotiate, hm]
  · rintro rfl; exact ⟨rfl, rfl⟩

example : (negotiate (some "lz4") [("COMPRESSION", ["snappy", "lz4"])]).keep = true ∧
          (negotiate (some "lz4") [("COMPRESSION", ["snappy"])]).keep = false ∧
          (negotiate (some "lz4") [("CQL_VERSION", ["3.4.5"])]).startupOpt = none := by decide +kernel

/-- **Unexpected compressed response / corrupt body.** A frame with the compress bit on a connection
    without compressor is an error value ("no compressor available…"), and a body the compressor
    rejects is an error value; in no case a crash. -/
theorem C18_unexpected_compressed (f : Framer) (h : Head) (r : Bytes)
    (hflag : h.flags &&& flagCompress = flagCompress)
    (h0 : 0 ≤ h.length) (hmax : h.length ≤ maxFrameSize) (hr : h.length.toNat ≤ r.length) :
    (f.comp = none → f.readFrame h r = .error .noCompressor) ∧
    (∀ c, f.comp = some c → c.dec (r.take h.length.toNat) = .error () → f.readFrame h r = .error .codec) ∧
    (∀ r', f.readFrame h r' ≠ .error .panic) := by
  have hq := f.readFrame_eq h r h0 hmax hr
  rw [if_pos hflag] at hq
  exact ⟨fun hc => by rw [hq, hc], fun c hc hd => by rw [hq, hc]; simp only [hd],
    fun r' => readFrame_no_panic f h r'⟩

example : (newFramer none 4).readFrame { version := 0x84, flags := 1, stream := 0, op := 8, length := 2 } [1, 2]
    = .error .noCompressor := by rfl

/-! ### compressed frames on EVERY receive path (Model/CompressRecv.lean)

FULL STATEMENT: whatever frame arrives on whatever stream — a response to a waiting call, a server
event (stream -1), a reserved stream, a stream nobody waits on, one of the two responses of the
handshake — with the compression flag and no (negotiated) compressor, or with a body the compressor
rejects: the outcome is an error handed to the caller or the connection closed with that error;
never a crash of the reader goroutine, never an event / a response with some other body. Holds for
the code that exists (the event branch returns the error of readFrame); does not hold for the
variant that only logs it (`C18_cex_event_log_only`). -/

/-- **No receive path crashes**: for every compressor, version, set of waiting calls, header and
    bytes on the wire, `recv` never dereferences the header of a framer whose readFrame failed. -/
theorem C18_recv_no_crash (comp : Option Codec) (version : UInt8) (ns : Int) (calls : List Int)
    (h : Head) (r : Bytes) : recv .ret comp version ns calls h r ≠ .crash := by
  rw [recv_ret]
  generalize (newFramer comp version).readFrame h r = rf
  fun_cases recvRet ns calls h rf <;> nofun

/-- **A compressed frame without compressor / a rejected body is an error on every path.** With the
    compress bit set, a body that is fully there, and either no compressor on the connection or a
    compressor that rejects the body: the event path and the reserved streams close the connection
    with exactly that error, a waiting call gets exactly that error; no path produces an event or a
    successful response. -/
theorem C18_recv_compressed_error (comp : Option Codec) (version : UInt8) (ns : Int) (calls : List Int)
    (h : Head) (r : Bytes)
    (hflag : h.flags &&& flagCompress = flagCompress)
    (h0 : 0 ≤ h.length) (hmax : h.length ≤ maxFrameSize) (hr : h.length.toNat ≤ r.length)
    (hbad : comp = none ∨ ∃ c, comp = some c ∧ c.dec (r.take h.length.toNat) = .error ()) :
    ∃ e, (e = .noCompressor ∨ e = .codec) ∧
      (h.stream ≤ ns → h.stream ≤ 0 → recv .ret comp version ns calls h r = .close (.read e)) ∧
      (h.stream ≤ ns → 0 < h.stream → h.stream ∈ calls →
          recv .ret comp version ns calls h r = .deliver h.stream (.error e)) ∧
      (∀ h' b, recv .ret comp version ns calls h r ≠ .event h' b) ∧
      (∀ s b, recv .ret comp version ns calls h r ≠ .deliver s (.ok b)) := by
  have hU := C18_unexpected_compressed (newFramer comp version) h r hflag h0 hmax hr
  have hread : ∃ e, (e = Err.noCompressor ∨ e = Err.codec) ∧ (newFramer comp version).readFrame h r = .error e := by
    rcases hbad with hn | ⟨c, hc, hd⟩
    · exact ⟨_, .inl rfl, hU.1 hn⟩
    · exact ⟨_, .inr rfl, hU.2.1 c hc hd⟩
  obtain ⟨e, he, hrf⟩ := hread
  rw [recv_ret, hrf]
  refine ⟨e, he, fun hns hle => ?_, fun hns hpos hmem => recvRet_call _ hns hpos hmem, fun h' b => ?_, fun s b => ?_⟩
  · unfold recvRet
    rw [if_neg (by omega)]
    split <;> rfl
  -- readFrame answered an error: none of the ways through `recvRet` makes an event or a successful response of it
  all_goals
    generalize hq : (Except.error e : Except Err Bytes) = rf
    fun_cases recvRet ns calls h rf <;> cases hq <;> simp

/-- **What the peer encoded is what every path hands on.** If the frame on the wire decodes (by
    `C18_transparent`: whenever the peer built it from `body` with a compressor that round-trips, or
    without compression), the event path hands exactly `body` to the session and a waiting call gets
    exactly `body`. -/
theorem C18_recv_transparent (comp : Option Codec) (version : UInt8) (ns : Int) (calls : List Int)
    (wire : Bytes) (h : Head) (body : Bytes)
    (hd : (newFramer comp version).decode wire = .ok (h, body)) :
    ∃ rest, readHeader wire = .ok (h, rest) ∧
      (h.stream ≤ ns → h.stream = -1 → recv .ret comp version ns calls h rest = .event h body) ∧
      (h.stream ≤ ns → 0 < h.stream → h.stream ∈ calls →
          recv .ret comp version ns calls h rest = .deliver h.stream (.ok body)) := by
  revert hd
  fun_cases Framer.decode (newFramer comp version) wire <;> intro hd <;> cases hd
  rename_i rest hh hf
  refine ⟨rest, hh, fun hns hm => ?_, fun hns hpos hmem => ?_⟩
  · rw [recv_ret, hf]
    unfold recvRet
    rw [if_neg (by omega), if_pos hm]
  · rw [recv_ret, hf, recvRet_call _ hns hpos hmem]

/-- FULL STATEMENT ("no receive path crashes, whatever recv does with a readFrame error") is false for
    the variant of the event branch that logs the error and goes on: kernel-checked witness — a
    two-byte EVENT frame with the compress bit on a connection without compressor; also the replay
    input for the real code (op `rx`, step `e=1/…`). -/
theorem C18_cex_event_log_only :
    recv .logOnly none 4 32768 [] { version := 0x84, flags := 1, stream := -1, op := 12, length := 2 } [1, 2] = .crash ∧
    recv .ret none 4 32768 [] { version := 0x84, flags := 1, stream := -1, op := 12, length := 2 } [1, 2]
      = .close (.read .noCompressor) := by
  decide +kernel

/-- **The handshake.** The two responses of the handshake go through the same readFrame: the result
    is an error value or the compressor negotiated against the SUPPORTED body that was actually read;
    a compressed SUPPORTED without a configured compressor, and a compressed READY on a connection
    that negotiated none, are the error "no compressor"; never a crash. -/
theorem C18_handshake (c : Option Named) (version : UInt8) (parse : Bytes → Supported)
    (sh : Head) (sr : Bytes) (rh : Head) (rr : Bytes) :
    (∀ res, handshake c version parse sh sr rh rr = .ok res →
        ∃ b, (newFramer (c.map (·.codec)) version).readFrame sh sr = .ok b ∧ res = connCompressor c (parse b)) ∧
    (sh.flags &&& flagCompress = flagCompress → 0 ≤ sh.length → sh.length ≤ maxFrameSize →
        sh.length.toNat ≤ sr.length → c = none →
        handshake c version parse sh sr rh rr = .error .noCompressor) ∧
    (∀ b, (newFramer (c.map (·.codec)) version).readFrame sh sr = .ok b →
        rh.flags &&& flagCompress = flagCompress → 0 ≤ rh.length → rh.length ≤ maxFrameSize →
        rh.length.toNat ≤ rr.length → connCompressor c (parse b) = none →
        handshake c version parse sh sr rh rr = .error .noCompressor) ∧
    handshake c version parse sh sr rh rr ≠ .error .panic := by
  refine ⟨fun res hres => ?_, ?_, ?_, ?_⟩
  · revert hres
    fun_cases handshake c version parse sh sr rh rr <;> intro hres
    · cases hres
    · cases hres
    · exact ⟨_, ‹_›, (Except.ok.inj hres).symm⟩
  · intro hf h0 hmax hr hc
    subst hc
    have := (C18_unexpected_compressed (newFramer none version) sh sr hf h0 hmax hr).1 rfl
    simp [handshake, this]
  · intro b hs hf h0 hmax hr hn
    have := (C18_unexpected_compressed (newFramer none version) rh rr hf h0 hmax hr).1 rfl
    simp [handshake, hs, hn, this]
  · fun_cases handshake c version parse sh sr rh rr
    · exact fun hp => by cases hp; exact readFrame_no_panic _ _ _ ‹_›
    · exact fun hp => by cases hp; exact readFrame_no_panic _ _ _ ‹_›
    · nofun

/-! ### negotiation is a function of THIS connection's SUPPORTED answer

FULL STATEMENT: over any history of connections to one host (pool fill and refill, reconnects, the
control connection; one long-lived HostInfo), whatever the node advertised on earlier connections:
each connection sends OPTIONS, its STARTUP names a compressor only from the set advertised on THIS
connection, and its frames are compressed only if that happened. Holds for the code that exists (no
state is carried from one connection to the next); refuted for the variant that keeps the first
SUPPORTED answer on the HostInfo (`C18_cex_cached_supported`). -/

/-- **Negotiation per connection.** For every configured compressor name, every history of
    advertisements (any length, any changes between connections) and whatever the HostInfo carried
    before: the i-th connection sends OPTIONS, negotiates exactly `negotiate name (advs i)`; its
    STARTUP COMPRESSION value, if any, is the configured name and is in the set advertised on this
    connection; the compressor is kept iff that is so. -/
theorem C18_negotiation_per_connection (name : Option String) (st : Option Supported)
    (advs : List Supported) (i : Nat) (o : ConnObs) (adv : Supported)
    (ho : (runHist .perConn name st advs)[i]? = some o) (ha : advs[i]? = some adv) :
    o.optionsSent = true ∧ o.nego = negotiate name adv ∧
    (∀ n, o.nego.startupOpt = some n → name = some n ∧ n ∈ lookup adv "COMPRESSION") ∧
    (o.nego.keep = true ↔ ∃ n, name = some n ∧ n ∈ lookup adv "COMPRESSION") := by
  rw [runHist_perConn, List.getElem?_map, ha] at ho
  cases ho
  exact ⟨rfl, rfl, fun n => (negotiate_startupOpt name adv n).1, negotiate_keep name adv⟩

example : runHist .perConn (some "snappy") none
      [[("COMPRESSION", ["snappy", "lz4"])], [("COMPRESSION", ["lz4"])], [], [("COMPRESSION", ["snappy"])]]
    = [⟨true, ⟨true, some "snappy"⟩⟩, ⟨true, ⟨false, none⟩⟩, ⟨true, ⟨false, none⟩⟩,
       ⟨true, ⟨true, some "snappy"⟩⟩] := by
  decide +kernel

/-- the cached variant violates it: the node first advertises snappy and lz4, then lz4 only; the
    second connection sends no OPTIONS and asks for snappy, which was not advertised on it. Also the
    replay history for the real code (op `negoh snappy oCOMPRESSION=snappy,lz4 oCOMPRESSION=lz4`). -/
theorem C18_cex_cached_supported :
    (runHist .cached (some "snappy") none [[("COMPRESSION", ["snappy", "lz4"])], [("COMPRESSION", ["lz4"])]])[1]?
      = some ⟨false, ⟨true, some "snappy"⟩⟩ ∧
    "snappy" ∉ lookup [("COMPRESSION", ["lz4"])] "COMPRESSION" := by
  decide +kernel

/-! ### negotiation is a function of THIS connection's host

FULL STATEMENT: in one session over several hosts whose SUPPORTED sets differ (and change), every
connection negotiates against what ITS host advertises on THAT connection: a host that does not list
the configured compressor is NOT refused — the connection is established, its STARTUP carries no
COMPRESSION and all its frames are uncompressed — while connections of the same session to hosts
that list it are compressed; nothing carries over from one host to another. Holds for the code that
exists; refuted for a session-wide cache of the first answer (`C18_cex_session_cached_supported`). -/

/-- **Negotiation per host.** For every configured compressor name, every history of connections of
    one session (any hosts, any advertisements, in any order) and whatever was seen before: the i-th
    connection belongs to its host, sends OPTIONS, negotiates exactly `negotiate name adv` for what THAT
    host advertises on it; it keeps the compressor iff the name is in that set; and when it does not,
    every request on it (framer `newFramer none`) has the compress bit clear and the body verbatim. -/
theorem C18_negotiation_per_host (name : Option String) (st : Option Supported)
    (conns : List (Nat × Supported)) (i h : Nat) (o : ConnObs) (h' : Nat) (adv : Supported)
    (ho : (runHosts .perConn name st conns)[i]? = some (h, o)) (ha : conns[i]? = some (h', adv)) :
    h = h' ∧ o.optionsSent = true ∧ o.nego = negotiate name adv ∧
    (o.nego.keep = true ↔ ∃ n, name = some n ∧ n ∈ lookup adv "COMPRESSION") ∧
    (o.nego.keep = false → o.nego.startupOpt = none ∧
      ∀ version extra r s body wire, extra &&& 1 = 0 →
        (connFramer none version extra).buildReq r s body = .ok wire →
        wire.getD 1 0 &&& flagCompress ≠ flagCompress ∧ wire.drop (newFramer none version).headSize = body) := by
  rw [runHosts_perConn, List.getElem?_map, ha] at ho
  cases ho
  exact ⟨rfl, rfl, rfl, negotiate_keep name adv, fun hk =>
    ⟨negotiate_not_keep name adv hk, fun version extra r s body wire => conn_none_plain version extra r s body wire⟩⟩

example : runHosts .perConn (some "snappy") none
      [(0, [("COMPRESSION", ["snappy", "lz4"])]), (1, [("COMPRESSION", ["lz4"])]), (2, []),
       (0, [("COMPRESSION", ["snappy"])])]
    = [(0, ⟨true, ⟨true, some "snappy"⟩⟩), (1, ⟨true, ⟨false, none⟩⟩), (2, ⟨true, ⟨false, none⟩⟩),
       (0, ⟨true, ⟨true, some "snappy"⟩⟩)] := by
  decide +kernel

/-- the session-wide cache violates it: host 0 lists snappy, host 1 lists lz4 only; the connection to
    host 1 sends no OPTIONS and asks for snappy, which host 1 never advertised. Also the replay history
    for the real code (op `negom snappy 1 2 a0=COMPRESSION=snappy a1=COMPRESSION=lz4 s`). -/
theorem C18_cex_session_cached_supported :
    (runHosts .cached (some "snappy") none [(0, [("COMPRESSION", ["snappy"])]), (1, [("COMPRESSION", ["lz4"])])])[1]?
      = some (1, ⟨false, ⟨true, some "snappy"⟩⟩) ∧
    "snappy" ∉ lookup [("COMPRESSION", ["lz4"])] "COMPRESSION" := by
  decide +kernel

/-! ### ownership of the buffers that cross the compressor boundary (Model/CompressHeap.lean)

FULL STATEMENT of the sub-property: whatever the compressor does with memory, a result that somebody
still holds — the body `readFrame` left in the framer a caller / an Iter is still reading, an `Encode`
result — shows the value the call returned, however many codec calls of whatever sizes, in whatever
order, on whatever connection, run afterwards, and whatever the callers do to their input buffers
afterwards. That holds for the discipline of the code that exists (`fresh`: a new buffer per result —
`snappy.Decode(nil, …)`, `snappy.Encode(nil, …)`, `make` in lz4.go, a new framer per response in
Conn.recv): theorems below, for ALL op sequences. It does not hold for every discipline: kernel-checked
counterexamples for a pooled-and-returned result buffer and for a result that aliases the input. -/

/-- **Held results are never modified by later operations.** For every function table (any codec),
    every op sequence (hold / drop / caller scribbling over its inputs, any number, any sizes): a
    result that is held at the end shows exactly the value its call returned, and that value is what
    the function gives for the slot's argument — independent of everything that ran in between. -/
theorem C18_held_intact (F : Dir → Bytes → Except Unit Bytes) (ops : List Op) (k : Nat) (sl : Slot)
    (h : (run .fresh F ops).lookup k = some sl) :
    F sl.dir sl.arg = .ok sl.want ∧ (run .fresh F ops).heap.read sl.res = sl.want :=
  have ⟨_, _, h3, h4⟩ := (good_run F ops).ok k sl (mem_of_lookupSlot h)
  ⟨h4, h3⟩

/-- op `chk` answers with the specification's value: what the function gives for that slot's input -/
theorem C18_chk_spec (F : Dir → Bytes → Except Unit Bytes) (ops : List Op) (k : Nat) (b : Bytes)
    (h : (run .fresh F ops).chk k = some b) :
    ∃ sl, (run .fresh F ops).lookup k = some sl ∧ F sl.dir sl.arg = .ok b := by
  unfold St.chk at h
  cases hl : (run .fresh F ops).lookup k with
  | none => simp [hl] at h
  | some sl =>
    have ⟨h1, h2⟩ := C18_held_intact F ops k sl hl
    simp only [hl, Option.map_some, Option.some.injEq] at h
    exact ⟨sl, rfl, by rw [← h, h2]; exact h1⟩

/-- **… whatever runs later.** A slot that holds `sl` after `ops₁` holds the same slice with the same
    bytes after any continuation `ops₂` that does not itself re-use or drop that slot. -/
theorem C18_held_stable (F : Dir → Bytes → Except Unit Bytes) (ops₁ ops₂ : List Op) (k : Nat) (sl : Slot)
    (h : (run .fresh F ops₁).lookup k = some sl) (hn : ∀ op ∈ ops₂, op.touches k = false) :
    (run .fresh F (ops₁ ++ ops₂)).lookup k = some sl ∧
    (run .fresh F (ops₁ ++ ops₂)).heap.read sl.res = (run .fresh F ops₁).heap.read sl.res := by
  have hl : (run .fresh F (ops₁ ++ ops₂)).lookup k = some sl := by
    rw [run_append, lookup_foldl .fresh F k ops₂ hn, h]
  exact ⟨hl, by rw [(C18_held_intact F _ k sl hl).2, (C18_held_intact F _ k sl h).2]⟩

/-- **Codec calls do not write to their callers' buffers.** Whatever calls run later (any number,
    no `mutIn` by the caller itself): the input buffer of a held slot shows the same bytes. -/
theorem C18_input_untouched (F : Dir → Bytes → Except Unit Bytes) (ops₁ ops₂ : List Op) (k : Nat) (sl : Slot)
    (h : (run .fresh F ops₁).lookup k = some sl)
    (hn : ∀ op ∈ ops₂, ∀ k' i x, op ≠ .mutIn k' i x) :
    (run .fresh F (ops₁ ++ ops₂)).heap.read sl.inp = (run .fresh F ops₁).heap.read sl.inp := by
  have hid : sl.inp.id < (run .fresh F ops₁).heap.mem.length :=
    ((good_run F ops₁).ok k sl (mem_of_lookupSlot h)).inp_lt
  rw [run_append]
  exact read_congr _ _ _ (buf_of_prefix (foldl_le F ops₂ hn _) hid)

/-- **Several responses in flight.** On a connection whose framer `f` carries a compressor that
    round-trips, for EVERY sequence of boundary crossings (responses received on this or other
    connections, requests encoded, in any number, sizes and order): whoever still holds the body of a
    response the server built from `body` reads `body`; a held `Decode` result of the server's
    `Encode(body)` reads `body`; a held `Encode` result still decodes to its argument. -/
theorem C18_inflight_delivered (f : Framer) (hv : ValidProto f) (c : Codec) (hcomp : f.comp = some c)
    (hc : c.RoundTrips) (ops : List Op) (k : Nat) (sl : Slot)
    (h : (run .fresh (connF f c) ops).lookup k = some sl) :
    (∀ fl op s body, sl.dir = .recv → f.build fl op s body = .ok sl.arg →
        sl.arg.length - f.headSize ≤ maxFrameSize →
        (run .fresh (connF f c) ops).heap.read sl.res = body) ∧
    (∀ body, sl.dir = .dec → c.enc body = .ok sl.arg →
        (run .fresh (connF f c) ops).heap.read sl.res = body) ∧
    (sl.dir = .enc → c.dec ((run .fresh (connF f c) ops).heap.read sl.res) = .ok sl.arg) := by
  have ⟨hF, hr⟩ := C18_held_intact (connF f c) ops k sl h
  rw [hr]
  refine ⟨fun fl op s body hd hb hsz => ?_, fun body hd he => ?_, fun hd => ?_⟩
  · have hcs : ∀ c', f.comp = some c' → c'.RoundTrips := fun c' h' => by rw [hcomp] at h'; cases h'; exact hc
    have ht := C18_transparent f hv hcs fl op s body sl.arg hb hsz
    rw [hd] at hF
    simp only [connF, ht] at hF
    injection hF with hF; exact hF.symm
  · rw [hd] at hF
    simp only [connF, hc body sl.arg he] at hF
    injection hF with hF; exact hF.symm
  · rw [hd] at hF
    exact hc sl.arg sl.want hF

theorem tagCodec_roundTrips : tagCodec.RoundTrips := by
  intro x y h
  simp only [tagCodec] at h
  injection h with h; subst h; rfl

theorem tagCodec_total : tagCodec.Total := fun _ => ⟨_, rfl⟩

/-- non-vacuity: three results of different sizes held across later calls and a scribbled input -/
example :
    let s := run .fresh (connF (newFramer (some tagCodec) 4) tagCodec)
      [.hold 0 .dec [0x5A, 1, 2, 3], .hold 1 .dec [0x5A, 9, 8, 7], .hold 2 .enc [4, 4],
       .hold 3 .recv [0x84, 1, 0, 1, 8, 0, 0, 0, 3, 0x5A, 6, 6], .mutIn 0 1 0xFF, .hold 4 .dec [0x5A], .drop 1]
    s.chk 0 = some [1, 2, 3] ∧ s.chk 1 = none ∧ s.chk 2 = some [0x5A, 4, 4] ∧ s.chk 3 = some [6, 6] ∧
    s.chk 4 = some [] ∧ s.input 0 = some [0x5A, 0xFE, 2, 3] := by decide +kernel

/-- FULL STATEMENT ("held results stay intact under EVERY memory discipline of the compressor") is
    false. Kernel-checked witness for the pooled-and-returned result buffer (`buf := pool.Get();
    defer pool.Put(buf); return snappy.Decode(buf, data)`): two responses, the second decoded while the
    first is still held and not longer than the recycled buffer — the holder of the first reads the
    bytes of the second. This is also the replay input for the real code (op `held`). -/
theorem C18_cex_pooled_result :
    let s := run .pooled (connF (newFramer (some tagCodec) 4) tagCodec)
      [.hold 0 .dec [0x5A, 1, 2, 3], .hold 1 .dec [0x5A, 9, 8, 7]]
    (s.lookup 0).map (·.want) = some [1, 2, 3] ∧ s.chk 0 = some [9, 8, 7] ∧ s.chk 1 = some [9, 8, 7] := by
  decide +kernel

/-- … the same through the receive path of a connection: two compressed responses in flight (streams
    1 and 2), the caller of stream 1 parses after stream 2 was received; a SHORTER second body leaves a
    mixture; a LONGER one does not fit the recycled buffer and leaves the first intact (why strictly
    sequential use, or growing sizes, never show it). -/
theorem C18_cex_pooled_inflight :
    let F := connF (newFramer (some tagCodec) 4) tagCodec
    let wA : Bytes := [0x84, 1, 0, 1, 8, 0, 0, 0, 4, 0x5A, 1, 2, 3]
    let wB : Bytes := [0x84, 1, 0, 2, 8, 0, 0, 0, 3, 0x5A, 9, 8]
    let wC : Bytes := [0x84, 1, 0, 3, 8, 0, 0, 0, 5, 0x5A, 7, 7, 7, 7]
    (run .pooled F [.hold 1 .recv wA, .hold 2 .recv wB]).chk 1 = some [9, 8, 3] ∧
    (run .pooled F [.hold 1 .recv wA, .hold 3 .recv wC]).chk 1 = some [1, 2, 3] ∧
    (run .fresh F [.hold 1 .recv wA, .hold 2 .recv wB, .hold 3 .recv wC]).chk 1 = some [1, 2, 3] := by
  decide +kernel

/-- … and for a result that is a sub-slice of the caller's input (a block handed back without a copy):
    the caller re-using its input buffer afterwards changes the held result. -/
theorem C18_cex_alias_input :
    let s := run .aliasInput (connF (newFramer (some tagCodec) 4) tagCodec)
      [.hold 0 .dec [0x5A, 1, 2, 3], .mutIn 0 1 0xFF]
    (s.lookup 0).map (·.want) = some [1, 2, 3] ∧ s.chk 0 = some [0xFE, 2, 3] := by
  decide +kernel

/-- the instance the model driver answers ops `held` / `flight` with (framer of a v4 connection whose
    compressor is `tagCodec`): the hypotheses of `C18_inflight_delivered` hold for it, so a consumer's
    answer is the body its response was built from — for every history of the process. -/
theorem C18_inflight_model (ops : List Op) (k : Nat) (sl : Slot)
    (h : (run .fresh (connF (newFramer (some tagCodec) 4) tagCodec) ops).lookup k = some sl)
    (fl op : UInt8) (s : Int) (body : Bytes) (hd : sl.dir = .recv)
    (hb : (newFramer (some tagCodec) 4).build fl op s body = .ok sl.arg)
    (hsz : sl.arg.length - (newFramer (some tagCodec) 4).headSize ≤ maxFrameSize) :
    (run .fresh (connF (newFramer (some tagCodec) 4) tagCodec) ops).chk k = some body := by
  have hv : ValidProto (newFramer (some tagCodec) 4) := by
    unfold ValidProto newFramer; decide
  have := (C18_inflight_delivered (newFramer (some tagCodec) 4) hv tagCodec rfl tagCodec_roundTrips ops k sl h).1
    fl op s body hd hb hsz
  simp [St.chk, h, this]

end C18
