import Model.Ring
/-
  Model of what a gocql `Session` knows about the cluster beyond the ring: the connection pools
  (`policyConnPool.hostConnPools`, by host id), the host lists of the selection policy
  (`cowHostList`, keyed by CONNECT ADDRESS: `add` refuses a host whose `ConnectAddress()` equals
  that of an entry, `remove(ip)` drops the entries with that connect address), the up/down state of
  every `*HostInfo` object, and the number of `debounceRingRefresh()` requests — and of the code that
  updates them:

    events.go        handleNodeEvent (coalescing of STATUS_CHANGE frames per address: the map entry is
                     created on the first frame of an address and `event.change = f.change` on every
                     frame; one refresh request for any number of TOPOLOGY_CHANGE frames),
                     handleNodeUp, handleNodeDown, handleNodeConnected, startPoolFill
    session.go       removeHost (policy.RemoveHost, pool.removeHost, ring.removeHost)
    host_source.go   refreshRing (REPAIRED, KF-C16-4 / KF-C16-6: what is gone is removed first, then what is
                     missing is added, with the session-level effects IN PROGRAM ORDER),
                     GetHosts / hostInfoFromMap / isValidPeer (which rows of system.local / system.peers
                     become reported hosts; REPAIRED, KF-C16-3: a NULL host_id leaves the host id empty),
                     refreshDebouncer (timed protocol)
    ring.go          addOrUpdate with HostInfo.update changing a node address (REPAIRED, KF-C16-5)
    conn.go          recv: EVENT frames are handed to the debouncer in wire order (REPAIRED, KF-C16-2)
    events.go        eventDebouncer (buffer of at most 1000 frames per window)
    policies.go      roundRobinHostPolicy, dcAwareRR (two lists by IsLocal), tokenAwareHostPolicy
                     (own list + fallback; HostUp/HostDown go to the fallback only)

  An `RHost` is one `*HostInfo` object (`obj` = identity). Objects are immutable here except for the
  state flag (kept in `View.down`) and `View.updateStored` (HostInfo.update filling address fields).
  Core Lean only.
-/
namespace ClusterView
open Ring

/-- `HostInfo.ConnectAddress()`: the connectAddress field, else the node address -/
def cAddr (h : RHost) : Nat := if h.caddr == 0 then h.addr else h.caddr

/-- static configuration of the session -/
structure Env where
  filter : RHost → Bool          -- cfg.filterHost(h): true = rejected
  isLocal : RHost → Bool         -- fallback policy's IsLocal (round-robin: always true)
  tokenAware : Bool              -- the policy is TokenAwareHostPolicy(fallback)
  noTopo : Bool                  -- cfg.Events.DisableTopologyEvents
  noStatus : Bool                -- cfg.Events.DisableNodeStatusEvents

/-! ### cowHostList -/

/-- `cowHostList.add`: refused when an entry `Equal`s the host (same connect address) -/
def cowAdd (l : List RHost) (h : RHost) : List RHost :=
  if l.any (fun e => cAddr e == cAddr h) then l else l ++ [h]

/-- `cowHostList.remove(ip)`: the entries with that connect address are dropped (the list never holds
two entries with one connect address — `cowAdd` — so at most one entry goes and the code's
`newL[:size-1]` is exactly the filtered list) -/
def cowRemove (l : List RHost) (ip : Nat) : List RHost := l.filter (fun e => cAddr e != ip)

structure Policy where
  ta : List RHost := []      -- tokenAwareHostPolicy.hosts
  loc : List RHost := []     -- roundRobinHostPolicy.hosts / dcAwareRR.localHosts
  rem : List RHost := []     -- dcAwareRR.remoteHosts
deriving Repr

/-- fallback.AddHost (= HostUp for round-robin and dc-aware) -/
def Policy.fbAdd (env : Env) (p : Policy) (h : RHost) : Policy :=
  if env.isLocal h then { p with loc := cowAdd p.loc h } else { p with rem := cowAdd p.rem h }

/-- fallback.RemoveHost (= HostDown) -/
def Policy.fbRemove (env : Env) (p : Policy) (h : RHost) : Policy :=
  if env.isLocal h then { p with loc := cowRemove p.loc (cAddr h) } else { p with rem := cowRemove p.rem (cAddr h) }

/-- policy.AddHost -/
def Policy.add (env : Env) (p : Policy) (h : RHost) : Policy :=
  let p1 := if env.tokenAware then { p with ta := cowAdd p.ta h } else p
  p1.fbAdd env h

/-- policy.RemoveHost -/
def Policy.remove (env : Env) (p : Policy) (h : RHost) : Policy :=
  let p1 := if env.tokenAware then { p with ta := cowRemove p.ta (cAddr h) } else p
  p1.fbRemove env h

/-- policy.HostUp / policy.HostDown -/
def Policy.up (env : Env) (p : Policy) (h : RHost) : Policy := p.fbAdd env h
def Policy.dn (env : Env) (p : Policy) (h : RHost) : Policy := p.fbRemove env h

/-- hosts the policy iterates over when picking (token-aware: its replicas come from `ta`, the rest from the fallback) -/
def Policy.all (p : Policy) : List RHost := p.ta ++ p.loc ++ p.rem

/-! ### the view -/

structure View where
  ring : Ring.Ring := Ring.empty
  pools : List (Nat × RHost) := []   -- hostConnPools: host id ↦ pool.host
  pol : Policy := {}
  down : List Nat := []              -- objects whose state is NodeDown (a new object is NodeUp)
  refreshReq : Nat := 0              -- debounceRingRefresh() calls so far
  crashed : Bool := false            -- a nil *HostInfo was dereferenced (panic)
deriving Repr

def View.empty : View := {}

def hasKey {β : Type} (m : List (Nat × β)) (k : Nat) : Bool := m.any (fun e => e.1 == k)

/-- `policyConnPool.addHost` (the fill never connects by itself here: see `connected`) -/
def poolAdd (pools : List (Nat × RHost)) (h : RHost) : List (Nat × RHost) :=
  if hasKey pools h.id then pools else pools ++ [(h.id, h)]

/-- `Session.startPoolFill` -/
def View.startPoolFill (env : Env) (v : View) (h : RHost) : View :=
  { v with pools := poolAdd v.pools h, pol := v.pol.add env h }

/-- `Session.removeHost` -/
def View.removeHost (env : Env) (v : View) (h : RHost) : View :=
  { v with pol := v.pol.remove env h, pools := erase v.pools h.id, ring := (v.ring.remove h.id).1 }

/-- what `Session.init` does with an initial host: `ring.addOrUpdate`, then (unless filtered) `pool.addHost`, `policy.AddHost` -/
def View.addInitial (env : Env) (v : View) (h : RHost) : View :=
  let (r, e) := v.ring.addOrUpdate h
  let v1 := { v with ring := r }
  if env.filter e then v1 else v1.startPoolFill env e

/-- `Session.handleNodeUp` -/
def View.nodeUp (env : Env) (v : View) (ip : Nat) : View :=
  match v.ring.getHostByIP ip with
  | (_, false) => { v with refreshReq := v.refreshReq + 1 }
  | (none, true) => { v with crashed := true }
  | (some h, true) => if env.filter h then v else v.startPoolFill env h

/-- `Session.handleNodeDown` -/
def View.nodeDown (env : Env) (v : View) (ip : Nat) : View :=
  match v.ring.getHostByIP ip with
  | (_, false) => v
  | (none, true) => { v with crashed := true }
  | (some h, true) =>
    let v1 := { v with down := h.obj :: v.down.filter (· != h.obj) }
    if env.filter h then v1 else { v1 with pol := v1.pol.dn env h, pools := erase v1.pools h.id }

/-- `Session.handleNodeConnected(pool.host)`, called by the pool of host `id` after a successful connect -/
def View.connected (env : Env) (v : View) (id : Nat) : View :=
  match lookup v.pools id with
  | none => v
  | some h =>
    let v1 := { v with down := v.down.filter (· != h.obj) }
    if env.filter h then v1 else { v1 with pol := v1.pol.up env h }

/-- `hostConnPool.fillingStopped(err)` with no connection and a convicting policy:
`handleNodeDown(host.ConnectAddress(), port)` — the CONNECT address is looked up in the node-address index -/
def View.connectFailed (env : Env) (v : View) (id : Nat) : View :=
  match lookup v.pools id with
  | none => v
  | some h => v.nodeDown env (cAddr h)

/-! ### node events -/

inductive Change | up | down | other
deriving DecidableEq, Repr

inductive Ev
  | topology
  | status (c : Change) (addr : Nat)
deriving DecidableEq, Repr

/-- the `sEvents` map of `handleNodeEvent` after the frames seen so far (an association list with the
keys in order of first appearance): a missing key is inserted, then `event.change = f.change` -/
def coalesceStep (m : List (Nat × Change)) : Ev → List (Nat × Change)
  | .topology => m
  | .status c a => if hasKey m a then m.map (fun e => if e.1 == a then (a, c) else e) else m ++ [(a, c)]

def coalesce (b : List Ev) : List (Nat × Change) := b.foldl coalesceStep []

def hasTopology (b : List Ev) : Bool := b.any (fun e => e == .topology)

/-- dispatch of one coalesced status event -/
def View.status (env : Env) (v : View) (e : Nat × Change) : View :=
  if v.crashed then v else      -- a panic ends the handler
  match e.2 with
  | .up => v.nodeUp env e.1
  | .down => v.nodeDown env e.1
  | .other => v

/-- `handleNodeEvent` with the coalesced status events dispatched in the given order (Go iterates the
map in an unspecified order: `handleBatch` fixes first-appearance order, clause (3) of `C16_status_last_wins` shows
that the order does not matter) -/
def View.dispatch (env : Env) (v : View) (topo : Bool) (evs : List (Nat × Change)) : View :=
  let v1 := if topo && !env.noTopo then { v with refreshReq := v.refreshReq + 1 } else v
  if env.noStatus then v1 else evs.foldl (View.status env) v1

def View.handleBatch (env : Env) (v : View) (b : List Ev) : View :=
  v.dispatch env (hasTopology b) (coalesce b)

/-! ### refreshRing (repaired: KF-C16-4, KF-C16-6)

Pass 1 removes (`Session.removeHost`: policy, pool, ring) every host of the ring that is not reported any
more or is reported with another connect / node address; pass 2 adds every accepted reported host whose
id is missing (`addHostIfMissing` + `startPoolFill`). Of a host id reported twice the first accepted row
counts (`reportedMap`, `stays`, `removeAll`: Model/Ring.lean). -/

def removeAllV (env : Env) (v : View) : List (Nat × RHost) → View
  | [] => v
  | (_, h) :: t => removeAllV env (v.removeHost env h) t

/-- one iteration of the second loop for an accepted host (see `Ring.addStep`) -/
def addStepV (env : Env) (v : View) (h : RHost) : View :=
  match v.ring.addIfMissing h with
  | (r1, _, false) => ({ v with ring := r1 }).startPoolFill env h
  | (_, _, true) => v

/-- `refreshRing` given the hosts `GetHosts` returned; it cannot fail -/
def View.refresh (env : Env) (v : View) (reported : List RHost) : View :=
  let gone := v.ring.byId.filter (fun e => !stays (reportedMap env.filter reported) e)
  (reported.filter (fun h => !env.filter h)).foldl (addStepV env) (removeAllV env v gone)

/-! ### GetHosts: rows of system.local / system.peers → reported hosts

Addresses in a row: 0 = NULL cell, 1 = the unspecified address 0.0.0.0, ≥ 2 a usable address
(`validIpAddr`). Text / uuid / set cells: 0 = NULL or empty. -/

structure Row where
  id : Nat        -- host_id (0 = NULL)
  peer : Nat      -- peer (system.peers only)
  rpc : Nat       -- rpc_address
  bcast : Nat     -- broadcast_address (system.local only)
  dc : Nat        -- data_center (0 = NULL)
  rack : Nat      -- rack (0 = NULL)
  tokens : Nat    -- number of tokens (0 = NULL or empty set)
deriving DecidableEq, Repr

def validIp (a : Nat) : Bool := a ≥ 2

/-- `nodeToNodeAddress()`; the ring's key 0 stands for "0.0.0.0" -/
def Row.nodeAddr (r : Row) : Nat := if validIp r.bcast then r.bcast else if validIp r.peer then r.peer else 0

/-- `connectAddressLocked()` for a host built with connectAddress `ca` (0 = nil): first usable of
connect_address, rpc_address, (preferred_ip: never set here), broadcast_address, peer -/
def Row.connectAddr (r : Row) (ca : Nat) : Option Nat :=
  if validIp ca then some ca else if validIp r.rpc then some r.rpc else
  if validIp r.bcast then some r.bcast else if validIp r.peer then some r.peer else none

/-- `hostInfoFromMap`: `none` = the error it returns for a row without any usable address (repair of KF-C05-25;
`ConnectAddress()` panicked there before) -/
def Row.host (r : Row) (obj ca : Nat) : Option RHost :=
  match r.connectAddr ca with
  | none => none
  | some c => some ⟨obj, r.id, r.nodeAddr, c⟩

/-- `isValidPeer` as the code evaluates it on a row: a NULL inet cell gives a nil address (0.0.0.0 is a
non-empty address); a NULL `host_id` cell is scanned into the zero UUID, for which `hostInfoFromMap`
(REPAIRED, KF-C16-3) leaves `hostId` empty, so that `host.hostId == ""` fires. -/
def Row.validPeer (r : Row) : Bool :=
  !(r.rpc == 0 || r.id == 0 || r.dc == 0 || r.rack == 0 || r.tokens == 0)

/-- `isValidPeer` before the repair of KF-C16-3 (kept for the regression example only): the zero UUID's string
"00000000-0000-0000-0000-000000000000" is not "", the `hostId == ""` test never fired on a row that has the column -/
def Row.validPeerOld (r : Row) : Bool := r.rpc != 0 && r.dc != 0 && r.rack != 0 && r.tokens != 0

/-- what the property calls a valid peer row: all of rpc_address, host_id, data_center, rack, tokens present -/
def Row.validPeerSpec (r : Row) : Bool := r.rpc != 0 && r.id != 0 && r.dc != 0 && r.rack != 0 && r.tokens != 0

/-- `GetHosts`: local host, then the valid peers in row order; objects numbered `obj0, obj0+1, …` in row order.
`none` = an error from `hostInfoFromMap` (GetHosts returns it, the refresh fails). -/
def peersHosts : List Row → Nat → Option (List RHost)
  | [], _ => some []
  | r :: t, obj =>
    match r.host obj 0, peersHosts t (obj + 1) with
    | some h, some l => some (if r.validPeer then h :: l else l)
    | _, _ => none

def getHosts (localRow : Row) (peers : List Row) (obj0 : Nat) : Option (List RHost) :=
  match localRow.host obj0 0, peersHosts peers (obj0 + 1) with
  | some h, some l => some (h :: l)
  | _, _ => none

/-- the property's reported set: local host + the peers rows that are valid in the property's sense (same object numbering) -/
def peersHostsSpec : List Row → Nat → List RHost
  | [], _ => []
  | r :: t, obj =>
    match r.host obj 0 with
    | some h => if r.validPeerSpec then h :: peersHostsSpec t (obj + 1) else peersHostsSpec t (obj + 1)
    | none => peersHostsSpec t (obj + 1)

def getHostsSpec (localRow : Row) (peers : List Row) (obj0 : Nat) : List RHost :=
  match localRow.host obj0 0 with
  | some h => h :: peersHostsSpec peers (obj0 + 1)
  | none => peersHostsSpec peers (obj0 + 1)

/-! ### HostInfo.update: address fields of a stored object are filled in place

`update` copies `peer`, `broadcast_address`, `connectAddress` (among others) from the reported object
when the stored one has them unset; a peer-sourced stored host that receives a broadcast_address gets a
new node address (`nodeToNodeAddress()` prefers broadcast_address); the ring's by-address index is re-keyed
(`Ring.updateStored`, repair of KF-C16-5; before it the index kept the old key). -/

/-- the address fields of a `HostInfo` (0 = nil) -/
structure Addrs where
  peer : Nat
  bcast : Nat
  conn : Nat
deriving DecidableEq, Repr

def Addrs.update (h src : Addrs) : Addrs :=
  ⟨if h.peer == 0 then src.peer else h.peer, if h.bcast == 0 then src.bcast else h.bcast, if h.conn == 0 then src.conn else h.conn⟩

def Addrs.nodeAddr (a : Addrs) : Nat := if a.bcast != 0 then a.bcast else a.peer

/-- `ring.addOrUpdate(host)` finding host id `id` stored, `HostInfo.update` leaving the stored object with
node address `a` and connectAddress field `c`: every reference to the object (ring, pools, policy lists)
sees the new fields, and the by-address index is re-keyed (`Ring.updateStored`: repaired, KF-C16-5).
The references are found by value: in a view that satisfies the invariant of all histories every pool and
policy entry of the host id IS the ring's object. -/
def View.updateStored (v : View) (id a c : Nat) : View :=
  match lookup v.ring.byId id with
  | none => v
  | some h =>
    let h' : RHost := { h with addr := a, caddr := c }
    let f : RHost → RHost := fun x => if x == h then h' else x
    { v with
      ring := v.ring.updateStored id a c
      pools := v.pools.map (fun e => (e.1, f e.2))
      pol := { ta := v.pol.ta.map f, loc := v.pol.loc.map f, rem := v.pol.rem.map f } }

/-- the same before the repair of KF-C16-5 (regression example only) -/
def View.updateStoredOld (v : View) (id a c : Nat) : View :=
  { v.updateStored id a c with ring := v.ring.updateStoredOld id a c }

/-! ### the property's oracles, evaluated on a view (the harness evaluates the same predicates on the
snapshots of the real Session) -/

def subsetB (l1 l2 : List Nat) : Bool := l1.all (fun x => l2.contains x)

/-- the ring's object of host id `h.id` carries the addresses of `h` -/
def View.storedMatches (v : View) (h : RHost) : Bool :=
  match v.ring.getHost h.id with
  | some s => s.addr == h.addr && s.caddr == h.caddr
  | none => false

/-- clauses of "the view follows the report" that do NOT hold: 1 ring ids ⊆ accepted ids, 2 accepted ids ⊆
ring ids, 3 pools only of accepted ids, 4 policy entries only of accepted ids, 5 every id new in the ring
(not in `prevIds`) has a pool, 6 the stored object of every accepted host that is the first accepted row of
its host id has the reported addresses -/
def View.followsViolations (env : Env) (prevIds : List Nat) (v : View) (reported : List RHost) : List Nat :=
  let acc := reported.filter (fun h => !env.filter h)
  let accIds := acc.map (·.id)
  (if subsetB v.ring.ids accIds then [] else [1]) ++
  (if subsetB accIds v.ring.ids then [] else [2]) ++
  (if subsetB (v.pools.map (·.1)) accIds then [] else [3]) ++
  (if subsetB (v.pol.all.map (·.id)) accIds then [] else [4]) ++
  (if (v.ring.ids.filter (fun id => !prevIds.contains id)).all (fun id => hasKey v.pools id) then [] else [5]) ++
  (if acc.all (fun h => lookup (acc.map (fun x => (x.id, x))) h.id != some h || v.storedMatches h) then [] else [6])

/-- `s` is in the policy's lists: in the token-aware list when the policy is token aware, and in one of the fallback's lists -/
def Policy.has (env : Env) (p : Policy) (s : RHost) : Bool :=
  (!env.tokenAware || p.ta.contains s) && (p.loc.contains s || p.rem.contains s)

/-- host ids whose stored object is new in the ring (not among the objects `prev` of the ring before the
refresh: a new node, or the new object of a node whose address changed) and is NOT in the policy's lists -/
def View.newNotInPolicy (env : Env) (prev : List RHost) (v : View) : List Nat :=
  (v.ring.byId.filter (fun e => !prev.contains e.2 && !v.pol.has env e.2)).map (·.1)

/-- the objects of `tracked` that the executor could use: in a policy list, state up, pool present -/
def View.offeredObjs (v : View) (tracked : List Nat) : List Nat :=
  tracked.filter (fun o => !v.down.contains o && v.pol.all.any (fun h => h.obj == o && hasKey v.pools h.id))

/-! ### eventDebouncer: at most `eventBufferSize` frames per window, later ones are dropped -/

def eventBufferSize : Nat := 1000

def debounceAdd (buf : List Ev) (e : Ev) : List Ev := if buf.length < eventBufferSize then buf ++ [e] else buf

/-- the frames handed to `handleNodeEvent` for a burst received within one debounce window -/
def debounced (burst : List Ev) : List Ev := burst.foldl debounceAdd []

/-! ### Conn.recv → Session.handleEvent → eventDebouncer (repaired, KF-C16-2)

A frame on stream -1 is parsed and appended to the node-event debouncer's buffer by the reader goroutine
ITSELF (`c.session.handleEvent(framer)`), before the next frame is read: the buffer holds the event
frames in wire order. Frames of other streams go to their callers, schema events to the other debouncer. -/

inductive WireFrame
  | nodeEvent (e : Ev)        -- stream -1, TOPOLOGY_CHANGE / STATUS_CHANGE
  | schemaEvent               -- stream -1, SCHEMA_CHANGE
  | response (stream : Nat)   -- a response to a request of this connection
deriving DecidableEq, Repr

def recvStep (buf : List Ev) : WireFrame → List Ev
  | .nodeEvent e => debounceAdd buf e
  | _ => buf

/-- the node-event debouncer's buffer after the reader goroutine has processed these frames (one window) -/
def recvBuffer (wire : List WireFrame) : List Ev := wire.foldl recvStep []

/-- the node events of a wire sequence, in wire order -/
def wireEvents : List WireFrame → List Ev
  | [] => []
  | .nodeEvent e :: t => e :: wireEvents t
  | _ :: t => wireEvents t

/-- before the repair (regression example only): `go c.session.handleEvent(framer)` — one goroutine per frame,
the frames reach the buffer in the order `sched` in which the goroutines happen to run (a permutation of
the positions of the node events) -/
def recvBufferOld (wire : List WireFrame) (sched : List Nat) : List Ev :=
  (sched.filterMap (fun i => (wireEvents wire)[i]?)).foldl debounceAdd []

/-! ### refreshDebouncer (host_source.go) with logical time

`debounce()` re-arms the timer to `now + interval`; `refreshNow()` creates the broadcaster its callers
listen on (if there is none) and puts a token into `refreshNowCh` (capacity 1). The flusher goroutine leaves
its `select` on the timer channel (capacity 1) or on `refreshNowCh` (`wakeT` / `wakeN`), then, holding the
mutex, drains both channels, stops the timer, detaches the broadcaster and — outside the mutex — runs the
refresh (`start`), which takes time: requests (`debounce`, `refreshNow`) and timer expiries happen while
the flusher is between `select` and the mutex (`woken`) and while a refresh is in progress (`running`).
`done` = refreshFn returned (the flusher goes back to its `select`; it does not touch the timer). -/

inductive RPhase
  | idle      -- the flusher is in its select
  | woken     -- it received from timer.C / refreshNowCh and has not yet taken the mutex
  | running   -- it is inside refreshFn
deriving DecidableEq, Repr

structure RDeb where
  now : Nat := 0
  deadline : Option Nat := none   -- timer armed, fires at this time
  fired : Bool := false           -- a value sits in timer.C
  nowPending : Bool := false      -- a token sits in refreshNowCh
  bc : Bool := false              -- d.broadcaster != nil: callers of refreshNow() wait for the next refresh to START
  phase : RPhase := .idle
  refreshes : Nat := 0            -- refreshFn calls started
deriving DecidableEq, Repr

inductive RAct
  | tick          -- one unit of time passes (the timer fires when its deadline is reached)
  | debounce      -- debounceRingRefresh()
  | refreshNow    -- refreshNow()
  | wakeT         -- the flusher's select receives from timer.C
  | wakeN         -- the flusher's select receives from refreshNowCh
  | start         -- the flusher, holding the mutex, clears both channels, stops the timer, takes the broadcaster; refreshFn starts
  | done          -- refreshFn returned
deriving DecidableEq, Repr

/-- `afterRefresh` is what the flusher does to the debouncer when refreshFn has returned: nothing in the code
that exists (`id`); the parameter is there for the variants the counterexamples are about -/
def rstepWith (afterRefresh : RDeb → RDeb) (interval : Nat) (d : RDeb) : RAct → RDeb
  | .tick =>
    let t := d.now + 1
    match d.deadline with
    | some dl => if dl ≤ t then { d with now := t, deadline := none, fired := true } else { d with now := t }
    | none => { d with now := t }
  | .debounce => { d with deadline := some (d.now + interval) }
  | .refreshNow => if d.bc then d else { d with bc := true, nowPending := true }
  | .wakeT => if d.phase = .idle ∧ d.fired = true then { d with phase := .woken, fired := false } else d
  | .wakeN => if d.phase = .idle ∧ d.nowPending = true then { d with phase := .woken, nowPending := false } else d
  | .start =>
    if d.phase = .woken then
      { d with phase := .running, fired := false, nowPending := false, deadline := none, bc := false, refreshes := d.refreshes + 1 }
    else d
  | .done => if d.phase = .running then afterRefresh { d with phase := .idle } else d

def rstep (interval : Nat) (d : RDeb) (a : RAct) : RDeb := rstepWith id interval d a

def rrun (interval : Nat) (d : RDeb) (as : List RAct) : RDeb := as.foldl (rstep interval) d

/-- a variant that is NOT the code (counterexample `C16_cex_drain_after_refresh_loses_request`): after refreshFn
has returned the flusher stops the timer and drains its channel once more ("the refresh that just finished
covers what was requested meanwhile") -/
def drainAfterRefresh (d : RDeb) : RDeb := { d with deadline := none, fired := false }

/-- a refresh is certainly still to come: the flusher is on its way to one, or a channel it selects on holds a
value, or the timer is armed -/
def RDeb.armed (d : RDeb) : Bool := d.phase == .woken || d.fired || d.nowPending || d.deadline.isSome

/-- nothing is pending and no refresh is in progress -/
def RDeb.quiet (d : RDeb) : Bool := !d.armed && d.phase == .idle

/-! requests with their bookkeeping (ghost state): `reqs` = for every request made so far, the number of
refreshes that had been STARTED when it was made; a request is served once a later refresh has started -/

structure RGhost where
  d : RDeb := {}
  reqs : List Nat := []
  /- callers of refreshNow() (positions in `reqs`): listening on the debouncer's current broadcaster / on the
     broadcaster the running refresh took / answered, with the ordinal of the refresh whose result they got -/
  waiting : List Nat := []
  cur : List Nat := []
  answers : List (Nat × Nat) := []
deriving DecidableEq, Repr

def gstepWith (afterRefresh : RDeb → RDeb) (interval : Nat) (g : RGhost) (a : RAct) : RGhost :=
  let d' := rstepWith afterRefresh interval g.d a
  match a with
  | .debounce => { g with d := d', reqs := g.reqs ++ [g.d.refreshes] }
  | .refreshNow => { g with d := d', reqs := g.reqs ++ [g.d.refreshes], waiting := g.waiting ++ [g.reqs.length] }
  | .start => if g.d.phase = .woken then { g with d := d', cur := g.waiting, waiting := [] } else { g with d := d' }
  | .done =>
    if g.d.phase = .running then
      { g with d := d', answers := g.answers ++ g.cur.map (fun i => (i, g.d.refreshes)), cur := [] }
    else { g with d := d' }
  | _ => { g with d := d' }

def gstep (interval : Nat) (g : RGhost) (a : RAct) : RGhost := gstepWith id interval g a
def grun (interval : Nat) (g : RGhost) (as : List RAct) : RGhost := as.foldl (gstep interval) g
def grunWith (afterRefresh : RDeb → RDeb) (interval : Nat) (g : RGhost) (as : List RAct) : RGhost :=
  as.foldl (gstepWith afterRefresh interval) g

/-- the requests (positions in the history) after which no refresh has started -/
def RGhost.lost (g : RGhost) : List Nat :=
  (List.range g.reqs.length).filter (fun i => decide (g.d.refreshes ≤ g.reqs.getD i 0))

/-- the refreshNow() callers that were handed the result of a refresh that had started BEFORE their call -/
def RGhost.early (g : RGhost) : List Nat :=
  (g.answers.filter (fun e => decide (e.2 ≤ g.reqs.getD e.1 0))).map (·.1)

/-- the refreshNow() callers still without an answer -/
def RGhost.unanswered (g : RGhost) : List Nat := g.waiting ++ g.cur

/-! the schedules the unit-level harness drives the real refreshDebouncer through (one hour interval, a refreshFn
that blocks until released, the timer fired by hand = logical time): every harness op stands for a schedule
of the protocol model, chosen by the state -/

inductive DOp
  | req        -- debounce()
  | now        -- refreshNow(); when the flusher is idle it starts the refresh at once
  | fire       -- time passes until the timer (if armed) fires; when the flusher is idle it starts the refresh
  | release    -- the running refreshFn returns; the flusher starts the next refresh if a channel holds a value
  | drain      -- release / fire until nothing is pending
deriving DecidableEq, Repr

def ticksToFire (d : RDeb) : List RAct :=
  match d.deadline with
  | some dl => List.replicate (max 1 (dl - d.now)) .tick
  | none => []

/-- what the idle flusher does when a channel holds a value -/
def flusherSched (d : RDeb) : List RAct :=
  if d.phase = .idle ∧ d.fired = true then [.wakeT, .start]
  else if d.phase = .idle ∧ d.nowPending = true then [.wakeN, .start]
  else if d.phase = .woken then [.start]
  else []

/-- the schedule a harness op stands for in state `d` (`drain` excepted) -/
def dschedOne (interval : Nat) (d : RDeb) : DOp → List RAct
  | .req => [.debounce]
  | .now => .refreshNow :: flusherSched (rstep interval d .refreshNow)
  | .fire => ticksToFire d ++ flusherSched (rrun interval d (ticksToFire d))
  | .release => .done :: flusherSched (rstep interval d .done)
  | .drain => []

/-- `drain` = release, fire, release: reaches a quiet state from EVERY state (`C16_refresh_drain_quiet`) -/
def dsched (interval : Nat) (d : RDeb) : DOp → List RAct
  | .drain =>
    let s1 := dschedOne interval d .release
    let d1 := rrun interval d s1
    let s2 := dschedOne interval d1 .fire
    let d2 := rrun interval d1 s2
    s1 ++ s2 ++ dschedOne interval d2 .release
  | op => dschedOne interval d op

def dstep (interval : Nat) (g : RGhost) (op : DOp) : RGhost := grun interval g (dsched interval g.d op)

def drun (interval : Nat) (g : RGhost) (ops : List DOp) : RGhost := ops.foldl (dstep interval) g

/-! ### refreshRing BEFORE the repairs of KF-C16-4 / KF-C16-6 (kept for the regression examples only): one
loop that adds new hosts and replaces moved ones, a host id reported twice aborts it, the vanished hosts are
removed afterwards -/

inductive RefreshResult | ok | errCannotFind | errAlreadyExists
deriving DecidableEq, Repr

structure RState where
  v : View
  prev : List (Nat × RHost)

def refreshStepVOld (env : Env) (st : RState) (h : RHost) : RState × RefreshResult :=
  if env.filter h then (st, .ok) else
  match st.v.ring.addIfMissing h with
  | (r1, _, false) =>
    (⟨({ st.v with ring := r1 }).startPoolFill env h, erase st.prev h.id⟩, .ok)
  | (_, _, true) =>
    match lookup st.prev h.id with
    | none => (st, .errCannotFind)
    | some existing =>
      if h.caddr == existing.caddr && h.addr == existing.addr then
        (⟨st.v, erase st.prev h.id⟩, .ok)
      else
        let v2 := st.v.removeHost env existing
        match v2.ring.addIfMissing h with
        | (_, _, true) => (⟨v2, st.prev⟩, .errAlreadyExists)
        | (r3, _, false) => (⟨({ v2 with ring := r3 }).startPoolFill env h, erase st.prev h.id⟩, .ok)

def refreshLoopVOld (env : Env) : List RHost → RState → RState × RefreshResult
  | [], st => (st, .ok)
  | h :: t, st =>
    let (st', res) := refreshStepVOld env st h
    if res = .ok then refreshLoopVOld env t st' else (st', res)

def View.refreshOld (env : Env) (v : View) (reported : List RHost) : View × RefreshResult :=
  match refreshLoopVOld env reported ⟨v, v.ring.byId⟩ with
  | (st, .ok) => (removeAllV env st.v st.prev, .ok)
  | (st, e) => (st.v, e)

end ClusterView
