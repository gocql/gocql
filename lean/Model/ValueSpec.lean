/-
C12 / C02 — SPECIFICATION side: the CQL native protocol value serialisation
(section "6. Data type serialization formats" of native_protocol_v3/v4/v5.spec, and the collection
framing of v1/v2), written from the protocol documents as summarised in DESIGN.md appendix E11.
Nothing in this file refers to gocql's code or to the model of it (Model/Marshal*.lean).
Core Lean only.

  `CqlTy`   the type tree          `CqlVal`  abstract values (what a column holds)
  `specEnc p t v : Option Bytes`   the one and only conformant encoding of `v` as a `t` under protocol `p`
                                   (`none`: `v` is not a value of `t`, e.g. out of range)
  `specDec p t b : Option CqlVal`  the decoder of conformant encodings
-/
namespace ValueSpec

abbrev Bytes := List UInt8

/-! ## bytes and numbers -/

def byteOfNat (n : Nat) : UInt8 := UInt8.ofNat (n % 256)

/-- `k` bytes, big endian, of `n mod 256^k` -/
def beBytes : Nat → Nat → Bytes
  | 0, _ => []
  | k+1, n => beBytes k (n / 256) ++ [byteOfNat n]

/-- `l.length < n`, looking at no more than `n` cells (the readers below test the remaining input against a
    frame length once per element: with `List.length` that would be quadratic in the number of elements) -/
def shorter {α : Type} : List α → Nat → Bool
  | _, 0 => false
  | [], _+1 => true
  | _ :: r, n+1 => shorter r n

theorem shorter_iff {α : Type} (l : List α) (n : Nat) : shorter l n = true ↔ l.length < n := by
  induction l generalizing n with
  | nil => cases n <;> simp [shorter]
  | cons a r ih => cases n <;> simp [shorter, ih]

/-- big-endian value of a byte string -/
def beNat (b : Bytes) : Nat := b.foldl (fun a x => a * 256 + x.toNat) 0

/-- two's complement, `k` bytes, big endian -/
def tcEnc (k : Nat) (n : Int) : Bytes := beBytes k (n % (256:Int)^k).toNat

/-- value of a big-endian two's complement byte string (empty = 0): the unsigned value, minus `256^len` when the
    sign bit is set (i.e. when the unsigned value is at least half the range) -/
def tcDec (b : Bytes) : Int :=
  if 2 * beNat b ≥ 256 ^ b.length then (beNat b : Int) - (256:Int)^b.length else (beNat b : Int)

def leB (a b : Int) : Bool := decide (a ≤ b)
def ltB (a b : Int) : Bool := decide (a < b)
theorem leB_iff {a b : Int} : leB a b = true ↔ a ≤ b := by simp [leB]
theorem ltB_iff {a b : Int} : ltB a b = true ↔ a < b := by simp [ltB]
theorem leB_false {a b : Int} : leB a b = false ↔ ¬ a ≤ b := by simp [leB]
theorem ltB_false {a b : Int} : ltB a b = false ↔ ¬ a < b := by simp [ltB]

/-- `n` is representable in `k` bytes two's complement: −256^k/2 ≤ n < 256^k/2 -/
def fitsS (k : Nat) (n : Int) : Bool := leB (-((256:Int)^k)) (2 * n) && ltB (2 * n) ((256:Int)^k)

def fitsU (k : Nat) (n : Int) : Bool := leB 0 n && ltB n ((256:Int)^k)

/-- varint: the SHORTEST two's complement representation (Java `BigInteger.toByteArray`):
    one byte if the number fits a signed byte, otherwise the varint of `n >> 8` followed by the low byte. -/
def specVarint (n : Int) : Bytes :=
  if -128 ≤ n ∧ n < 128 then [byteOfNat (n % 256).toNat]
  else specVarint (n / 256) ++ [byteOfNat (n % 256).toNat]
termination_by n.natAbs
decreasing_by omega

/-- zig-zag: 0,-1,1,-2,… ↦ 0,1,2,3,… -/
def zigzag (n : Int) : Nat := if n ≥ 0 then (2*n).toNat else (-2*n-1).toNat
def unzigzag (u : Nat) : Int := if u % 2 = 0 then (u/2 : Nat) else -((u/2 : Nat) : Int) - 1

/-- size of the unsigned vint of `u < 2^64`: the least `s ≤ 8` with `u < 2^(7s)`, else 9 -/
def uvintSize (u : Nat) : Nat :=
  if u < 2^7 then 1 else if u < 2^14 then 2 else if u < 2^21 then 3 else if u < 2^28 then 4
  else if u < 2^35 then 5 else if u < 2^42 then 6 else if u < 2^49 then 7 else if u < 2^56 then 8 else 9

/-- unsigned vint: `s-1` leading one bits in the first byte announce `s-1` extra bytes; the value occupies the
    remaining bits, big endian -/
def specUVint (u : Nat) : Bytes :=
  let s := uvintSize u
  beBytes s (u + (256 - 2^(9-s)) * 256^(s-1))

/-- signed vint = unsigned vint of the zig-zag code -/
def specVint (n : Int) : Bytes := specUVint (zigzag n)

/-- reading one unsigned vint off the front -/
def leadingOnes (b : Nat) : Nat :=
  if b < 128 then 0 else if b < 192 then 1 else if b < 224 then 2 else if b < 240 then 3
  else if b < 248 then 4 else if b < 252 then 5 else if b < 254 then 6 else if b < 255 then 7 else 8

def specReadUVint : Bytes → Option (Nat × Bytes)
  | [] => none
  | x :: r =>
    let e := leadingOnes x.toNat
    if r.length < e then none
    else some ((x.toNat % 2^(8-e)) * 256^e + beNat (r.take e), r.drop e)

def specReadVint (b : Bytes) : Option (Int × Bytes) :=
  match specReadUVint b with
  | some (u, r) => some (unzigzag u, r)
  | none => none

/-! ## types and values -/

inductive CqlTy
  | ascii | bigint | blob | boolean | counter | decimal | double | float | int | text | timestamp
  | uuid | varchar | varint | timeuuid | inet | date | time | smallint | tinyint | duration
  | list (e : CqlTy) | set (e : CqlTy) | map (k v : CqlTy)
  | tuple (es : List CqlTy)
  | udt (names : List String) (ts : List CqlTy)
deriving Repr, BEq

/-- abstract column values.
  `int`: tinyint/smallint/int/bigint/counter/varint; timestamp = milliseconds since the epoch; time = nanoseconds
         since midnight; date = days since 1970-01-01 (negative before)
  `bytes`: ascii/text/varchar/blob; uuid/timeuuid (16 bytes); inet (4 or 16 bytes)
  `f32`/`f64`: the IEEE-754 bit pattern
  `null`: only as a collection element / tuple / UDT field -/
inductive CqlVal
  | null
  | int (n : Int)
  | bytes (b : Bytes)
  | bool (b : Bool)
  | f32 (bits : Nat)
  | f64 (bits : Nat)
  | decimal (unscaled : Int) (scale : Int)
  | duration (months days nanos : Int)
  | list (vs : List CqlVal)
  | map (kvs : List (CqlVal × CqlVal))
  | tuple (vs : List CqlVal)
deriving Repr, BEq

/-! ## element framing -/

/-- `[bytes]`: 4-byte signed length, −1 for null -/
def bytesFrame : Option Bytes → Bytes
  | none => [255, 255, 255, 255]
  | some b => tcEnc 4 b.length ++ b

/-- collection element: v3+ `[bytes]`; v1/v2 `[short bytes]` (2-byte unsigned length, no null) -/
def elemFrame (p : Nat) : Option Bytes → Option Bytes
  | none => if p ≥ 3 then some [255, 255, 255, 255] else none
  | some b =>
    if p ≥ 3 then (if b.length < 2^31 then some (tcEnc 4 b.length ++ b) else none)
    else (if b.length < 2^16 then some (beBytes 2 b.length ++ b) else none)

/-- collection count: v3+ 4 bytes, v1/v2 2 bytes -/
def countFrame (p : Nat) (n : Nat) : Option Bytes :=
  if p ≥ 3 then (if n < 2^31 then some (beBytes 4 n) else none)
  else (if n < 2^16 then some (beBytes 2 n) else none)

/-! ## the encoder -/

def CqlVal.isNull : CqlVal → Bool
  | .null => true
  | _ => false

/-- one collection element: null (from v3) or the framed encoding -/
def elemOrNull (p : Nat) (isNull : Bool) (enc : Option Bytes) : Option Bytes :=
  if isNull then elemFrame p none else enc.bind (fun b => elemFrame p (some b))

/-- one tuple / UDT field: `[bytes]`, −1 for null -/
def fieldOrNull (isNull : Bool) (enc : Option Bytes) : Option Bytes :=
  if isNull then some (bytesFrame none)
  else enc.bind (fun b => if b.length < 2^31 then some (bytesFrame (some b)) else none)

mutual
def specEnc (p : Nat) : CqlTy → CqlVal → Option Bytes
  | .tinyint, .int n => if fitsS 1 n then some (tcEnc 1 n) else none
  | .smallint, .int n => if fitsS 2 n then some (tcEnc 2 n) else none
  | .int, .int n => if fitsS 4 n then some (tcEnc 4 n) else none
  | .bigint, .int n => if fitsS 8 n then some (tcEnc 8 n) else none
  | .counter, .int n => if fitsS 8 n then some (tcEnc 8 n) else none
  | .timestamp, .int n => if fitsS 8 n then some (tcEnc 8 n) else none
  | .time, .int n => if fitsS 8 n then some (tcEnc 8 n) else none
  | .date, .int d => if fitsU 4 (d + 2^31) then some (beBytes 4 (d + 2^31).toNat) else none
  | .varint, .int n => some (specVarint n)
  | .ascii, .bytes b => some b
  | .text, .bytes b => some b
  | .varchar, .bytes b => some b
  | .blob, .bytes b => some b
  | .uuid, .bytes b => if b.length = 16 then some b else none
  | .timeuuid, .bytes b => if b.length = 16 then some b else none
  | .inet, .bytes b => if b.length = 4 ∨ b.length = 16 then some b else none
  | .boolean, .bool b => some [if b then 1 else 0]
  | .float, .f32 x => if x < 2^32 then some (beBytes 4 x) else none
  | .double, .f64 x => if x < 2^64 then some (beBytes 8 x) else none
  | .decimal, .decimal u s => if fitsS 4 s then some (tcEnc 4 s ++ specVarint u) else none
  | .duration, .duration m d n =>
      if fitsS 4 m ∧ fitsS 4 d ∧ fitsS 8 n then some (specVint m ++ specVint d ++ specVint n) else none
  | .list t, .list vs => do
      let c ← countFrame p vs.length
      let body ← specEncElems p t vs
      some (c ++ body)
  | .set t, .list vs => do
      let c ← countFrame p vs.length
      let body ← specEncElems p t vs
      some (c ++ body)
  | .map k v, .map kvs => do
      let c ← countFrame p kvs.length
      let body ← specEncPairs p k v kvs
      some (c ++ body)
  | .tuple ts, .tuple vs => specEncFields p ts vs
  | .udt _ ts, .tuple vs => specEncFields p ts vs
  | _, _ => none

/-- collection elements (null allowed from v3) -/
def specEncElems (p : Nat) (t : CqlTy) : List CqlVal → Option Bytes
  | [] => some []
  | v :: vs => do
      let e ← elemOrNull p v.isNull (specEnc p t v)
      let r ← specEncElems p t vs
      some (e ++ r)

def specEncPairs (p : Nat) (kt vt : CqlTy) : List (CqlVal × CqlVal) → Option Bytes
  | [] => some []
  | (k, v) :: r => do
      let a ← elemOrNull p k.isNull (specEnc p kt k)
      let b ← elemOrNull p v.isNull (specEnc p vt v)
      let c ← specEncPairs p kt vt r
      some (a ++ b ++ c)

/-- tuple / UDT fields: `[bytes]` each, −1 for null; a UDT value may stop early (trailing fields absent) -/
def specEncFields (p : Nat) : List CqlTy → List CqlVal → Option Bytes
  | _, [] => some []
  | [], _ :: _ => none
  | t :: ts, v :: vs => do
      let e ← fieldOrNull v.isNull (specEnc p t v)
      let r ← specEncFields p ts vs
      some (e ++ r)
end

/-! ## the decoder of conformant encodings -/

/-- minimal two's complement? (a conformant varint has no redundant leading byte) -/
def minimalTC : Bytes → Bool
  | [] => false
  | [_] => true
  | a :: b :: _ => !((a.toNat = 0 ∧ b.toNat < 128) ∨ (a.toNat = 255 ∧ b.toNat ≥ 128))

def readCount (p : Nat) (b : Bytes) : Option (Nat × Bytes) :=
  if p ≥ 3 then
    (if shorter b 4 then none else
      let n := tcDec (b.take 4)
      if n < 0 then none else some (n.toNat, b.drop 4))
  else
    (if shorter b 2 then none else some (beNat (b.take 2), b.drop 2))

/-- one framed element: (`none` = null, rest) -/
def readElem (p : Nat) (b : Bytes) : Option (Option Bytes × Bytes) :=
  if p ≥ 3 then
    (if shorter b 4 then none else
      let n := tcDec (b.take 4)
      let r := b.drop 4
      if n < 0 then (if n = -1 then some (none, r) else none)
      else if shorter r n.toNat then none else some (some (r.take n.toNat), r.drop n.toNat))
  else
    (if shorter b 2 then none else
      let n := beNat (b.take 2)
      let r := b.drop 2
      if shorter r n then none else some (some (r.take n), r.drop n))

def readBytesFrame (b : Bytes) : Option (Option Bytes × Bytes) := readElem 3 b

/-- `n` elements with decoder `f` -/
def decElems (p : Nat) (f : Bytes → Option CqlVal) : Nat → Bytes → Option (List CqlVal × Bytes)
  | 0, b => some ([], b)
  | n+1, b => do
      let (e, r) ← readElem p b
      let v ← (match e with | none => some CqlVal.null | some x => f x)
      let (vs, r') ← decElems p f n r
      some (v :: vs, r')

def decPairs (p : Nat) (f g : Bytes → Option CqlVal) : Nat → Bytes → Option (List (CqlVal × CqlVal) × Bytes)
  | 0, b => some ([], b)
  | n+1, b => do
      let (e, r) ← readElem p b
      let k ← (match e with | none => some CqlVal.null | some x => f x)
      let (e2, r2) ← readElem p r
      let v ← (match e2 with | none => some CqlVal.null | some x => g x)
      let (kvs, r') ← decPairs p f g n r2
      some ((k, v) :: kvs, r')

mutual
def specDec (p : Nat) : CqlTy → Bytes → Option CqlVal
  | .tinyint, b => if b.length = 1 then some (.int (tcDec b)) else none
  | .smallint, b => if b.length = 2 then some (.int (tcDec b)) else none
  | .int, b => if b.length = 4 then some (.int (tcDec b)) else none
  | .bigint, b => if b.length = 8 then some (.int (tcDec b)) else none
  | .counter, b => if b.length = 8 then some (.int (tcDec b)) else none
  | .timestamp, b => if b.length = 8 then some (.int (tcDec b)) else none
  | .time, b => if b.length = 8 then some (.int (tcDec b)) else none
  | .date, b => if b.length = 4 then some (.int ((beNat b : Int) - 2^31)) else none
  | .varint, b => if minimalTC b then some (.int (tcDec b)) else none
  | .ascii, b => some (.bytes b)
  | .text, b => some (.bytes b)
  | .varchar, b => some (.bytes b)
  | .blob, b => some (.bytes b)
  | .uuid, b => if b.length = 16 then some (.bytes b) else none
  | .timeuuid, b => if b.length = 16 then some (.bytes b) else none
  | .inet, b => if b.length = 4 ∨ b.length = 16 then some (.bytes b) else none
  | .boolean, b => match b with
      | [x] => if x = 0 then some (.bool false) else if x = 1 then some (.bool true) else none
      | _ => none
  | .float, b => if b.length = 4 then some (.f32 (beNat b)) else none
  | .double, b => if b.length = 8 then some (.f64 (beNat b)) else none
  | .decimal, b =>
      if b.length < 5 then none
      else if minimalTC (b.drop 4) then some (.decimal (tcDec (b.drop 4)) (tcDec (b.take 4))) else none
  | .duration, b => do
      let (m, r1) ← specReadVint b
      let (d, r2) ← specReadVint r1
      let (n, r3) ← specReadVint r2
      if r3 = [] ∧ fitsS 4 m ∧ fitsS 4 d ∧ fitsS 8 n then some (.duration m d n) else none
  | .list t, b => do
      let (n, r) ← readCount p b
      let (vs, r') ← decElems p (specDec p t) n r
      if r' = [] then some (.list vs) else none
  | .set t, b => do
      let (n, r) ← readCount p b
      let (vs, r') ← decElems p (specDec p t) n r
      if r' = [] then some (.list vs) else none
  | .map k v, b => do
      let (n, r) ← readCount p b
      let (kvs, r') ← decPairs p (specDec p k) (specDec p v) n r
      if r' = [] then some (.map kvs) else none
  | .tuple ts, b => do
      let vs ← specDecFields p ts b
      some (.tuple vs)
  | .udt _ ts, b => do
      let vs ← specDecFields p ts b
      some (.tuple vs)

/-- tuple / UDT fields until the bytes run out -/
def specDecFields (p : Nat) : List CqlTy → Bytes → Option (List CqlVal)
  | [], b => if b = [] then some [] else none
  | t :: ts, b =>
    if b = [] then some [] else do
      let (e, r) ← readBytesFrame b
      let v ← (match e with | none => some CqlVal.null | some x => specDec p t x)
      let vs ← specDecFields p ts r
      some (v :: vs)
end

end ValueSpec
