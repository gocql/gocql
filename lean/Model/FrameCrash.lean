import Model.TypeStr
/-
Outcome model of gocql's response-frame parser (property C05: no bytes from the network can crash
the application): frame.go `parseFrame` and everything it calls (error frames per code, RESULT kinds,
result / prepared metadata incl. the partition-key index list, type descriptions, SCHEMA_CHANGE,
EVENT, SUPPORTED, AUTH*), the primitive readers frame.go:1812-1981 and `readHeader`/`readFrame`.

The only job of the model is to say `ok <frame kind> | err | crash <site>` (+ bytes allocated by the
`make` calls whose size comes from the wire) exactly as the real code does:

* `err`   — the Go code returns an error, or raises `panic(error)` which parseFrame's deferred
            recover converts into a returned error;
* `crash` — the Go code raises a RUN-TIME panic (slice bounds, makeslice) which parseFrame re-panics
            (frame.go:545): fatal for the goroutine that parses — the caller's goroutine for
            responses, a bare driver goroutine for EVENT frames (conn.go recv → go handleEvent).

Every primitive reader is an instance of `take site guard need`: `guard` = the number the length check
compares with (`if len(f.buf) < guard { panic(err) }`), `need` = the number of bytes actually sliced.
`guard ≥ need` ⇒ the primitive cannot crash (Proofs/C05Frame.lean `take_noCrash`); the table of the
primitives is `primTable`. The model describes the code AFTER the repairs of KF-C05-5
(readInetAdressOnly checks `len(f.buf) < int(size)`), KF-C05-6/7 (parsePreparedMetadata rejects a negative
partition-key count and one that the rest of the body cannot hold, before `make`) and KF-C05-8
(readTypeInfo rejects a tuple / UDT element count that the rest of the body cannot hold, before `make`).

Bytes are `List Nat` (one element per byte, every theorem holds for all lists of naturals).
-/
namespace FrameCrash

abbrev Bytes := List Nat

inductive Site
  | inetBody     -- readInetAdressOnly: `f.buf[:size]` / `f.buf[size:]` behind `len(f.buf) < int(size)`
  | readByte | readInt | readShort | readUUID | stringBody | bytesBody | shortBytesBody | inetSize
  | fuel         -- model artefact
deriving DecidableEq, Repr

/-- `<Go function>:<panic kind>` as printed by the harness -/
def Site.label : Site → String
  | .inetBody => "readInetAdressOnly:slice"
  | .readByte => "readByte:index"
  | .readInt => "readInt:index"
  | .readShort => "readShort:index"
  | .readUUID => "readUUID:slice"
  | .stringBody => "readString:slice"
  | .bytesBody => "readBytesInternal:slice"
  | .shortBytesBody => "readShortBytes:slice"
  | .inetSize => "readInetAdressOnly:index"
  | .fuel => "model:fuel"

/-- parser state: the unread part of the frame body (`f.buf`) and the bytes allocated so far by
`make`/`string()` calls whose size is taken from the wire -/
structure St where
  buf : Bytes
  alloc : Nat

inductive Res (α : Type)
  | ok (a : α) (st : St)
  | err (alloc : Nat)
  | crash (site : Site) (alloc : Nat)

def Res.crashSite {α : Type} : Res α → Option Site
  | .crash s _ => some s
  | _ => none

def Res.isErr {α : Type} : Res α → Bool
  | .err _ => true
  | _ => false

def Res.allocated {α : Type} : Res α → Nat
  | .ok _ st => st.alloc
  | .err a => a
  | .crash _ a => a

abbrev P (α : Type) := St → Res α

@[inline] def P.pure {α : Type} (a : α) : P α := fun st => .ok a st
@[inline] def P.bind {α β : Type} (p : P α) (f : α → P β) : P β := fun st =>
  match p st with
  | .ok a st' => f a st'
  | .err al => .err al
  | .crash s al => .crash s al

instance : Monad P where
  pure := P.pure
  bind := P.bind

/-- `panic(fmt.Errorf(..))` / `return nil, err` -/
def fail {α : Type} : P α := fun st => .err st.alloc
def crashAt {α : Type} (s : Site) : P α := fun st => .crash s st.alloc
/-- a `make(.., n)` / `string(..)` of `n` bytes -/
def alloc (n : Nat) : P Unit := fun st => .ok () { st with alloc := st.alloc + n }

/-- the shape of every primitive reader: `if len(f.buf) < guard { panic(error) }` then slice `need` bytes -/
def take (site : Site) (guard need : Nat) : P Bytes := fun st =>
  if st.buf.length < guard then .err st.alloc
  else if st.buf.length < need then .crash site st.alloc
  else .ok (st.buf.take need) { st with buf := st.buf.drop need }

/-- the fixed-size primitives of frame.go:1812-1981 as (name, guard, need); the variable-size ones
(readString, readBytes, readShortBytes, readInetAdressOnly's address: guard = need = the size just read)
are in the definitions below -/
def primTable : List (String × Nat × Nat) :=
  [("readByte", 1, 1), ("readInt", 4, 4), ("readShort", 2, 2), ("readUUID", 16, 16), ("readInetAdressOnly.size", 1, 1)]

/-- THE FACTS THE MODEL WAS WRITTEN FROM, per function of frame.go: `g=` the conditions of the length /
count checks, `u=` every index / slice expression on the buffer, `m=` every `make`, `p=` what is
passed to `panic` (`error` = a non-runtime error value, which parseFrame turns into a returned
error). The harness re-extracts the same strings from the CURRENT source with go/ast on every run (op
`prim <func>`); a weakened guard or a new slice expression is then a disagreement even before a fuzz
input reaches it. `take site guard need` instances: guard = the number in `g`, need = the largest
offset in `u`. -/
def sourceFacts : List (String × String) := [
  ("readByte", "g=[len(f.buf)<1]u=[f.buf[0];f.buf[1:]]m=[]p=[error]"),
  ("readInt", "g=[len(f.buf)<4]u=[f.buf[0];f.buf[1];f.buf[2];f.buf[3];f.buf[4:]]m=[]p=[error]"),
  ("readShort", "g=[len(f.buf)<2]u=[f.buf[0];f.buf[1];f.buf[2:]]m=[]p=[error]"),
  ("readString", "g=[len(f.buf)<int(size)]u=[f.buf[:size];f.buf[size:]]m=[]p=[error]"),
  ("readLongString", "g=[len(f.buf)<size]u=[f.buf[:size];f.buf[size:]]m=[]p=[error]"),
  ("readUUID", "g=[len(f.buf)<16]u=[f.buf[:16];f.buf[16:]]m=[]p=[error]"),
  ("readStringList", "g=[]u=[]m=[make([]string,size)]p=[]"),
  ("readBytesInternal", "g=[len(f.buf)<4;len(f.buf)<size]u=[f.buf[:size];f.buf[size:]]m=[]p=[]"),
  ("readBytes", "g=[]u=[]m=[]p=[error]"),
  ("readShortBytes", "g=[len(f.buf)<int(size)]u=[f.buf[:size];f.buf[size:]]m=[]p=[error]"),
  ("readInetAdressOnly", "g=[len(f.buf)<1;len(f.buf)<int(size)]u=[f.buf[0];f.buf[1:];f.buf[:size];f.buf[size:]]m=[make([]byte,size)]p=[error;error;error]"),
  ("readInet", "g=[]u=[]m=[]p=[]"),
  ("readConsistency", "g=[]u=[]m=[]p=[]"),
  ("readBytesMap", "g=[]u=[]m=[make(map[string][]byte,size)]p=[]"),
  ("readStringMultiMap", "g=[]u=[]m=[make(map[string][]string,size)]p=[]"),
  ("readErrorMap", "g=[]u=[]m=[make(ErrorMap)]p=[]"),
  ("readTypeInfo", "g=[int(n)*2>len(f.buf);int(n)*4>len(f.buf)]u=[]m=[make([]TypeInfo,n);make([]UDTField,n)]p=[error;error]"),
  ("parsePreparedMetadata", "g=[meta.colCount<0;pkeyCount<0||pkeyCount*2>len(f.buf);meta.colCount<1000]u=[]m=[make([]int,pkeyCount);make([]ColumnInfo,meta.colCount)]p=[error;error]"),
  ("parseResultMetadata", "g=[meta.colCount<0;meta.colCount<1000]u=[]m=[make([]ColumnInfo,meta.colCount)]p=[error]"),
  ("readCol", "g=[]u=[]m=[]p=[]"),
  ("parseResultRows", "g=[result.numRows<0]u=[]m=[]p=[error]"),
  ("readHeader", "g=[len(p)!=9;len(p)!=8]u=[p[:1];p[0];p[1:headSize];p[:headSize];p[0];p[1];p[2];p[3];p[4];p[5:];p[2];p[3];p[4:]]m=[]p=[]"),
  ("readFrame", "g=[head.length<0;head.length>maxFrameSize;cap(f.readBuffer)>=head.length]u=[f.readBuffer[:head.length]]m=[make([]byte,head.length)]p=[]"),
  ("parseFrame", "g=[]u=[]m=[]p=[r]")]

def sourceFact (name : String) : String :=
  match sourceFacts.find? (fun p => p.1 == name) with
  | some p => p.2
  | none => "absent"

/-- big-endian value -/
def be (bs : Bytes) : Nat := bs.foldl (fun acc b => acc * 256 + b) 0

def readByte : P Nat := do
  let b ← take .readByte 1 1
  pure (be b)

/-- readInt, as the unsigned 32-bit pattern -/
def readIntU : P Nat := do
  let b ← take .readInt 4 4
  pure (be b)

/-- Go `int(int32(..))` of the pattern -/
def signed32 (u : Nat) : Int := if u < 2147483648 then (u : Int) else (u : Int) - 4294967296

def readInt : P Int := do
  let u ← readIntU
  pure (signed32 u)

def readShort : P Nat := do
  let b ← take .readShort 2 2
  pure (be b)

def readString : P Bytes := do
  let size ← readShort
  let s ← take .stringBody size size
  alloc size
  pure s

def readUUID : P Unit := do
  let _ ← take .readUUID 16 16
  alloc 16

/-- readBytes (and readBytesInternal under parseFrame: both end in `err`): none = null -/
def readBytes : P (Option Bytes) := do
  let size ← readInt
  if size < 0 then pure none
  else do
    let b ← take .bytesBody size.toNat size.toNat
    pure (some b)

def readShortBytes : P Bytes := do
  let size ← readShort
  take .shortBytesBody size size

/-- `for i := 0; i < n; i++ { body }` -/
def loopN : Nat → P Unit → P Unit
  | 0, _ => pure ()
  | n+1, body => do body; loopN n body

def readStringList : P Unit := do
  let size ← readShort
  alloc (16 * size)
  loopN size (do let _ ← readString; pure ())

def readBytesMap : P Unit := do
  let size ← readShort
  alloc (48 * size)
  loopN size (do let _ ← readString; let _ ← readBytes; pure ())

def readStringMultiMap : P Unit := do
  let size ← readShort
  alloc (48 * size)
  loopN size (do let _ ← readString; readStringList)

/-- readInetAdressOnly: the address is sliced behind `len(f.buf) < int(size)` -/
def readInetAdressOnly : P Unit := do
  let size ← readByte            -- `len(f.buf) < 1` then `f.buf[0]`
  if !(size == 4 || size == 16) then fail
  else do
    let _ ← take .inetBody size size
    alloc size

def readInet : P Unit := do
  readInetAdressOnly
  let _ ← readInt
  pure ()

def readErrorMap : P Unit := do
  let n ← readInt
  loopN n.toNat (do readInetAdressOnly; let _ ← readShort; pure ())

/-- the type tree a description is parsed to (TypeInfo): NativeType{typ} (custom classes and unknown
ids included), CollectionType, TupleTypeInfo, UDTTypeInfo (field types) -/
inductive TI
  | simple (typ : Nat)
  | list (e : TI)          -- TypeList and TypeSet
  | map (k v : TI)
  | tuple (es : List TI)
  | udt (fs : List TI)

-- nesting depth of a type tree = recursion depth of readTypeInfo that built it
mutual
def tiDepth : TI → Nat
  | .simple _ => 1
  | .list e => tiDepth e + 1
  | .map k v => max (tiDepth k) (tiDepth v) + 1
  | .tuple es => tiDepthL es + 1
  | .udt fs => tiDepthL fs + 1
def tiDepthL : List TI → Nat
  | [] => 0
  | t :: r => max (tiDepth t) (tiDepthL r)
end


/-- `if int(n)*k > len(f.buf) { panic(error) }` before the allocation (every element description needs at
least k bytes) -/
def guardCount (need : Nat) : P Unit := fun st =>
  if need > st.buf.length then .err st.alloc else .ok () st

mutual
/-- readTypeInfo -/
def readTypeInfo : Nat → P TI
  | 0 => crashAt .fuel
  | f+1 => do
    let id ← readShort
    -- a custom option carries only a class name: it becomes the scalar type the name maps to, and stays
    -- custom (0) when the name maps to a collection / tuple class (since /repo commit 8351452; before it
    -- "…ListType" etc. were parsed as collections whose element types were then read from what follows)
    let typ ← (if id == 0 then do
                  let cls ← readString
                  let t := TypeStr.apacheType cls
                  pure (if t == 0x20 || t == 0x21 || t == 0x22 || t == 0x31 then 0 else t)
                else pure id)
    if typ == 0x31 then do
      let n ← readShort
      guardCount (2 * n)
      alloc (16 * n)
      let es ← typeLoop f false n
      pure (.tuple es)
    else if typ == 0x30 then do
      let _ ← readString
      let _ ← readString
      let n ← readShort
      guardCount (4 * n)
      alloc (32 * n)
      let fs ← typeLoop f true n
      pure (.udt fs)
    else if typ == 0x21 then do
      let k ← readTypeInfo f
      let v ← readTypeInfo f
      pure (.map k v)
    else if typ == 0x20 || typ == 0x22 then do
      let e ← readTypeInfo f
      pure (.list e)
    else pure (.simple typ)
/-- the element loops of tuple (`named = false`) and UDT (`named = true`) descriptions -/
def typeLoop : Nat → Bool → Nat → P (List TI)
  | 0, _, _ => crashAt .fuel
  | f+1, named, n =>
    match n with
    | 0 => pure []
    | n+1 => do
      (if named then do let _ ← readString; pure () else pure ())
      let t ← readTypeInfo f
      let ts ← typeLoop f named n
      pure (t :: ts)
end

/-- entry point with the fuel the proofs show sufficient: |unread bytes| + 1 -/
def readTypeInfoTop : P TI := fun st => readTypeInfo (st.buf.length + 1) st

/-- readCol -/
def readCol (globalSpec : Bool) : P TI := do
  (if !globalSpec then do let _ ← readString; let _ ← readString; pure () else pure ())
  let _ ← readString
  readTypeInfoTop

/-- the column loops of parseResultMetadata / parsePreparedMetadata; returns the columns reversed -/
def colLoop (globalSpec : Bool) : Nat → List TI → P (List TI)
  | 0, acc => pure acc
  | n+1, acc => do
    let c ← readCol globalSpec
    colLoop globalSpec n (c :: acc)

def bit (u : Nat) (k : Nat) : Bool := (u / 2 ^ k) % 2 == 1

structure Meta where
  cols : List TI
  colCount : Nat

/-- shared tail of both metadata parsers (from the paging state on) -/
def metaTail (flags : Nat) (colCount : Nat) : P Meta := do
  (if bit flags 1 then do
      let p ← readBytes
      alloc (p.getD []).length
    else pure ())
  if bit flags 2 then pure { cols := [], colCount := colCount }
  else do
    -- globalSpec := flags&flagGlobalTableSpec
    (if bit flags 0 then do let _ ← readString; let _ ← readString; pure () else pure ())
    -- `make([]ColumnInfo, colCount)` below 1000 columns, append (amortised) otherwise
    (if colCount < 1000 then alloc (64 * colCount) else pure ())
    let cols ← colLoop (bit flags 0) colCount []
    (if colCount < 1000 then pure () else alloc (128 * colCount))
    pure { cols := cols.reverse, colCount := colCount }

def parseResultMetadata : P Meta := do
  let flags ← readIntU
  let colCount ← readInt
  if colCount < 0 then fail
  else metaTail flags colCount.toNat

def parsePreparedMetadata (proto : Nat) : P Meta := do
  let flags ← readIntU
  let colCount ← readInt
  if colCount < 0 then fail
  else do
    (if proto ≥ 4 then do
        let pk ← readInt
        -- `if pkeyCount < 0 || pkeyCount*2 > len(f.buf) { panic(error) }` before the allocation
        if pk < 0 then fail
        else do
          let st ← (fun st => Res.ok st st : P St)
          if 2 * pk.toNat > st.buf.length then fail
          else do
            alloc (8 * pk.toNat)
            loopN pk.toNat (do let _ ← readShort; pure ())
      else pure ())
    metaTail flags colCount.toNat

inductive Frame
  | simple (kind : String)
  | rows (m : Meta) (numRows : Nat)

def Frame.kind : Frame → String
  | .simple k => k
  | .rows _ _ => "resultRowsFrame"

def kTOPOLOGY_CHANGE : Bytes := [84, 79, 80, 79, 76, 79, 71, 89, 95, 67, 72, 65, 78, 71, 69]
def kSTATUS_CHANGE : Bytes := [83, 84, 65, 84, 85, 83, 95, 67, 72, 65, 78, 71, 69]
def kSCHEMA_CHANGE : Bytes := [83, 67, 72, 69, 77, 65, 95, 67, 72, 65, 78, 71, 69]
def kKEYSPACE : Bytes := [75, 69, 89, 83, 80, 65, 67, 69]
def kTABLE : Bytes := [84, 65, 66, 76, 69]
def kTYPE : Bytes := [84, 89, 80, 69]
def kFUNCTION : Bytes := [70, 85, 78, 67, 84, 73, 79, 78]
def kAGGREGATE : Bytes := [65, 71, 71, 82, 69, 71, 65, 84, 69]

def parseResultSchemaChange (proto : Nat) : P Frame := do
  if proto ≤ 2 then do
    let _ ← readString
    let _ ← readString
    let table ← readString
    pure (.simple (if table.isEmpty then "schemaChangeKeyspace" else "schemaChangeTable"))
  else do
    let _ ← readString
    let target ← readString
    if target == kKEYSPACE then do
      let _ ← readString
      pure (.simple "schemaChangeKeyspace")
    else if target == kTABLE then do
      let _ ← readString; let _ ← readString
      pure (.simple "schemaChangeTable")
    else if target == kTYPE then do
      let _ ← readString; let _ ← readString
      pure (.simple "schemaChangeType")
    else if target == kFUNCTION then do
      let _ ← readString; let _ ← readString; readStringList
      pure (.simple "schemaChangeFunction")
    else if target == kAGGREGATE then do
      let _ ← readString; let _ ← readString; readStringList
      pure (.simple "schemaChangeAggregate")
    else fail

def parseResultFrame (proto : Nat) : P Frame := do
  let kind ← readInt
  if kind == 1 then pure (.simple "resultVoidFrame")
  else if kind == 2 then do
    let m ← parseResultMetadata
    let numRows ← readInt
    if numRows < 0 then fail else pure (.rows m numRows.toNat)
  else if kind == 3 then do
    let _ ← readString
    pure (.simple "resultKeyspaceFrame")
  else if kind == 4 then do
    let _ ← readShortBytes
    let _ ← parsePreparedMetadata proto
    if proto < 2 then pure (.simple "resultPreparedFrame")
    else do
      let _ ← parseResultMetadata
      pure (.simple "resultPreparedFrame")
  else if kind == 5 then parseResultSchemaChange proto
  else fail

def readFailureTail (proto : Nat) : P Unit := do
  let _ ← readShort; let _ ← readInt; let _ ← readInt
  if proto > 4 then readErrorMap
  else do let _ ← readInt; pure ()

def parseErrorFrame (proto : Nat) : P Frame := do
  let code ← readInt
  let _ ← readString
  if code == 0x1000 then do
    let _ ← readShort; let _ ← readInt; let _ ← readInt
    pure (.simple "RequestErrUnavailable")
  else if code == 0x1100 then do
    let _ ← readShort; let _ ← readInt; let _ ← readInt; let _ ← readString
    pure (.simple "RequestErrWriteTimeout")
  else if code == 0x1200 then do
    let _ ← readShort; let _ ← readInt; let _ ← readInt; let _ ← readByte
    pure (.simple "RequestErrReadTimeout")
  else if code == 0x2400 then do
    let _ ← readString; let _ ← readString
    pure (.simple "RequestErrAlreadyExists")
  else if code == 0x2500 then do
    let id ← readShortBytes
    alloc id.length
    pure (.simple "RequestErrUnprepared")
  else if code == 0x1300 then do
    readFailureTail proto
    let _ ← readByte
    pure (.simple "RequestErrReadFailure")
  else if code == 0x1500 then do
    readFailureTail proto
    let _ ← readString
    pure (.simple "RequestErrWriteFailure")
  else if code == 0x1400 then do
    let _ ← readString; let _ ← readString; readStringList
    pure (.simple "RequestErrFunctionFailure")
  else if code == 0x1600 then pure (.simple "RequestErrCDCWriteFailure")
  else if code == 0x1700 then do
    let _ ← readShort; let _ ← readInt; let _ ← readInt
    pure (.simple "RequestErrCASWriteUnknown")
  else if code == 0x2200 || code == 0x1002 || code == 0x2300 || code == 0x0100 || code == 0x1001 ||
          code == 0x000A || code == 0x0000 || code == 0x2000 || code == 0x1003 || code == 0x2100 then
    pure (.simple "errorFrame")
  else fail

def parseEventFrame (proto : Nat) : P Frame := do
  let t ← readString
  if t == kTOPOLOGY_CHANGE then do
    let _ ← readString
    readInet
    pure (.simple "topologyChangeEventFrame")
  else if t == kSTATUS_CHANGE then do
    let _ ← readString
    readInet
    pure (.simple "statusChangeEventFrame")
  else if t == kSCHEMA_CHANGE then parseResultSchemaChange proto
  else fail

/-- framer.parseFrame: `proto` is the framer's protocol version (newFramer masks it with 0x7F),
`resp` the direction bit of the header's version byte, `flags` the header flags, `op` the opcode -/
def parseFrameP (proto : Nat) (resp : Bool) (flags op : Nat) : P Frame := do
  if !resp then fail
  else do
    (if bit flags 1 then readUUID else pure ())
    (if bit flags 3 then readStringList else pure ())
    (if bit flags 2 then readBytesMap else pure ())
    if op == 0x00 then parseErrorFrame proto
    else if op == 0x02 then pure (.simple "readyFrame")
    else if op == 0x08 then parseResultFrame proto
    else if op == 0x06 then do readStringMultiMap; pure (.simple "supportedFrame")
    else if op == 0x03 then do let _ ← readString; pure (.simple "authenticateFrame")
    else if op == 0x0E then do let _ ← readBytes; pure (.simple "authChallengeFrame")
    else if op == 0x10 then do let _ ← readBytes; pure (.simple "authSuccessFrame")
    else if op == 0x0C then parseEventFrame proto
    else fail

def parseFrame (proto : Nat) (resp : Bool) (flags op : Nat) (body : Bytes) : Res Frame :=
  parseFrameP proto resp flags op { buf := body, alloc := 0 }

/-! ### recursion depth (goroutine stack)

readTypeInfo recurses once per nesting level of a type description (2 body bytes per level for
list<list<…>>), getCassandraType once per `frozen<` (8 bytes), parseType once per `A(` (2 bytes).
Go's goroutine stack limit is not part of the outcome model above; what is RECORDED here (measured:
a depth of 100000 overflows a 32 MiB stack, so each level takes at least 336 bytes) is enough to
answer the subprocess scenario `deep <what> <depth>` for depths far from the threshold, and gives
≈ 3·10^6 levels ≈ a 6 MB frame body for Go's default 1 GB limit (a 4 MB body was observed to kill
the process). A stack overflow is fatal: no recover, the process exits (KF-C05-13). -/

def stackPerLevel : Nat := 336
def deepStackLimit : Nat := 33554432

def deepOutcome (what : String) (depth : Nat) : String :=
  let fn := if what == "typeinfo" then "readTypeInfo" else if what == "gct" then "getCassandraType" else "parseClassNode"
  if depth * stackPerLevel ≥ deepStackLimit then "crash:" ++ fn ++ ":stackoverflow" else "survived"

/-! ### readHeader / readFrame (frame.go:443-540) -/

inductive HeadRes
  | ok (version flags : Nat) (stream : Int) (op : Nat) (length : Int)
  | err        -- short read / unsupported version
deriving DecidableEq, Repr

/-- readHeader over the bytes available on the connection -/
def readHeader (wire : Bytes) : HeadRes :=
  match wire with
  | [] => .err
  | v0 :: _ =>
    let version := v0 % 128
    if version < 1 || version > 5 then .err
    else
      let headSize := if version < 3 then 8 else 9
      if wire.length < headSize then .err
      else
        let p := wire.take headSize
        if version > 2 then
          let s := be ((p.drop 2).take 2)
          .ok v0 (p.getD 1 0) (if s < 32768 then (s : Int) else (s : Int) - 65536) (p.getD 4 0) (signed32 (be (p.drop 5)))
        else
          let s := p.getD 2 0
          .ok v0 (p.getD 1 0) (if s < 128 then (s : Int) else (s : Int) - 256) (p.getD 3 0) (signed32 (be (p.drop 4)))

def maxFrameSize : Nat := 268435456
def defaultBufSize : Nat := 128

inductive BodyRes
  | ok (body : Bytes) (alloc : Nat)
  | err (alloc : Nat)       -- negative length, too big, short read, compressed without compressor
deriving DecidableEq, Repr

/-- framer.readFrame on a fresh framer (readBuffer of 128 bytes, no compressor): `avail` = the bytes
that arrive after the header before the connection is closed / stalls. The buffer for the WHOLE
announced body is allocated before the first body byte is read. -/
def readFrame (length : Int) (flags : Nat) (avail : Bytes) : BodyRes :=
  if length < 0 then .err 0
  else if length.toNat > maxFrameSize then .err 0
  else
    let a := if defaultBufSize ≥ length.toNat then 0 else length.toNat
    if avail.length < length.toNat then .err a
    else if bit flags 0 then .err a
    else .ok (avail.take length.toNat) a

end FrameCrash
