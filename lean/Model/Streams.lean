/-
Model of gocql's lock-free stream-id allocator, /repo/internal/streams/streams.go (C08).

Shared state  = the fields of `IDGenerator` that are accessed atomically:
  `words`  (`streams []uint64`, bitset, 1 = in use; id = word*64 + j, bit j of a word is the bit
            `63 - j` counted from the least significant end, `streamOffset`),
  `inuse`  (`inuseStreams int32`; modelled as an unbounded `Int`: it is bounded by the capacity,
            proved in Proofs/C08),
  `offset` (`offset uint32`, rotating start word, as the code has it: a `Nat` below 2^32 whose successor is
            computed in uint32 arithmetic and then reduced `% numBuckets`, `nextOffset`; from `New` it stays
            `< numBuckets`, but NOTHING below assumes that: every theorem holds for every value of the word, and
            the word scan is proved to visit every word exactly once for all 2^32 values, `scanPos32`).
`NumStreams = 64 * words.length` (2 words for protocol <= 2, 512 words for protocol > 2; everything
below is generic in the number of words).

Small-step semantics: `tstep sh pc` performs exactly ONE atomic operation of one thread
(load offset / CAS offset / load word / CAS word / atomic add / load inuse) followed by the
thread-local computation up to the next atomic operation (or the return of the call).
The program counters are numbered like the `yield(k)` verification points added (tag `verif`)
in front of each atomic operation of streams.go; the lock-step correspondence run compares
those numbers and the returned values along seeded and enumerated schedules.
Core Lean only (compiled into the native driver).
-/
namespace Streams

abbrev Word := BitVec 64

/-- `math.MaxUint64` -/
def allOnes : Word := BitVec.allOnes 64

/-- `streamOffset(stream) = bucketBits - uint64(stream%bucketBits) - 1` -/
def streamOffset (j : Nat) : Nat := 64 - (j % 64) - 1

/-- `uint64(1) << streamOffset(j)` -/
def mask (j : Nat) : Word := 1#64 <<< streamOffset j

/-- `bucketOffset(i) = i / bucketBits` -/
def bucketOffset (id : Nat) : Nat := id / 64

/-- `streamFromBucket(bucket, streamInBucket)` -/
def streamFromBucket (b j : Nat) : Nat := b * 64 + j

structure Shared where
  words : List Word
  inuse : Int
  offset : Nat
deriving Repr, DecidableEq

/-- `len(s.streams)`, `s.numBuckets` -/
def Shared.n (sh : Shared) : Nat := sh.words.length
/-- `s.NumStreams` -/
def Shared.numStreams (sh : Shared) : Nat := 64 * sh.words.length

/-- `New(protocol)` with `buckets = n` : word 0 = `1 << 63` (id 0 reserved), offset = n - 1 -/
def init (n : Nat) : Shared :=
  { words := (List.replicate n (0#64)).set 0 (mask 0), inuse := 0, offset := n - 1 }

/-- number of words chosen by `New(protocol)` -/
def wordsOfProto (proto : Nat) : Nat := if proto > 2 then 32768 / 64 else 128 / 64

/-- the capacity the PROPERTY prescribes for a protocol version ("1..127 for v1-2, 1..32767 for v3+": 128 / 32768
    ids including the reserved id 0). Written from the property text, independent of `New` / `wordsOfProto`;
    Proofs/C08 `C08_capacity_by_protocol` proves that the generator `New(protocol)` builds has exactly this capacity. -/
def specCap (proto : Nat) : Nat := if proto ≤ 2 then 128 else 32768

/-- `(offset+1)%s.numBuckets` with `offset uint32`: the increment wraps at 2^32, then `% numBuckets` -/
def nextOffset (n o : Nat) : Nat := (o + 1) % 4294967296 % n

/-- the word index computation of `GetStream`, literally, in uint32 arithmetic:
    `offset = (offset + 1) % s.numBuckets` … `pos := int((i + offset) % s.numBuckets)` for the loaded
    value `o` of the offset word and the loop counter `i`. Proofs/C08Seq (`scanPos32_toNat`): equal to the `Nat` expression
    `(i + nextOffset n o) % n` used by `tstep`, for EVERY `o` (all 2^32 values) -/
def scanPos32 (nb o i : UInt32) : UInt32 := (i + (o + 1) % nb) % nb

/-- is the bit of id `id` set (`isSet`) -/
def bitAt (ws : List Word) (id : Nat) : Bool := (ws.getD (id / 64) 0).getLsbD (streamOffset id)

inductive Ret where
  | stream (id : Nat) (ok : Bool)     -- GetStream
  | cleared (b : Bool)                -- Clear
  | avail (n : Int)                   -- Available
  | crashIndex                        -- Clear: index out of range (never produced since the fix of KF-C08-3)
  | crashNegative                     -- Clear: panic("negative streams inuse")
deriving Repr, DecidableEq

inductive Op where
  | get
  | clear (id : Nat)
  | avail
deriving Repr, DecidableEq

/-- program counter + locals of one thread; constructor `gK`/`cK` = parked in front of the atomic
    operation marked `yield(k)` in streams.go (numbers in `PC.yieldPoint`). -/
inductive PC where
  | idle
  | g1                                   -- GetStream: offset := Load(&s.offset)
  | g2 (offset : Nat)                    -- CAS(&s.offset, offset, (offset+1)%n)
  | g3                                   -- (CAS failed) offset = Load(&s.offset)
  | g4 (off i : Nat)                     -- bucket := Load(&s.streams[(i+off)%n])
  | g5 (off i j : Nat) (bucket : Word)   -- CAS(&s.streams[pos], bucket, bucket|mask j)
  | g6 (off i j : Nat)                   -- (CAS failed) bucket = Load(&s.streams[pos])
  | g7 (id : Nat)                        -- AddInt32(&s.inuseStreams, 1); return id, true
  | c8 (id : Nat)                        -- Clear: bucket := Load(&s.streams[id/64])
  | c9 (id : Nat) (bucket : Word)        -- CAS(&s.streams[id/64], bucket, bucket &^ mask)
  | c10 (id : Nat)                       -- (CAS failed) bucket = Load(...)
  | c11 (id : Nat)                       -- AddInt32(&s.inuseStreams, -1)   (`id` = the id just cleared)
  | a12                                  -- Available: Load(&s.inuseStreams)
deriving Repr, DecidableEq

def PC.yieldPoint : PC → Nat
  | .idle => 0 | .g1 => 1 | .g2 _ => 2 | .g3 => 3 | .g4 _ _ => 4 | .g5 _ _ _ _ => 5 | .g6 _ _ _ => 6
  | .g7 _ => 7 | .c8 _ => 8 | .c9 _ _ => 9 | .c10 _ => 10 | .c11 _ => 11 | .a12 => 12

def startPC : Op → PC
  | .get => .g1
  | .clear id => .c8 id
  | .avail => .a12

/-- first `j' ≥ j`, `j' < 64` with `bucket & mask(j') == 0`
    (`for j ... { mask := ...; for bucket&mask == 0 {` : where the scan over j stops next) -/
def firstClear (b : Word) (j : Nat) : Option Nat :=
  (List.range' j (64 - j)).find? (fun j' => (b &&& mask j') == 0#64)

/-- word `i` of the scan is finished without success: `i++`, loop test, or `return 0, false` -/
def nextWord (n off i : Nat) : PC × Option Ret :=
  if i + 1 < n then (.g4 off (i + 1), none) else (.idle, some (.stream 0 false))

/-- after a (re)load of `bucket` while the j-loop stands at `j` -/
def afterLoad (n off i j : Nat) (b : Word) : PC × Option Ret :=
  match firstClear b j with
  | some j' => (.g5 off i j' b, none)
  | none => nextWord n off i

/-- ONE atomic operation of a thread standing at `pc`, plus its local computation up to the next
    atomic operation / return. -/
def tstep (sh : Shared) (pc : PC) : Shared × PC × Option Ret :=
  let n := sh.words.length
  match pc with
  | .idle => (sh, .idle, none)
  | .g1 => (sh, .g2 sh.offset, none)
  | .g2 o =>
      if sh.offset = o then ({ sh with offset := nextOffset n o }, .g4 (nextOffset n o) 0, none)
      else (sh, .g3, none)
  | .g3 => (sh, .g2 sh.offset, none)
  | .g4 off i =>
      let b := sh.words.getD ((i + off) % n) 0
      let r := if b = allOnes then nextWord n off i else afterLoad n off i 0 b
      (sh, r.1, r.2)
  | .g5 off i j b =>
      let pos := (i + off) % n
      if sh.words.getD pos 0 = b then
        ({ sh with words := sh.words.set pos (b ||| mask j) }, .g7 (streamFromBucket pos j), none)
      else (sh, .g6 off i j, none)
  | .g6 off i j =>
      let b := sh.words.getD ((i + off) % n) 0
      let r := afterLoad n off i j b
      (sh, r.1, r.2)
  | .g7 id => ({ sh with inuse := sh.inuse + 1 }, .idle, some (.stream id true))
  | .c8 id =>
      -- `if stream < 0 || stream >= s.NumStreams { return false }` (ids are `Nat` here: the negative half is
      -- `clearNeg`); `NumStreams = 64 * n`, so `stream < NumStreams` iff `stream / 64 < n`. The guard is thread-local:
      -- for an id beyond the capacity the call returns without any atomic operation (modelled as a step that
      -- leaves the shared state alone; the driver fuses it with the preceding step for the lock-step observations)
      if bucketOffset id < n then
        let b := sh.words.getD (bucketOffset id) 0
        if b &&& mask id ≠ mask id then (sh, .idle, some (.cleared false)) else (sh, .c9 id b, none)
      else (sh, .idle, some (.cleared false))   -- `stream >= s.NumStreams`: not a stream id of this generator (KF-C08-3 fix)
  | .c9 id b =>
      if sh.words.getD (bucketOffset id) 0 = b then
        ({ sh with words := sh.words.set (bucketOffset id) (b &&& ~~~ mask id) }, .c11 id, none)
      else (sh, .c10 id, none)
  | .c10 id =>
      let b := sh.words.getD (bucketOffset id) 0
      if b &&& mask id ≠ mask id then (sh, .idle, some (.cleared false)) else (sh, .c9 id b, none)
  | .c11 _ =>
      let v := sh.inuse - 1
      ({ sh with inuse := v }, .idle, some (if v < 0 then .crashNegative else .cleared true))
  | .a12 => (sh, .idle, some (.avail ((64 * n : Nat) - sh.inuse - 1)))

/-! ### sequential big-step semantics, derived from the small-step one: a single thread runs alone -/

def runThread : Nat → Shared → PC → Shared × Option Ret
  | 0, sh, _ => (sh, none)
  | f + 1, sh, pc =>
    match tstep sh pc with
    | (sh', _, some r) => (sh', some r)
    | (sh', pc', none) => runThread f sh' pc'

/-- fuel: load offset, CAS offset, ≤ n word loads, CAS word, add  (proved sufficient in Proofs/C08Seq) -/
def seqOp (sh : Shared) (op : Op) : Shared × Option Ret :=
  runThread (sh.words.length + 4) sh (startPC op)

def getStream (sh : Shared) : Shared × Option Ret := seqOp sh .get
def clear (sh : Shared) (id : Nat) : Shared × Option Ret := seqOp sh (.clear id)
def available (sh : Shared) : Int := (64 * sh.words.length : Nat) - sh.inuse - 1

/-- `Clear(stream)` for a NEGATIVE argument `stream = -k` (`k ≥ 1`): since the fix of KF-C08-3 the guard
    `if stream < 0 || stream >= s.NumStreams { return false }` answers false and touches nothing. (Before the fix:
    `Clear(-1..-63)` answered true and decremented the in-use counter without clearing a bit — `bucketOffset(-k) = 0`,
    `streamOffset(-k) = 63 + k ≥ 64`, mask 0 —, `Clear(-64..)` panicked with an index error, as did `Clear(id)` for
    `id ≥ NumStreams`.) Tied by the `n<k>` tokens of the seq / smon lines. -/
def clearNeg (sh : Shared) (_k : Nat) : Shared × Option Ret := (sh, some (.cleared false))

/-! ### the concurrent machine: k threads, one action = one atomic operation of one thread -/

structure State where
  sh : Shared
  threads : List PC
  /-- ghost: ids returned by `GetStream` and not yet given back (an id is given back at the moment
      its holder calls `Clear(id)`) -/
  held : List Nat
deriving Repr

inductive Action where
  /-- idle thread `t` calls `op` and performs the first atomic operation of the call -/
  | start (t : Nat) (op : Op)
  /-- thread `t`, in the middle of a call, performs its next atomic operation -/
  | step (t : Nat)
deriving Repr, DecidableEq

def initState (n k : Nat) : State := { sh := init n, threads := List.replicate k .idle, held := [] }

def exec (s : State) (t : Nat) (pc : PC) (held : List Nat) : State × Option Ret :=
  let r := tstep s.sh pc
  ({ sh := r.1, threads := s.threads.set t r.2.1,
     held := match r.2.2 with
       | some (.stream id true) => id :: held
       | _ => held }, r.2.2)

/-- the machine (no client protocol enforced: the code does not enforce one either) -/
def step (s : State) : Action → Option (State × Option Ret)
  | .start t op =>
    if s.threads[t]? = some .idle then
      some (exec s t (startPC op) (match op with | .clear id => s.held.erase id | _ => s.held))
    else none
  | .step t =>
    match s.threads[t]? with
    | some pc => if pc = .idle then none else some (exec s t pc s.held)
    | none => none

/-- client protocol of the property: `Clear(id)` is called only for an id that is currently held -/
def legal (s : State) : Action → Bool
  | .start _ (.clear id) => decide (id ∈ s.held)
  | _ => true

/-- run a schedule (list of actions); `none` if an action is not enabled or breaks the protocol -/
def run (s : State) : List Action → Option State
  | [] => some s
  | a :: as =>
    if legal s a then
      match step s a with
      | some (s', _) => run s' as
      | none => none
    else none

/-! ### history events and runs WITHOUT the client protocol -/

/-- what the monitors count: a `GetStream` call returned `id, true`; a `Clear(id)` call that had
    flipped the bit of `id` from 1 to 0 returned (`true`, or the 'negative streams inuse' panic) -/
inductive Ev where
  | got (id : Nat)
  | released (id : Nat)
deriving Repr, DecidableEq

/-- the event produced when a thread standing at `pc` performs its atomic operation: the calls
    return exactly at `g7` (after the add) and at `c11` (after the add) -/
def evOfPC : PC → List Ev
  | .g7 id => [.got id]
  | .c11 id => [.released id]
  | _ => []

def evOf (s : State) : Action → List Ev
  | .step t => match s.threads[t]? with
    | some pc => evOfPC pc
    | none => []
  | .start _ _ => []

/-- run a schedule with NO client protocol (any thread may call `Clear` of any id at any time); only
    the actions accepted by `ok` are allowed (`anyAct`: all). Events are accumulated in front of `evs`. -/
def runAny (ok : State → Action → Bool) (s : State) (evs : List Ev) : List Action → Option (State × List Ev)
  | [] => some (s, evs)
  | a :: as =>
    if ok s a then
      match step s a with
      | some (s', _) => runAny ok s' (evOf s a ++ evs) as
      | none => none
    else none

def anyAct : State → Action → Bool := fun _ _ => true

/-- excluded case 1: `Clear(0)` (the reserved id) is called -/
def noClear0 : State → Action → Bool
  | _, .start _ (.clear id) => decide (id ≠ 0)
  | _, _ => true

/-- excluded case 2: the CAS of a `Clear(id)` call is about to succeed while a `GetStream` call has
    acquired `id` (its CAS succeeded) but has not returned it yet (only a stale / double release of an id
    that is being handed out again can do that) -/
def rogueCAS (s : State) : Action → Bool
  | .step t => match s.threads[t]? with
    | some (.c9 id b) => decide (s.sh.words.getD (bucketOffset id) 0 = b) && s.threads.any (fun pc => decide (pc = .g7 id))
    | _ => false
  | .start _ _ => false

def calm (s : State) (a : Action) : Bool := noClear0 s a && !rogueCAS s a

/-! ### the sequential specification as a checker of an answer trace

Abstract state of the specification: the set of ids handed out and not yet released, as a table
`tbl[id]` (size `cap` = NumStreams, all false initially) and its cardinality `cnt` (0 initially, +1 when
an id is handed out, -1 when an id that was handed out is released). Independent of the bitset / counter
representation of the code. -/

structure SpecSt where
  tbl : Array Bool
  cnt : Nat

def specInit (cap : Nat) : SpecSt := { tbl := Array.replicate cap false, cnt := 0 }

def specStep (cap : Nat) (tbl : Array Bool) (cnt : Nat) : Op → Option Ret → Option SpecSt
  | .get, some (.stream id true) =>
      -- the id handed out is not 0, in range and was free
      if 1 ≤ id ∧ id < cap ∧ tbl.getD id false = false then some { tbl := tbl.setIfInBounds id true, cnt := cnt + 1 } else none
  | .get, some (.stream id false) =>
      -- exhaustion is reported only when every non-reserved id is handed out
      if id = 0 ∧ cnt = cap - 1 then some { tbl := tbl, cnt := cnt } else none
  | .clear id, some (.cleared b) =>
      -- releasing reports whether the id was in use; releasing a free id — or something that is not an id of the
      -- generator at all (`id ≥ cap`: never handed out, `tbl.getD` is false there) — reports false and changes nothing
      if b = tbl.getD id false then
        some { tbl := tbl.setIfInBounds id false, cnt := if b then cnt - 1 else cnt }
      else none
  | .avail, some (.avail v) =>
      if v = ((cap - 1 - cnt : Nat) : Int) then some { tbl := tbl, cnt := cnt } else none
  | _, _ => none

/-- every answer is allowed by the specification and after every op `Available()` (third component)
    is the number of non-reserved ids not handed out -/
def specCheck (cap : Nat) : SpecSt → List (Op × Option Ret × Int) → Bool
  | _, [] => true
  | st, (op, r, av) :: rest =>
    match specStep cap st.tbl st.cnt op r with
    | some st' => decide (av = ((cap - 1 - st'.cnt : Nat) : Int)) && specCheck cap st' rest
    | none => false

/-- the model's answer trace of a sequential op list: (op, answer, `Available()` afterwards) -/
def seqTrace : Shared → List Op → List (Op × Option Ret × Int)
  | _, [] => []
  | sh, op :: ops => (op, (seqOp sh op).2, available (seqOp sh op).1) :: seqTrace (seqOp sh op).1 ops

/-- `specCheck` on the model's own trace, fused (tail recursive, table updated in place: this is what
    the driver runs; `seqMon_eq` in Proofs/C08SeqSpec) -/
def seqMon (cap : Nat) : Shared → Array Bool → Nat → List Op → Bool
  | _, _, _, [] => true
  | sh, tbl, cnt, op :: ops =>
    match specStep cap tbl cnt op (seqOp sh op).2 with
    | some st' =>
      decide (available (seqOp sh op).1 = ((cap - 1 - st'.cnt : Nat) : Int)) && seqMon cap (seqOp sh op).1 st'.tbl st'.cnt ops
    | none => false

/-! ### linearization of the concurrent machine (Proofs/C08Lin, `C08_linearizable_partial`)

Linearization points (one atomic operation each, inside the call they belong to): `GetStream` returning an id — its
successful CAS on the word (`g5 → g7 id`); `Clear(id)` returning true — its successful CAS (`c9 → c11 id`);
`Clear(id)` returning false — the load that saw the bit clear (`c8`, or `c10` after a failed CAS); `Clear(id)`
beyond the capacity — the call itself. A failing `GetStream` and `Available()` have none. -/

/-- the (op, answer) linearized by the atomic operation of a thread standing at `pc` -/
def lpOf (sh : Shared) : PC → List (Op × Option Ret)
  | .g5 off i j b =>
      if sh.words.getD ((i + off) % sh.words.length) 0 = b then
        [(.get, some (.stream (streamFromBucket ((i + off) % sh.words.length) j) true))]
      else []
  | .c9 id b => if sh.words.getD (bucketOffset id) 0 = b then [(.clear id, some (.cleared true))] else []
  | .c8 id =>
      if bucketOffset id < sh.words.length then
        (if sh.words.getD (bucketOffset id) 0 &&& mask id ≠ mask id then [(.clear id, some (.cleared false))] else [])
      else [(.clear id, some (.cleared false))]
  | .c10 id =>
      if sh.words.getD (bucketOffset id) 0 &&& mask id ≠ mask id then [(.clear id, some (.cleared false))] else []
  | _ => []

def linOf (s : State) : Action → List (Op × Option Ret)
  | .start _ op => lpOf s.sh (startPC op)
  | .step t => match s.threads[t]? with
    | some pc => lpOf s.sh pc
    | none => []

/-- run a schedule (no client protocol; only the actions accepted by `ok`) and collect the linearization:
    the linearized (op, answer) pairs in the order of their linearization points -/
def runLin (ok : State → Action → Bool) : State → List Action → Option (State × List (Op × Option Ret))
  | s, [] => some (s, [])
  | s, a :: as =>
    if ok s a then
      match step s a with
      | some (s', _) => (runLin ok s' as).map (fun p => (p.1, linOf s a ++ p.2))
      | none => none
    else none

/-- the sequential specification accepts a list of (op, answer) pairs (the `Available()` column of `specCheck`
    left out) -/
def specAccepts (cap : Nat) : SpecSt → List (Op × Option Ret) → Option SpecSt
  | st, [] => some st
  | st, (op, r) :: rest =>
    match specStep cap st.tbl st.cnt op r with
    | some st' => specAccepts cap st' rest
    | none => none

/-! ### "any history": sequential histories in which the rotating offset word is set to an arbitrary value

The offset is the only state of the allocator that depends on the NUMBER of past calls; the harness sets the
word of the real generator through a reflection hook (`O…` tokens) to the values it has after ~2^32, ~2^31 …
calls. `HOp.setOffset v` is that preset (the value is truncated to the 32 bits of the word). -/

inductive HOp where
  | op (o : Op)
  | setOffset (v : Nat)
  /-- `Clear(-k)`, `k ≥ 1`: a release of something that is not an id of the generator. In the answer trace it is
      recorded as a `Clear` of the non-id `NumStreams + k` (the specification knows "not in 0..cap-1" only) -/
  | clearNeg (k : Nat)
deriving Repr, DecidableEq

def presetOffset (sh : Shared) (v : Nat) : Shared := { sh with offset := v % 4294967296 }

/-- the model's answer trace of a sequential history with presets (a preset has no answer) -/
def hTrace : Shared → List HOp → List (Op × Option Ret × Int)
  | _, [] => []
  | sh, .op op :: ops => (op, (seqOp sh op).2, available (seqOp sh op).1) :: hTrace (seqOp sh op).1 ops
  | sh, .setOffset v :: ops => hTrace (presetOffset sh v) ops
  | sh, .clearNeg k :: ops =>
      (.clear (64 * sh.words.length + k), (clearNeg sh k).2, available (clearNeg sh k).1) :: hTrace (clearNeg sh k).1 ops

/-- `seqMon` for histories with presets (what the driver runs for `smon` lines) -/
def seqMonH (cap : Nat) : Shared → Array Bool → Nat → List HOp → Bool
  | _, _, _, [] => true
  | sh, tbl, cnt, .setOffset v :: ops => seqMonH cap (presetOffset sh v) tbl cnt ops
  | sh, tbl, cnt, .clearNeg k :: ops =>
    match specStep cap tbl cnt (.clear (64 * sh.words.length + k)) (clearNeg sh k).2 with
    | some st' =>
      decide (available (clearNeg sh k).1 = ((cap - 1 - st'.cnt : Nat) : Int)) && seqMonH cap (clearNeg sh k).1 st'.tbl st'.cnt ops
    | none => false
  | sh, tbl, cnt, .op op :: ops =>
    match specStep cap tbl cnt op (seqOp sh op).2 with
    | some st' =>
      decide (available (seqOp sh op).1 = ((cap - 1 - st'.cnt : Nat) : Int)) && seqMonH cap (seqOp sh op).1 st'.tbl st'.cnt ops
    | none => false

end Streams
